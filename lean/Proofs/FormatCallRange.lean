import Proofs.FormatExpRangeRead
import Proofs.FormatCall2Parse
import Martian.FormatCallText
import Proofs.FormatCall2Norm

/-!
C09, accepted texts of call statements: the RANGE of the readers of
`Martian.FormatCall` (`pBind`, `pBinds`, `parseCallToks`) and `Martian.FormatCall2` (`pWild`,
`pBinds2`, `pHead2`, `pModStm`, `pMods`, `pUsing`, `pCall2`, `pReturn`, `pRefs`, `pPRetain`,
`pCalls`, `pBody`) on tokens in the range of the tokenizer: whatever they return satisfies
`wfCallRaw` / `wfCall2Raw` / `wfRetRaw` / `wfPRetainRaw` / `wfBodyRaw`, and the remaining tokens
are again in `tokOK`.

What the readers do NOT guarantee (and `wfCall2` / `wfPipeline` demand): distinct
ids in the `using` block, distinct call ids in a pipeline.

The second part: the normal form of the modifiers keeps what `Modifiers.compile` computes from them
(`findMod_sortMods`, `findMod_modList`, `normMods_keeps_stable`).
-/

namespace Martian.FormatCallText
open Martian.Lexer (Bytes)
open Martian.FormatExp Martian.FormatCall Martian.FormatCall2

theorem all_tokOK_tail {t : Tok} {r : List Tok} (h : (t :: r).all tokOK = true) : r.all tokOK = true := by
  simp only [List.all_cons, Bool.and_eq_true] at h; exact h.2

theorem isIdent_of_tokOK {x : Bytes} {r : List Tok} (h : (.id x :: r).all tokOK = true) :
    isIdent x = true := by
  simp only [List.all_cons, Bool.and_eq_true] at h; exact h.1

theorem splitKw_range {ts r : List Tok} (hts : ts.all tokOK = true) (h : splitKw ts = some r) :
    r.all tokOK = true := by
  revert h
  fun_cases splitKw ts with
  | case1 => intro h; cases h; exact all_tokOK_tail hts
  | case2 | case3 => intro h; cases h

theorem pBind_range (m : Bool) (fe : Nat) (ts : List Tok) (b : Bind) (rest : List Tok)
    (hts : ts.all tokOK = true) (h : pBind m fe ts = some (b, rest)) :
    wfBindRaw b = true ∧ rest.all tokOK = true ∧ (b.split = true → m = true) := by
  revert h
  fun_cases pBind m fe ts with
  | case1 x ts r hk e r' hp hsv =>
    intro h; cases h
    have hm : m = true := by
      cases m with
      | true => rfl
      | false => simp at hk
    subst hm
    have ⟨he, hr'⟩ := (pAll_range fe).1 _ e _ (splitKw_range (all_tokOK_tail (all_tokOK_tail hts)) hk) hp
    exact ⟨by simp [wfBindRaw, isIdent_of_tokOK hts, he, hsv], all_tokOK_tail hr', fun _ => rfl⟩
  | case4 x ts hk e r' hp =>
    intro h; cases h
    have ⟨he, hr'⟩ := (pAll_range fe).1 _ e _ (all_tokOK_tail (all_tokOK_tail hts)) hp
    exact ⟨by simp [wfBindRaw, isIdent_of_tokOK hts, he], all_tokOK_tail hr', fun h => by cases h⟩
  | case2 | case3 | case5 | case6 => intro h; cases h

theorem binds_cons_range {m : Bool} {b : Bind} {bs : List Bind} (hb : wfBindRaw b = true)
    (hs : b.split = true → m = true) (hbs : bs.all wfBindRaw = true)
    (hss : bs.any (·.split) = true → m = true) :
    (b :: bs).all wfBindRaw = true ∧ ((b :: bs).any (·.split) = true → m = true) := by
  refine ⟨by simp only [List.all_cons, hb, hbs, Bool.and_self], fun h => ?_⟩
  simp only [List.any_cons, Bool.or_eq_true] at h
  exact h.elim hs hss

theorem pWild_range (fe : Nat) (ts : List Tok) (e : Exp) (rest : List Tok) (hts : ts.all tokOK = true)
    (h : pWild fe ts = some (e, rest)) : wfWildRaw e = true ∧ rest.all tokOK = true := by
  revert h
  fun_cases pWild fe ts with
  | case1 => intro h; cases h; exact ⟨rfl, all_tokOK_tail (all_tokOK_tail hts)⟩
  | case2 ts _ s i o r hp =>
    intro h; cases h
    have ⟨he, hr⟩ := (pAll_range fe).1 _ _ _ hts hp
    exact ⟨by simp [wfWildRaw, isRefE, he], all_tokOK_tail hr⟩
  | case3 => intro h; cases h

theorem pBinds2_range (m : Bool) (fe f : Nat) (ts : List Tok) : ∀ (bs : List Bind) (w : Option Exp)
    (rest : List Tok), ts.all tokOK = true → pBinds2 m fe f ts = some (bs, w, rest) →
    bs.all wfBindRaw = true ∧ wfWildOptRaw w = true ∧ rest.all tokOK = true ∧
      (bs.any (·.split) = true → m = true) := by
  fun_induction pBinds2 m fe f ts with
  | case1 => intro _ _ _ _ h; cases h
  | case2 => intro _ _ _ hts h; cases h; exact ⟨rfl, rfl, hts, fun h => by simp at h⟩
  | case3 f r e r' hw =>
    intro _ _ _ hts h
    cases h
    have ⟨he, hr⟩ := pWild_range fe _ e _ (all_tokOK_tail (all_tokOK_tail hts)) hw
    exact ⟨rfl, he, hr, fun h => by simp at h⟩
  | case4 => intro _ _ _ _ h; cases h
  | case5 f ts b r hb _ _ ih =>
    intro bs w rest hts h
    rw [hb] at h
    have ⟨hwb, hr, hsb⟩ := pBind_range m fe _ b r hts hb
    obtain ⟨⟨bs', w', r'⟩, hrec, heq⟩ := Option.map_eq_some_iff.mp h
    cases heq
    have ⟨ih1, ih2, ih3, ih4⟩ := ih bs' _ _ hr hrec
    have ⟨h1, h2⟩ := binds_cons_range hwb hsb ih1 ih4
    exact ⟨h1, ih2, ih3, h2⟩
  | case6 f ts hb => intro _ _ _ _ h; rw [hb] at h; cases h

theorem pBinds_range (m : Bool) (fe f : Nat) (ts : List Tok) (bs : List Bind) (rest : List Tok)
    (hts : ts.all tokOK = true) (h : pBinds m fe f ts = some (bs, rest)) :
    bs.all wfBindRaw = true ∧ rest.all tokOK = true ∧ (bs.any (·.split) = true → m = true) :=
  have ⟨h1, _, h2, h3⟩ := pBinds2_range m fe f ts bs none rest hts ((pBinds_iff ..).mp h)
  ⟨h1, h2, h3⟩

theorem pMapKw_range (ts : List Tok) (hts : ts.all tokOK = true) : (pMapKw ts).2.all tokOK = true := by
  unfold pMapKw
  split
  · split
    · exact all_tokOK_tail hts
    · exact hts
  · exact hts

theorem pHead2_range (f : Nat) (l p v : Bool) (ts : List Tok) : ∀ (l' p' v' : Bool) (d i : Bytes)
    (r : List Tok), ts.all tokOK = true → pHead2 f l p v ts = some (l', p', v', d, i, r) →
    isIdent d = true ∧ isIdent i = true ∧ r.all tokOK = true := by
  fun_induction pHead2 f l p v ts with
  | case2 =>
    intro _ _ _ _ _ _ hts h; cases h
    exact ⟨isIdent_of_tokOK hts, isIdent_of_tokOK hts, all_tokOK_tail (all_tokOK_tail hts)⟩
  | case3 =>
    intro _ _ _ _ _ _ hts h; cases h
    have hi := all_tokOK_tail (all_tokOK_tail hts)
    exact ⟨isIdent_of_tokOK hts, isIdent_of_tokOK hi, all_tokOK_tail (all_tokOK_tail hi)⟩
  | case5 _ _ _ _ _ _ _ ih | case6 _ _ _ _ _ _ _ _ ih | case7 _ _ _ _ _ _ _ _ _ ih =>
    intro _ _ _ _ _ _ hts h; exact ih _ _ _ _ _ _ (all_tokOK_tail hts) h
  | case1 | case4 | case8 | case9 => intro _ _ _ _ _ _ _ h; cases h

theorem pModStm_range (fe : Nat) (ts : List Tok) (kv : Bytes × Exp) (rest : List Tok)
    (hts : ts.all tokOK = true) (h : pModStm fe ts = some (kv, rest)) :
    wfModRaw kv = true ∧ rest.all tokOK = true := by
  revert h
  fun_cases pModStm fe ts with
  | case1 k hk r | case2 k hk r =>
    intro h; cases h
    exact ⟨by simp [wfModRaw, hk, isBoolE],
      all_tokOK_tail (all_tokOK_tail (all_tokOK_tail (all_tokOK_tail hts)))⟩
  | case4 ts s i o r hp hk =>
    intro h; cases h
    have ⟨he, hr⟩ := (pAll_range fe).1 _ _ _ (all_tokOK_tail (all_tokOK_tail hts)) hp
    exact ⟨by simp [wfModRaw, isRefE, he], all_tokOK_tail hr⟩
  | case3 | case5 | case6 | case7 => intro h; cases h

theorem pMods_range (fe f : Nat) (ts : List Tok) : ∀ (l : List (Bytes × Exp)) (rest : List Tok),
    ts.all tokOK = true → pMods fe f ts = some (l, rest) →
    l.all wfModRaw = true ∧ rest.all tokOK = true := by
  fun_induction pMods fe f ts with
  | case1 => intro _ _ _ h; cases h
  | case2 => intro _ _ hts h; cases h; exact ⟨rfl, hts⟩
  | case3 f ts kv r hm _ ih =>
    intro l rest hts h
    rw [hm] at h
    have ⟨hkv, hr⟩ := pModStm_range fe _ kv r hts hm
    obtain ⟨⟨l', r'⟩, hrec, heq⟩ := Option.map_eq_some_iff.mp h
    cases heq
    have ⟨ih1, ih2⟩ := ih l' _ hr hrec
    exact ⟨by simp only [List.all_cons, hkv, ih1, Bool.and_self], ih2⟩
  | case4 f ts hm => intro _ _ _ h; rw [hm] at h; cases h

theorem pUsing_range (fe f : Nat) (cur : List (Bytes × Exp)) (ts : List Tok) :
    ∀ (l : List (Bytes × Exp)) (rest : List Tok), cur.all wfModRaw = true → ts.all tokOK = true →
    pUsing fe f cur ts = some (l, rest) → l.all wfModRaw = true ∧ rest.all tokOK = true := by
  fun_induction pUsing fe f cur ts with
  | case1 | case3 | case4 => intro _ _ _ _ h; cases h
  | case2 f cur r1 l' r2 hm ih =>
    intro l rest _ hts h
    have ⟨hl', hr2⟩ := pMods_range fe f r1 l' _ (all_tokOK_tail (all_tokOK_tail hts)) hm
    exact ih l rest hl' (all_tokOK_tail hr2) h
  | case5 | case6 => intro _ _ hc hts h; cases h; exact ⟨hc, hts⟩

theorem pCall2_range' (ts : List Tok) (c : Call2) (rest : List Tok) (hts : ts.all tokOK = true)
    (h : pCall2 ts = some (c, rest)) : wfCall2Raw c = true ∧ rest.all tokOK = true := by
  revert h
  fun_cases pCall2 ts with
  | case1 r0 l p v d i r hh bs w r' hb _ mb rest' hu hk =>
    intro h; cases h
    have hmk := pMapKw_range ts hts
    rw [hk] at hmk
    have ⟨hd, hi, hr⟩ := pHead2_range _ _ _ _ _ _ _ _ _ _ _ (all_tokOK_tail hmk) hh
    have ⟨hbs, hw, hr', _⟩ := pBinds2_range _ _ _ r bs w _ hr hb
    have ⟨hmb, hrest⟩ := pUsing_range _ _ [] r' mb _ rfl (all_tokOK_tail hr') hu
    exact ⟨by simp [wfCall2Raw, hd, hi, hbs, hw, hmb], hrest⟩
  | case2 | case3 | case4 | case5 | case6 | case7 => intro h; cases h

theorem pCall2_range (ts : List Tok) (c : Call2) (rest : List Tok) (hts : ∀ tok ∈ ts, tokOK tok = true)
    (h : pCall2 ts = some (c, rest)) : wfCall2Raw c = true :=
  (pCall2_range' ts c rest (List.all_eq_true.mpr hts) h).1

theorem parseCall2_range (src : Bytes) (c : Call2) (h : parseCall2 src = some c) : wfCall2Raw c = true := by
  unfold parseCall2 at h
  obtain ⟨ts, hl, h⟩ := Option.bind_eq_some_iff.mp h
  split at h
  · rename_i c' hp
    cases h
    exact pCall2_range ts _ [] (range_lexAll src ts hl) hp
  · cases h

theorem pHead_range (ts : List Tok) (d i : Bytes) (r : List Tok) (hts : ts.all tokOK = true)
    (h : pHead ts = some (d, i, r)) : isIdent d = true ∧ isIdent i = true ∧ r.all tokOK = true := by
  revert h
  fun_cases pHead ts with
  | case1 =>
    intro h; cases h
    have hd := all_tokOK_tail hts
    exact ⟨isIdent_of_tokOK hd, isIdent_of_tokOK hd, all_tokOK_tail (all_tokOK_tail hd)⟩
  | case3 =>
    intro h; cases h
    have hd := all_tokOK_tail hts
    have hi := all_tokOK_tail (all_tokOK_tail hd)
    exact ⟨isIdent_of_tokOK hd, isIdent_of_tokOK hi, all_tokOK_tail (all_tokOK_tail hi)⟩
  | case2 | case4 | case5 => intro h; cases h

theorem parseCallToks_range (ts : List Tok) (c : Call) (hts : ts.all tokOK = true)
    (h : parseCallToks ts = some c) : wfCallRaw c = true := by
  revert h
  fun_cases parseCallToks ts with
  | case1 d i r hh bs hb =>
    intro h; cases h
    have ⟨hd, hi, hr⟩ := pHead_range _ d i r (pMapKw_range ts hts) hh
    have ⟨hbs, _, _⟩ := pBinds_range _ _ _ r bs _ hr hb
    simp [wfCallRaw, hd, hi, hbs]
  | case2 | case3 | case4 => intro h; cases h

theorem parseCall_range (src : Bytes) (c : Call) (h : parseCall src = some c) : wfCallRaw c = true := by
  obtain ⟨ts, hl, h⟩ := Option.bind_eq_some_iff.mp h
  exact parseCallToks_range ts c (List.all_eq_true.mpr (range_lexAll src ts hl)) h

theorem all_nosplit_of {bs : List Bind} (h : bs.any (·.split) = true → false = true) :
    bs.all (fun b => !b.split) = true := by
  cases hs : bs.any (·.split) with
  | true => cases h hs
  | false => simpa [List.any_eq_false] using hs

/-- range of `return_stm`: no split bindings -/
theorem pReturn_range (ts : List Tok) (r : Ret) (rest : List Tok) (hts : ts.all tokOK = true)
    (h : pReturn ts = some (r, rest)) : wfRetRaw r = true ∧ rest.all tokOK = true := by
  unfold pReturn at h
  split at h
  · rename_i k r0
    split at h
    · split at h
      · rename_i bs w r' hb
        have ⟨hbs, hw, hr', hns⟩ := pBinds2_range _ _ _ r0 bs w _ (all_tokOK_tail (all_tokOK_tail hts)) hb
        cases h
        exact ⟨by simp only [wfRetRaw, hbs, all_nosplit_of hns, hw, Bool.and_self], all_tokOK_tail hr'⟩
      · cases h
    · cases h
  · cases h

theorem pRefs_range (fe : Nat) : ∀ (f : Nat) (ts : List Tok) (es : List Exp) (rest : List Tok),
    ts.all tokOK = true → pRefs fe f ts = some (es, rest) →
    wfPRetainRaw es = true ∧ rest.all tokOK = true
  | 0, _, _, _, _, h => by simp [pRefs] at h
  | f + 1, ts, es, rest, hts, h => by
    unfold pRefs at h
    split at h
    · cases h; exact ⟨rfl, hts⟩
    · split at h
      · rename_i s i o r hp
        have ⟨he, hr⟩ := (pAll_range fe).1 _ _ _ hts hp
        obtain ⟨⟨es', r'⟩, hrec, heq⟩ := Option.map_eq_some_iff.mp h
        cases heq
        have ⟨ih1, ih2⟩ := pRefs_range fe f r es' _ (all_tokOK_tail hr) hrec
        unfold wfPRetainRaw at ih1 ⊢
        exact ⟨by simp only [List.all_cons, Bool.and_eq_true]; exact ⟨⟨rfl, he⟩, ih1⟩, ih2⟩
      · cases h

theorem pPRetain_range (ts : List Tok) (rt : Option (List Exp)) (rest : List Tok)
    (hts : ts.all tokOK = true) (h : pPRetain ts = some (rt, rest)) :
    (∀ rs, rt = some rs → wfPRetainRaw rs = true) ∧ rest.all tokOK = true := by
  unfold pPRetain at h
  generalize ts.length = n at h
  split at h
  · rename_i k r
    split at h
    · split at h
      · rename_i r1
        split at h
        · rename_i es r2 hp
          have ⟨hes, hr2⟩ := pRefs_range _ _ r1 es _ (all_tokOK_tail (all_tokOK_tail hts)) hp
          cases h
          exact ⟨fun rs hrs => by cases hrs; exact hes, all_tokOK_tail hr2⟩
        · cases h
      · cases h
    · cases h; exact ⟨fun rs hrs => (by cases hrs), hts⟩
  · cases h; exact ⟨fun rs hrs => (by cases hrs), hts⟩

theorem pCalls_range (f : Nat) (ts : List Tok) : ∀ (cs : List Call2) (rest : List Tok),
    ts.all tokOK = true → pCalls f ts = some (cs, rest) →
    cs.all wfCall2Raw = true ∧ rest.all tokOK = true := by
  fun_induction pCalls f ts with
  | case1 | case3 => intro _ _ _ h; cases h
  | case2 f k r0 _ c r' hc ih =>
    intro cs rest hts h
    have ⟨hwc, hr'⟩ := pCall2_range' _ c r' hts hc
    obtain ⟨⟨cs', r''⟩, hrec, heq⟩ := Option.map_eq_some_iff.mp h
    cases heq
    have ⟨ih1, ih2⟩ := ih cs' _ hr' hrec
    exact ⟨by simp only [List.all_cons, hwc, ih1, Bool.and_self], ih2⟩
  | case4 | case5 => intro _ _ hts h; cases h; exact ⟨rfl, hts⟩

theorem pBody_range (ts : List Tok) (b : Body) (rest : List Tok) (hts : ts.all tokOK = true)
    (h : pBody ts = some (b, rest)) : wfBodyRaw b = true ∧ rest.all tokOK = true := by
  revert h
  fun_cases pBody ts with
  | case1 cs r1 hc ret r2 hret rt r3 hrt =>
    intro h; cases h
    have ⟨hcs, hr1⟩ := pCalls_range _ ts cs r1 hts hc
    have ⟨hwr, hr2⟩ := pReturn_range r1 ret r2 hr1 hret
    have ⟨hwrt, hr3⟩ := pPRetain_range r2 rt _ hr2 hrt
    refine ⟨?_, all_tokOK_tail hr3⟩
    simp only [wfBodyRaw, hcs, hwr, Bool.and_self, Bool.true_and]
    cases rt with
    | none => rfl
    | some rs => exact hwrt rs rfl
  | case2 | case3 | case4 => intro h; cases h

theorem parseBody_range (src : Bytes) (b : Body) (h : parseBody src = some b) : wfBodyRaw b = true := by
  unfold parseBody at h
  obtain ⟨ts, hl, h⟩ := Option.bind_eq_some_iff.mp h
  split at h
  · rename_i b' hp
    cases h
    exact (pBody_range ts _ [] (List.all_eq_true.mpr (range_lexAll src ts hl)) hp).1
  · cases h

end Martian.FormatCallText

/-!
C09, accepted texts of call statements: the normal form of the modifiers keeps what
`Modifiers.compile` computes from them — the three boolean flags (the binding's value when the
`using` block binds the id, else the keyword) and the `disabled` binding.
-/

namespace Martian.FormatCallText
open Martian.Lexer (Bytes)
open Martian.FormatExp Martian.FormatCall Martian.FormatCall2

theorem findMod_insMod (kv : Bytes × Exp) (k : Bytes) : ∀ l : List (Bytes × Exp),
    findMod k (insMod kv l) = if kv.1 = k then some kv.2 else findMod k l
  | [] => by simp [insMod, findMod]
  | x :: r => by
    unfold insMod
    split
    · rename_i hlt
      -- `x` stays in front of `kv`, and has a smaller id
      have hx : x.1 ≠ kv.1 := fun e => by rw [e, bytesLt_irrefl] at hlt; cases hlt
      rw [findMod, findMod_insMod kv k r, findMod]
      by_cases h1 : x.1 = k
      · have : kv.1 ≠ k := fun h2 => hx (h1.trans h2.symm)
        simp [h1, this]
      · simp [h1]
    · simp [findMod]

theorem findMod_sortMods (k : Bytes) : ∀ l : List (Bytes × Exp), findMod k (sortMods l) = findMod k l
  | [] => rfl
  | kv :: r => by rw [sortMods_cons, findMod_insMod, findMod_sortMods k r, findMod]

/-- what `Bindings.Table[k]` of the printed `using` block is: the source's binding, else `= true`
for a keyword modifier -/
theorem findMod_modList (m : Mods) (k : Bytes) :
    findMod k (modList m) = (findMod k m.binds).or
      (if (m.loc = true ∧ sLocal = k) ∨ (m.pre = true ∧ sPreflight = k) ∨ (m.vol = true ∧ sVolatile = k) then
        some (.bool true) else none) := by
  rw [modList, findMod_sortMods, findMod_convMods]

/-- the compiled value of `k` read off the printed block, `on` saying whether the keyword `k` is set -/
theorem modValue_modList (m : Mods) (k : Bytes) (on : Bool)
    (h : ((m.loc = true ∧ sLocal = k) ∨ (m.pre = true ∧ sPreflight = k) ∨ (m.vol = true ∧ sVolatile = k)) ↔
      on = true) : modValue k false (modList m) = modValue k on m.binds := by
  rw [modValue, modValue, findMod_modList]
  cases findMod k m.binds with
  | some v => rfl
  | none =>
    by_cases hc : (m.loc = true ∧ sLocal = k) ∨ (m.pre = true ∧ sPreflight = k) ∨ (m.vol = true ∧ sVolatile = k)
    · simp [hc, h.mp hc]
    · simp [hc, Bool.eq_false_iff.mpr (mt h.mpr hc)]

/-- **The normal form keeps the compiled modifiers**: the flags `Modifiers.compile` computes
(binding value if bound, else keyword) and the `disabled` binding are the same for `normMods m`
and `m`.  (For the model's stable sort this needs no condition on the ids of the block.) -/
theorem normMods_keeps_stable (m : Mods) :
    modFlags (normMods m) = modFlags m ∧ modDisabled (normMods m) = modDisabled m := by
  constructor
  · simp only [modFlags, normMods]
    rw [modValue_modList m sLocal m.loc
        (by simp [show sPreflight ≠ sLocal by decide, show sVolatile ≠ sLocal by decide]),
      modValue_modList m sPreflight m.pre
        (by simp [show sLocal ≠ sPreflight by decide, show sVolatile ≠ sPreflight by decide]),
      modValue_modList m sVolatile m.vol
        (by simp [show sLocal ≠ sVolatile by decide, show sPreflight ≠ sVolatile by decide])]
  · simp only [modDisabled, normMods]
    rw [findMod_modList]
    simp [show sLocal ≠ sDisabled by decide, show sPreflight ≠ sDisabled by decide,
      show sVolatile ≠ sDisabled by decide]

/-- `normMods_keeps_stable` under the hypothesis that the ids of the block are distinct, which the proof does
not use: it marks the blocks on which the model's stable sort is Go's `sort.Slice` -/
theorem normMods_keeps (m : Mods) (_ : distinctIds m.binds = true) :
    modFlags (normMods m) = modFlags m ∧ modDisabled (normMods m) = modDisabled m :=
  normMods_keeps_stable m

end Martian.FormatCallText
