import Martian.Vdr

/-! Pure path logic of the VDR model: `overlapDir_iff`, `anyOverlap_iff_exists`, `pathIsInside_iff`,
`inside_trans`; `slash_prefix_cases`: the ancestors of a path form a chain.  Names spelled with a trailing
separator (`NoDbl`, `FilesWF`, `match_trailing`, `refsWF_iff`), on which `CfgOK.cleanF` and `refs_mono` stand. -/
namespace Martian.Vdr

theorem prefix_slash_len {a b : Path} (h : (a ++ ['/']) <+: b) : a.length < b.length := by
  have := h.length_le
  simp at this
  omega

theorem prefix_slash_lt {f n : Path} (h : (f ++ ['/']) <+: n) (hn : NoTrailingSlash n) : f.length + 1 < n.length := by
  obtain ⟨t, rfl⟩ := h
  cases t with
  | nil => exact absurd (List.append_nil _) (hn f)
  | cons x r => simp

theorem overlapDir_iff (n f : Path) (hn : NoTrailingSlash n) (hf : NoTrailingSlash f) :
    overlapDir n f = true ↔ ((f ++ ['/']) <+: n ∨ (n ++ ['/']) <+: f) := by
  unfold overlapDir
  constructor
  · intro h
    split at h
    · left; exact List.isPrefixOf_iff_prefix.mp h
    · split at h
      · right; exact List.isPrefixOf_iff_prefix.mp h
      · simp at h
  · rintro (h | h)
    · rw [if_pos (prefix_slash_lt h hn)]
      exact List.isPrefixOf_iff_prefix.mpr h
    · have hlen := prefix_slash_lt h hf
      rw [if_neg (by omega), if_pos hlen]
      exact List.isPrefixOf_iff_prefix.mpr h

/-- `anyOverlap` without its short cuts -/
theorem anyOverlap_iff_exists (ns fs : List Path) :
    anyOverlap ns fs = true ↔ ∃ n ∈ ns, ∃ f ∈ fs, n = f ∨ overlapDir n f = true := by
  unfold anyOverlap
  split
  · rename_i he
    simp only [Bool.false_eq_true, false_iff]
    rintro ⟨n, hnm, f, hfm, _⟩
    simp only [Bool.or_eq_true, List.isEmpty_iff] at he
    rcases he with rfl | rfl
    · cases hfm
    · cases hnm
  · split
    · rename_i hx
      simp only [List.any_eq_true, List.contains_iff_mem] at hx
      obtain ⟨n, hnm, hnf⟩ := hx
      simp only [true_iff]
      exact ⟨n, hnm, n, hnf, Or.inl rfl⟩
    · rename_i hx
      simp only [List.any_eq_true]
      constructor
      · rintro ⟨n, hnm, f, hfm, ho⟩
        exact ⟨n, hnm, f, hfm, Or.inr ho⟩
      · rintro ⟨n, hnm, f, hfm, rfl | ho⟩
        · exact absurd (List.any_eq_true.mpr ⟨n, hnm, by simpa using hfm⟩) hx
        · exact ⟨n, hnm, f, hfm, ho⟩

theorem anyOverlap_iff' (ns fs : List Path)
    (hn : ∀ n ∈ ns, NoTrailingSlash n) (hf : ∀ f ∈ fs, NoTrailingSlash f) :
    anyOverlap ns fs = true ↔ ∃ n ∈ ns, ∃ f ∈ fs, Related n f := by
  rw [anyOverlap_iff_exists]
  constructor
  · rintro ⟨n, hnm, f, hfm, h⟩
    exact ⟨n, hnm, f, hfm, h.imp_right (overlapDir_iff n f (hn n hnm) (hf f hfm)).mp⟩
  · rintro ⟨n, hnm, f, hfm, h⟩
    exact ⟨n, hnm, f, hfm, h.imp_right (overlapDir_iff n f (hn n hnm) (hf f hfm)).mpr⟩

theorem pathIsInside_iff (d k : Path) : pathIsInside d k = true ↔ (d = k ∨ (k ++ ['/']) <+: d) := by
  unfold pathIsInside
  simp only [Bool.or_eq_true, Bool.and_eq_true, beq_iff_eq, decide_eq_true_eq]
  constructor
  · rintro (h | ⟨_, h⟩)
    · exact Or.inl h
    · exact Or.inr (List.isPrefixOf_iff_prefix.mp h)
  · rintro (h | h)
    · exact Or.inl h
    · exact Or.inr ⟨prefix_slash_len h, List.isPrefixOf_iff_prefix.mpr h⟩

theorem pathIsInside_self (p : Path) : pathIsInside p p = true := by
  unfold pathIsInside
  simp

theorem slash_prefix_cases {x y : Path} (h : (x ++ ['/']) <+: (y ++ ['/'])) : x = y ∨ (x ++ ['/']) <+: y :=
  (List.prefix_concat_iff.mp h).imp_left List.append_cancel_right

/-- whoever references something inside `k` references `k` -/
theorem related_mono {d k f : Path} (hin : pathIsInside d k = true) (hr : Related d f) : Related k f := by
  rcases (pathIsInside_iff d k).mp hin with h | h
  · exact h ▸ hr
  · rcases hr with hr | hr | hr
    · subst hr
      exact Or.inr (Or.inr h)
    · -- both k/ and f/ are prefixes of d
      rcases List.prefix_or_prefix_of_prefix h hr with p | p
      · exact (slash_prefix_cases p).imp_right Or.inr
      · exact (slash_prefix_cases p).imp Eq.symm Or.inl
    · right; right
      exact (h.trans (List.prefix_append d ['/'])).trans hr

theorem inside_trans {a b c : Path} (h1 : pathIsInside a b = true) (h2 : pathIsInside b c = true) :
    pathIsInside a c = true := by
  rw [pathIsInside_iff] at *
  rcases h1 with rfl | h1
  · exact h2
  · rcases h2 with rfl | h2
    · exact Or.inr h1
    · exact Or.inr ((h2.trans (List.prefix_append b ['/'])).trans h1)

theorem inside_comparable {d a b : Path} (h1 : pathIsInside d a = true) (h2 : pathIsInside d b = true) :
    pathIsInside a b = true ∨ pathIsInside b a = true := by
  rw [pathIsInside_iff] at h1 h2
  rcases h1 with rfl | h1
  · exact Or.inl ((pathIsInside_iff _ _).mpr h2)
  · rcases h2 with rfl | h2
    · exact Or.inr ((pathIsInside_iff _ _).mpr (Or.inr h1))
    · rcases List.prefix_or_prefix_of_prefix h1 h2 with p | p
      · exact Or.inr ((pathIsInside_iff b a).mpr ((slash_prefix_cases p).imp_left Eq.symm))
      · exact Or.inl ((pathIsInside_iff a b).mpr ((slash_prefix_cases p).imp_left Eq.symm))

/-- more logical names of the walked entry can only add references -/
theorem anyOverlap_cons_mono (p : Path) (alts fs : List Path) (h : anyOverlap [p] fs = true) :
    anyOverlap (p :: alts) fs = true := by
  rw [anyOverlap_iff_exists] at h ⊢
  obtain ⟨n, hn, rest⟩ := h
  exact ⟨n, List.mem_singleton.mp hn ▸ List.mem_cons_self, rest⟩

/-! ### names spelled with a trailing separator

`getLogicalFileNames` keeps the RAW spelling of an output next to the cleaned
one.  A raw spelling with a trailing separator (`…/outdir/`) is inert next to
its cleaned form: whatever walked path matches it matches the cleaned form. -/

/-- no doubled separator inside the path (what a walk of a directory yields) -/
def NoDbl (p : Path) : Prop := ¬ ['/', '/'] <:+: p

/-- the shape of the names an argument refers to: clean at the end, or a clean
member of the list with one separator appended -/
def FilesWF (fs : List Path) : Prop :=
  ∀ f ∈ fs, NoTrailingSlash f ∨ ∃ g ∈ fs, NoTrailingSlash g ∧ ∃ k, 0 < k ∧ f = g ++ List.replicate k '/'

theorem anyOverlap_single (n : Path) (fs : List Path) :
    anyOverlap [n] fs = true ↔ ∃ f ∈ fs, n = f ∨ overlapDir n f = true := by
  rw [anyOverlap_iff_exists]
  simp only [List.mem_singleton, exists_eq_left]

/-- a walked path that matches a name with trailing separators matches the name without them -/
theorem match_trailing {n g : Path} {k : Nat} (hn : NoTrailingSlash n) (hd : NoDbl n) (hg : NoTrailingSlash g)
    (hk : 0 < k) (h : n = g ++ List.replicate k '/' ∨ overlapDir n (g ++ List.replicate k '/') = true) :
    Related n g := by
  obtain ⟨j, rfl⟩ : ∃ j, k = j + 1 := ⟨k - 1, by omega⟩
  rcases h with h | h
  · exfalso
    rw [List.replicate_succ', ← List.append_assoc] at h
    exact hn _ h
  · unfold overlapDir at h
    split at h
    · exfalso
      obtain ⟨t, ht⟩ := List.isPrefixOf_iff_prefix.mp h
      apply hd
      refine ⟨g ++ List.replicate j '/', t, ?_⟩
      rw [← ht, List.replicate_succ']
      simp
    · split at h
      · obtain ⟨t, ht⟩ := List.isPrefixOf_iff_prefix.mp h
        have hp1 : (n ++ ['/']) <+: (g ++ List.replicate (j + 1) '/') := ⟨t, ht⟩
        have hp2 : g <+: (g ++ List.replicate (j + 1) '/') := ⟨_, rfl⟩
        rcases List.prefix_or_prefix_of_prefix hp1 hp2 with h1 | h1
        · exact Or.inr (Or.inr h1)
        · obtain ⟨u, hu⟩ := h1
          by_cases hu0 : u = []
          · subst hu0
            exfalso
            exact hg n (by simpa using hu)
          · have e : g ++ u.dropLast ++ [u.getLast hu0] = n ++ ['/'] := by
              rw [← hu, List.append_assoc, List.dropLast_concat_getLast hu0]
            have hn' := (List.append_inj' e rfl).1
            -- n = g ++ u.dropLast, and u.dropLast consists of separators only
            by_cases hu1 : u.dropLast = []
            · left; rw [← hn', hu1]; simp
            · exfalso
              have hpre : (u.dropLast ++ ['/']) <+: List.replicate (j + 1) '/' := by
                have : (g ++ (u.dropLast ++ ['/'])) <+: (g ++ List.replicate (j + 1) '/') := by
                  rw [← List.append_assoc, hn']; exact hp1
                exact (List.prefix_append_right_inj g).mp this
              have hlast : u.dropLast.getLast hu1 = '/' := by
                have hm : u.dropLast.getLast hu1 ∈ List.replicate (j + 1) '/' := by
                  apply hpre.subset
                  exact List.mem_append_left _ (List.getLast_mem hu1)
                exact (List.mem_replicate.mp hm).2
              apply hn (g ++ u.dropLast.dropLast)
              rw [← hn', List.append_assoc, ← hlast, List.dropLast_concat_getLast hu1]
      · simp at h

theorem refsWF_iff {n : Path} {fs : List Path} (hn : NoTrailingSlash n) (hd : NoDbl n) (wf : FilesWF fs) :
    anyOverlap [n] fs = true ↔ ∃ f ∈ fs, NoTrailingSlash f ∧ Related n f := by
  rw [anyOverlap_single]
  constructor
  · rintro ⟨f, hf, hm⟩
    rcases wf f hf with hc | ⟨g, hg, hgc, k, hk, rfl⟩
    · refine ⟨f, hf, hc, ?_⟩
      rcases hm with rfl | hm
      · exact Or.inl rfl
      · exact Or.inr ((overlapDir_iff n f hn hc).mp hm)
    · exact ⟨g, hg, hgc, match_trailing hn hd hgc hk hm⟩
  · rintro ⟨f, hf, hc, hr⟩
    refine ⟨f, hf, ?_⟩
    rcases hr with h | h
    · exact Or.inl h
    · exact Or.inr ((overlapDir_iff n f hn hc).mpr h)

end Martian.Vdr
