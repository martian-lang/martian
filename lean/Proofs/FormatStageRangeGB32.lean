import Proofs.FormatResGB

/-!
C09: the REAL parser's reading of `mem_gb` / `vmem_gb` (`readGB32`: float32 rounding of the
literal, then `roundUpTo(·, 1024)`) inverts `formatGB` below 256 GB, in token form
(`readGB32Tok_fmtGB`, the last theorem of the file):

    |mb| < 262144  →  readGB32Tok (tokGB mb) = some mb;

the text form `readGB32 (fmtGB mb) = some mb (= readGB (fmtGB mb))` is
`Props.C09.readGB32_inverts_formatGB`.  From 256 GB + 44 MB on it does not (finding F29,
`Props.C09.formatGB_float32_witness`).

`f32Round n d` for `d·2^23 ≤ n·2^s < d·2^24` is `n·2^s / d` rounded half to even, with exponent `-s`
(`f32Round_scaled`).  Hence an integer below 2^24 is read exactly (`f32MB_f32Round_nat`), and for a
whole part `I` in the binade `2^j ≤ I < 2^(j+1)` the mantissa of `I + r/d` is `I·2^(23-j)` plus the
rounded `r·2^(23-j) / d`, which does not depend on `I` (`f32MB_f32Round_add`).  Rounding at exponent
`-s` moves a value by at most `2^-(s+1)`, so a fraction in `(m/1024 + 2^-(s+1), (m+1)/1024]` still
reads as `m + 1` MB (`f32MB_rne`); every fraction `formatGB` prints clears the lower boundary by more
than `2^-17` (`FracSpec.gap`, evaluated with the other facts about the 1023 fractions), which serves
`s ≥ 16`: whole parts below 256 and, since every positive value has a binade (`exists_binade`), the
whole part 0.  The text `±I.DDDD` is reduced to that arithmetic as for the exact reader
(`parseFloat_fmtGB`).
-/

namespace Martian.FormatRes
open Martian.Lexer (decValFrom)
open Martian.FormatExp (fmtInt_lex)

/-- `n / d` rounded to the nearest integer, ties to even -/
def rne (n d : Nat) : Nat :=
  if 2 * (n % d) > d || (2 * (n % d) == d && n / d % 2 == 1) then n / d + 1 else n / d

theorem rne_add_mul {a d : Nat} (r : Nat) (ha : a % 2 = 0) (hd : 0 < d) :
    rne (a * d + r) d = a + rne r d := by
  have hq : (a * d + r) / d = a + r / d := by rw [Nat.add_comm, Nat.add_mul_div_right _ _ hd, Nat.add_comm]
  have hr : (a * d + r) % d = r % d := by rw [Nat.add_comm, Nat.add_mul_mod_self_right]
  have hp : (a + r / d) % 2 = r / d % 2 := by omega
  unfold rne
  rw [hq, hr, hp]
  split <;> omega

theorem rne_le {N d B : Nat} (hd : 0 < d) (h : N ≤ B * d) : rne N d ≤ B := by
  have hdm := Nat.div_add_mod N d
  have hq : N / d ≤ B := Nat.div_le_of_le_mul (Nat.mul_comm B d ▸ h)
  unfold rne
  split
  · rename_i hc
    rcases Nat.lt_or_eq_of_le hq with hlt | heq
    · exact hlt
    · rw [heq, Nat.mul_comm] at hdm
      have : N % d = 0 := by omega
      simp [this] at hc
      omega
  · exact hq

theorem lt_rne {N d A : Nat} (hd : 0 < d) (h : (2 * A + 1) * d < 2 * N) : A < rne N d := by
  have hdm := Nat.div_add_mod N d
  have hr := Nat.mod_lt N hd
  rw [Nat.add_mul, Nat.mul_assoc, Nat.one_mul, Nat.mul_comm A d] at h
  have hq : A ≤ N / d := by
    apply Nat.le_of_not_lt
    intro hlt
    have := Nat.mul_le_mul_left d (Nat.succ_le_of_lt hlt)
    rw [Nat.mul_succ] at this
    omega
  unfold rne
  rcases Nat.lt_or_eq_of_le hq with hlt | heq
  · split <;> omega
  · rw [← heq] at hdm ⊢
    have : 2 * (N % d) > d := by omega
    simp [this]

theorem f32MB_neg (x s : Nat) :
    f32MB (x, -(s : Int)) = if s ≤ 10 then x * 2 ^ (10 - s) else ceilDiv x (2 ^ (s - 10)) := by
  unfold f32MB
  by_cases h : s ≤ 10
  · rw [if_pos (by omega), if_pos h, (by omega : (-(s : Int) + 10).toNat = 10 - s)]
  · rw [if_neg (by omega), if_neg h, (by omega : (-(-(s : Int) + 10)).toNat = s - 10)]

theorem f32MB_zero (s : Nat) : f32MB (0, -(s : Int)) = 0 := by
  rw [f32MB_neg]
  split
  · exact Nat.zero_mul _
  · exact Nat.div_eq_of_lt (by rw [Nat.zero_add]; exact Nat.sub_lt (Nat.two_pow_pos _) (by decide))

theorem f32MB_add_mul (a r s : Nat) :
    f32MB (a * 2 ^ s + r, -(s : Int)) = a * 1024 + f32MB (r, -(s : Int)) := by
  rw [f32MB_neg, f32MB_neg]
  by_cases h : s ≤ 10
  · have h3 : (2 : Nat) ^ s * 2 ^ (10 - s) = 1024 := by
      rw [← Nat.pow_add, (by omega : s + (10 - s) = 10)]
    rw [if_pos h, if_pos h, Nat.add_mul, Nat.mul_assoc, h3]
  · have h3 : (2 : Nat) ^ s = 1024 * 2 ^ (s - 10) := by
      rw [(by rfl : 1024 = 2 ^ 10), ← Nat.pow_add]; congr 1; omega
    rw [if_neg h, if_neg h, h3, ← Nat.mul_assoc, ceilDiv_add_mul _ _ _ (Nat.two_pow_pos _)]

theorem log2_add_le {x y a b : Nat} (hx : x ≠ 0) (h : x * 2 ^ a ≤ y * 2 ^ b) :
    x.log2 + a ≤ y.log2 + b := by
  have : 2 ^ (x.log2 + a) < 2 ^ (y.log2 + 1 + b) := by
    rw [Nat.pow_add, Nat.pow_add _ _ b]
    exact Nat.lt_of_le_of_lt (Nat.le_trans (Nat.mul_le_mul_right _ (Nat.log2_self_le hx)) h)
      (Nat.mul_lt_mul_of_pos_right Nat.lt_log2_self (Nat.two_pow_pos b))
  have := (Nat.pow_lt_pow_iff_right (by decide)).1 this
  omega

theorem f32Round_scaled {n d s : Nat} (hlo : d * 2 ^ 23 ≤ n * 2 ^ s) (hhi : n * 2 ^ s < d * 2 ^ 24)
    (hs : s ≤ 149) : f32Round n d = (rne (n * 2 ^ s) d, -(s : Int)) := by
  have hd : d ≠ 0 := by rintro rfl; simp at hhi
  have hdp : 0 < d := Nat.pos_of_ne_zero hd
  have hn : n ≠ 0 := by rintro rfl; omega
  have h1 : d.log2 + 23 ≤ n.log2 + s := log2_add_le hd hlo
  have h2 : n.log2 + s ≤ d.log2 + 24 := log2_add_le hn (Nat.le_of_lt hhi)
  unfold f32Round
  rw [if_neg hn]
  extract_lets e0 q e1 e N D m rem
  have hq : ∀ t : Nat, q (-(t : Int)) = n * 2 ^ t / d := by
    intro t
    cases t with
    | zero => simp [q]
    | succ t =>
      have : ¬ (-((t + 1 : Nat) : Int) ≥ 0) := by omega
      simp only [q, this, ↓reduceIte, Int.neg_neg, Int.toNat_natCast]
  -- the first guess `e0` is `-s` or one more; the correction leads to `-s` from both
  have he1 : e1 = -(s : Int) := by
    show (if q e0 < 2 ^ 23 then e0 - 1 else if q e0 ≥ 2 ^ 24 then e0 + 1 else e0) = _
    rcases (by omega : e0 = -(s : Int) ∨ e0 = 1 - (s : Int)) with h | h
    · have l : ¬ q e0 < 2 ^ 23 := by
        rw [h, hq, Nat.not_lt, Nat.le_div_iff_mul_le hdp, Nat.mul_comm]; exact hlo
      have u : ¬ q e0 ≥ 2 ^ 24 := by
        rw [h, hq, Nat.not_le, Nat.div_lt_iff_lt_mul hdp, Nat.mul_comm _ d]; exact hhi
      rw [if_neg l, if_neg u, h]
    · have u : q e0 < 2 ^ 23 := by
        cases s with
        | zero =>
          have : e0 = 1 := by omega
          rw [this]
          show n / (d * 2 ^ 1) < 2 ^ 23
          rw [Nat.div_lt_iff_lt_mul (by omega)]
          omega
        | succ t =>
          have : e0 = -(t : Int) := by omega
          rw [this, hq, Nat.div_lt_iff_lt_mul hdp]
          rw [Nat.pow_succ, ← Nat.mul_assoc] at hhi
          omega
      rw [if_pos u, h]; omega
  have he : e = -(s : Int) := by
    show (if e1 < -149 then -149 else e1) = _
    rw [he1, if_neg (by omega)]
  have hN : N = n * 2 ^ s := by
    show (if e ≥ 0 then n else n * 2 ^ (-e).toNat) = _
    rw [he]
    cases s with
    | zero => simp
    | succ t => rw [if_neg (by omega), Int.neg_neg, Int.toNat_natCast]
  have hD : D = d := by
    show (if e ≥ 0 then d * 2 ^ e.toNat else d) = _
    rw [he]
    cases s with
    | zero => simp
    | succ t => rw [if_neg (by omega)]
  show (if (decide (2 * (N % D) > D) || 2 * (N % D) == D && N / D % 2 == 1) = true then N / D + 1
    else N / D, e) = _
  rw [hN, hD, he]
  rfl

theorem binade_scaled {x j : Nat} (hlo : 2 ^ j ≤ x) (hhi : x < 2 ^ (j + 1)) (hj : j ≤ 23) :
    2 ^ 23 ≤ x * 2 ^ (23 - j) ∧ (x + 1) * 2 ^ (23 - j) ≤ 2 ^ 24 := by
  have hp : (2 : Nat) ^ j * 2 ^ (23 - j) = 2 ^ 23 := by
    rw [← Nat.pow_add, (by omega : j + (23 - j) = 23)]
  constructor
  · rw [← hp]; exact Nat.mul_le_mul_right _ hlo
  · rw [(by rfl : 2 ^ 24 = 2 * 2 ^ 23), ← hp, ← Nat.mul_assoc, ← Nat.pow_succ']
    exact Nat.mul_le_mul_right _ hhi

theorem f32MB_f32Round_nat {n : Nat} (h : n < 2 ^ 24) : f32MB (f32Round n 1) = n * 1024 := by
  by_cases hn : n = 0
  · subst hn; rfl
  · have hj : n.log2 < 24 := (Nat.log2_lt hn).2 h
    have hb := binade_scaled (Nat.log2_self_le hn) Nat.lt_log2_self (Nat.le_of_lt_succ hj)
    have hhi : n * 2 ^ (23 - n.log2) < 1 * 2 ^ 24 := by
      rw [Nat.one_mul]
      exact Nat.lt_of_lt_of_le (Nat.mul_lt_mul_of_pos_right (Nat.lt_succ_self n) (Nat.two_pow_pos _)) hb.2
    have hr : ∀ x, rne x 1 = x := by intro x; simp [rne, Nat.mod_one]
    rw [f32Round_scaled (by rw [Nat.one_mul]; exact hb.1) hhi (by omega), hr]
    have := f32MB_add_mul n 0 (23 - n.log2)
    rwa [f32MB_zero, Nat.add_zero, Nat.add_zero] at this

theorem f32MB_f32Round_add {I r d j : Nat} (hlo : 2 ^ j ≤ I) (hhi : I < 2 ^ (j + 1)) (hj : j ≤ 22)
    (hr : r < d) :
    f32MB (f32Round (I * d + r) d) =
      I * 1024 + f32MB (rne (r * 2 ^ (23 - j)) d, -((23 - j : Nat) : Int)) := by
  have hd : 0 < d := by omega
  have hb := binade_scaled hlo hhi (by omega)
  have e : (I * d + r) * 2 ^ (23 - j) = I * 2 ^ (23 - j) * d + r * 2 ^ (23 - j) := by
    rw [Nat.add_mul, Nat.mul_right_comm]
  have h1 : d * 2 ^ 23 ≤ (I * d + r) * 2 ^ (23 - j) := by
    rw [e, Nat.mul_comm d]
    exact Nat.le_trans (Nat.mul_le_mul_right _ hb.1) (Nat.le_add_right _ _)
  have h2 : (I * d + r) * 2 ^ (23 - j) < d * 2 ^ 24 := by
    have : I * d + r < (I + 1) * d := by rw [Nat.succ_mul]; omega
    have h3 : (I + 1) * d * 2 ^ (23 - j) ≤ d * 2 ^ 24 := by
      rw [Nat.mul_right_comm, Nat.mul_comm d]; exact Nat.mul_le_mul_right d hb.2
    exact Nat.lt_of_lt_of_le (Nat.mul_lt_mul_of_pos_right this (Nat.two_pow_pos _)) h3
  have hev : I * 2 ^ (23 - j) % 2 = 0 := by
    rw [(by omega : 23 - j = (22 - j) + 1), Nat.pow_succ, ← Nat.mul_assoc, Nat.mul_mod_left]
  rw [f32Round_scaled h1 h2 (by omega), e, rne_add_mul _ hev hd, f32MB_add_mul]

theorem ceilDiv_eq_succ {a b m : Nat} (hb : 0 < b) (h1 : m * b < a) (h2 : a ≤ (m + 1) * b) :
    ceilDiv a b = m + 1 := by
  rw [Nat.succ_mul] at h2
  unfold ceilDiv
  rw [Nat.div_eq_iff hb, Nat.succ_mul]
  omega

/-- `hgap`: `r/d > m/1024 + 2^-g`, where `2^-g` is at least half the float32 spacing `2^-s` -/
theorem f32MB_rne {r d s g m : Nat} (hs : 11 ≤ s) (hg : 10 ≤ g) (hgs : g ≤ s + 1) (hd : 0 < d)
    (hgap : (m * 2 ^ (g - 10) + 1) * d < r * 2 ^ g) (hle : r * 1024 ≤ (m + 1) * d) :
    f32MB (rne (r * 2 ^ s) d, -(s : Int)) = m + 1 := by
  have hc : 0 < 2 ^ (s + 1 - g) := Nat.two_pow_pos _
  have p1 : 2 * 2 ^ (s - 10) = 2 ^ (g - 10) * 2 ^ (s + 1 - g) := by
    rw [← Nat.pow_succ', ← Nat.pow_add]; congr 1; omega
  have p2 : 2 * 2 ^ s = 2 ^ g * 2 ^ (s + 1 - g) := by
    rw [← Nat.pow_succ', ← Nat.pow_add]; congr 1; omega
  have p3 : 2 ^ s = 1024 * 2 ^ (s - 10) := by
    rw [(by rfl : 1024 = 2 ^ 10), ← Nat.pow_add]; congr 1; omega
  rw [f32MB_neg, if_neg (by omega)]
  refine ceilDiv_eq_succ (Nat.two_pow_pos _) (lt_rne hd ?_) (rne_le hd ?_)
  · rw [Nat.mul_left_comm 2 m, p1, ← Nat.mul_assoc, Nat.mul_left_comm 2 r, p2, ← Nat.mul_assoc]
    calc (m * 2 ^ (g - 10) * 2 ^ (s + 1 - g) + 1) * d
        ≤ (m * 2 ^ (g - 10) * 2 ^ (s + 1 - g) + 2 ^ (s + 1 - g)) * d :=
          Nat.mul_le_mul_right _ (Nat.add_le_add_left hc _)
      _ = (m * 2 ^ (g - 10) + 1) * d * 2 ^ (s + 1 - g) := by rw [← Nat.succ_mul, Nat.mul_right_comm]
      _ < r * 2 ^ g * 2 ^ (s + 1 - g) := Nat.mul_lt_mul_of_pos_right hgap hc
  · rw [p3, ← Nat.mul_assoc, Nat.mul_right_comm (m + 1)]
    exact Nat.mul_le_mul_right _ hle

theorem f32MB_f32Round_frac {I r d j g m : Nat} (hlo : 2 ^ j ≤ I) (hhi : I < 2 ^ (j + 1)) (hj : j ≤ 12)
    (hg : 10 ≤ g) (hgj : g + j ≤ 24) (hr : r < d) (hgap : (m * 2 ^ (g - 10) + 1) * d < r * 2 ^ g)
    (hle : r * 1024 ≤ (m + 1) * d) :
    f32MB (f32Round (I * d + r) d) = I * 1024 + (m + 1) := by
  rw [f32MB_f32Round_add hlo hhi (by omega) hr, f32MB_rne (by omega) hg (by omega) (by omega) hgap hle]

theorem exists_binade {n d : Nat} (hn : 0 < n) (hlt : n < d) :
    ∃ s, 24 ≤ s ∧ s ≤ d.log2 + 24 ∧ d * 2 ^ 23 ≤ n * 2 ^ s ∧ n * 2 ^ s < d * 2 ^ 24 := by
  have step : ∀ k, d * 2 ^ 23 ≤ n * 2 ^ k →
      ∃ s, s ≤ k ∧ d * 2 ^ 23 ≤ n * 2 ^ s ∧ n * 2 ^ s < d * 2 ^ 24 := by
    intro k
    induction k with
    | zero => intro h; omega
    | succ k ih =>
      intro h
      by_cases hk : d * 2 ^ 23 ≤ n * 2 ^ k
      · obtain ⟨s, h1, h2⟩ := ih hk
        exact ⟨s, by omega, h2⟩
      · refine ⟨k + 1, Nat.le_refl _, h, ?_⟩
        rw [Nat.pow_succ, ← Nat.mul_assoc]
        omega
  have hbig : d * 2 ^ 23 ≤ n * 2 ^ (d.log2 + 24) := by
    rw [(by omega : d.log2 + 24 = d.log2 + 1 + 23), Nat.pow_add, ← Nat.mul_assoc]
    exact Nat.mul_le_mul_right _ (Nat.le_trans (Nat.le_of_lt Nat.lt_log2_self)
      (Nat.le_mul_of_pos_left _ hn))
  obtain ⟨s, h1, h2, h3⟩ := step _ hbig
  refine ⟨s, ?_, h1, h2, h3⟩
  have : 2 ^ 23 < 2 ^ s := by
    apply Nat.lt_of_mul_lt_mul_left (a := d)
    exact Nat.lt_of_le_of_lt h2 (Nat.mul_lt_mul_of_pos_right hlt (Nat.two_pow_pos s))
  have := (Nat.pow_lt_pow_iff_right (by decide)).1 this
  omega

theorem gb32_val {m I : Nat} (hm0 : m ≠ 0) (hm : m < 1024) (hI : I < 256) :
    f32MB (f32Round (I * 10 ^ (fracDigits m).length + decValFrom 0 (fracDigits m))
      (10 ^ (fracDigits m).length)) = I * 1024 + m := by
  have S := fracSpec hm0 hm
  have hd : 0 < 10 ^ (fracDigits m).length := Nat.pow_pos (by decide)
  have hm1 : m - 1 + 1 = m := by omega
  have hle : decValFrom 0 (fracDigits m) * 1024 ≤ (m - 1 + 1) * 10 ^ (fracDigits m).length := by
    have := (Nat.div_eq_iff hd).1 S.val
    rw [hm1]
    omega
  by_cases h0 : I = 0
  · have hD : 0 < decValFrom 0 (fracDigits m) := by
      apply Nat.pos_of_ne_zero
      intro hz
      have := S.gap
      rw [hz] at this
      omega
    obtain ⟨s, hs, hs', h1, h2⟩ := exists_binade hD S.lt
    have : (10 ^ (fracDigits m).length).log2 < 14 :=
      (Nat.log2_lt (Nat.ne_of_gt hd)).2 (Nat.lt_of_le_of_lt (pow_le_4 S.len) (by decide))
    rw [h0, Nat.zero_mul, Nat.zero_add, Nat.zero_mul, Nat.zero_add, f32Round_scaled h1 h2 (by omega),
      f32MB_rne (by omega) (by decide : 10 ≤ 17) (by omega) hd S.gap hle, hm1]
  · have hj : I.log2 < 8 := (Nat.log2_lt h0).2 hI
    rw [f32MB_f32Round_frac (Nat.log2_self_le h0) Nat.lt_log2_self (by omega) (by decide : 10 ≤ 17)
      (by omega) S.lt S.gap hle, hm1]

theorem readGB32Tok_whole (mb : Int) (hm : mb.natAbs % 1024 = 0) (hb : mb.natAbs < 2 ^ 34) :
    readGB32Tok (tokGB mb) = some mb := by
  have hb63 : mb.natAbs < 2 ^ 63 := Nat.lt_of_lt_of_le hb (by decide)
  have hI : (mb / 1024).natAbs < 2 ^ 24 := by omega
  simp only [tokGB, hm, ↓reduceIte, readGB32Tok]
  rw [fmtGB_whole mb hm, (fmtInt_lex _ (inInt64_whole mb hb63)).2]
  simp only [Option.map_some, Option.some.injEq, f32MB_f32Round_nat hI]
  split <;> omega

theorem readGB32Tok_fmtGB (mb : Int) (hb : mb.natAbs < 262144) : readGB32Tok (tokGB mb) = some mb := by
  by_cases hm : mb.natAbs % 1024 = 0
  · exact readGB32Tok_whole mb hm (by omega)
  · have hr := Nat.mod_lt mb.natAbs (by decide : 0 < 1024)
    have S := fracSpec hm hr
    simp only [tokGB, hm, ↓reduceIte]
    rw [readGB32Tok_frac (parseFloat_fmtGB true mb (Nat.lt_of_lt_of_le hb (by decide)) hm)
      (List.length_pos_iff.2 S.ne) (by have := S.len; omega), gb32_val hm hr (by omega), gbSigned]

end Martian.FormatRes
