/-
C19 — removing an input parameter leaves the resolved inputs of every call
unchanged (the nodes of calls of `x` lose the key `q`, nothing else).
-/
import Proofs.RefactorGraphLemmas
import Proofs.RefactorRemove

namespace Proofs.RefactorGraph
open Martian.Refactor
open Proofs.Refactor (removeInputOne_eq)

section Rem
variable (x q : String)

def SRem (name : String) (env : Env) : Env := if name = x then dropKeyEnv q env else env

theorem FRem_name (c : Callable) : (FRem x q c).name = c.name := rfl

theorem pipeOKRem_parts {c : Callable} (h : pipeOKRem x q c = true) :
    Base c
    ∧ (c.name = x → ∀ r ∈ graphRefs c, selfRefTo q r = false)
    ∧ (∀ k ∈ c.calls, k.decId = x → (k.binds.map (·.name)).Nodup) := by
  simp only [pipeOKRem, Bool.and_eq_true, Bool.or_eq_true, List.all_eq_true, decide_eq_true_eq,
    bne_iff_ne, ne_eq, List.isEmpty_iff, Bool.not_eq_true'] at h
  obtain ⟨⟨⟨⟨⟨h1, h2⟩, h3⟩, h4⟩, h5⟩, h6⟩ := h
  exact ⟨⟨h1, h2, h3, h4⟩, fun hn => h5.resolve_left (not_not_intro hn),
    fun k hk hd => (h6 k hk).resolve_left (not_not_intro hd)⟩

theorem lookupRef_rem (pipe : Callable) (self : Env) (sib : String → RExp) (r : Ref)
    (h : pipe.name = x → selfRefTo q r = false) :
    lookupRef (SRem x q pipe.name self) sib r = lookupRef self sib r := by
  unfold SRem
  split
  · rename_i hn
    unfold lookupRef
    cases hk : r.kind with
    | call => rfl
    | self =>
      simp only
      have : r.id ≠ q := by
        intro e
        have := h hn
        simp [selfRefTo, hk, e] at this
      rw [envGet_dropKey_other q r.id self this]
  · rfl

theorem remove_input_sim (ti : TypeInfo) (p : Program) (hok : RemInOK x q p = true) :
    SimHyp ti (ti.removeInput x q) p (removeInputOne x q p) id (FRem x q) (fun _ k => dropB x q k)
      (SRem x q) (fun _ _ v => v) id (fun c => pipeOKRem x q c = true) (fun _ _ => True)
      (fun _ _ => True) (fun _ => True) (fun _ _ => true)
    ∧ (∀ t, p.top = some t → (removeInputOne x q p).top = some (dropB x q t)
        ∧ FRem x q (topPipe t) = topPipe (dropB x q t) ∧ pipeOKRem x q (topPipe t) = true ∧ True ∧ true = true)
    ∧ (p.top = none → (removeInputOne x q p).top = none) ∧ SRem x q "" [] = [] := by
  simp only [RemInOK, Bool.and_eq_true, bne_iff_ne, ne_eq, List.all_eq_true] at hok
  obtain ⟨⟨hx, hall⟩, htopok⟩ := hok
  have hmo : membersOf (ti.removeInput x q) = membersOf ti := rfl
  have hp' := removeInputOne_eq x q p
  have hpc : (removeInputOne x q p).callables = p.callables.map (FRem x q) := by rw [hp']
  have H : SimHyp ti (ti.removeInput x q) p (removeInputOne x q p) id (FRem x q) (fun _ k => dropB x q k)
      (SRem x q) (fun _ _ v => v) id (fun c => pipeOKRem x q c = true) (fun _ _ => True)
      (fun _ _ => True) (fun _ => True) (fun _ _ => true) := by
    refine { hfind1 := ?_, hfind0 := ?_, hrel := fun _ _ _ _ => trivial, hF := ?_, hcalls := ?_,
             hGid := ?_, hGdec := ?_, hfirst := ?_, hO0 := ?_, hOs := ?_, o0 := ?_, o0s := ?_,
             o1 := ?_, o2 := ?_, c5 := ?_, c6 := ?_, c7 := ?_ }
    · intro n d hd
      exact ⟨find_map_some _ (FRem_name x q) hpc hd, hall d (find_mem p n d hd)⟩
    · intro n _ hd
      exact find_map_none _ (FRem_name x q) hpc hd
    · intro c _
      exact ⟨rfl, rfl, rfl, rfl⟩
    · intro pipe hg
      have hparts := pipeOKRem_parts x q hg
      rw [show (pipe.calls.filter (fun k => (fun (_ : Callable) (_ : String) => true) pipe k.id)) = pipe.calls from filter_true' _]
      unfold FRem
      cases hparts.1.body with
      | inl h => simp [h]
      | inr h => simp only [h]; split <;> rfl
    · intro pipe k; unfold dropB; split <;> rfl
    · intro pipe _ k _; unfold dropB; split <;> rfl
    · intro pipe hg
      exact (pipeOKRem_parts x q hg).1.first
    · intros; rfl
    · intros; rfl
    · intros; trivial
    · intros; trivial
    · intros; trivial
    · intros; trivial
    · intro pipe self sib sib' k d id hg _ _ hag _ hk hd
      have hs' : sib' = sib := sibAgree_true hag
      subst sib'
      have hparts := pipeOKRem_parts x q hg
      have hkm := (call_mem pipe id k hk).1
      have hdname := find_name p _ d hd
      have hns := hparts.1.binds k hkm
      have hper : ∀ bd ∈ k.binds, ∀ r ∈ refs bd.exp,
          lookupRef (SRem x q pipe.name self) sib r = lookupRef self sib r := by
        intro bd hbd r hr
        exact lookupRef_rem x q pipe self sib r
          (fun hn => hparts.2.1 hn r (mem_graphRefs_bind pipe k hkm bd hbd r hr))
      rw [callIns_noStar _ _ _ _ _ _ hns, callIns, FRem_name, resolveBinds_ti _ _ hmo]
      by_cases hdx : k.decId = x
      · have hdn : d.name = x := hdname.trans hdx
        have hb : (dropB x q k).binds = removeFirstBind q k.binds := by simp [dropB, hdx]
        rw [hb, expandWild_noStar _ _ _ _ (noStar_removeFirst q _ hns)]
        have : insOf (ti.removeInput x q) d.name = dropKeyM q (insOf ti d.name) := by
          rw [hdn]; exact (getD_lookup_onKey x x (dropKeyM q) rfl ti.ins).trans (if_pos rfl)
        rw [this]
        rw [resolveBinds_congr _ _ _ (lookupRef self sib) _
          (fun bd hbd r hr => hper bd (mem_removeFirstBind q _ bd hbd) r hr)]
        rw [resolveBinds_removeFirst q ti _ _ _ (hparts.2.2 k hkm hdx)]
        simp [SRem, hdn]
      · have hdn : d.name ≠ x := hdname ▸ hdx
        have hb : (dropB x q k).binds = k.binds := by simp [dropB, hdx]
        rw [hb, expandWild_noStar _ _ _ _ hns]
        have : insOf (ti.removeInput x q) d.name = insOf ti d.name :=
          (getD_lookup_onKey x d.name (dropKeyM q) rfl ti.ins).trans (if_neg hdn)
        rw [this, resolveBinds_congr _ _ _ (lookupRef self sib) _ hper]
        simp [SRem, hdn]
    · intro d ins sib sib' hg hp _ _ hag
      have hs' : sib' = sib := sibAgree_true hag
      subst sib'
      have hparts := pipeOKRem_parts x q hg
      have hret : (FRem x q d).ret = d.ret := rfl
      have houts : outsOf (ti.removeInput x q) d.name = outsOf ti d.name := rfl
      rw [pipeOuts_noStar _ _ _ _ hparts.1.ret, pipeOuts, FRem_name, resolveBinds_ti _ _ hmo, hret,
        expandWild_noStar _ _ _ _ hparts.1.ret, houts]
      congr 2
      apply resolveBinds_congr
      intro bd hbd r hr
      exact lookupRef_rem x q d ins sib r
        (fun hn => hparts.2.1 hn r (mem_graphRefs_ret d bd hbd r hr))
    · intro d ins sib sib' hg hp _ _ hag
      have hs' : sib' = sib := sibAgree_true hag
      subst sib'
      have hparts := pipeOKRem_parts x q hg
      have hret : (FRem x q d).retain = d.retain := rfl
      rw [List.map_id]
      unfold pipeRetained
      rw [hret]
      apply flatMap_congr'
      intro r hr
      rw [lookupRef_rem x q d ins sib r (fun hn => hparts.2.1 hn r (mem_graphRefs_retain d r hr))]
  refine ⟨H, ?_, ?_, ?_⟩
  · intro t ht
    have htop : pipeOKRem x q (topPipe t) = true := by simpa [ht] using htopok
    refine ⟨?_, ?_, htop, trivial, rfl⟩
    · rw [hp']; simp [ht]
    · simp [FRem, topPipe, Ne.symm hx]
  · intro ht; rw [hp']; simp [ht]
  · simp [SRem, Ne.symm hx]

theorem nodeMap_rem : nodeMap id (SRem x q) (fun _ _ v => v) id = remNodeIn x q := by
  funext n
  simp only [nodeMap, remNodeIn, SRem, id, List.map_id]
  split <;> rfl

theorem remove_input_graph_atK (ti : TypeInfo) (p : Program) (hok : RemInOK x q p = true)
    (κ : String → Bool → String → Bool) (big fuel : Nat) :
    deepGraphKeepAt (fun c i => κ c.name c.isPipe i) big fuel (ti.removeInput x q) (removeInputOne x q p)
      = (deepGraphKeepAt (fun c i => κ c.name c.isPipe i) big fuel ti p).map (remNodeIn x q) := by
  obtain ⟨H, htop, htop0, hS⟩ := remove_input_sim x q ti p hok
  have := sim_program H htop htop0 hS (fun c i => κ c.name c.isPipe i) (fun c _ i => rfl) big fuel
  simpa only [Bool.true_and, nodeMap_rem] using this

theorem graphFuel_removeInputOne (p : Program) : graphFuel (removeInputOne x q p) = graphFuel p :=
  graphFuel_map (FRem x q) (by rw [removeInputOne_eq]) fun c _ => Proofs.Refactor.FRem_calls_length x q c

end Rem

theorem remove_inputs_graph_atK (pairs : List (String × String)) (ti : TypeInfo) (p : Program)
    (hok : RemInsOK pairs p = true) (κ : String → Bool → String → Bool) (big fuel : Nat) :
    deepGraphKeepAt (fun c i => κ c.name c.isPipe i) big fuel (ti.removeInputs pairs) (removeInputs pairs p)
      = pairs.foldl (fun g xq => g.map (remNodeIn xq.1 xq.2))
          (deepGraphKeepAt (fun c i => κ c.name c.isPipe i) big fuel ti p) := by
  induction pairs generalizing ti p with
  | nil => rfl
  | cons xq rest ih =>
    obtain ⟨x, q⟩ := xq
    simp only [RemInsOK, Bool.and_eq_true] at hok
    simp only [removeInputs, TypeInfo.removeInputs, List.foldl_cons]
    have := ih (ti.removeInput x q) (removeInputOne x q p) hok.2
    simp only [removeInputs, TypeInfo.removeInputs] at this
    rw [this, remove_input_graph_atK x q ti p hok.1 κ big fuel]

theorem remove_inputs_graph_at (pairs : List (String × String)) (ti : TypeInfo) (p : Program)
    (hok : RemInsOK pairs p = true) (big fuel : Nat) :
    deepGraphAt big fuel (ti.removeInputs pairs) (removeInputs pairs p)
      = pairs.foldl (fun g xq => g.map (remNodeIn xq.1 xq.2)) (deepGraphAt big fuel ti p) := by
  have := remove_inputs_graph_atK pairs ti p hok (fun _ _ _ => true) big fuel
  simpa only [deepGraphKeepAt_true] using this

theorem graphFuel_removeInputs (pairs : List (String × String)) (p : Program) :
    graphFuel (removeInputs pairs p) = graphFuel p := by
  induction pairs generalizing p with
  | nil => rfl
  | cons xq rest ih => exact (ih _).trans (graphFuel_removeInputOne xq.1 xq.2 p)

theorem remove_inputs_graph (pairs : List (String × String)) (ti : TypeInfo) (p : Program)
    (hok : RemInsOK pairs p = true) :
    deepGraph (ti.removeInputs pairs) (removeInputs pairs p)
      = pairs.foldl (fun g xq => g.map (remNodeIn xq.1 xq.2)) (deepGraph ti p) := by
  show deepGraphAt (graphFuel (removeInputs pairs p)) (graphFuel (removeInputs pairs p)) _ _ = _
  rw [graphFuel_removeInputs]
  exact remove_inputs_graph_at pairs ti p hok _ _

theorem remove_input_graph (x q : String) (ti : TypeInfo) (p : Program) (hok : RemInOK x q p = true) :
    deepGraph (ti.removeInput x q) (removeInputOne x q p) = (deepGraph ti p).map (remNodeIn x q) :=
  remove_inputs_graph [(x, q)] ti p (by simp [RemInsOK, hok])

end Proofs.RefactorGraph
