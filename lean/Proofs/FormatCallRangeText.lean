import Proofs.FormatCallRange
import Proofs.FormatExpRangeText
import Proofs.FormatCall2Lex
import Proofs.ListFacts

/-!
C09, accepted texts of call statements: from the range of the raw readers to
`wfCall` / `wfCall2` / `wfRet` / `wfBody` of what Go holds (`canon… g` of the raw
result), the normal forms are fixed by the canonicaliser, and the text-side
theorems `format_accepted_call`, `format_accepted_call2`.

Only the binding values are touched by `canon g`: a wildcard value, a modifier value and a
retained output are references or booleans, on which `wfRaw` is `wf` and `canon g` the identity.
-/

namespace Martian.FormatCallText
open Martian.Lexer (Bytes)
open Martian.FormatExp Martian.FormatCall Martian.FormatCall2

/-- formatting what was read from an accepted text: with the round trip, `canon` fixing the normal
form and the normal form printing as before, one formatting step reaches a fixed point -/
theorem accepted_fixed {α : Type} {parse : Bytes → Option α} {canon norm : α → α} {fmt : α → Bytes} {x : α}
    (hrt : parse (fmt x) = some (norm x)) (hfix : canon (norm x) = norm x) (hidem : fmt (norm x) = fmt x) :
    (parse (fmt x)).map canon = some (norm x) ∧ fmt (norm x) = fmt x ∧
      (parse (fmt (norm x))).map canon = some (norm x) := by
  have h1 : (parse (fmt x)).map canon = some (norm x) := by rw [hrt, Option.map_some, hfix]
  exact ⟨h1, hidem, by rw [hidem]; exact h1⟩

theorem canon_ref (g : Bytes → Bytes) (e : Exp) (h : isRefE e = true) : canon g e = e := by
  cases e <;> simp [isRefE] at h <;> simp [canon]

theorem canon_bool (g : Bytes → Bytes) (e : Exp) (h : isBoolE e = true) : canon g e = e := by
  cases e <;> simp [isBoolE] at h <;> simp [canon]

theorem isRefE_and_wfRaw (e : Exp) : (isRefE e && wfRaw e) = (isRefE e && wf e) := by
  cases e <;> simp [isRefE, wf, wfRaw]

theorem wfWildOptRaw_eq (w : Option Exp) : wfWildOptRaw w = wfWildOpt w := by
  cases w with
  | none => rfl
  | some e => simp only [wfWildOptRaw, wfWildRaw, wfWildOpt, wfWild, isRefE_and_wfRaw]

theorem wfModRaw_eq : wfModRaw = wfMod := by
  funext kv
  simp only [wfModRaw, wfMod, Bool.and_assoc, isRefE_and_wfRaw]

theorem wfPRetainRaw_eq (rs : List Exp) : wfPRetainRaw rs = wfPRetain rs := by
  simp only [wfPRetainRaw, wfPRetain, isRefE_and_wfRaw]

theorem canonWild_wf (g : Bytes → Bytes) (w : Option Exp) (h : wfWildOpt w = true) :
    w.map (canon g) = w := by
  cases w with
  | none => rfl
  | some e =>
    simp only [wfWildOpt, wfWild, Bool.or_eq_true, Bool.and_eq_true] at h
    rw [Option.map_some, canon_ref g e (h.elim (fun hb => isBareSelf_eq hb ▸ rfl) (·.1))]

theorem canonMod_wf (g : Bytes → Bytes) (kv : Bytes × Exp) (h : wfMod kv = true) : canonMod g kv = kv := by
  simp only [wfMod, Bool.or_eq_true, Bool.and_eq_true] at h
  obtain ⟨k, v⟩ := kv
  rcases h with h | h
  · rw [canonMod, canon_bool g v h.2]
  · rw [canonMod, canon_ref g v h.1.2]

theorem map_canonMod_wf (g : Bytes → Bytes) (l : List (Bytes × Exp)) (h : l.all wfMod = true) :
    l.map (canonMod g) = l :=
  Proofs.ListFacts.map_eq_self fun kv hkv => canonMod_wf g kv (List.all_eq_true.mp h kv hkv)

theorem canonMods_norm (g : Bytes → Bytes) (m : Mods) (h : wfMods m = true) :
    canonMods g (normMods m) = normMods m := by
  simp only [canonMods, normMods, map_canonMod_wf g _ (modList_wf m h).1]

theorem map_canon_refs (g : Bytes → Bytes) (rs : List Exp) (h : wfPRetain rs = true) :
    rs.map (canon g) = rs := by
  refine Proofs.ListFacts.map_eq_self fun e he => canon_ref g e ?_
  have := List.all_eq_true.mp h e he
  simp only [Bool.and_eq_true] at this
  exact this.1

theorem canonRetain_raw (g : Bytes → Bytes) (rt : Option (List Exp))
    (h : (match rt with | some rs => wfPRetainRaw rs | none => true) = true) :
    rt.map (List.map (canon g)) = rt := by
  cases rt with
  | none => rfl
  | some rs => rw [Option.map_some, map_canon_refs g rs (wfPRetainRaw_eq rs ▸ h)]

theorem isSplitVal_canon (g : Bytes → Bytes) (e : Exp) : isSplitVal (canon g e) = isSplitVal e := by
  cases e with
  | arr xs => cases xs <;> simp [canon, canonL, isSplitVal]
  | map kvs =>
    cases kvs with
    | nil => simp [canon, canonKV, isSplitVal]
    | cons kv r => obtain ⟨k, v⟩ := kv; simp [canon, canonKV, isSplitVal]
  | _ => simp [canon, isSplitVal]

theorem wfBind_canon (g : Bytes → Bytes) (hg : GOK g) (b : Bind) (hr : wfBindRaw b = true)
    (hs : strsValid (canon g b.exp) = true) (hz : noNegZero (canon g b.exp) = true) :
    wfBind (canonBind g b) = true := by
  simp only [wfBindRaw, Bool.and_eq_true] at hr
  simp only [wfBind, canonBind, Bool.and_eq_true, isSplitVal_canon]
  exact ⟨⟨hr.1.1, wf_canon g hg b.exp hr.1.2 hs hz⟩, hr.2⟩

theorem all_wfBind_canon (g : Bytes → Bytes) (hg : GOK g) (bs : List Bind) (hr : bs.all wfBindRaw = true)
    (hs : bindsStrsValid (bs.map (canonBind g)) = true)
    (hz : bindsNoNegZero (bs.map (canonBind g)) = true) :
    (bs.map (canonBind g)).all wfBind = true := by
  simp only [bindsStrsValid, bindsNoNegZero, List.all_map, List.all_eq_true] at hr hs hz ⊢
  exact fun b hb => wfBind_canon g hg b (hr b hb) (hs b hb) (hz b hb)

theorem all_nosplit_canon (g : Bytes → Bytes) (bs : List Bind) :
    (bs.map (canonBind g)).all (fun b => !b.split) = bs.all (fun b => !b.split) := by
  rw [List.all_map]; rfl

theorem map_canonBind_norm_fixed (g : Bytes → Bytes) (hg : GOK g) (bs : List Bind)
    (hr : bs.all wfBindRaw = true) (hw : (bs.map (canonBind g)).all wfBind = true) :
    ((bs.map (canonBind g)).map normBind).map (canonBind g) = (bs.map (canonBind g)).map normBind := by
  simp only [List.map_map]
  refine List.map_congr_left fun b hb => ?_
  have hr := List.all_eq_true.mp hr b hb
  have hw := List.all_eq_true.mp hw _ (List.mem_map_of_mem hb)
  simp only [wfBindRaw, wfBind, canonBind, Bool.and_eq_true] at hr hw
  simp only [Function.comp, canonBind, normBind, canon_norm_fixed g hg b.exp hr.1.2 hw.1.2]

theorem wfCall_canon (g : Bytes → Bytes) (hg : GOK g) (c : Call) (hr : wfCallRaw c = true)
    (hs : callStrsValid (canonCall g c) = true) (hz : callNoNegZero (canonCall g c) = true) :
    wfCall (canonCall g c) = true := by
  simp only [wfCallRaw, Bool.and_eq_true] at hr
  simp only [wfCall, canonCall, Bool.and_eq_true]
  exact ⟨⟨hr.1.1, hr.1.2⟩, all_wfBind_canon g hg c.binds hr.2 hs hz⟩

theorem canonCall_norm_fixed (g : Bytes → Bytes) (hg : GOK g) (c : Call) (hr : wfCallRaw c = true)
    (hw : wfCall (canonCall g c) = true) :
    canonCall g (normCall (canonCall g c)) = normCall (canonCall g c) := by
  simp only [wfCallRaw, Bool.and_eq_true] at hr
  simp only [wfCall, canonCall, Bool.and_eq_true] at hw
  simp only [canonCall, normCall, map_canonBind_norm_fixed g hg c.binds hr.2 hw.2]

/-- what the parser holds for an accepted modifier-less call is well formed, up to F6b and F26 -/
theorem parseCallG_wf (g : Bytes → Bytes) (hg : GOK g) (src : Bytes) (c : Call)
    (h : parseCallG g src = some c) (hs : callStrsValid c = true) (hz : callNoNegZero c = true) :
    wfCall c = true := by
  obtain ⟨c0, h0, rfl⟩ := Option.map_eq_some_iff.mp h
  exact wfCall_canon g hg c0 (parseCall_range src c0 h0) hs hz

theorem format_accepted_call (g : Bytes → Bytes) (hg : GOK g) (src : Bytes) (c : Call)
    (h : parseCallG g src = some c) (hs : callStrsValid c = true) (hz : callNoNegZero c = true) :
    parseCallG g (fmtCall c) = some (normCall c) ∧ fmtCall (normCall c) = fmtCall c ∧
      parseCallG g (fmtCall (normCall c)) = some (normCall c) := by
  obtain ⟨c0, h0, rfl⟩ := Option.map_eq_some_iff.mp h
  have hr := parseCall_range src c0 h0
  have hw := wfCall_canon g hg c0 hr hs hz
  exact accepted_fixed (parseCall_fmtCall _ hw) (canonCall_norm_fixed g hg c0 hr hw) (fmtCall_norm _ hw)

theorem wfCall2_canon (g : Bytes → Bytes) (hg : GOK g) (c : Call2) (hr : wfCall2Raw c = true)
    (hs : call2StrsValid (canonCall2 g c) = true) (hz : call2NoNegZero (canonCall2 g c) = true)
    (hd : modsDistinct (canonCall2 g c) = true) : wfCall2 (canonCall2 g c) = true := by
  simp only [wfCall2Raw, wfWildOptRaw_eq, wfModRaw_eq, Bool.and_eq_true] at hr
  have hm : canonMods g c.mods = c.mods := by rw [canonMods, map_canonMod_wf g _ hr.2]
  simp only [modsDistinct, canonCall2, hm] at hd
  simp only [wfCall2, canonCall2, Bool.and_eq_true, canonWild_wf g c.wildcard hr.1.2, hm, wfMods]
  exact ⟨⟨⟨⟨hr.1.1.1.1, hr.1.1.1.2⟩, all_wfBind_canon g hg c.binds hr.1.1.2 hs hz⟩, hr.1.2⟩, hr.2, hd⟩

/-- `canonCall2 g` changes nothing in the normal form of the call -/
def FixCall (g : Bytes → Bytes) (c : Call2) : Prop := canonCall2 g (normCall2 c) = normCall2 c

theorem fixCall_canon (g : Bytes → Bytes) (hg : GOK g) (c : Call2) (hr : wfCall2Raw c = true)
    (hw : wfCall2 (canonCall2 g c) = true) : FixCall g (canonCall2 g c) := by
  simp only [wfCall2Raw, Bool.and_eq_true] at hr
  simp only [wfCall2, canonCall2, Bool.and_eq_true] at hw
  simp only [FixCall, canonCall2, normCall2]
  rw [map_canonBind_norm_fixed g hg c.binds hr.1.1.2 hw.1.1.2, canonWild_wf g _ hw.1.2,
    canonMods_norm g _ hw.2]

theorem format_accepted_call2 (g : Bytes → Bytes) (hg : GOK g) (src : Bytes) (c : Call2)
    (h : parseCall2G g src = some c) (hs : call2StrsValid c = true) (hz : call2NoNegZero c = true)
    (hd : modsDistinct c = true) :
    parseCall2G g (fmtCall2 [] c) = some (normCall2 c) ∧ fmtCall2 [] (normCall2 c) = fmtCall2 [] c ∧
      parseCall2G g (fmtCall2 [] (normCall2 c)) = some (normCall2 c) := by
  obtain ⟨c0, h0, rfl⟩ := Option.map_eq_some_iff.mp h
  have hr := parseCall2_range src c0 h0
  have hw := wfCall2_canon g hg c0 hr hs hz hd
  exact accepted_fixed (parseCall2_fmtCall2 _ hw) (fixCall_canon g hg c0 hr hw) (fmtCall2_norm [] _ hw)

theorem wfRet_canon (g : Bytes → Bytes) (hg : GOK g) (r : Ret) (hr : wfRetRaw r = true)
    (hs : retStrsValid (canonRet g r) = true) (hz : retNoNegZero (canonRet g r) = true) :
    wfRet (canonRet g r) = true := by
  simp only [wfRetRaw, wfWildOptRaw_eq, Bool.and_eq_true] at hr
  simp only [wfRet, canonRet, Bool.and_eq_true, canonWild_wf g r.wildcard hr.2, all_nosplit_canon]
  exact ⟨⟨all_wfBind_canon g hg r.binds hr.1.1 hs hz, hr.1.2⟩, hr.2⟩

theorem canonRet_norm_fixed (g : Bytes → Bytes) (hg : GOK g) (r : Ret) (hr : wfRetRaw r = true)
    (hw : wfRet (canonRet g r) = true) :
    canonRet g (normRet (canonRet g r)) = normRet (canonRet g r) := by
  simp only [wfRetRaw, Bool.and_eq_true] at hr
  simp only [wfRet, canonRet, Bool.and_eq_true] at hw
  simp only [canonRet, normRet, map_canonBind_norm_fixed g hg r.binds hr.1.1 hw.1.1, canonWild_wf g _ hw.2]

theorem wfBody_canon (g : Bytes → Bytes) (hg : GOK g) (b : Body) (hr : wfBodyRaw b = true)
    (hs : bodyStrsValid (canonBody g b) = true) (hz : bodyNoNegZero (canonBody g b) = true)
    (hd : bodyModsDistinct (canonBody g b) = true) : wfBody (canonBody g b) = true := by
  simp only [wfBodyRaw, Bool.and_eq_true] at hr
  simp only [bodyStrsValid, bodyNoNegZero, canonBody, Bool.and_eq_true] at hs hz
  simp only [bodyModsDistinct, canonBody] at hd
  simp only [wfBody, canonBody, Bool.and_eq_true, canonRetain_raw g b.retain hr.2]
  refine ⟨⟨?_, wfRet_canon g hg b.ret hr.1.2 hs.2 hz.2⟩, ?_⟩
  · have hr1 := hr.1.1
    have hs1 := hs.1
    have hz1 := hz.1
    simp only [List.all_map, List.all_eq_true] at hr1 hs1 hz1 hd ⊢
    exact fun c hc => wfCall2_canon g hg c (hr1 c hc) (hs1 c hc) (hz1 c hc) (hd c hc)
  · have h2 := hr.2
    cases hrt : b.retain with
    | none => rfl
    | some rs => rw [hrt] at h2; exact (wfPRetainRaw_eq rs).symm.trans h2

/-- every call of `canonBody g b` is fixed in normal form -/
theorem fixCall_body (g : Bytes → Bytes) (hg : GOK g) (b : Body) (hr : wfBodyRaw b = true)
    (hw : wfBody (canonBody g b) = true) : ∀ c ∈ (canonBody g b).calls, FixCall g c := by
  intro c hc
  simp only [canonBody, List.mem_map] at hc
  obtain ⟨c0, hc0, rfl⟩ := hc
  simp only [wfBodyRaw, Bool.and_eq_true] at hr
  simp only [wfBody, canonBody, Bool.and_eq_true] at hw
  exact fixCall_canon g hg c0 (List.all_eq_true.mp hr.1.1 c0 hc0)
    (List.all_eq_true.mp hw.1.1 _ (List.mem_map_of_mem hc0))

end Martian.FormatCallText
