import Martian.Sched

/-! Lemmas about the `Sched` transition system.  What a step is, so that no other module has to
unfold `enabled` or `apply` (Proofs/SchedRun.lean evaluates them by `rfl` at the guard-less `stepend`): each guard once (`en_*`, `launchOk_iff`, `mrpWriteOk_iff`:
equivalences, except the implications `en_U`, `en_restart`, `en_crash`, `en_fork` and `en_mkchunks`,
which keeps of the chunk-definition guard what the invariants use; `en_mkchunks_normal` is that
guard in the normal phase, in full; `stepend` and `killed` have no guard); what each event changes, field by field (`apply_*`, and for the fields indexed
by node or fork `nch_step`, `forksOf_step`, `cachedOf_step`, `phase_step`), and in the metadata of
one object (`MetaStep`); where a sentinel file can come from (`disk_origin`), which sentinels never
disappear.  Then the per-object invariants (`ObjInv`, `RoleObj`), the submission history
(`LaunchInv`) and `ForkRange`, which hold in every reachable state of either reset mode
(`BaseInv`).  At the head of the file the map / set algebra and the `metaState_*` lemmas; `mem_alive_apply`; the `st_*` lemmas on the
state of an object (`st_failed_mono`); at the end `reachFull_inv`, `replayFrom_inv` (the induction along a replay),
`replay_reach`, `reach_of_match`. -/
namespace Martian.Sched

theorem aget_aset {κ α} [DecidableEq κ] (d : α) (m : List (κ × α)) (k k' : κ) (v : α) :
    aget d (aset m k v) k' = if k = k' then v else aget d m k' := by
  induction m with
  | nil => simp [aset, aget]
  | cons p r ih =>
    obtain ⟨a, b⟩ := p
    by_cases h : a = k
    · subst h
      by_cases h2 : a = k' <;> simp [aset, aget, h2]
    · by_cases h2 : a = k'
      · subst h2
        have : ¬ k = a := fun e => h e.symm
        simp [aset, aget, h, this]
      · simp [aset, aget, h, h2, ih]

theorem aget_amap {κ α} [DecidableEq κ] (d : α) (f : α → α) (hf : f d = d)
    (m : List (κ × α)) (k : κ) : aget d (amap f m) k = f (aget d m k) := by
  induction m with
  | nil => simp [amap, aget, hf]
  | cons p r ih =>
    obtain ⟨a, b⟩ := p
    by_cases h : a = k
    · simp [amap, aget, h]
    · simp only [amap, List.map_cons, aget, h, if_false]
      exact ih

theorem has_add (s : SSet) (x y : Sentinel) : (s.add x).has y = (decide (x = y) || s.has y) := by
  cases x <;> cases y <;> rfl

theorem has_del (s : SSet) (x y : Sentinel) : (s.del x).has y = (!decide (x = y) && s.has y) := by
  cases x <;> cases y <;> rfl

@[simp] theorem has_empty (y : Sentinel) : ({} : SSet).has y = false := by cases y <;> rfl

theorem add_of_has (x : SSet) (y : Sentinel) (h : x.has y = true) : x.add y = x := by
  cases y <;> simp only [SSet.has] at h <;> simp [SSet.add, ← h]

theorem metaState_eq (x : SSet) : metaState x =
    if x.has .errors then some .failed
    else if x.has .assert then some .failed
    else if x.has .complete then some .complete
    else if x.has .disabled then some .disabled
    else if x.has .log then some .running
    else if x.has .jobinfo then some .queued
    else none := rfl

theorem ite_some_eq_none {α} {c : Prop} [Decidable c] {a : α} {b : Option α} :
    (if c then some a else b) = none ↔ ¬ c ∧ b = none := by
  split <;> simp [*]

theorem ite_some_eq_some {α} {c : Prop} [Decidable c] {a v : α} {b : Option α} :
    (if c then some a else b) = some v ↔ (c ∧ a = v) ∨ (¬ c ∧ b = some v) := by
  split <;> simp [*]

theorem metaState_failed {x : SSet} : metaState x = some .failed ↔
    (x.has .errors = true ∨ x.has .assert = true) := by
  simp only [metaState_eq, ite_some_eq_some, Bool.not_eq_true, reduceCtorEq, and_false, or_false,
    and_true]
  cases x.has .errors <;> simp

theorem metaState_has_failed {x : SSet} (h : metaState x = some .failed) :
    x.has .errors = true ∨ x.has .assert = true := metaState_failed.mp h

theorem metaState_clean {x : SSet} (h1 : x.has .errors = false) (h2 : x.has .assert = false) :
    metaState x =
      if x.has .complete then some .complete
      else if x.has .disabled then some .disabled
      else if x.has .log then some .running
      else if x.has .jobinfo then some .queued
      else none := by
  rw [metaState_eq, h1, h2]; rfl

theorem metaState_none {x : SSet} (h : metaState x = none) :
    x.has .errors = false ∧ x.has .assert = false ∧ x.has .complete = false ∧
    x.has .disabled = false ∧ x.has .log = false ∧ x.has .jobinfo = false := by
  simpa only [metaState_eq, ite_some_eq_none, Bool.not_eq_true, and_true] using h

theorem metaState_complete {x : SSet} (h : metaState x = some .complete) :
    x.has .errors = false ∧ x.has .assert = false ∧ x.has .complete = true := by
  simp only [metaState_eq, ite_some_eq_some, Bool.not_eq_true, reduceCtorEq, and_false, false_or,
    and_true, or_false] at h
  exact h

theorem metaState_disabled {x : SSet} (h : metaState x = some .disabled) :
    x.has .errors = false ∧ x.has .assert = false ∧ x.has .disabled = true := by
  simp only [metaState_eq, ite_some_eq_some, Bool.not_eq_true, reduceCtorEq, and_false, false_or,
    and_true, or_false] at h
  exact ⟨h.1, h.2.1, h.2.2.2⟩

theorem metaState_ne_none {x : SSet} {y : Sentinel} (hy : y = .jobinfo ∨ y = .complete)
    (h : x.has y = true) : metaState x ≠ none := by
  intro hn
  obtain ⟨_, _, a, _, _, b⟩ := metaState_none hn
  rcases hy with rfl | rfl <;> simp_all

@[simp] theorem apply_nodes (s : State) (e : Ev) : (apply s e).nodes = s.nodes := by
  cases e <;> rfl

@[simp] theorem apply_kind (s : State) (e : Ev) (n : Nat) : (apply s e).kind n = s.kind n := by
  simp [State.kind]

@[simp] theorem apply_pre (s : State) (e : Ev) (n : Nat) : (apply s e).pre n = s.pre n := by
  simp [State.pre]

@[simp] theorem apply_full (s : State) (e : Ev) : (apply s e).full = s.full := by
  cases e <;> rfl

theorem updMeta_m (s : State) (o o' : Obj) (f : Meta → Meta) :
    (s.updMeta o f).m o' = if o = o' then f (s.m o) else s.m o' := by
  simp [State.updMeta, State.m, aget_aset]

theorem apply_m (s : State) (e : Ev) (o' : Obj) : (apply s e).m o' =
    match e with
    | .W o x => if o = o' then put x (s.m o) else s.m o'
    | .R o x => if o = o' then see x (s.m o) else s.m o'
    | .D o x => if o = o' then see x (s.m o) else s.m o'
    | .U o _ => if o = o' then unq (s.m o) else s.m o'
    | .launch o => if o = o' then put .queuedLocally (put .jobinfo (s.m o)) else s.m o'
    | .joblog o => if o = o' then toDisk .log (s.m o) else s.m o'
    | .jobend o x => if o = o' then toDisk x (s.m o) else s.m o'
    | .silentfail o => if o = o' then put .errors (s.m o) else s.m o'
    | .reset o => if o = o' then {} else s.m o'
    | .restart => reload (s.m o')
    | _ => s.m o' := by
  cases e
  case restart => exact aget_amap _ _ rfl _ _
  case launch o => exact updMeta_m s o o' fun m => put .queuedLocally (put .jobinfo m)
  case reset o => exact updMeta_m s o o' fun _ => {}
  all_goals first | rfl | exact updMeta_m _ _ _ _

theorem apply_launches (s : State) (e : Ev) : (apply s e).launches =
    match e with
    | .launch o => (o, s.inc) :: s.launches
    | _ => s.launches := by cases e <;> rfl

theorem apply_resets (s : State) (e : Ev) : (apply s e).resets =
    match e with
    | .reset o => (o, s.inc) :: s.resets
    | _ => s.resets := by cases e <;> rfl

theorem apply_inc (s : State) (e : Ev) : (apply s e).inc =
    match e with
    | .restart => s.inc + 1
    | _ => s.inc := by cases e <;> rfl

theorem apply_phase (s : State) (e : Ev) : (apply s e).phase =
    match e with
    | .restart => .loading
    | .crash => .crashed
    | .refresh => .normal
    | _ => s.phase := by cases e <;> rfl

theorem apply_alive (s : State) (e : Ev) : (apply s e).alive =
    match e with
    | .launch o => o :: s.alive.filter (· != o)
    | .jobend o _ => s.alive.filter (· != o)
    | .silentfail o => s.alive.filter (· != o)
    | .killed o => s.alive.filter (· != o)
    | .reset o => s.alive.filter (· != o)
    | _ => s.alive := by cases e <;> rfl

theorem apply_reopened (s : State) (e : Ev) : (apply s e).reopened =
    match e with
    | .fork n _ => s.reopened || (s.phase == .loading && s.inc != 0 && nodeDone s n)
    | _ => s.reopened := by cases e <;> rfl

theorem restart_wipedAtLoad (s : State) : (apply s .restart).wipedAtLoad =
    (List.range s.nodes.length).filter fun n =>
      nodeState (apply s .restart) n == .failed || nodeState (apply s .restart) n == .running :=
  rfl

theorem apply_reopened_false {s : State} {e : Ev}
    (h : (apply s e).reopened = false) : s.reopened = false := by
  rw [apply_reopened] at h
  cases e <;> simp_all

theorem apply_forksOf (s : State) (e : Ev) (n : Nat) : (apply s e).forksOf n =
    match e with
    | .fork n' f => if n' = n then s.forksOf n' ++ [f] else s.forksOf n
    | .forkorder n' l => if n' = n then l else s.forksOf n
    | _ => s.forksOf n := by
  cases e <;> first | rfl | exact aget_aset ..

theorem apply_cachedOf (s : State) (e : Ev) (n : Nat) : (apply s e).cachedOf n =
    match e with
    | .nodestate n' st => if n' = n then st else s.cachedOf n
    | _ => s.cachedOf n := by
  cases e <;> first | rfl | exact aget_aset ..

theorem apply_nch (s : State) (e : Ev) (n f : Nat) : (apply s e).nch n f =
    match e with
    | .mkchunks n' f' k => if (n', f') = (n, f) then k else s.nch n f
    | _ => s.nch n f := by
  cases e <;> first | rfl | exact aget_aset ..

theorem nch_step (s : State) (e : Ev) (n f : Nat) :
    (apply s e).nch n f = s.nch n f ∨ e = .mkchunks n f ((apply s e).nch n f) := by
  rw [apply_nch]
  cases e <;> simp only [true_or]
  split
  · rename_i h; cases h; exact .inr rfl
  · exact .inl rfl

theorem forksOf_step (s : State) (e : Ev) (n : Nat) :
    (apply s e).forksOf n = s.forksOf n ∨
    (∃ f, e = .fork n f ∧ (apply s e).forksOf n = s.forksOf n ++ [f]) ∨
    ∃ l, e = .forkorder n l ∧ (apply s e).forksOf n = l := by
  rw [apply_forksOf]
  cases e <;> simp only [true_or] <;> split <;> simp_all

theorem cachedOf_step (s : State) (e : Ev) (n : Nat) :
    (apply s e).cachedOf n = s.cachedOf n ∨ e = .nodestate n ((apply s e).cachedOf n) := by
  rw [apply_cachedOf]
  cases e <;> simp only [true_or]
  split
  · rename_i h; cases h; exact .inr rfl
  · exact .inl rfl

theorem phase_step (s : State) (e : Ev) :
    (apply s e).phase = s.phase ∨ (e = .restart ∧ (apply s e).phase = .loading) ∨
    (e = .crash ∧ (apply s e).phase = .crashed) ∨ (e = .refresh ∧ (apply s e).phase = .normal) := by
  cases e <;> simp [apply_phase]

theorem mem_alive_apply {s : State} {e : Ev} {o : Obj} : o ∈ (apply s e).alive ↔
    e = .launch o ∨ (o ∈ s.alive ∧ (∀ x, e ≠ .jobend o x) ∧ e ≠ .silentfail o ∧
      e ≠ .killed o ∧ e ≠ .reset o) := by
  rw [apply_alive]
  cases e <;> simp only [List.mem_cons, List.mem_filter, bne_iff_ne, ne_eq]
  case launch o' => by_cases h : o = o' <;> simp [h, eq_comm]
  all_goals simp [eq_comm]

theorem en_W {s : State} {o x} : enabled s (.W o x) = true ↔
    s.phase ≠ .crashed ∧ s.hasObj o = true ∧ ((s.m o).disk.has x = true ∨ mrpWriteOk s o x = true) := by
  simp [enabled, guards]

theorem en_R {s : State} {o x} : enabled s (.R o x) = true ↔
    s.phase ≠ .crashed ∧ s.hasObj o = true ∧ (s.m o).disk.has x = true := by
  simp [enabled, guards]

theorem en_D {s : State} {o x} : enabled s (.D o x) = true ↔
    s.phase ≠ .crashed ∧ s.hasObj o = true ∧ (s.m o).disk.has x = true := by
  simp [enabled, guards]

theorem en_U {s : State} {o x} (h : enabled s (.U o x) = true) : x = .queuedLocally := by
  simpa [enabled, guards] using h

theorem en_launch {s : State} {o} : enabled s (.launch o) = true ↔ launchOk s o = true := by
  simp [enabled, guards]

theorem en_joblog {s : State} {o} : enabled s (.joblog o) = true ↔
    o.r.isJob = true ∧ (s.m o).disk.has .jobinfo = true ∧ o ∈ s.alive := by
  simp [enabled, guards, SSet.has]

theorem en_jobend {s : State} {o x} : enabled s (.jobend o x) = true ↔
    o.r.isJob = true ∧ (x = .complete ∨ x = .errors ∨ x = .assert) ∧
    (s.m o).disk.has .jobinfo = true ∧ (s.m o).disk.has .log = true ∧
    (s.m o).disk.has .complete = false ∧ (s.m o).disk.has .assert = false ∧ o ∈ s.alive := by
  simp [enabled, guards, SSet.has, and_assoc, or_assoc]

theorem en_silentfail {s : State} {o} : enabled s (.silentfail o) = true ↔
    s.phase ≠ .crashed ∧ o.r.isJob = true ∧ (s.m o).disk.has .jobinfo = true ∧ o ∈ s.alive := by
  simp [enabled, guards, SSet.has]

/-- the restart-time reset: `Node.reset` of a wiped node (FullStageReset), else `checkedReset` /
`restartLocal` / `restartQueuedLocal` of a job object -/
theorem en_reset {s : State} {o} : enabled s (.reset o) = true ↔
    s.phase = .loading ∧
    if s.full = true then o.n ∈ s.wipedAtLoad
    else o.r.isJob = true ∧ (s.dst o = some .failed ∨ s.dst o = some .queued ∨
      (s.dst o = some .running ∧ o ∉ s.alive) ∨
      ((s.m o).disk.has .queuedLocally = true ∧ s.dst o ≠ some .complete)) := by
  simp only [enabled, guards, resetOk, List.all_cons, List.all_nil, Bool.and_true]
  cases s.full <;> simp [SSet.has, or_assoc]

theorem reset_isJob {s : State} {o : Obj} (hfull : s.full = false)
    (hen : enabled s (.reset o) = true) : o.r.isJob = true := by
  have := (en_reset.mp hen).2
  rw [hfull] at this
  exact this.1

theorem en_fork {s : State} {n f} (h : enabled s (.fork n f) = true) :
    s.phase ≠ .crashed ∧ n < s.nodes.length ∧ (s.forksOf n).contains f = false ∧
    (s.phase = .normal → nodeDone s n = false ∧ s.cachedOf n ≠ .running) := by
  simp [enabled, guards] at h
  obtain ⟨a, b, c, d⟩ := h
  exact ⟨a, b, by simpa using c, fun hp => d.resolve_left (fun h => h hp)⟩

theorem en_forkorder {s : State} {n l} : enabled s (.forkorder n l) = true ↔
    s.phase = .loading ∧ isSubNodup l (s.forksOf n) = true ∧
    ∀ f ∈ s.forksOf n, f ∈ l ∨ forkEmpty s n f = true := by
  simp [enabled, guards]

theorem en_mkchunks {s : State} {n f k : Nat} (hen : enabled s (.mkchunks n f k) = true) :
    s.phase ≠ .crashed ∧ s.hasObj ⟨n, f, .fork⟩ = true ∧
    ((s.phase = .normal ∧ s.nch n f = 0 ∧ 0 < k ∧ s.st ⟨n, f, .join⟩ = none) ∨
     (s.phase ≠ .normal ∧ (∀ i, i < s.nch n f → i < k ∨ (s.m ⟨n, f, .chunk i⟩).disk = {}) ∧
      (k ≤ s.nch n f ∨ ((s.m ⟨n, f, .join⟩).disk.has .jobinfo = false ∧
        (s.m ⟨n, f, .join⟩).disk.has .complete = false)))) := by
  simp only [enabled, guards, List.all_cons, List.all_nil, Bool.and_true, Bool.and_eq_true,
    Bool.or_eq_true, bne_iff_ne, ne_eq, beq_iff_eq, decide_eq_true_eq, List.all_eq_true,
    List.mem_range, Bool.not_eq_true', SSet.has] at hen ⊢
  obtain ⟨hc, ho, _, hg, hload⟩ := hen
  refine ⟨hc, ho, ?_⟩
  by_cases hp : s.phase = .normal
  · exact Or.inl ⟨hp, (hg.resolve_left (fun h => h hp)).1.1.1.1.1,
      (hg.resolve_left (fun h => h hp)).1.1.1.1.2, (hg.resolve_left (fun h => h hp)).2⟩
  · exact Or.inr ⟨hp, hload.resolve_left hp⟩

/-- in the normal phase: `doChunks` defines the chunks once, when the split is complete -/
theorem en_mkchunks_normal {s : State} {n f k : Nat} (hph : s.phase = .normal) :
    enabled s (.mkchunks n f k) = true ↔
      s.hasObj ⟨n, f, .fork⟩ = true ∧ s.kind n ≠ .pipeline ∧ s.nch n f = 0 ∧ 0 < k ∧
      s.cachedOf n = .running ∧ fmDone s n f = false ∧
      s.st ⟨n, f, .split⟩ = some .complete ∧ s.st ⟨n, f, .join⟩ = none := by
  simp [enabled, guards, hph, and_assoc]

theorem en_nodestate {s : State} {n st} : enabled s (.nodestate n st) = true ↔
    s.phase ≠ .crashed ∧ n < s.nodes.length ∧ st = nodeState s n := by
  simp [enabled, guards]

theorem en_refresh {s : State} : enabled s .refresh = true ↔
    s.phase ≠ .crashed ∧ (s.phase = .loading → allFresh s = true) := by
  simp [enabled, guards, Decidable.imp_iff_not_or]

theorem en_restart {s : State} (h : enabled s .restart = true) : s.phase = .crashed := by
  simpa [enabled, guards] using h

theorem en_crash {s : State} (h : enabled s .crash = true) : s.phase ≠ .crashed := by
  simpa [enabled, guards] using h

theorem allChunksComplete_iff {s : State} {n f : Nat} :
    allChunksComplete s n f = true ↔
      ∀ i, i < s.nch n f → s.st ⟨n, f, .chunk i⟩ = some .complete := by
  simp [allChunksComplete, chunkStates, chunkState, List.all_eq_true]

theorem forkState_ready {s : State} {n f : Nat} (h : forkState s n f = .ready) :
    s.st ⟨n, f, .join⟩ = none ∧ s.st ⟨n, f, .split⟩ = none := by
  unfold forkState forkStateOf at h
  split at h <;> try contradiction
  split at h <;> try contradiction
  refine ⟨by assumption, ?_⟩
  split at h <;> try contradiction
  split at h <;> first | contradiction | assumption

/-- the guard of a job submission: what `Node.step` / `Fork.stepStage` check for every job, and
what `doSplit`, `doChunks` / `Chunk.step`, `doJoin` check for theirs -/
theorem launchOk_iff {s : State} {o : Obj} : launchOk s o = true ↔
    (s.phase = .normal ∧ s.hasObj o = true ∧ s.cachedOf o.n = .running ∧
      (o, s.inc) ∉ s.launches ∧ fmDone s o.n o.f = false) ∧
    match o with
    | ⟨n, f, .split⟩ => s.kind n = .splitstage ∧ forkState s n f = .ready
    | ⟨n, f, .chunk i⟩ => s.kind n ≠ .pipeline ∧ s.st ⟨n, f, .chunk i⟩ = none ∧
        s.st ⟨n, f, .split⟩ = some .complete ∧ s.st ⟨n, f, .join⟩ = none
    | ⟨n, f, .join⟩ => s.kind n = .splitstage ∧ s.st ⟨n, f, .join⟩ = none ∧
        (s.nch n f = 0 → s.st ⟨n, f, .split⟩ = some .complete) ∧
        (s.nch n f ≠ 0 → allChunksComplete s n f = true)
    | ⟨_, _, .fork⟩ => False := by
  unfold launchOk
  obtain ⟨n, f, r⟩ := o
  cases r <;> simp [and_assoc]
  by_cases hz : s.nch n f = 0 <;> simp [hz]

theorem launchOk_common {s : State} {o : Obj} (h : launchOk s o = true) :
    s.phase = .normal ∧ s.hasObj o = true ∧ s.cachedOf o.n = .running ∧
    (o, s.inc) ∉ s.launches ∧ fmDone s o.n o.f = false :=
  (launchOk_iff.mp h).1

/-- the guard of mrp's own writes, row by row: `_errors` (the `writeError` sites), the stubs of
`doSplit` / `doJoin`, `doComplete` / `stepPipeline`, `writeDisable` -/
theorem mrpWriteOk_iff {s : State} {o : Obj} {x : Sentinel} : mrpWriteOk s o x = true ↔
    match x, o with
    | .errors, ⟨n, f, .fork⟩ => fmDone s n f = false
    | .errors, ⟨n, f, .join⟩ => fmDone s n f = false
    | .errors, ⟨n, f, .split⟩ => fmDone s n f = false ∧ s.st ⟨n, f, .join⟩ = none ∧
        ∀ i, i < s.nch n f → (s.m ⟨n, f, .chunk i⟩).disk.has .jobinfo = false
    | .errors, ⟨n, f, .chunk _⟩ => fmDone s n f = false ∧ s.st ⟨n, f, .join⟩ = none
    | .complete, ⟨n, f, .split⟩ => s.phase = .normal ∧ s.kind n = .stage ∧
        s.cachedOf n = .running ∧ forkState s n f = .ready
    | .complete, ⟨n, f, .join⟩ => s.phase = .normal ∧ s.kind n = .stage ∧
        s.cachedOf n = .running ∧ fmDone s n f = false ∧ s.st ⟨n, f, .join⟩ = none ∧
        0 < s.nch n f ∧ allChunksComplete s n f = true
    | .complete, ⟨n, f, .fork⟩ => s.phase = .normal ∧ s.cachedOf n = .running ∧
        fmDone s n f = false ∧ (s.kind n = .pipeline ∨ s.st ⟨n, f, .join⟩ = some .complete)
    | .disabled, ⟨n, f, .fork⟩ => s.kind n = .pipeline ∨ forkState s n f = .ready
    | _, _ => False := by
  unfold mrpWriteOk
  obtain ⟨n, f, r⟩ := o
  cases x <;> cases r <;> simp [and_assoc, SSet.has]

/-- objects that are run as jobs: every chunk; split and join of a splitting stage -/
def jobObj (k : Kind) : Role → Bool
  | .chunk _ => true
  | .split => k == .splitstage
  | .join => k == .splitstage
  | .fork => false

theorem mrpWriteOk_cases {s : State} {o : Obj} {x : Sentinel} (h : mrpWriteOk s o x = true) :
    x = .errors ∨
      (jobObj (s.kind o.n) o.r = false ∧ (x = .complete ∨ (x = .disabled ∧ o.r = .fork))) := by
  have := mrpWriteOk_iff.mp h
  obtain ⟨n, f, r⟩ := o
  cases x <;> cases r <;> first | exact this.elim | simp [jobObj, this.2.1] | simp [jobObj]

theorem mrpWriteOk_complete {s : State} {o : Obj} (h : mrpWriteOk s o .complete = true) :
    s.phase = .normal ∧ s.cachedOf o.n = .running ∧ jobObj (s.kind o.n) o.r = false ∧
    (o.r ≠ .fork → s.st o = none) := by
  have h' := mrpWriteOk_iff.mp h
  obtain ⟨n, f, r⟩ := o
  cases r with
  | split =>
    obtain ⟨a, b, c, d⟩ := h'
    exact ⟨a, c, by simp [jobObj, b], fun _ => (forkState_ready d).2⟩
  | chunk i => exact h'.elim
  | join =>
    obtain ⟨a, b, c, _, d, _⟩ := h'
    exact ⟨a, c, by simp [jobObj, b], fun _ => d⟩
  | fork =>
    obtain ⟨a, c, _⟩ := h'
    exact ⟨a, c, rfl, fun h => absurd rfl h⟩

theorem launchOk_facts {s : State} {o : Obj} (h : launchOk s o = true) :
    o.r.isJob = true ∧ jobObj (s.kind o.n) o.r = true ∧ s.st o = none := by
  obtain ⟨n, f, r⟩ := o
  cases r with
  | split =>
    obtain ⟨a, b⟩ := (launchOk_iff.mp h).2
    exact ⟨rfl, by simp [jobObj, a], (forkState_ready b).2⟩
  | chunk i => exact ⟨rfl, rfl, (launchOk_iff.mp h).2.2.1⟩
  | join => exact ⟨rfl, by simp [jobObj, (launchOk_iff.mp h).2.1], (launchOk_iff.mp h).2.2.1⟩
  | fork => exact (launchOk_iff.mp h).2.elim

/-- the ways an event changes the metadata of object `o` -/
inductive MetaStep (s : State) (o : Obj) : Ev → Meta → Prop where
  | W (x) : MetaStep s o (.W o x) (put x (s.m o))
  | R (x) : MetaStep s o (.R o x) (see x (s.m o))
  | D (x) : MetaStep s o (.D o x) (see x (s.m o))
  | U (x) : MetaStep s o (.U o x) (unq (s.m o))
  | launch : MetaStep s o (.launch o) (put .queuedLocally (put .jobinfo (s.m o)))
  | joblog : MetaStep s o (.joblog o) (toDisk .log (s.m o))
  | jobend (x) : MetaStep s o (.jobend o x) (toDisk x (s.m o))
  | silentfail : MetaStep s o (.silentfail o) (put .errors (s.m o))
  | reset : MetaStep s o (.reset o) {}
  | restart : MetaStep s o .restart (reload (s.m o))
  | same (e) : MetaStep s o e (s.m o)

theorem metaStep_ite {s : State} {o o' : Obj} {e : Ev} {m : Meta}
    (h : o' = o → MetaStep s o e m) : MetaStep s o e (if o' = o then m else s.m o) := by
  split
  · exact h ‹_›
  · exact .same e

theorem metaStep (s : State) (e : Ev) (o : Obj) : MetaStep s o e ((apply s e).m o) := by
  rw [apply_m]
  cases e with
  | W o' x => exact metaStep_ite fun h => h ▸ .W x
  | R o' x => exact metaStep_ite fun h => h ▸ .R x
  | D o' x => exact metaStep_ite fun h => h ▸ .D x
  | U o' x => exact metaStep_ite fun h => h ▸ .U x
  | launch o' => exact metaStep_ite fun h => h ▸ .launch
  | joblog o' => exact metaStep_ite fun h => h ▸ .joblog
  | jobend o' x => exact metaStep_ite fun h => h ▸ .jobend x
  | silentfail o' => exact metaStep_ite fun h => h ▸ .silentfail
  | reset o' => exact metaStep_ite fun h => h ▸ .reset
  | restart => exact .restart
  | _ => exact .same _

theorem disk_mono {s : State} {e : Ev} {o : Obj} {y : Sentinel}
    (hne : e ≠ .reset o) (hy : y ≠ .queuedLocally)
    (h : (s.m o).disk.has y = true) : ((apply s e).m o).disk.has y = true := by
  have hm := metaStep s e o
  generalize (apply s e).m o = m' at hm ⊢
  cases hm with
  | reset => exact absurd rfl hne
  | _ => simp [put, see, unq, toDisk, reload, has_add, has_del, h, Ne.symm hy]

theorem disk_origin {s : State} {e : Ev} {o : Obj} {y : Sentinel} (hen : enabled s e = true)
    (h0 : (s.m o).disk.has y = false) (h1 : ((apply s e).m o).disk.has y = true) :
    (e = .W o y ∧ mrpWriteOk s o y = true) ∨ e = .jobend o y ∨
    (e = .launch o ∧ (y = .jobinfo ∨ y = .queuedLocally)) ∨ (e = .joblog o ∧ y = .log) ∨
    (e = .silentfail o ∧ y = .errors) := by
  have hm := metaStep s e o
  generalize (apply s e).m o = m' at hm h1
  cases hm with
  | W x =>
    have hx : x = y := by simpa [put, has_add, h0] using h1
    subst hx
    exact .inl ⟨rfl, (en_W.mp hen).2.2.resolve_left (by simp [h0])⟩
  | jobend x =>
    have hx : x = y := by simpa [toDisk, has_add, h0] using h1
    exact .inr (.inl (hx ▸ rfl))
  | launch =>
    simp only [put, has_add, h0, Bool.or_false, Bool.or_eq_true, decide_eq_true_eq] at h1
    exact .inr (.inr (.inl ⟨rfl, h1.symm.imp Eq.symm Eq.symm⟩))
  | joblog =>
    have hy : y = .log := by simpa [toDisk, has_add, h0, eq_comm] using h1
    exact .inr (.inr (.inr (.inl ⟨rfl, hy⟩)))
  | silentfail =>
    have hy : y = .errors := by simpa [put, has_add, h0, eq_comm] using h1
    exact .inr (.inr (.inr (.inr ⟨rfl, hy⟩)))
  | _ => simp [see, unq, reload, has_del, h0] at h1

theorem jobinfo_origin {s : State} {e : Ev} {o : Obj} (hen : enabled s e = true)
    (h0 : (s.m o).disk.has .jobinfo = false) (h1 : ((apply s e).m o).disk.has .jobinfo = true) :
    e = .launch o := by
  rcases disk_origin hen h0 h1 with ⟨_, hw⟩ | he | ⟨he, _⟩ | ⟨_, he⟩ | ⟨_, he⟩
  · exact (mrpWriteOk_iff.mp hw).elim
  · subst he; have := (en_jobend.mp hen).2.1; simp at this
  · exact he
  · cases he
  · cases he

theorem complete_origin {s : State} {e : Ev} {o : Obj} (hen : enabled s e = true)
    (h0 : (s.m o).disk.has .complete = false)
    (h1 : ((apply s e).m o).disk.has .complete = true) :
    e = .jobend o .complete ∨ (e = .W o .complete ∧ mrpWriteOk s o .complete = true) := by
  rcases disk_origin hen h0 h1 with he | he | ⟨_, he⟩ | ⟨_, he⟩ | ⟨_, he⟩
  · exact .inr he
  · exact .inl he
  · rcases he with he | he <;> cases he
  · cases he
  · cases he

theorem assert_origin {s : State} {e : Ev} {o : Obj} (hen : enabled s e = true)
    (h0 : (s.m o).disk.has .assert = false) (h1 : ((apply s e).m o).disk.has .assert = true) :
    e = .jobend o .assert := by
  rcases disk_origin hen h0 h1 with ⟨_, hw⟩ | he | ⟨_, he⟩ | ⟨_, he⟩ | ⟨_, he⟩
  · exact (mrpWriteOk_iff.mp hw).elim
  · exact he
  · rcases he with he | he <;> cases he
  · cases he
  · cases he

theorem errors_origin {s : State} {e : Ev} {o : Obj} (hen : enabled s e = true)
    (h0 : (s.m o).disk.has .errors = false) (h1 : ((apply s e).m o).disk.has .errors = true) :
    (e = .W o .errors ∧ mrpWriteOk s o .errors = true) ∨ e = .silentfail o ∨
    e = .jobend o .errors := by
  rcases disk_origin hen h0 h1 with he | he | ⟨_, he⟩ | ⟨_, he⟩ | ⟨he, _⟩
  · exact .inl he
  · exact .inr (.inr he)
  · rcases he with he | he <;> cases he
  · cases he
  · exact .inr (.inl he)

/-- Invariant of one metadata object.
* the cache is a subset of the directory;
* a fork's own directory is written by mrp only: cache = directory;
* `_jobinfo` on disk is known to mrp;
* a job object has `_log`/`_complete`/`_assert` only if it was submitted (`_jobinfo`);
* `_queued_locally` only in a submitted job object (the job manager removes it when the process has
  started — a separate step, `U`: the job may even have finished meanwhile). -/
structure ObjInv (k : Kind) (r : Role) (m : Meta) : Prop where
  sub : ∀ y, m.seen.has y = true → m.disk.has y = true
  forkEq : r = .fork → ∀ y, m.disk.has y = true → m.seen.has y = true
  ji : m.disk.has .jobinfo = true → m.seen.has .jobinfo = true
  kk : jobObj k r = true →
    (m.disk.has .log = true ∨ m.disk.has .complete = true ∨ m.disk.has .assert = true) →
    m.disk.has .jobinfo = true
  jj : jobObj k r = true → m.disk.has .queuedLocally = true → m.disk.has .jobinfo = true

def ObjsInv (s : State) : Prop := ∀ o : Obj, ObjInv (s.kind o.n) o.r (s.m o)

/-- `_disabled` exists only in a fork's own metadata; an object that is not run as a job
(fork metadata, split/join stubs of a non-splitting stage, everything of a pipeline)
has no `_log`, `_jobinfo`, `_queued_locally` and is written by mrp only (directory ⊆ cache) -/
structure RoleObj (k : Kind) (r : Role) (m : Meta) : Prop where
  dis : r ≠ .fork → m.disk.has .disabled = false
  nj : jobObj k r = false →
    m.disk.has .log = false ∧ m.disk.has .jobinfo = false ∧ m.disk.has .queuedLocally = false ∧
    ∀ y, m.disk.has y = true → m.seen.has y = true

def RoleInv (s : State) : Prop := ∀ o : Obj, RoleObj (s.kind o.n) o.r (s.m o)

theorem objInv_empty (k r) : ObjInv k r {} := by
  constructor <;> simp

theorem roleObj_empty (k r) : RoleObj k r {} := by constructor <;> simp

theorem objRole_see {k r m x} (h : ObjInv k r m ∧ RoleObj k r m) (hx : m.disk.has x = true) :
    ObjInv k r (see x m) ∧ RoleObj k r (see x m) := by
  obtain ⟨⟨h1, h2, h3, h4, h5⟩, r1, r2⟩ := h
  refine ⟨?_, ?_⟩ <;> constructor <;> simp only [see, has_add] <;> grind

/-- mrp finds (poll) or re-states something already on disk, or writes `_errors`, or a stub /
fork-level sentinel (never on a job object) -/
theorem objRole_put {k r m x} (h : ObjInv k r m ∧ RoleObj k r m)
    (hx : m.disk.has x = true ∨ x = .errors ∨
      (jobObj k r = false ∧ (x = .complete ∨ (x = .disabled ∧ r = .fork)))) :
    ObjInv k r (put x m) ∧ RoleObj k r (put x m) := by
  obtain ⟨⟨h1, h2, h3, h4, h5⟩, r1, r2⟩ := h
  refine ⟨?_, ?_⟩ <;> constructor <;> simp only [put, has_add] <;> grind

theorem objRole_unq {k r m} (h : ObjInv k r m ∧ RoleObj k r m) :
    ObjInv k r (unq m) ∧ RoleObj k r (unq m) := by
  obtain ⟨⟨h1, h2, h3, h4, h5⟩, r1, r2⟩ := h
  refine ⟨?_, ?_⟩ <;> constructor <;> simp only [unq, has_del] <;> grind

theorem objRole_toDisk {k r m x} (h : ObjInv k r m ∧ RoleObj k r m) (hr : r.isJob = true)
    (hj : m.disk.has .jobinfo = true)
    (hx : x = .log ∨ x = .complete ∨ x = .errors ∨ x = .assert) :
    ObjInv k r (toDisk x m) ∧ RoleObj k r (toDisk x m) := by
  obtain ⟨⟨h1, h2, h3, h4, h5⟩, r1, r2⟩ := h
  have hr' : r ≠ .fork := by intro e; subst e; simp [Role.isJob] at hr
  refine ⟨?_, ?_⟩ <;> constructor <;> simp only [toDisk, has_add] <;> grind

theorem objRole_launch {k r m} (h : ObjInv k r m ∧ RoleObj k r m) (hj : jobObj k r = true) :
    ObjInv k r (put .queuedLocally (put .jobinfo m)) ∧
      RoleObj k r (put .queuedLocally (put .jobinfo m)) := by
  obtain ⟨⟨h1, h2, h3, h4, h5⟩, r1, r2⟩ := h
  refine ⟨?_, ?_⟩ <;> constructor <;> simp only [put, has_add] <;> grind

theorem objRole_reload {k r m} (h : ObjInv k r m ∧ RoleObj k r m) :
    ObjInv k r (reload m) ∧ RoleObj k r (reload m) := by
  obtain ⟨⟨h1, h2, h3, h4, h5⟩, r1, r2⟩ := h
  refine ⟨?_, ?_⟩ <;> constructor <;> simp only [reload] <;> grind

theorem objRole_step {s : State} {e : Ev} (hen : enabled s e = true) (h : ObjsInv s)
    (hr : RoleInv s) (o : Obj) :
    ObjInv ((apply s e).kind o.n) o.r ((apply s e).m o) ∧
      RoleObj ((apply s e).kind o.n) o.r ((apply s e).m o) := by
  rw [apply_kind]
  have ho := And.intro (h o) (hr o)
  have hm := metaStep s e o
  generalize (apply s e).m o = m' at hm ⊢
  cases hm with
  | W x => exact objRole_put ho ((en_W.mp hen).2.2.imp_right mrpWriteOk_cases)
  | R x => exact objRole_see ho (en_R.mp hen).2.2
  | D x => exact objRole_see ho (en_D.mp hen).2.2
  | U x => exact objRole_unq ho
  | launch =>
    exact objRole_launch ho (launchOk_facts (en_launch.mp hen)).2.1
  | joblog => exact objRole_toDisk ho (en_joblog.mp hen).1 (en_joblog.mp hen).2.1 (.inl rfl)
  | jobend x => exact objRole_toDisk ho (en_jobend.mp hen).1 (en_jobend.mp hen).2.2.1 (.inr (en_jobend.mp hen).2.1)
  | silentfail => exact objRole_put ho (.inr (.inl rfl))
  | reset => exact ⟨objInv_empty _ _, roleObj_empty _ _⟩
  | restart => exact objRole_reload ho
  | same => exact ho

theorem seen_mono {s : State} {e : Ev} {o : Obj} {y : Sentinel} (hinv : ObjsInv s)
    (hne : e ≠ .reset o) (hy : y ≠ .queuedLocally)
    (h : (s.m o).seen.has y = true) : ((apply s e).m o).seen.has y = true := by
  have hm := metaStep s e o
  generalize (apply s e).m o = m' at hm ⊢
  cases hm with
  | reset => exact absurd rfl hne
  | restart => exact (hinv o).sub y h
  | _ => simp [put, see, unq, toDisk, has_add, has_del, h, Ne.symm hy]

theorem not_seen_of_not_disk {s : State} (hobj : ObjsInv s) {o : Obj} {y : Sentinel}
    (h : (s.m o).disk.has y = false) : (s.m o).seen.has y = false :=
  Bool.eq_false_iff.mpr fun hs => by simp [(hobj o).sub y hs] at h

theorem st_failed_mono {s : State} {e : Ev} {o : Obj} (hinv : ObjsInv s) (hne : e ≠ .reset o)
    (h : s.st o = some .failed) : (apply s e).st o = some .failed := by
  unfold State.st at h ⊢
  rw [metaState_failed] at h ⊢
  exact h.imp (seen_mono hinv hne (by simp)) (seen_mono hinv hne (by simp))

theorem st_not_failed {s : State} (hobj : ObjsInv s) {o : Obj}
    (hc : (s.m o).disk.has .errors = false ∧ (s.m o).disk.has .assert = false) :
    s.st o ≠ some .failed := by
  intro h
  rcases metaState_failed.mp h with h | h
  · rw [not_seen_of_not_disk hobj hc.1] at h; cases h
  · rw [not_seen_of_not_disk hobj hc.2] at h; cases h

theorem st_complete_of {s : State} (hobj : ObjsInv s) {o : Obj}
    (hc : (s.m o).disk.has .errors = false ∧ (s.m o).disk.has .assert = false)
    (h : (s.m o).seen.has .complete = true) : s.st o = some .complete := by
  unfold State.st
  rw [metaState_clean (not_seen_of_not_disk hobj hc.1) (not_seen_of_not_disk hobj hc.2), h]
  rfl

theorem st_ne_none_of_seen {s : State} {o : Obj} {y : Sentinel}
    (hy : y = .jobinfo ∨ y = .complete) (h : (s.m o).seen.has y = true) : s.st o ≠ none :=
  metaState_ne_none hy h

theorem st_none_disk {s : State} (hobj : ObjsInv s) (hrole : RoleInv s) {o : Obj}
    (h : s.st o = none) :
    (s.m o).disk.has .jobinfo = false ∧ (s.m o).disk.has .complete = false := by
  obtain ⟨_, _, hc, _, _, hj⟩ := metaState_none h
  have hji : (s.m o).disk.has .jobinfo = false :=
    Bool.eq_false_iff.mpr fun hd => by simp [(hobj o).ji hd] at hj
  refine ⟨hji, Bool.eq_false_iff.mpr fun hd => ?_⟩
  cases hjo : jobObj (s.kind o.n) o.r
  · simp [((hrole o).nj hjo).2.2.2 _ hd] at hc
  · simp [(hobj o).kk hjo (.inr (.inl hd))] at hji

theorem st_none_of {s : State} (hobj : ObjsInv s) (hrole : RoleInv s) {o : Obj}
    (hr : o.r ≠ .fork)
    (hc : (s.m o).disk.has .errors = false ∧ (s.m o).disk.has .assert = false)
    (hj : (s.m o).disk.has .jobinfo = false) (hcomp : (s.m o).seen.has .complete = false) :
    s.st o = none := by
  have hlog : (s.m o).disk.has .log = false := by
    cases hjo : jobObj (s.kind o.n) o.r
    · exact ((hrole o).nj hjo).1
    · exact Bool.eq_false_iff.mpr fun hl => by simp [(hobj o).kk hjo (.inl hl)] at hj
  unfold State.st
  rw [metaState_clean (not_seen_of_not_disk hobj hc.1) (not_seen_of_not_disk hobj hc.2), hcomp,
    not_seen_of_not_disk hobj ((hrole o).dis hr), not_seen_of_not_disk hobj hlog,
    not_seen_of_not_disk hobj hj]
  rfl

/-- Invariant of the ghost history of submissions and resets. -/
structure LaunchInv (s : State) : Prop where
  le : ∀ o i, (o, i) ∈ s.launches → i ≤ s.inc
  ltLoading : s.phase = .loading → ∀ o i, (o, i) ∈ s.launches → i < s.inc
  nodup : s.launches.Nodup
  alive : ∀ o i, (o, i) ∈ s.launches →
    (s.m o).disk.has .jobinfo = true ∨ ∃ k, i < k ∧ k ≤ s.inc ∧ (o, k) ∈ s.resets
  relaunch : ∀ o i j, (o, i) ∈ s.launches → (o, j) ∈ s.launches → i < j →
    ∃ k, i < k ∧ k ≤ j ∧ (o, k) ∈ s.resets

theorem launchInv_frame {s s' : State} (h : LaunchInv s) (hl : s'.launches = s.launches)
    (hr : ∀ p ∈ s.resets, p ∈ s'.resets) (hi : s.inc ≤ s'.inc)
    (hp : s'.phase = .loading → (s.phase = .loading ∧ s'.inc = s.inc) ∨ s.inc < s'.inc)
    (hd : ∀ o i, (o, i) ∈ s.launches → (s.m o).disk.has .jobinfo = true →
      (s'.m o).disk.has .jobinfo = true ∨ ∃ k, i < k ∧ k ≤ s'.inc ∧ (o, k) ∈ s'.resets) :
    LaunchInv s' := by
  obtain ⟨h1, h2, h3, h4, h5⟩ := h
  refine ⟨?_, ?_, ?_, ?_, ?_⟩
  · intro o i hm; rw [hl] at hm; exact Nat.le_trans (h1 o i hm) hi
  · intro hp' o i hm; rw [hl] at hm
    rcases hp hp' with ⟨hq, he⟩ | hlt
    · rw [he]; exact h2 hq o i hm
    · exact Nat.lt_of_le_of_lt (h1 o i hm) hlt
  · rw [hl]; exact h3
  · intro o i hm; rw [hl] at hm
    rcases h4 o i hm with a | ⟨k, a, b, c⟩
    · exact hd o i hm a
    · exact .inr ⟨k, a, Nat.le_trans b hi, hr _ c⟩
  · intro o i j hi' hj hlt; rw [hl] at hi' hj
    obtain ⟨k, a, b, c⟩ := h5 o i j hi' hj hlt
    exact ⟨k, a, b, hr _ c⟩

theorem launchInv_step {s : State} {e : Ev} (hen : enabled s e = true) (hinv : ObjsInv s)
    (h : LaunchInv s) : LaunchInv (apply s e) := by
  have hdm : ∀ o', e ≠ .reset o' → (s.m o').disk.has .jobinfo = true →
      ((apply s e).m o').disk.has .jobinfo = true :=
    fun o' hne => disk_mono hne (by simp)
  cases e
  case launch o =>
    obtain ⟨h1, h2, h3, h4, h5⟩ := h
    obtain ⟨hph, _, _, hnew, _⟩ := launchOk_common (en_launch.mp hen)
    have hji : (s.m o).disk.has .jobinfo = false :=
      Bool.eq_false_iff.mpr fun hd => st_ne_none_of_seen (.inl rfl) ((hinv o).ji hd)
        (launchOk_facts (en_launch.mp hen)).2.2
    refine ⟨?_, ?_, ?_, ?_, ?_⟩
    · intro o' i hm
      simp only [apply_launches, apply_inc, List.mem_cons, Prod.mk.injEq] at hm ⊢
      rcases hm with ⟨_, rfl⟩ | hm
      · exact Nat.le_refl _
      · exact h1 o' i hm
    · intro hp; simp [apply_phase, hph] at hp
    · simp only [apply_launches]; exact List.nodup_cons.mpr ⟨hnew, h3⟩
    · intro o' i hm
      simp only [apply_launches, apply_inc, apply_resets, List.mem_cons, Prod.mk.injEq] at hm ⊢
      rcases hm with ⟨rfl, rfl⟩ | hm
      · exact .inl (by rw [apply_m]; simp [put, has_add])
      · exact (h4 o' i hm).imp_left (hdm o' (by simp))
    · intro o' i j hi hj hlt
      simp only [apply_launches, apply_resets, List.mem_cons, Prod.mk.injEq] at hi hj ⊢
      rcases hi with ⟨ho1, hi1⟩ | hi <;> rcases hj with ⟨ho2, hj1⟩ | hj
      · omega
      · subst ho1 hi1; exact absurd (h1 _ _ hj) (Nat.not_le_of_gt hlt)
      · -- the earlier submission of the same object left no `_jobinfo`: it was reset
        subst ho2 hj1
        exact (h4 _ _ hi).resolve_left (by simp [hji])
      · exact h5 o' i j hi hj hlt
  case reset o =>
    have hph := (en_reset.mp hen).1
    refine launchInv_frame h rfl (fun p hp => List.mem_cons_of_mem _ hp) (Nat.le_refl _)
      (fun _ => .inl ⟨hph, rfl⟩) fun o' i hm a => ?_
    by_cases ho : o' = o
    · subst ho
      exact .inr ⟨s.inc, h.ltLoading hph _ _ hm, Nat.le_refl _, List.mem_cons_self ..⟩
    · exact .inl (hdm o' (by simp; exact fun e => ho e.symm) a)
  case restart =>
    exact launchInv_frame h rfl (fun _ hp => hp) (Nat.le_succ _) (fun _ => .inr (Nat.lt_succ_self _))
      fun o _ _ a => .inl (hdm o (by simp) a)
  all_goals
    exact launchInv_frame h (by simp [apply_launches]) (by simp [apply_resets])
      (by simp [apply_inc]) (fun hp => .inl ⟨by simpa [apply_phase] using hp, by simp [apply_inc]⟩)
      fun o' _ _ a => .inl (hdm o' (by simp) a)

theorem not_launched {s : State} (hl : LaunchInv s) {o : Obj}
    (hj : (s.m o).disk.has .jobinfo = false) : (o, s.inc) ∉ s.launches := by
  intro hm
  rcases hl.alive o s.inc hm with a | ⟨k, a, b, _⟩
  · rw [hj] at a; cases a
  · omega

def ForkRange (s : State) : Prop := ∀ n, s.nodes.length ≤ n → s.forksOf n = []

theorem isSubNodup_mem {l l' : List Nat} (h : isSubNodup l l' = true) : ∀ a ∈ l, a ∈ l' := by
  induction l with
  | nil => simp
  | cons a r ih =>
    simp only [isSubNodup, Bool.and_eq_true] at h
    intro b hb
    rcases List.mem_cons.mp hb with rfl | hb
    · simpa using h.1.1
    · exact ih h.2 b hb

theorem forkRange_step {s : State} {e : Ev} (hen : enabled s e = true) (h : ForkRange s) :
    ForkRange (apply s e) := by
  intro n hn
  rw [apply_nodes] at hn
  rcases forksOf_step s e n with h' | ⟨f, rfl, _⟩ | ⟨l, rfl, h'⟩
  · rw [h']; exact h n hn
  · have := (en_fork hen).2.1; omega
  · rw [h']
    have hsub := isSubNodup_mem (en_forkorder.mp hen).2.1
    rw [h n hn] at hsub
    cases l with
    | nil => rfl
    | cons a r => exact absurd (hsub a (List.mem_cons_self ..)) (by simp)

structure BaseInv (s : State) : Prop where
  obj : ObjsInv s
  role : RoleInv s
  launch : LaunchInv s
  range : ForkRange s

theorem baseInv_step {s : State} {e : Ev} (hen : enabled s e = true) (h : BaseInv s) :
    BaseInv (apply s e) :=
  ⟨fun o => (objRole_step hen h.obj h.role o).1, fun o => (objRole_step hen h.obj h.role o).2,
   launchInv_step hen h.obj h.launch, forkRange_step hen h.range⟩

theorem baseInv_start (g : List NodeInfo) (full : Bool) :
    BaseInv { nodes := g, full := full } :=
  ⟨fun _ => objInv_empty _ _, fun _ => roleObj_empty _ _, by constructor <;> simp, fun _ _ => rfl⟩

/-- what holds in every state reachable in `FullStageReset` mode -/
theorem reachFull_inv {g : List NodeInfo} {s : State} (h : ReachFull g s) :
    BaseInv s ∧ s.full = true ∧ s.nodes = g := by
  induction h with
  | init => exact ⟨baseInv_start g true, rfl, rfl⟩
  | step _ hen ih =>
    exact ⟨baseInv_step hen ih.1, (apply_full ..).trans ih.2.1, (apply_nodes ..).trans ih.2.2⟩

theorem replayFrom_inv {P : State → Prop} {evs : List Ev} {i : Nat} {s0 s : State}
    (hstep : ∀ s e, e ∈ evs → enabled s e = true → P s → P (apply s e))
    (h0 : P s0) (h : replayFrom i s0 evs = .ok s) : P s := by
  induction evs generalizing i s0 with
  | nil => simp [replayFrom] at h; subst h; exact h0
  | cons e r ih =>
    simp only [replayFrom] at h
    split at h
    · rename_i hen
      exact ih (fun s e he => hstep s e (List.mem_cons_of_mem _ he))
        (hstep s0 e (List.mem_cons_self ..) hen h0) h
    · cases h

theorem replay_reach {g : List NodeInfo} {evs : List Ev} {s : State}
    (h : replay (init g) evs = .ok s) : Reach g s :=
  replayFrom_inv (P := Reach g) (fun _ _ _ hen hr => .step hr hen) .init h

/-- the end state of a concrete history, as the `Props` examples define it, is reachable -/
theorem reach_of_match (g : List NodeInfo) (evs : List Ev) :
    Reach g (match replay (init g) evs with | .ok s => s | .error _ => init g) := by
  cases h : replay (init g) evs
  · exact Reach.init
  · exact replay_reach h

end Martian.Sched
