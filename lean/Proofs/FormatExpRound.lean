/-
C09: the round trip on token level with the fuel `parseToks` uses (`cost_le`, `parseToks_toks`),
and the normal form: printing it gives the same text (`fmt_norm`, from `single_norm`), it is
well-formed (`wf_norm`) and normal (`norm_norm`); all rest on `norm_float`, the one leaf `norm`
changes.
-/
import Proofs.FormatExpParse

namespace Martian.FormatExp
open Martian.Lexer (Bytes parseInt)

theorem toksDots_length (out : List Bytes) : (toksDots out).length = 2 * out.length := by
  induction out with
  | nil => rfl
  | cons x r ih => simp [toksDots, ih]; omega

theorem cost_ref_le (self : Bool) (id : Bytes) (out : List Bytes) :
    out.length + 2 ≤ 2 * (toksRef self id out).length := by
  unfold toksRef
  split
  · simp [toksDots_length]; omega
  · split
    · rename_i h; subst h; simp
    · simp [toksDots_length]; omega

mutual
theorem cost_le : ∀ e : Exp, cost e ≤ 2 * (toks e).length
  | .null => by decide
  | .nilArr => by decide
  | .bool _ => by simp [cost, toks]
  | .int _ => by simp [cost, toks]
  | .float _ => by simp [cost, toks]
  | .str _ => by simp [cost, toks]
  | .arr [] => by decide
  | .map [] => by decide
  | .struct [] => by decide
  | .ref self id out => by rw [cost, toks]; exact cost_ref_le self id out
  | .arr [x] => by
    have := cost_le x
    rw [cost, costL, costL, toks]
    split <;> simp only [List.length_cons, List.length_append, List.length_nil] <;> omega
  | .arr (x :: y :: r) => by
    have := costL_le (x :: y :: r)
    rw [cost, toks, List.length_cons, List.length_append, List.length_singleton]
    omega
  | .map (kv :: r) => by
    have := costKV_le (kv :: r)
    rw [cost, toks, List.length_cons, List.length_append, List.length_singleton]
    omega
  | .struct (kv :: r) => by
    have := costKV_le' (kv :: r)
    rw [cost, toks, List.length_cons, List.length_append, List.length_singleton]
    omega
theorem costL_le : ∀ xs : List Exp, costL xs ≤ 2 * (toksElems xs).length
  | [] => by decide
  | x :: r => by
    have := cost_le x
    have := costL_le r
    rw [costL, toksElems, List.length_append, List.length_cons]
    omega
theorem costKV_le : ∀ kvs : List (Bytes × Exp), costKV kvs ≤ 2 * (toksKVs kvs).length
  | [] => by decide
  | (k, v) :: r => by
    have := cost_le v
    have := costKV_le r
    rw [costKV, toksKVs, List.length_cons, List.length_cons, List.length_append, List.length_cons]
    omega
theorem costKV_le' : ∀ kvs : List (Bytes × Exp), costKV kvs ≤ 2 * (toksFields kvs).length
  | [] => by decide
  | (k, v) :: r => by
    have := cost_le v
    have := costKV_le' r
    rw [costKV, toksFields, List.length_cons, List.length_cons, List.length_append, List.length_cons]
    omega
end

theorem norm_float (t : Bytes) : norm (.float t) = .float t ∨
    ∃ i, isFloatTok t = false ∧ parseInt t = some i ∧ norm (.float t) = .int i := by
  rw [norm]
  cases hft : isFloatTok t with
  | true => exact .inl rfl
  | false =>
    cases hp : parseInt t with
    | none => exact .inl rfl
    | some i => exact .inr ⟨i, rfl, rfl, rfl⟩

theorem norm_float_wf {t : Bytes} {i : Int} (hw : wf (.float t) = true) (hft : isFloatTok t = false)
    (hp : parseInt t = some i) : fmtInt i = t ∧ inInt64 i = true := by
  rw [wf, hft, Bool.false_or, isCanonInt_iff] at hw
  obtain ⟨j, hj, h⟩ := hw
  rw [hp] at hj
  cases hj
  exact h

theorem isVal_norm (e : Exp) : isVal (norm e) = isVal e := by
  cases e with
  | float t => rcases norm_float t with h | ⟨i, _, _, h⟩ <;> rw [h] <;> rfl
  | struct kvs => cases kvs <;> rfl
  | _ => rfl

theorem parseToks_toks (e : Exp) (hw : wf e = true) (hv : isVal e = true) :
    parseToks (toks e) = some (norm e) := by
  have h := pExp_toks e (2 * (toks e).length + 1) [] hw (by have := cost_le e; omega) (fun _ h => by cases h)
  rw [List.append_nil] at h
  simp [parseToks, h, isVal_norm, hv]

mutual
theorem single_norm : ∀ e : Exp, single (norm e) = single e
  | .null => rfl
  | .nilArr => rfl
  | .bool _ => rfl
  | .int _ => rfl
  | .str _ => rfl
  | .ref .. => rfl
  | .float t => by rcases norm_float t with h | ⟨i, _, _, h⟩ <;> rw [h] <;> rfl
  | .arr xs => by rw [norm, single, single]; exact singleL_norm xs
  | .map [] => rfl
  | .map (_ :: _) => rfl
  | .struct [] => rfl
  | .struct (_ :: _) => rfl
theorem singleL_norm : ∀ xs : List Exp, singleL (normL xs) = singleL xs
  | [] => rfl
  | [x] => by rw [normL, normL, singleL, singleL]; exact single_norm x
  | _ :: _ :: _ => rfl
end

theorem maxKeyLen_norm : ∀ kvs : List (Bytes × Exp), maxKeyLen (normKV kvs) = maxKeyLen kvs
  | [] => rfl
  | (k, v) :: r => by rw [normKV, maxKeyLen, maxKeyLen, single_norm, maxKeyLen_norm r]

mutual
theorem fmt_norm : ∀ (e : Exp) (p : Bytes), wf e = true → fmt p (norm e) = fmt p e
  | .null, _, _ => rfl
  | .nilArr, _, _ => rfl
  | .bool _, _, _ => rfl
  | .int _, _, _ => rfl
  | .str _, _, _ => rfl
  | .ref .., _, _ => rfl
  | .float t, p, hw => by
    rcases norm_float t with h | ⟨i, hft, hp, h⟩ <;> rw [h]
    rw [fmt, fmt, (norm_float_wf hw hft hp).1]
  | .arr [], _, _ => rfl
  | .arr [x], p, hw => by
    simp only [wf, wfL, Bool.and_true] at hw
    simp only [norm, normL, fmt, single_norm, fmt_norm x _ hw]
  | .arr (x :: y :: r), p, hw => by
    rw [wf] at hw
    rw [norm, normL, normL, fmt, fmt, ← normL, ← normL, fmtElems_norm (x :: y :: r) _ hw]
  | .map [], _, _ => rfl
  | .map ((k, v) :: r), p, hw => by
    simp only [wf, Bool.and_eq_true] at hw
    rw [norm, normKV, fmt, fmt, ← normKV, fmtKVs_norm ((k, v) :: r) _ hw.2]
  | .struct [], _, _ => rfl
  | .struct ((k, v) :: r), p, hw => by
    simp only [wf, Bool.and_eq_true] at hw
    rw [norm, normKV, fmt, fmt, ← normKV, maxKeyLen_norm, fmtFields_norm ((k, v) :: r) _ _ hw.2]
theorem fmtElems_norm : ∀ (xs : List Exp) (vp : Bytes), wfL xs = true → fmtElems vp (normL xs) = fmtElems vp xs
  | [], _, _ => rfl
  | x :: r, vp, hw => by
    simp only [wfL, Bool.and_eq_true] at hw
    rw [normL, fmtElems, fmtElems, fmt_norm x vp hw.1, fmtElems_norm r vp hw.2]
theorem fmtKVs_norm : ∀ (kvs : List (Bytes × Exp)) (vp : Bytes), wfKV false kvs = true →
    fmtKVs vp (normKV kvs) = fmtKVs vp kvs
  | [], _, _ => rfl
  | (k, v) :: r, vp, hw => by
    simp only [wfKV, Bool.and_eq_true] at hw
    rw [normKV, fmtKVs, fmtKVs, fmt_norm v vp hw.1.2, fmtKVs_norm r vp hw.2]
theorem fmtFields_norm : ∀ (kvs : List (Bytes × Exp)) (vp : Bytes) (w : Nat), wfKV true kvs = true →
    fmtFields vp w (normKV kvs) = fmtFields vp w kvs
  | [], _, _, _ => rfl
  | (k, v) :: r, vp, w, hw => by
    simp only [wfKV, Bool.and_eq_true] at hw
    rw [normKV, fmtFields, fmtFields, single_norm, fmt_norm v vp hw.1.2, fmtFields_norm r vp w hw.2]
end


mutual
theorem wf_norm : ∀ e : Exp, wf e = true → wf (norm e) = true
  | .null, _ => rfl
  | .nilArr, _ => rfl
  | .bool _, _ => rfl
  | .int _, h => h
  | .str _, h => h
  | .ref .., h => h
  | .float t, hw => by
    rcases norm_float t with h | ⟨i, hft, hp, h⟩ <;> rw [h]
    · exact hw
    · rw [wf]; exact (norm_float_wf hw hft hp).2
  | .arr xs, hw => by
    rw [wf] at hw
    rw [norm, wf]
    exact wfL_norm xs hw
  | .map kvs, hw => by
    simp only [wf, Bool.and_eq_true] at hw
    simp only [norm, wf, Bool.and_eq_true, sortedKeys_normKV]
    exact ⟨hw.1, wfKV_norm false kvs hw.2⟩
  | .struct [], _ => rfl
  | .struct (kv :: r), hw => by
    simp only [wf, Bool.and_eq_true] at hw
    simp only [norm, wf, Bool.and_eq_true, sortedKeys_normKV]
    exact ⟨hw.1, wfKV_norm true (kv :: r) hw.2⟩
theorem wfL_norm : ∀ xs : List Exp, wfL xs = true → wfL (normL xs) = true
  | [], _ => rfl
  | x :: r, hw => by
    simp only [wfL, Bool.and_eq_true] at hw
    simp only [normL, wfL, Bool.and_eq_true]
    exact ⟨wf_norm x hw.1, wfL_norm r hw.2⟩
theorem wfKV_norm (b : Bool) : ∀ kvs : List (Bytes × Exp), wfKV b kvs = true → wfKV b (normKV kvs) = true
  | [], _ => rfl
  | (k, v) :: r, hw => by
    simp only [wfKV, Bool.and_eq_true] at hw
    simp only [normKV, wfKV, Bool.and_eq_true]
    exact ⟨⟨hw.1.1, wf_norm v hw.1.2⟩, wfKV_norm b r hw.2⟩
end

mutual
theorem norm_norm : ∀ e : Exp, norm (norm e) = norm e
  | .null => rfl
  | .nilArr => rfl
  | .bool _ => rfl
  | .int _ => rfl
  | .str _ => rfl
  | .ref .. => rfl
  | .float t => by
    rcases norm_float t with h | ⟨i, _, _, h⟩ <;> rw [h]
    · exact h
    · rfl
  | .arr xs => by rw [norm, norm, normL_normL xs]
  | .map kvs => by rw [norm, norm, normKV_normKV kvs]
  | .struct [] => rfl
  | .struct ((k, v) :: r) => by
    rw [norm, normKV, norm, ← normKV, normKV_normKV ((k, v) :: r)]
theorem normL_normL : ∀ xs : List Exp, normL (normL xs) = normL xs
  | [] => rfl
  | x :: r => by rw [normL, normL, norm_norm x, normL_normL r]
theorem normKV_normKV : ∀ kvs : List (Bytes × Exp), normKV (normKV kvs) = normKV kvs
  | [] => rfl
  | (k, v) :: r => by rw [normKV, normKV, norm_norm v, normKV_normKV r]
end

end Martian.FormatExp
