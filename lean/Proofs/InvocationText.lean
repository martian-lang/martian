/-
C16, the text leg is the real printer ∘ lexer ∘ parser: `Martian.Invocation.reparse` is what
`parseValExp (fmt [] ·)` / `parseCall (fmtCall ·)` of C09's byte-exact models return (through the
translation `toF` / `ofF`), for every expression the formatter can print and the grammar accepts
back, given strconv's float text as an oracle satisfying `floatsOk`.
-/
import Martian.InvocationText
import Proofs.FormatCall2Lex
import Proofs.FormatCallWords
namespace Martian.InvocationText
open Martian.Invocation
open Martian.Lexer (Bytes parseInt)

theorem isVal_toF (g : G) (e : Exp) : Martian.FormatExp.isVal (toF g e) = true := by
  cases e with
  | lit l => cases l <;> rfl
  | arr xs => rfl
  | map k kvs => cases k <;> rfl

mutual
/-- the documented normal form of C09 (`norm`: integral float texts read back as ints, `{}` reads
back as a map), pulled back along the translation, is `reparse` -/
theorem ofF_norm_toF (g : G) : ∀ (e : Exp), floatsOk g e = true →
    ofF g (Martian.FormatExp.norm (toF g e)) = reparse e
  | .lit .null, _ => rfl
  | .lit (.bool _), _ => rfl
  | .lit (.int _), _ => rfl
  | .lit (.str _), _ => rfl
  | .lit (.flt f), h => by
    simp only [floatsOk, floatOk] at h
    simp only [toF, Martian.FormatExp.norm, reparse, textLit]
    by_cases hi : f.textAsInt = true
    · simp only [hi, ↓reduceIte, Bool.and_eq_true, Bool.not_eq_true', beq_iff_eq] at h ⊢
      simp [h.1, h.2, ofF]
    · have hi' : f.textAsInt = false := by simpa using hi
      simp only [hi', Bool.false_eq_true, ↓reduceIte, Bool.and_eq_true, beq_iff_eq] at h ⊢
      simp [h.1, h.2, ofF]
  | .arr xs, h => by
    simp only [floatsOk] at h
    simp [toF, Martian.FormatExp.norm, ofF, reparse, ofFList_normL_toFList g xs h]
  | .map false kvs, h => by
    simp only [floatsOk] at h
    have := ofFKvs_normKV_toFKvs g kvs h
    cases kvs with
    | nil => rfl
    | cons k e r => simp [toF, Martian.FormatExp.norm, ofF, reparse, this]
  | .map true kvs, h => by
    simp only [floatsOk] at h
    have := ofFKvs_normKV_toFKvs g kvs h
    cases kvs with
    | nil => rfl
    | cons k e r =>
      simp only [toF, toFKvs] at this ⊢
      simp [Martian.FormatExp.norm, ofF, reparse, this]
theorem ofFList_normL_toFList (g : G) : ∀ (xs : EList), floatsOkList g xs = true →
    ofFList g (Martian.FormatExp.normL (toFList g xs)) = reparseList xs
  | .nil, _ => rfl
  | .cons e r, h => by
    simp only [floatsOkList, Bool.and_eq_true] at h
    simp [toFList, Martian.FormatExp.normL, ofFList, reparseList, ofF_norm_toF g e h.1,
      ofFList_normL_toFList g r h.2]
theorem ofFKvs_normKV_toFKvs (g : G) : ∀ (kvs : EKvs), floatsOkKvs g kvs = true →
    ofFKvs g (Martian.FormatExp.normKV (toFKvs g kvs)) = reparseKvs kvs
  | .nil, _ => rfl
  | .cons k e r, h => by
    simp only [floatsOkKvs, Bool.and_eq_true] at h
    simp [toFKvs, Martian.FormatExp.normKV, ofFKvs, reparseKvs, ofF_norm_toF g e h.1,
      ofFKvs_normKV_toFKvs g r h.2]
end

/-- Expression level: print with the formatter, lex, parse with `ParseValExp` –
the result is `reparse e` -/
theorem text_leg_exp (g : G) (e : Exp) (hw : wfText g e = true) (hf : floatsOk g e = true) :
    textLeg g e = some (reparse e) := by
  simp only [textLeg, printExp, Martian.FormatExp.parseValExp_fmt (toF g e) [] hw (isVal_toF g e) rfl,
    Option.map_some, ofF_norm_toF g e hf]

theorem ofFBind_norm_toFBind (g : G) (b : Str × Arg) (hf : floatsOk g b.2.value = true) :
    ofFBind g (Martian.FormatCall.normBind (toFBind g b)) = (b.1, b.2.reparse) := by
  obtain ⟨k, a⟩ := b
  cases a with
  | plain e => simp [toFBind, Martian.FormatCall.normBind, ofFBind, Arg.isSplit, Arg.value, Arg.reparse,
      ofF_norm_toF g e hf]
  | split e => simp [toFBind, Martian.FormatCall.normBind, ofFBind, Arg.isSplit, Arg.value, Arg.reparse,
      ofF_norm_toF g e hf]

theorem binds_norm (g : G) (bs : List (Str × Arg)) (hf : floatsOkBinds g bs = true) :
    ((bs.map (toFBind g)).map Martian.FormatCall.normBind).map (ofFBind g)
      = bs.map fun b => (b.1, b.2.reparse) := by
  rw [List.map_map, List.map_map]
  apply List.map_congr_left
  intro b hb
  simp only [floatsOkBinds, List.all_eq_true] at hf
  exact ofFBind_norm_toFBind g b (hf b hb)

/-- Call level: `Ast.Format()` of the call `BuildCallAst` built, lexed and parsed as
a `call_stm`, gives the same callable and the bindings with every value `reparse`d and every split
status kept -/
theorem text_leg_call (g : G) (name : Str) (bs : List (Str × Arg)) (hw : wfCallText g name bs = true)
    (hf : floatsOkBinds g bs = true) :
    callTextLeg g name bs = some (name, bs.map fun b => (b.1, b.2.reparse)) := by
  unfold callTextLeg printCall
  rw [Martian.FormatCall.parseCall_fmtCall (toFCall g name bs) hw]
  simp only [Option.map_some, Martian.FormatCall.normCall, toFCall, binds_norm g bs hf]

end Martian.InvocationText
