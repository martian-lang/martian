/-
C19 — deleting calls that nothing refers to leaves the resolved inputs,
outputs and retained references of every remaining call unchanged.
-/
import Proofs.RefactorGraphLemmas
import Proofs.RefactorRemove

namespace Proofs.RefactorGraph
open Martian.Refactor
open Proofs.Refactor (dropCalls dropCalls_eq dropCalls_fields idsToDrop foldl_removeCallById)

section Del
variable (rem : List CallRemoval)

theorem keepOf_eq (c : Callable) (i : String) : keepOf rem c i = !(idsToDrop rem c).contains i := by
  unfold keepOf idsToDrop
  cases rem.find? (fun r => r.pipe == c.name) with
  | none => rfl
  | some r => cases c.isPipe <;> simp

theorem pipeOKDel_parts {c : Callable} (h : pipeOKDel rem c = true) :
    Base c ∧ (∀ r ∈ graphRefs c, r.kind = RefKind.call → keepOf rem c r.id = true) := by
  simp only [pipeOKDel, Bool.and_eq_true, Bool.or_eq_true, List.all_eq_true, decide_eq_true_eq,
    bne_iff_ne, ne_eq, List.isEmpty_iff] at h
  obtain ⟨⟨⟨⟨h1, h2⟩, h3⟩, h4⟩, h5⟩ := h
  exact ⟨⟨h1, h2, h3, h4⟩, fun r hr hk => (h5 r hr).resolve_left (not_not_intro hk)⟩

theorem lookupRef_agree (p : Program) (pipe : Callable) (self : Env) (sib sib' : String → RExp) (r : Ref)
    (hag : SibAgree p (fun _ _ v => v) (keepOf rem) pipe sib sib')
    (h : r.kind = RefKind.call → keepOf rem pipe r.id = true) :
    lookupRef self sib' r = lookupRef self sib r := by
  unfold lookupRef
  cases hk : r.kind with
  | self => rfl
  | call =>
    simp only
    rw [hag r.id (h hk)]
    rfl

theorem remove_calls_sim (ti : TypeInfo) (p : Program) (hok : CallRemOK rem p = true) :
    SimHyp ti ti p (applyCallRemovals rem p) id (dropCalls rem) (fun _ k => k)
      (fun _ e => e) (fun _ _ v => v) id (fun c => pipeOKDel rem c = true) (fun _ _ => True)
      (fun _ _ => True) (fun _ => True) (keepOf rem)
    ∧ ∀ t, p.top = some t → (applyCallRemovals rem p).top = some t ∧ dropCalls rem (topPipe t) = topPipe t
        ∧ pipeOKDel rem (topPipe t) = true ∧ True ∧ keepOf rem (topPipe t) t.id = true := by
  simp only [CallRemOK, Bool.and_eq_true, List.all_eq_true, bne_iff_ne, ne_eq] at hok
  obtain ⟨⟨hne, hall⟩, htopok⟩ := hok
  have hfindtop : ∀ t : Call, rem.find? (fun r => r.pipe == (topPipe t).name) = none := by
    intro t
    rw [List.find?_eq_none]
    intro r hr
    have := hne r hr
    simpa [topPipe] using this
  have hpc : (applyCallRemovals rem p).callables = p.callables.map (dropCalls rem) := rfl
  have H : SimHyp ti ti p (applyCallRemovals rem p) id (dropCalls rem) (fun _ k => k)
      (fun _ e => e) (fun _ _ v => v) id (fun c => pipeOKDel rem c = true) (fun _ _ => True)
      (fun _ _ => True) (fun _ => True) (keepOf rem) := by
    refine { hfind1 := ?_, hfind0 := ?_, hrel := fun _ _ _ _ => trivial, hF := ?_, hcalls := ?_,
             hGid := fun _ _ => rfl, hGdec := fun _ _ _ _ => rfl, hfirst := ?_, hO0 := fun _ _ => rfl,
             hOs := fun _ _ _ _ => rfl, o0 := fun _ => trivial, o0s := fun _ _ _ => trivial,
             o1 := ?_, o2 := ?_, c5 := ?_, c6 := ?_, c7 := ?_ }
    · intro n d hd
      exact ⟨find_map_some _ (fun c => (dropCalls_fields rem c).1) hpc hd, hall d (find_mem p n d hd)⟩
    · intro n _ hd
      exact find_map_none _ (fun c => (dropCalls_fields rem c).1) hpc hd
    · intro c _
      have := dropCalls_fields rem c
      exact ⟨this.2.1, this.1, by rw [this.2.2.1], by rw [this.2.2.2.1]⟩
    · intro pipe hg
      have hparts := pipeOKDel_parts rem hg
      simp only [List.map_id', dropCalls_eq, keepOf_eq]
      exact foldl_removeCallById _ _ hparts.1.nodup
    · intro pipe hg
      exact (pipeOKDel_parts rem hg).1.first
    · intros; trivial
    · intros; trivial
    · intro pipe self sib sib' k d id hg _ _ hag _ hk hd
      have hparts := pipeOKDel_parts rem hg
      have hkm := (call_mem pipe id k hk).1
      have hF := dropCalls_fields rem d
      unfold callIns
      rw [hF.1, hF.2.2.2.2.2, expandWild_noStar _ _ _ _ (hparts.1.binds k hkm),
          expandWild_noStar _ _ _ _ (hparts.1.binds k hkm)]
      apply resolveBinds_congr
      intro bd hbd r hr
      exact lookupRef_agree rem p pipe self sib sib' r hag
        (hparts.2 r (mem_graphRefs_bind pipe k hkm bd hbd r hr))
    · intro d ins sib sib' hg hp _ _ hag
      have hparts := pipeOKDel_parts rem hg
      have hF := dropCalls_fields rem d
      unfold pipeOuts
      rw [hF.1, hF.2.2.2.1, expandWild_noStar _ _ _ _ hparts.1.ret, expandWild_noStar _ _ _ _ hparts.1.ret]
      congr 2
      apply resolveBinds_congr
      intro bd hbd r hr
      exact lookupRef_agree rem p d ins sib sib' r hag
        (hparts.2 r (mem_graphRefs_ret d bd hbd r hr))
    · intro d ins sib sib' hg hp _ _ hag
      have hparts := pipeOKDel_parts rem hg
      have hF := dropCalls_fields rem d
      unfold pipeRetained
      rw [hF.2.2.2.2.1, List.map_id]
      apply flatMap_congr'
      intro r hr
      rw [lookupRef_agree rem p d ins sib sib' r hag (hparts.2 r (mem_graphRefs_retain d r hr))]
  refine ⟨H, fun t ht => ⟨ht, ?_, by simpa [ht] using htopok, trivial, ?_⟩⟩
  · unfold dropCalls; rw [hfindtop]
  · unfold keepOf; rw [hfindtop]

theorem remove_calls_graph_atK (ti : TypeInfo) (p : Program) (hok : CallRemOK rem p = true)
    (κ : String → Bool → String → Bool) (big fuel : Nat) :
    deepGraphKeepAt (fun c i => κ c.name c.isPipe i) big fuel ti (applyCallRemovals rem p)
      = deepGraphKeepAt (fun c i => keepOf rem c i && κ c.name c.isPipe i) big fuel ti p := by
  obtain ⟨H, htop⟩ := remove_calls_sim rem ti p hok
  have := sim_program H htop (fun ht => ht) rfl (fun c i => κ c.name c.isPipe i)
    (fun c _ i => by simp only [(dropCalls_fields rem c).1, (dropCalls_fields rem c).2.1]) big fuel
  have hmap : nodeMap id (fun _ e => e) (fun _ _ v => v) id = fun n : Node => n := by
    funext n; simp [nodeMap]
  rwa [hmap, List.map_id'] at this

end Del

end Proofs.RefactorGraph
