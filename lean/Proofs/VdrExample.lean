import Martian.Vdr
import Proofs.ListFacts

/-! A small concrete fork used by the non-vacuity examples of Props/C04.lean and Props/C14.lean.  With the tactic macro `eval_paths` and the helper lemmas the examples use. -/
namespace Martian.Vdr

/-- Closes a goal about concrete paths by evaluation in the kernel.  The string literals are first
replaced by their character lists (`ds`: definitions to unfold because they hold literals): left
in place, every `"…".toList` is decoded from UTF-8 by the kernel at a cost quadratic in its length. -/
macro "eval_paths" "[" ds:ident,* "]" : tactic =>
  `(tactic| (try dsimp only [$[$ds:ident],*]
             repeat rw [String.toList_ofList]
             decide +kernel))

theorem clean_of_getLast {p : Path} {x : Char} (h : p.getLast? = some x) (hx : x ≠ '/') :
    NoTrailingSlash p := by
  intro q e
  rw [e] at h
  simp at h
  exact hx h.symm

theorem mem_lookup_getD {l : List (Arg × List Path)} {a : Arg} {f : Path}
    (h : f ∈ (l.lookup a).getD []) : ∃ p ∈ l, f ∈ p.2 := by
  cases hl : l.lookup a with
  | none => rw [hl] at h; cases h
  | some v => rw [hl] at h; exact ⟨_, Proofs.ListFacts.mem_of_lookup hl, h⟩

/-- a volatile fork with two outputs: `a` (held by consumer `C` and the top
level) names `/p/files/a.txt`, `b` (held by `C` only) names `/p/files/sub/b.txt` -/
def exCfg : Cfg :=
  { volatile := true, strict := true, splits := false
    argNames := [("a", ["/p/files/a.txt".toList]), ("b", ["/p/files/sub/b.txt".toList])]
    argFiles := [("a", ["/p/files/a.txt".toList]), ("b", ["/p/files/sub/b.txt".toList])]
    initArgs := [("a", [some "C", none]), ("b", [some "C"])]
    initPost := [("C", ["a", "b"])] }

def exSt : St :=
  { fileArgs := [("a", [some "C", none]), ("b", [some "C"])]
    postNodes := [("C", ["a", "b"])]
    disk := [⟨"/p/files/a.txt".toList, 5, .out, [], 0⟩, ⟨"/p/files/sub".toList, 4096, .out, [], 0⟩,
             ⟨"/p/files/sub/b.txt".toList, 7, .out, [], 0⟩, ⟨"/p/files/scratch".toList, 3, .out, [], 0⟩,
             ⟨"/p/tmp/t".toList, 2, .tmp 1, [], 0⟩] }


end Martian.Vdr
