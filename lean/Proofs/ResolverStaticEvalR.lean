/-
C01 — independence of `den` from the call-depth fuel: for a program whose call graph is acyclic
(`CallRankOk`) den does not depend on the fuel once it exceeds the depth of the callee
(`runCallable_fuel_stable`).
`den_fuel_independent` is the statement for `den`; `callRankOk_of_B` is the soundness of the Bool check of `CallRankOk`.
-/
import Proofs.DataflowAliasKeys
import Martian.ResolverStaticCheck
import Proofs.ResolverStaticExp

namespace Proofs.ResolverStatic
open Martian.Dataflow Martian.Resolver Martian.ResolverForks Martian.ResolverStatic Proofs.Dataflow
  Proofs.ResolverForks

/-- the call graph is acyclic: callees rank lower than their callers -/
def CallRankOk (P : Program) (rank : String → Nat) : Prop :=
  ∀ name pins outs calls ret, P.callables.lookup name = some (.pipeline pins outs calls ret) →
    ∀ c ∈ calls, (P.callables.lookup c.callee).isSome → rank c.callee < rank name

theorem runCallable_fuel_stable (P : Program) (O : Oracle) (nf : Nat) (rank : String → Nat)
    (hr : CallRankOk P rank) :
    ∀ (fuel : Nat) (callee : String), rank callee < fuel →
      ∀ p f args, runCallable P O nf (fuel + 1) callee p f args = runCallable P O nf fuel callee p f args := by
  intro fuel
  induction fuel with
  | zero => intro callee h; omega
  | succ fuel ih =>
    intro callee hlt p f args
    cases hl : P.callables.lookup callee with
    | none => simp [runCallable, hl]
    | some cb =>
      cases cb with
      | stage i o => simp [runCallable, hl]
      | pipeline pins outs calls ret =>
        rw [Proofs.DataflowAlias.runCallable_pipeline P O nf (fuel + 1) callee p f args pins outs calls ret hl,
          Proofs.DataflowAlias.runCallable_pipeline P O nf fuel callee p f args pins outs calls ret hl]
        have hcongr := Proofs.DataflowAlias.evalCalls_congr_run P.table nf P.insOf (runCallable P O nf fuel)
          (runCallable P O nf (fuel + 1)) p f calls ⟨pins, args, []⟩ [] (by
            intro c hc q g x
            cases hcl : P.callables.lookup c.callee with
            | none =>
              cases fuel with
              | zero => simp [runCallable, hcl]
              | succ k => simp [runCallable, hcl]
            | some cb' =>
              have := hr callee pins outs calls ret hl c hc (by simp [hcl])
              exact ih c.callee (by omega) q g x)
        rw [hcongr]

theorem den_fuel_independent (P : Program) (O : Oracle) (rank : String → Nat) (hr : CallRankOk P rank)
    (htop : rank P.top.callee < P.fuel) (k : Nat) :
    runCallable P O P.nfuel (P.fuel + k) P.top.callee [P.top.id] [] P.topArgs = den P O := by
  induction k with
  | zero => rfl
  | succ k ih =>
    have := runCallable_fuel_stable P O P.nfuel rank hr (P.fuel + k) P.top.callee (by omega)
      [P.top.id] [] P.topArgs
    rw [show P.fuel + (k + 1) = P.fuel + k + 1 from rfl, this, ih]

theorem callRankOk_of_B (P : Program) (h : callGraphAcyclicB P = true) :
    CallRankOk P (callDepth P P.callables.length) ∧ callDepth P P.callables.length P.top.callee < P.fuel := by
  simp only [callGraphAcyclicB, Bool.and_eq_true, List.all_eq_true, decide_eq_true_eq] at h
  refine ⟨?_, h.2⟩
  intro name pins outs calls ret hl c hc hs
  have := h.1 (name, _) (mem_of_lookup _ _ _ hl)
  simp only [List.all_eq_true, Bool.or_eq_true, Option.isNone_iff_eq_none, decide_eq_true_eq] at this
  cases this c hc with
  | inl h0 => rw [h0] at hs; cases hs
  | inr h0 => exact h0

end Proofs.ResolverStatic
