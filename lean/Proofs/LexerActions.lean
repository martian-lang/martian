/-
C08, action level: every token-consuming grammar action, on every token the
tokenizer model can emit for the token kind the action receives, yields a value
or a located error — never a panic.  Lemmas, and the theorems restated in
Props/C08.lean.
The last section is the int16 counter of array / map dimensions (`arrList_spec`, `arrList_total`,
`arrList_no_panic`, `mapDim_total`, `idSliceAction_id`).
-/
import Martian.LexerActions
import Proofs.Lexer
import Proofs.Tokenizer

namespace Martian.LexerActions
open Martian.Lexer Martian.Tokenizer

/-! ## inverting `nextToken`: which rule produced a token with a given id -/

/-- no keyword of the switch table carries the token id `n` -/
def kwFree (T : Tables) (n : Nat) : Bool :=
  T.sw.all fun cl => cl.2.2.all fun p => lookupId T.ids p.2 != n

theorem keywordMatch_id (T : Tables) (b : Bytes) (kws : List (String × String))
    (h : 0 < (keywordMatch T b kws).1.length) : ∃ p ∈ kws, (keywordMatch T b kws).2 = lookupId T.ids p.2 := by
  induction kws with
  | nil => cases h
  | cons p rest ih =>
    rw [keywordMatch_cons] at h ⊢
    by_cases hv : (bytesPrefixString b (strBytes p.1)).length > 0
    · rw [if_pos hv]
      exact ⟨p, List.mem_cons_self, rfl⟩
    · rw [if_neg hv] at h ⊢
      obtain ⟨q, hq, e⟩ := ih h
      exact ⟨q, List.mem_cons_of_mem _ hq, e⟩

theorem kwFree_clause {T : Tables} {n : Nat} (hkw : kwFree T n = true) {bs : List Nat} {kind : String}
    {kws : List (String × String)} (hm : (bs, kind, kws) ∈ T.sw) {p : String × String} (hp : p ∈ kws) :
    lookupId T.ids p.2 ≠ n := by
  unfold kwFree at hkw
  rw [List.all_eq_true] at hkw
  have h1 := hkw _ hm
  rw [List.all_eq_true] at h1
  have h2 := h1 _ hp
  simpa using h2

theorem stringRule_snd (T : Tables) (b : Bytes) : (stringRule T b).2 = lookupId T.ids "LITSTRING" := by
  unfold stringRule; split <;> rfl

theorem idRule_snd (T : Tables) (b : Bytes) : (idRule T b).2 = lookupId T.ids "ID" := by
  unfold idRule
  split
  · rfl
  · split <;> rfl

theorem commentRule_snd (T : Tables) (b : Bytes) (h : 0 < (commentRule T b).1.length) :
    (commentRule T b).2 = invalidId T ∨ (commentRule T b).2 = commentId T := by
  unfold commentRule at h ⊢
  split
  · simp at h
  · split
    · exact .inl rfl
    · exact .inr rfl

/-- the side conditions on a token id `n` under which only the string rule or
the numeric clause can have produced it -/
structure RuleId (T : Tables) (n : Nat) : Prop where
  big : 256 ≤ n
  skip : skipId T ≠ n
  comment : commentId T ≠ n
  invalid : invalidId T ≠ n
  ident : lookupId T.ids "ID" ≠ n
  kw : kwFree T n = true

theorem keywordTokenT_class (T : Tables) (n : Nat) (R : RuleId T n) (b t : Bytes)
    (h : keywordTokenT T b = (t, n)) (hl : 0 < t.length) :
    stringRule T b = (t, n) ∨ numberRule T b = (t, n) := by
  revert h
  refine keywordTokenT_ind (P := fun x => x = (t, n) → _) T b ?_ ?_ .inl ?_ ?_ .inr ?_ ?_
  · intro h; cases h; simp at hl
  · intro c r _ h
    have := c.toNat_lt
    have := R.big
    have := congrArg Prod.snd h
    simp only at this
    omega
  · intro h
    have e1 : (commentRule T b).1 = t := congrArg Prod.fst h
    rcases commentRule_snd T b (by rw [e1]; exact hl) with e | e
    · exact absurd (e ▸ congrArg Prod.snd h) R.invalid
    · exact absurd (e ▸ congrArg Prod.snd h) R.comment
  · intro h; exact absurd (congrArg Prod.snd h) R.skip
  · intro h; exact absurd (idRule_snd T b ▸ congrArg Prod.snd h) R.ident
  · intro bs kind kws hm h
    have e1 : (keywordMatch T b kws).1 = t := congrArg Prod.fst h
    obtain ⟨p, hp, e⟩ := keywordMatch_id T b kws (by rw [e1]; exact hl)
    exact absurd (e ▸ congrArg Prod.snd h) (kwFree_clause R.kw hm hp)

theorem nextTokenT_class (T : Tables) (n : Nat) (R : RuleId T n) (head t : Bytes)
    (h : nextTokenT T head = (n, t)) :
    (stringRule T head = (t, n) ∨ numberRule T head = (t, n)) ∧ 0 < t.length := by
  unfold nextTokenT at h
  simp only at h
  split at h
  · rename_i hl
    have e1 : (keywordTokenT T head).2 = n := congrArg Prod.fst h
    have e2 : (keywordTokenT T head).1 = t := congrArg Prod.snd h
    have hk : keywordTokenT T head = (t, n) := by rw [← e1, ← e2]
    have hl' : 0 < t.length := by rw [← e2]; exact hl
    exact ⟨keywordTokenT_class T n R head t hk hl', hl'⟩
  · split at h
    · have e1 : (idRule T head).2 = n := congrArg Prod.fst h
      rw [idRule_snd] at e1
      exact absurd e1 R.ident
    · exact absurd (congrArg Prod.fst h) R.invalid

/-! ## the regenerated tables -/

theorem gen_ruleId (k : Kind) : RuleId genTables (lookupId Gen.tokIds k.name) := by
  have h : ([Kind.numInt, .numFloat, .litString].all fun k =>
      decide (256 ≤ lookupId Gen.tokIds k.name ∧ skipId genTables ≠ lookupId Gen.tokIds k.name ∧
        commentId genTables ≠ lookupId Gen.tokIds k.name ∧ invalidId genTables ≠ lookupId Gen.tokIds k.name ∧
        lookupId genTables.ids "ID" ≠ lookupId Gen.tokIds k.name ∧
        kwFree genTables (lookupId Gen.tokIds k.name) = true)) = true := by decide +kernel
  have h' := (List.all_eq_true.mp h) k (by cases k <;> simp)
  rw [decide_eq_true_eq] at h'
  exact ⟨h'.1, h'.2.1, h'.2.2.1, h'.2.2.2.1, h'.2.2.2.2.1, h'.2.2.2.2.2⟩

/-- what the rule behind a token kind returned -/
def ruleOf : Kind → Bytes → Bytes → Prop
  | .numFloat, head, t => numTok false head = .float t
  | .numInt, head, t => numTok false head = .int t
  | .litString, head, t => matchString head = some t

theorem kind_id_inj (k k' : Kind) : lookupId Gen.tokIds k.name = lookupId Gen.tokIds k'.name → k = k' := by
  cases k <;> cases k' <;> decide

theorem kind_id_valid (k : Kind) : lookupId Gen.tokIds k.name ≠ invalidId genTables := by
  cases k <;> decide

/-- a token emitted with the id of a kind was returned by the rule of that kind: the ids of the three kinds are
distinct and none is INVALID, so each arm of `stringRule` / `numberRule` fixes the kind -/
theorem emits_rule {k : Kind} {head t : Bytes} (h : emits k head t) : ruleOf k head t := by
  obtain ⟨hc, hl⟩ := nextTokenT_class genTables _ (gen_ruleId k) head t h
  have empty : ∀ {n : Nat}, (([] : Bytes), n) = (t, lookupId Gen.tokIds k.name) → ruleOf k head t :=
    fun e => by cases e; simp at hl
  rcases hc with hs | hn
  · unfold stringRule at hs
    split at hs
    · rename_i t' ht
      cases kind_id_inj .litString k (congrArg Prod.snd hs)
      cases hs; exact ht
    · exact empty hs
  · unfold numberRule at hn
    split at hn
    · rename_i t' ht
      cases kind_id_inj .numFloat k (congrArg Prod.snd hn)
      cases hn; exact ht
    · rename_i t' ht
      cases kind_id_inj .numInt k (congrArg Prod.snd hn)
      cases hn; exact ht
    · exact absurd (congrArg Prod.snd hn).symm (kind_id_valid k)
    · exact empty hn

/-! ## the converters on emitted tokens (from `numTok`'s range checks and
`matchString_unquote`) -/

theorem emitted_int_parses {head t : Bytes} (h : emits .numInt head t) : ∃ i, parseInt t = some i :=
  Option.isSome_iff_exists.mp (numTok_int (emits_rule h)).2

theorem emitted_float_parses {head t : Bytes} (h : emits .numFloat head t) : ∃ l, parseFloat false t = some l :=
  Option.isSome_iff_exists.mp (numTok_float (emits_rule h)).2

theorem emitted_string_unquotes {head t : Bytes} (h : emits .litString head t) : ∃ out, unquoteBytes t = some out :=
  matchString_unquote (emits_rule h)

/-! ## the individual actions -/

/-- `float_32: NUM_FLOAT` never panics, on ANY text (the error of
`tryParseFloat32` is checked) -/
theorem float32Float_no_panic (t : Bytes) : float32Float t ≠ .panic := by
  unfold float32Float; split <;> simp

theorem float32Float_error_iff (t : Bytes) : float32Float t = .error ↔ parseFloat true t = none := by
  unfold float32Float; split <;> simp_all

/-- `float_32: NUM_INT` is total on emitted tokens: NUM_INT is emitted only
when `tryParseInt` succeeded -/
theorem float32Int_total {head t : Bytes} (h : emits .numInt head t) : ∃ v, float32Int t = .ok v := by
  obtain ⟨i, hi⟩ := emitted_int_parses h
  exact ⟨f32OfInt i, by simp [float32Int, hi]⟩

theorem float32Action_no_panic {k : Kind} {head t : Bytes} (h : emits k head t) : float32Action k t ≠ .panic := by
  cases k with
  | numInt =>
    obtain ⟨v, hv⟩ := float32Int_total h
    simp [float32Action, hv, Action.map]
  | numFloat =>
    have := float32Float_no_panic t
    unfold float32Action
    simp only
    cases hf : float32Float t <;> simp_all [Action.map]
  | litString => simp [float32Action]

theorem resourceAction_no_panic (g : Nat) {k : Kind} {head t : Bytes} (h : emits k head t) :
    resourceAction g k t ≠ .panic := by
  have := float32Action_no_panic h
  unfold resourceAction
  split <;> simp_all

theorem resourceAction_error_iff (g : Nat) (k : Kind) (t : Bytes) :
    resourceAction g k t = .error ↔ float32Action k t = .error := by
  unfold resourceAction
  split <;> simp_all

theorem unquoteAction_no_panic {k : Kind} {head t : Bytes} (h : emits k head t) : unquoteAction k t ≠ .panic := by
  cases k with
  | litString =>
    obtain ⟨out, ho⟩ := emitted_string_unquotes h
    simp [unquoteAction, ho]
  | numInt => simp [unquoteAction]
  | numFloat => simp [unquoteAction]

theorem unquoteAction_ok {head t : Bytes} (h : emits .litString head t) : ∃ b, unquoteAction .litString t = .ok (.str b) := by
  obtain ⟨out, ho⟩ := emitted_string_unquotes h
  exact ⟨out, by simp [unquoteAction, ho]⟩

theorem srcSiteAction_no_panic {k : Kind} {head t : Bytes} (h : emits k head t) : srcSiteAction k t ≠ .panic := by
  cases k with
  | litString =>
    obtain ⟨out, ho⟩ := emitted_string_unquotes h
    have := srcAction_no_panic out
    unfold srcSiteAction
    simp only [ho]
    split <;> simp_all
  | numInt => simp [srcSiteAction]
  | numFloat => simp [srcSiteAction]

theorem valAction_ok {k : Kind} {head t : Bytes} (h : emits k head t) : ∃ v, valAction k t = .ok v := by
  cases k with
  | numInt =>
    obtain ⟨i, hi⟩ := emitted_int_parses h
    exact ⟨.int i, by simp [valAction, hi]⟩
  | numFloat =>
    obtain ⟨l, hl⟩ := emitted_float_parses h
    exact ⟨.float l, by simp [valAction, hl]⟩
  | litString =>
    obtain ⟨b, hb⟩ := unquoteAction_ok h
    exact ⟨.str b, by simp [valAction, hb]⟩

theorem valAction_int_exact {head t : Bytes} (h : emits .numInt head t) :
    valAction .numInt t = .ok (.int (intTokVal t)) ∧ inInt64 (intTokVal t) = true := by
  have hn : numTok false head = .int t := emits_rule h
  obtain ⟨i, hi⟩ := emitted_int_parses h
  have hb := (numTok_int hn).1
  have he := parseInt_exact hb
  rw [hi] at he
  by_cases hv : inInt64 (intTokVal t) = true
  · simp only [hv, if_true] at he
    cases he
    exact ⟨by simp [valAction, hi], hv⟩
  · simp [hv] at he

/-- every modelled token-consuming action, on every token the
tokenizer model emits for any of the three converted token kinds, yields a
value or a located error, never a panic. -/
theorem actions_total (s : Site) (k : Kind) (head t : Bytes) (h : emits k head t) : act s k t ≠ .panic := by
  cases s with
  | float32 => exact float32Action_no_panic h
  | threads => exact resourceAction_no_panic 100 h
  | memGb => exact resourceAction_no_panic 1024 h
  | vmemGb => exact resourceAction_no_panic 1024 h
  | special => exact unquoteAction_no_panic h
  | incl => exact unquoteAction_no_panic h
  | help => exact unquoteAction_no_panic h
  | outName => exact unquoteAction_no_panic h
  | mapKey => exact unquoteAction_no_panic h
  | src => exact srcSiteAction_no_panic h
  | valExp =>
    obtain ⟨v, hv⟩ := valAction_ok h
    simp [act, hv]

/-- where the action can fail at all: only `float_32` on a NUM_FLOAT outside
the float32 range, and `src_stm` on a blank command; every other accepted
(site, kind) pair always yields a value -/
theorem actions_error_only (s : Site) (k : Kind) (head t : Bytes) (h : emits k head t)
    (ha : s.accepts k = true) (he : act s k t = .error) :
    (k = .numFloat ∧ (s = .float32 ∨ s = .threads ∨ s = .memGb ∨ s = .vmemGb) ∧ parseFloat true t = none) ∨
    (s = .src ∧ k = .litString) := by
  -- `float_32` fails only on a NUM_FLOAT that `strconv.ParseFloat(·, 32)` rejects
  have f32 : (k != .litString) = true → float32Action k t = .error → k = .numFloat ∧ parseFloat true t = none := by
    intro hk hf
    cases k with
    | numInt => obtain ⟨v, hv⟩ := float32Int_total h; simp [float32Action, hv, Action.map] at hf
    | numFloat =>
      refine ⟨rfl, (float32Float_error_iff t).mp ?_⟩
      simp only [float32Action] at hf
      cases hx : float32Float t <;> simp [hx, Action.map] at hf
      rfl
    | litString => cases hk
  have res : ∀ g, (k != .litString) = true → resourceAction g k t = .error → k = .numFloat ∧ parseFloat true t = none :=
    fun g hk hr => f32 hk ((resourceAction_error_iff g k t).mp hr)
  have unq : (k == .litString) = true → unquoteAction k t = .error → False := by
    intro hk hu
    cases eq_of_beq hk
    obtain ⟨b, hb⟩ := unquoteAction_ok h
    rw [hb] at hu
    cases hu
  cases s with
  | float32 => exact .inl ⟨(f32 ha he).1, .inl rfl, (f32 ha he).2⟩
  | threads => exact .inl ⟨(res _ ha he).1, .inr (.inl rfl), (res _ ha he).2⟩
  | memGb => exact .inl ⟨(res _ ha he).1, .inr (.inr (.inl rfl)), (res _ ha he).2⟩
  | vmemGb => exact .inl ⟨(res _ ha he).1, .inr (.inr (.inr rfl)), (res _ ha he).2⟩
  | special => exact (unq ha he).elim
  | incl => exact (unq ha he).elim
  | help => exact (unq ha he).elim
  | outName => exact (unq ha he).elim
  | mapKey => exact (unq ha he).elim
  | src => exact .inr ⟨rfl, eq_of_beq ha⟩
  | valExp =>
    obtain ⟨v, hv⟩ := valAction_ok h
    rw [act, hv] at he
    cases he

/-! ## arr_list -/

theorem wrap16_id {n : Int} (h0 : -32768 ≤ n) (h1 : n < 32768) : wrap16 n = n := by
  unfold wrap16; omega

/-- the counter after `k` pairs: `k` itself while `k ≤ 32767`, a located error
from the 32768th pair on -/
theorem arrList_spec : ∀ k : Nat, arrList k = if k ≤ 32767 then .ok (k : Int) else .error
  | 0 => by simp [arrList]
  | k + 1 => by
    rw [arrList, arrList_spec k]
    by_cases h : k ≤ 32767
    · simp only [h, if_true]
      unfold arrStep maxDim
      by_cases h2 : k = 32767
      · subst h2; simp
      · have h3 : ((k : Int) == 2 ^ 15 - 1) = false := by
          simp only [beq_eq_false_iff_ne, ne_eq]; omega
        have h4 : k + 1 ≤ 32767 := by omega
        simp only [h3, h4, if_true, Bool.false_eq_true, if_false]
        rw [wrap16_id (by omega) (by omega)]
        simp
    · have h4 : ¬ (k + 1 ≤ 32767) := by omega
      simp [h, h4]

/-- for every number of `[]` pairs the action sequence yields a count in
`[0, 2^15)` — the count itself, no wrap — or a located error; never a panic -/
theorem arrList_total (k : Nat) :
    (∃ n : Int, arrList k = .ok n ∧ 0 ≤ n ∧ n < 2 ^ 15 ∧ n = k) ∨ (arrList k = .error ∧ 32767 < k) := by
  rw [arrList_spec]
  by_cases h : k ≤ 32767
  · left; exact ⟨k, by simp [h], by omega, by omega, rfl⟩
  · right; exact ⟨by simp [h], by omega⟩

theorem arrList_no_panic (k : Nat) : arrList k ≠ .panic := by
  rw [arrList_spec]; split <;> simp

theorem arrListUnguarded_spec : ∀ k : Nat, arrListUnguarded k = .ok (wrap16 k)
  | 0 => by simp [arrListUnguarded, wrap16]
  | k + 1 => by
    rw [arrListUnguarded, arrListUnguarded_spec k]
    simp only [arrStepUnguarded, Action.ok.injEq]
    unfold wrap16
    push_cast
    omega

/-- … negative witness: 32768 pairs would give −32768 -/
theorem arrListUnguarded_wraps : arrListUnguarded 32768 = .ok (-32768) ∧ arrStepUnguarded 32767 = .ok (-32768) ∧
    arrStep 32767 = .error := by
  refine ⟨?_, by decide, by decide⟩
  rw [arrListUnguarded_spec]; decide

/-- before the repair: `MapDim: 1 + $4` had no guard; 32767 inner dimensions
wrapped it to −32768 -/
theorem mapDimUnguarded_wraps : mapDimUnguarded 32767 = -32768 ∧
    (∀ n : Int, 0 ≤ n → n < 32767 → mapDimUnguarded n = n + 1) := by
  refine ⟨by decide, ?_⟩
  intro n h0 h1
  unfold mapDimUnguarded
  rw [wrap16_id (by omega) (by omega)]
  omega

/-- the guarded action: for every inner dimension count the `arr_list` counter
can deliver (0 … 32767) the map dimension is exact and below 2^15, or a
located error -/
theorem mapDim_total (n : Int) (h0 : 0 ≤ n) (h1 : n ≤ 32767) :
    (mapDim n = .ok (n + 1) ∧ n + 1 < 2 ^ 15) ∨ (mapDim n = .error ∧ n = 32767) := by
  unfold mapDim maxDim
  by_cases h : n = 32767
  · right; subst h; exact ⟨by decide, rfl⟩
  · left
    have hne : (n == (2 : Int) ^ 15 - 1) = false := by
      simp only [beq_eq_false_iff_ne, ne_eq]; omega
    rw [hne]
    simp only [Bool.false_eq_true, if_false]
    rw [wrap16_id (by omega) (by omega)]
    exact ⟨by rw [Int.add_comm], by omega⟩

theorem idSliceAction_id (t : Bytes) : idSliceAction t = .ok t := by simp [idSliceAction]

/-! ## non-vacuity and negative witnesses -/

-- the hypotheses are satisfiable: tokens of all three kinds are emitted
set_option exponentiation.threshold 1100 in
set_option maxRecDepth 4000 in
example : emits .numInt [0x2D, 0x34, 0x32, 0x2C] [0x2D, 0x34, 0x32] ∧
    emits .numFloat [0x31, 0x65, 0x33, 0x39, 0x2C] [0x31, 0x65, 0x33, 0x39] ∧
    emits .litString [0x22, 0x61, 0x22, 0x2C] [0x22, 0x61, 0x22] := by
  unfold emits; decide +kernel

-- each outcome class is reachable: `4`, `1.5`, `16.0` → ok; `1e39` (a NUM_FLOAT) → error at float_32
set_option exponentiation.threshold 1100 in
example : act .threads .numInt [0x34] = .ok (.f32 (some 4)) ∧
    act .memGb .numFloat [0x31, 0x2E, 0x35] = .ok (.f32 none) ∧
    act .vmemGb .numFloat [0x31, 0x36, 0x2E, 0x30] = .ok (.f32 (some 16)) ∧
    act .memGb .numFloat [0x31, 0x65, 0x33, 0x39] = .error ∧
    act .valExp .numFloat [0x31, 0x65, 0x33, 0x39] = .ok (.float ⟨false, 1, 39⟩) ∧
    act .src .litString [0x22, 0x20, 0x22] = .error ∧
    act .src .litString [0x22, 0x61, 0x20, 0x62, 0x22] = .ok (.src [0x61] [[0x62]]) ∧
    act .help .litString [0x22, 0x5C, 0x6E, 0x22] = .ok (.str [0x0A]) ∧
    act .help .numInt [0x34] = .error := by decide +kernel

/-- Negative witness: `1e39` is a NUM_FLOAT of the tokenizer (it passed the
float64 range check) on which the panicking converter `parseFloat32` panics:
without the error check the float_32 action would crash. -/
theorem float32_unchecked_panics :
    numTok false [0x31, 0x65, 0x33, 0x39] = .float [0x31, 0x65, 0x33, 0x39] ∧
    float32FloatUnchecked [0x31, 0x65, 0x33, 0x39] = .panic ∧
    float32Float [0x31, 0x65, 0x33, 0x39] = .error := by
  decide +kernel

/-- Negative witnesses: the actions DO panic on texts the tokenizer does not
emit for that kind (`2^63` as NUM_INT, `"\x1"` as LITSTRING, `1e999` as
NUM_FLOAT in `val_exp`) -/
theorem actions_panic_outside_tokens :
    float32Int [0x39,0x32,0x32,0x33,0x33,0x37,0x32,0x30,0x33,0x36,0x38,0x35,0x34,0x37,0x37,0x35,0x38,0x30,0x38] = .panic ∧
    unquoteAction .litString [0x22, 0x5C, 0x78, 0x31, 0x22] = .panic ∧
    valAction .numFloat [0x31, 0x65, 0x39, 0x39, 0x39] = .panic := by
  decide +kernel

end Martian.LexerActions
