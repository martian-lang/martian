import Martian.InvocationSort
import Proofs.Invocation
import Proofs.FormatExpParse

/-! C16, member order: `sortE` sorts (`sortedE_sortE`), fixes what is sorted (`sortE_of_sorted`), commutes with
marshalling (`encode_sortE`, `dataOf_sortBinds`); `ascK` is C09's `sortedKeys` on the translated members
(`sortedKeys_toFKvs`). -/

namespace Martian.InvocationSort
open Martian.Invocation Martian.InvocationText
open Martian.FormatExp (bytesLt bytesLt_total bytesLt_trans sortedKeys)

theorem allGt_of_lt (a b : Str) (h : bytesLt a b = true) : ∀ r : EKvs, allGt b r = true → allGt a r = true
  | .nil, _ => rfl
  | .cons k _ r, hr => by
    simp only [allGt, Bool.and_eq_true] at hr ⊢
    exact ⟨bytesLt_trans a b k h hr.1, allGt_of_lt a b h r hr.2⟩

theorem allGt_insE (a k : Str) (e : Exp) (h : bytesLt a k = true) (r : EKvs) (hr : allGt a r = true) :
    allGt a (insE k e r) = true := by
  fun_induction insE k e r <;> simp_all [allGt]

theorem ascK_insE (k : Str) (e : Exp) (r : EKvs) (hr : ascK r = true) : ascK (insE k e r) = true := by
  fun_induction insE k e r
  case case1 => simp [ascK, allGt]
  case case2 k' e' r hlt =>
    simp only [ascK, Bool.and_eq_true] at hr
    simp [ascK, allGt, hlt, allGt_of_lt k k' hlt r hr.1, hr.1, hr.2]
  case case3 => exact hr
  case case4 k' e' r hlt hne ih =>
    simp only [ascK, Bool.and_eq_true] at hr
    have hgt : bytesLt k' k = true := by
      rcases bytesLt_total k k' with h | h | h
      · exact absurd h hlt
      · exact absurd h hne
      · exact h
    simp [ascK, allGt_insE k' k e hgt r hr.1, ih hr.2]

theorem sortedEK_insE (k : Str) (e : Exp) (he : sortedE e = true) (r : EKvs) (hr : sortedEK r = true) :
    sortedEK (insE k e r) = true := by
  fun_induction insE k e r <;> simp_all [sortedEK]

mutual
theorem sortedE_sortE : ∀ e : Exp, sortedE (sortE e) = true
  | .lit _ => rfl
  | .arr xs => by simp [sortE, sortedE, sortedEL_sortEL xs]
  | .map s kvs => by simp [sortE, sortedE, (sorted_sortEK kvs).1, (sorted_sortEK kvs).2]
theorem sortedEL_sortEL : ∀ xs : EList, sortedEL (sortEL xs) = true
  | .nil => rfl
  | .cons e r => by simp [sortEL, sortedEL, sortedE_sortE e, sortedEL_sortEL r]
theorem sorted_sortEK : ∀ kvs : EKvs, ascK (sortEK kvs) = true ∧ sortedEK (sortEK kvs) = true
  | .nil => ⟨rfl, rfl⟩
  | .cons k e r =>
    ⟨ascK_insE k _ _ (sorted_sortEK r).1, sortedEK_insE k _ (sortedE_sortE e) _ (sorted_sortEK r).2⟩
end

theorem insE_of_allGt (k : Str) (e : Exp) : ∀ r : EKvs, allGt k r = true → insE k e r = .cons k e r
  | .nil, _ => rfl
  | .cons k' e' r, h => by
    simp only [allGt, Bool.and_eq_true] at h
    simp [insE, h.1]

mutual
theorem sortE_of_sorted : ∀ e : Exp, sortedE e = true → sortE e = e
  | .lit _, _ => rfl
  | .arr xs, h => by simp [sortE, sortEL_of_sorted xs (by simpa [sortedE] using h)]
  | .map s kvs, h => by
    simp only [sortedE, Bool.and_eq_true] at h
    simp [sortE, sortEK_of_sorted kvs h.1 h.2]
theorem sortEL_of_sorted : ∀ xs : EList, sortedEL xs = true → sortEL xs = xs
  | .nil, _ => rfl
  | .cons e r, h => by
    simp only [sortedEL, Bool.and_eq_true] at h
    simp [sortEL, sortE_of_sorted e h.1, sortEL_of_sorted r h.2]
theorem sortEK_of_sorted : ∀ kvs : EKvs, ascK kvs = true → sortedEK kvs = true → sortEK kvs = kvs
  | .nil, _, _ => rfl
  | .cons k e r, ha, hs => by
    simp only [ascK, Bool.and_eq_true] at ha
    simp only [sortedEK, Bool.and_eq_true] at hs
    simp [sortEK, sortE_of_sorted e hs.1, sortEK_of_sorted r ha.2 hs.2, insE_of_allGt k e r ha.1]
end

theorem all_toFKvs (g : G) (a : Str) : ∀ kvs : EKvs,
    (toFKvs g kvs).all (fun kv => bytesLt a kv.1) = allGt a kvs
  | .nil => rfl
  | .cons k e r => by simp [toFKvs, allGt, all_toFKvs g a r]

theorem sortedKeys_toFKvs (g : G) : ∀ kvs : EKvs, sortedKeys (toFKvs g kvs) = ascK kvs
  | .nil => rfl
  | .cons k e r => by simp [toFKvs, sortedKeys, ascK, all_toFKvs g k r, sortedKeys_toFKvs g r]

theorem encodeKvs_insE (k : Str) (e : Exp) (r : EKvs) :
    encodeKvs (insE k e r) = insJ k (encode e) (encodeKvs r) := by
  fun_induction insE k e r <;> simp_all [encodeKvs, insJ]

mutual
theorem encode_sortE : ∀ e : Exp, encode (sortE e) = sortJ (encode e)
  | .lit _ => rfl
  | .arr xs => by simp [sortE, encode, sortJ, encodeList_sortEL xs]
  | .map s kvs => by simp [sortE, encode, sortJ, encodeKvs_sortEK kvs]
theorem encodeList_sortEL : ∀ xs : EList, encodeList (sortEL xs) = sortJL (encodeList xs)
  | .nil => rfl
  | .cons e r => by simp [sortEL, encodeList, sortJL, encode_sortE e, encodeList_sortEL r]
theorem encodeKvs_sortEK : ∀ kvs : EKvs, encodeKvs (sortEK kvs) = sortJK (encodeKvs kvs)
  | .nil => rfl
  | .cons k e r => by simp [sortEK, encodeKvs, sortJK, encodeKvs_insE, encode_sortE e, encodeKvs_sortEK r]
end

theorem dataOf_sortBinds : ∀ bs : List (Str × Arg), dataOf (sortBinds bs) = sortData (dataOf bs) :=
  dataOf_map sortArg sortJ fun a => by
    cases a <;> simp [sortArg, encodeArg, encode_sortE, Arg.isSplit, sortJ, sortJK, insJ]

end Martian.InvocationSort
