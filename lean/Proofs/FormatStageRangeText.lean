import Proofs.FormatDeclLex
import Proofs.FormatDeclRangeRead
import Proofs.FormatResGB
import Proofs.FormatStageLex

/-!
C09, accepted declaration texts: from the range of the readers to the text-side
statements.  Three parts: the stage with the exact reading (`Martian.FormatStage`, first block),
parameter blocks (`Martian.FormatDecl.parseParams_fmt_accepted`), the stage with the float32 reading
(second `Martian.FormatStage` block, with its own comment).

* `wfStage_canon`: `HOK h`, `stageRaw s`, valid strings and `mem_gb`/`vmem_gb` in `wfMB`
  (`stageMB32Valid`; `wfMB` = the values on which `readGB32 ∘ fmtGB` is the identity, `gbRoundTrips`,
  which contains everything below 256 GB) give `wfStage (canonStage h s)`;
* `canonStage_fixed`: canonicalising the threads text of a canonicalised stage
  changes nothing (clause `fixed` of `HOK`);
* `accepted_of_reader`: for every text a reader accepts (any reader with range `stageRaw`
  that inverts the printer on well-formed stages), the printed form is accepted, reads as
  the same stage and is a fixed point; `Props.C09.parse_produces_wf_stage_partial`,
  `format_preserves_accepted_stage_partial` are its instance for the exact reading of `mem_gb` /
  `vmem_gb`.
-/

namespace Martian.FormatStage
open Martian.Lexer (Bytes)
open Martian.FormatExp
open Martian.FormatDecl (Param paramsStrsValid paramRaw all_wfParam_of_raw)
open Martian.FormatRes (Res wfRes wfMB wfThreads wfSrc wfField)

theorem wfRes_canon (h : Bytes → Bytes) (hh : HOK h) (r : Res) (hr : resRaw r = true)
    (hm : (wfMB r.mem && wfMB r.vmem) = true)
    (hs : (match r.special with | some x => Martian.ShellQuote.validUtf8 x | none => true) = true) :
    wfRes (canonRes h r) = true := by
  obtain ⟨mem, special, threads, vmem, vol⟩ := r
  simp only [Bool.and_eq_true] at hm
  simp only [wfRes, canonRes, hm.1, hm.2, Bool.true_and, Bool.and_eq_true]
  refine ⟨hs, ?_⟩
  cases threads with
  | none => rfl
  | some t => exact hh.range t hr

theorem canonRes_fixed (h : Bytes → Bytes) (hh : HOK h) (r : Res) (hr : resRaw r = true) :
    canonRes h (canonRes h r) = canonRes h r := by
  obtain ⟨mem, special, threads, vmem, vol⟩ := r
  cases threads with
  | none => rfl
  | some t =>
    simp only [canonRes, Option.map_some]
    rw [hh.fixed t hr]

/-- from the range of the reader to `wfStage`, for the stage as Go holds it -/
theorem wfStage_canon (h : Bytes → Bytes) (hh : HOK h) (s : Stage) (hr : stageRaw s = true)
    (hs : stageStrsValid (canonStage h s) = true) (hm : stageMB32Valid (canonStage h s) = true) :
    wfStage (canonStage h s) = true := by
  obtain ⟨id, ins, outs, lang, path, args, split, ci, co, res, ret⟩ := s
  simp only [stageRaw, Bool.and_eq_true] at hr
  obtain ⟨⟨⟨⟨⟨⟨⟨⟨⟨⟨⟨⟨⟨r1, r2⟩, r3⟩, r4⟩, r5⟩, r6⟩, r7⟩, r8⟩, r9⟩, r10⟩, r11⟩, r12⟩, r13⟩, r14⟩ := hr
  simp only [stageStrsValid, canonStage, Bool.and_eq_true] at hs
  obtain ⟨⟨⟨⟨⟨s1, s2⟩, s3⟩, s4⟩, s5⟩, s6⟩ := hs
  simp only [wfStage, canonStage, Bool.and_eq_true]
  refine ⟨⟨⟨⟨⟨⟨⟨⟨⟨⟨⟨⟨r1, all_wfParam_of_raw ins r2 s1⟩, r3⟩, all_wfParam_of_raw outs r4 s2⟩, r5⟩,
    all_wfParam_of_raw ci r6 s3⟩, r7⟩, all_wfParam_of_raw co r8 s4⟩, r9⟩, r10⟩, ?_⟩, ?_⟩, r14⟩
  · simp [wfSrc, r11, r12, s5]
  · cases res with
    | none => rfl
    | some r =>
      simp only [stageMB32Valid, canonStage, Option.map_some] at hm
      exact wfRes_canon h hh r r13 hm s6

theorem canonStage_fixed (h : Bytes → Bytes) (hh : HOK h) (s : Stage) (hr : stageRaw s = true) :
    canonStage h (canonStage h s) = canonStage h s := by
  obtain ⟨id, ins, outs, lang, path, args, split, ci, co, res, ret⟩ := s
  cases res with
  | none => rfl
  | some r =>
    have h13 : resRaw r = true := by
      simp only [stageRaw, Bool.and_eq_true] at hr
      exact hr.1.2
    simp only [canonStage, Option.map_some]
    rw [canonRes_fixed h hh r h13]

/-- For any reader `P` of source texts whose results are in `stageRaw` and which inverts the printer
on well-formed stages: what Go holds of an accepted text (`canonStage h` of what `P` returns) is
well formed under the exception hypotheses, its printed form is accepted, reads as the same stage
and is a fixed point. -/
theorem accepted_of_reader (P : Bytes → Option Stage)
    (hrange : ∀ src s, P src = some s → stageRaw s = true)
    (hround : ∀ s, wfStage s = true → P (fmtStage s) = some s)
    (h : Bytes → Bytes) (hh : HOK h) (src : Bytes) (s : Stage)
    (hp : (P src).map (canonStage h) = some s) (hs : stageStrsValid s = true)
    (hm : stageMB32Valid s = true) :
    wfStage s = true ∧ (P (fmtStage s)).map (canonStage h) = some s ∧
      ∀ s', (P (fmtStage s)).map (canonStage h) = some s' → fmtStage s' = fmtStage s := by
  obtain ⟨s0, h0, rfl⟩ := Option.map_eq_some_iff.mp hp
  have hr := hrange src s0 h0
  have hw := wfStage_canon h hh s0 hr hs hm
  have h1 : (P (fmtStage (canonStage h s0))).map (canonStage h) = some (canonStage h s0) := by
    rw [hround _ hw, Option.map_some, canonStage_fixed h hh s0 hr]
  exact ⟨hw, Martian.FormatDecl.roundtrip_fixed (read := fun t => (P t).map (canonStage h)) h1⟩

theorem hok_hSample : HOK hSample := by
  have key : ∀ t, wfThreads (hSample t) = true ∧ hSample (hSample t) = hSample t := by
    intro t
    unfold hSample
    by_cases h1 : t = [0x30, 0x2E, 0x35, 0x30]
    · simp only [h1, ↓reduceIte]; decide +kernel
    by_cases h2 : t = [0x31, 0x65, 0x30]
    · simp only [h2, ↓reduceIte]; decide +kernel
    by_cases h3 : t = [0x30, 0x30, 0x37]
    · simp only [h3, ↓reduceIte]; decide +kernel
    by_cases h4 : wfThreads t = true
    · simp only [h1, h2, h3, h4, ↓reduceIte]; exact ⟨trivial, trivial⟩
    · have h4' : wfThreads t = false := by simpa using h4
      simp only [h1, h2, h3, h4', Bool.false_eq_true, ↓reduceIte]; decide +kernel
  exact ⟨fun t _ => (key t).1, fun t _ => (key t).2⟩

end Martian.FormatStage

namespace Martian.FormatDecl
open Martian.Lexer (Bytes)
open Martian.FormatExp

theorem parseParams_fmt_accepted (src : Bytes) (ps : List Param) (h : parseParams src = some ps)
    (hs : paramsStrsValid ps = true) (mw tw iw hw : Nat) :
    parseParams (fmtParams mw tw iw hw ps) = some ps := by
  obtain ⟨ins, outs, rfl, h1, h2, h3, h4⟩ := parseParams_range src ps h hs
  exact parseParams_fmtParams mw tw iw hw ins outs h1 h2 h3 h4

end Martian.FormatDecl

/-!
C09, accepted stage declarations as the REAL parser reads them (`parseStage32`: `mem_gb` /
`vmem_gb` through the float32 rounding of the literal, `readGB32Tok`).

The range (`parseStage32_range`, Proofs/FormatStageRangeRead.lean) and the token layer
(`pStageAllR_toks`, Proofs/FormatStageParse.lean) hold for any reader `rd` of the two values that
reads `tokGB mb` back as `mb` for the values of the stage (`ReadsBack`); here `rd = readGB32Tok`:

* `readsBack32`, `stageMB32Valid_of_wf`, `parseStage32_fmtStage`: for a well-formed stage (`wfStage`
  puts `mem_gb`, `vmem_gb` in the domain `wfMB` = `gbRoundTrips`: the real reading of the printed
  value is the value) the REAL reading of the printed text is the stage;
* `stageMBValid_of_32`, `stageMB32Valid_canon`: `wfMB` lies inside `formatGB`'s `int64` range, and the
  canonicaliser of the threads text does not touch the two values.
The text-side statements for `parseStage32H` are `Props.C09.parse_produces_wf_stage32_partial`,
`Props.C09.format_preserves_accepted_stage32_partial`, instances of `accepted_of_reader`.
-/

namespace Martian.FormatStage
open Martian.Lexer (Bytes)
open Martian.FormatExp
open Martian.FormatRes (ReadsBack readGB32Tok wfMB gbRoundTrips_tok gbRoundTrips_lt63)

theorem readsBack32 (s : Stage) (hm : stageMB32Valid s = true) :
    ∀ r, s.res = some r → ReadsBack readGB32Tok r := by
  intro r hr
  simp only [stageMB32Valid, hr, Bool.and_eq_true] at hm
  exact ⟨fun mb h => gbRoundTrips_tok (by simpa only [h, wfMB] using hm.1),
    fun mb h => gbRoundTrips_tok (by simpa only [h, wfMB] using hm.2)⟩

/-- the resource conjunct of `wfStage` IS `stageMB32Valid` (`wfMB` on both values: `gbRoundTrips`) -/
theorem stageMB32Valid_of_wf (s : Stage) (hw : wfStage s = true) : stageMB32Valid s = true := by
  obtain ⟨_, _, _, _, _, _, _, _, _, _, _, h12, _⟩ := wfStage_parts hw
  unfold stageMB32Valid
  cases hr : s.res with
  | none => rfl
  | some r =>
    rw [hr] at h12
    simp only [Martian.FormatRes.wfRes, Bool.and_eq_true] at h12
    simp only [Bool.and_eq_true]
    exact ⟨h12.1.1.1, h12.1.1.2⟩

/-- round trip with the REAL reading of `mem_gb` / `vmem_gb`, on the domain `wfMB` of `wfStage` -/
theorem parseStage32_fmtStage (s : Stage) (hw : wfStage s = true) :
    parseStage32 (fmtStage s) = some s := by
  simp only [parseStage32, lexAll_fmtStage s hw, Option.bind_some]
  exact pStageAllR_toks readGB32Tok s hw (readsBack32 s (stageMB32Valid_of_wf s hw))

theorem mbInt64_of_wfMB : ∀ a : Option Int, wfMB a = true → mbInt64 a = true
  | none, _ => rfl
  | some _, h => by
    simp only [mbInt64, decide_eq_true_eq]
    exact gbRoundTrips_lt63 h

theorem stageMBValid_of_32 (s : Stage) (hm : stageMB32Valid s = true) : stageMBValid s = true := by
  unfold stageMB32Valid at hm
  unfold stageMBValid
  cases hr : s.res with
  | none => rfl
  | some r =>
    simp only [hr, Bool.and_eq_true] at hm ⊢
    exact ⟨mbInt64_of_wfMB _ hm.1, mbInt64_of_wfMB _ hm.2⟩

theorem stageMB32Valid_canon (h : Bytes → Bytes) (s : Stage) :
    stageMB32Valid (canonStage h s) = stageMB32Valid s := by
  obtain ⟨id, ins, outs, lang, path, args, split, ci, co, res, ret⟩ := s
  cases res <;> rfl

end Martian.FormatStage
