/-
C01 — soundness of the decidable type check `wellTypedTB` (array-mode map calls of stages and
pipelines, nested).
-/
import Proofs.ResolverStaticCheck
import Proofs.ResolverStaticTree2
import Proofs.ResolverStaticMap

namespace Proofs.ResolverStatic
open Martian.Dataflow Martian.Resolver Martian.ResolverForks Martian.ResolverStatic Proofs.Dataflow

theorem mappedOkTB_sound (st : StructTable) (n : Nat) (P : Program) (sT cT : String → Ty) (c : Call)
    (h : mappedOkTB st n P sT cT c = true) : MappedOkT st P sT cT c := by
  simp only [mappedOkTB, Bool.and_eq_true, Option.isNone_iff_eq_none, List.any_eq_true, List.all_eq_true,
    decide_eq_true_eq, Bool.or_eq_true, Bool.not_eq_true', beq_iff_eq] at h
  obtain ⟨⟨⟨⟨⟨hm, hd⟩, hex⟩, hnd⟩, hpar⟩, hty⟩ := h
  refine ⟨hm, hd, ?_, ?_, ?_⟩
  · obtain ⟨b, hb, hs⟩ := hex
    exact ⟨b, hb, hs⟩
  · intro b hb hs
    cases hpar b hb with
    | inl h0 => rw [h0] at hs; cases hs
    | inr h0 =>
      obtain ⟨p, hp, hpn⟩ := h0
      refine ⟨p, hp, ?_⟩
      rw [hpn]
      exact find_key_of_nodup c.binds (·.param) hnd b hb
  · intro p hp b hb
    have := hty p hp
    simp only [hb] at this
    exact hasTyB_sound st n sT cT b.exp _ this

theorem callsOkTB_sound (st : StructTable) (n : Nat) (P : Program) (sT : String → Ty) :
    ∀ (cs : List Call) (L : List (String × Ty)), callsOkTB st n P sT L cs = true → CallsOkT st P sT L cs
  | [], _, _ => trivial
  | c :: cs, L, h => by
    simp only [callsOkTB, Bool.and_eq_true, callOkTB, Bool.or_eq_true, List.all_eq_true, Bool.not_eq_true'] at h
    refine ⟨?_, callsOkTB_sound st n P sT cs _ h.2⟩
    cases h.1 with
    | inl h1 => exact Or.inl ⟨callOkB_sound st n P.insOf sT _ c (by rw [← callTyOfB_eq]; exact h1.1), h1.2⟩
    | inr h1 => exact Or.inr (mappedOkTB_sound st n P sT _ c (by rw [← callTyOfB_eq]; exact h1))

theorem wellTypedTB_sound (P : Program) (h : wellTypedTB P = true) : WellTypedT P := by
  simp only [wellTypedTB, Bool.and_eq_true, List.all_eq_true, beq_iff_eq, Bool.not_eq_true'] at h
  obtain ⟨⟨⟨⟨h1, h2⟩, h3⟩, h4⟩, h5⟩ := h
  refine ⟨structsOkB_sound _ h1, ?_, ?_, ?_⟩
  · intro name c hl
    exact h2 (name, c) (mem_of_lookup _ _ _ hl)
  · intro name pins outs calls ret hl
    have := h3 (name, _) (mem_of_lookup _ _ _ hl)
    simp only [pipelineOkTB, Bool.and_eq_true, List.all_eq_true] at this
    refine ⟨callsOkTB_sound _ _ _ _ calls [] (by rw [← selfTyOfB_eq]; exact this.1), ?_⟩
    intro p hp e he
    have h6 := this.2 p hp
    simp only [he] at h6
    exact hasTyB_sound _ _ _ _ e p.ty h6
  · exact ⟨callOkB_sound _ _ _ _ _ _ h4, h5⟩

end Proofs.ResolverStatic
