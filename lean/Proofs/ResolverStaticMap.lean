/-
C01 — the refinement "two-phase resolver = den" with MAP CALLS OF STAGES OVER ARRAY
LITERALS (statically sized map calls; no `disabled`, no mapped pipelines).  Resolved
expressions are evaluated in several fork assignments (the empty one for the
consumers, `[(call, ix)]` for fork `ix` of a mapped stage), so the environment relation
holds in every fork assignment (`FsT`) and the store is described node by node
(`StoreAtNode`: a node's recorded outs depend on the node's own fork dimensions only).
The file also holds the mapped step that the fragments of the flat skeleton share (`Flat.MappedFacts`,
`Flat.step_mapped`), `insts_forks`, the fragment's dispatch `Flat.callsStep_M` and the theorem `twoPhaseM_eq_den_F`.
-/
import Proofs.ResolverStaticMain

namespace Proofs.ResolverStatic
open Martian.Dataflow Martian.Resolver Martian.ResolverForks Martian.ResolverStatic Proofs.Dataflow
  Proofs.ResolverForks

/-- a map call of a STAGE: no `disabled`, every split binding is an array literal, all of one
(non-zero) length, and is the binding of a declared parameter; every binding is assignable
to its parameter (a split binding: at the array type of the parameter) -/
def MappedOk (st : StructTable) (P : Program) (sT cT : String → Ty) (c : Call) : Prop :=
  c.mapped = true ∧ c.disabled = none ∧
  (∃ sins souts, P.callables.lookup c.callee = some (.stage sins souts)) ∧
  (∃ n, 0 < n ∧ (∃ b ∈ c.binds, b.split = true) ∧
    (∃ p ∈ P.insOf c.callee, ∃ b, c.binds.find? (fun b => b.param == p.name) = some b ∧ b.split = true) ∧
    ∀ b ∈ c.binds, b.split = true → ∃ es, b.exp = .arr es ∧ es.length = n) ∧
  ∀ p ∈ P.insOf c.callee, ∀ b, c.binds.find? (fun b => b.param == p.name) = some b →
    HasTy st sT cT (if b.split then { p.ty with arrDim := p.ty.arrDim + 1 } else p.ty) b.exp

def CallOkM (st : StructTable) (P : Program) (sT cT : String → Ty) (c : Call) : Prop :=
  (CallOk st P.insOf sT cT c ∧ ∀ b ∈ c.binds, b.split = false) ∨ MappedOk st P sT cT c

/-- type of `CALL` as seen by later bindings -/
def callTyM (c : Call) : Ty := if c.mapped then ⟨c.callee, 0, 1⟩ else ⟨c.callee, 0, 0⟩

def CallsOkM (st : StructTable) (P : Program) (sT : String → Ty) :
    List (String × Ty) → List Call → Prop
  | _, [] => True
  | L, c :: cs => CallOkM st P sT (callTyOf L) c ∧ CallsOkM st P sT (L ++ [(c.id, callTyM c)]) cs

def callTypesM (cs : List Call) : List (String × Ty) := cs.map fun c => (c.id, callTyM c)

def PipelineOkM (st : StructTable) (P : Program) (pins outs : List Param)
    (calls : List Call) (ret : List (String × Exp)) : Prop :=
  CallsOkM st P (selfTyOf pins) [] calls ∧
  ∀ p ∈ outs, ∀ e, ret.lookup p.name = some e →
    HasTy st (selfTyOf pins) (callTyOf (callTypesM calls)) p.ty e

structure WellTypedM (P : Program) : Prop where
  structs : StructsOk P.table
  outsOf : ∀ name c, P.callables.lookup name = some c → P.table.lookup name = some c.outs
  pipelines : ∀ name pins outs calls ret,
    P.callables.lookup name = some (.pipeline pins outs calls ret) →
      PipelineOkM P.table P pins outs calls ret
  top : CallOk P.table P.insOf (selfTyOf []) (callTyOf []) P.top ∧ ∀ b ∈ P.top.binds, b.split = false

/-- the recorded outs of a node, read in fork assignment `f`, are those of the fork of the node
that `f` selects: only the node's own fork dimensions matter -/
def StoreAtNode (nm : List String → String) (O : Oracle) (ρ : Store) (n : SNode) : Prop :=
  ∀ f, ρ.outs (nm n.path) f
    = (O ⟨n.path, n.forks.map fun d => (d.1, (f.lookup d.1).getD .none)⟩).getD .null

def addFork (d : String × List Idx) (n : SNode) : SNode := { n with forks := d :: n.forks }

theorem find_key_of_nodup {α : Type} (l : List α) (key : α → String) (hn : (l.map key).Nodup)
    (a : α) (ha : a ∈ l) : l.find? (fun b => key b == key a) = some a :=
  Proofs.ListFacts.find?_key_of_nodup hn ha

/-- the store built from the oracle and the nodes satisfies the node-wise description, when
the nodes have distinct names -/
theorem storeOfNodes_ok (nm : List String → String) (nodes : List SNode) (O : Oracle)
    (hn : (nodes.map fun n => nm n.path).Nodup) :
    ∀ n ∈ nodes, StoreAtNode nm O (storeOfNodes nm nodes O) n := by
  intro n hmem f
  simp only [storeOfNodes]
  rw [find_key_of_nodup nodes (fun n => nm n.path) hn n hmem]

def forkInst (st : StructTable) (F : Nat) (ρ : Store) (id : String) (ix : Idx) (n : SNode) : Inst :=
  ⟨⟨n.path, [(id, ix)]⟩, runtimeArgs st F ρ [(id, ix)] n, false, false⟩

/-- den's result for fork `ix` of a mapped stage call against the static node -/
def GoodFork (st : StructTable) (F : Nat) (ρ : Store) (callee id : String) (ix : Idx)
    (d : J × List Inst) (s : RB × List SNode) : Prop :=
  (∀ f, f.lookup id = some ix → d.1 = evalRT st F ρ f ⟨callee, 0, 0⟩ s.1.exp) ∧
  HasTyR st ⟨callee, 0, 0⟩ s.1.exp ∧
  d.2 = s.2.map (forkInst st F ρ id ix) ∧ (s.2 = [] ∨ ∃ n, s.2 = [n] ∧ n.forks = [])

theorem flatMap_congr_mem {α β : Type} (l : List α) (g h : α → List β) (e : ∀ a ∈ l, g a = h a) :
    l.flatMap g = l.flatMap h :=
  Proofs.ListFacts.flatMap_congr e

theorem insts_forks (st : StructTable) (F : Nat) (ρ : Store) (id : String) (ixs : List Idx) (ns : List SNode)
    (h : ns = [] ∨ ∃ n, ns = [n] ∧ n.forks = []) :
    (ixs.flatMap fun ix => ns.map (forkInst st F ρ id ix))
      = (ns.map (addFork (id, ixs))).flatMap (instsOf st F ρ) := by
  rcases h with h0 | ⟨n0, hn0, hf0⟩
  · simp [h0]
  · simp only [hn0, List.map_cons, List.map_nil, List.flatMap_cons, List.flatMap_nil, List.append_nil, instsOf,
      addFork]
    rw [List.map_eq_flatMap]
    rfl

theorem evalRTList_map (st : StructTable) (F : Nat) (ρ : Store) (f : ForkAssign) (t : Ty)
    {α : Type} (g : α → RExp) : ∀ (l : List α),
    evalRTList st F ρ f t (l.map g) = l.map fun a => evalRT st F ρ f t (g a) := by
  intro l
  rw [evalRTList_eq_map, List.map_map]
  rfl

theorem HasTyRList_map (st : StructTable) (t : Ty) {α : Type} (g : α → RExp) :
    ∀ (l : List α), (∀ a ∈ l, HasTyR st t (g a)) → HasTyRList st t (l.map g) := by
  intro l h
  rw [HasTyRList_iff]
  simpa using h

theorem evalRTFields_map (st : StructTable) (F : Nat) (ρ : Store) (f : ForkAssign) (t : Ty)
    {α : Type} (key : α → String) (g : α → RExp) : ∀ (l : List α),
    evalRTFields st F ρ f t (l.map fun a => (key a, g a)) = l.map fun a => (key a, evalRT st F ρ f t (g a)) := by
  intro l
  rw [evalRTFields_eq_map, List.map_map]
  rfl

theorem HasTyRFields_map (st : StructTable) (t : Ty) {α : Type} (key : α → String) (g : α → RExp) :
    ∀ (l : List α), (∀ a ∈ l, HasTyR st t (g a)) → HasTyRFields st t (l.map fun a => (key a, g a)) := by
  intro l h
  rw [HasTyRFields_iff]
  simpa using h

theorem zip_map_self {α β γ : Type} (l : List α) (g : α → β) (h : α × β → γ) :
    (l.zip (l.map g)).map h = l.map fun a => h (a, g a) := by
  induction l with
  | nil => rfl
  | cons a l ih => simp [ih]

theorem isMapLit_of_static {r : RExp} {m : Bool} {ixs : List Idx} (h : staticIndices r = some (m, ixs)) :
    isMapLit r = m := by
  cases r with
  | arr xs => simp only [staticIndices, Option.some.injEq, Prod.mk.injEq] at h; exact h.1
  | map kvs => simp only [staticIndices, Option.some.injEq, Prod.mk.injEq] at h; exact h.1
  | _ => simp [staticIndices] at h

section main
variable (st : StructTable) (hst : StructsOk st) (F : Nat) (hF : NarrowFix st F) (ρ : Store)
include hst hF

theorem args_stepT (insOf : String → List Param) (env : Env) (self sib : RBMap)
    (hrel : EnvRel st F ρ FsT env self sib) (c : Call)
    (hc : CallOk st insOf env.selfTy env.callTy c) :
    ArgsRel st F ρ FsT (insOf c.callee) (mkArgs st F (argVals st env (insOf c.callee) c) none)
      (resolveBinds st self sib (insOf c.callee) c) :=
  args_step st hst F hF ρ FsT [] trivial insOf env self sib hrel c hc

omit hst hF in
theorem envRel_initT (pins : List Param) (args : J) (cins : RBMap) (h : ArgsRel st F ρ FsT pins args cins) :
    EnvRel st F ρ FsT ⟨pins, args, []⟩ cins [] :=
  envRel_init st F ρ FsT pins args cins h

omit hst hF in
theorem envRel_stepT (env : Env) (self sib : RBMap) (hrel : EnvRel st F ρ FsT env self sib)
    (id : String) (ty : Ty) (v : J) (rb : RB)
    (hv : ∀ f, v = evalRT st F ρ f ty rb.exp) (hty : HasTyR st ty rb.exp) :
    EnvRel st F ρ FsT { env with calls := env.calls ++ [(id, ty, v)] } self (sib ++ [(id, rb)]) :=
  envRel_step st F ρ FsT env self sib hrel id ty v rb (fun f _ => hv f) hty

theorem elemAt_narrow_arr (b : String) (m a : Nat) (v : J) (k : Nat) :
    narrow st F ⟨b, m, a⟩ (elemAt v (.i k)) = elemAt (narrow st F ⟨b, m, a + 1⟩ v) (.i k) :=
  elemArr_narrow hF b m a v (.i k)

omit hst in
/-- a `split` node over call `c` in the fork `ix` of `c`: the element at `ix` of the collection narrowed at the
lifted type is the narrowed element, in both modes -/
theorem evalRT_split_elem (f : ForkAssign) (c : String) (m : Bool) (t : Ty) (hm : m = true → t.mapDim = 0)
    (src : RExp) (ix : Idx) (hix : IdxMode ix m) (hf : f.lookup c = some ix) (v : J)
    (key : narrow st F (liftSplitTy m t) v = evalRT st F ρ f (liftSplitTy m t) src) :
    narrow st F t (elemAt v ix) = evalRT st F ρ f t (.split c m src) := by
  obtain ⟨pb, pm, pa⟩ := t
  cases m with
  | false =>
    simp only [liftSplitTy, Bool.false_eq_true, if_false, evalRT, hf, Option.getD_some] at key ⊢
    rw [← key]
    cases ix with
    | i k => exact elemArr_narrow hF pb pm pa _ (.i k)
    | k s => cases hix
    | none => cases hix
  | true =>
    have hm0 := hm rfl
    simp only at hm0
    subst hm0
    simp only [liftSplitTy, if_true, evalRT, hf, Option.getD_some] at key ⊢
    rw [← key]
    cases ix with
    | k s => exact elemMap_narrow hF pb pa _ (.k s)
    | i k => cases hix
    | none => cases hix

end main

theorem splitVals_indices (st : StructTable) (env : Env) (c : Call) (n : Nat)
    (hd : c.disabled = none)
    (h : ∀ b ∈ c.binds, b.split = true → ∃ es, b.exp = .arr es ∧ es.length = n) :
    ∀ v ∈ splitVals st env c, indicesOf v = (List.range n).map .i := by
  intro v hv
  simp only [splitVals, hd, List.append_nil, List.mem_map, List.mem_filter] at hv
  obtain ⟨b, ⟨hb, hs⟩, rfl⟩ := hv
  obtain ⟨es, he, hl⟩ := h b hb hs
  have hlen : ∀ (xs : List Exp), (evalList st env xs).length = xs.length := by
    intro xs; induction xs with
    | nil => simp [evalList]
    | cons x xs ih => simp [evalList, ih]
  rw [he]
  simp [eval, indicesOf, hlen, hl]

theorem evalCall_mappedG (st : StructTable) (F : Nat) (insOf : String → List Param) (run : Runner)
    (path : List String) (env : Env) (c : Call) (md : Mode) (ixs : List Idx)
    (hm : c.mapped = true) (hd : c.disabled = none) (hex : ∃ b ∈ c.binds, b.split = true)
    (hidx : ∀ v ∈ splitVals st env c, indicesOf v = ixs) (hne : ixs ≠ [])
    (hmode : callMode st env c = md) :
    evalCall st F insOf run path [] env c =
      (liftTy c.callee md,
       collect md ixs (ixs.map fun ix =>
          (run c.callee (path ++ [c.id]) [(c.id, ix)]
            (mkArgs st F (argVals st env (insOf c.callee) c) (some ix))).1),
       ixs.flatMap fun ix =>
          (run c.callee (path ++ [c.id]) [(c.id, ix)]
            (mkArgs st F (argVals st env (insOf c.callee) c) (some ix))).2) :=
  evalCall_mappedC st F insOf run path [] env c md ixs hm hd hex hidx hne hmode

theorem callMode_arrLit (st : StructTable) (env : Env) (c : Call) (n : Nat) (hm : c.mapped = true)
    (hex : ∃ b ∈ c.binds, b.split = true)
    (h : ∀ b ∈ c.binds, b.split = true → ∃ es, b.exp = .arr es ∧ es.length = n) :
    callMode st env c = .arr := by
  obtain ⟨b0, hb0, hs0⟩ := hex
  unfold callMode firstSplit
  simp only [hm, if_true]
  cases hf : c.binds.find? (·.split) with
  | none =>
    have := List.find?_eq_none.mp hf b0 hb0
    simp [hs0] at this
  | some b =>
    obtain ⟨es, he, _⟩ := h b (List.mem_of_find?_eq_some hf) (by simpa using List.find?_some hf)
    simp [he, splitMode]

theorem evalCall_mapped (st : StructTable) (F : Nat) (insOf : String → List Param) (run : Runner)
    (path : List String) (env : Env) (c : Call) (n : Nat) (hn : 0 < n)
    (hm : c.mapped = true) (hd : c.disabled = none)
    (hex : ∃ b ∈ c.binds, b.split = true)
    (h : ∀ b ∈ c.binds, b.split = true → ∃ es, b.exp = .arr es ∧ es.length = n) :
    evalCall st F insOf run path [] env c =
      (⟨c.callee, 0, 1⟩,
       .arr ((List.range n).map fun k =>
          (run c.callee (path ++ [c.id]) [(c.id, .i k)]
            (mkArgs st F (argVals st env (insOf c.callee) c) (some (.i k)))).1),
       (List.range n).flatMap fun k =>
          (run c.callee (path ++ [c.id]) [(c.id, .i k)]
            (mkArgs st F (argVals st env (insOf c.callee) c) (some (.i k)))).2) := by
  rw [evalCall_mappedG st F insOf run path env c .arr ((List.range n).map .i) hm hd hex
    (splitVals_indices st env c n hd h) (by cases n with | zero => omega | succ n => simp [List.range_succ])
    (callMode_arrLit st env c n hm hex h)]
  simp only [liftTy, collect, List.map_map, List.flatMap_map, Function.comp_def]

theorem filterRList_length (st : StructTable) (t : Ty) : ∀ (xs : List RExp), (filterRList st t xs).length = xs.length
  | [] => by simp [filterRList]
  | x :: xs => by simp [filterRList, filterRList_length st t xs]

theorem resolveRefsList_length (self sib : RBMap) : ∀ (xs : List Exp), (resolveRefsList self sib xs).length = xs.length
  | [] => by simp [resolveRefsList]
  | x :: xs => by simp [resolveRefsList, resolveRefsList_length self sib xs]

theorem callIndicesR_lit (st : StructTable) (self sib : RBMap) (ins : List Param) (c : Call) (n : Nat)
    (hex : ∃ p ∈ ins, ∃ b, c.binds.find? (fun b => b.param == p.name) = some b ∧ b.split = true)
    (h : ∀ b ∈ c.binds, b.split = true → ∃ es, b.exp = .arr es ∧ es.length = n) :
    callIndicesR st self sib ins c = some (false, (List.range n).map .i) := by
  unfold callIndicesR splitParam
  obtain ⟨p0, hp0, b0, hb0, hs0⟩ := hex
  cases hf : ins.find? (fun p =>
      match c.binds.find? (fun b => b.param == p.name) with
      | some b => b.split
      | none => false) with
  | none =>
    have := List.find?_eq_none.mp hf p0 hp0
    simp [hb0, hs0] at this
  | some p =>
    have hp := List.find?_some hf
    simp only
    cases hb : c.binds.find? (fun b => b.param == p.name) with
    | none => simp [hb] at hp
    | some b =>
      simp only [hb] at hp
      obtain ⟨es, he, hl⟩ := h b (List.mem_of_find?_eq_some hb) hp
      simp only [he, resolveRefs, isMapLit, liftSplitTy, Bool.false_eq_true, if_false, filterR]
      split <;> simp [staticIndices, filterRList_length, resolveRefsList_length, hl]

def typesOfM (env : Env) : List (String × Ty) := typesOf env

theorem staticCalls_mapped (st : StructTable) (insOf : String → List Param)
    (node : String → List String → RBMap → RB × List SNode) (path : List String) (self : RBMap)
    {c : Call} (cs : List Call) (sib : RBMap) (hm : c.mapped = true) {ixs : Bool × List Idx}
    (hixs : callIndicesR st self sib (insOf c.callee) c = some ixs) (sacc : List SNode) :
    staticCalls st insOf node path self (c :: cs) sib sacc
      = staticCalls st insOf node path self cs
          (sib ++ [(c.id, unrolledOutputs c ixs
            (node c.callee (path ++ [c.id]) (resolveBindsM st self sib (insOf c.callee) c)).1.exp)])
          (sacc ++ (node c.callee (path ++ [c.id]) (resolveBindsM st self sib (insOf c.callee) c)).2.map
            (addFork (c.id, ixs.2))) := by
  simp only [staticCalls, hm, if_true, hixs, Option.getD_some]
  rfl

namespace Flat

/-- what the static phase and den agree on for a map call of a stage without `disabled`: its mode `isMap` and its
index set `ixs` (not empty), as the static phase computes them (`static`, `lit`) and as den does (`idx`, `mode`), and
the typing of its bindings at that mode -/
structure MappedFacts (st : StructTable) (P : Program) (env : Env) (sf sb : RBMap) (c : Call) (isMap : Bool)
    (ixs : List Idx) : Prop where
  mapped : c.mapped = true
  nodis : c.disabled = none
  hex : ∃ b ∈ c.binds, b.split = true
  ne : ixs ≠ []
  static : callIndicesR st sf sb (P.insOf c.callee) c = some (isMap, ixs)
  idx : ∀ v ∈ splitVals st env c, indicesOf v = ixs
  mode : callMode st env c = if isMap then .map else .arr
  imode : ∀ ix ∈ ixs, IdxMode ix isMap
  mapDim : isMap = true → ∀ p ∈ P.insOf c.callee, ∀ b, c.binds.find? (fun b => b.param == p.name) = some b →
    b.split = true → p.ty.mapDim = 0
  ty : ∀ p ∈ P.insOf c.callee, ∀ b, c.binds.find? (fun b => b.param == p.name) = some b →
    HasTy st env.selfTy env.callTy (if b.split then liftSplitTy isMap p.ty else p.ty) b.exp
  lit : ∀ p ∈ P.insOf c.callee, ∀ b, c.binds.find? (fun b => b.param == p.name) = some b → b.split = true →
    isMapLit (resolveRefs sf sb b.exp) = isMap

/-- the forks of a mapped stage: den's result for fork `ix` of call `id` against the stage's node -/
def ForksGood (st : StructTable) (F : Nat) (ρ : Store) (P : Program) (nm : List String → String) (O : Oracle)
    (run : Runner) (node : String → List String → RBMap → RB × List SNode) : Prop :=
  ∀ callee path id ix ixs args cins, (∃ sins souts, P.callables.lookup callee = some (.stage sins souts)) →
    args = .obj (cins.map fun kv => (kv.1, evalRT st F ρ [(id, ix)] kv.2.ty kv.2.exp)) →
    (∀ n ∈ (node callee path cins).2, StoreAtNode nm O ρ (addFork (id, ixs) n)) →
    GoodFork st F ρ callee id ix (run callee path [(id, ix)] args) (node callee path cins)

section mapped
variable (st : StructTable) (hst : StructsOk st) (F : Nat) (hF : NarrowFix st F) (ρ : Store)
  (P : Program) (nm : List String → String) (O : Oracle) (run : Runner)
  (node : String → List String → RBMap → RB × List SNode) (path : List String) (self : RBMap)
include hst hF

/-- the bindings of fork `ix` of a map call: den's argument record = run-time evaluation of the resolved inputs
in a fork assignment that selects `ix` -/
theorem args_mapped {c : Call} {env : Env} {sib : RBMap} (hrel : EnvRel st F ρ FsT env self sib)
    {isMap : Bool} {ixs : List Idx} (h : MappedFacts st P env self sib c isMap ixs) (ix : Idx) (hix : ix ∈ ixs)
    (f : ForkAssign) (hf : f.lookup c.id = some ix) :
    mkArgs st F (argVals st env (P.insOf c.callee) c) (some ix)
      = .obj ((resolveBindsM st self sib (P.insOf c.callee) c).map fun kv =>
          (kv.1, evalRT st F ρ f kv.2.ty kv.2.exp)) := by
  rw [mkArgs_eq st F hF ρ _ env c (some ix) f (fun p b => if b.split then
         .split c.id isMap (filterR st (liftSplitTy isMap p.ty) (resolveRefs self sib b.exp))
       else filterR st p.ty (resolveRefs self sib b.exp)) fun p hp b hfb => ?_]
  · simp only [resolveBindsM, List.map_map, J.obj.injEq]
    apply List.map_congr_left
    intro p hp
    simp only [Function.comp_apply]
    cases hfb : c.binds.find? (fun b => b.param == p.name) with
    | none => rfl
    | some b => cases hs : b.split <;> simp [hs, h.lit p hp b hfb]
  · have key := (eval_resolveExp st hst F hF ρ FsT env self sib hrel f trivial b.exp _ (h.ty p hp b hfb)).1
    cases hs : b.split with
    | false => simpa only [hs, Bool.false_eq_true, if_false] using key
    | true =>
      simp only [hs, if_true] at key ⊢
      exact evalRT_split_elem st F hF ρ f c.id isMap p.ty (fun e => h.mapDim e p hp b hfb hs) _ ix (h.imode ix hix) hf _ key

/-- a map call of known size: every fork of the callee, run on den's arguments for that fork, is matched by the
callee's node; the unrolled merge collects the forks' outputs, the node forks over the call -/
theorem step_mapped {c : Call} {env : Env} {sib : RBMap} (hrel : EnvRel st F ρ FsT env self sib)
    {isMap : Bool} {ixs : List Idx} (h : MappedFacts st P env self sib c isMap ixs)
    (hfork : ∀ ix ∈ ixs, ∀ args,
      args = .obj ((resolveBindsM st self sib (P.insOf c.callee) c).map fun kv =>
        (kv.1, evalRT st F ρ [(c.id, ix)] kv.2.ty kv.2.exp)) →
      GoodFork st F ρ c.callee c.id ix (run c.callee (path ++ [c.id]) [(c.id, ix)] args)
        (node c.callee (path ++ [c.id]) (resolveBindsM st self sib (P.insOf c.callee) c))) :
    (evalCall st F P.insOf run path [] env c).1 = (if isMap then ⟨c.callee, 1, 0⟩ else ⟨c.callee, 0, 1⟩) ∧
    CallStep st F ρ FsT (List.flatMap (instsOf st F ρ)) (evalCall st F P.insOf run path [] env c)
      (unrolledOutputs c (isMap, ixs)
        (node c.callee (path ++ [c.id]) (resolveBindsM st self sib (P.insOf c.callee) c)).1.exp)
      ((node c.callee (path ++ [c.id]) (resolveBindsM st self sib (P.insOf c.callee) c)).2.map
        (addFork (c.id, ixs))) := by
  generalize node c.callee (path ++ [c.id]) (resolveBindsM st self sib (P.insOf c.callee) c) = r at hfork
  have hfork' : ∀ ix ∈ ixs, GoodFork st F ρ c.callee c.id ix
      (run c.callee (path ++ [c.id]) [(c.id, ix)] (mkArgs st F (argVals st env (P.insOf c.callee) c) (some ix))) r :=
    fun ix hix => hfork ix hix _
      (args_mapped st hst F hF ρ P self hrel h ix hix [(c.id, ix)] (by simp))
  obtain ⟨ix0, hix0⟩ : ∃ ix0, ix0 ∈ ixs := by
    cases ixs with
    | nil => exact absurd rfl h.ne
    | cons a l => exact ⟨a, by simp⟩
  rw [evalCall_mappedG st F P.insOf run path env c _ ixs h.mapped h.nodis h.hex h.idx h.ne h.mode]
  refine ⟨by cases isMap <;> rfl, ?_, ?_, ?_⟩
  · intro f _
    cases isMap with
    | false =>
      simp only [unrolledOutputs, Bool.false_eq_true, if_false, collect, liftTy, evalRT, evalRTList_map, J.arr.injEq]
      exact List.map_congr_left fun ix hix => (hfork' ix hix).1 (fset f c.id ix) (fset_lookup f c.id ix)
    | true =>
      have c1 : ((0 : Nat) == 0 && ((1 : Nat) != 0)) = true := by decide
      simp only [unrolledOutputs, if_true, collect, liftTy, evalRT, c1, evalRTFields_map, zip_map_self, J.obj.injEq]
      exact List.map_congr_left fun ix hix =>
        congrArg (Prod.mk _) ((hfork' ix hix).1 (fset f c.id ix) (fset_lookup f c.id ix))
  · cases isMap with
    | false =>
      simp only [unrolledOutputs, Bool.false_eq_true, if_false, liftTy, HasTyR]
      exact ⟨by simp, HasTyRList_map st _ _ _ fun ix _ => by simp only [HasTyR]; exact (hfork' ix0 hix0).2.1⟩
    | true =>
      simp only [unrolledOutputs, if_true, liftTy, HasTyR]
      exact Or.inl ⟨trivial, by simp, HasTyRFields_map st _ _ _ _ fun ix _ => by
        simp only [HasTyR]; exact (hfork' ix0 hix0).2.1⟩
  · exact (flatMap_congr_mem _ _ _ fun ix hix => (hfork' ix hix).2.2.1).trans
      (insts_forks st F ρ c.id ixs r.2 (hfork' ix0 hix0).2.2.2)

omit hst hF in
/-- array literals at the call: the facts from their shape -/
theorem mappedFacts_M {c : Call} (env : Env) (sib : RBMap) (hc : MappedOk st P env.selfTy env.callTy c) :
    ∃ n, MappedFacts st P env self sib c false ((List.range n).map .i) := by
  obtain ⟨hm, hd, _, ⟨n, hn, hex, hexp, hsplit⟩, hb⟩ := hc
  exact ⟨n, hm, hd, hex, (by cases n with | zero => omega | succ n => simp [List.range_succ]),
    callIndicesR_lit st self sib (P.insOf c.callee) c n hexp hsplit, splitVals_indices st env c n hd hsplit,
    callMode_arrLit st env c n hm hex hsplit,
    (fun ix hix => by simp only [List.mem_map] at hix; obtain ⟨k, _, rfl⟩ := hix; trivial),
    (fun e => by cases e), hb,
    fun p hp b hfb hs => by obtain ⟨es, he, _⟩ := hsplit b (List.mem_of_find?_eq_some hfb) hs; rw [he]; rfl⟩

theorem callsStep_M (sT : String → Ty)
    (hrun : RunsGood st F ρ FsT (List.flatMap (instsOf st F ρ)) P.insOf (StoreAtNode nm O ρ) (fun _ _ _ => True)
      run node)
    (hrunM : ForksGood st F ρ P nm O run node) :
    CallsStep st F ρ FsT (List.flatMap (instsOf st F ρ)) P.insOf run node path self sT (StoreAtNode nm O ρ)
      fun L cs _ L' => CallsOkM st P sT L cs ∧ L' = L ++ callTypesM cs := by
  intro c cs env sib L' hrel hsT ⟨⟨hc, hcs⟩, hL⟩ hstore
  rw [← hsT, ← callTy_typesOf] at hc
  cases hc with
  | inl hplain =>
    have hm : c.mapped = false := hplain.1.1
    have hs := staticCalls_plain st P.insOf node path self cs sib hm
    refine ⟨_, _, _, ⟨hs, step_plain st hst F hF ρ FsT _ [] trivial hrel hplain.1 fun _ h =>
      hrun _ _ _ _ h (store_of_step st P.insOf node path self hstore hs) trivial⟩, ?_, ?_⟩
    · simpa [callTyM, hm] using hcs
    · simp [hL, callTypesM, callTyM, hm]
  | inr hmapped =>
    obtain ⟨n, hf⟩ := mappedFacts_M st P self env sib hmapped
    have hm := hf.mapped
    have hs := staticCalls_mapped st P.insOf node path self cs sib hm hf.static
    refine ⟨_, _, _, ⟨hs, step_mapped st hst F hF ρ P run node path self hrel hf fun ix _ args ha =>
      hrunM _ _ _ ix _ _ _ hmapped.2.2.1 ha fun n0 hn0 =>
        store_of_step st P.insOf node path self hstore hs _ (List.mem_map_of_mem hn0)⟩, ?_, ?_⟩
    · simpa [callTyM, hm] using hcs
    · simp [hL, callTypesM, callTyM, hm]

end mapped

end Flat


section graph
variable (P : Program) (hw : WellTypedM P) (F : Nat) (hF : NarrowFix P.table F)
  (nm : List String → String) (O : Oracle) (ρ : Store)

theorem refine_stage_fork :
    ∀ (fuel : Nat) (callee : String) (path : List String) (id : String) (ix : Idx) (ixs : List Idx)
      (args : J) (cins : RBMap),
      (∃ sins souts, P.callables.lookup callee = some (.stage sins souts)) →
      args = .obj (cins.map fun kv => (kv.1, evalRT P.table F ρ [(id, ix)] kv.2.ty kv.2.exp)) →
      (∀ n ∈ (staticCallable P nm fuel callee path cins).2, StoreAtNode nm O ρ (addFork (id, ixs) n)) →
      GoodFork P.table F ρ callee id ix (runCallable P O F fuel callee path [(id, ix)] args)
        (staticCallable P nm fuel callee path cins) := by
  intro fuel callee path id ix ixs args cins hstage hargs hstore
  cases fuel with
  | zero =>
    simp only [runCallable, staticCallable, GoodFork, evalRT, List.map_nil]
    exact ⟨fun _ _ => trivial, HasTyR_null _ _, trivial, Or.inl trivial⟩
  | succ fuel =>
    obtain ⟨sins, souts, hl⟩ := hstage
    simp only [runCallable, staticCallable, hl] at hstore ⊢
    have hs := hstore ⟨path, callee, cins, [], []⟩ (by simp)
    refine ⟨?_, ?_, ?_, Or.inr ⟨_, rfl, rfl⟩⟩
    · intro f hf
      simp only [evalRT, projPath]
      have := hs f
      simp only [addFork, List.map_cons, List.map_nil, hf, Option.getD_some] at this
      rw [this]
    · simp only [HasTyR, pathTy]
      exact Sub.refl _
    · simp [forkInst, runtimeArgs, hargs]

include hw hF in
/-- THE REFINEMENT with statically sized map calls of stages -/
theorem twoPhaseM_eq_den_F (hstore : ∀ n ∈ (staticProgram P nm).2, StoreAtNode nm O ρ n) :
    runCallable P O F P.fuel P.top.callee [P.top.id] []
        (mkArgs P.table F (argVals P.table ⟨[], .null, []⟩ (P.insOf P.top.callee) P.top) none)
      = ((evalRT P.table F ρ [] ⟨P.top.callee, 0, 0⟩ (staticProgram P nm).1.exp),
         (staticProgram P nm).2.flatMap (instsOf P.table F ρ)) :=
  Flat.twoPhase P F hF nm O ρ hw.structs hw.outsOf (Fs := FsT) (hFs := trivial)
    (I := List.flatMap (instsOf P.table F ρ)) (hI := fun _ _ => List.flatMap_append) (hI1 := fun _ _ _ => rfl)
    (SA := StoreAtNode nm O ρ) (hSA := fun _ _ _ h f _ => h f)
    (Q := fun _ _ _ _ => True)
    (Inv := fun _ pins _ _ L cs _ L' => CallsOkM P.table P (selfTyOf pins) L cs ∧ L' = L ++ callTypesM cs)
    (hnil := fun _ _ _ _ L _ L' h => by simpa [callTypesM] using h.2)
    (hpipe := fun _ callee _ _ pins outs calls ret hl _ =>
      ⟨_, ⟨(hw.pipelines callee pins outs calls ret hl).1, rfl⟩, (hw.pipelines callee pins outs calls ret hl).2⟩)
    (hstep := fun fuel ih pins path self =>
      Flat.callsStep_M P.table hw.structs F hF ρ P nm O _ _ path self (selfTyOf pins) ih
        (refine_stage_fork P F nm O ρ fuel))
    hw.top.1 hstore trivial

end graph

end Proofs.ResolverStatic
