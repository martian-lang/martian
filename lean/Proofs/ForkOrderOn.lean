import Martian.ForkOrder
import Proofs.ForkOrderBij

/-! `forks_bijection` with a hypothesis a FINITE table can satisfy: the sources need to be known
only at the prefixes the enumeration really consults and at the prefixes valid picks reach.
Method: `tot inner` answers every other prefix with a one-element dummy,
is known everywhere, and agrees with `inner` wherever it is consulted. -/
namespace Martian.ForkOrder
open Martian.SortKeys List

def knownAt (inner : Inner) (j : Nat) (pre : List Part) : Bool :=
  match (inner j pre).parts with
  | some (_ :: _) => true
  | _ => false

def tot (inner : Inner) : Inner := fun j pre =>
  if knownAt inner j pre then inner j pre else Elems.arr 1

theorem knownAt_parts {inner : Inner} {j : Nat} {pre : List Part} (h : knownAt inner j pre = true) :
    ∃ x xs, (inner j pre).parts = some (x :: xs) := by
  unfold knownAt at h
  split at h
  · rename_i x xs heq; exact ⟨x, xs, heq⟩
  · cases h

theorem tot_known (inner : Inner) : InnerKnown (tot inner) := by
  intro j pre
  unfold tot
  by_cases h : knownAt inner j pre = true
  · simp only [h, if_true]; exact knownAt_parts h
  · simp only [h]; exact ⟨Part.idx 0, [], by simp [Elems.parts]⟩

theorem tot_keysNodup (inner : Inner) (h : ∀ j pre, (inner j pre).KeysNodup) :
    ∀ j pre, (tot inner j pre).KeysNodup := by
  intro j pre
  unfold tot
  by_cases hk : knownAt inner j pre = true
  · simp only [hk, if_true]; exact h j pre
  · simp only [hk]; trivial

theorem tot_parts_of_known {inner : Inner} {j : Nat} {pre : List Part} (h : knownAt inner j pre = true) :
    (tot inner j pre).parts = (inner j pre).parts := by
  simp [tot, h]

/-- the prefixes at which the scans of one fork consult a source -/
def satQ (inner : Inner) : Nat → List Part → List Part → List (Nat × List Part)
  | _, _, [] => []
  | j, pre, p :: rest =>
    if p != Part.undet then satQ inner (j + 1) (pre ++ [p]) rest
    else if pre.contains Part.empty then satQ inner (j + 1) (pre ++ [Part.empty]) rest
    else (j, pre) ::
      match (inner j pre).parts with
      | none => satQ inner (j + 1) (pre ++ [Part.undet]) rest
      | some [] => satQ inner (j + 1) (pre ++ [Part.empty]) rest
      | some (x :: _) => satQ inner (j + 1) (pre ++ [x]) rest

theorem sat_tot (inner : Inner) : ∀ (rest : List Part) (j : Nat) (pre : List Part),
    (∀ q ∈ satQ inner j pre rest, knownAt inner q.1 q.2 = true) →
      sat inner j pre rest = sat (tot inner) j pre rest := by
  intro rest
  induction rest with
  | nil => intro j pre _; rfl
  | cons p rest ih =>
    intro j pre h
    by_cases hp : (p != Part.undet) = true
    · have h' : ∀ q ∈ satQ inner (j + 1) (pre ++ [p]) rest, knownAt inner q.1 q.2 = true := by
        intro q hq; apply h; simp [satQ, hp, hq]
      simp [sat, hp, ih _ _ h']
    · by_cases he : Part.empty ∈ pre
      · have h' : ∀ q ∈ satQ inner (j + 1) (pre ++ [Part.empty]) rest, knownAt inner q.1 q.2 = true := by
          intro q hq; apply h; simp [satQ, hp, he, hq]
        simp [sat, hp, he, ih _ _ h']
      · have hk : knownAt inner j pre = true := by
          apply h (j, pre); simp [satQ, hp, he]
        obtain ⟨x, xs, hparts⟩ := knownAt_parts hk
        have h' : ∀ q ∈ satQ inner (j + 1) (pre ++ [x]) rest, knownAt inner q.1 q.2 = true := by
          intro q hq; apply h; simp [satQ, hp, he, hparts, hq]
        simp [sat, hp, he, tot_parts_of_known hk, hparts, ih _ _ h']

/-- every prefix consulted while the growing list is processed -/
def bfsQ (inner : Inner) : Nat → List Fork → List (Nat × List Part)
  | 0, g => g.flatMap (satQ inner 0 [])
  | n + 1, g => g.flatMap (satQ inner 0 []) ++ bfsQ inner n (g.flatMap (kids inner))

theorem sat_tot_of_bfsQ (inner : Inner) (n : Nat) (g : List Fork)
    (h : ∀ q ∈ bfsQ inner n g, knownAt inner q.1 q.2 = true) :
    ∀ f ∈ g, sat inner 0 [] f = sat (tot inner) 0 [] f := by
  intro f hf
  refine sat_tot inner f 0 [] (fun q hq => h q ?_)
  cases n <;> simp only [bfsQ, mem_append, mem_flatMap]
  · exact ⟨f, hf, hq⟩
  · exact Or.inl ⟨f, hf, hq⟩

theorem bfs_tot (inner : Inner) : ∀ (n : Nat) (g : List Fork),
    (∀ q ∈ bfsQ inner n g, knownAt inner q.1 q.2 = true) → bfs inner n g = bfs (tot inner) n g := by
  intro n
  induction n with
  | zero =>
    intro g h
    exact map_congr_left fun f hf => by simp [satFork, sat_tot_of_bfsQ inner 0 g h f hf]
  | succ n ih =>
    intro g h
    have hs := sat_tot_of_bfsQ inner (n + 1) g h
    have h1 : g.map (satFork inner) = g.map (satFork (tot inner)) :=
      map_congr_left (fun f hf => by simp [satFork, hs f hf])
    have h2 : g.flatMap (kids inner) = g.flatMap (kids (tot inner)) :=
      Proofs.ListFacts.flatMap_congr (fun f hf => by simp [kids, hs f hf])
    simp only [bfs, h1]
    rw [← h2]
    congr 1
    exact ih _ (fun q hq => h q (by simp only [bfsQ, mem_append]; exact Or.inr hq))

/-- every source that a VALID pick sequence reaches is known and not empty -/
def validKnown (inner : Inner) : Nat → List Part → List Root → Bool
  | _, _, [] => true
  | j, pre, r :: rs =>
    (match r with
     | .dyn => knownAt inner j pre
     | .static _ => true)
    && (choices inner r j pre).all fun p => validKnown inner (j + 1) (pre ++ [p]) rs

theorem allForks_tot (inner : Inner) : ∀ (rs : List Root) (j : Nat) (pre : List Part),
    validKnown inner j pre rs = true → allForks inner j pre rs = allForks (tot inner) j pre rs := by
  intro rs
  induction rs with
  | nil => intro j pre _; rfl
  | cons r rs ih =>
    intro j pre h
    simp only [validKnown, Bool.and_eq_true, all_eq_true] at h
    have hc : choices (tot inner) r j pre = choices inner r j pre := by
      cases r with
      | static e => rfl
      | dyn => simp only [choices]; rw [tot_parts_of_known h.1]
    simp only [allForks, hc]
    apply Proofs.ListFacts.flatMap_congr
    intro p hp
    rw [ih (j + 1) (pre ++ [p]) (h.2 p hp)]

/-- the hypothesis a finite table can satisfy, as one executable check -/
def knownWhereNeeded (roots : List Root) (inner : Inner) : Bool :=
  (bfsQ inner roots.length (product (roots.map Root.initParts))).all (fun q => knownAt inner q.1 q.2)
    && validKnown inner 0 [] roots

theorem forks_bijection_on (roots : List Root) (inner : Inner) (hs : StaticKnown roots)
    (hK : knownWhereNeeded roots inner = true)
    (hSN : ∀ r ∈ roots, ∀ e, r = Root.static e → e.KeysNodup)
    (hIN : ∀ j pre, (inner j pre).KeysNodup) :
    (forkOrder roots inner).Nodup ∧
      ∀ t, t ∈ forkOrder roots inner ↔ Valid inner 0 [] roots t := by
  simp only [knownWhereNeeded, Bool.and_eq_true, all_eq_true] at hK
  have h1 : forkOrder roots inner = forkOrder roots (tot inner) := by
    unfold forkOrder
    exact bfs_tot inner _ _ hK.1
  have h2 := allForks_tot inner roots 0 [] hK.2
  have hp := forkOrder_perm_allForks roots (tot inner) hs (tot_known inner)
  rw [← h1, ← h2] at hp
  refine ⟨hp.nodup_iff.mpr ?_, ?_⟩
  · rw [h2]; exact allForks_nodup (tot inner) (tot_keysNodup inner hIN) roots 0 [] hSN
  · intro t
    rw [hp.mem_iff]
    exact mem_allForks inner roots 0 [] t

end Martian.ForkOrder
