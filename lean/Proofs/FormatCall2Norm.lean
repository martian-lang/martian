import Martian.FormatCallText
import Proofs.FormatCallParse
import Proofs.FormatExpRound

/-!
C09, part Call2: the normal form of a call statement.  The `using` block of the
printed call (`modList`: keyword modifiers converted, sorted by id) keeps
well-formedness and distinct ids, is sorted, and converting / sorting it again
changes nothing; the converted block is the source's followed by the keywords that are set
and not bound (`convMods_eq`), which gives its lookup (`findMod_convMods`);
`normCall2` / `normRet` / `normBody` are idempotent and preserve well-formedness.
-/

namespace Martian.FormatCall2
open Martian.Lexer (Bytes)
open Martian.FormatExp Martian.FormatCall
open Martian.FormatCallText (findMod)

theorem hasId_cons (k : Bytes) (kv : Bytes × Exp) (l : List (Bytes × Exp)) :
    hasId k (kv :: l) = (kv.1 == k || hasId k l) := by
  simp [hasId]

theorem hasId_nil (k : Bytes) : hasId k [] = false := rfl

theorem perm_insMod (kv : Bytes × Exp) : ∀ l : List (Bytes × Exp), (insMod kv l).Perm (kv :: l)
  | [] => .refl _
  | x :: r => by
    unfold insMod
    split
    · exact ((perm_insMod kv r).cons x).trans (.swap kv x r)
    · exact .refl _

theorem hasId_insMod (k : Bytes) (kv : Bytes × Exp) (l : List (Bytes × Exp)) :
    hasId k (insMod kv l) = (kv.1 == k || hasId k l) :=
  (perm_insMod kv l).any_eq.trans (hasId_cons ..)

theorem sortMods_cons (kv : Bytes × Exp) (l : List (Bytes × Exp)) :
    sortMods (kv :: l) = insMod kv (sortMods l) := rfl

theorem perm_sortMods : ∀ l : List (Bytes × Exp), (sortMods l).Perm l
  | [] => .refl _
  | kv :: l => (perm_insMod kv _).trans ((perm_sortMods l).cons kv)

theorem hasId_sortMods (k : Bytes) (l : List (Bytes × Exp)) : hasId k (sortMods l) = hasId k l :=
  (perm_sortMods l).any_eq

theorem all_sortMods (P : Bytes × Exp → Bool) (l : List (Bytes × Exp)) : (sortMods l).all P = l.all P :=
  (perm_sortMods l).all_eq

theorem isEmpty_sortMods (l : List (Bytes × Exp)) : (sortMods l).isEmpty = l.isEmpty :=
  (perm_sortMods l).isEmpty_eq

theorem distinct_insMod (kv : Bytes × Exp) : ∀ l : List (Bytes × Exp),
    distinctIds (insMod kv l) = (!hasId kv.1 l && distinctIds l)
  | [] => by simp [insMod, distinctIds, hasId]
  | x :: r => by
    unfold insMod
    split
    · rw [distinctIds, hasId_insMod, distinct_insMod kv r, hasId_cons, distinctIds, BEq.comm (a := kv.1)]
      cases (x.1 == kv.1) <;> cases hasId x.1 r <;> cases hasId kv.1 r <;> simp
    · rw [distinctIds]

theorem distinct_sortMods : ∀ l : List (Bytes × Exp), distinctIds (sortMods l) = distinctIds l
  | [] => rfl
  | kv :: l => by
    rw [sortMods_cons, distinct_insMod, hasId_sortMods, distinct_sortMods l, distinctIds]

/-- ids in ascending order (adjacent pairs: the next is not smaller) -/
def sortedMods : List (Bytes × Exp) → Bool
  | [] => true
  | [_] => true
  | x :: y :: r => !bytesLt y.1 x.1 && sortedMods (y :: r)

theorem sortedMods_tail {x : Bytes × Exp} {l : List (Bytes × Exp)} (h : sortedMods (x :: l) = true) :
    sortedMods l = true := by
  cases l with
  | nil => rfl
  | cons y r => simp only [sortedMods, Bool.and_eq_true] at h; exact h.2

theorem insMod_sorted (kv : Bytes × Exp) : ∀ l : List (Bytes × Exp), sortedMods l = true →
    sortedMods (insMod kv l) = true
  | [], _ => rfl
  | [x], _ => by
    unfold insMod
    split
    · rename_i h
      simp [insMod, sortedMods, bytesLt_asymm _ _ h]
    · rename_i h
      simp only [Bool.not_eq_true] at h
      simp [sortedMods, h]
  | x :: y :: r, hs => by
    have ih := insMod_sorted kv (y :: r) (sortedMods_tail hs)
    simp only [sortedMods, Bool.and_eq_true, Bool.not_eq_true'] at hs
    unfold insMod
    split
    · rename_i hx
      unfold insMod at ih ⊢
      split
      · rename_i hy
        simp only [hy, ↓reduceIte] at ih
        simp only [sortedMods, Bool.and_eq_true, Bool.not_eq_true']
        exact ⟨hs.1, ih⟩
      · rename_i hy
        simp only [hy] at ih
        simp only [sortedMods, Bool.and_eq_true, Bool.not_eq_true']
        exact ⟨bytesLt_asymm _ _ hx, by simpa [sortedMods] using ih⟩
    · rename_i hx
      simp only [Bool.not_eq_true] at hx
      simp only [sortedMods, Bool.and_eq_true, Bool.not_eq_true']
      exact ⟨hx, hs.1, hs.2⟩

theorem sortMods_sorted : ∀ l : List (Bytes × Exp), sortedMods (sortMods l) = true
  | [] => rfl
  | kv :: l => by rw [sortMods_cons]; exact insMod_sorted kv _ (sortMods_sorted l)

theorem sortMods_of_sorted : ∀ l : List (Bytes × Exp), sortedMods l = true → sortMods l = l
  | [], _ => rfl
  | [x], _ => rfl
  | x :: y :: r, hs => by
    rw [sortMods_cons, sortMods_of_sorted (y :: r) (sortedMods_tail hs)]
    simp only [sortedMods, Bool.and_eq_true, Bool.not_eq_true'] at hs
    simp [insMod, hs.1]

theorem sortMods_idem (l : List (Bytes × Exp)) : sortMods (sortMods l) = sortMods l :=
  sortMods_of_sorted _ (sortMods_sorted l)

theorem hasId_append (k : Bytes) (l1 l2 : List (Bytes × Exp)) :
    hasId k (l1 ++ l2) = (hasId k l1 || hasId k l2) := List.any_append

theorem distinct_snoc (kv : Bytes × Exp) : ∀ l : List (Bytes × Exp),
    distinctIds (l ++ [kv]) = (!hasId kv.1 l && distinctIds l)
  | [] => by simp [distinctIds, hasId]
  | x :: r => by
    rw [List.cons_append, distinctIds, hasId_append, distinct_snoc kv r, hasId_cons, distinctIds,
      hasId_cons, hasId_nil, BEq.comm (a := kv.1)]
    cases (x.1 == kv.1) <;> cases hasId x.1 r <;> cases hasId kv.1 r <;> simp

/-- a keyword modifier that is set and not bound in the `using` block, as a `= true` binding -/
def kwMod (m : Mods) (on : Bool) (k : Bytes) : List (Bytes × Exp) :=
  if on && !hasId k m.binds then [(k, .bool true)] else []

theorem convMods_eq (m : Mods) :
    convMods m = m.binds ++ (kwMod m m.loc sLocal ++ (kwMod m m.pre sPreflight ++ kwMod m m.vol sVolatile)) := by
  simp only [convMods, addKw, kwMod]
  split <;> split <;> split <;> simp

theorem hasId_kwMod (m : Mods) (on : Bool) (k k' : Bytes) (h : (k == k') = false) :
    hasId k' (kwMod m on k) = false := by
  unfold kwMod
  split <;> simp [hasId, h]

/-- appending a converted keyword `k` to a block that holds the id `k` iff the source's does -/
theorem distinct_kwMod (m : Mods) (on : Bool) (k : Bytes) (l : List (Bytes × Exp))
    (hh : hasId k l = hasId k m.binds) : distinctIds (l ++ kwMod m on k) = distinctIds l := by
  unfold kwMod
  split
  · rename_i h
    simp only [Bool.and_eq_true, Bool.not_eq_true'] at h
    rw [distinct_snoc, hh, h.2]; rfl
  · rw [List.append_nil]

theorem distinct_convMods (m : Mods) (h : distinctIds m.binds = true) : distinctIds (convMods m) = true := by
  rw [convMods_eq, ← List.append_assoc, ← List.append_assoc, distinct_kwMod, distinct_kwMod,
    distinct_kwMod _ _ _ _ rfl, h]
  · rw [hasId_append, hasId_kwMod _ _ _ _ (by decide), Bool.or_false]
  · rw [hasId_append, hasId_append, hasId_kwMod _ _ _ _ (by decide), hasId_kwMod _ _ _ _ (by decide),
      Bool.or_false, Bool.or_false]

theorem all_kwMod (m : Mods) (on : Bool) {k : Bytes} (hk : isModKw k = true) :
    (kwMod m on k).all wfMod = true := by
  unfold kwMod
  split <;> simp [wfMod, hk, isBoolE]

theorem findMod_append (k : Bytes) : ∀ l1 l2 : List (Bytes × Exp),
    findMod k (l1 ++ l2) = (findMod k l1).or (findMod k l2)
  | [], _ => by simp [findMod]
  | kv :: r, l2 => by
    by_cases h : kv.1 = k
    · simp [findMod, h]
    · simp [findMod, h, findMod_append k r l2]

theorem hasId_eq_isSome (k : Bytes) : ∀ l : List (Bytes × Exp), hasId k l = (findMod k l).isSome
  | [] => rfl
  | kv :: r => by
    by_cases h : kv.1 = k <;> simp [hasId_cons, findMod, h, hasId_eq_isSome k r]

theorem findMod_kwMod (m : Mods) (on : Bool) (k k' : Bytes) :
    findMod k' (kwMod m on k) =
      if on = true ∧ hasId k m.binds = false ∧ k = k' then some (.bool true) else none := by
  unfold kwMod
  by_cases h : k = k' <;> cases on <;> cases hasId k m.binds <;> simp [findMod, h]

/-- `Bindings.Table[k]` after the conversion: the source's binding, else `= true` for a keyword
modifier that is set -/
theorem findMod_convMods (m : Mods) (k : Bytes) :
    findMod k (convMods m) = (findMod k m.binds).or
      (if (m.loc = true ∧ sLocal = k) ∨ (m.pre = true ∧ sPreflight = k) ∨ (m.vol = true ∧ sVolatile = k) then
        some (.bool true) else none) := by
  rw [convMods_eq, findMod_append, findMod_append, findMod_append, findMod_kwMod, findMod_kwMod, findMod_kwMod]
  cases hf : findMod k m.binds with
  | some v => rfl
  | none =>
    -- `k` is not bound in the block, so a keyword `k` that is set is converted
    have hn : hasId k m.binds = false := by rw [hasId_eq_isSome, hf]; rfl
    have hc : ∀ (on : Bool) (k' : Bytes),
        (on = true ∧ hasId k' m.binds = false ∧ k' = k) ↔ (on = true ∧ k' = k) :=
      fun on k' => ⟨fun h => ⟨h.1, h.2.2⟩, fun h => ⟨h.1, h.2 ▸ hn, h.2⟩⟩
    simp only [hc, Option.none_or]
    by_cases h1 : m.loc = true ∧ sLocal = k <;> by_cases h2 : m.pre = true ∧ sPreflight = k <;>
      by_cases h3 : m.vol = true ∧ sVolatile = k <;> simp [h1, h2, h3]

theorem all_wfMod_convMods (m : Mods) (h : m.binds.all wfMod = true) : (convMods m).all wfMod = true := by
  simp only [convMods_eq, List.all_append, h, all_kwMod m _ (show isModKw sLocal = true by decide),
    all_kwMod m _ (show isModKw sPreflight = true by decide),
    all_kwMod m _ (show isModKw sVolatile = true by decide), Bool.and_self]

theorem usingPrinted_eq (m : Mods) : usingPrinted m = !(modList m).isEmpty := by
  obtain ⟨l, p, v, b⟩ := m
  rw [modList, isEmpty_sortMods, convMods_eq]
  cases b <;> cases l <;> cases p <;> cases v <;> simp [usingPrinted, kwMod, hasId]

theorem hasId_modList (m : Mods) (k : Bytes) :
    hasId k (modList m) = (hasId k m.binds || (m.loc && k == sLocal) || (m.pre && k == sPreflight) ||
      (m.vol && k == sVolatile)) := by
  rw [modList, hasId_sortMods, hasId_eq_isSome, findMod_convMods, hasId_eq_isSome]
  cases findMod k m.binds with
  | some v => simp
  | none =>
    rw [Bool.eq_iff_iff]
    simp [eq_comm (a := k), or_assoc]

theorem convMods_noflags (l : List (Bytes × Exp)) : convMods ⟨false, false, false, l⟩ = l := by
  simp [convMods_eq, kwMod]

theorem modList_normMods (m : Mods) : modList (normMods m) = modList m := by
  simp only [normMods, modList, convMods_noflags, sortMods_idem]

theorem normMods_idem (m : Mods) : normMods (normMods m) = normMods m := by
  simp only [normMods, modList, convMods_noflags, sortMods_idem]

theorem modList_wf (m : Mods) (h : wfMods m = true) :
    (modList m).all wfMod = true ∧ distinctIds (modList m) = true := by
  simp only [wfMods, Bool.and_eq_true] at h
  rw [modList, all_sortMods, distinct_sortMods]
  exact ⟨all_wfMod_convMods m h.1, distinct_convMods m h.2⟩

theorem wfMods_norm (m : Mods) (h : wfMods m = true) : wfMods (normMods m) = true := by
  have := modList_wf m h
  simp only [wfMods, normMods, Bool.and_eq_true]
  exact this

theorem all_wfBind_norm (bs : List Bind) (h : bs.all wfBind = true) :
    (bs.map normBind).all wfBind = true := by
  rw [List.all_map]
  rw [List.all_eq_true] at h ⊢
  intro b hb
  have h := h b hb
  simp only [wfBind, Bool.and_eq_true, Function.comp] at h ⊢
  exact ⟨⟨h.1.1, wf_norm _ h.1.2⟩, by simpa [normBind, isSplitVal_norm] using h.2⟩

theorem map_normBind_idem (bs : List Bind) : (bs.map normBind).map normBind = bs.map normBind := by
  rw [List.map_map]
  apply List.map_congr_left
  intro b _
  simp [normBind, norm_norm]

theorem normCall2_idem (c : Call2) : normCall2 (normCall2 c) = normCall2 c := by
  simp only [normCall2, map_normBind_idem, normMods_idem]

theorem wfCall2_norm (c : Call2) (h : wfCall2 c = true) : wfCall2 (normCall2 c) = true := by
  simp only [wfCall2, Bool.and_eq_true] at h ⊢
  obtain ⟨⟨⟨⟨hd, hi⟩, hb⟩, hw⟩, hm⟩ := h
  exact ⟨⟨⟨⟨hd, hi⟩, all_wfBind_norm _ hb⟩, hw⟩, wfMods_norm _ hm⟩

theorem normRet_idem (r : Ret) : normRet (normRet r) = normRet r := by
  simp only [normRet, map_normBind_idem]

theorem wfRet_norm (r : Ret) (h : wfRet r = true) : wfRet (normRet r) = true := by
  simp only [wfRet, Bool.and_eq_true] at h ⊢
  exact ⟨⟨all_wfBind_norm _ h.1.1, by rw [normRet, List.all_map]; exact h.1.2⟩, h.2⟩

theorem map_normCall2_idem (cs : List Call2) : (cs.map normCall2).map normCall2 = cs.map normCall2 := by
  rw [List.map_map]
  apply List.map_congr_left
  intro c _
  exact normCall2_idem c

theorem normBody_idem (b : Body) : normBody (normBody b) = normBody b := by
  simp only [normBody, map_normCall2_idem, normRet_idem]

theorem wfBody_norm (b : Body) (h : wfBody b = true) : wfBody (normBody b) = true := by
  simp only [wfBody, Bool.and_eq_true] at h ⊢
  refine ⟨⟨?_, wfRet_norm _ h.1.2⟩, h.2⟩
  simp only [normBody, List.all_map]
  have hc := h.1.1
  rw [List.all_eq_true] at hc ⊢
  intro c hcm
  exact wfCall2_norm c (hc c hcm)

end Martian.FormatCall2
