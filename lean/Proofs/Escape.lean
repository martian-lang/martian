import Martian.Lexer
import Martian.ShellQuote

/-! What a writer escapes, a reader reads back.  A writer's text is a sequence of units, each with the bytes it
stands for (`Spells U`); a fuelled reader takes one unit off the front of any input (`Step`); so it reads the
whole text (`Spells.step`, `Step.read`). -/

namespace Martian.Escape
open Martian.Lexer (Bytes)
open Martian.ShellQuote (validFrom)

/-- In some rounds, no more than `u` has bytes, the fuelled reader `L` takes the text `u` off the front of any
input and puts `out` in front of its result. -/
def Step (L : Nat → Bytes → Option Bytes) (u out : Bytes) : Prop :=
  ∃ n, n ≤ u.length ∧ ∀ g X, L (g + n) (u ++ X) = (L g X).map (out ++ ·)

variable {L : Nat → Bytes → Option Bytes} {U : Bytes → Bytes → Prop} {u v out o p q s : Bytes}

theorem Step.nil : Step L [] [] := ⟨0, Nat.le_refl _, fun g X => by simp⟩

theorem Step.one (hu : 1 ≤ u.length) (h : ∀ g X, L (g + 1) (u ++ X) = (L g X).map (out ++ ·)) :
    Step L u out := ⟨1, hu, h⟩

theorem Step.append (h1 : Step L u o) (h2 : Step L v p) : Step L (u ++ v) (o ++ p) := by
  obtain ⟨n, hn, e1⟩ := h1
  obtain ⟨m, hm, e2⟩ := h2
  refine ⟨m + n, by rw [List.length_append]; omega, fun g X => ?_⟩
  rw [← Nat.add_assoc, List.append_assoc, e1, e2, Option.map_map]
  congr 1; funext x; simp

/-- bytes the reader copies, one in each round -/
theorem Step.copies (h : ∀ c ∈ u, ∀ g X, L (g + 1) (c :: X) = (L g X).map (c :: ·)) : Step L u u := by
  induction u with
  | nil => exact .nil
  | cons c r ih =>
    exact (Step.one (u := [c]) (out := [c]) (Nat.le_refl _) (h c (by simp))).append
      (ih fun x hx => h x (by simp [hx]))

/-- With fuel beyond the length of the text, the reader that stops on `tail` returns what the text stands for. -/
theorem Step.read (h : Step L q s) {tail : Bytes} (hend : ∀ g, L (g + 1) tail = some [])
    (g : Nat) (hg : q.length < g) : L g (q ++ tail) = some s := by
  obtain ⟨n, hn, e⟩ := h
  obtain ⟨g, rfl⟩ : ∃ g', g = g' + 1 + n := ⟨g - 1 - n, by omega⟩
  rw [e, hend]; simp

/-- a text made of units, each with the bytes it stands for -/
inductive Spells (U : Bytes → Bytes → Prop) : Bytes → Bytes → Prop
  | nil : Spells U [] []
  | cons {u out q s : Bytes} : U u out → Spells U q s → Spells U (u ++ q) (out ++ s)

theorem Spells.step (hU : ∀ {u out}, U u out → Step L u out) (h : Spells U q s) : Step L q s := by
  induction h with
  | nil => exact .nil
  | cons hu _ ih => exact (hU hu).append ih

/-- what holds of the empty text and survives a unit in front holds of the text -/
theorem Spells.text_ind {P : Bytes → Prop} (nil : P []) (cons : ∀ {u out q}, U u out → P q → P (u ++ q))
    (h : Spells U q s) : P q := by
  induction h with
  | nil => exact nil
  | cons hu _ ih => exact cons hu ih

/-- a text of units none of which disturbs what follows is valid UTF-8 -/
theorem Spells.valid (hU : ∀ {u out}, U u out → ∀ Y, validFrom (u ++ Y) 0 = validFrom Y 0)
    (h : Spells U q s) : validFrom q 0 = true :=
  h.text_ind (P := fun q => validFrom q 0 = true) rfl fun hu ih => by rw [hU hu]; exact ih

end Martian.Escape
