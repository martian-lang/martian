import Martian.FormatCall
import Proofs.FormatExpParse

/-!
C09: the token layer of the round trip of the call-statement printer:
`toksCall c`; one binding on its tokens (`pBind_toks`), the `split` look-ahead
(`splitKw_toks`, `splitAhead_toks`), the `map` keyword (`pMapKw_toks`).
-/

namespace Martian.FormatCall
open Martian.Lexer (Bytes)
open Martian.FormatExp

abbrev tLP : Tok := .punct 0x28
abbrev tRP : Tok := .punct 0x29
abbrev tEq : Tok := .punct 0x3D

def toksBindPre (b : Bind) : List Tok :=
  .id b.id :: tEq :: (if b.split then [.id sSplit] else [])

def toksBinds : List Bind → List Tok
  | [] => []
  | b :: r => toksBindPre b ++ toks b.exp ++ tComma :: toksBinds r

def toksCall (c : Call) : List Tok :=
  (if isMap c then [.reserved sMap] else []) ++ .reserved sCall :: .id c.decId ::
    ((if c.id = c.decId then [] else [.reserved sAs, .id c.id]) ++ tLP :: (toksBinds c.binds ++ [tRP]))

/-! ## the SPLIT keyword is recognised exactly where it was printed -/

theorem splitKw_toksDots (s : Bytes) (out : List Bytes) (rest : List Tok) :
    splitKw (.id s :: (toksDots out ++ tComma :: rest)) = none := by
  cases out <;> simp [splitKw, toksDots, splitAhead]

/-- a printed expression followed by a comma is never taken for `split …` -/
theorem splitKw_toks (e : Exp) (rest : List Tok) : splitKw (toks e ++ tComma :: rest) = none := by
  cases e with
  | null => simp [toks, splitKw]
  | nilArr => simp [toks, splitKw]
  | bool b => cases b <;> simp [toks, splitKw]
  | int i => simp [toks, splitKw]
  | float t => by_cases h : isFloatTok t = true <;> simp [toks, splitKw, h]
  | str s => simp [toks, splitKw]
  | arr xs =>
    match xs with
    | [] => simp [toks, splitKw]
    | [x] => by_cases h : single x = true <;> simp [toks, splitKw, h]
    | x :: y :: r => simp [toks, splitKw]
  | map kvs => cases kvs <;> simp [toks, splitKw]
  | struct kvs => cases kvs <;> simp [toks, splitKw]
  | ref self id out =>
    simp only [toks, toksRef]
    cases self with
    | true => simp [splitKw]
    | false =>
      by_cases hd : out = [sDefault]
      · simp [hd, splitKw, splitAhead]
      · simp only [Bool.false_eq_true, ↓reduceIte, hd, List.cons_append]
        exact splitKw_toksDots id out rest

/-- the value of a split binding starts with a token the automaton shifts on -/
theorem splitAhead_toks (e : Exp) (rest : List Tok) (h : isSplitVal e = true) :
    splitAhead (toks e ++ rest) = true := by
  cases e with
  | arr xs =>
    match xs with
    | [] => simp [isSplitVal] at h
    | [x] => by_cases hs : single x = true <;> simp [toks, splitAhead, hs]
    | x :: y :: r => simp [toks, splitAhead]
  | map kvs =>
    cases kvs with
    | nil => simp [isSplitVal] at h
    | cons kv r => simp [toks, splitAhead]
  | ref self id out =>
    simp only [toks, toksRef]
    cases self with
    | true => simp [splitAhead]
    | false => by_cases hd : out = [sDefault] <;> simp [hd, splitAhead]
  | _ => simp [isSplitVal] at h

theorem isSplitVal_norm (e : Exp) : isSplitVal (norm e) = isSplitVal e := by
  cases e with
  | arr xs => cases xs <;> simp [norm, normL, isSplitVal]
  | map kvs =>
    cases kvs with
    | nil => simp [norm, normKV, isSplitVal]
    | cons kv r => obtain ⟨k, v⟩ := kv; simp [norm, normKV, isSplitVal]
  | struct kvs => cases kvs <;> simp [norm, isSplitVal]
  | float t =>
    simp only [norm]
    split
    · rfl
    · split <;> rfl
  | _ => simp [norm, isSplitVal]

theorem pBind_toks (m : Bool) (fe : Nat) (b : Bind) (rest : List Tok) (hw : wfBind b = true)
    (hm : b.split = true → m = true) (hf : cost b.exp ≤ fe) :
    pBind m fe (.id b.id :: tEq :: ((if b.split then [.id sSplit] else []) ++
      (toks b.exp ++ tComma :: rest))) = some (normBind b, rest) := by
  obtain ⟨x, sp, e⟩ := b
  simp only [wfBind, Bool.and_eq_true, Bool.or_eq_true, Bool.not_eq_true'] at hw
  obtain ⟨⟨_, hwe⟩, hsv⟩ := hw
  have hp := pExp_toks e fe (tComma :: rest) hwe hf (noDot_comma rest)
  cases sp with
  | false =>
    have hk : (if m = true then splitKw (toks e ++ tComma :: rest) else none) = none := by
      rw [splitKw_toks]; simp
    simp only [Bool.false_eq_true, ↓reduceIte, List.nil_append, pBind, hk, hp, normBind]
  | true =>
    have hm' : m = true := hm rfl
    have hsv' : isSplitVal e = true := by
      rcases hsv with h | h
      · exact absurd h (by simp)
      · exact h
    have hk : (if m = true then splitKw (.id sSplit :: (toks e ++ tComma :: rest)) else none) =
        some (toks e ++ tComma :: rest) := by
      simp [hm', splitKw, splitAhead_toks e _ hsv']
    simp only [↓reduceIte, List.cons_append, List.nil_append, pBind, hk, hp, normBind,
      isSplitVal_norm, hsv']

theorem any_split_norm (bs : List Bind) : (bs.map normBind).any (·.split) = bs.any (·.split) := by
  induction bs with
  | nil => rfl
  | cons a bs ih => simp [normBind, ih]

theorem split_isMap {bs : List Bind} : ∀ b ∈ bs, b.split = true → bs.any (·.split) = true :=
  fun b hb hs => List.any_eq_true.mpr ⟨b, hb, hs⟩

theorem pMapKw_toks (m : Bool) (r : List Tok) :
    pMapKw ((if m then [.reserved sMap] else []) ++ .reserved sCall :: r) = (m, .reserved sCall :: r) := by
  have : sCall ≠ sMap := by decide
  cases m <;> simp [pMapKw, this]

end Martian.FormatCall
