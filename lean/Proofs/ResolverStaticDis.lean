/-
C01 — run-time `disabled` controls (on plain calls, anywhere in a call graph with mapped pipelines /
nested map calls): the typing of the fragment, and den's call-level operations on the ERASED environment
(`eraseEnv`).  den writes `dnull` for the outputs of a disabled call, the run-time phase JSON null, so the
refinement (Proofs/ResolverStaticRun.lean) holds modulo `J.erase`, and its invariant is the environment
relation of the `disabled`-free proof on the erased environment: the expression lemmas E / L0 / L1 / P are
reused unchanged.  The refinement is proved once for any `Rendering` of den's values; the erasure is one, the
identity (no `disabled`: Proofs/ResolverStaticTree3.lean) the other.
-/
import Proofs.ResolverStaticTree2
import Proofs.DataflowErase
import Proofs.ResolverStaticMap

namespace Proofs.ResolverStatic
open Martian.Dataflow Martian.Resolver Martian.ResolverForks Martian.ResolverStatic Proofs.Dataflow
  Proofs.ResolverForks

/-- the recorded stage outputs are JSON: no `dnull` inside -/
def OracleClean (O : Oracle) : Prop := ∀ k v, O k = some v → J.clean v = true

def CallClean (c : Call) : Prop :=
  (∀ b ∈ c.binds, Exp.clean b.exp = true) ∧ ∀ d, c.disabled = some d → Exp.clean d.2 = true

/-- `ε` applied to every value of the environment; `eraseEnv` is `mapEnv J.erase` -/
def mapEnv (ε : J → J) (env : Env) : Env :=
  { env with selfVal := ε env.selfVal, calls := env.calls.map fun x => (x.1, x.2.1, ε x.2.2) }

/-- `eraseInst` is `mapInst J.erase` -/
def mapInst (ε : J → J) (i : Inst) : Inst := { i with args := ε i.args }

theorem mapEnv_id (env : Env) : mapEnv id env = env := by
  cases env; simp [mapEnv]

theorem mapInst_id : mapInst id = id := rfl

/-- A rendering `ε` of den's values under which the refinement is stated: den's operations commute with it, and
so does the evaluation of the expressions `e` with `C e`.  There are two: the identity, for programs
without `disabled` (no condition on the expressions), and the erasure `dnull ↦ null` (on the expressions
whose literals are null or scalars).  `elemAt` commutes at every index but "no element" (`.none`), where it
is `dnull`, which the erasure does not fix. -/
structure Rendering (ε : J → J) (C : Exp → Prop) : Prop where
  null : ε .null = .null
  arr : ∀ xs, ε (.arr xs) = .arr (xs.map ε)
  obj : ∀ kvs, ε (.obj kvs) = .obj (kvs.map fun kv => (kv.1, ε kv.2))
  narrow : ∀ st F t v, ε (narrow st F t v) = narrow st F t (ε v)
  elemAt : ∀ v ix, ix ≠ .none → elemAt (ε v) ix = ε (elemAt v ix)
  indices : ∀ v, indicesOf (ε v) = indicesOf v
  isTrue : ∀ v, Martian.Dataflow.isTrue (ε v) = Martian.Dataflow.isTrue v
  eval : ∀ st env e, C e → eval st (mapEnv ε env) e = ε (eval st env e)

theorem Rendering.id : Rendering id fun _ => True :=
  ⟨rfl, fun _ => by simp, fun _ => by simp, fun _ _ _ _ => rfl, fun _ _ _ => rfl, fun _ => rfl, fun _ => rfl,
    fun _ _ _ _ => by rw [mapEnv_id]; rfl⟩

theorem elemAt_erase (v : J) (ix : Idx) (h : ix ≠ .none) : elemAt (J.erase v) ix = J.erase (elemAt v ix) := by
  cases ix with
  | i k => exact elemAt_erase_i v k
  | k s => exact field_erase v s
  | none => exact absurd rfl h

theorem Rendering.erase : Rendering J.erase fun e => Exp.clean e = true :=
  ⟨rfl, erase_arr, erase_obj, narrow_erase, elemAt_erase, indicesOf_erase, isTrue_erase, eval_eraseEnv⟩

/-- the expressions of a call are among those whose evaluation commutes with the rendering -/
def CleanX (C : Exp → Prop) (c : Call) : Prop :=
  (∀ b ∈ c.binds, C b.exp) ∧ ∀ d, c.disabled = some d → C d.2

section mapEnv
variable (ε : J → J)

theorem selfTy_mapEnv (env : Env) : (mapEnv ε env).selfTy = env.selfTy := rfl

theorem typesOf_mapEnv (env : Env) : typesOf (mapEnv ε env) = typesOf env := by
  simp [typesOf, mapEnv, List.map_map, Function.comp_def]

theorem callTy_mapEnv (env : Env) : (mapEnv ε env).callTy = env.callTy := by
  rw [callTy_typesOf, callTy_typesOf, typesOf_mapEnv]

theorem mapEnv_append (env : Env) (id : String) (ty : Ty) (v : J) :
    mapEnv ε { env with calls := env.calls ++ [(id, ty, v)] }
      = { mapEnv ε env with calls := (mapEnv ε env).calls ++ [(id, ty, ε v)] } := by
  simp [mapEnv]

theorem callMode_mapEnv (st : StructTable) (env : Env) (c : Call) :
    callMode st (mapEnv ε env) c = callMode st env c := by
  have h : ∀ e, splitMode st (mapEnv ε env) e = splitMode st env e := fun e => by
    cases e <;> simp [splitMode, selfTy_mapEnv, callTy_mapEnv]
  unfold callMode
  cases c.mapped <;> simp
  cases firstSplit c <;> simp [h]

end mapEnv

section rendering
variable {ε : J → J} {C : Exp → Prop} (hε : Rendering ε C)
include hε

theorem argVals_mapEnv (st : StructTable) (env : Env) (ins : List Param) (c : Call)
    (hc : ∀ b ∈ c.binds, C b.exp) :
    argVals st (mapEnv ε env) ins c = (argVals st env ins c).map fun a => { a with val := ε a.val } := by
  simp only [argVals, List.map_map]
  apply List.map_congr_left
  intro p _
  simp only [Function.comp_apply]
  cases hfb : c.binds.find? (fun b => b.param == p.name) with
  | none => simp [hε.null]
  | some b => simp [hε.eval st env b.exp (hc b (List.mem_of_find?_eq_some hfb))]

theorem mkArgs_map (st : StructTable) (F : Nat) (env : Env) (ins : List Param) (c : Call) (o : Option Idx)
    (ho : o ≠ some .none) (hc : ∀ b ∈ c.binds, C b.exp) :
    ε (mkArgs st F (argVals st env ins c) o) = mkArgs st F (argVals st (mapEnv ε env) ins c) o := by
  rw [argVals_mapEnv hε st env ins c hc]
  simp only [mkArgs, hε.obj, List.map_map, J.obj.injEq]
  apply List.map_congr_left
  intro a _
  simp only [Function.comp_apply, Prod.mk.injEq, true_and]
  rw [hε.narrow]
  cases a.split with
  | false => rfl
  | true =>
    cases o with
    | none => rfl
    | some ix => simp [hε.elemAt _ ix fun e => ho (by rw [e])]

end rendering

theorem argVals_eraseEnv (st : StructTable) (env : Env) (ins : List Param) (c : Call)
    (hc : ∀ b ∈ c.binds, Exp.clean b.exp = true) :
    argVals st (eraseEnv env) ins c = (argVals st env ins c).map fun a => { a with val := J.erase a.val } :=
  argVals_mapEnv Rendering.erase st env ins c hc

theorem mkArgs_erase_none (st : StructTable) (F : Nat) (env : Env) (ins : List Param) (c : Call)
    (hc : ∀ b ∈ c.binds, Exp.clean b.exp = true) :
    J.erase (mkArgs st F (argVals st env ins c) none) = mkArgs st F (argVals st (eraseEnv env) ins c) none :=
  mkArgs_map Rendering.erase st F env ins c none (by simp) hc

theorem mkArgs_erase_i (st : StructTable) (F : Nat) (env : Env) (ins : List Param) (c : Call) (k : Nat)
    (hc : ∀ b ∈ c.binds, Exp.clean b.exp = true) :
    J.erase (mkArgs st F (argVals st env ins c) (some (.i k)))
      = mkArgs st F (argVals st (eraseEnv env) ins c) (some (.i k)) :=
  mkArgs_map Rendering.erase st F env ins c (some (.i k)) (by simp) hc

theorem splitVals_eraseEnv (st : StructTable) (env : Env) (c : Call) (hc : CallClean c) :
    splitVals st (eraseEnv env) c = (splitVals st env c).map J.erase := by
  simp only [splitVals, List.map_append, List.map_map]
  congr 1
  · apply List.map_congr_left
    intro b hb
    simp only [List.mem_filter] at hb
    exact eval_eraseEnv st env b.exp (hc.1 b hb.1)
  · cases hd : c.disabled with
    | none => rfl
    | some d =>
      obtain ⟨s, e⟩ := d
      cases s with
      | false => rfl
      | true => simp [eval_eraseEnv st env e (hc.2 _ hd)]

theorem callMode_eraseEnv (st : StructTable) (env : Env) (c : Call) :
    callMode st (eraseEnv env) c = callMode st env c :=
  callMode_mapEnv J.erase st env c

theorem eraseEnv_append (env : Env) (id : String) (ty : Ty) (v : J) :
    eraseEnv { env with calls := env.calls ++ [(id, ty, v)] }
      = { eraseEnv env with calls := (eraseEnv env).calls ++ [(id, ty, J.erase v)] } :=
  mapEnv_append J.erase env id ty v

theorem typesOf_eraseEnv' (env : Env) : typesOf (eraseEnv env) = typesOf env := typesOf_eraseEnv env

theorem evalCall_disabled (st : StructTable) (F : Nat) (insOf : String → List Param) (run : Runner)
    (path : List String) (forks : List (String × Idx)) (env : Env) (c : Call) (e : Exp)
    (hm : c.mapped = false) (hd : c.disabled = some (false, e)) :
    evalCall st F insOf run path forks env c =
      if Martian.Dataflow.isTrue (eval st env e) then (⟨c.callee, 0, 0⟩, .dnull, [])
      else
        (⟨c.callee, 0, 0⟩,
         (run c.callee (path ++ [c.id]) forks (mkArgs st F (argVals st env (insOf c.callee) c) none)).1,
         (run c.callee (path ++ [c.id]) forks (mkArgs st F (argVals st env (insOf c.callee) c) none)).2) := by
  simp only [evalCall, hd, hm, callMode, liftTy]
  split <;> simp

/-- a plain call with a run-time `disabled` control: the control is a boolean expression -/
def DisabledOkE (st : StructTable) (P : Program) (sT cT : String → Ty) (c : Call) : Prop :=
  c.mapped = false ∧ (∃ e, c.disabled = some (false, e) ∧ HasTy st sT cT ⟨"bool", 0, 0⟩ e) ∧
  (∀ b ∈ c.binds, b.split = false) ∧
  ∀ p ∈ P.insOf c.callee, ∀ b, c.binds.find? (fun b => b.param == p.name) = some b → HasTy st sT cT p.ty b.exp

def CallOkE (st : StructTable) (P : Program) (sT cT : String → Ty) (c : Call) : Prop :=
  CallClean c ∧
  ((CallOk st P.insOf sT cT c ∧ ∀ b ∈ c.binds, b.split = false) ∨ MappedOkT st P sT cT c ∨
    DisabledOkE st P sT cT c)

def CallsOkE (st : StructTable) (P : Program) (sT : String → Ty) :
    List (String × Ty) → List Call → Prop
  | _, [] => True
  | L, c :: cs => CallOkE st P sT (callTyOf L) c ∧ CallsOkE st P sT (L ++ [(c.id, callTyM c)]) cs

def PipelineOkE (st : StructTable) (P : Program) (pins outs : List Param)
    (calls : List Call) (ret : List (String × Exp)) : Prop :=
  CallsOkE st P (selfTyOf pins) [] calls ∧
  ∀ p ∈ outs, ∀ e, ret.lookup p.name = some e →
    Exp.clean e = true ∧ HasTy st (selfTyOf pins) (callTyOf (callTypesM calls)) p.ty e

structure WellTypedE (P : Program) : Prop where
  structs : StructsOk P.table
  outsOf : ∀ name c, P.callables.lookup name = some c → P.table.lookup name = some c.outs
  pipelines : ∀ name pins outs calls ret,
    P.callables.lookup name = some (.pipeline pins outs calls ret) →
      PipelineOkE P.table P pins outs calls ret
  top : CallOk P.table P.insOf (selfTyOf []) (callTyOf []) P.top ∧ (∀ b ∈ P.top.binds, b.split = false) ∧
    ∀ b ∈ P.top.binds, Exp.clean b.exp = true

/-- den's result for a callable against the static tree, modulo a rendering (`GoodE` is `GoodX J.erase`) -/
def GoodX (ε : J → J) (st : StructTable) (F : Nat) (ρ : Store) (forks : List (String × Idx)) (callee : String)
    (d : J × List Inst) (s : RB × List STree) : Prop :=
  (∀ f, Agree forks f → ε d.1 = evalRT st F ρ f ⟨callee, 0, 0⟩ s.1.exp) ∧
  HasTyR st ⟨callee, 0, 0⟩ s.1.exp ∧
  (∀ f, Agree forks f → d.2.map (mapInst ε) = instsTList st F ρ forks f s.2)

def GoodE (st : StructTable) (F : Nat) (ρ : Store) (forks : List (String × Idx)) (callee : String)
    (d : J × List Inst) (s : RB × List STree) : Prop :=
  (∀ f, Agree forks f → J.erase d.1 = evalRT st F ρ f ⟨callee, 0, 0⟩ s.1.exp) ∧
  HasTyR st ⟨callee, 0, 0⟩ s.1.exp ∧
  (∀ f, Agree forks f → d.2.map eraseInst = instsTList st F ρ forks f s.2)

end Proofs.ResolverStatic
