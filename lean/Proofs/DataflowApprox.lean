/-
C01 — the relation `e ≈ o` (`J.approx`: `o` is `e` with every `dnull` rendered as null, an empty
collection or a collection of nulls) is a CONGRUENCE for every value operation downstream of a
disabled / empty call: field selection, projection (through arrays and typed maps), narrowing,
collection building and the evaluation of binding expressions; `v ≈ erase v`; on values without
`dnull` it is equality.
-/
import Martian.Dataflow
import Proofs.Dataflow
import Proofs.ResolverStaticExp2

namespace Proofs.Approx
open Martian.Dataflow Proofs.Dataflow

theorem approx_dnull (o : J) : J.approx .dnull o = o.nullish := by
  cases o <;> simp [J.approx]

mutual
theorem approx_refl : ∀ v : J, J.approx v v = true
  | .null => by simp [J.approx]
  | .dnull => by simp [J.approx, J.nullish]
  | .atom _ => by simp [J.approx]
  | .arr xs => by simp [J.approx, approxList_refl xs]
  | .obj kvs => by simp [J.approx, approxFields_refl kvs]
theorem approxList_refl : ∀ xs : List J, J.approxList xs xs = true
  | [] => by simp [J.approxList]
  | x :: xs => by simp [J.approxList, approx_refl x, approxList_refl xs]
theorem approxFields_refl : ∀ kvs : List (String × J), J.approxFields kvs kvs = true
  | [] => by simp [J.approxFields]
  | (k, x) :: xs => by simp [J.approxFields, approx_refl x, approxFields_refl xs]
end

mutual
theorem approx_erase : ∀ v : J, J.approx v (J.erase v) = true
  | .null => by simp [J.approx, J.erase]
  | .dnull => by simp [J.approx, J.erase, J.nullish]
  | .atom _ => by simp [J.approx, J.erase]
  | .arr xs => by simp [J.approx, J.erase, approxList_erase xs]
  | .obj kvs => by simp [J.approx, J.erase, approxFields_erase kvs]
theorem approxList_erase : ∀ xs : List J, J.approxList xs (J.eraseList xs) = true
  | [] => by simp [J.approxList, J.eraseList]
  | x :: xs => by simp [J.approxList, J.eraseList, approx_erase x, approxList_erase xs]
theorem approxFields_erase : ∀ kvs : List (String × J), J.approxFields kvs (J.eraseFields kvs) = true
  | [] => by simp [J.approxFields, J.eraseFields]
  | (k, x) :: xs => by simp [J.approxFields, J.eraseFields, approx_erase x, approxFields_erase xs]
end

mutual
theorem approx_clean : ∀ (e o : J), J.clean e = true → J.approx e o = true → e = o
  | .null, o, _, h => by cases o <;> simp [J.approx] at h ⊢
  | .dnull, _, hc, _ => by simp [J.clean] at hc
  | .atom a, o, _, h => by cases o <;> simp [J.approx] at h ⊢; exact h
  | .arr xs, o, hc, h => by
    cases o <;> simp [J.approx] at h ⊢
    exact approxList_clean xs _ (by simpa [J.clean] using hc) h
  | .obj kvs, o, hc, h => by
    cases o <;> simp [J.approx] at h ⊢
    exact approxFields_clean kvs _ (by simpa [J.clean] using hc) h
theorem approxList_clean : ∀ (xs ys : List J), J.cleanList xs = true → J.approxList xs ys = true → xs = ys
  | [], ys, _, h => by cases ys <;> simp [J.approxList] at h ⊢
  | x :: xs, ys, hc, h => by
    cases ys with
    | nil => simp [J.approxList] at h
    | cons y ys =>
      simp only [J.approxList, Bool.and_eq_true] at h
      simp only [J.cleanList, Bool.and_eq_true] at hc
      rw [approx_clean x y hc.1 h.1, approxList_clean xs ys hc.2 h.2]
theorem approxFields_clean : ∀ (xs ys : List (String × J)), J.cleanFields xs = true →
    J.approxFields xs ys = true → xs = ys
  | [], ys, _, h => by cases ys <;> simp [J.approxFields] at h ⊢
  | (k, x) :: xs, ys, hc, h => by
    cases ys with
    | nil => simp [J.approxFields] at h
    | cons y ys =>
      obtain ⟨k', y⟩ := y
      simp only [J.approxFields, Bool.and_eq_true, beq_iff_eq] at h
      simp only [J.cleanFields, Bool.and_eq_true] at hc
      rw [h.1.1, approx_clean x y hc.1 h.1.2, approxFields_clean xs ys hc.2 h.2]
end

mutual
theorem erase_clean : ∀ v : J, J.clean v = true → J.erase v = v
  | .null, _ => rfl
  | .dnull, h => by simp [J.clean] at h
  | .atom _, _ => rfl
  | .arr xs, h => by simp [J.erase, eraseList_clean xs (by simpa [J.clean] using h)]
  | .obj kvs, h => by simp [J.erase, eraseFields_clean kvs (by simpa [J.clean] using h)]
theorem eraseList_clean : ∀ xs : List J, J.cleanList xs = true → J.eraseList xs = xs
  | [], _ => rfl
  | x :: xs, h => by
    simp only [J.cleanList, Bool.and_eq_true] at h
    simp [J.eraseList, erase_clean x h.1, eraseList_clean xs h.2]
theorem eraseFields_clean : ∀ kvs : List (String × J), J.cleanFields kvs = true → J.eraseFields kvs = kvs
  | [], _ => rfl
  | (k, x) :: xs, h => by
    simp only [J.cleanFields, Bool.and_eq_true] at h
    simp [J.eraseFields, erase_clean x h.1, eraseFields_clean xs h.2]
end

mutual
theorem approx_nullish : ∀ (e o : J), J.approx e o = true → o.nullish = e.nullish
  | .null, o, h => by cases o <;> simp [J.approx] at h ⊢
  | .dnull, o, h => by rw [approx_dnull] at h; simp [h, J.nullish]
  | .atom a, o, h => by cases o <;> simp [J.approx, J.nullish] at h ⊢
  | .arr xs, o, h => by
    cases o <;> simp [J.approx] at h
    simp only [J.nullish]
    exact approxList_nullish xs _ h
  | .obj kvs, o, h => by
    cases o <;> simp [J.approx] at h
    simp only [J.nullish]
    exact approxFields_nullish kvs _ h
theorem approxList_nullish : ∀ (xs ys : List J), J.approxList xs ys = true → J.nullishList ys = J.nullishList xs
  | [], ys, h => by cases ys <;> simp [J.approxList] at h ⊢
  | x :: xs, ys, h => by
    cases ys with
    | nil => simp [J.approxList] at h
    | cons y ys =>
      simp only [J.approxList, Bool.and_eq_true] at h
      simp only [J.nullishList, approx_nullish x y h.1, approxList_nullish xs ys h.2]
theorem approxFields_nullish : ∀ (xs ys : List (String × J)), J.approxFields xs ys = true →
    J.nullishFields ys = J.nullishFields xs
  | [], ys, h => by cases ys <;> simp [J.approxFields] at h ⊢
  | (k, x) :: xs, ys, h => by
    cases ys with
    | nil => simp [J.approxFields] at h
    | cons y ys =>
      obtain ⟨k', y⟩ := y
      simp only [J.approxFields, Bool.and_eq_true] at h
      simp only [J.nullishFields, approx_nullish x y h.1.2, approxFields_nullish xs ys h.2]
end

/-- `g` respects `≈` (and keeps "no value") -/
def Cong (g : J → J) : Prop :=
  g .dnull = .dnull ∧ ∀ a b, J.approx a b = true → J.approx (g a) (g b) = true

theorem Cong.nullish {g : J → J} (h : Cong g) (b : J) (hb : b.nullish = true) : (g b).nullish = true := by
  have := h.2 .dnull b (by rw [approx_dnull]; exact hb)
  rw [h.1, approx_dnull] at this
  exact this

theorem approxList_map (g : J → J) (h : ∀ a b, J.approx a b = true → J.approx (g a) (g b) = true) :
    ∀ xs ys, J.approxList xs ys = true → J.approxList (xs.map g) (ys.map g) = true
  | [], ys, hx => by cases ys <;> simp [J.approxList] at hx ⊢
  | x :: xs, ys, hx => by
    cases ys with
    | nil => simp [J.approxList] at hx
    | cons y ys =>
      simp only [J.approxList, Bool.and_eq_true] at hx
      simp only [List.map_cons, J.approxList, Bool.and_eq_true]
      exact ⟨h x y hx.1, approxList_map g h xs ys hx.2⟩

theorem approxFields_map (g : J → J) (h : ∀ a b, J.approx a b = true → J.approx (g a) (g b) = true) :
    ∀ xs ys, J.approxFields xs ys = true →
      J.approxFields (xs.map fun kv => (kv.1, g kv.2)) (ys.map fun kv => (kv.1, g kv.2)) = true
  | [], ys, hx => by cases ys <;> simp [J.approxFields] at hx ⊢
  | (k, x) :: xs, ys, hx => by
    cases ys with
    | nil => simp [J.approxFields] at hx
    | cons y ys =>
      obtain ⟨k', y⟩ := y
      simp only [J.approxFields, Bool.and_eq_true] at hx
      simp only [List.map_cons, J.approxFields, Bool.and_eq_true]
      exact ⟨⟨hx.1.1, h x y hx.1.2⟩, approxFields_map g h xs ys hx.2⟩

theorem nullishList_map (g : J → J) (h : ∀ b, b.nullish = true → (g b).nullish = true) :
    ∀ ys, J.nullishList ys = true → J.nullishList (ys.map g) = true
  | [], _ => by simp [J.nullishList]
  | y :: ys, hy => by
    simp only [J.nullishList, Bool.and_eq_true] at hy
    simp only [List.map_cons, J.nullishList, Bool.and_eq_true]
    exact ⟨h y hy.1, nullishList_map g h ys hy.2⟩

theorem nullishFields_map (g : J → J) (h : ∀ b, b.nullish = true → (g b).nullish = true) :
    ∀ ys, J.nullishFields ys = true → J.nullishFields (ys.map fun kv => (kv.1, g kv.2)) = true
  | [], _ => by simp [J.nullishFields]
  | (k, y) :: ys, hy => by
    simp only [J.nullishFields, Bool.and_eq_true] at hy
    simp only [List.map_cons, J.nullishFields, Bool.and_eq_true]
    exact ⟨h y hy.1, nullishFields_map g h ys hy.2⟩

theorem nullish_lookup : ∀ (ows : List (String × J)) (k : String), J.nullishFields ows = true →
    ((ows.lookup k).getD .null).nullish = true
  | [], _, _ => by simp [J.nullish]
  | (k', y) :: ys, k, h => by
    simp only [J.nullishFields, Bool.and_eq_true] at h
    simp only [List.lookup_cons]
    cases (k == k') with
    | true => exact h.1
    | false => exact nullish_lookup ys k h.2

theorem approx_lookup : ∀ (kvs ows : List (String × J)) (k : String), J.approxFields kvs ows = true →
    J.approx ((kvs.lookup k).getD .null) ((ows.lookup k).getD .null) = true
  | [], ows, _, h => by cases ows <;> simp [J.approxFields, J.approx] at h ⊢
  | (k1, x) :: xs, ows, k, h => by
    cases ows with
    | nil => simp [J.approxFields] at h
    | cons y ys =>
      obtain ⟨k2, y⟩ := y
      simp only [J.approxFields, Bool.and_eq_true, beq_iff_eq] at h
      obtain ⟨⟨hk, hxy⟩, hr⟩ := h
      subst hk
      simp only [List.lookup_cons]
      cases (k == k1) with
      | true => exact hxy
      | false => exact approx_lookup xs ys k hr

theorem cong_field (f : String) : Cong (fun s => s.field f) := by
  refine ⟨rfl, ?_⟩
  intro a b h
  cases a with
  | dnull =>
    rw [approx_dnull] at h
    show J.approx (J.field .dnull f) _ = true
    simp only [J.field]
    rw [approx_dnull]
    cases b with
    | obj ows => exact nullish_lookup ows f (by simpa [J.nullish] using h)
    | null => simp [J.field, J.nullish]
    | dnull => simp [J.field, J.nullish]
    | atom s => simp [J.nullish] at h
    | arr ys => simp [J.field, J.nullish]
  | null => cases b <;> simp [J.approx] at h ⊢; simp [J.field, J.approx]
  | atom s => cases b <;> simp [J.approx] at h ⊢; simp [J.field, J.approx]
  | arr xs => cases b <;> simp [J.approx] at h ⊢; simp [J.field, J.approx]
  | obj kvs =>
    cases b <;> simp [J.approx] at h
    exact approx_lookup kvs _ f h

theorem cong_mapArr (g : J → J) (hg : Cong g) : ∀ n, Cong (mapArr n g) := by
  intro n
  induction n with
  | zero => exact ⟨by simp [mapArr, hg.1], fun a b h => by simpa [mapArr] using hg.2 a b h⟩
  | succ n ih =>
    refine ⟨by simp [mapArr], ?_⟩
    intro a b h
    cases a with
    | dnull =>
      rw [approx_dnull] at h
      simp only [mapArr]
      rw [approx_dnull]
      cases b with
      | arr ys =>
        simp only [mapArr, J.nullish]
        exact nullishList_map _ ih.nullish ys (by simpa [J.nullish] using h)
      | null => simp [mapArr, J.nullish]
      | dnull => simp [mapArr, J.nullish]
      | atom s => simp [J.nullish] at h
      | obj ows => simp [mapArr, J.nullish]
    | null => cases b <;> simp [J.approx] at h ⊢; simp [mapArr, J.approx]
    | atom s => cases b <;> simp [J.approx] at h ⊢; simp [mapArr, J.approx]
    | obj kvs => cases b <;> simp [J.approx] at h ⊢; simp [mapArr, J.approx]
    | arr xs =>
      cases b <;> simp [J.approx] at h
      simp only [mapArr, J.approx]
      exact approxList_map _ ih.2 xs _ h

theorem cong_mapObj (g : J → J) (hg : Cong g) : Cong (mapObj g) := by
  refine ⟨by simp [mapObj], ?_⟩
  intro a b h
  cases a with
  | dnull =>
    rw [approx_dnull] at h
    simp only [mapObj]
    rw [approx_dnull]
    cases b with
    | obj ows =>
      simp only [mapObj, J.nullish]
      exact nullishFields_map _ hg.nullish ows (by simpa [J.nullish] using h)
    | null => simp [mapObj, J.nullish]
    | dnull => simp [mapObj, J.nullish]
    | atom s => simp [J.nullish] at h
    | arr ys => simp [mapObj, J.nullish]
  | null => cases b <;> simp [J.approx] at h ⊢; simp [mapObj, J.approx]
  | atom s => cases b <;> simp [J.approx] at h ⊢; simp [mapObj, J.approx]
  | arr xs => cases b <;> simp [J.approx] at h ⊢; simp [mapObj, J.approx]
  | obj kvs =>
    cases b <;> simp [J.approx] at h
    simp only [mapObj, J.approx]
    exact approxFields_map _ hg.2 kvs _ h

theorem cong_atBase (t : Ty) (g : J → J) (hg : Cong g) : Cong (atBase t g) := by
  unfold atBase
  apply cong_mapArr
  cases t.mapDim with
  | zero => exact hg
  | succ k => exact cong_mapObj _ (cong_mapArr g hg k)

theorem cong_proj1 (t : Ty) (f : String) : Cong (proj1 t f) := cong_atBase t _ (cong_field f)

theorem cong_projPath (st : StructTable) (path : List String) : ∀ t : Ty, Cong (projPath st t path) := by
  induction path with
  | nil => intro t; exact ⟨rfl, fun _ _ h => h⟩
  | cons f r ih =>
    intro t
    refine ⟨?_, ?_⟩
    · simp only [projPath, (cong_proj1 t f).1, (ih _).1]
    · intro a b h
      simp only [projPath]
      exact (ih _).2 _ _ ((cong_proj1 t f).2 a b h)

theorem _root_.Proofs.ResolverStatic.approxFields_map2 {α : Type} (ps : List α) (g g' : α → String × J)
    (h : ∀ p ∈ ps, (g p).1 = (g' p).1 ∧ J.approx (g p).2 (g' p).2 = true) :
    J.approxFields (ps.map g) (ps.map g') = true := by
  induction ps with
  | nil => simp [J.approxFields]
  | cons p ps ih =>
    have hp := h p (by simp)
    simp only [List.map_cons]
    cases hg : g p with
    | mk k v =>
      cases hg' : g' p with
      | mk k' v' =>
        rw [hg, hg'] at hp
        simp only [J.approxFields, Bool.and_eq_true, beq_iff_eq]
        exact ⟨⟨hp.1, hp.2⟩, ih fun q hq => h q (by simp [hq])⟩

theorem approxFields_params (ps : List Param) (g g' : Param → J)
    (h : ∀ p ∈ ps, J.approx (g p) (g' p) = true) :
    J.approxFields (ps.map fun p => (p.name, g p)) (ps.map fun p => (p.name, g' p)) = true :=
  Proofs.ResolverStatic.approxFields_map2 ps _ _ fun p hp => ⟨rfl, h p hp⟩

theorem nullishFields_params (ps : List Param) (g : Param → J) (h : ∀ p ∈ ps, (g p).nullish = true) :
    J.nullishFields (ps.map fun p => (p.name, g p)) = true := by
  induction ps with
  | nil => simp [J.nullishFields]
  | cons p ps ih =>
    simp only [List.map_cons, J.nullishFields, Bool.and_eq_true]
    exact ⟨h p (by simp), ih fun q hq => h q (by simp [hq])⟩

theorem cong_narrow (st : StructTable) : ∀ (F : Nat) (t : Ty), Cong (narrow st F t) := by
  intro F
  induction F with
  | zero => intro t; exact ⟨rfl, fun _ _ h => h⟩
  | succ F ih =>
    intro t
    have hb : Cong (narrowBase st F t) := by
      unfold narrowBase
      cases st.lookup t.base with
      | none => exact ⟨rfl, fun _ _ h => h⟩
      | some ps =>
        refine ⟨rfl, ?_⟩
        intro a b h
        cases a with
        | dnull =>
          rw [approx_dnull] at h
          simp only
          rw [approx_dnull]
          cases b with
          | obj ows =>
            simp only [J.nullish]
            apply nullishFields_params
            intro p _
            exact (ih p.ty).nullish _ ((cong_field p.name).nullish _ h)
          | null => exact h
          | dnull => exact h
          | atom s => exact h
          | arr ys => exact h
        | null => cases b <;> simp [J.approx] at h ⊢
        | atom s => cases b <;> simp [J.approx] at h ⊢; exact h
        | arr xs => cases b <;> simp [J.approx] at h ⊢; exact h
        | obj kvs =>
          cases b with
          | obj ows =>
            simp only [J.approx]
            apply approxFields_params
            intro p _
            exact (ih p.ty).2 _ _ ((cong_field p.name).2 _ _ h)
          | null => simp [J.approx] at h
          | dnull => simp [J.approx] at h
          | atom s => simp [J.approx] at h
          | arr ys => simp [J.approx] at h
    have := cong_atBase t _ hb
    refine ⟨?_, ?_⟩
    · rw [narrow_succ]; exact this.1
    · intro a b h; rw [narrow_succ, narrow_succ]; exact this.2 a b h

/-- two environments with the same types and `≈` values -/
structure EnvApprox (env env' : Env) : Prop where
  selfTys : env'.selfTys = env.selfTys
  selfVal : J.approx env.selfVal env'.selfVal = true
  callTy : ∀ c, env'.callTy c = env.callTy c
  callVal : ∀ c, J.approx (env.callVal c) (env'.callVal c) = true

mutual
theorem approx_eval (st : StructTable) (env env' : Env) (h : EnvApprox env env') :
    ∀ e : Exp, J.approx (eval st env e) (eval st env' e) = true
  | .lit j => by simp only [eval]; exact approx_refl j
  | .arr xs => by simp only [eval, J.approx]; exact approx_evalList st env env' h xs
  | .map kvs => by simp only [eval, J.approx]; exact approx_evalFields st env env' h kvs
  | .struct kvs => by simp only [eval, J.approx]; exact approx_evalFields st env env' h kvs
  | .self p path => by
    simp only [eval]
    have : env'.selfTy p = env.selfTy p := by simp [Env.selfTy, h.selfTys]
    rw [this]
    exact (cong_projPath st path _).2 _ _ ((cong_field p).2 _ _ h.selfVal)
  | .ref c path => by
    simp only [eval]
    rw [h.callTy c]
    exact (cong_projPath st path _).2 _ _ (h.callVal c)
theorem approx_evalList (st : StructTable) (env env' : Env) (h : EnvApprox env env') :
    ∀ es : List Exp, J.approxList (evalList st env es) (evalList st env' es) = true
  | [] => by simp [evalList, J.approxList]
  | e :: es => by
    simp only [evalList, J.approxList, Bool.and_eq_true]
    exact ⟨approx_eval st env env' h e, approx_evalList st env env' h es⟩
theorem approx_evalFields (st : StructTable) (env env' : Env) (h : EnvApprox env env') :
    ∀ es : List (String × Exp), J.approxFields (evalFields st env es) (evalFields st env' es) = true
  | [] => by simp [evalFields, J.approxFields]
  | (k, e) :: es => by
    simp only [evalFields, J.approxFields, Bool.and_eq_true, beq_self_eq_true, true_and]
    exact ⟨approx_eval st env env' h e, approx_evalFields st env env' h es⟩
end

end Proofs.Approx
