/-
C01 — split / merge nodes.  Element selection commutes with a level-wise map (`elemArr_mapArr`,
`elemMap_mapObj`), the list-level functions of `evalR` and `bpR` are maps (`evalRList_eq_map`, `bpRList_eq_map`),
`bpR` keeps `noSplitOf` (`noSplitOf_bpR`): these are what Proofs/ResolverStaticExp*.lean use.  The untyped
kernel laws, used by Props/C01.lean only: soundness of static projection on resolved expressions
(`bpR_sound`, under the shape discipline `wtR`); a `split` over a `merge` of the same call cancels
(`split_merge_cancel_arr`, `split_merge_cancel_map`), and conversely `merge_split_cancel_arr`.
-/
import Martian.ResolverForks
import Proofs.Dataflow

namespace Proofs.ResolverForks
open Martian.Dataflow Martian.Resolver Martian.ResolverForks Proofs.Dataflow

theorem proj1_dnull (t : Ty) (f : String) : proj1 t f .dnull = .dnull := by
  unfold proj1 atBase
  cases t.arrDim <;> cases t.mapDim <;> simp [mapArr, mapObj, J.field]

theorem getD_map_null (g : J → J) (hg : g .null = .null) (xs : List J) (n : Nat) :
    (xs.map g).getD n .null = g (xs.getD n .null) := by
  have := getD_map g xs n .null
  rwa [hg] at this

theorem lookup_map_snd (g : J → J) (kvs : List (String × J)) (s : String) :
    (kvs.map fun kv => (kv.1, g kv.2)).lookup s = (kvs.lookup s).map g :=
  lookup_map_val (fun _ => g) kvs s

/-- selecting an element commutes with a map below one array level -/
theorem elemArr_mapArr (g : J → J) (n : Nat) (h0 : mapArr n g .null = .null) (hd : mapArr n g .dnull = .dnull)
    (v : J) (ix : Idx) : elemArr (mapArr (n + 1) g v) ix = mapArr n g (elemArr v ix) := by
  cases ix with
  | i k =>
    cases v with
    | arr xs => simpa only [elemArr, elemAt, mapArr] using getD_map_null _ h0 xs k
    | _ => simp [elemArr, elemAt, mapArr, h0, hd]
  | _ => simp [elemArr, hd]

/-- … and below the typed-map level -/
theorem elemMap_mapObj (g : J → J) (h0 : g .null = .null) (hd : g .dnull = .dnull) (v : J) (ix : Idx) :
    elemMap (mapObj g v) ix = g (elemMap v ix) := by
  cases ix with
  | k s =>
    cases v with
    | obj kvs =>
      simp only [elemMap, elemAt, mapObj, J.field, lookup_map_snd]
      cases kvs.lookup s <;> simp [h0]
    | _ => simp [elemMap, elemAt, mapObj, J.field, h0, hd]
  | _ => simp [elemMap, hd]

theorem elemArr_proj1 (b : String) (m n : Nat) (fld : String) (v : J) (ix : Idx) :
    elemArr (proj1 ⟨b, m, n+1⟩ fld v) ix = proj1 ⟨b, m, n⟩ fld (elemArr v ix) :=
  elemArr_mapArr _ n (proj1_null ⟨b, m, n⟩ fld) (proj1_dnull ⟨b, m, n⟩ fld) v ix

theorem elemMap_proj1 (b : String) (k : Nat) (fld : String) (v : J) (ix : Idx) :
    elemMap (proj1 ⟨b, k+1, 0⟩ fld v) ix = proj1 ⟨b, 0, k⟩ fld (elemMap v ix) :=
  elemMap_mapObj _ (proj1_null ⟨b, 0, k⟩ fld) (proj1_dnull ⟨b, 0, k⟩ fld) v ix

theorem evalRList_eq_map (st : StructTable) (ρ : Store) (f : ForkAssign) :
    ∀ xs : List RExp, evalRList st ρ f xs = xs.map (evalR st ρ f)
  | [] => rfl
  | x :: xs => by simp only [evalRList, List.map_cons, evalRList_eq_map st ρ f xs]

theorem evalRFields_eq_map (st : StructTable) (ρ : Store) (f : ForkAssign) :
    ∀ kvs : List (String × RExp), evalRFields st ρ f kvs = kvs.map fun kv => (kv.1, evalR st ρ f kv.2)
  | [] => rfl
  | (k, e) :: es => by simp only [evalRFields, List.map_cons, evalRFields_eq_map st ρ f es]

theorem bpRList_eq_map (fld : String) : ∀ xs : List RExp, bpRList fld xs = xs.map (bpR fld)
  | [] => rfl
  | x :: xs => by simp only [bpRList, List.map_cons, bpRList_eq_map fld xs]

theorem bpRFields_eq_map (fld : String) :
    ∀ kvs : List (String × RExp), bpRFields fld kvs = kvs.map fun kv => (kv.1, bpR fld kv.2)
  | [] => rfl
  | (k, e) :: es => by simp only [bpRFields, List.map_cons, bpRFields_eq_map fld es]

theorem lookup_evalRFields (st : StructTable) (ρ : Store) (f : ForkAssign) (fld : String)
    (kvs : List (String × RExp)) :
    (evalRFields st ρ f kvs).lookup fld = (kvs.lookup fld).map (evalR st ρ f) := by
  rw [evalRFields_eq_map]
  exact lookup_map_val (fun _ => evalR st ρ f) kvs fld

theorem evalR_mkDisabled (st : StructTable) (ρ : Store) (f : ForkAssign) (d inner : RExp) :
    evalR st ρ f (mkDisabled d inner)
      = if Martian.Dataflow.isTrue (evalR st ρ f d) then .null else evalR st ρ f inner := by
  unfold mkDisabled
  split
  · simp [evalR]
  · simp only [evalR, Martian.Dataflow.isTrue, beq_iff_eq]
    split <;> simp [evalR]
  · simp [evalR]

theorem mkMerge_noSplit (c : String) (m : Bool) (x : RExp) (h : noSplitOf c x = true) :
    mkMerge c m x = .merge c m x := by
  cases x <;> simp only [mkMerge]
  next c' m' v =>
    simp only [noSplitOf, Bool.and_eq_true, bne_iff_ne, ne_eq] at h
    have : (c' == c) = false := by simpa using h.1
    simp [this]

theorem noSplitOf_mkDisabled (c : String) (d v : RExp) (hd : noSplitOf c d = true) (hv : noSplitOf c v = true) :
    noSplitOf c (mkDisabled d v) = true := by
  unfold mkDisabled
  split
  · simp [noSplitOf]
  · split
    · simp [noSplitOf]
    · exact hv
  · simp [noSplitOf, hd, hv]

theorem noSplitOf_lookup (c : String) : ∀ (kvs : List (String × RExp)) (k : String),
    noSplitOfFields c kvs = true → noSplitOf c ((kvs.lookup k).getD (.lit .null)) = true
  | [], _, _ => by simp [noSplitOf]
  | (k', e) :: es, k, h => by
    simp only [noSplitOfFields, Bool.and_eq_true] at h
    simp only [List.lookup_cons]
    cases (k == k') with
    | true => exact h.1
    | false => exact noSplitOf_lookup c es k h.2

theorem noSplitOf_mkMerge (c c' : String) (m : Bool) (x : RExp) (h : noSplitOf c x = true) :
    noSplitOf c (mkMerge c' m x) = true := by
  cases x <;> simp only [mkMerge, noSplitOf] at h ⊢ <;> try exact h
  next c2 m2 v =>
    simp only [Bool.and_eq_true] at h
    split
    · exact h.2
    · simp [noSplitOf, h.1, h.2]

mutual
theorem noSplitOf_bpR (c fld : String) : ∀ e : RExp, noSplitOf c e = true → noSplitOf c (bpR fld e) = true
  | .lit _, _ => by simp [bpR, noSplitOf]
  | .arr xs, h => by simp only [bpR, noSplitOf] at h ⊢; exact noSplitOf_bpRList c fld xs h
  | .map kvs, h => by simp only [bpR, noSplitOf] at h ⊢; exact noSplitOf_bpRFields c fld kvs h
  | .struct kvs, h => by simp only [bpR, noSplitOf] at h ⊢; exact noSplitOf_lookup c kvs fld h
  | .ref _ _ _, _ => by simp [bpR, noSplitOf]
  | .split c' m e, h => by
    simp only [bpR, noSplitOf, Bool.and_eq_true] at h ⊢
    exact ⟨h.1, noSplitOf_bpR c fld e h.2⟩
  | .merge c' m e, h => by
    simp only [bpR, noSplitOf] at h ⊢
    exact noSplitOf_mkMerge c c' m _ (noSplitOf_bpR c fld e h)
  | .disabled d v, h => by
    simp only [bpR, noSplitOf, Bool.and_eq_true] at h ⊢
    exact noSplitOf_mkDisabled c d _ h.1 (noSplitOf_bpR c fld v h.2)
  | .fork c' ix e, h => by
    simp only [bpR, noSplitOf] at h ⊢
    exact noSplitOf_bpR c fld e h
theorem noSplitOf_bpRList (c fld : String) : ∀ es : List RExp, noSplitOfList c es = true →
    noSplitOfList c (bpRList fld es) = true
  | [], _ => by simp [bpRList, noSplitOfList]
  | e :: es, h => by
    simp only [bpRList, noSplitOfList, Bool.and_eq_true] at h ⊢
    exact ⟨noSplitOf_bpR c fld e h.1, noSplitOf_bpRList c fld es h.2⟩
theorem noSplitOf_bpRFields (c fld : String) : ∀ es : List (String × RExp), noSplitOfFields c es = true →
    noSplitOfFields c (bpRFields fld es) = true
  | [], _ => by simp [bpRFields, noSplitOfFields]
  | (k, e) :: es, h => by
    simp only [bpRFields, noSplitOfFields, Bool.and_eq_true] at h ⊢
    exact ⟨noSplitOf_bpR c fld e h.1, noSplitOf_bpRFields c fld es h.2⟩
end

mutual
theorem bpR_sound (st : StructTable) (ρ : Store) (fld : String) :
    ∀ (e : RExp) (t : Ty) (f : ForkAssign), wtR st t e = true →
      evalR st ρ f (bpR fld e) = proj1 t fld (evalR st ρ f e)
  | .lit j, t, f, h => by
    cases j <;> simp [wtR] at h
    simp [bpR, evalR, proj1_null]
  | .arr xs, t, f, h => by
    obtain ⟨b, m, n⟩ := t
    simp only [wtR, Bool.and_eq_true, bne_iff_ne, ne_eq] at h
    cases n with
    | zero => exact absurd rfl h.1
    | succ n =>
      simp only [bpR, evalR, proj1_arr]
      rw [bpRList_sound st ρ fld xs ⟨b, m, n⟩ f h.2]
  | .map kvs, t, f, h => by
    obtain ⟨b, m, n⟩ := t
    simp only [wtR, Bool.and_eq_true, bne_iff_ne, ne_eq, beq_iff_eq] at h
    obtain ⟨⟨hn, hm⟩, hk⟩ := h
    subst hn
    cases m with
    | zero => exact absurd rfl hm
    | succ k =>
      simp only [bpR, evalR, proj1_obj]
      rw [bpRFields_sound st ρ fld kvs ⟨b, 0, k⟩ f hk]
  | .struct kvs, t, f, h => by
    obtain ⟨b, m, n⟩ := t
    simp only [wtR, Bool.and_eq_true, beq_iff_eq] at h
    obtain ⟨hn, hm⟩ := h
    subst hn; subst hm
    simp only [bpR, evalR, proj1, atBase, mapArr, J.field, lookup_evalRFields]
    cases kvs.lookup fld <;> simp [evalR]
  | .ref node ty path, t, f, h => by
    simp only [wtR, beq_iff_eq] at h
    subst h
    simp [bpR, evalR, projPath_append]
  | .split c false e, t, f, h => by
    obtain ⟨b, m, n⟩ := t
    simp only [wtR] at h
    simp only [bpR, evalR]
    rw [bpR_sound st ρ fld e ⟨b, m, n+1⟩ f h, elemArr_proj1]
  | .split c true e, t, f, h => by
    obtain ⟨b, m, n⟩ := t
    simp only [wtR, Bool.and_eq_true, beq_iff_eq] at h
    obtain ⟨hm, he⟩ := h
    subst hm
    simp only [bpR, evalR]
    rw [bpR_sound st ρ fld e ⟨b, n+1, 0⟩ f he, elemMap_proj1]
  | .merge c false e, t, f, h => by
    obtain ⟨b, m, n⟩ := t
    simp only [wtR, Bool.and_eq_true, bne_iff_ne, ne_eq] at h
    cases n with
    | zero => exact absurd rfl h.1.1
    | succ n =>
      simp only [bpR, mkMerge_noSplit c false _ (noSplitOf_bpR c fld e h.1.2), evalR, proj1_arr, List.map_map,
        J.arr.injEq]
      apply List.map_congr_left
      intro ix _
      exact bpR_sound st ρ fld e ⟨b, m, n⟩ (fset f c ix) h.2
  | .merge c true e, t, f, h => by
    obtain ⟨b, m, n⟩ := t
    simp only [wtR, Bool.and_eq_true, bne_iff_ne, ne_eq, beq_iff_eq] at h
    obtain ⟨⟨⟨hn, hm⟩, hns⟩, he⟩ := h
    subst hn
    cases m with
    | zero => exact absurd rfl hm
    | succ k =>
      simp only [bpR, mkMerge_noSplit c true _ (noSplitOf_bpR c fld e hns), evalR, proj1_obj, List.map_map,
        J.obj.injEq]
      apply List.map_congr_left
      intro ix _
      simp only [Function.comp_apply]
      rw [bpR_sound st ρ fld e ⟨b, 0, k⟩ (fset f c ix) he]
  | .disabled d v, t, f, h => by
    simp only [wtR] at h
    simp only [bpR, evalR_mkDisabled, evalR]
    split
    · simp [proj1_null]
    · exact bpR_sound st ρ fld v t f h
  | .fork c ix e, t, f, h => by
    simp only [wtR] at h
    simp only [bpR, evalR]
    exact bpR_sound st ρ fld e t (fset f c ix) h
theorem bpRList_sound (st : StructTable) (ρ : Store) (fld : String) :
    ∀ (es : List RExp) (t : Ty) (f : ForkAssign), wtRList st t es = true →
      evalRList st ρ f (bpRList fld es) = (evalRList st ρ f es).map (proj1 t fld)
  | [], _, _, _ => by simp [bpRList, evalRList]
  | e :: es, t, f, h => by
    simp only [wtRList, Bool.and_eq_true] at h
    simp [bpRList, evalRList, bpR_sound st ρ fld e t f h.1, bpRList_sound st ρ fld es t f h.2]
theorem bpRFields_sound (st : StructTable) (ρ : Store) (fld : String) :
    ∀ (kvs : List (String × RExp)) (t : Ty) (f : ForkAssign), wtRFields st t kvs = true →
      evalRFields st ρ f (bpRFields fld kvs)
        = (evalRFields st ρ f kvs).map fun kv => (kv.1, proj1 t fld kv.2)
  | [], _, _, _ => by simp [bpRFields, evalRFields]
  | (k, e) :: es, t, f, h => by
    simp only [wtRFields, Bool.and_eq_true] at h
    simp [bpRFields, evalRFields, bpR_sound st ρ fld e t f h.1, bpRFields_sound st ρ fld es t f h.2]
end

theorem fset_fset (f : ForkAssign) (c : String) (i j : Idx) : fset (fset f c i) c j = fset f c j := by
  simp [fset, List.filter_filter]

theorem fset_lookup (f : ForkAssign) (c : String) (i : Idx) : (fset f c i).lookup c = some i := by
  simp [fset]

/-- `split` over call `c` of a `merge` over `c` cancels (array mode): inside fork
`k` of `c`, the element `k` of the collection of per-fork values is the value of
fork `k`.  (`n` = the number of forks of `c`, which does not depend on the fork
of `c` one is in.) -/
theorem split_merge_cancel_arr (st : StructTable) (ρ : Store) (f : ForkAssign) (c : String)
    (e : RExp) (n k : Nat) (hk : k < n)
    (hidx : ρ.idx c (fset f c (.i k)) = (List.range n).map .i) :
    evalR st ρ (fset f c (.i k)) (.split c false (.merge c false e))
      = evalR st ρ (fset f c (.i k)) e := by
  simp only [evalR, fset_lookup, Option.getD_some, elemArr, elemAt, hidx, List.map_map, fset_fset]
  simp [List.getD_eq_getElem?_getD, hk]

theorem split_merge_cancel_map (st : StructTable) (ρ : Store) (f : ForkAssign) (c : String)
    (e : RExp) (keys : List String) (s : String) (hs : s ∈ keys) (hn : keys.Nodup)
    (hidx : ρ.idx c (fset f c (.k s)) = keys.map .k) :
    evalR st ρ (fset f c (.k s)) (.split c true (.merge c true e))
      = evalR st ρ (fset f c (.k s)) e := by
  simp only [evalR, fset_lookup, Option.getD_some, elemMap, elemAt, J.field, hidx, List.map_map,
    fset_fset]
  have h := lookup_map_mem keys id (fun s' => evalR st ρ (fset f c (.k s')) e)
    (by simpa using hn) s hs
  simp only [id] at h
  have h2 : (List.map ((fun ix => (ix.keyText, evalR st ρ (fset f c ix) e)) ∘ Idx.k) keys)
      = keys.map fun p => (p, evalR st ρ (fset f c (.k p)) e) := by
    apply List.map_congr_left
    intro a _
    rfl
  rw [h2, h]
  rfl

theorem map_getD_range (xs : List J) : (List.range xs.length).map (fun k => xs.getD k .null) = xs := by
  apply List.ext_getElem
  · simp
  · intro i h1 h2
    simp [List.getD_eq_getElem?_getD, List.getElem?_eq_getElem h2]

/-- the cancellation `mkMerge` performs (merge over `c` of the elements of a collection split over
`c` = the collection) is sound for the stores in which the index set of `c` is that of the
collection and the collection does not vary with the fork of `c` (array mode) -/
theorem merge_split_cancel_arr (st : StructTable) (ρ : Store) (f : ForkAssign) (c : String) (v : RExp)
    (xs : List J) (hv : evalR st ρ f v = .arr xs)
    (hind : ∀ k, k < xs.length → evalR st ρ (fset f c (.i k)) v = .arr xs)
    (hidx : ρ.idx c f = (List.range xs.length).map .i) :
    evalR st ρ f (.merge c false (.split c false v)) = evalR st ρ f v := by
  simp only [evalR, hidx, List.map_map, hv, J.arr.injEq]
  have : (List.range xs.length).map ((fun ix => elemArr (evalR st ρ (fset f c ix) v)
      (((fset f c ix).lookup c).getD .none)) ∘ Idx.i) = (List.range xs.length).map (fun k => xs.getD k .null) := by
    apply List.map_congr_left
    intro k hk
    simp only [List.mem_range] at hk
    simp only [Function.comp_apply, fset_lookup, Option.getD_some, hind k hk, elemArr, elemAt]
  rw [this, map_getD_range]

end Proofs.ResolverForks
