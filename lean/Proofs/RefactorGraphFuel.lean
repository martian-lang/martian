/-
C19 — fuel stability of the resolved-call-graph model: when the resolution with
explicit fuel exhaustion (`deepGraphO`) succeeds at a budget, the fuelled
`deepGraphAt` gives the same graph at that and at every larger budget.
-/
import Martian.RefactorGraph

namespace Proofs.RefactorGraph
open Martian.Refactor

/-- whenever `fO` succeeds, its value is that of `f` -/
def Agree {α β : Type} (fO : α → Option β) (f : α → β) : Prop := ∀ a v, fO a = some v → f a = v

theorem agree_map {α β : Type} {x : Option α} {a : α} (g : α → β) (h : ∀ v, x = some v → a = v) :
    ∀ w, x.map g = some w → g a = w := by
  intro w hw
  obtain ⟨v, hv, rfl⟩ := Option.map_eq_some_iff.mp hw
  rw [h v hv]

theorem substRefsO_sound {fO : Ref → Option RExp} {f : Ref → RExp} (h : Agree fO f) :
    Agree (substRefsO fO) (substRefs f) := by
  intro e
  induction e with
  | ref r => exact h r
  | split e ih | arr e ih | map _ e ih => exact agree_map _ ih
  | cons k hd tl ih1 ih2 =>
    intro w hw
    rw [substRefsO] at hw
    split at hw
    · next a b h1 h2 =>
      obtain rfl := Option.some.inj hw
      rw [substRefs, ih1 a h1, ih2 b h2]
    · cases hw
  | _ => intro w hw; exact Option.some.inj hw

theorem lookupRefO_agree (self : Env) {oO : String → Option RExp} {o : String → RExp} (h : Agree oO o) :
    Agree (lookupRefO self oO) (lookupRef self o) := by
  intro r
  refine agree_map (bindingPath r.path) ?_
  cases r.kind with
  | self => exact fun v => Option.some.inj
  | call => exact h r.id

theorem resolveBindsO_sound (ti : TypeInfo) (tys : Members) {fO : Ref → Option RExp} {f : Ref → RExp}
    (h : Agree fO f) : Agree (resolveBindsO ti tys fO) (resolveBinds ti tys f) := by
  intro bs
  induction bs with
  | nil => intro env he; exact Option.some.inj he
  | cons b t ih =>
    intro env he
    rw [resolveBindsO] at he
    split at he
    · next v rest h1 h2 =>
      obtain rfl := Option.some.inj he
      rw [← ih rest h2, ← substRefsO_sound h b.exp v h1]
      rfl
    · cases he

section Out
variable (ti : TypeInfo) (p : Program)

/-- the fuelled run at any larger budget agrees with a successful explicit run -/
theorem callOutputs_stable (j : Nat) : ∀ n pipe self pre,
    Agree (callOutputsO ti p n pipe self pre) (callOutputs ti p (n + j) pipe self pre) := by
  intro n
  induction n with
  | zero => intro pipe self pre id v hv; cases hv
  | succ n ih =>
    intro pipe self pre id v
    rw [callOutputsO, Nat.add_right_comm, callOutputs]
    -- where nothing is resolved further the explicit run returns `some` of the fuelled run's value
    cases pipe.calls.find? (·.id == id) with
    | none => exact Option.some.inj
    | some k =>
      dsimp only
      cases p.find? k.decId with
      | none => exact Option.some.inj
      | some d =>
        dsimp only
        cases d.isPipe with
        | false => exact Option.some.inj
        | true =>
          cases d.ret.isEmpty with
          | true => exact Option.some.inj
          | false =>
            intro hv
            simp only [Bool.not_true, Bool.false_eq_true, if_false] at hv ⊢
            split at hv
            · cases hv
            · next ins hi =>
              obtain rfl := resolveBindsO_sound ti _ (lookupRefO_agree self (ih pipe self pre)) _ ins hi
              exact agree_map _ (resolveBindsO_sound ti _ (lookupRefO_agree _ (ih d _ _)) _) v hv

theorem retainedO_sound (d : Callable) (ins : Env) {oO : String → Option RExp} {o : String → RExp}
    (h : Agree oO o) : ∀ (rs : List Ref) (l : List RExp), retainedO d ins oO rs = some l →
      rs.flatMap (fun r => rrefs (lookupRef ins o r)) = l := by
  intro rs
  induction rs with
  | nil => intro l hl; exact Option.some.inj hl
  | cons r t ih =>
    intro l hl
    rw [retainedO] at hl
    split at hl
    · next v rest h1 h2 =>
      obtain rfl := Option.some.inj hl
      rw [← ih rest h2, ← lookupRefO_agree ins h r v h1]
      rfl
    · cases hl

theorem allSome_flatMap {α β : Type} {f : α → List β} {fO : α → Option (List β)} :
    ∀ (l : List α) (g : List β), (∀ a ∈ l, ∀ v, fO a = some v → f a = v) →
      allSome (l.map fO) = some g → l.flatMap f = g := by
  intro l
  induction l with
  | nil => intro g _ hg; exact Option.some.inj hg
  | cons a t ih =>
    intro g h hg
    rw [List.map_cons] at hg
    cases ha : fO a with
    | none => rw [ha] at hg; cases hg
    | some v =>
      rw [ha] at hg
      rw [List.flatMap_cons, h a (List.mem_cons_self ..) v ha]
      exact agree_map _ (fun rest => ih rest fun b hb => h b (List.mem_cons_of_mem _ hb)) g hg

theorem nodesOf_stable (big j i : Nat) : ∀ fuel pipe self pre,
    Agree (nodesOfO ti p big fuel pipe self pre) (nodesOf ti p (big + j) (fuel + i) pipe self pre) := by
  intro fuel
  induction fuel with
  | zero => intro pipe self pre k g hg; cases hg
  | succ fuel ih =>
    intro pipe self pre k g
    rw [nodesOfO, Nat.add_right_comm, nodesOf]
    cases p.find? k.decId with
    | none => exact Option.some.inj
    | some d =>
      dsimp only
      intro hg
      split at hg
      · next ins out hi ho =>
        rw [show callIns ti pipe self (callOutputs ti p (big + j) pipe self pre) d k = ins from
              resolveBindsO_sound ti _ (lookupRefO_agree self (callOutputs_stable ti p j big pipe self pre)) _ ins hi,
          Nat.add_right_comm, callOutputs_stable ti p j (big + 1) pipe self pre k.id out ho]
        revert hg
        cases d.isPipe with
        | false => exact Option.some.inj
        | true =>
          intro hg
          simp only [if_true] at hg ⊢
          split at hg
          · next ret kids hr hkids =>
            obtain rfl := Option.some.inj hg
            unfold pipeRetained
            rw [retainedO_sound d ins (callOutputs_stable ti p j big d ins _) _ ret hr,
              allSome_flatMap d.calls kids (fun a _ => ih d ins _ a) hkids]
          · cases hg
      · cases hg

end Out

/-- **fuel stability**: when the resolution with explicit fuel exhaustion succeeds at the
budget `(big, fuel)`, the fuelled graph is that graph at `(big + j, fuel + i)` for all `j`, `i` -/
theorem deepGraph_stable (ti : TypeInfo) (p : Program) (big fuel : Nat) (g : List Node)
    (h : deepGraphO big fuel ti p = some g) (j i : Nat) :
    deepGraphAt (big + j) (fuel + i) ti p = g := by
  revert h
  unfold deepGraphO deepGraphAt
  cases p.top with
  | none => exact Option.some.inj
  | some t => exact nodesOf_stable ti p big j i fuel _ _ _ t g

end Proofs.RefactorGraph
