import Martian.ShellQuote
import Martian.Lexer

/-! UTF-8 as Go's `utf8.DecodeRune` accepts it (`runeWidth`, `validFrom` of `Martian/ShellQuote.lean`): the facts that
the quoting proofs of several properties share.  The lemmas are in four namespaces, those of their first users:
`Martian.ShellQuote` (`ge80_not_special`, `runeWidth_cont`, `rune_high`), `Martian.Format` (`validFrom_succ`,
`runeWidth_E2`, `take2_eq`), `Martian.InvocationStr` (`ok2_toNat`, `validFrom_ascii_append`, `runeWidth_inv`,
`runeWidth_take`, `validFrom_drop`, `valid_width`, `valid_induction`), `Martian.JobTemplate` (`validUtf8_ascii`); none of them needs
the model file of its namespace. -/
namespace Martian.ShellQuote

theorem ge80_not_special (b : UInt8) (h : ¬ b < 0x80) :
    (b == 0x22) = false ∧ (b == 0x24) = false ∧ (b == 0x60) = false ∧ (b == 0x5C) = false := by
  have h' : ¬ b.toNat < 128 := by
    intro hh; apply h; exact UInt8.lt_iff_toNat_lt.mpr (by simpa using hh)
  refine ⟨?_, ?_, ?_, ?_⟩ <;>
  · apply Bool.eq_false_iff.mpr
    intro e
    have := eq_of_beq e
    subst this
    exact h' (by decide)

end Martian.ShellQuote

namespace Martian.Format
open Martian.ShellQuote (runeWidth validFrom)

theorem validFrom_succ (b : UInt8) (r : List UInt8) (k : Nat) :
    validFrom (b :: r) (k + 1) = validFrom r k := by simp [validFrom]

theorem runeWidth_E2 (t : List UInt8) (x : UInt8) (hx : x = 0xA8 ∨ x = 0xA9) :
    runeWidth (0xE2 :: 0x80 :: x :: t) = some 3 := by
  rcases hx with rfl | rfl <;> cases t <;> simp [runeWidth, Martian.ShellQuote.ok2, Martian.ShellQuote.ok3, Martian.ShellQuote.isCont] <;> decide

theorem take2_eq {r : List UInt8} {a b : UInt8} (h : (r.take 2 == [a, b]) = true) :
    ∃ t, r = a :: b :: t := by
  have h := eq_of_beq h
  match r, h with
  | x :: y :: t, h =>
    simp only [List.take_succ_cons, List.take_zero, List.cons.injEq, and_true] at h
    exact ⟨t, by rw [h.1, h.2]⟩

end Martian.Format

namespace Martian.InvocationStr
open Martian.Lexer (Bytes)
open Martian.Format (validFrom_succ)
open Martian.ShellQuote (runeWidth validFrom validUtf8 ok2 ok3 ok4 isCont)

/-! The byte ranges of Unicode Table 3-7, as arithmetic. -/

theorem ok2_toNat {b0 b1 : UInt8} : ok2 b0 b1 = true ↔
    194 ≤ b0.toNat ∧ b0.toNat ≤ 223 ∧ 128 ≤ b1.toNat ∧ b1.toNat ≤ 191 := by
  simp only [ok2, isCont, Bool.and_eq_true, decide_eq_true_eq, UInt8.le_iff_toNat_le,
    UInt8.reduceToNat, and_assoc]

theorem ok3_toNat {b0 b1 b2 : UInt8} : ok3 b0 b1 b2 = true ↔
    224 ≤ b0.toNat ∧ b0.toNat ≤ 239 ∧ 128 ≤ b1.toNat ∧ b1.toNat ≤ 191 ∧
    (b0.toNat = 224 → 160 ≤ b1.toNat) ∧ (b0.toNat = 237 → b1.toNat ≤ 159) ∧
    128 ≤ b2.toNat ∧ b2.toNat ≤ 191 := by
  simp only [ok3, isCont, Bool.and_eq_true, decide_eq_true_eq, UInt8.le_iff_toNat_le, beq_iff_eq,
    ← UInt8.toNat_inj, apply_ite (· = true), UInt8.reduceToNat]
  split <;> split <;> omega

theorem ok4_toNat {b0 b1 b2 b3 : UInt8} : ok4 b0 b1 b2 b3 = true ↔
    240 ≤ b0.toNat ∧ b0.toNat ≤ 244 ∧ 128 ≤ b1.toNat ∧ b1.toNat ≤ 191 ∧
    (b0.toNat = 240 → 144 ≤ b1.toNat) ∧ (b0.toNat = 244 → b1.toNat ≤ 143) ∧
    128 ≤ b2.toNat ∧ b2.toNat ≤ 191 ∧ 128 ≤ b3.toNat ∧ b3.toNat ≤ 191 := by
  simp only [ok4, isCont, Bool.and_eq_true, decide_eq_true_eq, UInt8.le_iff_toNat_le, beq_iff_eq,
    ← UInt8.toNat_inj, apply_ite (· = true), UInt8.reduceToNat]
  split <;> split <;> omega

theorem validFrom_ascii (b : UInt8) (r : Bytes) (hb : b < 0x80) :
    validFrom (b :: r) 0 = validFrom r 0 := by
  simp [validFrom, runeWidth, hb]

theorem validFrom_ascii_append : ∀ (E Y : Bytes), (∀ x ∈ E, x < 0x80) → validFrom (E ++ Y) 0 = validFrom Y 0
  | [], _, _ => rfl
  | c :: E, Y, h => by
    rw [List.cons_append, validFrom_ascii c _ (h c (by simp)),
      validFrom_ascii_append E Y (fun x hx => h x (by simp [hx]))]

theorem runeWidth_2 (b b1 : UInt8) (Y : Bytes) (hb : ¬ b < 0x80) (h : ok2 b b1 = true) :
    runeWidth (b :: b1 :: Y) = some 2 := by
  rcases Y with _ | ⟨y0, _ | ⟨y1, Y⟩⟩ <;> simp [runeWidth, hb, h]

theorem runeWidth_3 (b b1 b2 : UInt8) (Y : Bytes) (hb : ¬ b < 0x80) (h2 : ¬ ok2 b b1 = true)
    (h : ok3 b b1 b2 = true) : runeWidth (b :: b1 :: b2 :: Y) = some 3 := by
  rcases Y with _ | ⟨y0, Y⟩ <;> simp [runeWidth, hb, h2, h]

theorem runeWidth_4 (b b1 b2 b3 : UInt8) (Y : Bytes) (hb : ¬ b < 0x80) (h2 : ¬ ok2 b b1 = true)
    (h3 : ¬ ok3 b b1 b2 = true) (h : ok4 b b1 b2 b3 = true) :
    runeWidth (b :: b1 :: b2 :: b3 :: Y) = some 4 := by
  simp [runeWidth, hb, h2, h3, h]

theorem runeWidth_inv (b : UInt8) (r : Bytes) (w : Nat) (hb : ¬ b < 0x80)
    (h : runeWidth (b :: r) = some w) :
    (w = 2 ∧ ∃ b1 t, r = b1 :: t ∧ ok2 b b1 = true)
    ∨ (w = 3 ∧ ∃ b1 b2 t, r = b1 :: b2 :: t ∧ ¬ ok2 b b1 = true ∧ ok3 b b1 b2 = true)
    ∨ (w = 4 ∧ ∃ b1 b2 b3 t, r = b1 :: b2 :: b3 :: t ∧ ¬ ok2 b b1 = true ∧ ¬ ok3 b b1 b2 = true
        ∧ ok4 b b1 b2 b3 = true) := by
  obtain _ | ⟨b1, r⟩ := r
  · simp [runeWidth, hb] at h
  by_cases h2 : ok2 b b1 = true
  · rw [runeWidth_2 b b1 r hb h2] at h
    exact .inl ⟨by cases h; rfl, b1, r, rfl, h2⟩
  obtain _ | ⟨b2, r⟩ := r
  · simp [runeWidth, hb, h2] at h
  by_cases h3 : ok3 b b1 b2 = true
  · rw [runeWidth_3 b b1 b2 r hb h2 h3] at h
    exact .inr (.inl ⟨by cases h; rfl, b1, b2, r, rfl, h2, h3⟩)
  obtain _ | ⟨b3, r⟩ := r
  · simp [runeWidth, hb, h2, h3] at h
  by_cases h4 : ok4 b b1 b2 b3 = true
  · rw [runeWidth_4 b b1 b2 b3 r hb h2 h3 h4] at h
    exact .inr (.inr ⟨by cases h; rfl, b1, b2, b3, r, rfl, h2, h3, h4⟩)
  · simp [runeWidth, hb, h2, h3, h4] at h

theorem runeWidth_take (b : UInt8) (r : Bytes) (w : Nat) (hb : ¬ b < 0x80) (hw : runeWidth (b :: r) = some w) :
    w - 1 ≤ r.length ∧ ∀ Y, runeWidth (b :: (r.take (w - 1) ++ Y)) = some w := by
  rcases runeWidth_inv b r w hb hw with ⟨rfl, b1, t, rfl, h2⟩ | ⟨rfl, b1, b2, t, rfl, h2, h3⟩ |
    ⟨rfl, b1, b2, b3, t, rfl, h2, h3, h4⟩
  · exact ⟨by simp, fun Y => runeWidth_2 b b1 Y hb h2⟩
  · exact ⟨by simp, fun Y => runeWidth_3 b b1 b2 Y hb h2 h3⟩
  · exact ⟨by simp, fun Y => runeWidth_4 b b1 b2 b3 Y hb h2 h3 h4⟩

theorem validFrom_drop : ∀ (r : Bytes) (k : Nat), validFrom r k = validFrom (r.drop k) 0
  | _, 0 => rfl
  | [], _ + 1 => rfl
  | _ :: r, k + 1 => by rw [validFrom_succ, List.drop_succ_cons, validFrom_drop r k]

theorem valid_width (b : UInt8) (p Y : Bytes) (w : Nat) (hw : runeWidth (b :: (p ++ Y)) = some w)
    (hp : p.length = w - 1) : validFrom (b :: (p ++ Y)) 0 = validFrom Y 0 := by
  simp only [validFrom, hw]
  rw [← hp, validFrom_drop, List.drop_left]

theorem runeWidth_le (b : UInt8) (r : Bytes) (w : Nat) (hw : runeWidth (b :: r) = some w) :
    w - 1 ≤ r.length := by
  by_cases hb : b < 0x80
  · obtain rfl : 1 = w := by simpa [runeWidth, hb] using hw
    exact Nat.zero_le _
  · exact (runeWidth_take b r w hb hw).1

/-- induction over a valid UTF-8 string, one rune at a time -/
theorem valid_induction {P : Bytes → Prop} (nil : P [])
    (rune : ∀ b r w, runeWidth (b :: r) = some w → P (r.drop (w - 1)) → P (b :: r)) :
    ∀ s, validFrom s 0 = true → P s := by
  suffices ∀ n (s : Bytes), s.length ≤ n → validFrom s 0 = true → P s from fun s => this _ s (Nat.le_refl _)
  intro n
  induction n with
  | zero => intro s hs _; obtain rfl := List.eq_nil_of_length_eq_zero (Nat.le_zero.mp hs); exact nil
  | succ n ih =>
    intro s hs hv
    obtain _ | ⟨b, r⟩ := s
    · exact nil
    · cases hw : runeWidth (b :: r) with
      | none => simp [validFrom, hw] at hv
      | some w =>
        simp only [validFrom, hw] at hv
        rw [validFrom_drop] at hv
        exact rune b r w hw (ih _ (by rw [List.length_drop]; simp at hs; omega) hv)

end Martian.InvocationStr

namespace Martian.ShellQuote
open Martian.InvocationStr (ok2_toNat ok3_toNat ok4_toNat runeWidth_inv)

theorem ok2_ge {b0 b1 : UInt8} (h : ok2 b0 b1 = true) : ¬ b1 < 0x80 := by
  have := ok2_toNat.mp h
  simp only [UInt8.lt_iff_toNat_lt, UInt8.reduceToNat]; omega

theorem ok3_ge {b0 b1 b2 : UInt8} (h : ok3 b0 b1 b2 = true) : ¬ b1 < 0x80 ∧ ¬ b2 < 0x80 := by
  have := ok3_toNat.mp h
  simp only [UInt8.lt_iff_toNat_lt, UInt8.reduceToNat]; omega

theorem ok4_ge {b0 b1 b2 b3 : UInt8} (h : ok4 b0 b1 b2 b3 = true) :
    ¬ b1 < 0x80 ∧ ¬ b2 < 0x80 ∧ ¬ b3 < 0x80 := by
  have := ok4_toNat.mp h
  simp only [UInt8.lt_iff_toNat_lt, UInt8.reduceToNat]; omega

/-- The `w-1` bytes following the lead byte of a valid multi-byte rune are all `≥ 0x80`. -/
theorem runeWidth_cont (b : UInt8) (r : Bytes) (w : Nat) (hb : ¬ b < 0x80)
    (h : runeWidth (b :: r) = some w) : ∀ x ∈ r.take (w - 1), ¬ x < 0x80 := by
  rcases runeWidth_inv b r w hb h with ⟨rfl, b1, t, rfl, h2⟩ | ⟨rfl, b1, b2, t, rfl, _, h3⟩ |
    ⟨rfl, b1, b2, b3, t, rfl, _, _, h4⟩
  · simpa using ok2_ge h2
  · simpa using ok3_ge h3
  · simpa using ok4_ge h4

theorem rune_high {b : UInt8} {r : Bytes} {w : Nat} (hb : ¬ b < 0x80) (hw : runeWidth (b :: r) = some w) :
    ∀ c ∈ b :: r.take (w - 1), ¬ c < 0x80 :=
  List.forall_mem_cons.mpr ⟨hb, runeWidth_cont b r w hb hw⟩

end Martian.ShellQuote

namespace Martian.JobTemplate
open Martian.ShellQuote

theorem validUtf8_ascii (s : Bytes) (h : ∀ b ∈ s, b < 0x80) : validUtf8 s = true := by
  have := Martian.InvocationStr.validFrom_ascii_append s [] h
  rwa [List.append_nil] at this

end Martian.JobTemplate
