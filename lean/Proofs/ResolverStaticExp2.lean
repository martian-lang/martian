/-
C01 — the two-phase resolver on one expression, part 2.  The typed run-time evaluation is the untyped
one followed by narrowing (`evalRT_eq_narrow_evalR`); with it L1 (`narrow_evalRT`) is `narrow_narrow`
plus the typing half `HasTyR.sub`.  P (`proj1_evalRT`, for a field that exists: `FieldOk`, `PathOk`) is by
induction on the typing of the resolved expression (`HasTyR.ind`), `projPath_evalRT` from it by induction
on the path.  Last, a fact about `den` alone: `evalCall` on a map call whose split values share a non-empty
index set (`evalCall_mappedC`).
-/
import Proofs.ResolverStaticExp

namespace Proofs.ResolverStatic
open Martian.Dataflow Martian.Resolver Martian.ResolverForks Martian.ResolverStatic Proofs.Dataflow
  Proofs.ResolverForks

theorem Sub.shape {st : StructTable} {b : String} {m a : Nat} {t' : Ty} (h : Sub st ⟨b, m, a⟩ t') :
    ∃ b', t' = ⟨b', m, a⟩ := by
  obtain ⟨b', m', a'⟩ := t'
  obtain ⟨h1, h2⟩ := h.dims
  simp only at h1 h2
  subst h1; subst h2
  exact ⟨b', rfl⟩

theorem Sub.scalar_right {st : StructTable} {t t' : Ty} (h : Sub st t t') (hs : Scalar st t) : Scalar st t' := by
  cases h with
  | refl => exact hs
  | struct _ _ ps ps' _ _ h3 => rw [hs.2.2] at h3; cases h3
  | scalar _ _ h1 h2 _ h4 => exact ⟨h2 ▸ hs.1, h1 ▸ hs.2.1, h4⟩

theorem Sub.lookup_right {st : StructTable} {t t' : Ty} (h : Sub st t t') (ps : List Param)
    (hl : st.lookup t.base = some ps) : ∃ ps', st.lookup t'.base = some ps' := by
  cases h with
  | refl => exact ⟨ps, hl⟩
  | struct _ _ _ ps' _ _ _ h4 => exact ⟨ps', h4⟩
  | scalar _ _ _ _ h3 => rw [hl] at h3; cases h3

theorem elemArr_narrow {st : StructTable} {F : Nat} (hF : NarrowFix st F) (b : String) (m a : Nat) (v : J)
    (ix : Idx) : narrow st F ⟨b, m, a⟩ (elemArr v ix) = elemArr (narrow st F ⟨b, m, a + 1⟩ v) ix := by
  have h0 := narrow_null hF ⟨b, m, a⟩
  have hd := narrow_dnull hF ⟨b, m, a⟩
  rw [hF] at h0 hd
  rw [hF, hF]
  exact (elemArr_mapArr _ a h0 hd v ix).symm

theorem pathTy_append (st : StructTable) (path : List String) :
    ∀ (t : Ty) (f : String), pathTy st t (path ++ [f]) = projTy1 st (pathTy st t path) f := by
  induction path with
  | nil => intro t f; simp [pathTy]
  | cons g r ih => intro t f; simp [pathTy, ih]

theorem Sub.projTy1 {st : StructTable} (hst : StructsOk st) {t0 t : Ty} (h : Sub st t0 t) (f : String)
    (ft : Ty) (hf : fieldTy st t.base f = some ft) : Sub st (projTy1 st t0 f) (projTy1 st t f) := by
  obtain ⟨ps', p', hl', hp', hpn', hpt', _⟩ := fieldTy_mem st _ _ _ hf
  obtain ⟨ps, hl, hview⟩ := Sub.members hst h ps' hl'
  obtain ⟨p, hp, hpn, hfind, hsub⟩ := hview p' hp'
  have hf0 : fieldTy st t0.base f = some p.ty := by
    have := fieldTy_of_mem st hst t0.base ps hl p hp
    rwa [hpn, hpn'] at this
  obtain ⟨d1, d2⟩ := h.dims
  obtain ⟨e1, e2⟩ := hsub.dims
  unfold Martian.Dataflow.projTy1
  rw [hf0, hf]
  simp only
  rw [hpt'] at hsub e1 e2
  by_cases hz : t0.mapDim = 0
  · have hz' : t.mapDim = 0 := by omega
    simp only [hz, hz', if_true]
    rw [← e1, ← e2, ← d2]
    exact hsub.redim _ _
  · have hz' : ¬ t.mapDim = 0 := by omega
    simp only [hz, hz', if_false]
    rw [← e2, ← d1, ← d2]
    exact hsub.redim _ _

theorem Sub.fieldTy_isSome {st : StructTable} (hst : StructsOk st) {t0 t : Ty} (h : Sub st t0 t) (f : String)
    (ft : Ty) (hf : fieldTy st t.base f = some ft) : (fieldTy st t0.base f).isSome := by
  obtain ⟨ps', p', hl', hp', hpn', hpt', _⟩ := fieldTy_mem st _ _ _ hf
  obtain ⟨ps, hl, hview⟩ := Sub.members hst h ps' hl'
  obtain ⟨p, hp, hpn, hfind, hsub⟩ := hview p' hp'
  have := fieldTy_of_mem st hst t0.base ps hl p hp
  rw [hpn, hpn'] at this
  simp [this]

theorem Sub.pathTy {st : StructTable} (hst : StructsOk st) : ∀ (path : List String) {t0 t : Ty}, Sub st t0 t →
    FieldsExist st t path → FieldsExist st t0 path ∧ Sub st (pathTy st t0 path) (pathTy st t path)
  | [], _, _, h, _ => ⟨trivial, h⟩
  | f :: r, t0, t, h, hp => by
    simp only [FieldsExist] at hp
    cases hf : fieldTy st t.base f with
    | none => simp [hf] at hp
    | some ft =>
      have h1 := Sub.projTy1 hst h f ft hf
      have h2 := Sub.fieldTy_isSome hst h f ft hf
      have ih := Sub.pathTy hst r h1 hp.2
      exact ⟨⟨h2, ih.1⟩, ih.2⟩

theorem NoMapBelow.sub {st : StructTable} (hst : StructsOk st) {t t' : Ty} (h : NoMapBelow st t)
    (hs : Sub st t t') : NoMapBelow st t' := by
  intro path hp
  obtain ⟨h1, h2⟩ := Sub.pathTy hst path hs hp
  rw [← h2.dims.1]
  exact h path h1

theorem narrow_mapTy_nonobj {st : StructTable} {F : Nat} (hF : NarrowFix st F) (b : String) (a : Nat) (v : J)
    (hv : ∀ kvs, v ≠ .obj kvs) (hd : v ≠ .dnull) : narrow st F ⟨b, a + 1, 0⟩ v = .null := by
  rw [hF]
  cases v with
  | obj kvs => exact absurd rfl (hv kvs)
  | dnull => exact absurd rfl hd
  | null => simp [atBase, mapArr, mapObj]
  | atom s => simp [atBase, mapArr, mapObj]
  | arr xs => simp [atBase, mapArr, mapObj]

theorem elemMap_narrow {st : StructTable} {F : Nat} (hF : NarrowFix st F) (b : String) (a : Nat) (v : J)
    (ix : Idx) : narrow st F ⟨b, 0, a⟩ (elemMap v ix) = elemMap (narrow st F ⟨b, a + 1, 0⟩ v) ix := by
  have h0 := narrow_null hF ⟨b, 0, a⟩
  have hd := narrow_dnull hF ⟨b, 0, a⟩
  rw [hF] at h0 hd
  rw [hF, hF]
  exact (elemMap_mapObj _ h0 hd v ix).symm

theorem isTrue_narrow0 {st : StructTable} {F : Nat} (hF : NarrowFix st F) (b : String) (v : J) :
    Martian.Dataflow.isTrue (narrow st F ⟨b, 0, 0⟩ v) = Martian.Dataflow.isTrue v := by
  rw [hF]
  simp only [atBase, mapArr, narrowBase]
  cases st.lookup b with
  | none => rfl
  | some ps => cases v <;> simp [Martian.Dataflow.isTrue]

section evalR
variable (st : StructTable) (hst : StructsOk st) (F : Nat) (hF : NarrowFix st F) (ρ : Store)
include hst hF

theorem evalRT_eq_narrow_evalR :
    ∀ (r : RExp) (t : Ty) (f : ForkAssign), HasTyR st t r →
      evalRT st F ρ f t r = narrow st F t (evalR st ρ f r) := by
  intro r t f h
  revert f
  apply HasTyR.ind st (motive := fun t r => ∀ f, evalRT st F ρ f t r = narrow st F t (evalR st ρ f r)) (h := h)
  case null => intro t f; simp [evalRT, evalR, narrow_null hF]
  case atom => intro b s hl f; simp [evalRT, evalR, narrow_scalar hF b hl]
  case arr =>
    intro b m n xs ih f
    simp only [evalRT, evalR, Nat.add_sub_cancel, narrow_arr hF, evalRTList_eq_map, evalRList_eq_map,
      List.map_map]
    exact congrArg _ (List.map_congr_left fun x hx => (ih x hx).2 f)
  case map =>
    intro b k kvs ih f
    have c : ((0 : Nat) == 0 && (k + 1 != 0)) = true := by simp
    simp only [evalRT, evalR, c, if_true, Nat.add_sub_cancel, narrow_obj hF, evalRTFields_eq_map,
      evalRFields_eq_map, List.map_map]
    exact congrArg _ (List.map_congr_left fun kv hkv => by simp only [Function.comp_apply, (ih kv hkv).2 f])
  case json =>
    intro b kvs hl hj f
    rw [narrow_scalar hF b hl]
    exact evalRT_json st F ρ _ ⟨b, 0, 0⟩ f (by simpa [jsonR] using hj) rfl hl
  case struct =>
    intro b ps kvs hl hmem hall ih f
    rw [evalRT_struct st hst F ρ f ⟨b, 0, 0⟩ ps kvs rfl rfl hl]
    simp only [evalR]
    rw [narrow_struct hF b ps hl]
    congr 1
    apply List.map_congr_left
    intro p hp
    simp only [J.field, lookup_evalRFields]
    have hsome := hall p hp
    cases he : kvs.lookup p.name with
    | none => simp [he] at hsome
    | some e =>
      simp only [Option.map_some, Option.getD_some]
      rw [ih p.name e (mem_of_lookup kvs _ _ he) p (find_name_of_nodup ps (hst _ _ hl) p hp) f]
  case ref => intro t n sty path _ f; simp [evalRT, evalR]
  case splitArr =>
    intro b m a c e _ ih f
    simp only [evalRT, evalR]
    rw [ih f, elemArr_narrow hF]
  case splitMap =>
    intro b a c e _ _ ih f
    simp only [evalRT, evalR]
    rw [ih f, elemMap_narrow hF]
  case mergeArr =>
    intro b m n c e _ _ ih f
    simp only [evalRT, evalR, Nat.add_sub_cancel, narrow_arr hF, List.map_map]
    exact congrArg _ (List.map_congr_left fun ix _ => ih (fset f c ix))
  case mergeMap =>
    intro b k c e _ _ ih f
    simp only [evalRT, evalR, Nat.add_sub_cancel, narrow_obj hF, List.map_map]
    exact congrArg _ (List.map_congr_left fun ix _ => by simp only [Function.comp_apply, ih (fset f c ix)])
  case disabled =>
    intro t d v _ ihd _ ihv f
    simp only [evalRT, evalR]
    rw [ihd f, isTrue_narrow0 hF]
    split
    · exact (narrow_null hF t).symm
    · exact ihv f
  case fork =>
    intro t c ix e _ ih f
    simp only [evalRT, evalR]
    exact ih (fset f c ix)

theorem evalRT_eq_narrow_evalRList :
    ∀ (rs : List RExp) (t : Ty) (f : ForkAssign), HasTyRList st t rs →
      evalRTList st F ρ f t rs = (evalRList st ρ f rs).map (narrow st F t) := by
  intro rs t f h
  rw [evalRTList_eq_map, evalRList_eq_map, List.map_map]
  exact List.map_congr_left fun r hr => evalRT_eq_narrow_evalR st hst F hF ρ r t f ((HasTyRList_iff st t rs).mp h r hr)

theorem evalRT_eq_narrow_evalRFields :
    ∀ (kvs : List (String × RExp)) (t : Ty) (f : ForkAssign), HasTyRFields st t kvs →
      evalRTFields st F ρ f t kvs = (evalRFields st ρ f kvs).map fun kv => (kv.1, narrow st F t kv.2) := by
  intro kvs t f h
  rw [evalRTFields_eq_map, evalRFields_eq_map, List.map_map]
  exact List.map_congr_left fun kv hkv => by
    simp only [Function.comp_apply, evalRT_eq_narrow_evalR st hst F hF ρ kv.2 t f ((HasTyRFields_iff st t kvs).mp h kv hkv)]

theorem evalRT_eq_narrow_evalRMembers (ps : List Param) :
    ∀ (kvs : List (String × RExp)) (f : ForkAssign), HasTyRMembers st ps kvs →
      ∀ (k : String) (e : RExp), (k, e) ∈ kvs → ∀ (p : Param), ps.find? (fun q => q.name == k) = some p →
        evalRT st F ρ f p.ty e = narrow st F p.ty (evalR st ρ f e) :=
  fun kvs f hm _ e hke p hf => evalRT_eq_narrow_evalR st hst F hF ρ e p.ty f (HasTyRMembers_find st ps kvs hm hke hf)

end evalR

section L1
variable (st : StructTable) (hst : StructsOk st) (F : Nat) (hF : NarrowFix st F) (ρ : Store)
include hst hF

omit hF in
/-- a well-typed expression may be bound wherever its type may -/
theorem HasTyR.sub : ∀ (r : RExp) (t t' : Ty), HasTyR st t r → Sub st t t' → HasTyR st t' r := by
  intro r t t' h
  revert t'
  apply HasTyR.ind st (motive := fun t r => ∀ t', Sub st t t' → HasTyR st t' r) (h := h)
  case null => intro t t' _; exact Or.inl rfl
  case atom =>
    intro b s hl t' hs
    obtain ⟨b', rfl⟩ := hs.shape
    exact Or.inr ⟨⟨s, rfl⟩, rfl, rfl, (hs.scalar_right ⟨rfl, rfl, hl⟩).2.2⟩
  case arr =>
    intro b m n xs ih t' hs
    obtain ⟨b', rfl⟩ := hs.shape
    exact ⟨Nat.succ_ne_zero n, (HasTyRList_iff st _ xs).mpr fun x hx => (ih x hx).2 _ (hs.redim m n)⟩
  case map =>
    intro b k kvs ih t' hs
    obtain ⟨b', rfl⟩ := hs.shape
    exact Or.inl ⟨rfl, Nat.succ_ne_zero k, (HasTyRFields_iff st _ kvs).mpr fun kv hkv => (ih kv hkv).2 _ (hs.redim 0 k)⟩
  case json =>
    intro b kvs hl hj t' hs
    obtain ⟨b', rfl⟩ := hs.shape
    exact Or.inr ⟨rfl, rfl, (hs.scalar_right ⟨rfl, rfl, hl⟩).2.2, hj⟩
  case struct =>
    intro b ps kvs hl hmem hall ih t' hs
    obtain ⟨b', rfl⟩ := hs.shape
    obtain ⟨ps', hl'⟩ := hs.lookup_right ps hl
    obtain ⟨ps0, hl0, hview⟩ := Sub.members hst hs ps' hl'
    simp only at hl' hl0
    rw [hl] at hl0
    cases hl0
    refine ⟨rfl, rfl, ps', hl', ?_, ?_⟩
    · apply HasTyRMembers_of_mem
      intro k e hke hsome
      cases hf' : ps'.find? (fun q => q.name == k) with
      | none => simp [hf'] at hsome
      | some p' =>
        obtain ⟨hpk, hp'⟩ := find_name_eq ps' k p' hf'
        obtain ⟨p, hp, hpn, hfind, hsub⟩ := hview p' hp'
        rw [hpk] at hfind
        rw [memberTy_find ps' k p' hf']
        exact ih k e hke p hfind p'.ty hsub
    · intro p' hp'
      obtain ⟨p, hp, hpn, _, _⟩ := hview p' hp'
      have := hall p hp
      rwa [hpn] at this
  case ref => intro t n sty path h t' hs; exact Sub.trans hst h hs
  case splitArr =>
    intro b m a c e _ ih t' hs
    obtain ⟨b', rfl⟩ := hs.shape
    exact ih _ (hs.redim m (a + 1))
  case splitMap =>
    intro b a c e hnm _ ih t' hs
    obtain ⟨b', rfl⟩ := hs.shape
    exact ⟨hnm.sub hst hs, ih _ (hs.redim (a + 1) 0)⟩
  case mergeArr =>
    intro b m n c e hns _ ih t' hs
    obtain ⟨b', rfl⟩ := hs.shape
    exact ⟨Nat.succ_ne_zero n, hns, ih _ (hs.redim m n)⟩
  case mergeMap =>
    intro b k c e hns _ ih t' hs
    obtain ⟨b', rfl⟩ := hs.shape
    exact ⟨rfl, Nat.succ_ne_zero k, hns, ih _ (hs.redim 0 k)⟩
  case disabled => intro t d v hd _ _ ihv t' hs; exact ⟨hd, ihv t' hs⟩
  case fork => intro t c ix e _ ih t' hs; exact ih t' hs

theorem narrow_evalRT :
    ∀ (r : RExp) (t t' : Ty) (f : ForkAssign), HasTyR st t r → Sub st t t' →
      narrow st F t' (evalRT st F ρ f t r) = evalRT st F ρ f t' r ∧ HasTyR st t' r := by
  intro r t t' f h hs
  have h' := HasTyR.sub st hst r t t' h hs
  rw [evalRT_eq_narrow_evalR st hst F hF ρ r t f h, evalRT_eq_narrow_evalR st hst F hF ρ r t' f h',
    narrow_narrow hst hF hs]
  exact ⟨rfl, h'⟩

theorem narrow_evalRTList :
    ∀ (rs : List RExp) (t t' : Ty) (f : ForkAssign), HasTyRList st t rs → Sub st t t' →
      (evalRTList st F ρ f t rs).map (narrow st F t') = evalRTList st F ρ f t' rs ∧ HasTyRList st t' rs := by
  intro rs t t' f h hs
  have ih := fun r hr => narrow_evalRT st hst F hF ρ r t t' f ((HasTyRList_iff st t rs).mp h r hr) hs
  rw [evalRTList_eq_map, evalRTList_eq_map, List.map_map, HasTyRList_iff]
  exact ⟨List.map_congr_left fun r hr => (ih r hr).1, fun r hr => (ih r hr).2⟩

theorem narrow_evalRTFields :
    ∀ (kvs : List (String × RExp)) (t t' : Ty) (f : ForkAssign), HasTyRFields st t kvs → Sub st t t' →
      (evalRTFields st F ρ f t kvs).map (fun kv => (kv.1, narrow st F t' kv.2)) = evalRTFields st F ρ f t' kvs ∧
      HasTyRFields st t' kvs := by
  intro kvs t t' f h hs
  have ih := fun kv hkv => narrow_evalRT st hst F hF ρ kv.2 t t' f ((HasTyRFields_iff st t kvs).mp h kv hkv) hs
  rw [evalRTFields_eq_map, evalRTFields_eq_map, List.map_map, HasTyRFields_iff]
  exact ⟨List.map_congr_left fun kv hkv => by simp only [Function.comp_apply, (ih kv hkv).1],
    fun kv hkv => (ih kv hkv).2⟩

theorem narrow_evalRTMembers (ps : List Param) :
    ∀ (kvs : List (String × RExp)) (f : ForkAssign), HasTyRMembers st ps kvs →
      ∀ (k : String) (e : RExp), (k, e) ∈ kvs → ∀ (p : Param) (t' : Ty),
        ps.find? (fun q => q.name == k) = some p → Sub st p.ty t' →
        narrow st F t' (evalRT st F ρ f p.ty e) = evalRT st F ρ f t' e ∧ HasTyR st t' e :=
  fun kvs f hm _ e hke p t' hf hs =>
    narrow_evalRT st hst F hF ρ e p.ty t' f (HasTyRMembers_find st ps kvs hm hke hf) hs

end L1

theorem evalRT_mkDisabled (st : StructTable) (F : Nat) (ρ : Store) (f : ForkAssign) (t : Ty) (d inner : RExp) :
    evalRT st F ρ f t (mkDisabled d inner)
      = if Martian.Dataflow.isTrue (evalRT st F ρ f ⟨"bool", 0, 0⟩ d) then .null else evalRT st F ρ f t inner := by
  unfold mkDisabled
  split
  · simp [evalRT]
  · simp only [evalRT, Martian.Dataflow.isTrue, beq_iff_eq]
    split <;> simp [evalRT]
  · simp [evalRT]

theorem HasTyR_mkDisabled (st : StructTable) (d inner : RExp) (t : Ty)
    (hd : HasTyR st ⟨"bool", 0, 0⟩ d) (hi : HasTyR st t inner) : HasTyR st t (mkDisabled d inner) := by
  unfold mkDisabled
  split
  · simp [HasTyR, LitOk]
  · split
    · simp [HasTyR, LitOk]
    · exact hi
  · simp only [HasTyR]; exact ⟨hd, hi⟩

/-- `f` is a member of `t`'s struct (and, through a typed map, not itself a typed map) -/
def FieldOk (st : StructTable) (t : Ty) (f : String) : Prop :=
  ∃ ft, fieldTy st t.base f = some ft ∧ (t.mapDim ≠ 0 → ft.mapDim = 0)

def PathOk (st : StructTable) : Ty → List String → Prop
  | _, [] => True
  | t, f :: r => FieldOk st t f ∧ PathOk st (projTy1 st t f) r

section P
variable (st : StructTable) (hst : StructsOk st) (F : Nat) (hF : NarrowFix st F) (ρ : Store)
include hst hF

theorem FieldOk.redim {st : StructTable} {b : String} {m a : Nat} {fld : String}
    (h : FieldOk st ⟨b, m, a⟩ fld) (a' : Nat) : FieldOk st ⟨b, m, a'⟩ fld := h

theorem proj1_evalRT :
    ∀ (r : RExp) (t : Ty) (fld : String) (f : ForkAssign), HasTyR st t r → FieldOk st t fld →
      proj1 t fld (evalRT st F ρ f t r) = evalRT st F ρ f (projTy1 st t fld) (bpR fld r) ∧
      HasTyR st (projTy1 st t fld) (bpR fld r) := by
  intro r t fld f h
  revert fld f
  apply HasTyR.ind st (motive := fun t r => ∀ (fld : String) (f : ForkAssign), FieldOk st t fld →
      proj1 t fld (evalRT st F ρ f t r) = evalRT st F ρ f (projTy1 st t fld) (bpR fld r) ∧
      HasTyR st (projTy1 st t fld) (bpR fld r)) (h := h)
  case null => intro t fld f _; simp [evalRT, bpR, proj1_null, HasTyR, LitOk]
  case atom =>
    -- an opaque type has no fields
    intro b s hl fld f hfo
    obtain ⟨ft, hft, _⟩ := hfo
    simp [fieldTy, hl] at hft
  case json =>
    intro b kvs hl _ fld f hfo
    obtain ⟨ft, hft, _⟩ := hfo
    simp [fieldTy, hl] at hft
  case arr =>
    intro b m n xs ih fld f hfo
    have ih' := fun x hx => (ih x hx).2 fld f hfo
    rw [projTy1_arr]
    generalize Martian.Dataflow.projTy1 st ⟨b, m, n⟩ fld = T at ih' ⊢
    obtain ⟨B, M, A⟩ := T
    simp only [evalRT, bpR, Nat.add_sub_cancel, proj1_arr, HasTyR, evalRTList_eq_map, bpRList_eq_map,
      List.map_map, HasTyRList_iff, List.forall_mem_map]
    exact ⟨congrArg _ (List.map_congr_left fun x hx => (ih' x hx).1), by simp, fun x hx => (ih' x hx).2⟩
  case map =>
    intro b k kvs ih fld f hfo
    obtain ⟨ft, hft, hmap⟩ := hfo
    have hnm : ∀ ft', fieldTy st b fld = some ft' → ft'.mapDim = 0 := by
      intro ft' h'
      simp only at hft
      rw [hft] at h'
      cases h'
      exact hmap (by simp)
    obtain ⟨e1, e2⟩ := projTy1_map st b k fld hnm
    have ih' := fun kv hkv => (ih kv hkv).2 fld f ⟨ft, hft, by simp⟩
    rw [e1]
    rw [e2] at ih'
    have c : ((0 : Nat) == 0 && ((Martian.Dataflow.projTy1 st ⟨b, 0, k⟩ fld).arrDim + 1 != 0)) = true := by simp
    have c' : ((0 : Nat) == 0 && (k + 1 != 0)) = true := by simp
    simp only [evalRT, bpR, Nat.add_sub_cancel, proj1_obj, c, c', if_true, HasTyR, evalRTFields_eq_map,
      bpRFields_eq_map, List.map_map, HasTyRFields_iff, List.forall_mem_map]
    exact ⟨congrArg _ (List.map_congr_left fun kv hkv => by simp only [Function.comp_apply, (ih' kv hkv).1]),
      Or.inl ⟨trivial, by simp, fun kv hkv => (ih' kv hkv).2⟩⟩
  case struct =>
    intro b ps kvs hl hmem hall _ fld f hfo
    obtain ⟨ft, hft, _⟩ := hfo
    obtain ⟨ps0, p, hl0, hp, hpn, hpt, hfind⟩ := fieldTy_mem st _ _ _ hft
    simp only at hl0
    rw [hl] at hl0; cases hl0
    have hT : Martian.Dataflow.projTy1 st ⟨b, 0, 0⟩ fld = ft := by
      simp only [Martian.Dataflow.projTy1, hft, if_true, Nat.add_zero]
    rw [hT]
    have hsome := hall p hp
    rw [hpn] at hsome
    cases he : kvs.lookup fld with
    | none => simp [he] at hsome
    | some e =>
      have hty := HasTyRMembers_lookup st ps kvs fld e p hmem he hfind
      rw [hpt] at hty
      rw [evalRT_struct st hst F ρ f ⟨b, 0, 0⟩ ps kvs rfl rfl hl]
      simp only [bpR, he, Option.getD_some]
      refine ⟨?_, hty⟩
      simp only [proj1, atBase, mapArr]
      rw [field_map_find ps _ fld p hfind, hpn, he, hpt]
      rfl
  case ref =>
    intro t n sty path h fld f hfo
    obtain ⟨ft, hft, hmap⟩ := hfo
    obtain ⟨d1, d2⟩ := h.dims
    simp only [evalRT, bpR, HasTyR]
    constructor
    · rw [proj1_narrow hF t fld ft hft hmap, projPath_append,
        proj1_dims (pathTy st sty path) t d1 d2]
    · rw [pathTy_append]
      exact Sub.projTy1 hst h fld ft hft
  case splitArr =>
    intro b m a c e _ ih fld f hfo
    have ih' := ih fld f hfo
    rw [projTy1_arr] at ih'
    simp only [evalRT, bpR, HasTyR]
    rw [← elemArr_proj1, ih'.1]
    exact ⟨rfl, ih'.2⟩
  case splitMap =>
    intro b a c e hnm _ ih fld f hfo
    obtain ⟨ft, hft, _⟩ := hfo
    simp only at hft
    have hnm2 := hnm.field fld (by simp [hft])
    have hft0 : ft.mapDim = 0 := by
      have := hnm2.mapDim
      simpa [Martian.Dataflow.projTy1, hft] using this
    have hnmf : ∀ ft', fieldTy st b fld = some ft' → ft'.mapDim = 0 := by
      intro ft' h'; rw [hft] at h'; cases h'; exact hft0
    obtain ⟨e1, e2⟩ := projTy1_map st b a fld hnmf
    have ih' := ih fld f ⟨ft, hft, fun _ => hft0⟩
    rw [e1] at ih'
    rw [e2] at hnm2 ⊢
    simp only [evalRT, bpR, HasTyR]
    rw [← ih'.1, Proofs.ResolverForks.elemMap_proj1]
    exact ⟨rfl, hnm2, ih'.2⟩
  case mergeArr =>
    intro b m n c e hns _ ih fld f hfo
    have hns' := Proofs.ResolverForks.noSplitOf_bpR c fld e hns
    rw [projTy1_arr]
    have ih0 := (ih fld f hfo).2
    have ihf := fun ix => (ih fld (fset f c ix) hfo).1
    generalize Martian.Dataflow.projTy1 st ⟨b, m, n⟩ fld = T at ih0 ihf ⊢
    obtain ⟨B, M, A⟩ := T
    simp only [bpR, Proofs.ResolverForks.mkMerge_noSplit c false _ hns', evalRT, Nat.add_sub_cancel, proj1_arr,
      HasTyR, List.map_map]
    exact ⟨congrArg _ (List.map_congr_left fun ix _ => ihf ix), by simp, hns', ih0⟩
  case mergeMap =>
    intro b k c e hns _ ih fld f hfo
    obtain ⟨ft, hft, hmap⟩ := hfo
    have hnmf : ∀ ft', fieldTy st b fld = some ft' → ft'.mapDim = 0 := by
      intro ft' h'
      simp only at hft
      rw [hft] at h'
      cases h'
      exact hmap (by simp)
    obtain ⟨e1, e2⟩ := projTy1_map st b k fld hnmf
    have hns' := Proofs.ResolverForks.noSplitOf_bpR c fld e hns
    have ih0 := (ih fld f ⟨ft, hft, by simp⟩).2
    have ihf := fun ix => (ih fld (fset f c ix) ⟨ft, hft, by simp⟩).1
    rw [e1]
    rw [e2] at ih0 ihf
    simp only [bpR, Proofs.ResolverForks.mkMerge_noSplit c true _ hns', evalRT, Nat.add_sub_cancel, proj1_obj,
      HasTyR, List.map_map]
    exact ⟨congrArg _ (List.map_congr_left fun ix _ => by simp only [Function.comp_apply, ihf ix]),
      trivial, by simp, hns', ih0⟩
  case disabled =>
    intro t d v hd _ _ ihv fld f hfo
    have ih' := ihv fld f hfo
    simp only [bpR]
    refine ⟨?_, HasTyR_mkDisabled st d _ _ hd ih'.2⟩
    rw [evalRT_mkDisabled]
    simp only [evalRT]
    split
    · exact proj1_null _ _
    · exact ih'.1
  case fork =>
    intro t c ix e _ ih fld f hfo
    simp only [evalRT, bpR, HasTyR]
    exact ih fld (fset f c ix) hfo

theorem proj1_evalRTList :
    ∀ (rs : List RExp) (t : Ty) (fld : String) (f : ForkAssign), HasTyRList st t rs → FieldOk st t fld →
      (evalRTList st F ρ f t rs).map (proj1 t fld) = evalRTList st F ρ f (projTy1 st t fld) (bpRList fld rs) ∧
      HasTyRList st (projTy1 st t fld) (bpRList fld rs) := by
  intro rs t fld f h hfo
  have ih := fun r hr => proj1_evalRT st hst F hF ρ r t fld f ((HasTyRList_iff st t rs).mp h r hr) hfo
  rw [evalRTList_eq_map, evalRTList_eq_map, bpRList_eq_map, List.map_map, List.map_map, HasTyRList_iff,
    List.forall_mem_map]
  exact ⟨List.map_congr_left fun r hr => (ih r hr).1, fun r hr => (ih r hr).2⟩

theorem proj1_evalRTFields :
    ∀ (kvs : List (String × RExp)) (t : Ty) (fld : String) (f : ForkAssign), HasTyRFields st t kvs → FieldOk st t fld →
      (evalRTFields st F ρ f t kvs).map (fun kv => (kv.1, proj1 t fld kv.2))
        = evalRTFields st F ρ f (projTy1 st t fld) (bpRFields fld kvs) ∧
      HasTyRFields st (projTy1 st t fld) (bpRFields fld kvs) := by
  intro kvs t fld f h hfo
  have ih := fun kv hkv => proj1_evalRT st hst F hF ρ kv.2 t fld f ((HasTyRFields_iff st t kvs).mp h kv hkv) hfo
  rw [evalRTFields_eq_map, evalRTFields_eq_map, bpRFields_eq_map, List.map_map, List.map_map, HasTyRFields_iff,
    List.forall_mem_map]
  exact ⟨List.map_congr_left fun kv hkv => by simp only [Function.comp_apply, (ih kv hkv).1],
    fun kv hkv => (ih kv hkv).2⟩

theorem projPath_evalRT (f : ForkAssign) (path : List String) :
    ∀ (r : RExp) (t : Ty), HasTyR st t r → PathOk st t path →
      projPath st t path (evalRT st F ρ f t r) = evalRT st F ρ f (pathTy st t path) (bpPath path r) ∧
      HasTyR st (pathTy st t path) (bpPath path r) := by
  induction path with
  | nil => intro r t h _; exact ⟨rfl, h⟩
  | cons g rest ih =>
    intro r t h hp
    simp only [PathOk] at hp
    have h1 := proj1_evalRT st hst F hF ρ r t g f h hp.1
    have h2 := ih (bpR g r) (projTy1 st t g) h1.2 hp.2
    simp only [projPath, pathTy, bpPath, h1.1]
    exact h2

end P

theorem evalCall_mappedC (st : StructTable) (F : Nat) (insOf : String → List Param) (run : Runner)
    (path : List String) (forks : List (String × Idx)) (env : Env) (c : Call) (md : Mode) (ixs : List Idx)
    (hm : c.mapped = true) (hd : c.disabled = none) (hex : ∃ b ∈ c.binds, b.split = true)
    (hidx : ∀ v ∈ splitVals st env c, indicesOf v = ixs) (hne : ixs ≠ [])
    (hmode : callMode st env c = md) :
    evalCall st F insOf run path forks env c =
      (liftTy c.callee md,
       collect md ixs (ixs.map fun ix =>
          (run c.callee (path ++ [c.id]) (forks ++ [(c.id, ix)])
            (mkArgs st F (argVals st env (insOf c.callee) c) (some ix))).1),
       ixs.flatMap fun ix =>
          (run c.callee (path ++ [c.id]) (forks ++ [(c.id, ix)])
            (mkArgs st F (argVals st env (insOf c.callee) c) (some ix))).2) := by
  obtain ⟨b0, hb0, hs0⟩ := hex
  have hnev : splitVals st env c ≠ [] := by
    intro e
    have : eval st env b0.exp ∈ splitVals st env c := by
      simp only [splitVals, hd, List.append_nil, List.mem_map, List.mem_filter]
      exact ⟨b0, ⟨hb0, hs0⟩, rfl⟩
    rw [e] at this; cases this
  have hci : callIndices st env c = ixs := by
    unfold callIndices
    cases hsv : splitVals st env c with
    | nil => exact absurd hsv hnev
    | cons v r => exact hidx v (by rw [hsv]; simp)
  have hag : splitsAgree st env c = true := by
    unfold splitsAgree
    cases hsv : splitVals st env c with
    | nil => rfl
    | cons v r =>
      simp only [List.all_eq_true, beq_iff_eq]
      intro w hw
      rw [hidx w (by rw [hsv]; simp [hw]), hidx v (by rw [hsv]; simp)]
  have hnonempty : ixs.isEmpty = false := by
    cases ixs with
    | nil => exact absurd rfl hne
    | cons a l => rfl
  have hnull : ∀ ix, Martian.Dataflow.isTrue (elemAt .null ix) = false := by
    intro ix; cases ix <;> rfl
  simp only [evalCall, hd, hm, hag, hci, hmode, hnonempty, Bool.not_true, Bool.false_eq_true, if_false,
    hnull, List.map_map, Function.comp_def, List.flatMap_map]

end Proofs.ResolverStatic
