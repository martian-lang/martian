import Proofs.FormatCall2Parse
import Proofs.FormatCallWords
import Proofs.FormatExpRound

/-!
C09, part Call2: the lexing layer of the round trip of the statements of a
pipeline body (for any white-space prefix and any following text), the round
trips themselves, and printing the normal form.  The last part is the call without wildcard and
modifiers (`Martian.FormatCall`) as the plain case of the full call statement.
-/

namespace Martian.FormatCall2
open Martian.Lexer (Bytes isWord)
open Martian.FormatExp Martian.FormatCall

theorem wordLexeme_using : wordLexeme sUsing = .tok (.id sUsing) := by decide +kernel
theorem wordLexeme_return : wordLexeme sReturn = .tok (.reserved sReturn) := by decide +kernel
theorem wordLexeme_retain : wordLexeme sRetain = .tok (.id sRetain) := by decide +kernel
theorem all_isWord_using : sUsing.all isWord = true := by decide +kernel
theorem all_isWord_return : sReturn.all isWord = true := by decide +kernel
theorem all_isWord_retain : sRetain.all isWord = true := by decide +kernel
theorem isIdent_star : isIdent sStar = false := by decide +kernel

theorem ne_star_of_isIdent {k : Bytes} (h : isIdent k = true) : k ≠ sStar := by
  intro e; subst e; rw [isIdent_star] at h; cases h

theorem ne_star_of_wfBind {bs : List Bind} (h : bs.all wfBind = true) : ∀ b ∈ bs, b.id ≠ sStar := by
  intro b hb
  have := List.all_eq_true.mp h b hb
  simp only [wfBind, Bool.and_eq_true] at this
  exact ne_star_of_isIdent this.1.1

/-- `BindStm.format` followed by `nxt`: the id lexes as `t` and the value as `tv` (an identifier and
an expression, or `*` and the value of a wildcard binding) -/
theorem lexOK_fmtBind (p : Bytes) (w : Nat) (b : Bind) (hp : p.all isSp = true) {t : Tok} {tv : List Tok}
    (hid : LexOK b.id [t] WordEnd) (hv : LexOK (fmt (p ++ indent) b.exp) tv TermStart)
    {nxt : Bytes} {tn : List Tok} {R : Bytes → Prop} (hn : LexOK nxt tn R) :
    LexOK (fmtBind p w b ++ nxt)
      (t :: tEq :: ((if b.split then [.id sSplit] else []) ++ tv ++ tComma :: tn)) R :=
  (LexOK.item ((LexOK.spaces hp AnyRest).app (lexOK_bindPre w b hid)) hv hn).congr rfl (by simp)

theorem lexOK_fmtWild (e : Exp) (q : Bytes) (hw : wfWild e = true) (hq : q.all isSp = true) :
    LexOK (fmt q e) (toksWild e) TermStart := by
  cases hb : isBareSelf e with
  | true =>
    have he := isBareSelf_eq hb
    subst he
    exact (LexOK.kw all_isWord_self wordLexeme_self).congr (by simp [fmt, fmtRef])
      (by simp [toksWild, isBareSelf])
  | false =>
    simp only [wfWild, hb, Bool.false_or, Bool.and_eq_true] at hw
    exact (lexOK_fmt e q hw.2 hq).congr rfl (by simp [toksWild, hb])

theorem fmtBindsGo_cons_ne (p : Bytes) (w : Nat) (b : Bind) (r : List Bind) (h : b.id ≠ sStar) :
    fmtBindsGo p w (b :: r) = fmtBind p w b ++ fmtBindsGo p w r := by
  simp [fmtBindsGo, h]

/-- at the wildcard binding: it is printed, nothing after it is -/
theorem lexOK_fmtBindsGo_wild (p : Bytes) (w : Nat) (e : Exp) (junk : List Bind) (hp : p.all isSp = true)
    (hw : wfWild e = true) :
    LexOK (fmtBindsGo p w (wildBind e :: junk)) (toksWildOpt (some e)) AnyRest :=
  (lexOK_fmtBind p w (wildBind e) hp (LexOK.punct (c := 0x2A) (by decide) WordEnd)
    (lexOK_fmtWild e _ hw (all_isSp_append hp all_isSp_indent)) (LexOK.nil AnyRest)).congr
    (by simp [fmtBindsGo, wildBind]) (by simp [toksWildOpt, wildBind])

theorem lexOK_fmtBindsGo (p : Bytes) (w : Nat) (hp : p.all isSp = true) {tail : List Bind}
    {tt : List Tok} (ht : LexOK (fmtBindsGo p w tail) tt AnyRest) :
    ∀ bs : List Bind, bs.all wfBind = true →
      LexOK (fmtBindsGo p w (bs ++ tail)) (toksBinds bs ++ tt) AnyRest
  | [], _ => ht
  | b :: bs, hw => by
    simp only [List.all_cons, Bool.and_eq_true] at hw
    have hb := hw.1
    simp only [wfBind, Bool.and_eq_true] at hb
    exact (lexOK_fmtBind p w b hp (LexOK.ident hb.1.1)
      (lexOK_fmt b.exp _ hb.1.2 (all_isSp_append hp all_isSp_indent))
      (lexOK_fmtBindsGo p w hp ht bs hw.2)).congr
      (by rw [List.cons_append, fmtBindsGo_cons_ne p w b _ (ne_star_of_isIdent hb.1.1)])
      (by simp [toksBinds, toksBindPre])

theorem lexOK_rawBinds (p : Bytes) (n : Nat) (bs : List Bind) (w : Option Exp) (hp : p.all isSp = true)
    (hbs : bs.all wfBind = true) (hw : wfWildOpt w = true) :
    LexOK (fmtBindsGo p n (rawBinds bs w)) (toksBinds2 bs w) AnyRest := by
  cases w with
  | none => exact lexOK_fmtBindsGo p n hp (tail := []) (LexOK.nil AnyRest) bs hbs
  | some e => exact lexOK_fmtBindsGo p n hp (lexOK_fmtBindsGo_wild p n e [] hp hw) bs hbs

theorem isIdent_modKw {k : Bytes} (h : isModKw k = true) : isIdent k = true := by
  simp only [isModKw, Bool.or_eq_true, beq_iff_eq] at h
  rcases h with (rfl | rfl) | rfl <;> decide +kernel

theorem wfBind_modBind {kv : Bytes × Exp} (h : wfMod kv = true) : wfBind (modBind kv) = true := by
  obtain ⟨k, e⟩ := kv
  simp only [wfMod, Bool.or_eq_true, Bool.and_eq_true, beq_iff_eq] at h
  rcases h with ⟨hk, hb⟩ | ⟨⟨hk, _⟩, hwf⟩
  · cases e with
    | bool b => simp [wfBind, modBind, isIdent_modKw hk, wf]
    | _ => simp [isBoolE] at hb
  · subst hk
    have : isIdent sDisabled = true := by decide +kernel
    simp [wfBind, modBind, this, hwf]

theorem toksBinds_modBind : ∀ l : List (Bytes × Exp), toksBinds (l.map modBind) = toksMods l
  | [] => rfl
  | kv :: l => by
    simp [toksBinds, toksMods, toksBindPre, modBind, toksBinds_modBind l]

theorem lexOK_mods (p : Bytes) (n : Nat) (l : List (Bytes × Exp)) (hp : p.all isSp = true)
    (h : l.all wfMod = true) : LexOK (fmtBindsGo p n (l.map modBind)) (toksMods l) AnyRest := by
  have hw : (l.map modBind).all wfBind = true := by
    rw [List.all_map]
    exact List.all_eq_true.mpr fun kv hkv => wfBind_modBind (List.all_eq_true.mp h kv hkv)
  exact (lexOK_fmtBindsGo p n hp (tail := []) (LexOK.nil AnyRest) (l.map modBind) hw).congr (by simp)
    (by simp [toksBinds_modBind])

theorem lexOK_usingOpen : LexOK sUsingOpen [tRP, .id sUsing, tLP] AnyRest :=
  ((((LexOK.punct (c := 0x29) (by decide) AnyRest).app (lexOK_sp _)).app
    (LexOK.wordSp all_isWord_using wordLexeme_using)).app
    (lexOK_punctNl (c := 0x28) (by decide))).congr (by simp [sUsingOpen]) (by simp)

theorem lexOK_usingBlock (p : Bytes) (m : Mods) (hp : p.all isSp = true) (hw : wfMods m = true) :
    LexOK ((if usingPrinted m then sUsingOpen ++ fmtBindStms p ((modList m).map modBind) ++ p else []) ++
      [0x29, 0x0A]) (tRP :: toksUsing m) AnyRest := by
  have hclose : LexOK [0x29, 0x0A] [tRP] AnyRest := lexOK_punctNl (by decide)
  cases hu : usingPrinted m with
  | false => exact hclose.congr (by simp) (by simp [toksUsing, hu])
  | true =>
    have hm := lexOK_mods p (idWidthGo ((modList m).map modBind)) (modList m) hp (modList_wf m hw).1
    exact (((lexOK_usingOpen.app hm).app (LexOK.spaces hp _)).app hclose).congr
      (by simp [fmtBindStms]) (by simp [toksUsing, hu])

theorem rawBinds_isEmpty (bs : List Bind) (w : Option Exp) :
    (rawBinds bs w).isEmpty = (bs.isEmpty && w.isNone) := by
  cases bs <;> cases w <;> simp [rawBinds]

theorem lexOK_fmtCall2 (p : Bytes) (c : Call2) (hp : p.all isSp = true) (hw : wfCall2 c = true) :
    LexOK (fmtCall2 p c) (toksCall2 c) AnyRest := by
  obtain ⟨d, i, bs, w, m⟩ := c
  simp only [wfCall2, Bool.and_eq_true] at hw
  obtain ⟨⟨⟨⟨hd, hi⟩, hbs⟩, hww⟩, hwm⟩ := hw
  have hmap : LexOK (if isMap2 ⟨d, i, bs, w, m⟩ then sMap ++ [0x20] else [])
      (if isMap2 ⟨d, i, bs, w, m⟩ then [.reserved sMap] else []) AnyRest := by
    cases isMap2 ⟨d, i, bs, w, m⟩
    · exact LexOK.nil _
    · exact LexOK.wordSp all_isWord_map wordLexeme_map
  -- after the callee's name comes a space (` as I`) or `(`: the name ends there
  have has : LexOK ((if i = d then [] else [0x20] ++ sAs ++ [0x20] ++ i) ++ [0x28])
      ((if i = d then [] else [.reserved sAs, .id i]) ++ [tLP]) AnyRest ∧
      ∀ rest, WordEnd ((if i = d then [] else [0x20] ++ sAs ++ [0x20] ++ i) ++ [0x28] ++ rest) := by
    by_cases hid : i = d
    · simp only [hid, ↓reduceIte, List.nil_append]
      exact ⟨LexOK.punct (by decide) _, fun _ => WordEnd.cons _ _ (by decide)⟩
    · simp only [hid, ↓reduceIte]
      exact ⟨((((lexOK_sp _).app (LexOK.wordSp all_isWord_as wordLexeme_as)).app (LexOK.ident hi)).append
        (LexOK.punct (c := 0x28) (by decide) AnyRest) (fun _ _ => WordEnd.cons _ _ (by decide))).congr
        (by simp) (by simp), fun _ => WordEnd.cons _ _ (by decide)⟩
  have hbinds : LexOK (if (rawBinds bs w).isEmpty then []
      else 0x0A :: (fmtBindStms p (rawBinds bs w) ++ p)) (toksBinds2 bs w) AnyRest := by
    have hb := lexOK_rawBinds p (idWidthGo (rawBinds bs w)) bs w hp hbs hww
    cases he : (rawBinds bs w).isEmpty
    · exact (((lexOK_nl _).app hb).app (LexOK.spaces hp _)).congr (by simp [fmtBindStms]) (by simp)
    · -- nothing is printed for the empty list, which has no tokens
      rw [List.isEmpty_iff.mp he] at hb
      exact hb
  have h := ((((((LexOK.spaces hp AnyRest).app hmap).app
    (LexOK.wordSp all_isWord_call wordLexeme_call)).app
    ((LexOK.ident hd).append has.1 (fun rest _ => has.2 rest))).app hbinds).app
    (lexOK_usingBlock p m hp hwm))
  exact h.congr (by simp [fmtCall2, fmtCallRaw]) (by simp [toksCall2])

theorem bind_lexAll_of_lexOK {α : Type} {s : Bytes} {ts : List Tok} (h : LexOK s ts AnyRest) {rest : Bytes}
    {tr : List Tok} (hrest : lexAll rest = some tr) (P : List Tok → Option α) :
    (lexAll (s ++ rest)).bind P = P (ts ++ tr) := by
  rw [h.lexAll rest, hrest]; rfl

/-- **Round trip with prefix and rest** (for the assembly of a pipeline): the printed call,
whatever the indentation, followed by a text whose tokens `ts` do not start with `using`. -/
theorem pCall2_fmtCall2 (p : Bytes) (c : Call2) (rest : Bytes) (ts : List Tok) (hp : p.all isSp = true)
    (hw : wfCall2 c = true) (hrest : lexAll rest = some ts) (hr : NoUsing ts) :
    (lexAll (fmtCall2 p c ++ rest)).bind pCall2 = some (normCall2 c, ts) := by
  rw [bind_lexAll_of_lexOK (lexOK_fmtCall2 p c hp hw) hrest]
  exact pCall2_toks c ts hw hr

theorem parseCall2_fmtCall2 (c : Call2) (hw : wfCall2 c = true) :
    parseCall2 (fmtCall2 [] c) = some (normCall2 c) := by
  have h := pCall2_toks c [] hw noUsing_nil
  rw [List.append_nil] at h
  simp only [parseCall2, (lexOK_fmtCall2 [] c rfl hw).lexAll_nil, Option.bind_some, h]

theorem lexOK_kwOpen {k : Bytes} {t : Tok} (hk : k.all isWord = true) (ht : wordLexeme k = .tok t) :
    LexOK (indent ++ k ++ [0x20, 0x28, 0x0A]) [t, tLP] AnyRest :=
  (((LexOK.spaces all_isSp_indent AnyRest).app (LexOK.wordSp hk ht)).app
    (lexOK_punctNl (c := 0x28) (by decide))).congr (by simp) (by simp)

theorem lexOK_indentClose : LexOK (indent ++ [0x29, 0x0A]) [tRP] AnyRest :=
  (LexOK.spaces all_isSp_indent AnyRest).app (lexOK_punctNl (by decide))

theorem lexOK_fmtReturn (r : Ret) (hw : wfRet r = true) : LexOK (fmtReturn r) (toksReturn r) AnyRest := by
  obtain ⟨bs, w⟩ := r
  simp only [wfRet, Bool.and_eq_true] at hw
  have hb := lexOK_rawBinds indent (idWidthGo (rawBinds bs w)) bs w all_isSp_indent hw.1.1 hw.2
  exact (((lexOK_kwOpen all_isWord_return wordLexeme_return).app hb).app lexOK_indentClose).congr
    (by simp [fmtReturn, fmtBindStms]) (by simp [toksReturn])

theorem lexOK_fmtRefs : ∀ rs : List Exp, wfPRetain rs = true → LexOK (fmtRefs rs) (toksRefs rs) AnyRest
  | [], _ => LexOK.nil _
  | e :: rs, hw => by
    simp only [wfPRetain, List.all_cons, Bool.and_eq_true] at hw
    have hii := all_isSp_append all_isSp_indent all_isSp_indent
    exact (LexOK.item (LexOK.spaces hii AnyRest) (lexOK_fmt e (indent ++ indent) hw.1.2 hii)
      (lexOK_fmtRefs rs hw.2)).congr rfl (by simp [toksRefs])

theorem lexOK_fmtPRetain (rs : List Exp) (hw : wfPRetain rs = true) :
    LexOK (fmtPRetain rs) (toksPRetain rs) AnyRest :=
  (((lexOK_kwOpen all_isWord_retain wordLexeme_retain).app (lexOK_fmtRefs rs hw)).app
    lexOK_indentClose).congr (by simp [fmtPRetain]) (by simp [toksPRetain])

theorem lexOK_fmtCalls : ∀ cs : List Call2, cs.all wfCall2 = true →
    LexOK (fmtCalls cs) (toksCalls cs) AnyRest
  | [], _ => LexOK.nil _
  | c :: cs, hw => by
    simp only [List.all_cons, Bool.and_eq_true] at hw
    exact (((lexOK_nl _).app (lexOK_fmtCall2 indent c all_isSp_indent hw.1)).app
      (lexOK_fmtCalls cs hw.2)).congr (by simp [fmtCalls]) (by simp [toksCalls])

theorem lexOK_fmtBody (b : Body) (hw : wfBody b = true) : LexOK (fmtBody b) (toksBody b) AnyRest := by
  obtain ⟨cs, ret, rt⟩ := b
  simp only [wfBody, Bool.and_eq_true] at hw
  obtain ⟨⟨hcs, hret⟩, hrt⟩ := hw
  have hpre := ((lexOK_fmtCalls cs hcs).app (lexOK_nl _)).app (lexOK_fmtReturn ret hret)
  have hclose : LexOK [0x7D, 0x0A] [tRC] AnyRest := lexOK_punctNl (by decide)
  cases rt with
  | none => exact (hpre.app hclose).congr (by simp [fmtBody]) (by simp [toksBody, toksRetainOpt])
  | some rs =>
    exact ((hpre.app ((lexOK_nl _).app (lexOK_fmtPRetain rs hrt))).app hclose).congr
      (by simp [fmtBody]) (by simp [toksBody, toksRetainOpt])

theorem parseBody_fmtBody (b : Body) (hw : wfBody b = true) :
    parseBody (fmtBody b) = some (normBody b) := by
  have h := pBody_toks b [] hw
  rw [List.append_nil] at h
  simp only [parseBody, (lexOK_fmtBody b hw).lexAll_nil, Option.bind_some, h]

theorem idWidthGo_norm (tail : List Bind) : ∀ bs : List Bind,
    idWidthGo (bs.map normBind ++ tail) = idWidthGo (bs ++ tail)
  | [] => rfl
  | b :: bs => by
    simp only [List.map_cons, List.cons_append, idWidthGo, normBind, idWidthGo_norm tail bs]

theorem fmtBindsGo_norm (p : Bytes) (w : Nat) (tail : List Bind) : ∀ bs : List Bind,
    bs.all wfBind = true → fmtBindsGo p w (bs.map normBind ++ tail) = fmtBindsGo p w (bs ++ tail)
  | [], _ => rfl
  | b :: bs, hw => by
    simp only [List.all_cons, Bool.and_eq_true] at hw
    have hb := hw.1
    simp only [wfBind, Bool.and_eq_true] at hb
    have h1 : fmtBind p w (normBind b) = fmtBind p w b := by
      unfold fmtBind bindPre
      simp only [normBind]
      rw [fmt_norm b.exp (p ++ indent) hb.1.2]
      rfl
    simp only [List.map_cons, List.cons_append, fmtBindsGo, h1, fmtBindsGo_norm p w tail bs hw.2]
    rfl

theorem rawBinds_norm (bs : List Bind) (w : Option Exp) :
    rawBinds (bs.map normBind) w = bs.map normBind ++ (rawBinds [] w) := by
  simp [rawBinds]

theorem fmtBindStms_norm (p : Bytes) (bs : List Bind) (w : Option Exp) (hw : bs.all wfBind = true) :
    fmtBindStms p (rawBinds (bs.map normBind) w) = fmtBindStms p (rawBinds bs w) := by
  have e : rawBinds bs w = bs ++ rawBinds [] w := by simp [rawBinds]
  rw [fmtBindStms, fmtBindStms, rawBinds_norm, e, idWidthGo_norm, fmtBindsGo_norm p _ _ bs hw]

theorem fmtCall2_norm (p : Bytes) (c : Call2) (hw : wfCall2 c = true) :
    fmtCall2 p (normCall2 c) = fmtCall2 p c := by
  obtain ⟨d, i, bs, w, m⟩ := c
  simp only [wfCall2, Bool.and_eq_true] at hw
  simp only [fmtCall2, fmtCallRaw, normCall2, isMap2, any_split_norm, fmtBindStms_norm p bs w hw.1.1.2,
    usingPrinted_eq, modList_normMods, rawBinds_isEmpty, List.isEmpty_map]
  rfl

theorem fmtReturn_norm (r : Ret) (hw : wfRet r = true) : fmtReturn (normRet r) = fmtReturn r := by
  obtain ⟨bs, w⟩ := r
  simp only [wfRet, Bool.and_eq_true] at hw
  simp only [fmtReturn, normRet, fmtBindStms_norm indent bs w hw.1.1]

theorem fmtCalls_norm : ∀ cs : List Call2, cs.all wfCall2 = true →
    fmtCalls (cs.map normCall2) = fmtCalls cs
  | [], _ => rfl
  | c :: cs, hw => by
    simp only [List.all_cons, Bool.and_eq_true] at hw
    simp only [List.map_cons, fmtCalls, fmtCall2_norm indent c hw.1, fmtCalls_norm cs hw.2]

theorem fmtBody_norm (b : Body) (hw : wfBody b = true) : fmtBody (normBody b) = fmtBody b := by
  obtain ⟨cs, ret, rt⟩ := b
  simp only [wfBody, Bool.and_eq_true] at hw
  simp only [fmtBody, normBody, fmtCalls_norm cs hw.1.1, fmtReturn_norm ret hw.1.2]

/-! ## the Go loops on lists the parser does not build, and on lists without a wildcard -/

/-- before the first wildcard binding, both loops of `BindStms.format` see of the rest of the list
only what they compute from it -/
theorem bindStms_congr_tail (p : Bytes) {t1 t2 : List Bind} (hw : idWidthGo t1 = idWidthGo t2)
    (hf : ∀ w, fmtBindsGo p w t1 = fmtBindsGo p w t2) :
    ∀ bs : List Bind, (∀ b ∈ bs, b.id ≠ sStar) →
      idWidthGo (bs ++ t1) = idWidthGo (bs ++ t2) ∧
        ∀ w, fmtBindsGo p w (bs ++ t1) = fmtBindsGo p w (bs ++ t2)
  | [], _ => ⟨hw, hf⟩
  | b :: bs, h => by
    have ih := bindStms_congr_tail p hw hf bs (fun b' hb' => h b' (List.mem_cons_of_mem _ hb'))
    simp only [List.cons_append, idWidthGo, fmtBindsGo, ih.1, ih.2, implies_true, and_self]

theorem bindStms_plain : ∀ bs : List Bind, (∀ b ∈ bs, b.id ≠ sStar) →
    idWidthGo bs = idWidth bs ∧ ∀ w, fmtBindsGo [] w bs = fmtBinds w bs
  | [], _ => ⟨rfl, fun _ => rfl⟩
  | b :: bs, h => by
    have ih := bindStms_plain bs (fun b' hb' => h b' (List.mem_cons_of_mem _ hb'))
    have hb := h b (List.mem_cons_self ..)
    simp [idWidthGo, idWidth, fmtBindsGo, fmtBinds, fmtBind, hb, ih.1, ih.2]

theorem fmtCall2_plain (c : Call) (h : c.binds.all wfBind = true) :
    fmtCall2 [] ⟨c.decId, c.id, c.binds, none, noMods⟩ = fmtCall c := by
  have ⟨hw, hf⟩ := bindStms_plain c.binds (ne_star_of_wfBind h)
  simp [fmtCall2, fmtCallRaw, fmtCall, isMap2, isMap, rawBinds, usingPrinted, noMods, fmtBindStms, hw, hf]

end Martian.FormatCall2

/-!
C09: the call statement without wildcard and modifiers (`Martian.FormatCall`) is the full call
statement with neither, printed at the top level: the lexing layer `lexAll (fmtCall c) = some
(toksCall c)` and printing the normal form follow from `Martian.FormatCall2` through
`toksCall2_plain` and `fmtCall2_plain`; the token layer `parseCallToks_toks` is proved from
`pBinds_toks` (the full list reader without a wildcard, `pBinds_iff`) and gives the round trip
`parseCall (fmtCall c) = some (normCall c)`.
-/

namespace Martian.FormatCall
open Martian.Lexer (Bytes)
open Martian.FormatExp Martian.FormatCall2

theorem toksCall2_plain (c : Call) : toksCall2 ⟨c.decId, c.id, c.binds, none, noMods⟩ = toksCall c := by
  simp [toksCall2, toksCall, toksBinds2, toksWildOpt, toksUsing, usingPrinted, noMods, isMap2, isMap]

theorem wfCall2_plain (c : Call) (hw : wfCall c = true) :
    wfCall2 ⟨c.decId, c.id, c.binds, none, noMods⟩ = true := by
  simp only [wfCall, Bool.and_eq_true] at hw
  simp [wfCall2, hw, wfWildOpt, wfMods, noMods, distinctIds]

theorem wfBinds_of_wfCall {c : Call} (hw : wfCall c = true) : c.binds.all wfBind = true := by
  simp only [wfCall, Bool.and_eq_true] at hw
  exact hw.2

theorem lexOK_fmtBinds (w : Nat) (bs : List Bind) (h : bs.all wfBind = true) :
    LexOK (fmtBinds w bs) (toksBinds bs) AnyRest := by
  rw [← (bindStms_plain bs (ne_star_of_wfBind h)).2 w]
  exact (lexOK_fmtBindsGo [] w rfl (tail := []) (LexOK.nil AnyRest) bs h).congr (by simp) (by simp)

theorem lexOK_fmtCall (c : Call) (hw : wfCall c = true) : LexOK (fmtCall c) (toksCall c) AnyRest := by
  rw [← fmtCall2_plain c (wfBinds_of_wfCall hw), ← toksCall2_plain]
  exact lexOK_fmtCall2 [] _ rfl (wfCall2_plain c hw)

theorem lexAll_fmtCall (c : Call) (hw : wfCall c = true) : lexAll (fmtCall c) = some (toksCall c) :=
  (lexOK_fmtCall c hw).lexAll_nil

theorem parseCallToks_toks (c : Call) (hw : wfCall c = true) :
    parseCallToks (toksCall c) = some (normCall c) := by
  obtain ⟨d, i, bs⟩ := c
  simp only [wfCall, Bool.and_eq_true] at hw
  have hlen : (toksBinds bs).length + 3 ≤ (toksCall ⟨d, i, bs⟩).length := by
    simp only [toksCall, List.length_append, List.length_cons]; omega
  have hb := pBinds_toks (isMap ⟨d, i, bs⟩) (2 * (toksCall ⟨d, i, bs⟩).length + 1) bs
    ((toksCall ⟨d, i, bs⟩).length + 1) hw.2 split_isMap (by omega) (by omega)
  have hh : pHead (.reserved sCall :: .id d ::
      ((if i = d then [] else [.reserved sAs, .id i]) ++ tLP :: (toksBinds bs ++ [tRP]))) =
      some (d, i, toksBinds bs ++ [tRP]) := by
    by_cases hid : i = d <;> simp [hid, pHead]
  unfold parseCallToks
  rw [toksCall, pMapKw_toks, ← toksCall]
  simp only [hh, hb, any_split_norm, normCall]
  simp [isMap]

theorem parseCall_fmtCall (c : Call) (hw : wfCall c = true) :
    parseCall (fmtCall c) = some (normCall c) := by
  simp only [parseCall, lexAll_fmtCall c hw, Option.bind_some]
  exact parseCallToks_toks c hw

theorem idWidth_norm (bs : List Bind) : idWidth (bs.map normBind) = idWidth bs := by
  induction bs with
  | nil => rfl
  | cons b bs ih => simp [idWidth, normBind, ih]

theorem fmtBinds_norm (w : Nat) (bs : List Bind) (h : bs.all wfBind = true) :
    fmtBinds w (bs.map normBind) = fmtBinds w bs := by
  rw [← (bindStms_plain bs (ne_star_of_wfBind h)).2 w,
    ← (bindStms_plain _ (ne_star_of_wfBind (all_wfBind_norm bs h))).2 w]
  simpa using fmtBindsGo_norm [] w [] bs h

theorem wfCall_norm (c : Call) (hw : wfCall c = true) : wfCall (normCall c) = true := by
  simp only [wfCall, Bool.and_eq_true] at hw ⊢
  exact ⟨hw.1, all_wfBind_norm _ hw.2⟩

theorem fmtCall_norm (c : Call) (hw : wfCall c = true) : fmtCall (normCall c) = fmtCall c := by
  have e : (⟨(normCall c).decId, (normCall c).id, (normCall c).binds, none, noMods⟩ : Call2) =
      normCall2 ⟨c.decId, c.id, c.binds, none, noMods⟩ := rfl
  rw [← fmtCall2_plain c (wfBinds_of_wfCall hw),
    ← fmtCall2_plain (normCall c) (wfBinds_of_wfCall (wfCall_norm c hw)), e]
  exact fmtCall2_norm [] _ (wfCall2_plain c hw)

end Martian.FormatCall
