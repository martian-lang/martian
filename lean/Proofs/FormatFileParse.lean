import Martian.FormatFileText
import Proofs.FormatStageParse
import Proofs.FormatPipeParse

/-!
C09, whole files: the token layer.  `toksIncludes`, `toksDecls raw`, `toksCallOpt`: the tokens
of the pieces of a file; `pFile_toks`: the reader on the tokens of the include lines, of ANY
sequence of well-formed declarations (any order of the four kinds) and of the call returns the
`File` that `NewAst` builds from them (`distribute`), each declaration as its own reader returns it;
proved for the readers with the reading `rd` of `mem_gb` / `vmem_gb` a parameter (`pDeclsR_toks`,
`pFileR_toks`), of which `pDecls`, `pFile`, `parseFile` are the instances at `readGBTok` (`pDeclsR_exact`,
`pFileR_exact`, `parseFile_eq`).  Second part: the three lists of `distribute` are `filterMap`s of the
declarations (`filetypesOf_eq`, `structsOf_eq`, `callablesOf_eq`), hence `distribute_declsOf`, `read_false`,
`all_byKind`, `distribute_read_false`.
-/

namespace Martian.FormatFile
open Martian.Lexer (Bytes unquoteBytes)
open Martian.Format (quoteString)
open Martian.FormatExp Martian.FormatDecl Martian.FormatCall2
open Martian.FormatCall (tLP tRP)
open Martian.FormatStage (Stage pStage pStageR wfStage toksStage stageEnd pStageR_toks pStageR_exact)
open Martian.FormatPipe (Pipeline pPipeline normPipeline wfPipeline sPipeline toksPipeline toksPipelineRaw
  pPipeline_toks pPipeline_toks_gen wfPipeline_parts)
open Martian.FormatRes (sStage readGBTok ReadsBack)

def toksIncludes : List Bytes → List Tok
  | [] => []
  | p :: r => .reserved sAtInclude :: .str (quoteString p) :: toksIncludes r

/-- the tokens of a declaration; `raw`: a pipeline with its calls in source order -/
def toksDecl (raw : Bool) : Decl → List Tok
  | .filetype t => toksFiletype t
  | .struct s => toksStruct s
  | .stage s => toksStage s
  | .pipeline p => if raw then toksPipelineRaw p else toksPipeline p

def toksDecls (raw : Bool) : List Decl → List Tok
  | [] => []
  | d :: r => toksDecl raw d ++ toksDecls raw r

def toksCallOpt : Option Call2 → List Tok
  | some c => toksCall2 c
  | none => []

def toksFile (f : File) : List Tok :=
  toksIncludes f.includes ++ (toksDecls false (declsOf f) ++ toksCallOpt f.call)

/-- what the reader returns for a declaration: with the calls in `topoSort` order in the text the
normal form, with the calls in source order `readDecl` -/
def readDeclB (raw : Bool) : Decl → Decl
  | .pipeline p => if raw then readDecl (.pipeline p) else .pipeline (normPipeline p)
  | d => d

theorem toksDecls_append (raw : Bool) (a b : List Decl) :
    toksDecls raw (a ++ b) = toksDecls raw a ++ toksDecls raw b := by
  induction a with
  | nil => rfl
  | cons d a ih => simp [toksDecls, ih]

/-- what may follow the include block or a declaration: a declaration, a call statement, or the
end of the input (as far as the head token tells) -/
def declStart : List Tok → Bool
  | [] => true
  | .reserved k :: _ => k != sAtInclude
  | .id k :: _ => k == sFiletype || k == sStruct
  | _ => false

theorem declStart_stageEnd {rest : List Tok} (h : declStart rest = true) : stageEnd rest = true := by
  cases rest with
  | nil => rfl
  | cons t r =>
    cases t <;> try rfl
    rename_i k
    simp only [declStart, Bool.or_eq_true, beq_iff_eq] at h
    rcases h with h | h <;> subst h <;> simp only [stageEnd] <;> decide

theorem toksFiletype_head (t : Filetype) : ∃ r, toksFiletype t = .id sFiletype :: r := by
  obtain ⟨n⟩ := t
  cases n with
  | nil => exact ⟨_, rfl⟩
  | cons c r => exact ⟨_, rfl⟩

theorem toksDecl_head (raw : Bool) (d : Decl) :
    ∃ t r, toksDecl raw d = t :: r ∧
      (t = .id sFiletype ∨ t = .id sStruct ∨ t = .reserved sStage ∨ t = .reserved sPipeline) := by
  cases d with
  | filetype t =>
    obtain ⟨r, h⟩ := toksFiletype_head t
    exact ⟨_, r, h, Or.inl rfl⟩
  | struct s => exact ⟨_, _, rfl, Or.inr (Or.inl rfl)⟩
  | stage s => exact ⟨_, _, rfl, Or.inr (Or.inr (Or.inl rfl))⟩
  | pipeline p =>
    cases raw
    · exact ⟨_, _, rfl, Or.inr (Or.inr (Or.inr rfl))⟩
    · exact ⟨_, _, rfl, Or.inr (Or.inr (Or.inr rfl))⟩

theorem declStart_toksDecls (raw : Bool) (ds : List Decl) (rest : List Tok)
    (hr : declStart rest = true) : declStart (toksDecls raw ds ++ rest) = true := by
  cases ds with
  | nil => exact hr
  | cons d ds =>
    obtain ⟨t, r, h, ht⟩ := toksDecl_head raw d
    simp only [toksDecls, List.append_assoc, h]
    rcases ht with rfl | rfl | rfl | rfl <;> simp only [List.cons_append, declStart] <;> decide

theorem toksCallOpt_head (call : Option Call2) :
    declStart (toksCallOpt call) = true ∧ decKind (toksCallOpt call) = 0 := by
  cases call with
  | none => exact ⟨rfl, rfl⟩
  | some c =>
    obtain ⟨k, r, h, hk⟩ := toksCall2_head c
    simp only [toksCallOpt, h]
    rcases hk with rfl | rfl <;> simp only [declStart, decKind] <;> decide

theorem pIncludes_stop (f : Nat) (rest : List Tok) (hr : declStart rest = true) :
    pIncludes (f + 1) rest = some ([], rest) := by
  cases rest with
  | nil => simp [pIncludes]
  | cons t r =>
    cases t with
    | reserved k =>
      simp only [declStart, bne_iff_ne, ne_eq] at hr
      simp [pIncludes, hr]
    | _ => simp [pIncludes]

theorem pIncludes_toks : ∀ (incs : List Bytes) (f : Nat) (rest : List Tok),
    incs.all Martian.ShellQuote.validUtf8 = true → incs.length < f → declStart rest = true →
    pIncludes f (toksIncludes incs ++ rest) = some (incs, rest)
  | [], f, rest, _, hf, hr => by
    obtain ⟨g, rfl⟩ : ∃ g, f = g + 1 := ⟨f - 1, by simp at hf; omega⟩
    exact pIncludes_stop g rest hr
  | p :: incs, f, rest, hw, hf, hr => by
    obtain ⟨g, rfl⟩ : ∃ g, f = g + 1 := ⟨f - 1, by omega⟩
    simp only [List.all_cons, Bool.and_eq_true] at hw
    have ih := pIncludes_toks incs g rest hw.2 (by simp at hf; omega) hr
    have hu := Martian.Format.unquote_quoteString p hw.1
    simp only [toksIncludes, List.cons_append, pIncludes, ↓reduceIte, hu, ih]

theorem pFiletypeDecl_toks (t : Filetype) (hw : wfFiletype t = true) (rest : List Tok) :
    pFiletypeDecl (toksFiletype t ++ rest) = some (t, rest) := by
  obtain ⟨n⟩ := t
  simp only [wfFiletype, Bool.and_eq_true, Bool.not_eq_true', List.isEmpty_eq_false_iff] at hw
  match n, hw with
  | c :: r, _ =>
    have e : toksFiletype ⟨c :: r⟩ ++ rest = .id sFiletype :: .id c :: (toksDots r ++ tSemi :: rest) := by
      simp [toksFiletype]
    have h := pDots_toks r ((Tok.id sFiletype :: .id c :: (toksDots r ++ tSemi :: rest)).length + 1)
      (tSemi :: rest) (by simp [toksDots_length]; omega) (by intro r e; cases e)
    rw [e]
    unfold pFiletypeDecl
    simp only [h]
    simp

theorem pStructDecl_toks (s : Struct) (hw : wfStruct s = true) (rest : List Tok) :
    pStructDecl (toksStruct s ++ rest) = some (s, rest) := by
  obtain ⟨i, ms⟩ := s
  simp only [wfStruct, Bool.and_eq_true, Bool.not_eq_true', List.isEmpty_eq_false_iff] at hw
  have e : toksStruct ⟨i, ms⟩ ++ rest =
      .id sStruct :: .id i :: tLParen :: (toksMembers ms ++ tRParen :: rest) := by
    simp [toksStruct]
  have h := pMembers_toks ms
    ((Tok.id sStruct :: .id i :: tLParen :: (toksMembers ms ++ tRParen :: rest)).length + 1) rest hw.1.2 hw.2
    (by simp; omega)
  rw [e]
  unfold pStructDecl
  simp only [h]
  simp

theorem decKind_filetype (t : Filetype) (rest : List Tok) : decKind (toksFiletype t ++ rest) = 1 := by
  obtain ⟨r, h⟩ := toksFiletype_head t
  rw [h]; rfl

theorem pDeclsR_exact : ∀ (f : Nat) (ts : List Tok), pDeclsR readGBTok f ts = pDecls f ts
  | 0, _ => rfl
  | f + 1, ts => by
    unfold pDeclsR pDecls
    simp only [pStageR_exact, pDeclsR_exact f]
    rfl

theorem pFileR_exact (ts : List Tok) : pFileR readGBTok ts = pFile ts := by
  unfold pFileR pFile
  simp only [pDeclsR_exact]
  rfl

/-- the model reader of section WholeFile is the parameterised reader with the exact reading of
`mem_gb` / `vmem_gb` -/
theorem parseFile_eq (src : Bytes) : parseFile src = parseFileR readGBTok src := by
  unfold parseFile parseFileR
  congr 1
  funext ts
  exact (pFileR_exact ts).symm

/-- `rd` reads the printed `mem_gb` / `vmem_gb` of every stage among the declarations back -/
def DeclsReadBack (rd : Tok → Option Int) (ds : List Decl) : Prop :=
  ∀ s, Decl.stage s ∈ ds → ∀ r, s.res = some r → ReadsBack rd r

theorem pDeclsR_toks (rd : Tok → Option Int) (raw : Bool) : ∀ (ds : List Decl) (f : Nat) (rest : List Tok),
    ds.all wfDecl = true → DeclsReadBack rd ds → ds.length < f → decKind rest = 0 →
    declStart rest = true →
    pDeclsR rd f (toksDecls raw ds ++ rest) = some (ds.map (readDeclB raw), rest)
  | [], f, rest, _, _, hf, hk, _ => by
    obtain ⟨g, rfl⟩ : ∃ g, f = g + 1 := ⟨f - 1, by simp at hf; omega⟩
    simp only [toksDecls, List.nil_append, pDeclsR, hk, List.map_nil]
  | d :: ds, f, rest, hw, hrd, hf, hk, hr => by
    obtain ⟨g, rfl⟩ : ∃ g, f = g + 1 := ⟨f - 1, by omega⟩
    simp only [List.all_cons, Bool.and_eq_true] at hw
    have ih := pDeclsR_toks rd raw ds g rest hw.2 (fun s hs => hrd s (List.mem_cons_of_mem _ hs))
      (by simp at hf; omega) hk hr
    have hR := declStart_toksDecls raw ds rest hr
    have e : toksDecls raw (d :: ds) ++ rest = toksDecl raw d ++ (toksDecls raw ds ++ rest) := by
      simp [toksDecls]
    rw [e, pDeclsR]
    cases d with
    | filetype t =>
      simp only [toksDecl, decKind_filetype t, pFiletypeDecl_toks t hw.1, ih, Option.map_some, List.map_cons,
        readDeclB]
    | struct s =>
      have h1 : decKind (toksStruct s ++ (toksDecls raw ds ++ rest)) = 2 := rfl
      simp only [toksDecl, h1, pStructDecl_toks s hw.1, ih, Option.map_some, List.map_cons, readDeclB]
    | stage s =>
      have h1 : decKind (toksStage s ++ (toksDecls raw ds ++ rest)) = 3 := rfl
      simp only [toksDecl, h1, pStageR_toks rd s hw.1 (hrd s (List.mem_cons_self ..)) _ (declStart_stageEnd hR),
        ih, Option.map_some, List.map_cons, readDeclB]
    | pipeline p =>
      cases raw with
      | false =>
        have h1 : decKind (toksPipeline p ++ (toksDecls false ds ++ rest)) = 4 := rfl
        simp only [toksDecl, Bool.false_eq_true, ↓reduceIte, h1, pPipeline_toks p _ hw.1, ih, Option.map_some,
          List.map_cons, readDeclB]
      | true =>
        have h1 : decKind (toksPipelineRaw p ++ (toksDecls true ds ++ rest)) = 4 := rfl
        obtain ⟨_, hwi, hi, hwo, ho, hb, _⟩ := wfPipeline_parts (p := p) hw.1
        have h2 := pPipeline_toks_gen p.id p.ins p.outs p.body (toksDecls true ds ++ rest) hwi hi hwo ho hb
        simp only [toksDecl, ↓reduceIte, toksPipelineRaw] at h1 h2 ⊢
        simp only [h1, h2, ih, Option.map_some, List.map_cons, readDeclB, readDecl, ↓reduceIte]

theorem toksDecls_length (raw : Bool) : ∀ ds : List Decl, ds.length ≤ (toksDecls raw ds).length
  | [] => Nat.le_refl _
  | d :: ds => by
    have := toksDecls_length raw ds
    obtain ⟨t, r, h, _⟩ := toksDecl_head raw d
    simp only [toksDecls, h, List.length_cons, List.length_append]
    omega

theorem toksIncludes_length : ∀ incs : List Bytes, (toksIncludes incs).length = 2 * incs.length
  | [] => rfl
  | p :: incs => by
    simp only [toksIncludes, List.length_cons, toksIncludes_length incs]
    omega

theorem pFileR_toks (rd : Tok → Option Int) (raw : Bool) (incs : List Bytes) (ds : List Decl)
    (call : Option Call2) (hw : wfSource incs ds call = true) (hrd : DeclsReadBack rd ds) :
    pFileR rd (toksIncludes incs ++ (toksDecls raw ds ++ toksCallOpt call)) =
      some (distribute incs (ds.map (readDeclB raw)) (call.map normCall2)) := by
  simp only [wfSource, Bool.and_eq_true, Bool.or_eq_true, Bool.not_eq_true',
    List.isEmpty_eq_false_iff] at hw
  obtain ⟨⟨⟨hi, hd⟩, hc⟩, hne⟩ := hw
  have hlen1 := toksIncludes_length incs
  have hlen2 := toksDecls_length raw ds
  have h1 := pIncludes_toks incs
    ((toksIncludes incs ++ (toksDecls raw ds ++ toksCallOpt call)).length + 1)
    (toksDecls raw ds ++ toksCallOpt call) hi
    (by simp only [List.length_append]; omega)
    (declStart_toksDecls raw ds _ (toksCallOpt_head call).1)
  have h2 := pDeclsR_toks rd raw ds
    ((toksIncludes incs ++ (toksDecls raw ds ++ toksCallOpt call)).length + 1)
    (toksCallOpt call) hd hrd
    (by simp only [List.length_append]; omega)
    (toksCallOpt_head call).2 (toksCallOpt_head call).1
  unfold pFileR
  simp only [h1, h2]
  cases call with
  | none =>
    have hds : ds ≠ [] := by
      rcases hne with h | h
      · exact h
      · simp at h
    have : (ds.map (readDeclB raw)).isEmpty = false := by
      cases ds with
      | nil => exact absurd rfl hds
      | cons d ds => rfl
    simp only [toksCallOpt, this, Bool.false_eq_true, ↓reduceIte, Option.map_none]
  | some c =>
    obtain ⟨k, r, hk, _⟩ := toksCall2_head c
    have h3 := pCall2_toks c [] hc noUsing_nil
    rw [List.append_nil, hk] at h3
    simp only [toksCallOpt, hk, h3, Option.map_some]

theorem declsReadBack_exact {ds : List Decl} (hd : ds.all wfDecl = true) : DeclsReadBack readGBTok ds :=
  fun s hs => Martian.FormatStage.readsBack_exact (List.all_eq_true.mp hd _ hs)

theorem pDecls_toks (raw : Bool) (ds : List Decl) (f : Nat) (rest : List Tok)
    (hw : ds.all wfDecl = true) (hf : ds.length < f) (hk : decKind rest = 0) (hr : declStart rest = true) :
    pDecls f (toksDecls raw ds ++ rest) = some (ds.map (readDeclB raw), rest) := by
  rw [← pDeclsR_exact]
  exact pDeclsR_toks _ raw ds f rest hw (declsReadBack_exact hw) hf hk hr

theorem pFile_toks (raw : Bool) (incs : List Bytes) (ds : List Decl) (call : Option Call2)
    (hw : wfSource incs ds call = true) :
    pFile (toksIncludes incs ++ (toksDecls raw ds ++ toksCallOpt call)) =
      some (distribute incs (ds.map (readDeclB raw)) (call.map normCall2)) := by
  rw [← pFileR_exact]
  refine pFileR_toks _ raw incs ds call hw (declsReadBack_exact ?_)
  simp only [wfSource, Bool.and_eq_true] at hw
  exact hw.1.1.2

/-- the declaration as a filetype / a struct / a callable, if it is one -/
def Decl.filetype? : Decl → Option Filetype | .filetype t => some t | _ => none
def Decl.struct? : Decl → Option Struct | .struct s => some s | _ => none
def Decl.callable? : Decl → Option Callable
  | .stage s => some (.stage s) | .pipeline p => some (.pipeline p) | _ => none

theorem filetypesOf_eq (ds : List Decl) : filetypesOf ds = ds.filterMap Decl.filetype? := by
  induction ds with
  | nil => rfl
  | cons d ds ih => cases d <;> simp [filetypesOf, List.filterMap_cons, Decl.filetype?, ih]

theorem structsOf_eq (ds : List Decl) : structsOf ds = ds.filterMap Decl.struct? := by
  induction ds with
  | nil => rfl
  | cons d ds ih => cases d <;> simp [structsOf, List.filterMap_cons, Decl.struct?, ih]

theorem callablesOf_eq (ds : List Decl) : callablesOf ds = ds.filterMap Decl.callable? := by
  induction ds with
  | nil => rfl
  | cons d ds ih => cases d <;> simp [callablesOf, List.filterMap_cons, Decl.callable?, ih]

theorem distribute_declsOf (f : File) : distribute f.includes (declsOf f) f.call = f := by
  obtain ⟨i, t, s, c, k⟩ := f
  have h1 : Decl.callable? ∘ Callable.toDecl = some := funext fun c => by cases c <;> rfl
  have h2 : Decl.filetype? ∘ Callable.toDecl = fun _ => none := funext fun c => by cases c <;> rfl
  have h3 : Decl.struct? ∘ Callable.toDecl = fun _ => none := funext fun c => by cases c <;> rfl
  have hn : ∀ {α β : Type} (l : List α), l.filterMap (fun _ => (none : Option β)) = [] := by
    intro _ _ l; induction l <;> simp_all
  simp [distribute, declsOf, filetypesOf_eq, structsOf_eq, callablesOf_eq, List.filterMap_append,
    List.filterMap_map, h1, h2, h3, hn, Function.comp_def, Decl.filetype?, Decl.struct?, Decl.callable?]

theorem read_false (ds : List Decl) :
    filetypesOf (ds.map (readDeclB false)) = filetypesOf ds ∧
    structsOf (ds.map (readDeclB false)) = structsOf ds ∧
    callablesOf (ds.map (readDeclB false)) = (callablesOf ds).map normCallable := by
  simp only [filetypesOf_eq, structsOf_eq, callablesOf_eq, List.filterMap_map, List.map_filterMap]
  refine ⟨?_, ?_, ?_⟩ <;> congr 1 <;> funext d <;> cases d <;> rfl

/-- a property of all declarations holds of all filetypes, structs and callables among them -/
theorem all_byKind {p : Decl → Bool} {pf : Filetype → Bool} {ps : Struct → Bool} {pc : Callable → Bool}
    (hf : ∀ t, p (.filetype t) = pf t) (hs : ∀ s, p (.struct s) = ps s) (hc : ∀ c, p c.toDecl = pc c)
    {ds : List Decl} (h : ds.all p = true) :
    (filetypesOf ds).all pf = true ∧ (structsOf ds).all ps = true ∧ (callablesOf ds).all pc = true := by
  simp only [filetypesOf_eq, structsOf_eq, callablesOf_eq, List.all_eq_true, List.mem_filterMap] at h ⊢
  refine ⟨?_, ?_, ?_⟩ <;> rintro x ⟨d, hd, e⟩ <;> cases d <;> cases e
  · exact hf _ ▸ h _ hd
  · exact hs _ ▸ h _ hd
  · exact hc (.stage _) ▸ h _ hd
  · exact hc (.pipeline _) ▸ h _ hd

theorem distribute_read_false (incs : List Bytes) (ds : List Decl) (call : Option Call2) :
    distribute incs (ds.map (readDeclB false)) (call.map normCall2) =
      normFile (distribute incs ds call) := by
  obtain ⟨h1, h2, h3⟩ := read_false ds
  simp only [distribute, normFile, h1, h2, h3]

theorem readDeclB_true : readDeclB true = readDecl := by
  funext d
  cases d <;> simp [readDeclB, readDecl]

end Martian.FormatFile
