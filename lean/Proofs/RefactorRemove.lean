import Proofs.RefactorGraph

/-! C19 — the removal primitives of Martian/Refactor.lean.  `Below p' p`: same shape, measure not
larger; `Agree p0 p`: the two programs agree on which names denote pipelines; `Spec q r`: what a
pass `q ↦ r` guarantees.  Each removal is a map over the callables: `FRem x q` / `dropB x q`
(`removeInputOne_eq`), `dropCalls rem` (`applyCallRemovals_eq`), `dropOuts T` (`outsPass_eq`).
`TableOK` is the invariant of the table of `unusedOutputs` (`populate_ok`, `unusedOutputs_ok`), needed for
`outsPass_spec`.  Main lemmas: `mem_unusedCalls`, `callsPass_spec`, `outsPass_spec`, `removeStep_spec`,
`fixpoint_terminates`. -/
-- `dropB` and `FRem` keep the namespace in which `Proofs.RefactorGraph.foldF` and the graph files name them
namespace Proofs.RefactorGraph
open Martian.Refactor

section Rem
variable (x q : String)

def dropB (c : Call) : Call :=
  if c.decId = x then { c with binds := removeFirstBind q c.binds } else c

def FRem (c : Callable) : Callable :=
  { c with ins := if c.name = x then removeFirstStr q c.ins else c.ins,
           calls := if c.isPipe then c.calls.map (dropB x q) else c.calls }

end Rem

end Proofs.RefactorGraph

namespace Proofs.Refactor
open Martian.Refactor Proofs.RefactorGraph
open Proofs.ListFacts (sum_map_le sum_map_lt)

theorem foldl_sublist {α β : Type} (f : List α → β → List α) (hf : ∀ l b, (f l b).Sublist l)
    (bs : List β) (l : List α) : (bs.foldl f l).Sublist l :=
  List.foldlRecOn bs f (motive := (·.Sublist l)) (List.Sublist.refl l) fun acc h b _ => (hf acc b).trans h

theorem length_eraseP_lt {α : Type} {p : α → Bool} {l : List α} {a : α} (ha : a ∈ l) (hp : p a = true) :
    (l.eraseP p).length < l.length := by
  have := List.length_eraseP_of_mem ha hp
  have := List.length_pos_of_mem ha
  omega

theorem removeFirstStr_eq (q : String) (l : List String) : removeFirstStr q l = l.eraseP (· == q) := by
  induction l with
  | nil => rfl
  | cons a l ih => simp [removeFirstStr, List.eraseP_cons, ih]

theorem removeFirstOut_eq (o : String) (l : List (String × Bool)) :
    removeFirstOut o l = l.eraseP (·.1 == o) := by
  induction l with
  | nil => rfl
  | cons a l ih => simp [removeFirstOut, List.eraseP_cons, ih]

theorem removeCallById_eq (id : String) (cs : List Call) : removeCallById id cs = cs.eraseP (·.id == id) := by
  induction cs with
  | nil => rfl
  | cons c cs ih => simp [removeCallById, List.eraseP_cons, ih]

theorem removeFirstStr_length_le (q : String) (l : List String) :
    (removeFirstStr q l).length ≤ l.length :=
  removeFirstStr_eq q l ▸ List.length_eraseP_le

theorem removeFirstStr_length_lt (q : String) (l : List String) (h : q ∈ l) :
    (removeFirstStr q l).length < l.length :=
  removeFirstStr_eq q l ▸ length_eraseP_lt h (beq_self_eq_true q)

theorem removeFirstOut_length_lt (o : String) (l : List (String × Bool)) (h : o ∈ l.map (·.1)) :
    (removeFirstOut o l).length < l.length := by
  obtain ⟨a, ha, hao⟩ := List.mem_map.mp h
  exact removeFirstOut_eq o l ▸ length_eraseP_lt ha (by simp [hao])

theorem removeCallById_sublist (id : String) (cs : List Call) : List.Sublist (removeCallById id cs) cs :=
  removeCallById_eq id cs ▸ List.eraseP_sublist

theorem removeCallById_length (id : String) (cs : List Call) (h : ∃ c ∈ cs, c.id = id) :
    (removeCallById id cs).length < cs.length := by
  obtain ⟨c, hc, hci⟩ := h
  exact removeCallById_eq id cs ▸ length_eraseP_lt hc (by simp [hci])

theorem foldl_removeCallById_sublist (ids : List String) (cs : List Call) :
    List.Sublist (ids.foldl (fun cs id => removeCallById id cs) cs) cs :=
  foldl_sublist _ (fun cs id => removeCallById_sublist id cs) ids cs

theorem removeCallById_eq_filter (id : String) (cs : List Call) (hnd : (cs.map (·.id)).Nodup) :
    removeCallById id cs = cs.filter (fun k => k.id != id) := by
  induction cs with
  | nil => rfl
  | cons a t ih =>
    simp only [List.map_cons, List.nodup_cons] at hnd
    simp only [removeCallById]
    split
    · rename_i ha
      have hall : ∀ k ∈ t, k.id ≠ id := fun k hk e =>
        hnd.1 (ha ▸ e ▸ List.mem_map.mpr ⟨k, hk, rfl⟩)
      have : t.filter (fun k => k.id != id) = t := by
        rw [List.filter_eq_self]
        intro k hk
        simpa using hall k hk
      simp [ha, this]
    · rename_i ha
      simp [ha, ih hnd.2]

theorem foldl_removeCallById (ids : List String) : ∀ (cs : List Call), (cs.map (·.id)).Nodup →
    ids.foldl (fun cs id => removeCallById id cs) cs = cs.filter (fun k => !ids.contains k.id) := by
  induction ids with
  | nil => intro cs _; exact (List.filter_eq_self.mpr fun _ _ => rfl).symm
  | cons i rest ih =>
    intro cs hnd
    simp only [List.foldl_cons]
    rw [removeCallById_eq_filter i cs hnd, ih _ (hnd.sublist (List.filter_sublist.map _)), List.filter_filter]
    apply List.filter_congr
    intro k _
    by_cases h : k.id = i
    · simp [h]
    · simp [h]

theorem removeFirstBind_filter (q : String) (bs : List Bind) :
    (removeFirstBind q bs).filter (·.name != q) = bs.filter (·.name != q) := by
  induction bs with
  | nil => rfl
  | cons b bs ih =>
    simp only [removeFirstBind]
    split
    · rename_i h
      simp [h]
    · simp only [List.filter_cons, ih]

def cm (c : Callable) : Nat := c.calls.length + c.outs.length + c.ins.length

theorem measure_eq (p : Program) : measure p = (p.callables.map cm).sum := rfl

theorem cm_le {c' c : Callable} (h1 : c'.calls.length ≤ c.calls.length)
    (h2 : c'.outs.length ≤ c.outs.length) (h3 : c'.ins.length ≤ c.ins.length) : cm c' ≤ cm c :=
  Nat.add_le_add (Nat.add_le_add h1 h2) h3

theorem cm_lt {c' c : Callable} (h1 : c'.calls.length ≤ c.calls.length)
    (h2 : c'.outs.length ≤ c.outs.length) (h3 : c'.ins.length ≤ c.ins.length)
    (h : c'.calls.length < c.calls.length ∨ c'.outs.length < c.outs.length ∨ c'.ins.length < c.ins.length) :
    cm c' < cm c := by
  unfold cm
  omega

def shape (p : Program) : List (String × Bool) := p.callables.map (fun c => (c.name, c.isPipe))

theorem find?_shape (p : Program) (n : String) :
    (p.find? n).map (fun c => (c.name, c.isPipe)) = (shape p).find? (fun e => e.1 == n) := by
  unfold Program.find? shape
  rw [List.find?_map]
  rfl

def Shrinks (F : Callable → Callable) : Prop :=
  ∀ c, (F c).name = c.name ∧ (F c).isPipe = c.isPipe ∧ cm (F c) ≤ cm c

def Below (p' p : Program) : Prop := shape p' = shape p ∧ measure p' ≤ measure p

theorem Below.refl (p : Program) : Below p p := ⟨rfl, Nat.le_refl _⟩

theorem Below.trans {p₃ p₂ p₁ : Program} (h : Below p₃ p₂) (h' : Below p₂ p₁) : Below p₃ p₁ :=
  ⟨h.1.trans h'.1, Nat.le_trans h.2 h'.2⟩

theorem Shrinks.below {F : Callable → Callable} (h : Shrinks F) (p : Program) (t : Option Call) :
    Below ⟨p.callables.map F, t⟩ p := by
  constructor
  · unfold shape
    rw [List.map_map]
    exact List.map_congr_left fun c _ => by simp only [Function.comp, (h c).1, (h c).2.1]
  · rw [measure_eq, measure_eq, List.map_map]
    exact sum_map_le _ _ _ fun c _ => (h c).2.2

theorem Shrinks.lt {F : Callable → Callable} (h : Shrinks F) (p : Program) (t : Option Call)
    {a : Callable} (ha : a ∈ p.callables) (hlt : cm (F a) < cm a) :
    measure ⟨p.callables.map F, t⟩ < measure p := by
  rw [measure_eq, measure_eq, List.map_map]
  exact sum_map_lt _ _ _ (fun c _ => (h c).2.2) ⟨a, ha, hlt⟩

/-- `p0` and `p` agree on which names denote pipelines (as far as needed) -/
def Agree (p0 p : Program) : Prop :=
  ∀ n d d', p0.find? n = some d → p.find? n = some d' → d.isPipe = true → d'.isPipe = true

theorem Agree_refl (p : Program) : Agree p p := by
  intro n d d' h1 h2 h3
  rw [h1] at h2
  cases h2
  exact h3

theorem Agree_of_shape {p0 p p' : Program} (h : Agree p0 p) (hs : shape p' = shape p) : Agree p0 p' := by
  intro n d d' h1 h2 h3
  have e := find?_shape p' n
  rw [hs, ← find?_shape p n, h2] at e
  obtain ⟨d'', hp, hd⟩ := Option.map_eq_some_iff.mp e.symm
  exact (Prod.mk.inj hd).2 ▸ h n d d'' h1 hp h3

theorem removeInputOne_eq (x q : String) (p : Program) :
    removeInputOne x q p = ⟨p.callables.map (FRem x q), p.top.map (dropB x q)⟩ := by
  unfold removeInputOne
  simp only [Program.mk.injEq]
  refine ⟨List.map_congr_left fun c _ => ?_, rfl⟩
  obtain ⟨isPipe, name, keep, ins, outs, sretain, calls, ret, retain⟩ := c
  by_cases hx : name = x <;> cases isPipe <;> simp [FRem, dropB, hx]

theorem FRem_calls_length (x q : String) (c : Callable) :
    (FRem x q c).calls.length = c.calls.length := by
  simp only [FRem]
  split
  · exact List.length_map _
  · rfl

theorem FRem_ins_length (x q : String) (c : Callable) :
    (FRem x q c).ins.length ≤ c.ins.length := by
  simp only [FRem]
  split
  · exact removeFirstStr_length_le q c.ins
  · exact Nat.le_refl _

theorem FRem_shrinks (x q : String) : Shrinks (FRem x q) := fun c =>
  ⟨rfl, rfl, cm_le (Nat.le_of_eq (FRem_calls_length x q c)) (Nat.le_refl _) (FRem_ins_length x q c)⟩

theorem removeInputOne_below (x q : String) (p : Program) : Below (removeInputOne x q p) p := by
  rw [removeInputOne_eq]
  exact (FRem_shrinks x q).below p _

theorem removeInputOne_lt (x q : String) (p : Program) (c : Callable) (hc : c ∈ p.callables)
    (hx : c.name = x) (hq : q ∈ c.ins) : measure (removeInputOne x q p) < measure p := by
  rw [removeInputOne_eq]
  refine (FRem_shrinks x q).lt p _ hc
    (cm_lt (Nat.le_of_eq (FRem_calls_length x q c)) (Nat.le_refl _) (FRem_ins_length x q c) (.inr (.inr ?_)))
  simp only [FRem, hx, if_true]
  exact removeFirstStr_length_lt q c.ins hq

theorem removeInputs_below (pairs : List (String × String)) (p : Program) :
    Below (removeInputs pairs p) p := by
  unfold removeInputs
  induction pairs generalizing p with
  | nil => exact Below.refl p
  | cons a l ih => exact (ih _).trans (removeInputOne_below a.1 a.2 p)

theorem removeInputs_nil (p : Program) : removeInputs [] p = p := rfl

theorem removeInputs_lt (x q : String) (rest : List (String × String)) (p : Program) (c : Callable)
    (hc : c ∈ p.callables) (hx : c.name = x) (hq : q ∈ c.ins) :
    measure (removeInputs ((x, q) :: rest) p) < measure p :=
  Nat.lt_of_le_of_lt (removeInputs_below rest (removeInputOne x q p)).2 (removeInputOne_lt x q p c hc hx hq)

theorem removeInput_eq {x : String} {p : Program} (hx : (p.find? x).isSome = true) (q : String) :
    removeInput x q p = removeInputs (removeInputClosure p (closureFuel p) [(x, q)] []) p := by
  unfold removeInput
  cases h : p.find? x with
  | none => rw [h] at hx; cases hx
  | some _ => rfl

theorem remove_input_only (x q : String) (p : Program) (c : Callable)
    (hc : c ∈ (removeInputOne x q p).callables) :
    ∃ c0 ∈ p.callables, c.name = c0.name ∧ c.ret = c0.ret ∧ c.retain = c0.retain ∧ c.outs = c0.outs
      ∧ c.calls.map (fun k => (k.id, k.decId, k.mods, k.binds.filter (·.name != q)))
        = c0.calls.map (fun k => (k.id, k.decId, k.mods, k.binds.filter (·.name != q))) := by
  rw [removeInputOne_eq] at hc
  obtain ⟨c0, hc0, rfl⟩ := List.mem_map.mp hc
  refine ⟨c0, hc0, rfl, rfl, rfl, rfl, ?_⟩
  simp only [FRem]
  split
  · rw [List.map_map]
    refine List.map_congr_left fun k _ => ?_
    simp only [Function.comp, dropB]
    split
    · simp only [removeFirstBind_filter]
    · rfl
  · rfl

theorem closure_prefix (p : Program) (fuel : Nat) (work done : List (String × String)) :
    done <+: removeInputClosure p fuel work done := by
  induction fuel generalizing work done with
  | zero => exact List.prefix_refl _
  | succ fuel ih =>
    cases work with
    | nil => exact List.prefix_refl _
    | cons w ws =>
      simp only [removeInputClosure]
      split
      · exact ih _ _
      · exact (List.prefix_append done [w]).trans (ih _ _)

theorem closure_nil (p : Program) (fuel : Nat) (done : List (String × String)) :
    removeInputClosure p fuel [] done = done := by
  cases fuel <;> rfl

theorem closure_head {p : Program} {fuel : Nat} {work : List (String × String)} {w : String × String}
    {rest : List (String × String)} (h : removeInputClosure p fuel work [] = w :: rest) :
    ∃ ws, work = w :: ws := by
  cases fuel with
  | zero => cases h
  | succ fuel =>
    cases work with
    | nil => cases h
    | cons v ws =>
      simp only [removeInputClosure, List.contains_nil, Bool.false_eq_true, if_false, List.nil_append] at h
      have hv : [v] <+: w :: rest := h ▸ closure_prefix p fuel _ [v]
      exact ⟨ws, by rw [(List.cons_prefix_cons.mp hv).1]⟩

def dropCalls (rem : List CallRemoval) (c : Callable) : Callable :=
  match rem.find? (fun r => r.pipe == c.name) with
  | some r => if c.isPipe then { c with calls := r.ids.foldl (fun cs id => removeCallById id cs) c.calls } else c
  | none => c

theorem applyCallRemovals_eq (rem : List CallRemoval) (p : Program) :
    applyCallRemovals rem p = ⟨p.callables.map (dropCalls rem), p.top⟩ := rfl

def idsToDrop (rem : List CallRemoval) (c : Callable) : List String :=
  match rem.find? (fun r => r.pipe == c.name) with
  | some r => if c.isPipe then r.ids else []
  | none => []

theorem dropCalls_eq (rem : List CallRemoval) (c : Callable) :
    dropCalls rem c = { c with calls := (idsToDrop rem c).foldl (fun cs id => removeCallById id cs) c.calls } := by
  unfold dropCalls idsToDrop
  cases rem.find? (fun r => r.pipe == c.name) with
  | none => rfl
  | some r =>
    simp only []
    split <;> rfl

theorem dropCalls_fields (rem : List CallRemoval) (c : Callable) :
    (dropCalls rem c).name = c.name ∧ (dropCalls rem c).isPipe = c.isPipe ∧ (dropCalls rem c).outs = c.outs
    ∧ (dropCalls rem c).ret = c.ret ∧ (dropCalls rem c).retain = c.retain ∧ (dropCalls rem c).ins = c.ins := by
  rw [dropCalls_eq]
  exact ⟨rfl, rfl, rfl, rfl, rfl, rfl⟩

theorem dropCalls_sublist (rem : List CallRemoval) (c : Callable) : (dropCalls rem c).calls.Sublist c.calls := by
  rw [dropCalls_eq]
  exact foldl_removeCallById_sublist _ _

theorem dropCalls_shrinks (rem : List CallRemoval) : Shrinks (dropCalls rem) := fun c => by
  rw [dropCalls_eq]
  exact ⟨rfl, rfl, cm_le (foldl_removeCallById_sublist _ _).length_le (Nat.le_refl _) (Nat.le_refl _)⟩

theorem applyCallRemovals_below (rem : List CallRemoval) (p : Program) : Below (applyCallRemovals rem p) p :=
  (dropCalls_shrinks rem).below p _

theorem applyCallRemovals_le (rem : List CallRemoval) (p : Program) :
    measure (applyCallRemovals rem p) ≤ measure p :=
  (applyCallRemovals_below rem p).2

theorem dropCalls_head_lt (pipe : Callable) (i : String) (is : List String) (rs : List CallRemoval)
    (hp : pipe.isPipe = true) (hi : ∃ c ∈ pipe.calls, c.id = i) :
    cm (dropCalls (⟨pipe.name, i :: is⟩ :: rs) pipe) < cm pipe := by
  have hids : idsToDrop (⟨pipe.name, i :: is⟩ :: rs) pipe = i :: is := by
    simp only [idsToDrop, List.find?_cons, beq_self_eq_true, hp, if_true]
  have hlt : ((i :: is).foldl (fun cs id => removeCallById id cs) pipe.calls).length < pipe.calls.length :=
    Nat.lt_of_le_of_lt (foldl_removeCallById_sublist is _).length_le (removeCallById_length i pipe.calls hi)
  rw [dropCalls_eq, hids]
  exact cm_lt (Nat.le_of_lt hlt) (Nat.le_refl _) (Nat.le_refl _) (.inl hlt)

def usedCallIds (p : Program) (pipe : Callable) : List String :=
  bindsRefIds RefKind.call pipe.ret
  ++ ((pipe.retain.filter (·.kind == RefKind.call)).map (·.id))
  ++ pipe.calls.flatMap (fun c =>
       bindsRefIds RefKind.call (compiledBinds p pipe c) ++ bindsRefIds RefKind.call c.mods)

theorem mem_unusedCalls {p : Program} {pipe : Callable} {id : String} (h : id ∈ unusedCalls p pipe) :
    (∃ c ∈ pipe.calls, c.id = id) ∧ id ∉ usedCallIds p pipe := by
  unfold unusedCalls at h
  simp only [List.mem_map, List.mem_filter, Bool.not_eq_true'] at h
  obtain ⟨c, ⟨⟨hc, _⟩, hnot⟩, rfl⟩ := h
  exact ⟨⟨c, hc, rfl⟩, fun hmem => Bool.noConfusion ((List.contains_iff_mem.mpr hmem).symm.trans hnot)⟩

theorem applyCallRemovals_lt (p : Program) (h : (unusedCallPlan p).1 ≠ []) :
    measure (applyCallRemovals (unusedCallPlan p).1 p) < measure p := by
  obtain ⟨r0, rs, hr⟩ := List.exists_cons_of_ne_nil h
  have hr0 : r0 ∈ ((p.callables.filter (·.isPipe)).map fun pipe =>
      (⟨pipe.name, unusedCalls p pipe⟩ : CallRemoval)).filter (fun r => !r.ids.isEmpty) :=
    show r0 ∈ (unusedCallPlan p).1 by rw [hr]; exact List.mem_cons_self
  simp only [List.mem_filter, List.mem_map] at hr0
  obtain ⟨⟨pipe, ⟨hmem, hpipe⟩, rfl⟩, hne⟩ := hr0
  rw [hr]
  apply (dropCalls_shrinks _).lt p _ hmem
  cases hids : unusedCalls p pipe with
  | nil => rw [hids] at hne; cases hne
  | cons i is =>
    exact dropCalls_head_lt pipe i is rs hpipe (mem_unusedCalls (hids ▸ List.mem_cons_self)).1

theorem bindsRefIds_mono (k : RefKind) {bs bs' : List Bind} (h : ∀ b ∈ bs, b ∈ bs') {x : String}
    (hx : x ∈ bindsRefIds k bs) : x ∈ bindsRefIds k bs' := by
  unfold bindsRefIds at *
  rw [List.mem_flatMap] at *
  obtain ⟨b, hb, hxb⟩ := hx
  exact ⟨b, h b hb, hxb⟩

theorem mem_withMaster (m : Option Ref) {bs : List Bind} {b : Bind} (hb : b ∈ bs) : b ∈ withMaster m bs := by
  unfold withMaster
  split
  · exact hb
  · rw [List.mem_flatMap]
    refine ⟨b, hb, ?_⟩
    split <;> simp

theorem mem_compiledBinds (p : Program) (pipe : Callable) (c : Call) {b : Bind} (hb : b ∈ c.binds) :
    b ∈ compiledBinds p pipe c := by
  unfold compiledBinds
  apply mem_withMaster
  split
  · split
    · simp [hb]
    · exact hb
  · exact hb

theorem callRefIdsOf_used (p : Program) (pipe : Callable) {id : String} (h : id ∈ callRefIdsOf pipe) :
    id ∈ usedCallIds p pipe := by
  unfold callRefIdsOf at h
  unfold usedCallIds
  rw [List.mem_append] at h ⊢
  refine h.imp_right fun h => ?_
  rw [List.mem_flatMap] at h ⊢
  obtain ⟨k, hk, hx⟩ := h
  refine ⟨k, hk, ?_⟩
  rw [List.mem_append] at hx ⊢
  exact hx.imp_left (bindsRefIds_mono _ fun b hb => mem_compiledBinds p pipe k hb)

theorem remove_unused_preserves (p : Program) (pipe : Callable) (id : String)
    (hid : id ∈ unusedCalls p pipe) :
    id ∉ callRefIdsOf pipe
    ∧ ∀ rem c, c ∈ (applyCallRemovals rem p).callables →
        ∃ c0 ∈ p.callables, c.name = c0.name ∧ c.ret = c0.ret ∧ c.retain = c0.retain ∧
          c.outs = c0.outs ∧ c.ins = c0.ins ∧ List.Sublist c.calls c0.calls := by
  refine ⟨fun hmem => (mem_unusedCalls hid).2 (callRefIdsOf_used p pipe hmem), fun rem c hc => ?_⟩
  rw [applyCallRemovals_eq] at hc
  obtain ⟨c0, hc0, rfl⟩ := List.mem_map.mp hc
  have hsub := dropCalls_sublist rem c0
  rw [dropCalls_eq] at hsub ⊢
  exact ⟨c0, hc0, rfl, rfl, rfl, rfl, rfl, hsub⟩

/- Invariant of the table that `unusedOutputs` builds and prunes: distinct names, each naming a
callable of `p` and listing only outputs of it.  That callable is a pipeline, except possibly for
an entry named like a top pipeline (`populate` enters those too; they are filtered out before the
walk), which is why the invariant carries `tops`. -/

def EntryOK (p : Program) (tops : List String) (e : String × List String) : Prop :=
  ∃ pipe, p.find? e.1 = some pipe ∧ (tops.contains e.1 = true ∨ pipe.isPipe = true) ∧
    ∀ o ∈ e.2, o ∈ pipe.outs.map (·.1)

def TableOK (p : Program) (tops : List String) (t : List (String × List String)) : Prop :=
  (t.map (·.1)).Nodup ∧ ∀ e ∈ t, EntryOK p tops e

theorem TableOK_nil (p : Program) (tops : List String) : TableOK p tops [] :=
  ⟨List.nodup_nil, fun _ h => by cases h⟩

theorem TableOK_filter {p : Program} {tops : List String} {t : List (String × List String)}
    (q : String × List String → Bool) (h : TableOK p tops t) : TableOK p tops (t.filter q) :=
  ⟨List.Nodup.sublist (List.Sublist.map _ List.filter_sublist) h.1,
   fun e he => h.2 e (List.mem_filter.mp he).1⟩

theorem TableOK_map {p : Program} {tops : List String} {t : List (String × List String)}
    (g : String × List String → String × List String)
    (hg : ∀ e, (g e).1 = e.1 ∧ ∀ o ∈ (g e).2, o ∈ e.2) (h : TableOK p tops t) :
    TableOK p tops (t.map g) := by
  have hk : (t.map g).map (·.1) = t.map (·.1) := by
    rw [List.map_map]
    exact List.map_congr_left fun e _ => (hg e).1
  refine ⟨hk ▸ h.1, fun e he => ?_⟩
  obtain ⟨e', he', rfl⟩ := List.mem_map.mp he
  obtain ⟨pipe, h1, h2, h3⟩ := h.2 e' he'
  exact ⟨pipe, (hg e').1 ▸ h1, (hg e').1 ▸ h2, fun o ho => h3 o ((hg e').2 o ho)⟩

theorem TableOK_snoc {p : Program} {tops : List String} {t : List (String × List String)}
    (name : String) (os : List String) (h : TableOK p tops t)
    (hn : t.any (fun e => e.1 == name) = false) (he : EntryOK p tops (name, os)) :
    TableOK p tops (t ++ [(name, os)]) := by
  constructor
  · rw [List.map_append, List.nodup_append]
    refine ⟨h.1, List.nodup_cons.mpr ⟨List.not_mem_nil, List.nodup_nil⟩, fun a ha b hb hab => ?_⟩
    obtain ⟨e, he, rfl⟩ := List.mem_map.mp ha
    have hb' : b = name := List.mem_singleton.mp hb
    exact List.any_eq_false.mp hn e he (by rw [hab, hb']; exact beq_self_eq_true name)
  · intro e hmem
    rcases List.mem_append.mp hmem with h1 | h1
    · exact h.2 e h1
    · rw [List.mem_singleton.mp h1]
      exact he

def NameOK (p0 : Program) (tops : List String) (name : String) : Prop :=
  tops.contains name = true ∨ ∃ d, p0.find? name = some d ∧ d.isPipe = true

theorem mem_outSet (c : Callable) (o : String) (h : o ∈ outSet c) : o ∈ c.outs.map (·.1) :=
  (List.filter_sublist.map _).subset h

theorem populate_ok {p0 p : Program} {tops : List String} (hag : Agree p0 p) :
    ∀ (fuel : Nat) (name : String) (acc : List (String × List String)),
      NameOK p0 tops name → TableOK p tops acc → TableOK p tops (populate p0 p fuel name acc) := by
  intro fuel
  induction fuel with
  | zero => intro name acc _ hacc; exact hacc
  | succ fuel ih =>
    intro name acc hname hacc
    rw [populate]
    split
    · rename_i pipe0 pipe h0 h1
      refine List.foldlRecOn _ _ (motive := TableOK p tops) hacc fun acc' hI d hd => ?_
      apply ih
      · right
        obtain ⟨k, _, hk⟩ := List.mem_filterMap.mp hd
        split at hk
        · rename_i d' hd'
          split at hk
          · rename_i hpipe
            simp only [Option.some.injEq] at hk
            subst hk
            have hn := find_name p0 _ _ hd'
            exact ⟨d', by rw [hn]; exact hd', hpipe⟩
          · cases hk
        · cases hk
      · split
        · rename_i hc
          simp only [Bool.and_eq_true, Bool.not_eq_true'] at hc
          apply TableOK_snoc _ _ hI hc.2
          refine ⟨pipe, h1, ?_, fun o ho => mem_outSet pipe o ho⟩
          rcases hname with ht | ⟨d, hd0, hdp⟩
          · exact Or.inl ht
          · exact Or.inr (hag name d pipe hd0 h1 hdp)
        · exact hI
    · exact hacc

theorem useRef_ok {p : Program} {tops : List String} (pipe : Callable)
    (acc : List String × List (String × List String)) (r : Ref) (h : TableOK p tops acc.2) :
    TableOK p tops (useRef p pipe acc r).2 := by
  unfold useRef
  split
  · exact h
  · split
    · exact h
    · simp only
      split
      · exact TableOK_filter _ h
      · apply TableOK_filter
        apply TableOK_map _ _ h
        intro e
        split
        · exact ⟨rfl, fun o ho => (List.mem_filter.mp ho).1⟩
        · exact ⟨rfl, fun o ho => ho⟩

/-- one round of the walk is a fold of `visitPipe` over the frontier -/
theorem usedOutsLoop_succ (p : Program) (fuel : Nat) (used : List String) (outs : List (String × List String)) :
    usedOutsLoop p (fuel + 1) used outs =
      if used.isEmpty || outs.isEmpty then outs
      else usedOutsLoop p fuel (used.foldl (visitPipe p) (([] : List String), outs)).1
        (used.foldl (visitPipe p) (([] : List String), outs)).2 := rfl

theorem visitPipe_ok {p : Program} {tops : List String} (acc : List String × List (String × List String))
    (name : String) (h : TableOK p tops acc.2) : TableOK p tops (visitPipe p acc name).2 := by
  unfold visitPipe
  split
  · dsimp only
    refine List.foldlRecOn _ _ (motive := fun a => TableOK p tops a.2) ?_ fun a ha r _ => useRef_ok _ a r ha
    exact h
  · exact h

theorem usedOutsLoop_ok {p : Program} {tops : List String} :
    ∀ (fuel : Nat) (used : List String) (outs : List (String × List String)),
      TableOK p tops outs → TableOK p tops (usedOutsLoop p fuel used outs) := by
  intro fuel
  induction fuel with
  | zero => intro used outs h; exact h
  | succ fuel ih =>
    intro used outs h
    rw [usedOutsLoop_succ]
    split
    · exact h
    · exact ih _ _ (List.foldlRecOn _ _ (motive := fun a => TableOK p tops a.2) h
        fun a ha name _ => visitPipe_ok a name ha)

theorem unusedOutputs_ok {p0 p : Program} (tops : List String) (hag : Agree p0 p) :
    TableOK p [] (unusedOutputs p0 p tops) := by
  unfold unusedOutputs
  apply usedOutsLoop_ok
  have h1 : TableOK p tops
      ((p.callables.filter (fun c => c.isPipe && tops.contains c.name)).foldl
        (fun acc t => populate p0 p (p.callables.length + 1) t.name acc) []) := by
    refine List.foldlRecOn _ _ (motive := TableOK p tops) (TableOK_nil p tops) fun acc hI t ht => ?_
    apply populate_ok hag _ _ _ _ hI
    left
    have := (List.mem_filter.mp ht).2
    simp only [Bool.and_eq_true] at this
    exact this.2
  have h2 := TableOK_filter (fun e => !tops.contains e.1) h1
  refine ⟨h2.1, fun e he => ?_⟩
  obtain ⟨pipe, a, b, c⟩ := h2.2 e he
  have hnt := (List.mem_filter.mp he).2
  exact ⟨pipe, a, .inr (b.resolve_left fun b => by rw [b] at hnt; cases hnt), c⟩

theorem removeFirstOut_sublist (l : List (String × Bool)) (o : String) : (removeFirstOut o l).Sublist l :=
  removeFirstOut_eq o l ▸ List.eraseP_sublist

theorem removeOutsOf_cons (o : String) (os : List String) (c : Callable) :
    removeOutsOf (o :: os) c
      = removeOutsOf os { c with outs := removeFirstOut o c.outs, ret := removeFirstBind o c.ret } := rfl

theorem removeOutsOf_eq (os : List String) (c : Callable) :
    removeOutsOf os c = { c with outs := os.foldl (fun l o => removeFirstOut o l) c.outs,
                                 ret := os.foldl (fun l o => removeFirstBind o l) c.ret } := by
  induction os generalizing c with
  | nil => rfl
  | cons o os ih => exact (removeOutsOf_cons o os c).trans (ih _)

def dropOuts (unused : List (String × List String)) (c : Callable) : Callable :=
  match unused.find? (fun e => e.1 == c.name) with
  | some e => if c.isPipe then removeOutsOf e.2 c else c
  | none => c

def outsToDrop (unused : List (String × List String)) (c : Callable) : List String :=
  match unused.find? (fun e => e.1 == c.name) with
  | some e => if c.isPipe then e.2 else []
  | none => []

theorem dropOuts_eq (unused : List (String × List String)) (c : Callable) :
    dropOuts unused c =
      { c with outs := (outsToDrop unused c).foldl (fun l o => removeFirstOut o l) c.outs,
               ret := (outsToDrop unused c).foldl (fun l o => removeFirstBind o l) c.ret } := by
  unfold dropOuts outsToDrop
  cases unused.find? (fun e => e.1 == c.name) with
  | none => rfl
  | some e =>
    simp only []
    split
    · exact removeOutsOf_eq e.2 c
    · rfl

theorem dropOuts_shrinks (unused : List (String × List String)) : Shrinks (dropOuts unused) := fun c => by
  rw [dropOuts_eq]
  exact ⟨rfl, rfl, cm_le (Nat.le_refl _) (foldl_sublist _ removeFirstOut_sublist _ _).length_le (Nat.le_refl _)⟩

theorem dropOuts_ins (unused : List (String × List String)) (c : Callable) :
    (dropOuts unused c).ins = c.ins := by
  rw [dropOuts_eq]

theorem dropOuts_id (unused : List (String × List String))
    (h : unused.any (fun e => !e.2.isEmpty) = false) (c : Callable) : dropOuts unused c = c := by
  have hnil : outsToDrop unused c = [] := by
    unfold outsToDrop
    split
    · rename_i e hfind
      split
      · have := List.any_eq_false.mp h e (List.mem_of_find?_eq_some hfind)
        simpa using this
      · rfl
    · rfl
  rw [dropOuts_eq, hnil]
  rfl

theorem dropOuts_entry_lt {p : Program} {unused : List (String × List String)} (htab : TableOK p [] unused)
    {e : String × List String} (he : e ∈ unused) (hne : (!e.2.isEmpty) = true) :
    measure ⟨p.callables.map (dropOuts unused), p.top⟩ < measure p := by
  obtain ⟨pipe, hfind, hpipe, hsub⟩ := htab.2 e he
  have hpipe' : pipe.isPipe = true := hpipe.resolve_left (fun h => nomatch h)
  have hpm := find_mem p _ _ hfind
  have hpn := find_name p _ _ hfind
  refine (dropOuts_shrinks unused).lt p _ hpm ?_
  cases he2 : e.2 with
  | nil => rw [he2] at hne; cases hne
  | cons o os =>
    have hids : outsToDrop unused pipe = o :: os := by
      simp only [outsToDrop, hpn, Proofs.ListFacts.find?_key_of_nodup htab.1 he, hpipe', if_true, he2]
    have hlt : ((o :: os).foldl (fun l o => removeFirstOut o l) pipe.outs).length < pipe.outs.length :=
      Nat.lt_of_le_of_lt (foldl_sublist _ removeFirstOut_sublist os _).length_le
        (removeFirstOut_length_lt o pipe.outs (hsub o (he2 ▸ List.mem_cons_self)))
    rw [dropOuts_eq, hids]
    exact cm_lt (Nat.le_refl _) (Nat.le_of_lt hlt) (Nat.le_refl _) (.inr (.inl hlt))

theorem outsPass_eq (p0 : Program) (tops : List String) (p : Program) :
    removeUnusedOutputsPass p0 tops p =
      if (unusedOutputs p0 p tops).isEmpty then (p, false)
      else (removeInputs (outPassIns p (unusedOutputs p0 p tops)) ⟨p.callables.map (dropOuts (unusedOutputs p0 p tops)), p.top⟩,
            (unusedOutputs p0 p tops).any (fun e => !e.2.isEmpty) || !(outPassIns p (unusedOutputs p0 p tops)).isEmpty) := rfl

theorem mem_unboundInputs (p : Program) (pipe : Callable) (a b : List String) (i : String)
    (h : i ∈ unboundInputs p pipe a b) : i ∈ pipe.ins := by
  unfold unboundInputs at h
  exact (List.mem_filter.mp h).1

theorem mem_outPassSeeds {p : Program} {T : List (String × List String)} {w : String × String}
    (h : w ∈ outPassSeeds p T) : ∃ pipe ∈ p.callables, w = (pipe.name, w.2) ∧ w.2 ∈ pipe.ins := by
  unfold outPassSeeds at h
  obtain ⟨e, _, hw⟩ := List.mem_flatMap.mp h
  split at hw
  · rename_i pipe hfind
    obtain ⟨i, hi, rfl⟩ := List.mem_map.mp hw
    exact ⟨pipe, find_mem p _ _ hfind, rfl, mem_unboundInputs _ _ _ _ _ hi⟩
  · cases hw

/-- what a pass `q ↦ r` guarantees -/
def Spec (q : Program) (r : Program × Bool) : Prop :=
  shape r.1 = shape q ∧ (r.2 = true → measure r.1 < measure q) ∧ (r.2 = false → r.1 = q)

theorem Spec.skip (q : Program) : Spec q (q, false) := ⟨rfl, (fun h => by cases h), fun _ => rfl⟩

theorem Spec.le {q : Program} {r : Program × Bool} (h : Spec q r) : measure r.1 ≤ measure q := by
  cases hr : r.2 with
  | true => exact Nat.le_of_lt (h.2.1 hr)
  | false => rw [h.2.2 hr]; exact Nat.le_refl _

theorem Spec.andThen {p : Program} {r1 r2 : Program × Bool} (h1 : Spec p r1) (h2 : Spec r1.1 r2) :
    Spec p (r2.1, r1.2 || r2.2) := by
  refine ⟨h2.1.trans h1.1, fun h => ?_, fun h => ?_⟩
  · rcases Bool.or_eq_true_iff.mp h with h | h
    · exact Nat.lt_of_le_of_lt h2.le (h1.2.1 h)
    · exact Nat.lt_of_lt_of_le (h2.2.1 h) h1.le
  · obtain ⟨ha, hb⟩ := Bool.or_eq_false_iff.mp h
    exact (h2.2.2 hb).trans (h1.2.2 ha)

theorem callsPass_eq (p : Program) :
    removeUnusedCallsPass p =
      if (unusedCallPlan p).1.isEmpty then (p, false)
      else (removeInputs (unusedCallPlan p).2 (applyCallRemovals (unusedCallPlan p).1 p), true) := rfl

theorem callsPass_spec (p : Program) : Spec p (removeUnusedCallsPass p) := by
  rw [callsPass_eq]
  split
  · exact Spec.skip p
  · rename_i hne
    have hin := removeInputs_below (unusedCallPlan p).2 (applyCallRemovals (unusedCallPlan p).1 p)
    refine ⟨hin.1.trans (applyCallRemovals_below _ p).1, fun _ => ?_, fun h => nomatch h⟩
    exact Nat.lt_of_le_of_lt hin.2 (applyCallRemovals_lt p fun h => hne (h ▸ rfl))

theorem outsPass_below (p0 : Program) (tops : List String) (p : Program) :
    Below (removeUnusedOutputsPass p0 tops p).1 p := by
  rw [outsPass_eq]
  split
  · exact Below.refl p
  · exact (removeInputs_below _ _).trans ((dropOuts_shrinks _).below p p.top)

theorem outsPass_false (p0 : Program) (tops : List String) (p : Program)
    (h : (removeUnusedOutputsPass p0 tops p).2 = false) : (removeUnusedOutputsPass p0 tops p).1 = p := by
  rw [outsPass_eq] at h ⊢
  split
  · rfl
  · rename_i hne
    rw [if_neg hne] at h
    obtain ⟨hany, hins⟩ := Bool.or_eq_false_iff.mp h
    simp only [Bool.not_eq_false'] at hins
    simp only [List.isEmpty_iff.mp hins, removeInputs_nil]
    rw [List.map_congr_left (g := id) fun c _ => dropOuts_id _ hany c, List.map_id]

theorem outsPass_true (p0 : Program) (tops : List String) (p : Program) (hag : Agree p0 p)
    (h : (removeUnusedOutputsPass p0 tops p).2 = true) :
    measure (removeUnusedOutputsPass p0 tops p).1 < measure p := by
  rw [outsPass_eq] at h ⊢
  split
  · rename_i he
    rw [if_pos he] at h
    cases h
  · rename_i hne
    rw [if_neg hne] at h
    have hle := ((dropOuts_shrinks (unusedOutputs p0 p tops)).below p p.top).2
    simp only at h ⊢
    cases hins : outPassIns p (unusedOutputs p0 p tops) with
    | nil =>
      rw [hins] at h
      obtain ⟨e, he, hne⟩ := List.any_eq_true.mp ((Bool.or_eq_true_iff.mp h).resolve_right (fun h => nomatch h))
      exact dropOuts_entry_lt (unusedOutputs_ok tops hag) he hne
    | cons w rest =>
      -- the cascade is not empty: its first pair is the first seed, an input of a pipeline
      obtain ⟨ws, hseeds⟩ := closure_head hins
      obtain ⟨pipe, hpm, hw, hi⟩ := mem_outPassSeeds (hseeds ▸ List.mem_cons_self : w ∈ outPassSeeds p (unusedOutputs p0 p tops))
      rw [hw]
      exact Nat.lt_of_lt_of_le
        (removeInputs_lt pipe.name w.2 rest _ _ (List.mem_map_of_mem hpm) (dropOuts_shrinks _ pipe).1
          (by rw [dropOuts_ins]; exact hi)) hle

theorem outsPass_spec (p0 : Program) (tops : List String) (p : Program) (hag : Agree p0 p) :
    Spec p (removeUnusedOutputsPass p0 tops p) :=
  ⟨(outsPass_below p0 tops p).1, outsPass_true p0 tops p hag, outsPass_false p0 tops p⟩

theorem callsStage_spec (calls : Bool) (p : Program) :
    Spec p (if calls then removeUnusedCallsPass p else (p, false)) := by
  split
  · exact callsPass_spec p
  · exact Spec.skip p

theorem outsStage_spec (p0 : Program) (tops : List String) (q : Program)
    (hag : tops.isEmpty = true ∨ Agree p0 q) :
    Spec q (if tops.isEmpty then (q, false) else removeUnusedOutputsPass p0 tops q) := by
  split
  · exact Spec.skip q
  · rename_i hne
    exact outsPass_spec p0 tops q (hag.resolve_left hne)

theorem removeStep_eq (p0 : Program) (calls : Bool) (tops : List String) (p : Program) :
    removeStep p0 calls tops p =
      ((if tops.isEmpty then ((if calls then removeUnusedCallsPass p else (p, false)).1, false)
         else removeUnusedOutputsPass p0 tops (if calls then removeUnusedCallsPass p else (p, false)).1).1,
       (if calls then removeUnusedCallsPass p else (p, false)).2
        || (if tops.isEmpty then ((if calls then removeUnusedCallsPass p else (p, false)).1, false)
         else removeUnusedOutputsPass p0 tops (if calls then removeUnusedCallsPass p else (p, false)).1).2) := rfl

theorem removeStep_spec (p0 : Program) (calls : Bool) (tops : List String) (p : Program)
    (hag : tops.isEmpty = true ∨ Agree p0 p) : Spec p (removeStep p0 calls tops p) := by
  rw [removeStep_eq]
  have s1 := callsStage_spec calls p
  exact s1.andThen (outsStage_spec p0 tops _ (hag.imp id fun h => Agree_of_shape h s1.1))

theorem removeLoop_succ (p0 : Program) (calls : Bool) (tops : List String) (fuel : Nat) (p : Program) :
    removeLoop p0 calls tops (fuel + 1) p =
      if (removeStep p0 calls tops p).2 then removeLoop p0 calls tops fuel (removeStep p0 calls tops p).1
      else (removeStep p0 calls tops p).1 := rfl

theorem removeLoop_fix (p0 : Program) (calls : Bool) (tops : List String) :
    ∀ (fuel : Nat) (p : Program), (tops.isEmpty = true ∨ Agree p0 p) → measure p < fuel →
      (removeStep p0 calls tops (removeLoop p0 calls tops fuel p)).2 = false := by
  intro fuel
  induction fuel with
  | zero => intro p _ h; omega
  | succ fuel ih =>
    intro p hag hlt
    obtain ⟨hs, htrue, hfalse⟩ := removeStep_spec p0 calls tops p hag
    rw [removeLoop_succ]
    cases hch : (removeStep p0 calls tops p).2 with
    | true =>
      simp only [if_true]
      apply ih _ (hag.imp id (fun h => Agree_of_shape h hs))
      have := htrue hch
      omega
    | false =>
      simp only [Bool.false_eq_true, if_false]
      rw [hfalse hch]
      exact hch

/-- For arbitrary, unrelated `p0` and `p` the statement is FALSE:
`p0` may say that a name is a pipeline while in `p` it is a stage; then the output pass reports a
change without editing anything (witness: `Props.C19.fixpoint_needs_invariant`).  The extra hypothesis
`hag` (no top pipelines given, or `p0` and `p` agree on which names are pipelines) excludes that;
`Agree p p` holds (`Agree_refl`), which is how `removeUnused` calls the loop. -/
theorem fixpoint_terminates (p0 p : Program) (calls : Bool) (tops : List String)
    (hag : tops.isEmpty = true ∨ Agree p0 p) :
    ((removeStep p0 calls tops p).2 = true → measure (removeStep p0 calls tops p).1 < measure p)
    ∧ (removeStep p0 calls tops (removeLoop p0 calls tops (measure p + 1) p)).2 = false :=
  ⟨(removeStep_spec p0 calls tops p hag).2.1,
   removeLoop_fix p0 calls tops (measure p + 1) p hag (Nat.lt_succ_self _)⟩

end Proofs.Refactor
