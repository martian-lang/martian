import Martian.LexerLRSem
import Proofs.LexerLRFacts
import Proofs.FormatExpToks
import Proofs.FormatExpLex
import Proofs.FormatExpRound

/-!
Instances of `LRAgrees` (Props/C09Tie.lean): on SCALAR tokens the goyacc parser
model and the reader `parseToks` (Martian/FormatExp) agree for every token text — proved by running the
driver on the (concrete) token kind in the kernel and replaying the semantic
actions on the (symbolic) token text.  Hence the round trip "format, then the
goyacc parser" is unconditional for scalar expressions.
-/
namespace Martian.LexerLR
open Martian.FormatExp

/-! The driver runs on an integer, a float, a string, `null`, `true`, `false`, `[]`, `{}` (events oldest first), in one
evaluation: most of what a single run costs is the kernel's first reading of the tables. -/

theorem scalar_runs :
    (runFuel genTables (fun _ => false) (fuelFor genCert [tokChar (.int [])]) (init [tokChar (.int [])]) [.push 0] =
    (.accept, [.push 0, .lex 53 57381, .push 11, .reduce 129 11, .push 5, .reduce 7 5, .push 1, .lex 1 0].reverse)) ∧
    (runFuel genTables (fun _ => false) (fuelFor genCert [tokChar (.float [])]) (init [tokChar (.float [])]) [.push 0] =
    (.accept, [.push 0, .lex 52 57380, .push 10, .reduce 128 10, .push 5, .reduce 7 5, .push 1, .lex 1 0].reverse)) ∧
    (runFuel genTables (fun _ => false) (fuelFor genCert [tokChar (.str [])]) (init [tokChar (.str [])]) [.push 0] =
    (.accept, [.push 0, .lex 51 57379, .push 12, .reduce 130 12, .push 5, .reduce 7 5, .push 1, .lex 1 0].reverse)) ∧
    (runFuel genTables (fun _ => false) (fuelFor genCert [tokChar .kNull]) (init [tokChar .kNull]) [.push 0] =
    (.accept, [.push 0, .lex 60 57388, .push 16, .reduce 134 16, .push 5, .reduce 7 5, .push 1, .lex 1 0].reverse)) ∧
    (runFuel genTables (fun _ => false) (fuelFor genCert [tokChar .kTrue]) (init [tokChar .kTrue]) [.push 0] =
    (.accept, [.push 0, .lex 58 57386, .push 26, .reduce 142 26, .push 15, .reduce 133 15, .push 5, .reduce 7 5, .push 1,
      .lex 1 0].reverse)) ∧
    (runFuel genTables (fun _ => false) (fuelFor genCert [tokChar .kFalse]) (init [tokChar .kFalse]) [.push 0] =
    (.accept, [.push 0, .lex 59 57387, .push 27, .reduce 143 27, .push 15, .reduce 133 15, .push 5, .reduce 7 5, .push 1,
      .lex 1 0].reverse)) ∧
    (runFuel genTables (fun _ => false) (fuelFor genCert ([tLB, tRB].map tokChar)) (init ([tLB, tRB].map tokChar)) [.push 0] =
    (.accept, [.push 0, .lex 13 91, .push 23, .lex 14 93, .push 61, .reduce 137 61, .push 13, .reduce 131 13, .push 5,
      .reduce 7 5, .push 1, .lex 1 0].reverse)) ∧
    (runFuel genTables (fun _ => false) (fuelFor genCert ([tLC, tRC].map tokChar)) (init ([tLC, tRC].map tokChar)) [.push 0] =
    (.accept, [.push 0, .lex 17 123, .push 25, .lex 18 125, .push 70, .reduce 141 70, .push 14, .reduce 132 14, .push 5,
      .reduce 7 5, .push 1, .lex 1 0].reverse)) := by
  decide +kernel

theorem r2_of : (genTables.r2.get? (7 : Nat)) = some 1 ∧ (genTables.r2.get? (128 : Nat)) = some 1 ∧
    (genTables.r2.get? (129 : Nat)) = some 1 ∧ (genTables.r2.get? (130 : Nat)) = some 1 ∧
    (genTables.r2.get? (131 : Nat)) = some 1 ∧ (genTables.r2.get? (132 : Nat)) = some 1 ∧
    (genTables.r2.get? (133 : Nat)) = some 1 ∧ (genTables.r2.get? (134 : Nat)) = some 1 ∧
    (genTables.r2.get? (137 : Nat)) = some 2 ∧ (genTables.r2.get? (141 : Nat)) = some 2 ∧
    (genTables.r2.get? (142 : Nat)) = some 1 ∧ (genTables.r2.get? (143 : Nat)) = some 1 := by decide +kernel

theorem semStep_lex_cons (T : Tables) (vs : List Val) (la : Option Tok) (t : Tok) (r : List Tok) (p : Option Nat) (ok : Bool)
    (a b : Int) : semStep T ⟨vs, la, t :: r, p, ok⟩ (.lex a b) = ⟨vs, some t, r, p, ok⟩ := rfl

theorem semStep_lex_nil (T : Tables) (vs : List Val) (la : Option Tok) (p : Option Nat) (ok : Bool) (a b : Int) :
    semStep T ⟨vs, la, [], p, ok⟩ (.lex a b) = ⟨vs, none, [], p, ok⟩ := rfl

theorem semStep_reduce (T : Tables) (st : SemState) (n s : Nat) :
    semStep T st (.reduce n s) = { st with pending := some n } := rfl

theorem semStep_push_init (T : Tables) (la : Option Tok) (ts : List Tok) (p : Option Nat) (ok : Bool) (s : Nat) :
    semStep T ⟨[], la, ts, p, ok⟩ (.push s) = ⟨[.none], la, ts, p, ok⟩ := rfl

theorem semStep_push_shift (T : Tables) (v : Val) (vs : List Val) (t : Tok) (ts : List Tok) (ok : Bool) (s : Nat) :
    semStep T ⟨v :: vs, some t, ts, none, ok⟩ (.push s) = ⟨.tok t :: v :: vs, none, ts, none, ok⟩ := rfl

theorem runSem_of_run (ts : List Tok) (evs : List Event)
    (h : runFuel genTables (fun _ => false) (fuelFor genCert (ts.map tokChar)) (init (ts.map tokChar)) [.push 0] =
      (.accept, evs.reverse)) :
    runSem ts = if (evs.foldl (semStep genTables) ⟨[], none, ts, none, true⟩).ok
      then (evs.foldl (semStep genTables) ⟨[], none, ts, none, true⟩).vals.head? else none := by
  unfold runSem; dsimp only; rw [h, List.reverse_reverse]

section replay
variable {T : Tables} {evs : List Event} {v : Val} {vs : List Val} {la : Option Tok} {ts : List Tok} {ok : Bool}

theorem foldl_semStep_init {s : Nat} :
    (Event.push s :: evs).foldl (semStep T) ⟨[], la, ts, none, ok⟩ = evs.foldl (semStep T) ⟨[.none], la, ts, none, ok⟩ := by
  rw [List.foldl_cons, semStep_push_init]

theorem foldl_semStep_shift {t : Tok} {a b : Int} {s : Nat} :
    (Event.lex a b :: .push s :: evs).foldl (semStep T) ⟨v :: vs, la, t :: ts, none, ok⟩ =
      evs.foldl (semStep T) ⟨.tok t :: v :: vs, none, ts, none, ok⟩ := by
  rw [List.foldl_cons, List.foldl_cons, semStep_lex_cons, semStep_push_shift]

/-- A reduction by production `n`, which has `k` right-hand side symbols: the action is applied to the top `k`
values (oldest first); a failed action leaves `Val.none` and clears `ok`. -/
theorem foldl_semStep_reduce {n s s' : Nat} {k : Int} (hk : T.r2.get? (n : Nat) = some k) :
    (Event.reduce n s :: .push s' :: evs).foldl (semStep T) ⟨v :: vs, la, ts, none, ok⟩ =
      evs.foldl (semStep T) ⟨(semAct n ((v :: vs).take k.toNat).reverse).getD .none :: (v :: vs).drop k.toNat, la, ts,
        none, ok && (semAct n ((v :: vs).take k.toNat).reverse).isSome⟩ := by
  rw [List.foldl_cons, List.foldl_cons, semStep_reduce]
  congr 1
  simp only [semStep, hk, Option.getD_some]
  cases semAct n ((v :: vs).take k.toNat).reverse <;> simp

theorem foldl_semStep_eof {a b : Int} :
    [Event.lex a b].foldl (semStep T) ⟨vs, la, [], none, ok⟩ = ⟨vs, none, [], none, ok⟩ := by
  rw [List.foldl_cons, List.foldl_nil, semStep_lex_nil]

end replay

theorem semAct_of_kind {n : Nat} {s : Sem} (h : semKind n = some (some s)) (args : List Val) :
    semAct n args = semApply s args := by unfold semAct; rw [h]

theorem semAct_default {n : Nat} (h : semKind n = none) (args : List Val) :
    semAct n args = some (args.headD .none) := by unfold semAct; rw [h]

theorem act_file (e : Exp) : semAct 7 [.exp e] = some (.result e) := semAct_of_kind gen_action_texts.2.1 _
theorem act_file_none : semAct 7 [.none] = none := semAct_of_kind gen_action_texts.2.1 _
theorem act_float (t : List UInt8) : semAct 128 [.tok (.float t)] = some (.exp (.float t)) :=
  semAct_of_kind gen_action_texts.2.2.1 _
theorem act_int (t : List UInt8) : semAct 129 [.tok (.int t)] = (Martian.Lexer.parseInt t).map fun i => .exp (.int i) :=
  semAct_of_kind gen_action_texts.2.2.2.1 _
theorem act_str (t : List UInt8) :
    semAct 130 [.tok (.str t)] = (Martian.Lexer.unquoteBytes t).map fun s => .exp (.str s) :=
  semAct_of_kind gen_action_texts.2.2.2.2.1 _
theorem act_131 (v : Val) : semAct 131 [v] = some v := semAct_default gen_action_texts.2.2.2.2.2.1 _
theorem act_132 (v : Val) : semAct 132 [v] = some v := semAct_default gen_action_texts.2.2.2.2.2.2.1 _
theorem act_133 (v : Val) : semAct 133 [v] = some v := semAct_default gen_action_texts.2.2.2.2.2.2.2.1 _
theorem act_null (v : Val) : semAct 134 [v] = some (.exp .null) := semAct_of_kind gen_action_texts.2.2.2.2.2.2.2.2.1 _
theorem act_arr0 (v w : Val) : semAct 137 [v, w] = some (.exp (.arr [])) :=
  semAct_of_kind gen_action_texts.2.2.2.2.2.2.2.2.2.1 _
theorem act_map0 (v w : Val) : semAct 141 [v, w] = some (.exp (.map [])) :=
  semAct_of_kind gen_action_texts.2.2.2.2.2.2.2.2.2.2.1 _
theorem act_true (v : Val) : semAct 142 [v] = some (.exp (.bool true)) :=
  semAct_of_kind gen_action_texts.2.2.2.2.2.2.2.2.2.2.2.1 _
theorem act_false (v : Val) : semAct 143 [v] = some (.exp (.bool false)) :=
  semAct_of_kind gen_action_texts.2.2.2.2.2.2.2.2.2.2.2.2 _

theorem lr_int (t : List UInt8) : parseLR [.int t] = parseToks [.int t] := by
  rw [parseLR, runSem_of_run [.int t] _ scalar_runs.1]
  simp only [foldl_semStep_init, foldl_semStep_shift, foldl_semStep_reduce r2_of.2.2.1,
    foldl_semStep_reduce r2_of.1, foldl_semStep_eof]
  cases h : Martian.Lexer.parseInt t <;> simp [act_int, act_file, act_file_none, parseToks, pExp, isVal, h]

theorem lr_float (t : List UInt8) : parseLR [.float t] = parseToks [.float t] := by
  rw [parseLR, runSem_of_run [.float t] _ scalar_runs.2.1]
  simp only [foldl_semStep_init, foldl_semStep_shift, foldl_semStep_reduce r2_of.2.1,
    foldl_semStep_reduce r2_of.1, foldl_semStep_eof]
  simp [act_float, act_file, parseToks, pExp, isVal]

theorem lr_str (t : List UInt8) : parseLR [.str t] = parseToks [.str t] := by
  rw [parseLR, runSem_of_run [.str t] _ scalar_runs.2.2.1]
  simp only [foldl_semStep_init, foldl_semStep_shift, foldl_semStep_reduce r2_of.2.2.2.1,
    foldl_semStep_reduce r2_of.1, foldl_semStep_eof]
  cases h : Martian.Lexer.unquoteBytes t <;> simp [act_str, act_file, act_file_none, parseToks, pExp, isVal, h]

theorem lr_null : parseLR [.kNull] = parseToks [.kNull] := by
  rw [parseLR, runSem_of_run [.kNull] _ scalar_runs.2.2.2.1]
  simp only [foldl_semStep_init, foldl_semStep_shift, foldl_semStep_reduce r2_of.2.2.2.2.2.2.2.1,
    foldl_semStep_reduce r2_of.1, foldl_semStep_eof]
  simp [act_null, act_file, parseToks, pExp, isVal]

theorem lr_bool (b : Bool) : parseLR [if b then .kTrue else .kFalse] = parseToks [if b then .kTrue else .kFalse] := by
  cases b
  · rw [if_neg Bool.false_ne_true, parseLR, runSem_of_run [.kFalse] _ scalar_runs.2.2.2.2.2.1]
    simp only [foldl_semStep_init, foldl_semStep_shift,
      foldl_semStep_reduce r2_of.2.2.2.2.2.2.2.2.2.2.2,
      foldl_semStep_reduce r2_of.2.2.2.2.2.2.1, foldl_semStep_reduce r2_of.1,
      foldl_semStep_eof]
    simp [act_false, act_133, act_file, parseToks, pExp, isVal]
  · rw [if_pos rfl, parseLR, runSem_of_run [.kTrue] _ scalar_runs.2.2.2.2.1]
    simp only [foldl_semStep_init, foldl_semStep_shift,
      foldl_semStep_reduce r2_of.2.2.2.2.2.2.2.2.2.2.1,
      foldl_semStep_reduce r2_of.2.2.2.2.2.2.1, foldl_semStep_reduce r2_of.1,
      foldl_semStep_eof]
    simp [act_true, act_133, act_file, parseToks, pExp, isVal]

theorem lr_arr0 : parseLR [tLB, tRB] = parseToks [tLB, tRB] := by
  rw [parseLR, runSem_of_run [tLB, tRB] _ scalar_runs.2.2.2.2.2.2.1]
  simp only [foldl_semStep_init, foldl_semStep_shift,
    foldl_semStep_reduce r2_of.2.2.2.2.2.2.2.2.1,
    foldl_semStep_reduce r2_of.2.2.2.2.1, foldl_semStep_reduce r2_of.1,
    foldl_semStep_eof]
  simp [act_arr0, act_131, act_file, parseToks, pExp, isVal, tLB, tRB]

theorem lr_map0 : parseLR [tLC, tRC] = parseToks [tLC, tRC] := by
  rw [parseLR, runSem_of_run [tLC, tRC] _ scalar_runs.2.2.2.2.2.2.2]
  simp only [foldl_semStep_init, foldl_semStep_shift,
    foldl_semStep_reduce r2_of.2.2.2.2.2.2.2.2.2.1,
    foldl_semStep_reduce r2_of.2.2.2.2.2.1, foldl_semStep_reduce r2_of.1,
    foldl_semStep_eof]
  simp [act_map0, act_132, act_file, parseToks, pExp, isVal, tLC, tRC]

/-- scalar expressions and empty collections: what prints as one token, `[]` or `{}` -/
def isScalar : Exp → Bool
  | .null | .nilArr | .bool _ | .int _ | .float _ | .str _ => true
  | .arr [] | .map [] | .struct [] => true
  | _ => false

/-- on the token list of a printed scalar expression the goyacc parser model and
the reader agree -/
theorem lr_agrees_scalar (e : Exp) (hs : isScalar e = true) : parseLR (toks e) = parseToks (toks e) := by
  cases e with
  | null => exact lr_null
  | nilArr => exact lr_null
  | bool b => exact lr_bool b
  | int i => exact lr_int _
  | float t =>
    simp only [toks]
    split
    · exact lr_float t
    · exact lr_int t
  | str s => exact lr_str _
  | arr l =>
    cases l with
    | nil => simpa [toks] using lr_arr0
    | cons _ _ => simp [isScalar] at hs
  | map l =>
    cases l with
    | nil => simpa [toks] using lr_map0
    | cons _ _ => simp [isScalar] at hs
  | struct l =>
    cases l with
    | nil => simpa [toks] using lr_map0
    | cons _ _ => simp [isScalar] at hs
  | ref _ _ _ => simp [isScalar] at hs

theorem isScalar_isVal (e : Exp) (hs : isScalar e = true) : isVal e = true := by
  cases e <;> first | rfl | simp [isScalar] at hs

/-- format, then the goyacc parser, unconditional for scalar expressions
(integers, floats, strings, booleans, null, and the empty collections `[]`, `{}`): the LR loop on the regenerated
tables with the real actions reads the printed text back as the expression, up
to `norm`. -/
theorem format_then_goyacc_parse_scalar (e : Exp) (hw : wf e = true) (hs : isScalar e = true) :
    parseValExpLR (fmt [] e) = some (norm e) := by
  unfold parseValExpLR
  rw [lexAll_fmt_top e hw]
  simp only [Option.bind_some]
  rw [lr_agrees_scalar e hs]
  exact parseToks_toks e hw (isScalar_isVal e hs)

end Martian.LexerLR
