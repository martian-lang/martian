import Martian.ShellQuote
import Proofs.Utf8

/-! On valid UTF-8 the quoter is a `flatMap` of `quoteByte`, for any table with `TableOK`
(`quoteByte_cases`, `quoteFrom_valid`); `dqEvalBody_quoteFrom`: the double-quote evaluator reads
the bytes back. -/
namespace Martian.ShellQuote

/-- Decidable well-formedness of an escape table: every non-NUL ASCII byte is
either copied (and is not special inside double quotes) or emitted as
backslash + itself (and is one of the four characters a backslash quotes). -/
def escShapeOK (tbl : EscTable) (b : UInt8) : Bool :=
  let e := escOf tbl b
  (e == [b] && !dqSpecial b) || (e == [0x5C, b] && dqSpecial b)

def TableOK (tbl : EscTable) : Bool :=
  (List.range 128).all fun n => n == 0 || escShapeOK tbl n.toUInt8

theorem tableOK_ascii {tbl : EscTable} (h : TableOK tbl = true) (b : UInt8)
    (hb : b < 0x80) (h0 : b ≠ 0) : escShapeOK tbl b = true := by
  unfold TableOK at h
  rw [List.all_eq_true] at h
  have hlt : b.toNat < 128 := by
    have := UInt8.lt_iff_toNat_lt.mp hb; simpa using this
  have := h b.toNat (List.mem_range.mpr hlt)
  have hne : b.toNat ≠ 0 := by
    intro e; apply h0; apply UInt8.toNat_inj.mp; simpa using e
  simp [hne] at this
  exact this

theorem dqEvalBody_plain (b : UInt8) (X : Bytes)
    (h1 : (b == 0x22) = false) (h2 : (b == 0x24) = false) (h3 : (b == 0x60) = false)
    (h4 : (b == 0x5C) = false) :
    dqEvalBody (b :: X) = (dqEvalBody X).map fun (v, rest) => (b :: v, rest) := by
  rw [dqEvalBody.eq_def]; simp [h1, h2, h3, h4]

theorem dqEvalBody_escaped (c : UInt8) (X : Bytes) (h : dqSpecial c = true) :
    dqEvalBody (0x5C :: c :: X) = (dqEvalBody X).map fun (v, rest) => (c :: v, rest) := by
  rw [dqEvalBody.eq_def]; simp [h]

theorem dqEvalBody_close (rest : Bytes) : dqEvalBody (0x22 :: rest) = some ([], rest) := by
  rw [dqEvalBody.eq_def]; simp

/-- what `appendShellSafeQuote` writes for one byte of a valid string: an ASCII byte goes
through the table, a byte of a multi-byte rune is copied -/
def quoteByte (tbl : EscTable) (b : UInt8) : Bytes := if b < 0x80 then escOf tbl b else [b]

theorem quoteFrom_valid (tbl : EscTable) : ∀ (s : Bytes) (k : Nat),
    validFrom s k = true → (∀ x ∈ s.take k, ¬ x < 0x80) →
    quoteFrom tbl s k = s.flatMap (quoteByte tbl)
  | [], k, _, _ => by cases k <;> rfl
  | b :: r, k + 1, hv, hk => by
    have hb : ¬ b < 0x80 := hk b (by simp)
    simp only [validFrom] at hv
    simp only [quoteFrom, List.flatMap_cons, quoteByte, hb, if_false, List.singleton_append]
    rw [quoteFrom_valid tbl r k hv (fun x hx => hk x (by simp [List.take_succ_cons, hx]))]
  | b :: r, 0, hv, _ => by
    simp only [validFrom] at hv
    by_cases hb : b < 0x80
    · have hw : runeWidth (b :: r) = some 1 := by simp [runeWidth, hb]
      simp only [hw] at hv
      simp only [quoteFrom, List.flatMap_cons, quoteByte, hb, if_true]
      rw [quoteFrom_valid tbl r 0 hv (by simp)]
    · cases hw : runeWidth (b :: r) with
      | none => simp [hw] at hv
      | some w =>
        simp only [hw] at hv
        simp only [quoteFrom, List.flatMap_cons, quoteByte, hb, if_false, hw, List.singleton_append]
        rw [quoteFrom_valid tbl r (w - 1) hv (runeWidth_cont b r w hb hw)]

theorem quoteBody_valid (tbl : EscTable) (s : Bytes) (hv : validUtf8 s = true) :
    quoteBody tbl s = s.flatMap (quoteByte tbl) :=
  quoteFrom_valid tbl s 0 hv (by simp)

theorem quoteByte_cases {tbl : EscTable} (ht : TableOK tbl = true) {b : UInt8} (hb0 : b ≠ 0) :
    (quoteByte tbl b = [b] ∧ dqSpecial b = false) ∨
    (quoteByte tbl b = [0x5C, b] ∧ dqSpecial b = true) := by
  unfold quoteByte
  split
  · simpa [escShapeOK] using tableOK_ascii ht b ‹_› hb0
  · obtain ⟨h22, h24, h60, h5c⟩ := ge80_not_special b ‹_›
    exact Or.inl ⟨rfl, by simp [dqSpecial, h22, h24, h60, h5c]⟩

theorem dqEvalBody_quoteByte {tbl : EscTable} (ht : TableOK tbl = true) {b : UInt8} (hb0 : b ≠ 0)
    (X : Bytes) :
    dqEvalBody (quoteByte tbl b ++ X) = (dqEvalBody X).map fun (v, rest) => (b :: v, rest) := by
  rcases quoteByte_cases ht hb0 with ⟨he, hs⟩ | ⟨he, hs⟩ <;> rw [he]
  · simp only [dqSpecial, Bool.or_eq_false_iff] at hs
    exact dqEvalBody_plain b X hs.1.2 hs.1.1.1 hs.1.1.2 hs.2
  · exact dqEvalBody_escaped b X hs

/-- Generalised round trip: the quoted body followed by `"` and anything
evaluates to the original bytes and leaves that anything. -/
theorem dqEvalBody_quoteFrom {tbl : EscTable} (ht : TableOK tbl = true) :
    ∀ (s : Bytes) (k : Nat) (rest : Bytes),
      validFrom s k = true → (∀ x ∈ s.take k, ¬ x < 0x80) → (0 : UInt8) ∉ s →
      dqEvalBody (quoteFrom tbl s k ++ 0x22 :: rest) = some (s, rest) := by
  intro s k rest hv hk h0
  rw [quoteFrom_valid tbl s k hv hk]
  clear hv hk
  induction s with
  | nil => exact dqEvalBody_close rest
  | cons b r ih =>
    rw [List.flatMap_cons, List.append_assoc,
      dqEvalBody_quoteByte ht (fun e => h0 (by simp [e])),
      ih (fun h => h0 (List.mem_cons_of_mem _ h))]
    rfl

end Martian.ShellQuote
