/-
C09 tie, translator part (re-exported in Props/C09Tie.lean): the column rule of the formatter's bindings, TRANSLATED from
martian/syntax/format_callable.go on every run (extract/translate*.go):

* `Gen.tr_idWidth`: the first loop of `BindStms.format` (a loop over the list of
  bindings with `break`, translated as a fold whose state carries the flag) as a
  function of the list of the bindings' ids → `FormatCall2.idWidthGo`;
* `Gen.tr_BindStmFormat`: `BindStm.format` (writes to the printer translated as
  a byte trace, the padding loop as a counted fold; comments are outside the
  model; the value is written by `Exp.format`, a parameter) →
  `FormatCall2.fmtBind`.
-/
import Martian.FormatCall2
import Gen.Facts

namespace Proofs.TieC09
open Martian.Lexer (Bytes)
open Martian.FormatExp Martian.FormatCall Martian.FormatCall2

/-! ### the width of the id column -/

/-- one round of the translated loop: (idWidth, stopped by `break`) -/
def idStep (st : Int × Bool) (x : List UInt8) : Int × Bool :=
  if st.2 then (st.1, st.2)
  else
    (if x == ([0x2A] : List UInt8)
      then ((if decide (Int.ofNat x.length < 30) then max st.1 (Int.ofNat x.length) else st.1), true)
      else ((if decide (Int.ofNat x.length < 30) then max st.1 (Int.ofNat x.length) else st.1), st.2))

/-- the translated term is that fold (definitional: only `let`s are unfolded) -/
theorem tr_idWidth_fold (ids : List (List UInt8)) :
    Gen.tr_idWidth ids = (ids.foldl idStep (0, false)).1 := rfl

theorem idStep_stopped : ∀ (ids : List (List UInt8)) (w : Int), ids.foldl idStep (w, true) = (w, true)
  | [], _ => rfl
  | x :: r, w => by simp [List.foldl, idStep, idStep_stopped r w]

theorem idStep_fold : ∀ (bs : List Bind) (w : Int), 0 ≤ w →
    ((bs.map (·.id)).foldl idStep (w, false)).1 = max w ((idWidthGo bs : Nat) : Int)
  | [], w, hw => by simp [idWidthGo]; omega
  | b :: r, w, hw => by
    simp only [List.map, List.foldl]
    by_cases hs : b.id = sStar
    · have hstep : idStep (w, false) b.id = (max w 1, true) := by
        simp [idStep, hs, sStar]
      have hm : idWidthGo (b :: r) = 1 := by simp [idWidthGo, hs, sStar]
      rw [hstep, idStep_stopped, hm]
      rfl
    · have hne : (b.id == ([0x2A] : List UInt8)) = false := by simpa [sStar] using hs
      by_cases hl : b.id.length < 30
      · have hstep : idStep (w, false) b.id = (max w (b.id.length : Int), false) := by
          have : ((b.id.length : Int) < 30) := by omega
          simp [idStep, hne, this]
        have hm : idWidthGo (b :: r) = max b.id.length (idWidthGo r) := by simp [idWidthGo, hs, hl]
        rw [hstep, idStep_fold r _ (by omega), hm]
        omega
      · have hstep : idStep (w, false) b.id = (w, false) := by
          have : ¬ ((b.id.length : Int) < 30) := by omega
          simp [idStep, hne, this]
        have hm : idWidthGo (b :: r) = idWidthGo r := by simp [idWidthGo, hs, hl]
        rw [hstep, idStep_fold r w hw, hm]

/-- THE TIE: the first loop of `BindStms.format`, on the ids of ANY list of
bindings (also with a `*` binding in the middle, where the loop stops), computes
the model's `idWidthGo` -/
theorem tr_idWidth_eq_model (bs : List Bind) :
    Gen.tr_idWidth (bs.map (·.id)) = Int.ofNat (idWidthGo bs) := by
  rw [tr_idWidth_fold, idStep_fold bs 0 (by omega), Int.ofNat_eq_coe]
  omega

/-! ### one binding -/

theorem pad_fold (n : Nat) : ∀ (t : List UInt8),
    List.foldl (fun st_ (_ : Nat) => st_ ++ [(32 : UInt8)]) t (List.range n) = t ++ List.replicate n 32 := by
  induction n with
  | zero => intro t; simp
  | succ n ih =>
    intro t
    rw [List.range_succ, List.foldl_append, ih]
    simp [List.replicate_succ', List.append_assoc]

/-- what `BindStm.format` writes, for every prefix, width, id and value printer -/
theorem tr_BindStmFormat_spec (p : List UInt8) (w : Int) (id : List UInt8) (expFormat : List UInt8 → List UInt8) :
    Gen.tr_BindStmFormat p w id expFormat =
      p ++ indent ++ id ++ spaces (Int.toNat (w - Int.ofNat id.length)) ++ [0x20, 0x3D, 0x20] ++
        expFormat (p ++ indent) ++ [0x2C, 0x0A] := by
  simp only [Gen.tr_BindStmFormat]
  rw [pad_fold]
  simp [indent, spaces, List.append_assoc]

/-- THE TIE: `BindStm.format` with the column width `w` is the model's `fmtBind`
(the `split ` of a split binding is written by `SplitExp.format`, i.e. belongs to
the value printer) -/
theorem tr_BindStmFormat_eq_model (p : Bytes) (w : Nat) (b : Bind) :
    Gen.tr_BindStmFormat p (Int.ofNat w) b.id
        (fun q => (if b.split then sSplit ++ [0x20] else []) ++ fmt q b.exp) = fmtBind p w b := by
  rw [tr_BindStmFormat_spec]
  simp [fmtBind, bindPre, List.append_assoc]

/-- non-vacuity: `ab`, a 31-byte id (does not count), `*` (stops the loop), `abcdef` (not reached) -/
example :
    Gen.tr_idWidth [[0x61, 0x62], List.replicate 31 0x61, [0x2A], [0x61, 0x62, 0x63, 0x64, 0x65, 0x66]] = 2 ∧
    Gen.tr_idWidth [[0x61, 0x62], [0x61, 0x62, 0x63]] = 3 ∧
    Gen.tr_BindStmFormat [0x3E] 4 [0x61, 0x62] (fun _ => [0x31]) =
      [0x3E, 0x20, 0x20, 0x20, 0x20, 0x61, 0x62, 0x20, 0x20, 0x20, 0x3D, 0x20, 0x31, 0x2C, 0x0A] := by decide +kernel

end Proofs.TieC09
