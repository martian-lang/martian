/-
TREE AGREEMENT of the byte-level filters (`filterA`, Martian/JsonBytes.lean) with the tree-level
model (`TypesR.filter`, Martian/Types.lean): whenever the byte-level filter does not fail fatally,
the tree of the bytes it returns is the tree the tree-level model computes, as a decode into maps
sees it (`EqL`: per key last wins; member order and shadowed duplicates are invisible).
-/
import Martian.JsonBytes
import Proofs.JsonBytesFilter
import Proofs.Types
import Proofs.TypesRound
import Proofs.ListFacts
namespace Martian.JsonBytes
open Martian.Json (J Num getKey)
open Martian.Lexer (Bytes)
open Martian.Types (Ty Fields Base FErr canFilter worstF)

/-! ### equality of trees as a `map` decode sees them: member order and shadowed duplicates
are invisible, every key is looked up last-wins -/
mutual
inductive EqL : J → J → Prop where
  | null : EqL .null .null
  | bool (b : Bool) : EqL (.bool b) (.bool b)
  | num (n : Num) : EqL (.num n) (.num n)
  | str (s : Bytes) : EqL (.str s) (.str s)
  | arr {xs ys : List J} : EqLs xs ys → EqL (.arr xs) (.arr ys)
  | obj {k1 k2 : List (Bytes × J)} :
      (∀ k, (getKey k k1).isSome = (getKey k k2).isSome) →
      (∀ k v1 v2, getKey k k1 = some v1 → getKey k k2 = some v2 → EqL v1 v2) → EqL (.obj k1) (.obj k2)
inductive EqLs : List J → List J → Prop where
  | nil : EqLs [] []
  | cons {x y : J} {xs ys : List J} : EqL x y → EqLs xs ys → EqLs (x :: xs) (y :: ys)
end

mutual
theorem EqL.refl : ∀ j : J, EqL j j
  | .null => .null
  | .bool b => .bool b
  | .num n => .num n
  | .str s => .str s
  | .arr xs => .arr (EqLs.refl xs)
  | .obj kvs => .obj (fun _ => rfl) (fun k v1 v2 h1 h2 => by
      rw [h1] at h2; cases h2
      exact EqL.refl_members kvs (k, v1) (Martian.Json.getKey_mem h1))
theorem EqLs.refl : ∀ xs : List J, EqLs xs xs
  | [] => .nil
  | x :: r => .cons (EqL.refl x) (EqLs.refl r)
theorem EqL.refl_members : ∀ (kvs : List (Bytes × J)) (kv : Bytes × J), kv ∈ kvs → EqL kv.2 kv.2
  | [], _, h => nomatch h
  | (_, v) :: r, kv, h => by
    rcases List.mem_cons.mp h with h | h
    · rw [h]; exact EqL.refl v
    · exact EqL.refl_members r kv h
end


theorem EqL.of_getKey_eq {l1 l2 : List (Bytes × J)} (h : ∀ k, getKey k l1 = getKey k l2) :
    EqL (.obj l1) (.obj l2) :=
  .obj (fun k => by rw [h]) (fun k v1 v2 h1 h2 => by
    rw [h k, h2] at h1; cases h1; exact EqL.refl _)

theorem getKeyG_mapVal {α β : Type} (g : α → β) (k : Bytes) : ∀ (l : List (Bytes × α)),
    getKeyG k (l.map fun kv => (kv.1, g kv.2)) = (getKeyG k l).map g
  | [] => rfl
  | (k', v) :: r => by
    simp only [List.map_cons, getKeyG, getKeyG_mapVal g k r]
    cases getKeyG k r with
    | some w => rfl
    | none => by_cases h : k' = k <;> simp [h]

theorem getKey_eq_getKeyG (k : Bytes) : ∀ (l : List (Bytes × J)), getKey k l = getKeyG k l
  | [] => rfl
  | (k', v) :: r => by
    simp only [getKey, getKeyG, getKey_eq_getKeyG k r]
    cases getKeyG k r <;> rfl

theorem getKey_toJKvs (k : Bytes) (m : List (Bytes × A)) : getKey k (toJKvs m) = (getKeyG k m).map A.toJ := by
  rw [toJKvs_eq_map, getKey_eq_getKeyG]; exact getKeyG_mapVal A.toJ k m

theorem getKeyG_none_iff {α : Type} {k : Bytes} {l : List (Bytes × α)} :
    getKeyG k l = none ↔ k ∉ l.map Prod.fst := by
  -- the keys do not change when every value is replaced by `null`; then it is `getKey_eq_none_iff`
  rw [← Option.map_eq_none_iff (f := fun _ : α => J.null), ← getKeyG_mapVal, ← getKey_eq_getKeyG,
    Martian.Json.getKey_eq_none_iff, List.map_map]
  rfl

theorem getKeyG_dedupLastG {α : Type} (k : Bytes) : ∀ (l : List (Bytes × α)),
    getKeyG k (dedupLastG l) = getKeyG k l
  | [] => rfl
  | (k', v) :: r => by
    have ih := getKeyG_dedupLastG k r
    simp only [dedupLastG]
    by_cases hc : (r.map Prod.fst).contains k' = true
    · simp only [hc, ↓reduceIte, ih, getKeyG]
      cases hg : getKeyG k r with
      | some w => rfl
      | none =>
        have hk : k ∉ r.map Prod.fst := getKeyG_none_iff.mp hg
        have : k' ≠ k := by
          rintro rfl
          exact hk (by simpa using hc)
        simp [this]
    · simp only [hc, Bool.false_eq_true, ↓reduceIte, getKeyG, ih]

theorem keys_dedupLastG_nodup {α : Type} : ∀ (l : List (Bytes × α)), ((dedupLastG l).map Prod.fst).Nodup
  | [] => by simp [dedupLastG]
  | (k', v) :: r => by
    have ih := keys_dedupLastG_nodup r
    simp only [dedupLastG]
    by_cases hc : (r.map Prod.fst).contains k' = true
    · simp only [hc, ↓reduceIte]; exact ih
    · simp only [hc, Bool.false_eq_true, ↓reduceIte, List.map_cons, List.nodup_cons]
      refine ⟨?_, ih⟩
      intro hm
      obtain ⟨⟨k, w⟩, hkv, hk⟩ := List.mem_map.mp hm
      simp only at hk; subst hk
      apply hc
      have hmem : k ∈ r.map Prod.fst := (List.mem_map (f := Prod.fst)).mpr ⟨(k, w), mem_dedupLastG hkv, rfl⟩
      simpa using hmem

theorem getKeyG_insertByKey {α : Type} (k : Bytes) (x : Bytes × α) : ∀ (l : List (Bytes × α)),
    x.1 ∉ l.map Prod.fst → getKeyG k (insertByKey x l) = if x.1 = k then some x.2 else getKeyG k l
  | [], _ => by
    obtain ⟨xk, xv⟩ := x
    by_cases h : xk = k <;> simp [insertByKey, getKeyG, h]
  | y :: r, hx => by
    obtain ⟨xk, xv⟩ := x
    obtain ⟨yk, yv⟩ := y
    simp only [List.map_cons, List.mem_cons, not_or] at hx
    simp only [insertByKey]
    split
    · -- x in front
      simp only [getKeyG]
      by_cases h : xk = k
      · subst h
        have h1 : getKeyG xk r = none := getKeyG_none_iff.mpr hx.2
        have h2 : ¬ yk = xk := fun e => hx.1 e.symm
        simp [h1, h2]
      · simp only [h, ↓reduceIte]
        cases getKeyG k r with
        | some w => rfl
        | none => by_cases hy : yk = k <;> simp [hy]
    · have ih := getKeyG_insertByKey k (xk, xv) r hx.2
      simp only [getKeyG, ih]
      by_cases h : xk = k
      · subst h
        simp
      · simp only [h, ↓reduceIte]

theorem getKeyG_sortByKey {α : Type} (k : Bytes) : ∀ (l : List (Bytes × α)), (l.map Prod.fst).Nodup →
    getKeyG k (sortByKey l) = getKeyG k l
  | [], _ => rfl
  | (xk, xv) :: r, hn => by
    simp only [List.map_cons, List.nodup_cons] at hn
    have ih := getKeyG_sortByKey k r hn.2
    have hx : xk ∉ (sortByKey r).map Prod.fst := fun hh => by
      obtain ⟨kv, hm, rfl⟩ := List.mem_map.mp hh
      exact hn.1 (List.mem_map_of_mem (mem_sortByKey hm))
    have hs : sortByKey ((xk, xv) :: r) = insertByKey (xk, xv) (sortByKey r) := rfl
    rw [hs, getKeyG_insertByKey k (xk, xv) _ hx, ih]
    simp only [getKeyG]
    by_cases h : xk = k
    · subst h
      have : getKeyG xk r = none := getKeyG_none_iff.mpr hn.1
      simp [this]
    · simp only [h, ↓reduceIte]
      cases getKeyG k r <;> simp

/-- looking a key up in what the typed-map filter iterates over = looking it up (last wins) in the members -/
theorem getKeyG_sorted_dedup {α : Type} (k : Bytes) (l : List (Bytes × α)) :
    getKeyG k (sortByKey (dedupLastG l)) = getKeyG k l := by
  rw [getKeyG_sortByKey k _ (keys_dedupLastG_nodup l), getKeyG_dedupLastG]


theorem filterBaseA_same (b : Base) (a : A) (h : (filterBaseA b a).same = true) : (filterBaseA b a).out = a := by
  unfold filterBaseA at h ⊢
  split
  · rename_i heq; simp [heq] at h
  · rfl

theorem filterA_same (t : Ty) (a : A) (h : (filterA t a).same = true) : (filterA t a).out = a := by
  revert h
  fun_cases filterA t a
  case case1 => exact filterBaseA_same _ _
  all_goals intro h; first | rfl | cases h

/-- the tree and the error class of a filtered array, whichever path was taken (input slice
returned, or re-encoded): `same` is invisible in the tree -/
theorem filterA_arr (t : Ty) (raw : Bytes) (xs : List A) (hc : canFilter t = true) :
    (filterA (.arr t) (.arr raw xs)).out.toJ = .arr (xs.map fun x => (filterA t x).out.toJ) ∧
    (filterA (.arr t) (.arr raw xs)).err = worstF (xs.map fun x => (filterA t x).err) := by
  simp only [filterA, A.isNull, hc, Bool.not_true, Bool.or_self, Bool.false_eq_true, ↓reduceIte]
  by_cases he : xs.isEmpty = true
  · obtain rfl : xs = [] := by simpa using he
    exact ⟨rfl, rfl⟩
  · simp only [he, Bool.false_eq_true, ↓reduceIte, List.map_map, Function.comp_def]
    split
    · rename_i hs
      refine ⟨?_, rfl⟩
      simp only [A.toJ, toJs_eq_map]
      congr 1
      refine List.map_congr_left fun x hx => ?_
      rw [filterA_same t x (List.all_eq_true.mp hs _ (List.mem_map.mpr ⟨x, hx, rfl⟩))]
    · exact ⟨by simp only [A.toJ, toJs_eq_map, List.map_map, Function.comp_def], rfl⟩

/-- … and of a filtered typed map: per key, the filtered last member with that key -/
theorem filterA_tmap (t : Ty) (raw : Bytes) (kvs : List (Bytes × A)) (hc : canFilter t = true) :
    (∃ out, (filterA (.tmap t) (.obj raw kvs)).out.toJ = .obj out ∧
      ∀ k, getKey k out = (getKeyG k kvs).map fun v => (filterA t v).out.toJ) ∧
    (filterA (.tmap t) (.obj raw kvs)).err =
      worstF ((sortByKey (dedupLastG kvs)).map fun kv => (filterA t kv.2).err) := by
  simp only [filterA, A.isNull, hc, Bool.not_true, Bool.or_self, Bool.false_eq_true, ↓reduceIte]
  by_cases he : (sortByKey (dedupLastG kvs)).isEmpty = true
  · have hm : sortByKey (dedupLastG kvs) = [] := by simpa using he
    simp only [hm, List.map_nil]
    refine ⟨⟨_, rfl, fun k => ?_⟩, rfl⟩
    have : getKeyG k kvs = none := by rw [← getKeyG_sorted_dedup k kvs, hm]; rfl
    rw [getKey_toJKvs, this]; rfl
  · simp only [he, Bool.false_eq_true, ↓reduceIte, List.map_map, Function.comp_def]
    split
    · rename_i hs
      refine ⟨⟨_, rfl, fun k => ?_⟩, rfl⟩
      rw [getKey_toJKvs]
      cases hg : getKeyG k kvs with
      | none => rfl
      | some v =>
        have hm := getKeyG_mem (getKeyG_sorted_dedup k kvs ▸ hg)
        rw [Option.map_some, Option.map_some,
          filterA_same t v (List.all_eq_true.mp hs (k, filterA t v) (List.mem_map.mpr ⟨(k, v), hm, rfl⟩))]
    · refine ⟨⟨_, rfl, fun k => ?_⟩, rfl⟩
      rw [getKey_toJKvs, getKeyG_mapVal (fun v => (filterA t v).out), getKeyG_sorted_dedup]
      cases getKeyG k kvs <;> rfl

/-- what the struct member loop writes for one member -/
def fieldOutA (t : Ty) : Option A → A
  | none => nullA
  | some v => if canFilter t then (filterA t v).out else v

theorem filterFieldsA_fst : ∀ (fs : Fields) (m : List (Bytes × A)),
    (filterFieldsA fs m).1 = fs.toList.map (fun kt => (kt.1, fieldOutA kt.2 (getKeyG kt.1 m)))
  | .nil, m => by simp [filterFieldsA, Fields.toList]
  | .cons k t r, m => by
    have ih := filterFieldsA_fst r m
    simp only [filterFieldsA, Fields.toList, List.map_cons]
    cases hg : getKeyG k m with
    | none => simp [fieldOutA, ih]
    | some v =>
      by_cases hc : canFilter t = true
      · simp [fieldOutA, hc, ih]
      · have hc' : canFilter t = false := by simpa using hc
        simp [fieldOutA, hc', ih]

/-- a non-fatal member loop found every member, and no member filter was fatal; `different` is
exactly "some filtered member changed" -/
theorem filterFieldsA_ne_fatal : ∀ (fs : Fields) (m : List (Bytes × A)), (filterFieldsA fs m).2.2 ≠ .fatal →
    ∀ k t, (k, t) ∈ fs.toList → ∃ v, getKeyG k m = some v ∧ (canFilter t = true → (filterA t v).err ≠ .fatal) ∧
      ((filterFieldsA fs m).2.1 = false → canFilter t = true → (filterA t v).same = true)
  | .nil, m, _ => by simp [Fields.toList]
  | .cons k t r, m, h => by
    intro k' t' hm
    simp only [Fields.toList, List.mem_cons, Prod.mk.injEq] at hm
    simp only [filterFieldsA] at h ⊢
    cases hg : getKeyG k m with
    | none => simp [hg] at h
    | some v =>
      simp only [hg] at h ⊢
      by_cases hc : canFilter t = true
      · simp only [hc, ↓reduceIte] at h ⊢
        rw [Martian.Types.FErr.max_ne_fatal] at h
        rcases hm with ⟨rfl, rfl⟩ | hm
        · refine ⟨v, hg, fun _ => h.1, ?_⟩
          intro hd _
          simp only [Bool.or_eq_false_iff, Bool.not_eq_false'] at hd
          exact hd.2
        · obtain ⟨v', h1, h2, h3⟩ := filterFieldsA_ne_fatal r m h.2 k' t' hm
          refine ⟨v', h1, h2, ?_⟩
          intro hd
          simp only [Bool.or_eq_false_iff] at hd
          exact h3 hd.1
      · have hc' : canFilter t = false := by simpa using hc
        simp only [hc', Bool.false_eq_true, ↓reduceIte] at h ⊢
        rcases hm with ⟨rfl, rfl⟩ | hm
        · exact ⟨v, hg, fun hcc => by simp [hc'] at hcc, fun _ hcc => by simp [hc'] at hcc⟩
        · exact filterFieldsA_ne_fatal r m h k' t' hm


/-! ### the tree returned by the byte-level filter is the tree-level model's, as a map decode sees it -/

theorem eqLs_map {α : Type} (f g : α → J) : ∀ (l : List α), (∀ x, x ∈ l → EqL (f x) (g x)) → EqLs (l.map f) (l.map g)
  | [], _ => .nil
  | x :: r, h => .cons (h x (by simp)) (eqLs_map f g r (fun y hy => h y (by simp [hy])))

theorem eqL_obj_of_lookup {α : Type} (l1 l2 : List (Bytes × J)) (src : Bytes → Option α) (f g : α → J)
    (h1 : ∀ k, getKey k l1 = (src k).map f) (h2 : ∀ k, getKey k l2 = (src k).map g)
    (h : ∀ k v, src k = some v → EqL (f v) (g v)) : EqL (.obj l1) (.obj l2) := by
  refine .obj ?_ ?_
  · intro k; rw [h1, h2]; cases src k <;> rfl
  · intro k v1 v2 e1 e2
    rw [h1] at e1; rw [h2] at e2
    cases hs : src k with
    | none => simp [hs] at e1
    | some v =>
      simp only [hs, Option.map_some, Option.some.injEq] at e1 e2
      subst e1; subst e2
      exact h k v hs

theorem filterBaseR_fst (b : Base) (v : J) :
    (Martian.TypesR.filterBase b v).1 = v ∨ ∃ i, Martian.TypesR.filterBase b v = (.num (.int i), .soft) := by
  cases b <;> cases v <;> try (left; rfl)
  case int.num n =>
    cases n with
    | int i =>
      simp only [Martian.TypesR.filterBase]
      split
      · left; rfl
      · split
        · right; exact ⟨_, rfl⟩
        · left; rfl
    | flt m e =>
      simp only [Martian.TypesR.filterBase]
      split
      · right; exact ⟨_, rfl⟩
      · left; rfl
  all_goals (simp only [Martian.TypesR.filterBase]; left; rfl)


theorem agree_base (b : Base) (a : A) :
    EqL (filterBaseA b a).out.toJ (Martian.TypesR.filterBase b a.toJ).1 := by
  rcases filterBaseR_fst b a.toJ with h | ⟨i, h⟩
  · unfold filterBaseA
    split
    · rename_i i heq; rw [heq]; exact EqL.refl _
    · rw [h]; exact EqL.refl _
  · simp only [filterBaseA, h, A.toJ]; exact EqL.refl _

/-- TREE AGREEMENT: whenever the byte-level filter does not fail fatally, the tree of the bytes it
returns is the tree the tree-level model `TypesR.filter` computes – as a decode into Go maps (or a
Python dict) sees it: per key, last wins; member order and shadowed duplicates are invisible. -/
theorem filterA_agrees (t : Ty) : t.wf = true → ∀ a, (filterA t a).err ≠ .fatal →
    EqL (filterA t a).out.toJ (Martian.TypesR.filter t a.toJ).1 := by
  induction t using Martian.Types.Ty.induct' with
  | base b => intro _ a _; simp only [filterA, Martian.TypesR.filter]; exact agree_base b a
  | user n =>
    intro _ a _
    have h1 : (filterA (.user n) a).out = a := by simp only [filterA]; split <;> rfl
    have h2 : (Martian.TypesR.filter (.user n) a.toJ).1 = a.toJ := by
      simp only [Martian.TypesR.filter]; split <;> rfl
    rw [h1, h2]; exact EqL.refl _
  | arr t ih =>
    intro hwf a h
    simp only [Ty.wf] at hwf
    by_cases hcf : canFilter t = true
    · cases a with
      | arr raw xs =>
        rw [(filterA_arr t raw xs hcf).2, Martian.Types.worstF_ne_fatal] at h
        rw [(filterA_arr t raw xs hcf).1]
        simp only [Martian.TypesR.filter, hcf, Bool.not_true, Bool.false_eq_true, ↓reduceIte, A.toJ, toJs_eq_map,
          List.map_map]
        exact .arr (eqLs_map _ _ xs fun x hx => ih hwf x (h _ (List.mem_map.mpr ⟨x, hx, rfl⟩)))
      | lit raw j =>
        cases j with
        | null =>
          simp only [filterA, A.isNull, Bool.true_or, ↓reduceIte, A.toJ, Martian.TypesR.filter, hcf, Bool.not_true,
            Bool.false_eq_true]
          exact EqL.refl _
        | _ => simp [filterA, A.isNull, hcf] at h
      | obj raw kvs => simp [filterA, A.isNull, hcf] at h
    · have hcf' : canFilter t = false := by simpa using hcf
      simp only [filterA, hcf', Bool.not_false, Bool.or_true, ↓reduceIte, Martian.TypesR.filter]
      exact EqL.refl _
  | tmap t ih =>
    intro hwf a h
    simp only [Ty.wf] at hwf
    by_cases hcf : canFilter t = true
    · cases a with
      | obj raw kvs =>
        obtain ⟨⟨out, ho, hl⟩, he⟩ := filterA_tmap t raw kvs hcf
        rw [he, Martian.Types.worstF_ne_fatal] at h
        rw [ho]
        simp only [Martian.TypesR.filter, hcf, Bool.not_true, Bool.false_eq_true, ↓reduceIte, A.toJ]
        refine eqL_obj_of_lookup _ _ (fun k => getKeyG k kvs) (fun v => (filterA t v).out.toJ)
          (fun v => (Martian.TypesR.filter t v.toJ).1) hl (fun k => ?_) fun k v hk => ih hwf v (h _ ?_)
        · rw [Martian.Json.getKey_mapVal (fun v => (Martian.TypesR.filter t v).1), getKey_toJKvs]
          cases getKeyG k kvs <;> rfl
        · exact List.mem_map.mpr ⟨(k, v), getKeyG_mem (getKeyG_sorted_dedup k kvs ▸ hk), rfl⟩
      | lit raw j =>
        cases j with
        | null =>
          simp only [filterA, A.isNull, Bool.true_or, ↓reduceIte, A.toJ, Martian.TypesR.filter, hcf, Bool.not_true,
            Bool.false_eq_true]
          exact EqL.refl _
        | _ => simp [filterA, A.isNull, hcf] at h
      | arr raw xs => simp [filterA, A.isNull, hcf] at h
    · have hcf' : canFilter t = false := by simpa using hcf
      simp only [filterA, hcf', Bool.not_false, Bool.or_true, ↓reduceIte, Martian.TypesR.filter]
      exact EqL.refl _
  | struct n fs ih =>
    intro hwf a h
    simp only [Ty.wf] at hwf
    obtain ⟨hnd, hwfm⟩ := Martian.Types.Fields.wf_iff.mp hwf
    cases a with
    | obj raw kvs =>
      simp only [filterA, A.isNull, Bool.false_eq_true, ↓reduceIte] at h ⊢
      simp only [Martian.TypesR.filter, A.toJ, Martian.TypesR.filterFields_fst]
      have herr : (filterFieldsA fs (dedupLastG kvs)).2.2 ≠ .fatal := by split at h <;> exact h
      have hmem := filterFieldsA_ne_fatal fs (dedupLastG kvs) herr
      -- per declared member: what both sides hold
      have hfield : ∀ k t, (k, t) ∈ fs.toList → ∃ v, getKeyG k kvs = some v ∧
          EqL (fieldOutA t (some v)).toJ (Martian.TypesR.fieldOut t (some v.toJ)) ∧
          ((filterFieldsA fs (dedupLastG kvs)).2.1 = false →
            EqL v.toJ (Martian.TypesR.fieldOut t (some v.toJ))) := by
        intro k t hkt
        obtain ⟨v, hv, he, hsm⟩ := hmem k t hkt
        rw [getKeyG_dedupLastG] at hv
        refine ⟨v, hv, ?_, ?_⟩
        · by_cases hc : canFilter t = true
          · simp only [fieldOutA, hc, ↓reduceIte, Martian.TypesR.fieldOut]
            exact ih k t hkt (hwfm k t hkt) v (he hc)
          · have hc' : canFilter t = false := by simpa using hc
            simp only [fieldOutA, hc', Bool.false_eq_true, ↓reduceIte, Martian.TypesR.fieldOut,
              Martian.TypesR.filter_fst_of_not_canFilter t _ hc']
            exact EqL.refl _
        · intro hd
          by_cases hc : canFilter t = true
          · have := ih k t hkt (hwfm k t hkt) v (he hc)
            rw [filterA_same t v (hsm hd hc)] at this
            simpa [Martian.TypesR.fieldOut] using this
          · have hc' : canFilter t = false := by simpa using hc
            simp only [Martian.TypesR.fieldOut, Martian.TypesR.filter_fst_of_not_canFilter t _ hc']
            exact EqL.refl _
      -- the declared members as a lookup table
      let L' : List (Bytes × (Bytes × Ty)) := fs.toList.map fun kt => (kt.1, kt)
      have hmapF : ∀ (F : Bytes × Ty → J) k, getKey k (fs.toList.map fun kt => (kt.1, F kt)) = (getKeyG k L').map F := by
        intro F k
        rw [getKey_eq_getKeyG]
        have : (fs.toList.map fun kt => (kt.1, F kt)) = L'.map fun kv => (kv.1, F kv.2) := by
          simp only [L', List.map_map]; rfl
        rw [this, getKeyG_mapVal]
      have hsrc : ∀ k kt, getKeyG k L' = some kt → kt ∈ fs.toList ∧ kt.1 = k := by
        intro k kt hk
        have := getKeyG_mem hk
        simp only [L', List.mem_map, Prod.mk.injEq] at this
        obtain ⟨kt', hm, h1, h2⟩ := this
        subst h2; exact ⟨hm, h1⟩
      by_cases hd : ((dedupLastG kvs).length != fs.toList.length || (filterFieldsA fs (dedupLastG kvs)).2.1) = true
      · -- re-encoded
        have hL : toJKvs (filterFieldsA fs (dedupLastG kvs)).1 = fs.toList.map fun kt =>
            (kt.1, (fieldOutA kt.2 (getKeyG kt.1 (dedupLastG kvs))).toJ) := by
          rw [filterFieldsA_fst, toJKvs_eq_map, List.map_map]; rfl
        simp only [hd, Bool.not_true, Bool.false_eq_true, ↓reduceIte, A.toJ, hL]
        refine eqL_obj_of_lookup _ _ (fun k => getKeyG k L')
          (fun kt => (fieldOutA kt.2 (getKeyG kt.1 (dedupLastG kvs))).toJ)
          (fun kt => Martian.TypesR.fieldOut kt.2 (getKey kt.1 (toJKvs kvs))) (hmapF _) (hmapF _) ?_
        · intro k kt hk
          obtain ⟨hm, _⟩ := hsrc k kt hk
          obtain ⟨v, hv, h1, _⟩ := hfield kt.1 kt.2 hm
          simp only [getKeyG_dedupLastG, hv, getKey_toJKvs, Option.map_some]
          exact h1
      · -- input returned
        have hd' : ((dedupLastG kvs).length != fs.toList.length || (filterFieldsA fs (dedupLastG kvs)).2.1) = false := by
          simpa using hd
        simp only [hd', Bool.not_false, ↓reduceIte, A.toJ]
        simp only [Bool.or_eq_false_iff, bne_eq_false_iff_eq] at hd'
        obtain ⟨hlen, hdiff⟩ := hd'
        -- no undeclared member: as many distinct keys as declared members, all of which are present
        have hsub : ∀ k, k ∈ (dedupLastG kvs).map Prod.fst → k ∈ fs.toList.map Prod.fst := by
          have hpig := Proofs.ListFacts.perm_of_subset_of_length_le (b := (dedupLastG kvs).map Prod.fst) hnd
            (by
              intro k hk
              obtain ⟨⟨k', t⟩, hm, rfl⟩ := List.mem_map.mp hk
              obtain ⟨v, hv, _, _⟩ := hmem k' t hm
              exact List.mem_map.mpr ⟨_, getKeyG_mem hv, rfl⟩)
            (by simp [hlen])
          exact fun k hk => hpig.mem_iff.mpr hk
        refine eqL_obj_of_lookup _ _ (fun k => getKeyG k L')
          (fun kt => ((getKeyG kt.1 kvs).map A.toJ).getD .null)
          (fun kt => Martian.TypesR.fieldOut kt.2 (getKey kt.1 (toJKvs kvs))) ?_ (hmapF _) ?_
        · intro k
          rw [getKey_toJKvs]
          cases hs : getKeyG k L' with
          | some kt =>
            obtain ⟨hm, hk1⟩ := hsrc k kt hs
            obtain ⟨v, hv, _, _⟩ := hfield kt.1 kt.2 hm
            subst hk1
            simp [hv]
          | none =>
            have hnot : k ∉ fs.toList.map Prod.fst := by
              have := getKeyG_none_iff.mp hs
              simpa [L', List.map_map, Function.comp_def] using this
            have : k ∉ (dedupLastG kvs).map Prod.fst := fun hh => hnot (hsub k hh)
            have hnone := getKeyG_none_iff.mpr this
            rw [getKeyG_dedupLastG] at hnone
            simp [hnone]
        · intro k kt hk
          obtain ⟨hm, _⟩ := hsrc k kt hk
          obtain ⟨v, hv, _, h2⟩ := hfield kt.1 kt.2 hm
          simp only [hv, Option.map_some, Option.getD_some, getKey_toJKvs]
          exact h2 hdiff
    | lit raw j =>
      cases j with
      | null =>
        simp only [filterA, A.isNull, ↓reduceIte, A.toJ, Martian.TypesR.filter]
        exact EqL.refl _
      | _ => simp [filterA, A.isNull] at h
    | arr raw xs => simp [filterA, A.isNull] at h

end Martian.JsonBytes
