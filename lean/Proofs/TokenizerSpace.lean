import Martian.Tokenizer
import Proofs.LexerRegex
import Gen.Facts

/-!
The white-space set of `leadingSpace` against the sources: the ASCII fast path
against the case list re-read from tokenizer.go (`Gen.tokSpaceAscii`), the
non-ASCII part against the table behind `unicode.IsSpace`, re-read from the
toolchain's unicode/tables.go (`Gen.unicodeWhiteSpace`, (lo, hi, stride)).
(For runes ≤ 0xFF `unicode.IsSpace` uses a switch over the same Latin-1
members U+0085, U+00A0 that the table lists.)
-/
namespace Martian.Tokenizer

/-- membership in a `unicode.RangeTable`: `lo, lo+stride, …, hi` -/
def inStride : List (Nat × Nat × Nat) → Nat → Bool
  | [], _ => false
  | (lo, hi, st) :: t, r => (decide (lo ≤ r) && decide (r ≤ hi) && (r - lo) % st == 0) || inStride t r

theorem uniSpace_eq_table (r : Nat) (h : 0x80 ≤ r) : isUniSpace r = inStride Gen.unicodeWhiteSpace r := by
  simp only [isUniSpace, Gen.unicodeWhiteSpace, inStride]
  rw [Bool.eq_iff_iff]
  simp only [Bool.or_eq_true, Bool.and_eq_true, beq_iff_eq, decide_eq_true_eq, Bool.or_false]
  omega

theorem asciiSpace_eq_source : ∀ c : UInt8, isAsciiSpace c = Gen.tokSpaceAscii.contains c.toNat := by
  apply Martian.LexerRegex.forall_byte; decide +kernel

end Martian.Tokenizer
