/-
C13 `content_preserved_mapped`: content preservation (both halves) lifted to
top-level calls mapped over a typed map, for the branch with the key check
(`postMapChecked`): induction over the forks, each legal fork being one `block`
(Proofs/PostProcessContent.lean), which carries the invariant "the current file
system is `Clean` for the leaves still to be processed and agrees with the
original one on their sources" to the next fork.
-/
import Proofs.PostProcessMapped

namespace Martian.PostProcess

/-- the `moveOutFile` calls of `postMapChecked` -/
abbrev LM (params : List (String × String × Ty)) (top : Path) (kvs : List (String × J)) : List Leaf :=
  leavesMap params top (legalForks kvs)

theorem LM_cons (params : List (String × String × Ty)) (top : Path) (k : String) (x : J) (r : List (String × J)) :
    LM params top ((k, x) :: r) =
      if legalName k = true then leavesRec params (fieldsOf x) (top ++ [k]) ++ LM params top r else LM params top r := by
  by_cases hk : legalName k = true <;> simp [LM, legalForks, hk, leavesMap, joinKey_legal top k]

theorem postMapChecked_frame (ps top : Path) (params : List (String × String × Ty)) (kvs : List (String × J))
    (fs : FS) (hc : Clean ps top fs (LM params top kvs))
    (hlen : ∀ l ∈ LM params top kvs, top.length + 2 ≤ l.dest.length) (q : Path)
    (hq : ∀ k, isPrefix q (top ++ [k]) = false)
    (h : ∀ l ∈ LM params top kvs, (∀ p, l.src = some p → ¬ p <+: q) ∧ ¬ l.dest <+: q ∧ ¬ q <+: l.outs) :
    (postMapChecked true ps params top kvs fs).2.get q = fs.get q := by
  induction kvs generalizing fs with
  | nil => rfl
  | cons kv r ih =>
    obtain ⟨k, x⟩ := kv
    by_cases hk : legalName k = true
    · rw [LM_cons, if_pos hk] at hc hlen h
      obtain ⟨hc2, -, -, -, hfr⟩ := block ps top (top ++ [k]) (hasFileMs params) fs fs _ _ hc (List.prefix_append _ _)
        (fun l hl => by have := hlen l hl; simp; omega) (fun _ _ _ _ _ => rfl)
      simp only [postMapChecked, hk, if_true, processStructOuts_eq]
      rw [ih _ hc2 (fun l hl => hlen l (by simp [hl])) (fun l hl => h l (by simp [hl])),
        hfr q (isPrefix_false_iff.mp (hq k)) (fun l hl => h l (by simp [hl]))]
    · rw [LM_cons, if_neg hk] at hc hlen h
      simp only [postMapChecked, hk]
      exact ih _ hc hlen h

theorem content_mapped (ps top : Path) (params : List (String × String × Ty)) (fs0 : FS)
    (kvs : List (String × J)) (fs : FS)
    (hc : Clean ps top fs (LM params top kvs))
    (hlen : ∀ l ∈ LM params top kvs, top.length + 2 ≤ l.dest.length)
    (hag : ∀ l ∈ LM params top kvs, ∀ p, l.src = some p → ∀ suf, fs.get (p ++ suf) = fs0.get (p ++ suf)) :
    (∀ l ∈ LM params top kvs, ∀ p e, l.src = some p → fs0.get p = some e → ∀ suf,
      (postMapChecked true ps params top kvs fs).2.get (l.dest ++ suf) = fs0.get (p ++ suf)) ∧
    (postMapChecked true ps params top kvs fs).1 = expectedMapped fs0 params top kvs := by
  induction kvs generalizing fs with
  | nil => exact ⟨fun l hl => by simp [LM, legalForks, leavesMap] at hl, rfl⟩
  | cons kv r ih =>
    obtain ⟨k, x⟩ := kv
    by_cases hk : legalName k = true
    · rw [LM_cons, if_pos hk] at hc hlen hag ⊢
      -- this fork is a block; it hands the invariant to the later forks
      obtain ⟨hc2, hag2, hgood, hmoved, -⟩ := block ps top (top ++ [k]) (hasFileMs params) fs0 fs _ _ hc
        (List.prefix_append _ _) (fun l hl => by have := hlen l hl; simp; omega) hag
      obtain ⟨iha, ihb⟩ := ih _ hc2 (fun l hl => hlen l (by simp [hl])) hag2
      simp only [postMapChecked, hk, if_true, processStructOuts_eq, expectedMapped, List.map_cons]
      refine ⟨fun l hl p e hp he suf => ?_, ?_⟩
      · rcases List.mem_append.mp hl with hlA | hlB
        · -- a leaf of this fork: moved now, untouched by the later forks
          rw [postMapChecked_frame ps top params r _ hc2 (fun l' hl' => hlen l' (by simp [hl'])) (l.dest ++ suf)
            (fun k' => isPrefix_false_iff.mpr fun hh => by
              have := hh.length_le; have := hlen l hl; simp at *; omega)
            (fun l' hl' => out_of_way hc (by simp [hl']) (dest_below (hc.below l hl)) (List.prefix_append _ _)
              ((List.pairwise_append.mp hc.dests).2.2 l hlA l' hl').symm)]
          exact hmoved l hlA p e hp he suf
        · exact iha l hlB p e hp he suf
      · rw [ihb, handleOuts_val ps (expectVal fs0) params (fieldsOf x) (top ++ [k]) _ hgood]
        rfl
    · rw [LM_cons, if_neg hk] at hc hlen hag ⊢
      have hk' : legalName k = false := by simpa using hk
      obtain ⟨iha, ihb⟩ := ih fs hc hlen hag
      simp only [postMapChecked, hk', Bool.false_eq_true, if_false, expectedMapped, List.map_cons]
      exact ⟨iha, by rw [ihb]; rfl⟩

theorem LM_below (params : List (String × String × Ty)) (top : Path) (kvs : List (String × J))
    (h : wfParams params = true) :
    ∀ l ∈ LM params top kvs, top <+: l.outs ∧ top.length + 2 ≤ l.dest.length := by
  intro l hl
  obtain ⟨k, x, hm, hx⟩ := mem_leavesMap hl
  have hk : legalName k = true := legalForks_keys_legal kvs k (List.mem_map.mpr ⟨(k, x), hm, rfl⟩)
  rw [joinKey_legal top k hk] at hx
  obtain ⟨s, hs⟩ := leavesRec_under params _ _ h l hx
  refine ⟨⟨[k] ++ s, by rw [hs]; simp⟩, ?_⟩
  simp [Leaf.dest, hs]

theorem clean_mapped (ps top : Path) (fs : FS) (params : List (String × String × Ty)) (kvs : List (String × J))
    (hwf : wfParams params = true) (hnd : (kvs.map Prod.fst).Nodup)
    (apart : ∀ l ∈ LM params top kvs, ∀ p, l.src = some p → ¬ p <+: top ∧ ¬ top <+: p)
    (nonnest : (LM params top kvs).Pairwise (fun l1 l2 => ∀ p1 p2, l1.src = some p1 →
      l2.src = some p2 → ¬ p1 <+: p2 ∧ ¬ p2 <+: p1))
    (status : ∀ l ∈ LM params top kvs, ∀ p, l.src = some p →
      fs.get p = none ∨ ∃ e, fs.get p = some e ∧ e.isLink = false ∧ inside ps p = true)
    (free : ∀ l ∈ LM params top kvs, fs.get l.dest = none) :
    Clean ps top fs (LM params top kvs) :=
  ⟨leavesMap_pairwise params top (legalForks kvs) hwf (legalForks_separable top kvs hnd),
    fun l hl => (LM_below params top kvs hwf l hl).1, apart, nonnest, status, free⟩

theorem exKvsM_checked :
    wfParams [("r", "", .file ""), ("s", "", .file "txt")] = true ∧
    (([("a", J.null), ("a/", J.null), ("b", J.null)] : List (String × J)).map Prod.fst).Nodup ∧
    cleanB ["ps"] ["ps", "outs"] exFSM
      (leavesMap [("r", "", .file ""), ("s", "", .file "txt")] ["ps", "outs"] (legalForks exKvsM)) = true ∧
    (leavesMap [("r", "", .file ""), ("s", "", .file "txt")] ["ps", "outs"] (legalForks exKvsM)).length = 4 := by
  decide +kernel

end Martian.PostProcess
