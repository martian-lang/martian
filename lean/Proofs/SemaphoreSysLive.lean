import Proofs.SemaphoreSys

/-! The local-job system: no deadlock (`exists_enabled`), schedules are bounded by the rank and end with
every job over (`sched_bound`, `finishing_schedule`, `maximal_all_over`); then the amounts of a job against
the sizes the semaphores were created with (`fitsSizes`, `localAmounts_fit`, `init_static`) and the
decidability of `EnabledSched`. -/
namespace Martian.Semaphore

theorem no_waiter_of_all_disabled (y : Sys) (inv : SInv y)
    (hdis : ∀ b ∈ y.jobs, b.enabled = false) :
    ∀ d, ∀ b ∈ y.jobs, ∀ s, b.ph = .acq s true → y.gs.length ≤ s + d → False := by
  intro d
  induction d with
  | zero =>
    intro b hb s hph hk
    have := (inv.wf b hb).1
    rw [hph] at this
    have := this.2 rfl
    omega
  | succ d ih =>
    intro b hb s hph hk
    have hwf := (inv.wf b hb).1
    rw [hph] at hwf
    have hlt : s < y.gs.length := hwf.2 rfl
    obtain ⟨g, hg⟩ : ∃ g, y.gs[s]? = some g := ⟨y.gs[s], List.getElem?_eq_getElem hlt⟩
    have ok := inv.sem s g hg
    have hheld : g.held = [] := by
      cases hh : g.held with
      | nil => rfl
      | cons w ws =>
        exfalso
        have hx : w.1 ∈ hidG g := by simp [hidG, hh]
        obtain ⟨c, hc, hcid⟩ := ok.own w.1 (List.mem_append_left _ hx)
        have hl := (ok.link c hc).1
        rw [hcid] at hl
        have hholds := hl.mp hx
        rcases disabled_phase c (hdis c hc) with ⟨s', hs'⟩ | h0
        · rw [hs'] at hholds
          simp only [Phase.holds, decide_eq_true_eq] at hholds
          exact ih c hc s' hs' (by omega)
        · rw [h0] at hholds
          simp [Phase.holds] at hholds
    have hw := good_idle (g.sem, g.held) ok.good hheld ok.full
    have hbw := (ok.link b hb).2.mpr hph
    simp only at hw
    simp [widG, hw] at hbw

theorem exists_enabled (y : Sys) (inv : SInv y) (h : y.allOver = false) :
    ∃ b ∈ y.jobs, b.enabled = true := by
  apply Classical.byContradiction
  intro hne
  have hdis : ∀ b ∈ y.jobs, b.enabled = false := by
    intro b hb
    cases he : b.enabled with
    | false => rfl
    | true => exact absurd ⟨b, hb, he⟩ hne
  have : y.allOver = true := by
    unfold Sys.allOver
    rw [List.all_eq_true]
    intro b hb
    rcases disabled_phase b (hdis b hb) with ⟨s, hs⟩ | h0
    · exact (no_waiter_of_all_disabled y inv hdis y.gs.length b hb s hs (by omega)).elim
    · simp [h0]
  rw [this] at h; cases h

theorem sched_bound (y : Sys) (inv : SInv y) (js : List Nat) (h : y.EnabledSched js) :
    js.length + (y.runSched js).rank ≤ y.rank := by
  induction js generalizing y with
  | nil => simp [Sys.runSched]
  | cons j js ih =>
    obtain ⟨he, hrest⟩ := h
    obtain ⟨b, hb, hbid, hen⟩ := (enabledId_iff y inv j).mp he
    subst hbid
    have hlt := act_rank_lt y inv b hb hen
    have := ih (y.act b.id) (act_inv y inv b.id) hrest
    simp only [Sys.runSched, List.length_cons]
    omega

theorem finishing_schedule (y : Sys) (inv : SInv y) :
    ∃ js, y.EnabledSched js ∧ (y.runSched js).allOver = true := by
  induction hr : y.rank using Nat.strongRecOn generalizing y with
  | _ n ih =>
    cases ho : y.allOver with
    | true => exact ⟨[], trivial, ho⟩
    | false =>
      obtain ⟨b, hb, he⟩ := exists_enabled y inv ho
      obtain ⟨js, hjs, hfin⟩ := ih _ (hr ▸ act_rank_lt y inv b hb he) (y.act b.id) (act_inv y inv b.id) rfl
      exact ⟨b.id :: js, ⟨(enabledId_iff y inv b.id).mpr ⟨b, hb, rfl, he⟩, hjs⟩, hfin⟩
theorem maximal_all_over (y : Sys) (inv : SInv y)
    (hmax : ∀ j, y.enabledId j = false) :
    y.allOver = true ∧ ∀ b ∈ y.jobs, b.fits y.gs → b.ph = .rel 0 ∧ b.ran = true ∧ b.failed = false := by
  have hover : y.allOver = true := by
    cases ho : y.allOver with
    | true => rfl
    | false =>
      obtain ⟨b, hb, he⟩ := exists_enabled y inv ho
      have := (enabledId_iff y inv b.id).mpr ⟨b, hb, rfl, he⟩
      rw [hmax] at this; cases this
  refine ⟨hover, ?_⟩
  intro b hb hfit
  have hph : b.ph = .rel 0 := by
    unfold Sys.allOver at hover
    rw [List.all_eq_true] at hover
    simpa using hover b hb
  have hfl := inv.flags b hb
  have hnf : b.failed = false := by
    cases hf : b.failed with
    | false => rfl
    | true => exact absurd hfit (hfl.1 hf)
  refine ⟨hph, ?_, hnf⟩
  rcases hfl.2 0 hph with h | h
  · exact h
  · rw [hnf] at h; cases h

/-- the amounts fit the sizes the semaphores were created with -/
def fitsSizes (amts sizes : List Int) : Prop :=
  ∀ i m, sizes[i]? = some m → amts.getD i 0 ≤ m

theorem fitsSizes_nil (amts : List Int) : fitsSizes amts [] := by
  intro i m h; simp at h

theorem fitsSizes_cons {a m : Int} {as ms : List Int} :
    fitsSizes (a :: as) (m :: ms) ↔ a ≤ m ∧ fitsSizes as ms := by
  constructor
  · intro h
    exact ⟨h 0 m rfl, fun i k hk => h (i + 1) k hk⟩
  · rintro ⟨h0, h⟩ i k hk
    cases i with
    | zero => cases hk; exact h0
    | succ i => exact h i k hk

/-- the form in which the theorems about `Sys` ask for non-negative amounts -/
theorem getD_nonneg_iff (l : List Int) : (∀ s, 0 ≤ l.getD s 0) ↔ ∀ a ∈ l, 0 ≤ a := by
  constructor
  · intro h a ha
    obtain ⟨i, hi⟩ := List.mem_iff_getElem?.mp ha
    have := h i
    rwa [List.getD_eq_getElem?_getD, hi] at this
  · intro h s
    rw [List.getD_eq_getElem?_getD]
    cases hs : l[s]? with
    | none => exact Int.le_refl 0
    | some a => exact h a (List.mem_iff_getElem?.mpr ⟨s, hs⟩)

theorem localAmounts_fit (c : LocalCfg) (procsLeft : Option Int) (a : Int × Int × Int × Int)
    (h1 : 0 ≤ a.1 ∧ a.1 ≤ c.maxCores * 100) (h2 : 0 ≤ a.2.1 ∧ a.2.1 ≤ c.maxMemGB * 1024)
    (h3 : 0 < c.maxVmemMB → 0 ≤ a.2.2.1 ∧ a.2.2.1 ≤ c.maxVmemMB)
    (h4 : ∀ p, procsLeft = some p → 0 ≤ a.2.2.2 ∧ a.2.2.2 ≤ p) :
    fitsSizes (localAmounts c procsLeft.isSome a) (localSizes c procsLeft) ∧
    (∀ s, 0 ≤ (localAmounts c procsLeft.isSome a).getD s 0) := by
  rw [getD_nonneg_iff]
  cases procsLeft with
  | none =>
    by_cases hv : 0 < c.maxVmemMB
    · simp [localAmounts, localSizes, hv, fitsSizes_cons, fitsSizes_nil, h1, h2, h3 hv]
    · simp [localAmounts, localSizes, hv, fitsSizes_cons, fitsSizes_nil, h1, h2]
  | some p =>
    by_cases hv : 0 < c.maxVmemMB
    · simp [localAmounts, localSizes, hv, fitsSizes_cons, fitsSizes_nil, h1, h2, h3 hv, h4 p rfl]
    · simp [localAmounts, localSizes, hv, fitsSizes_cons, fitsSizes_nil, h1, h2, h4 p rfl]

theorem fits_of_fitsSizes (b : LJob) (gs : List G) (sizes : List Int)
    (hm : gs.map (fun g => g.sem.max) = sizes) (h : fitsSizes b.amts sizes) : b.fits gs := by
  intro i g hg
  apply h i g.sem.max
  rw [← hm, List.getElem?_map, hg]; rfl

theorem init_static (sizes : List Int) (jobs : List (Nat × List Int)) :
    (Sys.init sizes jobs).gs.map (fun g => g.sem.max) = sizes ∧
    (Sys.init sizes jobs).jobs.map jobKey = jobs := by
  constructor
  · simp [Sys.init, List.map_map, Function.comp_def, G.init, Sem.init]
  · simp [Sys.init, List.map_map, Function.comp_def, jobKey]

instance decEnabledSched : (y : Sys) → (js : List Nat) → Decidable (y.EnabledSched js)
  | _, [] => isTrue trivial
  | y, j :: js =>
    match decEq (y.enabledId j) true, decEnabledSched (y.act j) js with
    | isTrue h1, isTrue h2 => isTrue ⟨h1, h2⟩
    | isFalse h1, _ => isFalse fun h => h1 h.1
    | _, isFalse h2 => isFalse fun h => h2 h.2

theorem no_enabled_of_allOver (y : Sys) (h : y.allOver = true) : ∀ j, y.enabledId j = false := by
  intro j
  unfold Sys.enabledId
  cases hf : y.jobs.find? (fun b => b.id == j) with
  | none => rfl
  | some b =>
    have hb := List.mem_of_find?_eq_some hf
    unfold Sys.allOver at h
    rw [List.all_eq_true] at h
    have : b.ph = .rel 0 := by simpa using h b hb
    simp [LJob.enabled, this]

end Martian.Semaphore
