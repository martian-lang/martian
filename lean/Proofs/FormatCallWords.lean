import Proofs.FormatCallParse
import Proofs.FormatExpLex
import Proofs.FormatExpRound

/-!
C09: lexing facts the statement printers share: the keywords of a call statement, a word and
the space after it, and one binding up to its value.  At the end `parseValExp_fmt`, the round trip
of value expressions: this is the first module that has both the lexing side (`lexAll_fmt`) and the
parsing side (`parseToks_toks`).
-/

namespace Martian.FormatCall
open Martian.Lexer (Bytes isWord)
open Martian.FormatExp

theorem wordLexeme_call : wordLexeme sCall = .tok (.reserved sCall) := by decide +kernel
theorem wordLexeme_map : wordLexeme sMap = .tok (.reserved sMap) := by decide +kernel
theorem wordLexeme_as : wordLexeme sAs = .tok (.reserved sAs) := by decide +kernel
theorem wordLexeme_split : wordLexeme sSplit = .tok (.id sSplit) := by decide +kernel
theorem all_isWord_call : sCall.all isWord = true := by decide +kernel
theorem all_isWord_map : sMap.all isWord = true := by decide +kernel
theorem all_isWord_as : sAs.all isWord = true := by decide +kernel
theorem all_isWord_split : sSplit.all isWord = true := by decide +kernel

theorem lexOK_sp (R : Bytes → Prop) : LexOK [0x20] [] R := LexOK.spaces (by decide) R
theorem lexOK_nl (R : Bytes → Prop) : LexOK [0x0A] [] R := LexOK.spaces (by decide) R

theorem LexOK.wordSp {w : Bytes} {k : Tok} (hw : w.all isWord = true) (hk : wordLexeme w = .tok k) :
    LexOK (w ++ [0x20]) [k] AnyRest :=
  ((LexOK.word hw hk).append (lexOK_sp AnyRest) (fun _ _ => WordEnd.cons _ _ (by decide))).congr rfl
    (by simp)

theorem wordEnd_spaces (n : Nat) (t : Bytes) : WordEnd (spaces n ++ 0x20 :: t) := by
  cases n with
  | zero => exact WordEnd.cons _ _ (by decide)
  | succ n =>
    rw [spaces, List.replicate_succ, List.cons_append]
    exact WordEnd.cons _ _ (by decide)

theorem lexOK_punctNl {c : UInt8} (h : isPunct c = true) : LexOK [c, 0x0A] [.punct c] AnyRest :=
  (LexOK.punct h AnyRest).app (lexOK_nl AnyRest)

/-- the id lexes as `t`: an identifier, or `*` in a wildcard binding -/
theorem lexOK_bindPre (w : Nat) (b : Bind) {t : Tok} (hid : LexOK b.id [t] WordEnd) :
    LexOK (bindPre w b) (t :: tEq :: (if b.split then [.id sSplit] else [])) AnyRest := by
  have hpad : LexOK (spaces (w - b.id.length) ++ [0x20]) [] AnyRest :=
    LexOK.spaces (all_isSp_append (all_isSp_spaces _) (by decide)) _
  have heq : LexOK [0x3D, 0x20] [tEq] AnyRest := (LexOK.punct (c := 0x3D) (by decide) AnyRest).app (lexOK_sp _)
  have hsplit : LexOK (if b.split then sSplit ++ [0x20] else [])
      (if b.split then [.id sSplit] else []) AnyRest := by
    cases b.split
    · exact LexOK.nil _
    · exact LexOK.wordSp all_isWord_split wordLexeme_split
  have hrest := (hpad.app heq).app hsplit
  have h := (LexOK.spaces all_isSp_indent AnyRest).app (hid.append hrest (by
    intro rest _
    simp only [List.append_assoc, List.cons_append, List.nil_append]
    exact wordEnd_spaces _ _))
  exact h.congr (by simp [bindPre]) (by simp)

end Martian.FormatCall

namespace Martian.FormatExp

theorem parseValExp_fmt (e : Exp) (p : List UInt8) (hw : wf e = true) (hv : isVal e = true)
    (hp : p.all isSp = true) : parseValExp (fmt p e) = some (norm e) := by
  have h := lexAll_fmt e p [] hw hp (Or.inl rfl)
  rw [List.append_nil, lexAll_nil] at h
  simp only [parseValExp, h, Option.map_some, List.append_nil, Option.bind_some]
  exact parseToks_toks e hw hv

end Martian.FormatExp
