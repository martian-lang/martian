/-
C16, tree level (model: Martian/Invocation.lean), by mutual structural recursion over the (Exp, EList, EKvs) /
(J, JList, JKvs) families: the number normalisation (`encLit_idem`, `textLit_cases`), `encode` against `fix`,
`ofJ`, `erase`, `normE`, `reparse` (`encode_fix`, `ofJ_encode`, `encode_ofJ`, `fix_erase_wt`, `encode_reparse`),
hence `encode_convert'`, `encode_convertSplit`, `dataOfBinding_buildBinding`; typing of what `convert` returns
(`wt_fix_ofJ`).
-/
import Martian.Invocation

namespace Martian.Invocation

attribute [local simp] fix fixList fixVals fixFields encode encodeList encodeKvs erase eraseList eraseKvs
  normE normEList normEKvs normJ normJList normJKvs reparse reparseList reparseKvs plainMaps plainMapsList plainMapsKvs

theorem inInt64_small (n : Nat) (neg : Bool) (h : n < 1000000) :
    inInt64 (if neg = true then -(Int.ofNat n) else Int.ofNat n) = true := by
  cases neg <;> simp [inInt64] <;> omega

theorem jsonAsInt_inInt64 (f : Flt) (h : f.jsonAsInt = true) : inInt64 f.intVal = true := by
  simp only [Flt.jsonAsInt, Bool.or_eq_true, beq_iff_eq, Bool.and_eq_true] at h
  rcases h with h0 | ⟨_, hi⟩
  · simp [Flt.intVal, h0, inInt64]
  · exact hi

theorem encLit_idem (l : Lit) : encLit (encLit l) = encLit l := by
  cases l with
  | flt f =>
    by_cases h : f.jsonAsInt = true
    · simp [encLit, h]
    · simp [encLit, h]
  | _ => rfl

theorem litOk_encLit (l : Lit) (h : litOk l = true) : litOk (encLit l) = true := by
  cases l with
  | flt f =>
    by_cases hp : f.jsonAsInt = true
    · simp only [encLit, hp, if_true, litOk]
      exact jsonAsInt_inInt64 f hp
    · simp [encLit, hp, litOk]
  | _ => simpa [encLit] using h

/-- whatever the text printer writes as an integer, the JSON printer does too -/
theorem textAsInt_jsonAsInt (f : Flt) (h : f.textAsInt = true) : f.jsonAsInt = true := by
  simp only [Flt.textAsInt, Bool.or_eq_true, beq_iff_eq, Bool.and_eq_true,
    decide_eq_true_eq] at h
  simp only [Flt.jsonAsInt, Bool.or_eq_true, beq_iff_eq, Bool.and_eq_true, decide_eq_true_eq]
  rcases h with h0 | ⟨he, hlt⟩
  · exact Or.inl h0
  · exact Or.inr ⟨he, inInt64_small _ _ hlt⟩

/-- a scalar comes out of the text leg as it is or as it comes out of the JSON leg -/
theorem textLit_cases (l : Lit) : textLit l = l ∨ textLit l = encLit l := by
  cases l with
  | flt f =>
    by_cases h : f.textAsInt = true
    · exact .inr (by simp [textLit, encLit, h, textAsInt_jsonAsInt f h])
    · exact .inl (by simp [textLit, h])
  | _ => exact .inl rfl

theorem encLit_textLit (l : Lit) : encLit (textLit l) = encLit l := by
  rcases textLit_cases l with h | h <;> rw [h]; exact encLit_idem l

theorem litOk_textLit (l : Lit) (h : litOk l = true) : litOk (textLit l) = true := by
  rcases textLit_cases l with e | e <;> rw [e]
  · exact h
  · exact litOk_encLit l h

mutual
theorem encode_fix : ∀ (e : Exp) (b : Base) (ad md : Nat), encode (fix b ad md e) = encode e
  | .lit _, _, _, _ => by simp
  | .arr xs, b, ad, md => by simp [encodeList_fixList xs b (ad - 1) md]
  | .map k kvs, b, ad, md => by
    simp only [fix]
    split
    · simp [encodeKvs_fixVals kvs]
    · simp [encodeKvs_fixFields kvs]
    · simp
    · simp
theorem encodeList_fixList : ∀ (xs : EList) (b : Base) (ad md : Nat),
    encodeList (fixList b ad md xs) = encodeList xs
  | .nil, _, _, _ => by simp
  | .cons e r, b, ad, md => by
    simp [encode_fix e b ad md, encodeList_fixList r b ad md]
theorem encodeKvs_fixVals : ∀ (kvs : EKvs) (b : Base) (ad md : Nat),
    encodeKvs (fixVals b ad md kvs) = encodeKvs kvs
  | .nil, _, _, _ => by simp
  | .cons k e r, b, ad, md => by
    simp [encode_fix e b ad md, encodeKvs_fixVals r b ad md]
theorem encodeKvs_fixFields : ∀ (kvs : EKvs) (fs : Fields),
    encodeKvs (fixFields fs kvs) = encodeKvs kvs
  | .nil, _ => by simp
  | .cons k e r, fs => by
    simp [encodeKvs_fixFields r fs, encode_fix e]
end

mutual
theorem ofJ_encode : ∀ (e : Exp), intsOk e = true → ofJ (encode e) = some (erase (normE e))
  | .lit l, h => by
    have := litOk_encLit l (by simpa [intsOk] using h)
    simp [ofJ, this]
  | .arr xs, h => by
    simp [ofJ, ofJList_encodeList xs (by simpa [intsOk] using h), normE, erase]
  | .map k kvs, h => by
    simp [ofJ, ofJKvs_encodeKvs kvs (by simpa [intsOk] using h), normE, erase]
theorem ofJList_encodeList : ∀ (xs : EList), intsOkList xs = true →
    ofJList (encodeList xs) = some (eraseList (normEList xs))
  | .nil, _ => by simp [ofJList]
  | .cons e r, h => by
    simp only [intsOkList, Bool.and_eq_true] at h
    simp [ofJList, ofJ_encode e h.1, ofJList_encodeList r h.2]
theorem ofJKvs_encodeKvs : ∀ (kvs : EKvs), intsOkKvs kvs = true →
    ofJKvs (encodeKvs kvs) = some (eraseKvs (normEKvs kvs))
  | .nil, _ => by simp [ofJKvs]
  | .cons k e r, h => by
    simp only [intsOkKvs, Bool.and_eq_true] at h
    simp [ofJKvs, ofJ_encode e h.1, ofJKvs_encodeKvs r h.2]
end

mutual
theorem encode_ofJ : ∀ (j : J) (e : Exp), ofJ j = some e → encode e = normJ j
  | .lit l, e, h => by
    simp only [ofJ] at h
    split at h
    · cases h; simp
    · cases h
  | .arr xs, e, h => by
    simp only [ofJ, Option.map_eq_some_iff] at h
    obtain ⟨es, hes, rfl⟩ := h
    simp [encodeList_ofJList xs es hes]
  | .obj kvs, e, h => by
    simp only [ofJ, Option.map_eq_some_iff] at h
    obtain ⟨es, hes, rfl⟩ := h
    simp [encodeKvs_ofJKvs kvs es hes]
theorem encodeList_ofJList : ∀ (xs : JList) (es : EList), ofJList xs = some es →
    encodeList es = normJList xs
  | .nil, es, h => by
    simp only [ofJList] at h; cases h; simp
  | .cons j r, es, h => by
    simp only [ofJList] at h
    split at h
    · rename_i e es' he hes
      cases h
      simp [encode_ofJ j e he, encodeList_ofJList r es' hes]
    · cases h
theorem encodeKvs_ofJKvs : ∀ (kvs : JKvs) (es : EKvs), ofJKvs kvs = some es →
    encodeKvs es = normJKvs kvs
  | .nil, es, h => by
    simp only [ofJKvs] at h; cases h; simp
  | .cons k j r, es, h => by
    simp only [ofJKvs] at h
    split at h
    · rename_i e es' he hes
      cases h
      simp [encode_ofJ j e he, encodeKvs_ofJKvs r es' hes]
    · cases h
end

mutual
theorem ofJ_isSome : ∀ (j : J), jIntsOk j = true → ∃ e, ofJ j = some e
  | .lit l, h => by
    simp only [jIntsOk] at h
    exact ⟨.lit l, by simp [ofJ, h]⟩
  | .arr xs, h => by
    obtain ⟨es, hes⟩ := ofJList_isSome xs (by simpa [jIntsOk] using h)
    exact ⟨.arr es, by simp [ofJ, hes]⟩
  | .obj kvs, h => by
    obtain ⟨es, hes⟩ := ofJKvs_isSome kvs (by simpa [jIntsOk] using h)
    exact ⟨.map false es, by simp [ofJ, hes]⟩
theorem ofJList_isSome : ∀ (xs : JList), jIntsOkList xs = true → ∃ es, ofJList xs = some es
  | .nil, _ => ⟨.nil, by simp [ofJList]⟩
  | .cons j r, h => by
    simp only [jIntsOkList, Bool.and_eq_true] at h
    obtain ⟨e, he⟩ := ofJ_isSome j h.1
    obtain ⟨es, hes⟩ := ofJList_isSome r h.2
    exact ⟨.cons e es, by simp [ofJList, he, hes]⟩
theorem ofJKvs_isSome : ∀ (kvs : JKvs), jIntsOkKvs kvs = true → ∃ es, ofJKvs kvs = some es
  | .nil, _ => ⟨.nil, by simp [ofJKvs]⟩
  | .cons k j r, h => by
    simp only [jIntsOkKvs, Bool.and_eq_true] at h
    obtain ⟨e, he⟩ := ofJ_isSome j h.1
    obtain ⟨es, hes⟩ := ofJKvs_isSome r h.2
    exact ⟨.cons k e es, by simp [ofJKvs, he, hes]⟩
end

mutual
theorem fix_normE : ∀ (e : Exp) (b : Base) (ad md : Nat),
    fix b ad md (normE e) = normE (fix b ad md e)
  | .lit _, _, _, _ => by simp
  | .arr xs, b, ad, md => by simp [fixList_normEList xs b (ad - 1) md]
  | .map k kvs, b, ad, md => by
    simp only [fix, normE]
    split
    · simp [fixVals_normEKvs kvs]
    · simp [fixFields_normEKvs kvs]
    · simp
    · simp
theorem fixList_normEList : ∀ (xs : EList) (b : Base) (ad md : Nat),
    fixList b ad md (normEList xs) = normEList (fixList b ad md xs)
  | .nil, _, _, _ => by simp
  | .cons e r, b, ad, md => by
    simp [fix_normE e b ad md, fixList_normEList r b ad md]
theorem fixVals_normEKvs : ∀ (kvs : EKvs) (b : Base) (ad md : Nat),
    fixVals b ad md (normEKvs kvs) = normEKvs (fixVals b ad md kvs)
  | .nil, _, _, _ => by simp
  | .cons k e r, b, ad, md => by
    simp [fix_normE e b ad md, fixVals_normEKvs r b ad md]
theorem fixFields_normEKvs : ∀ (kvs : EKvs) (fs : Fields),
    fixFields fs (normEKvs kvs) = normEKvs (fixFields fs kvs)
  | .nil, _ => by simp
  | .cons k e r, fs => by
    simp [fix_normE e, fixFields_normEKvs r fs]
end

mutual
theorem erase_normE : ∀ (e : Exp), erase (normE e) = normE (erase e)
  | .lit _ => by simp
  | .arr xs => by simp [eraseList_normEList xs]
  | .map _ kvs => by simp [eraseKvs_normEKvs kvs]
theorem eraseList_normEList : ∀ (xs : EList), eraseList (normEList xs) = normEList (eraseList xs)
  | .nil => by simp
  | .cons e r => by simp [erase_normE e, eraseList_normEList r]
theorem eraseKvs_normEKvs : ∀ (kvs : EKvs), eraseKvs (normEKvs kvs) = normEKvs (eraseKvs kvs)
  | .nil => by simp
  | .cons k e r => by simp [erase_normE e, eraseKvs_normEKvs r]
end

mutual
theorem erase_of_plain : ∀ (e : Exp), plainMaps e = true → erase e = e
  | .lit _, _ => by simp
  | .arr xs, h => by simp [eraseList_of_plain xs (by simpa [plainMaps] using h)]
  | .map k kvs, h => by
    simp only [plainMaps, Bool.and_eq_true, Bool.not_eq_true'] at h
    simp [eraseKvs_of_plain kvs h.2, h.1]
theorem eraseList_of_plain : ∀ (xs : EList), plainMapsList xs = true → eraseList xs = xs
  | .nil, _ => by simp
  | .cons e r, h => by
    simp only [plainMapsList, Bool.and_eq_true] at h
    simp [erase_of_plain e h.1, eraseList_of_plain r h.2]
theorem eraseKvs_of_plain : ∀ (kvs : EKvs), plainMapsKvs kvs = true → eraseKvs kvs = kvs
  | .nil, _ => by simp
  | .cons k e r, h => by
    simp only [plainMapsKvs, Bool.and_eq_true] at h
    simp [erase_of_plain e h.1, eraseKvs_of_plain r h.2]
end

mutual
theorem fix_erase_wt : ∀ (e : Exp) (b : Base) (ad md : Nat),
    wt b ad md e = true → fix b ad md (erase e) = e
  | .lit _, _, _, _, _ => by simp
  | .arr xs, b, ad, md, h => by
    simp only [wt, Bool.and_eq_true, decide_eq_true_eq] at h
    simp [fixList_erase_wt xs b (ad - 1) md h.2]
  | .map k kvs, b, ad, md, h => by
    simp only [wt, Bool.and_eq_true] at h
    obtain ⟨_, h⟩ := h
    simp only [erase, fix]
    generalize mapAction b ad md = m at h ⊢
    cases m with
    | vals b' ad' md' =>
      simp only [Bool.and_eq_true, Bool.not_eq_true'] at h
      simp [fixVals_erase_wt kvs b' ad' md' h.2, h.1]
    | fields fs =>
      simp only [Bool.and_eq_true] at h
      simp [fixFields_erase_wt kvs fs h.2, h.1]
    | markStruct => simp at h
    | keep =>
      simp only [Bool.and_eq_true, Bool.not_eq_true'] at h
      simp [eraseKvs_of_plain kvs h.2, h.1.2]
theorem fixList_erase_wt : ∀ (xs : EList) (b : Base) (ad md : Nat),
    wtList b ad md xs = true → fixList b ad md (eraseList xs) = xs
  | .nil, _, _, _, _ => by simp
  | .cons e r, b, ad, md, h => by
    simp only [wtList, Bool.and_eq_true] at h
    simp [fix_erase_wt e b ad md h.1, fixList_erase_wt r b ad md h.2]
theorem fixVals_erase_wt : ∀ (kvs : EKvs) (b : Base) (ad md : Nat),
    wtVals b ad md kvs = true → fixVals b ad md (eraseKvs kvs) = kvs
  | .nil, _, _, _, _ => by simp
  | .cons k e r, b, ad, md, h => by
    simp only [wtVals, Bool.and_eq_true] at h
    simp [fix_erase_wt e b ad md h.1, fixVals_erase_wt r b ad md h.2]
theorem fixFields_erase_wt : ∀ (kvs : EKvs) (fs : Fields),
    wtFields fs kvs = true → fixFields fs (eraseKvs kvs) = kvs
  | .nil, _, _ => by simp
  | .cons k e r, fs, h => by
    simp only [wtFields, Bool.and_eq_true] at h
    simp [fix_erase_wt e _ _ _ h.1.2, fixFields_erase_wt r fs h.2]
end

/-! ### saturation of `ArrayDim`
An array literal typed one dimension above the type `fix` is run at is still
fixed correctly (`ArrayDim` saturates at 0): this is why the operand of an
array split can be converted at the parameter's own type. -/
mutual
theorem fix_erase_wt_succ : ∀ (e : Exp) (b : Base) (ad md : Nat),
    wt b (ad + 1) md e = true → fix b ad md (erase e) = e
  | .lit _, _, _, _, _ => by simp
  | .arr xs, b, ad, md, h => by
    simp only [wt, Bool.and_eq_true, decide_eq_true_eq, Nat.add_sub_cancel] at h
    simp only [erase, fix]
    cases ad with
    | zero => simp [fixList_erase_wt xs b 0 md h.2]
    | succ k => simp [fixList_erase_wt_succ xs b k md h.2]
  | .map k kvs, b, ad, md, h => by simp [wt] at h
theorem fixList_erase_wt_succ : ∀ (xs : EList) (b : Base) (ad md : Nat),
    wtList b (ad + 1) md xs = true → fixList b ad md (eraseList xs) = xs
  | .nil, _, _, _, _ => by simp
  | .cons e r, b, ad, md, h => by
    simp only [wtList, Bool.and_eq_true] at h
    simp [fix_erase_wt_succ e b ad md h.1, fixList_erase_wt_succ r b ad md h.2]
end

mutual
/-- why `Fields.findD` may answer with the scalar type for an undeclared member -/
theorem fix_scalar : ∀ (e : Exp), fix .scalar 0 0 e = e
  | .lit _ => by simp
  | .arr xs => by simp [fixList_scalar xs]
  | .map k kvs => by simp [mapAction, Base.action0]
theorem fixList_scalar : ∀ (xs : EList), fixList .scalar 0 0 xs = xs
  | .nil => by simp
  | .cons e r => by simp [fix_scalar e, fixList_scalar r]
end

mutual
theorem erase_fix : ∀ (e : Exp) (b : Base) (ad md : Nat), erase (fix b ad md e) = erase e
  | .lit _, _, _, _ => by simp
  | .arr xs, b, ad, md => by simp [eraseList_fixList xs b (ad - 1) md]
  | .map k kvs, b, ad, md => by
    simp only [fix]
    split
    · simp [eraseKvs_fixVals kvs]
    · simp [eraseKvs_fixFields kvs]
    · simp
    · simp
theorem eraseList_fixList : ∀ (xs : EList) (b : Base) (ad md : Nat),
    eraseList (fixList b ad md xs) = eraseList xs
  | .nil, _, _, _ => by simp
  | .cons e r, b, ad, md => by
    simp [erase_fix e b ad md, eraseList_fixList r b ad md]
theorem eraseKvs_fixVals : ∀ (kvs : EKvs) (b : Base) (ad md : Nat),
    eraseKvs (fixVals b ad md kvs) = eraseKvs kvs
  | .nil, _, _, _ => by simp
  | .cons k e r, b, ad, md => by
    simp [erase_fix e b ad md, eraseKvs_fixVals r b ad md]
theorem eraseKvs_fixFields : ∀ (kvs : EKvs) (fs : Fields),
    eraseKvs (fixFields fs kvs) = eraseKvs kvs
  | .nil, _ => by simp
  | .cons k e r, fs => by
    simp [erase_fix e, eraseKvs_fixFields r fs]
end

mutual
theorem normJ_encode : ∀ (e : Exp), normJ (encode e) = encode e
  | .lit l => by simp [encLit_idem]
  | .arr xs => by simp [normJList_encodeList xs]
  | .map _ kvs => by simp [normJKvs_encodeKvs kvs]
theorem normJList_encodeList : ∀ (xs : EList), normJList (encodeList xs) = encodeList xs
  | .nil => by simp
  | .cons e r => by simp [normJ_encode e, normJList_encodeList r]
theorem normJKvs_encodeKvs : ∀ (kvs : EKvs), normJKvs (encodeKvs kvs) = encodeKvs kvs
  | .nil => by simp
  | .cons k e r => by simp [normJ_encode e, normJKvs_encodeKvs r]
end

mutual
theorem plainMaps_erase : ∀ (e : Exp), plainMaps (erase e) = true
  | .lit _ => by simp
  | .arr xs => by simp [plainMapsList_erase xs]
  | .map _ kvs => by simp [plainMapsKvs_erase kvs]
theorem plainMapsList_erase : ∀ (xs : EList), plainMapsList (eraseList xs) = true
  | .nil => by simp
  | .cons e r => by simp [plainMaps_erase e, plainMapsList_erase r]
theorem plainMapsKvs_erase : ∀ (kvs : EKvs), plainMapsKvs (eraseKvs kvs) = true
  | .nil => by simp
  | .cons k e r => by simp [plainMaps_erase e, plainMapsKvs_erase r]
end

theorem erase_erase (e : Exp) : erase (erase e) = erase e :=
  erase_of_plain _ (plainMaps_erase e)

theorem dataOf_cons (p : Str) (a : Arg) (bs : List (Str × Arg)) :
    dataOf ((p, a) :: bs) =
      { args := (p, encodeArg a) :: (dataOf bs).args,
        splitargs := if a.isSplit = true then p :: (dataOf bs).splitargs
                     else (dataOf bs).splitargs } := by
  by_cases h : a.isSplit = true
  · simp only [dataOf, List.map_cons, List.filter_cons, h, if_true]
  · simp only [dataOf, List.map_cons, List.filter_cons, h, if_false, Bool.false_eq_true]

/-- `BuildDataForAst` after a change `φ` of the bound values that keeps the split status and acts on the
marshalled value as `ψ` -/
theorem dataOf_map (φ : Arg → Arg) (ψ : J → J)
    (h : ∀ a, encodeArg (φ a) = ψ (encodeArg a) ∧ (φ a).isSplit = a.isSplit) (bs : List (Str × Arg)) :
    dataOf (bs.map fun b => (b.1, φ b.2)) =
      { args := (dataOf bs).args.map fun a => (a.1, ψ a.2), splitargs := (dataOf bs).splitargs } := by
  simp only [dataOf, List.map_map, List.filter_map, Function.comp_def, (h _).1, (h _).2]

theorem canonData_cons (p : Str) (t : TypeId) (ps : Sig) (d : Data) :
    canonData ((p, t) :: ps) d =
      { args := (p, if d.args.any (fun q => q.1 = p) = true then
                      canonArg (d.splitargs.contains p) (lookupArg d.args p)
                    else .lit .null) :: (canonData ps d).args,
        splitargs := if (d.args.any (fun q => q.1 = p) && d.splitargs.contains p) = true
                     then p :: (canonData ps d).splitargs
                     else (canonData ps d).splitargs } := by
  by_cases h : (d.args.any (fun q => q.1 = p) && d.splitargs.contains p) = true
  · simp only [canonData, List.map_cons, List.filter_cons, h, if_true]
  · simp only [canonData, List.map_cons, List.filter_cons, h, if_false, Bool.false_eq_true]

mutual
theorem encode_reparse : ∀ (e : Exp), encode (reparse e) = encode e
  | .lit l => by simp [encLit_textLit]
  | .arr xs => by simp [encodeList_reparseList xs]
  | .map _ kvs => by simp [encodeKvs_reparseKvs kvs]
theorem encodeList_reparseList : ∀ (xs : EList), encodeList (reparseList xs) = encodeList xs
  | .nil => by simp
  | .cons e r => by simp [encode_reparse e, encodeList_reparseList r]
theorem encodeKvs_reparseKvs : ∀ (kvs : EKvs), encodeKvs (reparseKvs kvs) = encodeKvs kvs
  | .nil => by simp
  | .cons k e r => by simp [encode_reparse e, encodeKvs_reparseKvs r]
end

mutual
theorem intsOk_reparse : ∀ (e : Exp), intsOk e = true → intsOk (reparse e) = true
  | .lit l, h => by simp only [intsOk] at h; simp [intsOk, litOk_textLit l h]
  | .arr xs, h => by simp only [intsOk] at h; simp [intsOk, intsOkList_reparse xs h]
  | .map _ kvs, h => by simp only [intsOk] at h; simp [intsOk, intsOkKvs_reparse kvs h]
theorem intsOkList_reparse : ∀ (xs : EList), intsOkList xs = true → intsOkList (reparseList xs) = true
  | .nil, _ => by simp [intsOkList]
  | .cons e r, h => by
    simp only [intsOkList, Bool.and_eq_true] at h
    simp [intsOkList, intsOk_reparse e h.1, intsOkList_reparse r h.2]
theorem intsOkKvs_reparse : ∀ (kvs : EKvs), intsOkKvs kvs = true → intsOkKvs (reparseKvs kvs) = true
  | .nil, _ => by simp [intsOkKvs]
  | .cons k e r, h => by
    simp only [intsOkKvs, Bool.and_eq_true] at h
    simp [intsOkKvs, intsOk_reparse e h.1, intsOkKvs_reparse r h.2]
end


/-- For a map operand the two branches of `convertSplit` are one rule: the
outer literal stays a map and every value is converted at the parameter's
type (for `mapDim = 0` this is what converting at `map<T>` does). -/
theorem convertSplit_obj (t : TypeId) (kvs : JKvs) :
    convertSplit t (.obj kvs) =
      (ofJKvs kvs).map fun es => .map false (fixVals t.base t.arrayDim t.mapDim es) := by
  unfold convertSplit
  by_cases h : t.mapDim = 0
  · simp only [h, if_true, convert, splitSourceType, ofJ]
    cases ofJKvs kvs with
    | none => rfl
    | some es => simp [mapAction]
  · simp [h]

theorem convertSplit_not_obj (t : TypeId) (v : J) (h : ∀ kvs, v ≠ .obj kvs) :
    convertSplit t v = convert t v := by
  cases v with
  | obj kvs => exact absurd rfl (h kvs)
  | lit l => simp [convertSplit, splitSourceType]
  | arr xs => simp [convertSplit, splitSourceType]

theorem encode_convert' (t : TypeId) (j : J) (e : Exp) (h : convert t j = some e) : encode e = normJ j := by
  simp only [convert, Option.map_eq_some_iff] at h
  obtain ⟨e0, h0, rfl⟩ := h
  rw [encode_fix, encode_ofJ _ e0 h0]

theorem encode_convertSplit (t : TypeId) (v : J) (e : Exp) (h : convertSplit t v = some e) :
    encode e = normJ v := by
  cases v with
  | obj kvs =>
    rw [convertSplit_obj] at h
    simp only [Option.map_eq_some_iff] at h
    obtain ⟨es, hes, rfl⟩ := h
    simp [encodeKvs_fixVals, encodeKvs_ofJKvs kvs es hes]
  | lit l => exact encode_convert' t _ e (by rwa [convertSplit_not_obj t _ (by intro kvs hh; cases hh)] at h)
  | arr xs => exact encode_convert' t _ e (by rwa [convertSplit_not_obj t _ (by intro kvs hh; cases hh)] at h)

theorem dataOfBinding_buildBinding (s : Bool) (t : TypeId) (j : J) (a : Arg)
    (h : buildBinding s t j = some a) : encodeArg a = canonArg s j ∧ a.isSplit = s := by
  unfold buildBinding at h
  cases s with
  | false =>
    simp only [Bool.false_eq_true, if_false, Option.map_eq_some_iff] at h
    obtain ⟨e, he, rfl⟩ := h
    simp [Arg.isSplit, encodeArg, canonArg, encode_convert' t j e he]
  | true =>
    simp only [if_true] at h
    cases j with
    | lit _ => cases h
    | arr _ => cases h
    | obj kvs =>
      simp only at h
      cases hf : kvs.findSplit with
      | none => simp [hf] at h
      | some v =>
        simp only [hf, Option.map_eq_some_iff] at h
        obtain ⟨e, he, rfl⟩ := h
        simp [Arg.isSplit, encodeArg, canonArg, hf, encode_convertSplit _ v e he]

theorem isSplitKey_splitKey : isSplitKey splitKey = true := by decide


theorem Flt.val_of_integral (f : Flt) (h : f.m = 0 ∨ 0 ≤ f.e) : f.val = (f.intVal, 0) := by
  unfold Flt.val
  by_cases hm : f.m = 0
  · simp only [hm, ↓reduceIte, Flt.intVal, Nat.zero_mul]
    cases f.neg <;> simp
  · rcases h with h | h
    · exact absurd h hm
    · simp [hm, h]


mutual
theorem plainMaps_ofJ : ∀ (j : J) (e : Exp), ofJ j = some e → plainMaps e = true
  | .lit l, e, h => by
    simp only [ofJ] at h
    split at h
    · injection h with h; subst h; rfl
    · cases h
  | .arr xs, e, h => by
    simp only [ofJ, Option.map_eq_some_iff] at h
    obtain ⟨es, hes, rfl⟩ := h
    simp [plainMapsList_ofJList xs es hes]
  | .obj kvs, e, h => by
    simp only [ofJ, Option.map_eq_some_iff] at h
    obtain ⟨es, hes, rfl⟩ := h
    simp [plainMapsKvs_ofJKvs kvs es hes]
theorem plainMapsList_ofJList : ∀ (xs : JList) (es : EList), ofJList xs = some es → plainMapsList es = true
  | .nil, es, h => by simp only [ofJList, Option.some.injEq] at h; subst h; rfl
  | .cons j r, es, h => by
    simp only [ofJList] at h
    split at h
    · rename_i e es' h1 h2
      injection h with h; subst h
      simp [plainMaps_ofJ j e h1, plainMapsList_ofJList r es' h2]
    · cases h
theorem plainMapsKvs_ofJKvs : ∀ (kvs : JKvs) (es : EKvs), ofJKvs kvs = some es → plainMapsKvs es = true
  | .nil, es, h => by simp only [ofJKvs, Option.some.injEq] at h; subst h; rfl
  | .cons k j r, es, h => by
    simp only [ofJKvs] at h
    split at h
    · rename_i e es' h1 h2
      injection h with h; subst h
      simp [plainMaps_ofJ j e h1, plainMapsKvs_ofJKvs r es' h2]
    · cases h
end

mutual
theorem wt_fix_ofJ : ∀ (j : J) (e : Exp) (b : Base) (ad md : Nat), ofJ j = some e → jWt b ad md j = true →
    wt b ad md (fix b ad md e) = true
  | .lit l, e, b, ad, md, h, hw => by
    simp only [ofJ] at h
    split at h
    · injection h with h; subst h
      simpa [fix, wt, jWt] using hw
    · cases h
  | .arr xs, e, b, ad, md, h, hw => by
    simp only [ofJ, Option.map_eq_some_iff] at h
    obtain ⟨es, hes, rfl⟩ := h
    simp only [jWt, Bool.and_eq_true, decide_eq_true_eq] at hw
    simp [wt, hw.1, wtList_fix_ofJList xs es b (ad - 1) md hes hw.2]
  | .obj kvs, e, b, ad, md, h, hw => by
    simp only [ofJ, Option.map_eq_some_iff] at h
    obtain ⟨es, hes, rfl⟩ := h
    simp only [jWt, Bool.and_eq_true] at hw
    obtain ⟨had, hw⟩ := hw
    cases hm : mapAction b ad md with
    | vals b' ad' md' =>
      simp only [hm] at hw
      simp [wt, hm, had, wtVals_fix_ofJKvs kvs es b' ad' md' hes hw]
    | fields fs =>
      simp only [hm] at hw
      simp [wt, hm, had, wtFields_fix_ofJKvs kvs es fs hes hw]
    | markStruct => simp [hm] at hw
    | keep =>
      simp only [hm] at hw
      simp [wt, hm, had, hw, plainMapsKvs_ofJKvs kvs es hes]
theorem wtList_fix_ofJList : ∀ (xs : JList) (es : EList) (b : Base) (ad md : Nat), ofJList xs = some es →
    jWtList b ad md xs = true → wtList b ad md (fixList b ad md es) = true
  | .nil, es, _, _, _, h, _ => by simp only [ofJList, Option.some.injEq] at h; subst h; rfl
  | .cons j r, es, b, ad, md, h, hw => by
    simp only [ofJList] at h
    split at h
    · rename_i e es' h1 h2
      injection h with h; subst h
      simp only [jWtList, Bool.and_eq_true] at hw
      simp [wtList, wt_fix_ofJ j e b ad md h1 hw.1, wtList_fix_ofJList r es' b ad md h2 hw.2]
    · cases h
theorem wtVals_fix_ofJKvs : ∀ (kvs : JKvs) (es : EKvs) (b : Base) (ad md : Nat), ofJKvs kvs = some es →
    jWtVals b ad md kvs = true → wtVals b ad md (fixVals b ad md es) = true
  | .nil, es, _, _, _, h, _ => by simp only [ofJKvs, Option.some.injEq] at h; subst h; rfl
  | .cons k j r, es, b, ad, md, h, hw => by
    simp only [ofJKvs] at h
    split at h
    · rename_i e es' h1 h2
      injection h with h; subst h
      simp only [jWtVals, Bool.and_eq_true] at hw
      simp [wtVals, wt_fix_ofJ j e b ad md h1 hw.1, wtVals_fix_ofJKvs r es' b ad md h2 hw.2]
    · cases h
theorem wtFields_fix_ofJKvs : ∀ (kvs : JKvs) (es : EKvs) (fs : Fields), ofJKvs kvs = some es →
    jWtFields fs kvs = true → wtFields fs (fixFields fs es) = true
  | .nil, es, _, h, _ => by simp only [ofJKvs, Option.some.injEq] at h; subst h; rfl
  | .cons k j r, es, fs, h, hw => by
    simp only [ofJKvs] at h
    split at h
    · rename_i e es' h1 h2
      injection h with h; subst h
      simp only [jWtFields, Bool.and_eq_true] at hw
      simp [wtFields, hw.1.1, wt_fix_ofJ j e _ _ _ h1 hw.1.2, wtFields_fix_ofJKvs r es' fs h2 hw.2]
    · cases h
end

end Martian.Invocation
