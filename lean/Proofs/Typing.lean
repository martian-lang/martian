/-
Lemmas about the typing model (Martian/Typing.lean): projection paths, what a
reference stands for, evaluation of literals, and the soundness of `validExp`
at the level of values.  Two induction principles carry the proofs of this file
and of Proofs/TypingRun.lean: `fieldType_induct` (along a projection path that
type-checks) and `validExp_induct` (along an accepted pair of a type and an
expression).  `ref_root` and `evalT_self` / `evalT_call` also speak of the run-time
model `evalT`, which is why this module imports Martian/TypingRun.lean.
Also the general statements for calls and returns (`validCall_spec`, `fields_members`) and `storeOk_of_all`, the
Bool check of `StoreOk`.
-/
import Martian.TypingRun
import Proofs.Types
import Proofs.ListFacts

namespace Martian.Typing
open Martian.Json Martian.Types

theorem allSome_map {α β : Type} (f : α → Option β) (R : α → β → Prop) :
    ∀ (xs : List α), (∀ x ∈ xs, ∃ w, f x = some w ∧ R x w) →
      ∃ ws, allSome (xs.map f) = some ws ∧ ∀ w ∈ ws, ∃ x ∈ xs, R x w
  | [], _ => ⟨[], rfl, by simp⟩
  | x :: xs, h => by
    obtain ⟨w, hw, hr⟩ := h x List.mem_cons_self
    obtain ⟨ws, hws, hall⟩ := allSome_map f R xs (fun y hy => h y (List.mem_cons_of_mem _ hy))
    refine ⟨w :: ws, by simp [allSome, hw, hws], ?_⟩
    intro w' hw'
    rcases List.mem_cons.mp hw' with rfl | hw'
    · exact ⟨x, List.mem_cons_self, hr⟩
    · obtain ⟨y, hy, hr'⟩ := hall w' hw'
      exact ⟨y, List.mem_cons_of_mem _ hy, hr'⟩

theorem allSome_all {α β : Type} (f : α → Option β) (Q : β → Prop) (xs : List α)
    (h : ∀ x ∈ xs, ∃ w, f x = some w ∧ Q w) :
    ∃ ws, allSome (xs.map f) = some ws ∧ ∀ w ∈ ws, Q w := by
  obtain ⟨ws, hws, hall⟩ := allSome_map f (fun _ w => Q w) xs h
  exact ⟨ws, hws, fun w hw => (hall w hw).elim fun _ h' => h'.2⟩

theorem allSome_keyed {β : Type} (g : β → Option J) (Q : Bytes → J → Prop) (xs : List (Bytes × β))
    (h : ∀ x ∈ xs, ∃ w, g x.2 = some w ∧ Q x.1 w) :
    ∃ ws, allSome (xs.map fun x => (g x.2).map fun w => (x.1, w)) = some ws ∧
      ∀ w ∈ ws, Q w.1 w.2 := by
  obtain ⟨ws, hws, hall⟩ := allSome_map (fun x : Bytes × β => (g x.2).map fun w => (x.1, w))
    (fun _ w => Q w.1 w.2) xs (fun x hx => by
      obtain ⟨w, hw, hq⟩ := h x hx
      exact ⟨(x.1, w), by simp [hw], hq⟩)
  exact ⟨ws, hws, fun w hw => (hall w hw).elim fun _ h' => h'.2⟩

theorem allSome_mem {α β : Type} (f : α → Option β) : ∀ (xs : List α) (ws : List β),
    allSome (xs.map f) = some ws → ∀ x ∈ xs, ∃ w ∈ ws, f x = some w
  | [], _, _, x, hx => by cases hx
  | y :: xs, ws, h, x, hx => by
    simp only [List.map_cons] at h
    cases hy : f y with
    | none => simp [hy, allSome] at h
    | some w =>
      cases hr : allSome (xs.map f) with
      | none => simp [hy, hr, allSome] at h
      | some ws' =>
        simp only [hy, hr, allSome, Option.some.injEq] at h
        subst h
        rcases List.mem_cons.mp hx with rfl | hx
        · exact ⟨w, List.mem_cons_self, hy⟩
        · obtain ⟨w', hw', hf⟩ := allSome_mem f xs ws' hr x hx
          exact ⟨w', List.mem_cons_of_mem _ hw', hf⟩

theorem allSome_length {α : Type} : ∀ (l : List (Option α)) (r : List α), allSome l = some r → r.length = l.length
  | [], r, h => by simp [allSome] at h; subst h; rfl
  | none :: _, r, h => by simp [allSome] at h
  | some x :: l, r, h => by
    simp only [allSome] at h
    cases hl : allSome l with
    | none => simp [hl] at h
    | some xs =>
      simp only [hl, Option.some.injEq] at h
      subst h
      simp [allSome_length l xs hl]

theorem fieldType_nil (t : Ty) : fieldType t [] = some t := by
  cases t <;> simp [fieldType]

theorem project_nil (t : Ty) (v : J) : project t v [] = some v := by
  cases t <;> simp [project]

theorem fieldTypeF_eq : ∀ (fs : Fields) (k : Bytes) (p : List Bytes),
    fieldTypeF fs k p = match fs.get k with | some t => fieldType t p | none => none
  | .nil, k, p => by simp [fieldTypeF, Fields.get]
  | .cons k' t r, k, p => by
    simp only [fieldTypeF, Fields.get]
    by_cases h : k' = k
    · simp [h]
    · simp [h, fieldTypeF_eq r k p]

theorem projectF_eq : ∀ (fs : Fields) (k : Bytes) (w : J) (p : List Bytes),
    projectF fs k w p = match fs.get k with | some t => project t w p | none => none
  | .nil, k, w, p => by simp [projectF, Fields.get]
  | .cons k' t r, k, w, p => by
    simp only [projectF, Fields.get]
    by_cases h : k' = k
    · simp [h]
    · simp [h, projectF_eq r k w p]

/-- Induction along a projection path that type-checks: the path is empty, or
its first step passes through an array, through a typed map, or selects a member of a
struct. -/
theorem fieldType_induct {P : Ty → List Bytes → Ty → Prop}
    (nil : ∀ t, P t [] t)
    (arr : ∀ e k p r, P e (k :: p) r → P (.arr e) (k :: p) (.arr r))
    (tmap : ∀ e k p r, fieldType e (k :: p) = some r → P e (k :: p) r → P (.tmap e) (k :: p) (.tmap r))
    (struct : ∀ n fs k p m r, fs.get k = some m → P m p r → P (.struct n fs) (k :: p) r) :
    ∀ t p r, fieldType t p = some r → P t p r := by
  have step : ∀ t k p r, fieldType t (k :: p) = some r → P t (k :: p) r := by
    intro t
    induction t using Ty.induct' with
    | base b => intro k p r h; simp [fieldType] at h
    | user n => intro k p r h; simp [fieldType] at h
    | arr e ih =>
      intro k p r h
      simp only [fieldType, Option.map_eq_some_iff] at h
      obtain ⟨r', hr', rfl⟩ := h
      exact arr e k p r' (ih k p r' hr')
    | tmap e ih =>
      intro k p r h
      simp only [fieldType] at h
      cases hr' : fieldType e (k :: p) with
      | none => simp [hr'] at h
      | some r' =>
        simp only [hr'] at h
        split at h
        · cases h
          exact tmap e k p r' hr' (ih k p r' hr')
        · cases h
    | struct n fs ih =>
      intro k p r h
      simp only [fieldType, fieldTypeF_eq] at h
      cases hg : fs.get k with
      | none => simp [hg] at h
      | some m =>
        simp only [hg] at h
        refine struct n fs k p m r hg ?_
        cases p with
        | nil => rw [fieldType_nil] at h; cases h; exact nil _
        | cons k' p' => exact ih k m (Fields.get_mem hg) k' p' r h
  intro t p r h
  cases p with
  | nil => rw [fieldType_nil] at h; cases h; exact nil t
  | cons k p => exact step t k p r h

/-- `file` or `directory` -/
def _root_.Martian.Types.FileKind.filey : FileKind → Bool
  | .file | .directory => true
  | _ => false

theorem isDirMap_eq (t : Ty) : isDirMap t = (fileKind t).filey := by
  simp only [isDirMap, FileKind.filey]
  cases fileKind t <;> rfl

theorem filey_arr (t : Ty) : (fileKind (.arr t)).filey = (fileKind t).filey := by
  simp only [fileKind]
  cases fileKind t <;> rfl

theorem filey_tmap (t : Ty) : (fileKind (.tmap t)).filey = (fileKind t).filey := by
  simp only [fileKind]
  cases fileKind t <;> rfl

theorem filey_structStep (acc m : FileKind) :
    (acc.structStep m).filey = (acc.filey || m.filey) := by
  cases acc <;> cases m <;> simp [FileKind.structStep, FileKind.filey]

theorem filey_fieldsKind : ∀ (fs : Fields) (acc : FileKind),
    (fieldsKind acc fs).filey = (acc.filey || fs.toList.any (fun kt => (fileKind kt.2).filey))
  | .nil, acc => by simp [fieldsKind, Fields.toList]
  | .cons k t r, acc => by
    simp only [fieldsKind, Fields.toList, List.any_cons]
    rw [filey_fieldsKind r, filey_structStep, Bool.or_assoc]

theorem isDirMap_of_fieldType (t : Ty) (p : List Bytes) (r : Ty)
    (h : fieldType t p = some r) (hr : isDirMap r = true) : isDirMap t = true := by
  simp only [isDirMap_eq] at hr ⊢
  revert hr
  refine fieldType_induct (P := fun t _ r => (fileKind r).filey = true → (fileKind t).filey = true)
    ?_ ?_ ?_ ?_ t p r h
  · intro t hr; exact hr
  · intro e k p r ih hr; rw [filey_arr] at hr ⊢; exact ih hr
  · intro e k p r _ ih hr; rw [filey_tmap] at hr ⊢; exact ih hr
  · intro n fs k p m r hg ih hr
    simp only [fileKind, filey_fieldsKind, Bool.or_eq_true, List.any_eq_true]
    exact Or.inr ⟨(k, m), Fields.get_mem hg, ih hr⟩

theorem Shape.member {fs : Fields} {kvs : List (Bytes × J)} {k : Bytes} {m : Ty}
    (h1 : ∀ k t, (k, t) ∈ fs.toList → (getKey k kvs).isSome = true)
    (h2 : ∀ k t v, (k, t) ∈ fs.toList → getKey k kvs = some v → Shape t v)
    (hg : fs.get k = some m) : ∃ w, getKey k kvs = some w ∧ Shape m w := by
  have hm := Fields.get_mem hg
  cases hgk : getKey k kvs with
  | none => have := h1 k m hm; simp [hgk] at this
  | some w => exact ⟨w, rfl, h2 k m w hm hgk⟩

theorem fieldType_shape (t : Ty) (v : J) (p : List Bytes) (t' : Ty)
    (hs : Shape t v) (h : fieldType t p = some t') : ∃ w, project t v p = some w ∧ Shape t' w := by
  revert v
  refine fieldType_induct
    (P := fun t p t' => ∀ v, Shape t v → ∃ w, project t v p = some w ∧ Shape t' w) ?_ ?_ ?_ ?_ t p t' h
  · intro t v hs; exact ⟨v, project_nil t v, hs⟩
  · intro e k p r ih v hs
    cases hs with
    | null => exact ⟨.null, by simp [project], Shape.null _⟩
    | arr _ xs hx =>
      obtain ⟨ws, hws, hall⟩ := allSome_all (fun x => project e x (k :: p)) (Shape r) xs
        (fun x hxm => ih x (hx x hxm))
      exact ⟨.arr ws, by simp [project, hws], Shape.arr _ _ hall⟩
  · intro e k p r hr ih v hs
    cases hs with
    | null => exact ⟨.null, by simp [project], Shape.null _⟩
    | tmap _ kvs h1 h2 =>
      obtain ⟨ws, hws, hall⟩ := allSome_keyed (fun x => project e x (k :: p))
        (fun k w => Shape r w ∧ (isDirMap r = true → legalName k = true)) kvs
        (fun kv hkv => (ih kv.2 (h1 kv hkv)).imp fun w hw =>
          ⟨hw.1, hw.2, fun hd => h2 (isDirMap_of_fieldType e _ r hr hd) kv hkv⟩)
      exact ⟨.obj ws, by simp [project, hws],
        Shape.tmap _ _ (fun w hw => (hall w hw).1) fun hd w hw => (hall w hw).2 hd⟩
  · intro n fs k p m r hg ih v hs
    cases hs with
    | null => exact ⟨.null, by simp [project], Shape.null _⟩
    | struct _ _ kvs h1 h2 =>
      obtain ⟨w, hgk, hsw⟩ := Shape.member h1 h2 hg
      obtain ⟨w', hw', hsw'⟩ := ih w hsw
      exact ⟨w', by simp [project, hgk, projectF_eq, hg, hw'], hsw'⟩

theorem refType_call_eq (Γ : Env) (id o : Bytes) (p : List Bytes) (sig : CallSig)
    (h : Γ.calls.lookup id = some sig) :
    refType Γ (.call id (o :: p)) = fieldType sig.whole (o :: p) := by
  simp only [refType, h, CallSig.whole, CallSig.struct]
  cases sig.mode <;> simp only [fieldType, fieldTypeF_eq, liftMode] <;>
    cases sig.outs.get o <;> simp <;> rename_i t <;> cases fieldType t p <;> simp

theorem refType_of_noRef (Γ : Env) (e : Exp) (h : e.hasRef = false) : refType Γ e = none := by
  cases e <;> simp [Exp.hasRef] at h <;> simp [refType]

theorem not_refOk_of_noRef (Γ : Env) (t : Ty) (e : Exp) (h : e.hasRef = false) : refOk Γ t e = false := by
  simp [refOk, refType_of_noRef Γ e h]

theorem evalT_self (Γ : Env) (ρ : Store) (t : Ty) (id : Bytes) (p : List Bytes) :
    evalT Γ ρ t (.self id p) = evalLeaf Γ ρ t (.self id p) := by
  cases t <;> simp [evalT]

theorem evalT_call (Γ : Env) (ρ : Store) (t : Ty) (id : Bytes) (p : List Bytes) :
    evalT Γ ρ t (.call id p) = evalLeaf Γ ρ t (.call id p) := by
  cases t <;> simp [evalT]

/-- What a reference that resolves at compile time stands for, in a store whose
values conform to the declared types: a path `p` into a root – a pipeline input,
or the (lifted) struct of the outputs of a call – of declared type `s0`, holding a
valid value `v`.  Both run-time models read the reference that way. -/
theorem ref_root (Γ : Env) (ρ : Store) (hρ : StoreOk Γ ρ) (e : Exp) (s : Ty)
    (h : refType Γ e = some s) :
    ∃ s0 v p, valid s0 v = true ∧ fieldType s0 p = some s ∧
      eval Γ ρ e = project s0 v p ∧ ∀ t, evalT Γ ρ t e = refRT t s0 v p := by
  cases e with
  | self id p =>
    simp only [refType] at h
    cases hl : Γ.self.lookup id with
    | none => simp [hl] at h
    | some s0 =>
      simp only [hl] at h
      obtain ⟨v, hv, hval⟩ := hρ.1 id s0 hl
      exact ⟨s0, v, p, hval, h, by simp [eval, hl, hv], fun t => by simp [evalT_self, evalLeaf, hl, hv]⟩
  | call id p =>
    cases hl : Γ.calls.lookup id with
    | none => simp [refType, hl] at h
    | some sig =>
      obtain ⟨v, hv, hval⟩ := hρ.2 id sig hl
      refine ⟨sig.whole, v, p, hval, ?_, by simp [eval, hl, hv],
        fun t => by simp [evalT_call, evalLeaf, hl, hv]⟩
      cases p with
      | nil =>
        simp only [refType, hl] at h
        rw [fieldType_nil]
        cases ho : sig.outs <;> simp [ho] at h <;> rw [h]
      | cons o p => rw [← refType_call_eq Γ id o p sig hl]; exact h
  | _ => simp [refType] at h

theorem ref_shape (Γ : Env) (ρ : Store) (hρ : StoreOk Γ ρ) (e : Exp) (s : Ty)
    (h : refType Γ e = some s) : ∃ v, eval Γ ρ e = some v ∧ Shape s v := by
  obtain ⟨s0, v, p, hval, hf, hev, _⟩ := ref_root Γ ρ hρ e s h
  rw [hev]
  exact fieldType_shape s0 v p s (shape_of_valid s0 v hval) hf

theorem evalL_eq (Γ : Env) (ρ : Store) : ∀ (xs : Exps),
    evalL Γ ρ xs = allSome (xs.toList.map (eval Γ ρ))
  | .nil => rfl
  | .cons e r => by
    simp only [evalL, Exps.toList, List.map_cons, evalL_eq Γ ρ r]
    cases eval Γ ρ e <;> simp only [allSome]
    cases allSome (r.toList.map (eval Γ ρ)) <;> rfl

theorem evalKV_eq (Γ : Env) (ρ : Store) : ∀ (kvs : KVs),
    evalKV Γ ρ kvs = allSome (kvs.toList.map fun kv => (eval Γ ρ kv.2).map fun v => (kv.1, v))
  | .nil => rfl
  | .cons k e r => by
    simp only [evalKV, KVs.toList, List.map_cons, evalKV_eq Γ ρ r]
    cases eval Γ ρ e <;> simp only [allSome, Option.map_none, Option.map_some]
    cases allSome (r.toList.map fun kv => (eval Γ ρ kv.2).map fun v => (kv.1, v)) <;> rfl

/-- member lookup commutes with evaluation (both are last-wins) -/
theorem getKey_evalKV (Γ : Env) (ρ : Store) (k : Bytes) : ∀ (kvs : KVs) (vs : List (Bytes × J)),
    evalKV Γ ρ kvs = some vs →
      match kvs.get k with
      | some e => ∃ v, eval Γ ρ e = some v ∧ getKey k vs = some v
      | none => getKey k vs = none
  | .nil, vs, h => by simp [evalKV] at h; subst h; simp [KVs.get, getKey]
  | .cons k' e r, vs, h => by
    simp only [evalKV] at h
    cases hv : eval Γ ρ e with
    | none => simp [hv] at h
    | some v =>
      cases hr : evalKV Γ ρ r with
      | none => simp [hv, hr] at h
      | some ws =>
        simp [hv, hr] at h
        subst h
        have ih := getKey_evalKV Γ ρ k r ws hr
        simp only [KVs.get, getKey]
        cases hg : KVs.get k r with
        | some e' =>
          simp only [hg] at ih ⊢
          obtain ⟨w, hw, hgw⟩ := ih
          exact ⟨w, hw, by simp [hgw]⟩
        | none =>
          simp only [hg] at ih ⊢
          by_cases hk : k' = k
          · simp [hk, ih, hv]
          · simp [hk, ih]

mutual
  theorem eval_of_noRef (Γ : Env) (ρ : Store) : ∀ (e : Exp), e.hasRef = false → ∃ v, eval Γ ρ e = some v
    | .null, _ => ⟨_, rfl⟩
    | .int _, _ => ⟨_, rfl⟩
    | .float _ _, _ => ⟨_, rfl⟩
    | .str _, _ => ⟨_, rfl⟩
    | .bool _, _ => ⟨_, rfl⟩
    | .arr xs, h => by
      obtain ⟨vs, hvs⟩ := evalL_of_noRef Γ ρ xs (by simpa [Exp.hasRef] using h)
      exact ⟨.arr vs, by simp [eval, hvs]⟩
    | .map _ kvs, h => by
      obtain ⟨vs, hvs⟩ := evalKV_of_noRef Γ ρ kvs (by simpa [Exp.hasRef] using h)
      exact ⟨.obj vs, by simp [eval, hvs]⟩
    | .self _ _, h => by simp [Exp.hasRef] at h
    | .call _ _, h => by simp [Exp.hasRef] at h
  theorem evalL_of_noRef (Γ : Env) (ρ : Store) : ∀ (xs : Exps), xs.hasRef = false → ∃ vs, evalL Γ ρ xs = some vs
    | .nil, _ => ⟨[], by simp [evalL]⟩
    | .cons e r, h => by
      simp only [Exps.hasRef, Bool.or_eq_false_iff] at h
      obtain ⟨v, hv⟩ := eval_of_noRef Γ ρ e h.1
      obtain ⟨vs, hvs⟩ := evalL_of_noRef Γ ρ r h.2
      exact ⟨v :: vs, by simp [evalL, hv, hvs]⟩
  theorem evalKV_of_noRef (Γ : Env) (ρ : Store) : ∀ (kvs : KVs), kvs.hasRef = false → ∃ vs, evalKV Γ ρ kvs = some vs
    | .nil, _ => ⟨[], by simp [evalKV]⟩
    | .cons k e r, h => by
      simp only [KVs.hasRef, Bool.or_eq_false_iff] at h
      obtain ⟨v, hv⟩ := eval_of_noRef Γ ρ e h.1
      obtain ⟨vs, hvs⟩ := evalKV_of_noRef Γ ρ r h.2
      exact ⟨(k, v) :: vs, by simp [evalKV, hv, hvs]⟩
end

theorem Exps.wf_eq : ∀ (xs : Exps), xs.wf = xs.toList.all Exp.wf
  | .nil => rfl
  | .cons e r => by simp [Exps.wf, Exps.toList, Exps.wf_eq r]

theorem KVs.wf_eq : ∀ (kvs : KVs), kvs.wf = kvs.toList.all fun kv => kv.2.wf
  | .nil => rfl
  | .cons k e r => by simp [KVs.wf, KVs.toList, KVs.wf_eq r]

theorem Exps.hasRef_eq : ∀ (xs : Exps), xs.hasRef = xs.toList.any Exp.hasRef
  | .nil => rfl
  | .cons e r => by simp [Exps.hasRef, Exps.toList, Exps.hasRef_eq r]

theorem KVs.hasRef_eq : ∀ (kvs : KVs), kvs.hasRef = kvs.toList.any fun kv => kv.2.hasRef
  | .nil => rfl
  | .cons k e r => by simp [KVs.hasRef, KVs.toList, KVs.hasRef_eq r]

theorem KVs.get_mem : ∀ {kvs : KVs} {k : Bytes} {e : Exp}, kvs.get k = some e → (k, e) ∈ kvs.toList
  | .nil, k, e, h => by simp [KVs.get] at h
  | .cons k' e' r, k, e, h => by
    simp only [KVs.get] at h
    simp only [KVs.toList, List.mem_cons]
    cases hr : KVs.get k r with
    | some w =>
      simp [hr] at h; subst h
      exact Or.inr (KVs.get_mem hr)
    | none =>
      simp [hr] at h
      obtain ⟨rfl, rfl⟩ := h
      exact Or.inl rfl

theorem KVs.get_none_of_not_mem : ∀ {kvs : KVs} {k : Bytes},
    k ∉ kvs.toList.map Prod.fst → kvs.get k = none
  | .nil, k, _ => by simp [KVs.get]
  | .cons k' e' r, k, h => by
    simp only [KVs.toList, List.map_cons, List.mem_cons, not_or] at h
    simp only [KVs.get, KVs.get_none_of_not_mem h.2]
    simp [Ne.symm h.1]

theorem KVs.get_of_mem_nodup : ∀ {kvs : KVs} {k : Bytes} {e : Exp},
    (kvs.toList.map Prod.fst).Nodup → (k, e) ∈ kvs.toList → kvs.get k = some e
  | .nil, k, e, _, h => by cases h
  | .cons k' e' r, k, e, hn, h => by
    simp only [KVs.toList, List.map_cons, List.nodup_cons] at hn
    simp only [KVs.toList, List.mem_cons, Prod.mk.injEq] at h
    simp only [KVs.get]
    rcases h with ⟨rfl, rfl⟩ | h
    · rw [KVs.get_none_of_not_mem hn.1]; simp
    · rw [KVs.get_of_mem_nodup hn.2 h]

theorem validFields_iff (Γ : Env) : ∀ (fs : Fields) (kvs : KVs),
    validFields Γ fs kvs = true ↔
      ∀ k t, (k, t) ∈ fs.toList → ∃ e, kvs.get k = some e ∧ validExp Γ t e = true
  | .nil, kvs => by simp [validFields, Fields.toList]
  | .cons k t r, kvs => by
    have ih := validFields_iff Γ r kvs
    simp only [validFields, Bool.and_eq_true, ih, Fields.toList, List.mem_cons, Prod.mk.injEq]
    constructor
    · rintro ⟨h1, h2⟩ k' t' (⟨rfl, rfl⟩ | h)
      · cases hg : KVs.get k' kvs with
        | none => simp [hg] at h1
        | some e => simp [hg] at h1; exact ⟨e, rfl, h1⟩
      · exact h2 _ _ h
    · intro h
      refine ⟨?_, fun k' t' h' => h _ _ (Or.inr h')⟩
      obtain ⟨e, he, hv⟩ := h k t (Or.inl ⟨rfl, rfl⟩)
      simp [he, hv]

theorem holeFreeFields_iff (Γ : Env) : ∀ (fs : Fields) (kvs : KVs),
    holeFreeFields Γ fs kvs = true ↔
      ∀ k t, (k, t) ∈ fs.toList → ∀ e, kvs.get k = some e → holeFree Γ t e = true
  | .nil, kvs => by simp [holeFreeFields, Fields.toList]
  | .cons k t r, kvs => by
    have ih := holeFreeFields_iff Γ r kvs
    simp only [holeFreeFields, Bool.and_eq_true, ih, Fields.toList, List.mem_cons, Prod.mk.injEq]
    constructor
    · rintro ⟨h1, h2⟩ k' t' (⟨rfl, rfl⟩ | h) e he
      · simpa [he] using h1
      · exact h2 _ _ h e he
    · intro h
      refine ⟨?_, fun k' t' h' => h _ _ (Or.inr h')⟩
      cases hg : KVs.get k kvs with
      | none => rfl
      | some e => exact h k t (Or.inl ⟨rfl, rfl⟩) e hg

/-- An accepted struct literal has no members beyond the declared ones: every
declared member is among its keys, so an undeclared one would make it longer than
the declaration, which is what the check refuses. -/
theorem struct_literal_no_extra (Γ : Env) (fs : Fields) (kvs : KVs)
    (hfs : (fs.toList.map Prod.fst).Nodup)
    (hv : validFields Γ fs kvs = true)
    (hx : (decide (kvs.toList.length > fs.toList.length) &&
            kvs.toList.any (fun kv => (fs.get kv.1).isNone)) = false) :
    ∀ kv ∈ kvs.toList, ∃ t, (kv.1, t) ∈ fs.toList := by
  intro kv hkv
  cases hg : fs.get kv.1 with
  | some t => exact ⟨t, Fields.get_mem hg⟩
  | none =>
    exfalso
    have hany : kvs.toList.any (fun kv => (fs.get kv.1).isNone) = true :=
      List.any_eq_true.mpr ⟨kv, hkv, by simp [hg]⟩
    have hnot : kv.1 ∉ fs.toList.map Prod.fst := by
      intro hm
      obtain ⟨⟨k, t⟩, hkt, hk⟩ := List.mem_map.mp hm
      simp only at hk
      subst hk
      rw [Fields.get_of_mem hfs hkt] at hg
      cases hg
    have hlen := (List.nodup_cons.mpr ⟨hnot, hfs⟩).length_le_of_subset
      (l₂ := kvs.toList.map Prod.fst) (by
        intro x hx'
        rcases List.mem_cons.mp hx' with rfl | hx'
        · exact List.mem_map.mpr ⟨kv, hkv, rfl⟩
        · obtain ⟨⟨k, t⟩, hkt, rfl⟩ := List.mem_map.mp hx'
          obtain ⟨e, he, _⟩ := (validFields_iff Γ fs kvs).mp hv k t hkt
          exact List.mem_map.mpr ⟨(k, e), KVs.get_mem he, rfl⟩)
    simp only [List.length_cons, List.length_map] at hlen
    have : decide (kvs.toList.length > fs.toList.length) = true := by
      simp only [decide_eq_true_eq]; omega
    simp [this, hany] at hx

theorem holeFree_self (Γ : Env) (t : Ty) (id : Bytes) (p : List Bytes) :
    holeFree Γ t (.self id p) = refHoleFree Γ t (.self id p) := by
  cases t <;> simp [holeFree]

theorem holeFree_call (Γ : Env) (t : Ty) (id : Bytes) (p : List Bytes) :
    holeFree Γ t (.call id p) = refHoleFree Γ t (.call id p) := by
  cases t <;> simp [holeFree]

theorem holeFree_ref (Γ : Env) (t : Ty) (e : Exp) (he : ∃ id p, e = .self id p ∨ e = .call id p) :
    holeFree Γ t e = refHoleFree Γ t e := by
  obtain ⟨id, p, rfl | rfl⟩ := he
  · exact holeFree_self Γ t id p
  · exact holeFree_call Γ t id p

theorem holeFree_base (Γ : Env) (b : Base) (e : Exp) : holeFree Γ (.base b) e = true := by
  simp only [holeFree, refHoleFree]
  cases refType Γ e <;> simp [noHole]

theorem validExp_ref (Γ : Env) (t : Ty) (e : Exp) (he : ∃ id p, e = .self id p ∨ e = .call id p) :
    validExp Γ t e = refOk Γ t e := by
  obtain ⟨id, p, rfl | rfl⟩ := he <;> cases t <;> simp [validExp, validBase]

theorem validExp_null (Γ : Env) (t : Ty) : validExp Γ t .null = true := by
  cases t <;> simp [validExp, validBase]

/-- Induction over the pairs `validExp` accepts, for a well-formed type and expression
outside the two holes.  The cases are the accepted forms: `null`; a reference whose type is
assignable to `t`; a reference-free literal for a builtin type (`null`, a scalar or an
untyped-map literal: case `lit`); a string for a user file type; an array literal,
element-wise; a map literal for a typed map, value-wise; a map / struct literal for a struct
type, which gives every declared member a value and has no other members.  Each case
receives its side conditions unpacked.  `H` is what the caller knows only when the
expression contains a reference (that the store conforms); it reaches the case `ref`. -/
theorem validExp_induct (Γ : Env) {H : Prop} {P : Ty → Exp → Prop}
    (null : ∀ t, P t .null)
    (ref : ∀ t e s, H → t.wf = true → refType Γ e = some s → assignable t s = true →
      noHole t s = true → P t e)
    (lit : ∀ b e, e.wf = true → e.hasRef = false → validBase Γ b e = true → P (.base b) e)
    (ustr : ∀ n s, P (.user n) (.str s))
    (arr : ∀ t xs, (∀ x ∈ xs.toList, P t x) → P (.arr t) (.arr xs))
    (tmap : ∀ t kvs, (∀ kv ∈ kvs.toList, (isDirMap t = true → legalName kv.1 = true) ∧ P t kv.2) →
      P (.tmap t) (.map false kvs))
    (struct : ∀ n fs b kvs, (Ty.struct n fs).wf = true → (kvs.toList.map Prod.fst).Nodup →
      (∀ kv ∈ kvs.toList, ∃ t, (kv.1, t) ∈ fs.toList) →
      (∀ k t, (k, t) ∈ fs.toList → ∃ e, kvs.get k = some e ∧ P t e) →
      P (.struct n fs) (.map b kvs)) :
    ∀ t e, t.wf = true → e.wf = true → validExp Γ t e = true →
      (e.hasRef = true → H ∧ holeFree Γ t e = true) → P t e := by
  have ref' : ∀ t e, (∃ id p, e = .self id p ∨ e = .call id p) → t.wf = true →
      validExp Γ t e = true → (e.hasRef = true → H ∧ holeFree Γ t e = true) → P t e := by
    intro t e he hwf hok hh
    obtain ⟨hH, hh⟩ := hh (by obtain ⟨id, p, rfl | rfl⟩ := he <;> rfl)
    rw [validExp_ref Γ t e he, refOk] at hok
    rw [holeFree_ref Γ t e he, refHoleFree] at hh
    cases hr : refType Γ e with
    | none => simp [hr] at hok
    | some s =>
      simp only [hr, Bool.and_eq_true] at hok hh
      exact ref t e s hH hwf hr hok.2 hh
  intro t
  induction t using Ty.induct' with
  | base b =>
    intro e hwf hwe h hh
    simp only [validExp] at h
    cases e with
    | self id p | call id p => exact ref' _ _ ⟨id, p, by simp⟩ hwf (by simpa [validExp] using h) hh
    | arr xs => simp [validBase] at h
    | map s kvs =>
      refine lit b _ hwe ?_ h
      simp only [validBase, Bool.and_eq_true, Bool.not_eq_true'] at h
      exact h.2
    | _ => exact lit b _ hwe rfl h
  | user n =>
    intro e hwf _ h hh
    cases e with
    | null => exact null _
    | str s => exact ustr n s
    | self id p | call id p => exact ref' _ _ ⟨id, p, by simp⟩ hwf h hh
    | _ => simp [validExp] at h
  | arr t ih =>
    intro e hwf hwe h hh
    cases e with
    | null => exact null _
    | arr xs =>
      simp only [Exp.wf, Exps.wf_eq, List.all_eq_true] at hwe
      simp only [validExp, List.all_eq_true] at h
      simp only [Exp.hasRef, Exps.hasRef_eq, List.any_eq_true, holeFree, List.all_eq_true] at hh
      exact arr t xs fun x hx => ih x (by simpa [Ty.wf] using hwf) (hwe x hx) (h x hx)
        fun hr => (hh ⟨x, hx, hr⟩).imp_right (· x hx)
    | self id p | call id p => exact ref' _ _ ⟨id, p, by simp⟩ hwf h hh
    | _ => simp [validExp] at h
  | tmap t ih =>
    intro e hwf hwe h hh
    cases e with
    | null => exact null _
    | map s kvs =>
      cases s with
      | true => simp [validExp] at h
      | false =>
        simp only [Exp.wf, KVs.wf_eq, Bool.and_eq_true, List.all_eq_true] at hwe
        simp only [validExp, List.all_eq_true, Bool.and_eq_true] at h
        simp only [Exp.hasRef, KVs.hasRef_eq, List.any_eq_true, holeFree, List.all_eq_true] at hh
        refine tmap t kvs fun kv hkv => ⟨fun hd => by simpa [hd] using (h kv hkv).2,
          ih kv.2 (by simpa [Ty.wf] using hwf) (hwe.1 kv hkv) (h kv hkv).1
            fun hr => (hh ⟨kv, hkv, hr⟩).imp_right (· kv hkv)⟩
    | self id p | call id p => exact ref' _ _ ⟨id, p, by simp⟩ hwf h hh
    | _ => simp [validExp] at h
  | struct n fs ih =>
    intro e hwf hwe h hh
    cases e with
    | null => exact null _
    | map s kvs =>
      have hwf' := Fields.wf_iff.mp (by simpa [Ty.wf] using hwf)
      simp only [Exp.wf, KVs.wf_eq, Bool.and_eq_true, List.all_eq_true, decide_eq_true_eq] at hwe
      simp only [validExp, Bool.and_eq_true, Bool.not_eq_true'] at h
      simp only [Exp.hasRef, KVs.hasRef_eq, List.any_eq_true, holeFree, holeFreeFields_iff] at hh
      refine struct n fs s kvs hwf hwe.2 (struct_literal_no_extra Γ fs kvs hwf'.1 h.1 h.2)
        fun k t hkt => ?_
      obtain ⟨e, he, hve⟩ := (validFields_iff Γ fs kvs).mp h.1 k t hkt
      have hme := KVs.get_mem he
      exact ⟨e, he, ih k t hkt e (hwf'.2 k t hkt) (hwe.1 (k, e) hme) hve
        fun hr => (hh ⟨(k, e), hme, hr⟩).imp_right (· k t hkt e he)⟩
    | self id p | call id p => exact ref' _ _ ⟨id, p, by simp⟩ hwf h hh
    | _ => simp [validExp] at h

theorem valid_arr_iff {t : Ty} {vs : List J} :
    valid (.arr t) (.arr vs) = true ↔ ∀ v ∈ vs, valid t v = true := by
  simp only [valid, check, beq_iff_eq, worst_eq_ok, List.mem_map, forall_exists_index, and_imp,
    forall_apply_eq_imp_iff₂]

theorem valid_tmap_iff {t : Ty} {kvs : List (Bytes × J)} :
    valid (.tmap t) (.obj kvs) = true ↔
      ∀ kv ∈ kvs, valid t kv.2 = true ∧ (isDirMap t = true → legalName kv.1 = true) := by
  simp only [valid, check, beq_iff_eq, worst_eq_ok, List.mem_map, forall_exists_index, and_imp,
    forall_apply_eq_imp_iff₂, Verdict.max_eq_ok]
  refine forall₂_congr fun kv _ => and_congr_right fun _ => ?_
  cases isDirMap t <;> cases legalName kv.1 <;> simp

theorem valid_struct_iff {n : Bytes} {fs : Fields} {kvs : List (Bytes × J)} :
    valid (.struct n fs) (.obj kvs) = true ↔
      ∀ k t, (k, t) ∈ fs.toList → ∃ v, getKey k kvs = some v ∧ valid t v = true := by
  simp only [valid, check, beq_iff_eq, checkFields_ok_iff]

theorem valid_struct_of_members {n : Bytes} {fs : Fields} {vs : List (Bytes × J)}
    (hwf : (Ty.struct n fs).wf = true) (hkeys : vs.map Prod.fst = fs.toList.map Prod.fst)
    (hvals : ∀ k t, (k, t) ∈ fs.toList → ∃ v, (k, v) ∈ vs ∧ valid t v = true) :
    valid (.struct n fs) (.obj vs) = true := by
  have hnd := (Fields.wf_iff.mp (by simpa [Ty.wf] using hwf)).1
  refine valid_struct_iff.mpr fun k t hkt => ?_
  obtain ⟨v, hmem, hv⟩ := hvals k t hkt
  exact ⟨v, getKey_of_mem_nodup (by rw [hkeys]; exact hnd) hmem, hv⟩

/-- The struct values the model builds – of a struct literal (`evalTF`), of a
return statement (`retValue`, `retValueT`) – are computed by a function `F` that
goes through the declared fields and gives each a value.  If under the premise
`H k t` the value given to the field `k : t` exists and is valid, `F` lists the
fields in order, each with a valid value. -/
theorem fields_members {F : Fields → Option (List (Bytes × J))} {H : Bytes → Ty → Prop}
    (hnil : F .nil = some [])
    (hcons : ∀ k t r vs, H k t → F r = some vs →
      ∃ v, F (.cons k t r) = some ((k, v) :: vs) ∧ valid t v = true) :
    ∀ (fs : Fields), (∀ k t, (k, t) ∈ fs.toList → H k t) →
      ∃ vs, F fs = some vs ∧ vs.map Prod.fst = fs.toList.map Prod.fst ∧
        ∀ k t, (k, t) ∈ fs.toList → ∃ v, (k, v) ∈ vs ∧ valid t v = true
  | .nil, _ => ⟨[], hnil, by simp [Fields.toList], by simp [Fields.toList]⟩
  | .cons k t r, h => by
    obtain ⟨vs, hvs, hkeys, hall⟩ := fields_members hnil hcons r
      fun k' t' hm => h k' t' (by simp [Fields.toList, hm])
    obtain ⟨v, hv, hval⟩ := hcons k t r vs (h k t (by simp [Fields.toList])) hvs
    refine ⟨(k, v) :: vs, hv, by simp [Fields.toList, hkeys], fun k' t' hm => ?_⟩
    simp only [Fields.toList, List.mem_cons, Prod.mk.injEq] at hm
    rcases hm with ⟨rfl, rfl⟩ | hm
    · exact ⟨v, List.mem_cons_self, hval⟩
    · obtain ⟨w, hw, hvw⟩ := hall k' t' hm
      exact ⟨w, List.mem_cons_of_mem _ hw, hvw⟩

/-- an `int` parameter conforms to a float literal exactly when `EncodeJSON` writes it in
integer syntax, which is the test `validBase` makes -/
theorem valid_int_litFloat (m x : Int) :
    valid (.base .int) (.num (litFloat m x)) = floatIsInt64 m x := by
  simp only [litFloat, floatIsInt64]
  cases (Num.flt m x).intValue? with
  | none => simp [valid, check, checkBase]
  | some i => cases h : Num.inInt64 i <;> simp [h, valid, check, checkBase]

theorem validBase_literal (Γ : Env) (ρ : Store) (b : Base) (e : Exp) (hw : e.wf = true)
    (hr : e.hasRef = false) (hv : validBase Γ b e = true) :
    ∃ v, eval Γ ρ e = some v ∧ valid (.base b) v = true := by
  cases e with
  | null => exact ⟨.null, rfl, valid_null _⟩
  | int v =>
    refine ⟨_, rfl, ?_⟩
    simp only [Exp.wf] at hw
    simp only [validBase, Bool.or_eq_true, beq_iff_eq] at hv
    rcases hv with rfl | rfl <;> simp [valid, check, checkBase, hw]
  | float m x =>
    refine ⟨_, rfl, ?_⟩
    simp only [validBase, Bool.or_eq_true, Bool.and_eq_true, beq_iff_eq] at hv
    rcases hv with rfl | ⟨rfl, hv⟩
    · simp [valid, check, checkBase]
    · rw [valid_int_litFloat, hv]
  | str s =>
    refine ⟨_, rfl, ?_⟩
    simp only [validBase, Bool.or_eq_true, beq_iff_eq] at hv
    rcases hv with (rfl | rfl) | rfl <;> simp [valid, check, checkBase]
  | bool x =>
    refine ⟨_, rfl, ?_⟩
    simp only [validBase, beq_iff_eq] at hv
    subst hv
    simp [valid, check, checkBase]
  | arr xs => simp [validBase] at hv
  | map isStruct kvs =>
    simp only [validBase, Bool.and_eq_true, beq_iff_eq] at hv
    obtain ⟨⟨rfl, _⟩, _⟩ := hv
    obtain ⟨vs, hvs⟩ := evalKV_of_noRef Γ ρ kvs (by simpa [Exp.hasRef] using hr)
    exact ⟨.obj vs, by simp [eval, hvs], by simp [valid, check, checkBase]⟩
  | self id p | call id p => simp [Exp.hasRef] at hr

/-- An accepted expression evaluates to a value that conforms to the parameter type
as it stands (before any filter).  The store and the hole hypothesis are needed only
where the expression contains a reference. -/
theorem validExp_eval (Γ : Env) (ρ : Store) (t : Ty) (ht : t.wf = true) (e : Exp) (he : e.wf = true)
    (hv : validExp Γ t e = true)
    (h : e.hasRef = true → StoreOk Γ ρ ∧ holeFree Γ t e = true) :
    ∃ v, eval Γ ρ e = some v ∧ valid t v = true := by
  refine validExp_induct Γ (P := fun t e => ∃ v, eval Γ ρ e = some v ∧ valid t v = true)
    ?_ ?_ ?_ ?_ ?_ ?_ ?_ t e ht he hv h
  · intro t; exact ⟨.null, rfl, valid_null t⟩
  · intro t e s hρ _ hr ha hn
    obtain ⟨v, hev, hs⟩ := ref_shape Γ ρ hρ e s hr
    exact ⟨v, hev, valid_of_shape _ _ (shape_of_assignable t s v hs ha hn)⟩
  · intro b e hw hr hv; exact validBase_literal Γ ρ b e hw hr hv
  · intro n s; exact ⟨_, rfl, by simp [valid, check]⟩
  · intro t xs ih
    obtain ⟨vs, hvs, hall⟩ := allSome_all (eval Γ ρ) (fun v => valid t v = true) xs.toList ih
    exact ⟨.arr vs, by simp [eval, evalL_eq, hvs], valid_arr_iff.mpr hall⟩
  · intro t kvs ih
    obtain ⟨vs, hvs, hall⟩ := allSome_keyed (eval Γ ρ)
      (fun k v => valid t v = true ∧ (isDirMap t = true → legalName k = true)) kvs.toList
      (fun kv hkv => (ih kv hkv).2.imp fun v hv => ⟨hv.1, hv.2, (ih kv hkv).1⟩)
    exact ⟨.obj vs, by simp [eval, evalKV_eq, hvs], valid_tmap_iff.mpr hall⟩
  · intro n fs b kvs _ hnd hdecl ih
    -- every member of the literal is a declared one, so all of them evaluate
    obtain ⟨vs, hvs, _⟩ := allSome_keyed (eval Γ ρ)
      (fun _ _ => True) kvs.toList (fun kv hkv => by
        obtain ⟨t, hkt⟩ := hdecl kv hkv
        obtain ⟨e, he, v, h1, _⟩ := ih kv.1 t hkt
        rw [KVs.get_of_mem_nodup hnd hkv] at he
        cases he
        exact ⟨v, h1, trivial⟩)
    rw [← evalKV_eq] at hvs
    refine ⟨.obj vs, by simp [eval, hvs], valid_struct_iff.mpr fun k t hkt => ?_⟩
    obtain ⟨e, he, v, h1, h2⟩ := ih k t hkt
    have hg := getKey_evalKV Γ ρ k kvs vs hvs
    rw [he] at hg
    obtain ⟨v', h1', hgv⟩ := hg
    rw [h1] at h1'
    cases h1'
    exact ⟨v, hgv, h2⟩

theorem validExp_sound (Γ : Env) (ρ : Store) (hρ : StoreOk Γ ρ) (t : Ty) :
    t.wf = true → ∀ (e : Exp), e.wf = true → validExp Γ t e = true → holeFree Γ t e = true →
      ∃ v, eval Γ ρ e = some v ∧ valid t (filter t v).1 = true := fun ht e he hv hh =>
  (validExp_eval Γ ρ t ht e he hv fun _ => ⟨hρ, hh⟩).imp fun v h =>
    ⟨h.1, valid_of_shape _ _ (shape_filter t ht v (shape_of_valid t v h.2))⟩

theorem lookup_of_mem_nodup {α : Type} : ∀ {l : List (Bytes × α)} {k : Bytes} {v : α},
    (l.map Prod.fst).Nodup → (k, v) ∈ l → l.lookup k = some v :=
  Proofs.ListFacts.lookup_of_mem_nodup

theorem eraseDups_length : ∀ (l : List Bytes),
    l.eraseDups.length ≤ l.length ∧ (l.eraseDups.length = l.length → l.Nodup)
  | [] => ⟨by simp, fun _ => List.nodup_nil⟩
  | a :: as => by
    rw [List.eraseDups_cons]
    obtain ⟨h1, ih⟩ := eraseDups_length (as.filter fun b => !b == a)
    have h2 := List.length_filter_le (fun b => !b == a) as
    simp only [List.length_cons]
    refine ⟨by omega, fun h => ?_⟩
    have hall := List.length_filter_eq_length_iff.mp (show (as.filter fun b => !b == a).length = as.length by omega)
    have ih := ih (by omega)
    rw [List.filter_eq_self.mpr hall] at ih
    refine List.nodup_cons.mpr ⟨fun hm => ?_, ih⟩
    have := hall a hm
    simp at this
termination_by l => l.length
decreasing_by
  simp only [List.length_cons]
  have := List.length_filter_le (fun b => !b == a) as
  omega

/-- What acceptance of a call says about its bindings: their names are pairwise
distinct; every declared parameter has a binding, valid for the parameter's type;
every binding names a declared parameter. -/
theorem validCall_spec {Γ : Env} {params : List (Bytes × Ty)} {binds : List (Bytes × Bind)}
    (h : validCall Γ params binds = true) :
    (binds.map Prod.fst).Nodup ∧
    (∀ x t, params.lookup x = some t → ∃ b, binds.lookup x = some b ∧ validBind Γ t b = true) ∧
    (∀ x b, (x, b) ∈ binds → ∃ t, params.lookup x = some t ∧ validBind Γ t b = true) := by
  simp only [validCall, checkCall] at h
  split at h
  · rename_i hc
    simp only [Bool.and_eq_true, List.all_eq_true, beq_iff_eq] at hc
    obtain ⟨⟨h1, h2⟩, h3⟩ := hc
    have known : ∀ x b, (x, b) ∈ binds → ∃ t, params.lookup x = some t ∧ validBind Γ t b = true := by
      intro x b hx
      have := h1 (x, b) hx
      cases hl : params.lookup x with
      | none => simp [hl] at this
      | some t => exact ⟨t, rfl, by simpa [hl] using this⟩
    refine ⟨(eraseDups_length _).2 (by simpa using h2), fun x t hx => ?_, known⟩
    have hb := h3 (x, t) (Proofs.ListFacts.mem_of_lookup hx)
    cases hl : binds.lookup x with
    | none => simp [hl] at hb
    | some b =>
      obtain ⟨t', ht', hvb⟩ := known x b (Proofs.ListFacts.mem_of_lookup hl)
      rw [hx] at ht'
      cases ht'
      exact ⟨b, rfl, hvb⟩
  · simp at h

theorem checkCall_nodup (Γ : Env) (params : List (Bytes × Ty)) (binds : List (Bytes × Bind))
    (h : validCall Γ params binds = true) : (binds.map Prod.fst).Nodup :=
  (validCall_spec h).1

theorem storeOk_of_all (Γ : Env) (ρ : Store)
    (h : ((Γ.self.all fun it =>
            match ρ.self.lookup it.1 with | some v => valid it.2 v | none => false) &&
          (Γ.calls.all fun is =>
            match ρ.calls.lookup is.1 with | some v => valid is.2.whole v | none => false)) = true) :
    StoreOk Γ ρ := by
  simp only [Bool.and_eq_true, List.all_eq_true] at h
  constructor
  · intro id t hl
    have := h.1 (id, t) (Proofs.ListFacts.mem_of_lookup hl)
    cases hv : ρ.self.lookup id with
    | none => simp [hv] at this
    | some v => exact ⟨v, rfl, by simpa [hv] using this⟩
  · intro id sig hl
    have := h.2 (id, sig) (Proofs.ListFacts.mem_of_lookup hl)
    cases hv : ρ.calls.lookup id with
    | none => simp [hv] at this
    | some v => exact ⟨v, rfl, by simpa [hv] using this⟩

end Martian.Typing
