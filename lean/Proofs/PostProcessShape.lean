/-
C13 `shape_preserved`: the dimension-aware recursion satisfies the recursive shape
relation between a value and its rewritten form (`Shape`, Martian/PostProcessDefs.lean)
for every type, value and file system, by its own induction along the type; whole
records and mapped calls (`processStructOuts_shape`, `postArray_shape`, `postMap_shape`).  Then the verification gate
in front of post-processing (`keysVerified` = what `TypedMapType.IsValidJson`
demands of keys): it makes `moveOutDir`'s legal-key filter dead code, since for
a value that passed the gate every typed-map node of the rewritten value has
ALL the keys of the input, at every depth.
-/
import Proofs.PostProcess

namespace Martian.PostProcess

theorem All2.length_eq {R : J → J → Prop} {xs ys : List J} (h : All2 R xs ys) :
    ys.length = xs.length := by
  induction h with
  | nil => rfl
  | cons _ _ ih => simp [ih]

theorem mapIdx_forall₂ (Q : J → J → Prop) (f : Nat → J → FS → J × FS)
    (hf : ∀ i x fs, Q x (f i x fs).1) (i : Nat) (xs : List J) (fs : FS) :
    All2 Q xs (mapIdx f i xs fs).1 := by
  induction xs generalizing i fs with
  | nil => exact All2.nil
  | cons x xs ih => exact All2.cons (hf i x fs) (ih _ _)

theorem arrLevel_shapeArr (R : J → J → Prop) (h : Handler)
    (hR : ∀ id on v o fs, R v (h id on v o fs).1) (k : Nat) (v : J) (o : Path) (fs : FS) :
    ShapeArr R k v (arrLevel true h k v o fs).1 := by
  induction k generalizing v o fs with
  | zero =>
    cases v with
    | arr xs => exact ⟨_, rfl, mapIdx_forall₂ R _ (fun i x fs => hR _ _ _ _ _) 0 xs fs⟩
    | _ => rfl
  | succ k ih =>
    cases v with
    | arr xs =>
      refine ⟨_, rfl, mapIdx_forall₂ (ShapeArr R k) _ (fun i x fs => ?_) 0 xs fs⟩
      cases x with
      | null => cases k <;> rfl
      | _ => exact ih _ _ _
    | _ => rfl

mutual
theorem handler_shape (ps : Path) (ty : Ty) (id on : String) (v : J) (outs : Path) (fs : FS) :
    Shape ty v (handler true ps ty id on v outs fs).1 := by
  cases ty with
  | scalar => rfl
  | file ext =>
    rw [handler_file]
    exact moveOutFile_shape ps outs _ v fs
  | arr e k =>
    rw [handler_arr, Shape]
    cases hasFile e with
    | false => rfl
    | true => exact arrLevel_shapeArr _ _ (fun id on v o fs => handler_shape ps e id on v o fs) k v _ fs
  | tmap e =>
    rw [handler_tmap, Shape]
    cases hasFile e with
    | false => rfl
    | true =>
      cases v with
      | obj kvs =>
        refine ⟨_, rfl, mapKeys_keys _ _ _, fun kv hkv => ?_⟩
        obtain ⟨fs', hfs⟩ := mapKeys_vals _ _ _ kv hkv
        rw [hfs]
        exact handler_shape ps e _ _ _ _ _
      | _ => rfl
  | struct ms =>
    rw [handler_struct, Shape, ← handlersMs_keys true ps ms]
    cases hasFileMs ms with
    | false => rfl
    | true =>
      cases v with
      | obj kvs =>
        cases kvs with
        | nil => rfl
        | cons kv kvs =>
          refine ⟨_, rfl, mapKeys_keys _ _ _, fun kv' hkv => ?_⟩
          obtain ⟨fs', hfs⟩ := mapKeys_vals _ _ _ kv' hkv
          rw [hfs]
          exact handlersMs_shape ps ms _ _ _ _
      | _ => rfl
theorem handlersMs_shape (ps : Path) (ms : List (String × String × Ty)) (k : String) (v : J) (o : Path)
    (fs : FS) : ShapeMs ms k v (memberHandler (handlersMs true ps ms) k v o fs).1 := by
  cases ms with
  | nil => rfl
  | cons m ms =>
    obtain ⟨id, on, t⟩ := m
    simp only [handlersMs, memberHandler, ShapeMs]
    by_cases hk : id = k
    · simp only [hk, if_true]
      exact handler_shape ps t k on v o fs
    · simp only [hk, if_false]
      exact handlersMs_shape ps ms k v o fs
end

theorem handleOuts_shape (ps : Path) (params : List (String × String × Ty)) (outs : List (String × J))
    (outsPath : Path) (fs : FS) :
    ShapeRec params outs (handleOuts true ps params outs outsPath fs).1 := by
  induction params generalizing fs with
  | nil => exact ⟨rfl, fun kv h => by simp [handleOuts] at h⟩
  | cons m rest ih =>
    obtain ⟨id, on, ty⟩ := m
    simp only [handleOuts]
    cases hl : lookupLast outs id with
    | none =>
      obtain ⟨h1, h2⟩ := ih fs
      refine ⟨by simpa [hl] using h1, fun kv hkv => ?_⟩
      obtain ⟨on', ty', v, hm, hv, hs⟩ := h2 kv hkv
      exact ⟨on', ty', v, List.mem_cons_of_mem _ hm, hv, hs⟩
    | some v =>
      obtain ⟨h1, h2⟩ := ih (moveOut true ps ty id on v outsPath fs).2
      refine ⟨by simpa [hl] using h1, fun kv hkv => ?_⟩
      simp only [List.mem_cons] at hkv
      rcases hkv with hkv | hkv
      · subst hkv
        exact ⟨on, ty, v, List.mem_cons_self, hl, handler_shape ps ty id on v outsPath fs⟩
      · obtain ⟨on', ty', v', hm, hv, hs⟩ := h2 kv hkv
        exact ⟨on', ty', v', List.mem_cons_of_mem _ hm, hv, hs⟩

theorem processStructOuts_shape (ps : Path) (params : List (String × String × Ty)) (x : J)
    (outsPath : Path) (fs : FS) :
    ShapeFork params x (processStructOuts true ps params x outsPath fs).1 := by
  refine ⟨_, rfl, ?_⟩
  cases x <;> exact handleOuts_shape ps params _ outsPath _

theorem postArray_shape (ps : Path) (params : List (String × String × Ty)) (outs : Path) (i : Nat)
    (xs : List J) (fs : FS) :
    All2 (ShapeFork params) xs (postArray true ps params outs i xs fs).1 := by
  induction xs generalizing i fs with
  | nil => exact All2.nil
  | cons x xs ih => exact All2.cons (processStructOuts_shape ps params x _ fs) (ih _ _)

theorem postMap_shape (ps : Path) (params : List (String × String × Ty)) (outs : Path)
    (kvs : List (String × J)) (fs : FS) :
    (postMap true ps params outs kvs fs).1.map Prod.fst = kvs.map Prod.fst ∧
    All2 (ShapeFork params) (kvs.map Prod.snd) ((postMap true ps params outs kvs fs).1.map Prod.snd) := by
  induction kvs generalizing fs with
  | nil => exact ⟨rfl, All2.nil⟩
  | cons kv kvs ih =>
    obtain ⟨k, x⟩ := kv
    obtain ⟨h1, h2⟩ := ih (processStructOuts true ps params x (joinKey outs k) fs).2
    exact ⟨by simp [postMap, h1], All2.cons (processStructOuts_shape ps params x _ fs) h2⟩

theorem All2.imp_mem {R Q : J → J → Prop} {xs ys : List J} (h : All2 R xs ys)
    (hq : ∀ x y, x ∈ xs → R x y → Q x y) : All2 Q xs ys := by
  induction h with
  | nil => exact All2.nil
  | cons hxy _ ih =>
    exact All2.cons (hq _ _ (by simp) hxy) (ih (fun x y hx hr => hq x y (by simp [hx]) hr))

theorem keptArr_of_shape (R Q : J → J → Prop) (f : J → Bool)
    (hq : ∀ x y, f x = true → R x y → Q x y) (k : Nat) (v v' : J)
    (hv : keysArr f k v = true) (hs : ShapeArr R k v v') : KeptArr Q k v v' := by
  induction k generalizing v v' with
  | zero =>
    cases v with
    | arr xs =>
      obtain ⟨ys, e, h2⟩ := hs
      simp only [keysArr, List.all_eq_true] at hv
      exact ⟨ys, e, h2.imp_mem (fun x y hx hr => hq x y (hv x hx) hr)⟩
    | _ => trivial
  | succ k ih =>
    cases v with
    | arr xs =>
      obtain ⟨ys, e, h2⟩ := hs
      simp only [keysArr, List.all_eq_true] at hv
      exact ⟨ys, e, h2.imp_mem (fun x y hx hr => ih x y (hv x hx) hr)⟩
    | _ => trivial

theorem lookupLast_all (f : J → Bool) (kvs : List (String × J)) (k : String)
    (hall : kvs.all (fun kv => f kv.2) = true) (hnull : f .null = true) :
    f ((lookupLast kvs k).getD .null) = true := by
  induction kvs with
  | nil => simpa [lookupLast] using hnull
  | cons kv r ih =>
    obtain ⟨k', v⟩ := kv
    simp only [List.all_cons, Bool.and_eq_true] at hall
    simp only [lookupLast]
    cases hl : lookupLast r k with
    | some v' =>
      have := ih hall.2
      rw [hl] at this
      simpa using this
    | none =>
      by_cases hk : k' = k
      · simpa [hk] using hall.1
      · simpa [hk] using hnull

theorem keptMap_of_shape (R Q : J → J → Prop) (f : J → Bool) (hnull : f .null = true)
    (hq : ∀ x y, f x = true → R x y → Q x y) (v v' : J)
    (hv : keysMap true f v = true) (hs : ShapeMap R v v') : KeptMap Q v v' := by
  cases v with
  | obj kvs =>
    obtain ⟨kvs', e, hk, hr⟩ := hs
    simp only [keysMap, Bool.not_true, Bool.false_or, Bool.and_eq_true] at hv
    have hlegal : (kvs.map Prod.fst).filter legalName = kvs.map Prod.fst := by
      apply List.filter_eq_self.mpr
      intro k hkm
      obtain ⟨kv, hm, rfl⟩ := List.mem_map.mp hkm
      exact (List.all_eq_true.mp hv.1) kv hm
    refine ⟨kvs', e, by rw [hk, hlegal], fun kv hm => hq _ _ (lookupLast_all f kvs kv.1 hv.2 hnull) (hr kv hm)⟩
  | _ => trivial

theorem keysArr_null (f : J → Bool) (k : Nat) : keysArr f k .null = true := by
  cases k <;> rfl

theorem keysVerified_null (ty : Ty) : keysVerified ty .null = true := by
  cases ty with
  | scalar => rfl
  | file e => rfl
  | arr e k => simp [keysVerified, keysArr_null]
  | tmap e => rfl
  | struct ms => rfl

mutual
theorem allKeysKept_of_shape (ty : Ty) (v v' : J) (hv : keysVerified ty v = true) (hs : Shape ty v v') :
    AllKeysKept ty v v' := by
  cases ty with
  | scalar => trivial
  | file e => trivial
  | arr e k =>
    simp only [AllKeysKept]
    simp only [Shape] at hs
    cases he : hasFile e with
    | false => simp
    | true =>
      simp only [he, if_true] at hs ⊢
      exact keptArr_of_shape (Shape e) (AllKeysKept e) (keysVerified e)
        (fun x y hx hr => allKeysKept_of_shape e x y hx hr) k v v' (by simpa [keysVerified] using hv) hs
  | tmap e =>
    simp only [AllKeysKept]
    simp only [Shape] at hs
    cases he : hasFile e with
    | false => simp
    | true =>
      simp only [he, if_true] at hs ⊢
      exact keptMap_of_shape (Shape e) (AllKeysKept e) (keysVerified e) (keysVerified_null e)
        (fun x y hx hr => allKeysKept_of_shape e x y hx hr) v v' (by simpa [keysVerified, he] using hv) hs
  | struct ms =>
    simp only [AllKeysKept]
    simp only [Shape] at hs
    cases he : hasFileMs ms with
    | false => simp
    | true =>
      simp only [he, if_true] at hs ⊢
      cases v with
      | obj kvs =>
        cases kvs with
        | nil => trivial
        | cons kv kvs =>
          obtain ⟨kvs', e, _, hr⟩ := hs
          simp only [keysVerified] at hv
          exact ⟨kvs', e, fun kv' hm => allKeysKeptMs_of_shape ms ms (kv :: kvs) kv'.1 _ _ hv (hr kv' hm) rfl⟩
      | _ => trivial
theorem allKeysKeptMs_of_shape (all ms : List (String × String × Ty)) (kvs : List (String × J)) (k : String)
    (v v' : J) (hv : keysVerifiedMs ms kvs = true) (hs : ShapeMs ms k ((lookupLast kvs k).getD .null) v') :
    v = (lookupLast kvs k).getD .null → AllKeysKeptMs ms k v v' := by
  intro hveq
  subst hveq
  cases ms with
  | nil => trivial
  | cons m ms =>
    obtain ⟨id, on, t⟩ := m
    simp only [keysVerifiedMs, Bool.and_eq_true] at hv
    simp only [ShapeMs] at hs
    simp only [AllKeysKeptMs]
    by_cases hk : id = k
    · simp only [hk, if_true] at hs ⊢
      exact allKeysKept_of_shape t _ _ (by rw [← hk]; exact hv.1) hs
    · simp only [hk, if_false] at hs ⊢
      exact allKeysKeptMs_of_shape all ms kvs k _ _ hv.2 hs rfl
end

end Martian.PostProcess
