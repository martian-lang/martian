/-
C19 — what the call-graph theorems of the single edits share.  Lookup of a callable under a map of
the callables (`find_map_inj`, `find_map_some`, `find_map_none`), `graphFuel_map`; the resolution
without wildcards (`Base`, `callIns_noStar`, `pipeOuts_noStar`) and its congruences
(`resolveBinds_congr`, `resolveBinds_mapRefs`); the edits of one key of a parameter list:
renaming (`renTop`, of which `renKeyM` and `renKeyEnv` are instances; `resolveBinds_renameFirst`)
and dropping (`dropKeyM`, `dropKeyEnv` are `eraseP`; `resolveBinds_removeFirst`); how a map of the
stage references (`mapSref`) commutes with projection, narrowing and resolution (`PathStable`,
`bindingPath_mapSref_on`, `filter_mapSref_all`, `lookupRef_post`, `resolveBinds_post_ok`); edits of
the type table that a value cannot see (`TypesOK`, `filter_congr_all`, `resolveBinds_ti_ok`); the
references of a pipeline (`mem_graphRefs_iff`, `callee_of_ref`).
-/
import Martian.RefactorGraph
import Proofs.RefactorGraph

namespace Proofs.RefactorGraph
open Martian.Refactor

theorem find_map_inj (F : Callable → Callable) (n n' : String) (l : List Callable)
    (h : ∀ c ∈ l, ((F c).name == n') = (c.name == n)) :
    (l.map F).find? (·.name == n') = (l.find? (·.name == n)).map F := by
  induction l with
  | nil => rfl
  | cons a t ih =>
    simp only [List.map_cons, List.find?_cons, h a (List.mem_cons_self ..)]
    cases hc : (a.name == n)
    · simp only []
      exact ih (fun c hc' => h c (List.mem_cons_of_mem _ hc'))
    · simp

theorem find_map_name (F : Callable → Callable) (hF : ∀ c, (F c).name = c.name) (n : String)
    (l : List Callable) :
    (l.map F).find? (·.name == n) = (l.find? (·.name == n)).map F :=
  find_map_inj F n n l fun c _ => by rw [hF]

section FindMap
variable (F : Callable → Callable) (hF : ∀ c, (F c).name = c.name) {p p' : Program}
  (hp' : p'.callables = p.callables.map F) {n : String}
include hF hp'

theorem find_map_some {d : Callable} (hd : p.find? n = some d) : p'.find? n = some (F d) := by
  unfold Program.find? at hd ⊢
  rw [hp', find_map_name F hF, hd]; rfl

theorem find_map_none (hd : p.find? n = none) : p'.find? n = none := by
  unfold Program.find? at hd ⊢
  rw [hp', find_map_name F hF, hd]; rfl

end FindMap

theorem graphFuel_map (F : Callable → Callable) {p p' : Program} (hp' : p'.callables = p.callables.map F)
    (h : ∀ c ∈ p.callables, (F c).calls.length = c.calls.length) : graphFuel p' = graphFuel p := by
  unfold graphFuel
  rw [hp', List.map_map]
  congr 2
  exact List.map_congr_left fun c hc => by simp only [Function.comp, h c hc]

theorem expandWild_noStar (ti : TypeInfo) (pipe : Callable) (params : List String) (bs : List Bind)
    (h : noStar bs = true) : expandWild ti pipe params bs = bs := by
  unfold expandWild
  have : bs.find? (·.name == "*") = none := by
    rw [List.find?_eq_none]
    intro b hb
    have := (List.all_eq_true.mp h) b hb
    simpa using this
  rw [this]

theorem callIns_noStar (ti : TypeInfo) (pipe : Callable) (self : Env) (sib : String → RExp) (d : Callable) (k : Call)
    (h : noStar k.binds = true) :
    callIns ti pipe self sib d k = resolveBinds ti (insOf ti d.name) (lookupRef self sib) k.binds := by
  rw [callIns, expandWild_noStar _ _ _ _ h]

theorem pipeOuts_noStar (ti : TypeInfo) (d : Callable) (ins : Env) (sib : String → RExp) (h : noStar d.ret = true) :
    pipeOuts ti d ins sib
      = .map true (envEntries (resolveBinds ti (outsOf ti d.name) (lookupRef ins sib) d.ret)) := by
  rw [pipeOuts, expandWild_noStar _ _ _ _ h]

/-- What the side condition of every edit says first of a callable: a stage has no body, call ids
are distinct, there are no wildcard bindings. -/
structure Base (c : Callable) : Prop where
  body : c.isPipe = true ∨ c.calls = []
  nodup : (callIds c).Nodup
  binds : ∀ k ∈ c.calls, noStar k.binds = true
  ret : noStar c.ret = true

theorem Base.first {c : Callable} (h : Base c) : ∀ k ∈ c.calls, c.calls.find? (·.id == k.id) = some k :=
  fun _ hk => Proofs.ListFacts.find?_key_of_nodup h.nodup hk

theorem resolveBinds_keys (ti : TypeInfo) (tys : Members) (f : Ref → RExp) (bs : List Bind) :
    (resolveBinds ti tys f bs).map (·.1) = bs.map (·.name) := by
  simp [resolveBinds]

theorem substRefs_mapRefs (f : Ref → RExp) (g : Ref → Ref) (e : Exp) :
    substRefs f (mapRefs g e) = substRefs (fun r => f (g r)) e := by
  induction e with
  | lit | ref | nil => rfl
  | split e ih | arr e ih | map _ e ih => simp [mapRefs, substRefs, ih]
  | cons k h t ih1 ih2 => simp [mapRefs, substRefs, ih1, ih2]

theorem substRefs_congr (f f' : Ref → RExp) (e : Exp) (h : ∀ r ∈ refs e, f r = f' r) :
    substRefs f e = substRefs f' e := by
  induction e with
  | lit | nil => rfl
  | ref r => exact h r (by simp [refs])
  | split e ih | arr e ih | map _ e ih =>
    simp only [substRefs]; rw [ih (fun r hr => h r (by simpa [refs] using hr))]
  | cons k hd t ih1 ih2 =>
    simp only [substRefs]
    rw [ih1 (fun r hr => h r (by simp [refs, hr])), ih2 (fun r hr => h r (by simp [refs, hr]))]

theorem resolveBinds_congr (ti : TypeInfo) (tys : Members) (f f' : Ref → RExp) (bs : List Bind)
    (h : ∀ b ∈ bs, ∀ r ∈ refs b.exp, f r = f' r) :
    resolveBinds ti tys f bs = resolveBinds ti tys f' bs := by
  unfold resolveBinds
  apply List.map_congr_left
  intro b hb
  rw [substRefs_congr f f' b.exp (h b hb)]

theorem resolveBinds_mapRefs (ti : TypeInfo) (tys : Members) (f : Ref → RExp) (g : Ref → Ref)
    (bs : List Bind) :
    resolveBinds ti tys f (bs.map (Bind.mapRefs g)) = resolveBinds ti tys (fun r => f (g r)) bs := by
  unfold resolveBinds
  rw [List.map_map]
  apply List.map_congr_left
  intro b _
  simp [Bind.mapRefs, substRefs_mapRefs]

theorem resolveBinds_ti (ti ti' : TypeInfo) (hmo : membersOf ti' = membersOf ti) (tys : Members)
    (f : Ref → RExp) (bs : List Bind) :
    resolveBinds ti' tys f bs = resolveBinds ti tys f bs := by
  unfold resolveBinds
  rw [hmo]

theorem lookup_onKey_ne {α : Type} (x n : String) (g : α → α) (l : List (String × α)) (h : n ≠ x) :
    (onKey x g l).lookup n = l.lookup n := by
  induction l with
  | nil => rfl
  | cons e t ih =>
    obtain ⟨k, v⟩ := e
    simp only [onKey]
    split
    · rename_i hk
      subst hk
      have : (n == k) = false := by simpa using h
      simp [List.lookup_cons, this]
    · cases hnk : (n == k) <;> simp [List.lookup_cons, hnk, ih]

theorem lookup_onKey_self {α : Type} (x : String) (g : α → α) (l : List (String × α)) :
    (onKey x g l).lookup x = (l.lookup x).map g := by
  induction l with
  | nil => rfl
  | cons e t ih =>
    obtain ⟨k, v⟩ := e
    simp only [onKey]
    split
    · rename_i hk
      subst hk
      simp
    · rename_i hk
      have : (x == k) = false := by simpa using (fun h => hk (h.symm))
      simp [List.lookup_cons, this, ih]

theorem getD_lookup_onKey (x n : String) (g : Members → Members) (hg : g [] = []) (l : List (String × Members)) :
    ((onKey x g l).lookup n).getD [] = if n = x then g ((l.lookup x).getD []) else (l.lookup n).getD [] := by
  split
  · rename_i h
    rw [h, lookup_onKey_self]
    cases l.lookup x
    · exact hg.symm
    · rfl
  · rename_i h
    rw [lookup_onKey_ne x n g l h]

theorem membersOf_onKey_outs (ti : TypeInfo) (x : String) (g : Members → Members) (base : String) (hb : base ≠ x) :
    membersOf { ti with outs := onKey x g ti.outs } base = membersOf ti base := by
  simp only [membersOf]
  rw [lookup_onKey_ne x base g ti.outs hb]

/-! ### renaming a key

`renKeyM` (member lists) and `renKeyEnv` (resolved environments) are `renTop` at two value types. -/

theorem lookup_renTop_other {α : Type} (x y n : String) (l : List (String × α)) (hx : n ≠ x) (hy : n ≠ y) :
    (renTop x y l).lookup n = l.lookup n := by
  induction l with
  | nil => rfl
  | cons e t ih =>
    obtain ⟨k, v⟩ := e
    simp only [renTop]
    split
    · rename_i hk
      subst hk
      have h1 : (n == k) = false := by simpa using hx
      have h2 : (n == y) = false := by simpa using hy
      simp [List.lookup_cons, h1, h2]
    · cases hnk : (n == k) <;> simp [List.lookup_cons, hnk, ih]

theorem lookup_renTop_new {α : Type} (x y : String) (l : List (String × α)) (hy : y ∉ l.map (·.1)) :
    (renTop x y l).lookup y = l.lookup x := by
  induction l with
  | nil => rfl
  | cons e t ih =>
    obtain ⟨k, v⟩ := e
    simp only [List.map_cons, List.mem_cons, not_or] at hy
    simp only [renTop]
    split
    · rename_i hk
      subst hk
      simp
    · rename_i hk
      have h1 : (y == k) = false := by simpa using hy.1
      have h2 : (x == k) = false := by simpa using (fun h => hk h.symm)
      simp [List.lookup_cons, h1, h2, ih hy.2]

theorem renTop_roundtrip {α : Type} (x y : String) (l : List (String × α)) (hy : y ∉ l.map (·.1)) :
    renTop y x (renTop x y l) = l := by
  induction l with
  | nil => rfl
  | cons e t ih =>
    obtain ⟨k, v⟩ := e
    simp only [List.map_cons, List.mem_cons, not_or] at hy
    simp only [renTop]
    split
    · rename_i hk
      simp [renTop, hk]
    · rename_i hk
      have : ¬ k = y := fun e => hy.1 e.symm
      simp [renTop, this, ih hy.2]

theorem renKeyM_eq_renTop (a b : String) (l : Members) : renKeyM a b l = renTop a b l := by
  induction l with
  | nil => rfl
  | cons e t ih => simp only [renKeyM, renTop, ih]

theorem renKeyEnv_eq_renTop (a b : String) (env : Env) : renKeyEnv a b env = renTop a b env := by
  induction env with
  | nil => rfl
  | cons e t ih => simp only [renKeyEnv, renTop, ih]

theorem lookup_renKeyM_new (a b : String) (l : Members) (hb : b ∉ l.map (·.1)) :
    (renKeyM a b l).lookup b = l.lookup a := by
  rw [renKeyM_eq_renTop, lookup_renTop_new a b l hb]

theorem lookup_renKeyM_other (a b n : String) (l : Members) (hna : n ≠ a) (hnb : n ≠ b) :
    (renKeyM a b l).lookup n = l.lookup n := by
  rw [renKeyM_eq_renTop, lookup_renTop_other a b n l hna hnb]

theorem envGet_renKey_new (a b : String) (env : Env) (hb : b ∉ env.map (·.1)) :
    envGet (renKeyEnv a b env) b = envGet env a := by
  rw [envGet, renKeyEnv_eq_renTop, lookup_renTop_new a b env hb, envGet]

theorem envGet_renKey_other (a b n : String) (env : Env) (hna : n ≠ a) (hnb : n ≠ b) :
    envGet (renKeyEnv a b env) n = envGet env n := by
  rw [envGet, renKeyEnv_eq_renTop, lookup_renTop_other a b n env hna hnb, envGet]

theorem resolveBinds_tys_other (ti : TypeInfo) (a b : String) (tys : Members) (f : Ref → RExp)
    (bs : List Bind) (h : ∀ bd ∈ bs, bd.name ≠ a ∧ bd.name ≠ b) :
    resolveBinds ti (renKeyM a b tys) f bs = resolveBinds ti tys f bs := by
  unfold resolveBinds
  apply List.map_congr_left
  intro bd hbd
  rw [lookup_renKeyM_other a b bd.name tys (h bd hbd).1 (h bd hbd).2]

theorem resolveBinds_renameFirst (ti : TypeInfo) (a b : String) (tys : Members) (f : Ref → RExp)
    (bs : List Bind) (htys : b ∉ tys.map (·.1)) (hbs : b ∉ bs.map (·.name))
    (hnd : (bs.map (·.name)).Nodup) :
    resolveBinds ti (renKeyM a b tys) f (renameFirstBind a b bs)
      = renKeyEnv a b (resolveBinds ti tys f bs) := by
  induction bs with
  | nil => rfl
  | cons bd t ih =>
    simp only [List.map_cons, List.mem_cons, not_or] at hbs
    simp only [List.map_cons, List.nodup_cons] at hnd
    simp only [renameFirstBind]
    split
    · rename_i hk
      -- the head is the binding named `a`: the tail has neither `a` nor `b`
      have htail : ∀ bd' ∈ t, bd'.name ≠ a ∧ bd'.name ≠ b := by
        intro bd' hbd'
        refine ⟨fun h => hnd.1 (by rw [hk]; exact List.mem_map.mpr ⟨bd', hbd', h⟩),
                fun h => hbs.2 (List.mem_map.mpr ⟨bd', hbd', h⟩)⟩
      have := resolveBinds_tys_other ti a b tys f t htail
      simp only [resolveBinds, List.map_cons] at this ⊢
      rw [this]
      simp [renKeyEnv, hk, lookup_renKeyM_new a b tys htys]
    · rename_i hk
      have hnb : bd.name ≠ b := fun h => hbs.1 h.symm
      have := ih hbs.2 hnd.2
      simp only [resolveBinds, List.map_cons] at this ⊢
      rw [this]
      simp [renKeyEnv, hk, lookup_renKeyM_other a b bd.name tys hk hnb]


section MapSref
variable (g : String → List String → String × List String)

theorem mapSref_rnull : mapSref g rnull = rnull := rfl

theorem substRefs_post (f : Ref → RExp) (e : Exp) :
    mapSref g (substRefs f e) = substRefs (fun r => mapSref g (f r)) e := by
  induction e with
  | lit | ref | nil => rfl
  | split e ih | arr e ih | map _ e ih => simp [substRefs, mapSref, ih]
  | cons k h t ih1 ih2 => simp [substRefs, mapSref, ih1, ih2]

theorem envEntries_mapVals (env : Env) :
    mapSref g (envEntries env) = envEntries (mapVals (mapSref g) env) := by
  induction env with
  | nil => rfl
  | cons e t ih =>
    obtain ⟨k, v⟩ := e
    simp only [envEntries, mapSref, mapVals, List.map_cons] at ih ⊢
    rw [ih]

theorem envGet_mapVals (f : RExp → RExp) (hf : f rnull = rnull) (env : Env) (k : String) :
    envGet (mapVals f env) k = f (envGet env k) := by
  unfold envGet mapVals
  induction env with
  | nil => simp [hf]
  | cons e t ih =>
    obtain ⟨k', v⟩ := e
    simp only [List.map_cons, List.lookup_cons]
    cases h : (k == k') <;> simp [ih]

/-- `g` commutes with projection: on a longer path it does what it does on the prefix and leaves
the rest of the path as it is -/
def PathStable : Prop := ∀ c p q, g c (p ++ q) = ((g c p).1, (g c p).2 ++ q)

theorem bindingPath_mapSref_on (v : RExp)
    (hg : ∀ fq c p, RExp.sref fq c p ∈ rrefs v → ∀ q, g c (p ++ q) = ((g c p).1, (g c p).2 ++ q)) :
    (∀ path, bindingPath path (mapSref g v) = mapSref g (bindingPath path v))
    ∧ (∀ path, bindingPathElems path (mapSref g v) = mapSref g (bindingPathElems path v))
    ∧ (∀ h t, projectMember h t (mapSref g v) = mapSref g (projectMember h t v)) := by
  induction v with
  | lit | split | nil => simp [mapSref, bindingPath, bindingPathElems, projectMember, rnull]
  | sref fq c p =>
    refine ⟨?_, ?_, ?_⟩
    · intro path
      simp only [mapSref, bindingPath]
      rw [hg fq c p (by simp [rrefs]) path]
    · intro path; simp [mapSref, bindingPathElems]
    · intro h t; simp [mapSref, projectMember, rnull]
  | arr es ih =>
    have ih := ih hg
    refine ⟨?_, ?_, ?_⟩
    · intro path; simp [mapSref, bindingPath, ih.2.1]
    · intro path; simp [mapSref, bindingPathElems]
    · intro h t; simp [mapSref, projectMember, rnull]
  | map st es ih =>
    have ih := ih hg
    refine ⟨?_, ?_, ?_⟩
    · intro path
      cases st with
      | false => simp [mapSref, bindingPath, ih.2.1]
      | true =>
        cases path with
        | nil => simp [mapSref, bindingPath]
        | cons h t => simp [mapSref, bindingPath, ih.2.2]
    · intro path; simp [mapSref, bindingPathElems]
    · intro h t; simp [mapSref, projectMember, rnull]
  | cons k hd tl ih1 ih2 =>
    have ih1 := ih1 fun fq c p h => hg fq c p (List.mem_append_left _ h)
    have ih2 := ih2 fun fq c p h => hg fq c p (List.mem_append_right _ h)
    refine ⟨?_, ?_, ?_⟩
    · intro path; simp [mapSref, bindingPath]
    · intro path; simp [mapSref, bindingPathElems, ih1.1, ih2.2.1]
    · intro h t
      simp only [mapSref, projectMember]
      split
      · exact ih1.1 t
      · exact ih2.2.2 h t

theorem bindingPath_mapSref_all (hg : PathStable g) (v : RExp) :
    (∀ path, bindingPath path (mapSref g v) = mapSref g (bindingPath path v))
    ∧ (∀ path, bindingPathElems path (mapSref g v) = mapSref g (bindingPathElems path v))
    ∧ (∀ h t, projectMember h t (mapSref g v) = mapSref g (projectMember h t v)) :=
  bindingPath_mapSref_on g v fun _ c p _ q => hg c p q

theorem filter_mapSref_all (mo : String → Option Members) (v : RExp) :
    (∀ ty, filterExp mo ty (mapSref g v) = mapSref g (filterExp mo ty v))
    ∧ (∀ ty, filterElems mo ty (mapSref g v) = mapSref g (filterElems mo ty v))
    ∧ (∀ ms, filterMembers mo ms (mapSref g v) = mapSref g (filterMembers mo ms v)) := by
  induction v with
  | lit | sref | split | nil => simp [mapSref, filterExp, filterElems, filterMembers]
  | arr es ih =>
    refine ⟨?_, ?_, ?_⟩
    · intro ty
      simp only [mapSref, filterExp]
      split
      · rfl
      · split
        · rfl
        · simp [mapSref, ih.2.1]
    · intro ty; simp [mapSref, filterElems]
    · intro ms; simp [mapSref, filterMembers]
  | map st es ih =>
    refine ⟨?_, ?_, ?_⟩
    · intro ty
      simp only [mapSref, filterExp]
      split
      · rfl
      · split
        · simp [mapSref, ih.2.2]
        · split
          · simp [mapSref, ih.2.1]
          · rfl
    · intro ty; simp [mapSref, filterElems]
    · intro ms; simp [mapSref, filterMembers]
  | cons k hd tl ih1 ih2 =>
    refine ⟨?_, ?_, ?_⟩
    · intro ty; simp [mapSref, filterExp]
    · intro ty; simp [mapSref, filterElems, ih1.1, ih2.2.1]
    · intro ms
      simp only [mapSref, filterMembers]
      split
      · simp [mapSref, ih1.1, ih2.2.2]
      · exact ih2.2.2 ms

theorem resolveBinds_post (ti : TypeInfo) (tys : Members) (f : Ref → RExp) (bs : List Bind) :
    resolveBinds ti tys (fun r => mapSref g (f r)) bs
      = mapVals (mapSref g) (resolveBinds ti tys f bs) := by
  unfold resolveBinds mapVals
  rw [List.map_map]
  apply List.map_congr_left
  intro bd _
  simp only [Function.comp]
  rw [← substRefs_post]
  split
  · rw [(filter_mapSref_all g _ _).1]
  · rfl

theorem lookupRef_post (hg : PathStable g) (self : Env) (sib : String → RExp) (r : Ref) :
    lookupRef (mapVals (mapSref g) self) (fun id => mapSref g (sib id)) r
      = mapSref g (lookupRef self sib r) := by
  unfold lookupRef
  cases r.kind with
  | self =>
    simp only
    rw [envGet_mapVals _ (mapSref_rnull g), (bindingPath_mapSref_all g hg _).1]
  | call =>
    simp only
    rw [(bindingPath_mapSref_all g hg _).1]

theorem mapSref_struct (env : Env) :
    mapSref g (.map true (envEntries env)) = .map true (envEntries (mapVals (mapSref g) env)) := by
  simp only [mapSref]
  rw [envEntries_mapVals]

theorem rrefs_mapSref (v : RExp) : rrefs (mapSref g v) = (rrefs v).map (mapSref g) := by
  induction v with
  | lit | sref | nil => rfl
  | split e ih | arr e ih | map _ e ih => simpa [rrefs, mapSref] using ih
  | cons k h t ih1 ih2 => simp [rrefs, mapSref, ih1, ih2]

theorem pipeRetained_post (hg : PathStable g) (d : Callable) (ins : Env) (sib : String → RExp) :
    pipeRetained d (mapVals (mapSref g) ins) (fun id => mapSref g (sib id))
      = (pipeRetained d ins sib).map (mapSref g) := by
  unfold pipeRetained
  rw [List.map_flatMap]
  apply flatMap_congr'
  intro r _
  rw [lookupRef_post g hg, rrefs_mapSref]

end MapSref

theorem filter_congr_all (mo mo' : String → Option Members) (ok : String → Prop)
    (hmo : ∀ base, ok base → mo' base = mo base)
    (hclosed : ∀ base ms, ok base → mo base = some ms → ∀ m ∈ ms, ok m.2.base) (v : RExp) :
    (∀ ty, ok ty.base → filterExp mo' ty v = filterExp mo ty v)
    ∧ (∀ ty, ok ty.base → filterElems mo' ty v = filterElems mo ty v)
    ∧ (∀ ms, (∀ m ∈ ms, ok m.2.base) → filterMembers mo' ms v = filterMembers mo ms v) := by
  induction v with
  | lit | sref | split | nil => simp [filterExp, filterElems, filterMembers]
  | arr es ih =>
    refine ⟨?_, ?_, ?_⟩
    · intro ty hty
      simp only [filterExp, hmo _ hty]
      split
      · rfl
      · split
        · rfl
        · rw [ih.2.1 { base := ty.base, arrayDim := ty.arrayDim - 1, mapDim := ty.mapDim } hty]
    · intro ty _; simp [filterElems]
    · intro ms _; simp [filterMembers]
  | map st es ih =>
    refine ⟨?_, ?_, ?_⟩
    · intro ty hty
      simp only [filterExp, hmo _ hty]
      split
      · rfl
      · rename_i ms hms
        split
        · rw [ih.2.2 ms (hclosed _ ms hty hms)]
        · split
          · rw [ih.2.1 ⟨ty.base, ty.mapDim - 1, 0⟩ hty]
          · rfl
    · intro ty _; simp [filterElems]
    · intro ms _; simp [filterMembers]
  | cons k hd tl ih1 ih2 =>
    refine ⟨?_, ?_, ?_⟩
    · intro ty _; simp [filterExp]
    · intro ty hty; simp [filterElems, ih1.1 ty hty, ih2.2.1 ty hty]
    · intro ms hms
      simp only [filterMembers]
      split
      · rename_i mty hl
        have : ok mty.base := by
          exact hms _ (Proofs.ListFacts.mem_of_lookup hl)
        rw [ih1.1 mty this, ih2.2.2 ms hms]
      · exact ih2.2.2 ms hms

theorem membersOf_mem (ti : TypeInfo) (base : String) (ms : Members) (h : membersOf ti base = some ms) :
    (base, ms) ∈ ti.structs ∨ (base, ms) ∈ ti.outs := by
  unfold membersOf at h
  cases hs : ti.structs.lookup base with
  | some ms' =>
    simp only [hs] at h
    cases h
    exact Or.inl (Proofs.ListFacts.mem_of_lookup hs)
  | none =>
    simp only [hs] at h
    exact Or.inr (Proofs.ListFacts.mem_of_lookup h)

/-- the base of every member type declared anywhere in the table satisfies `ok` -/
structure TypesOK (ok : String → Prop) (ti : TypeInfo) : Prop where
  structs : ∀ s ∈ ti.structs, ∀ m ∈ s.2, ok m.2.base
  ins : ∀ s ∈ ti.ins, ∀ m ∈ s.2, ok m.2.base
  outs : ∀ s ∈ ti.outs, ∀ m ∈ s.2, ok m.2.base

theorem typesAvoid_parts {x : String} {ti : TypeInfo} (h : typesAvoid x ti = true) :
    x ∉ ti.structs.map (·.1) ∧ TypesOK (· ≠ x) ti := by
  simp only [typesAvoid, Bool.and_eq_true, Bool.not_eq_true', List.contains_eq_mem,
    decide_eq_false_iff_not, List.all_eq_true, bne_iff_ne, ne_eq] at h
  exact ⟨h.1.1.1, h.1.1.2, h.1.2, h.2⟩

theorem TypesOK.and {ok ok' : String → Prop} {ti : TypeInfo} (h : TypesOK ok ti) (h' : TypesOK ok' ti) :
    TypesOK (fun b => ok b ∧ ok' b) ti :=
  ⟨fun s hs m hm => ⟨h.structs s hs m hm, h'.structs s hs m hm⟩,
   fun s hs m hm => ⟨h.ins s hs m hm, h'.ins s hs m hm⟩,
   fun s hs m hm => ⟨h.outs s hs m hm, h'.outs s hs m hm⟩⟩

section TypesOK
variable {ok : String → Prop} {ti : TypeInfo} (h : TypesOK ok ti)
include h

theorem TypesOK.membersOf (base : String) (ms : Members) (hm : membersOf ti base = some ms) :
    ∀ m ∈ ms, ok m.2.base :=
  (membersOf_mem ti base ms hm).elim (h.structs _) (h.outs _)

theorem TypesOK.insOf (n : String) : ∀ m ∈ insOf ti n, ok m.2.base := by
  intro m hm
  unfold Martian.Refactor.insOf at hm
  cases hl : ti.ins.lookup n with
  | none => simp [hl] at hm
  | some ms => exact h.ins _ (Proofs.ListFacts.mem_of_lookup hl) m (by simpa [hl] using hm)

theorem TypesOK.outsOf (n : String) : ∀ m ∈ outsOf ti n, ok m.2.base := by
  intro m hm
  unfold Martian.Refactor.outsOf at hm
  cases hl : ti.outs.lookup n with
  | none => simp [hl] at hm
  | some ms => exact h.outs _ (Proofs.ListFacts.mem_of_lookup hl) m (by simpa [hl] using hm)

theorem resolveBinds_ti_ok (ti' : TypeInfo) (hmo : ∀ base, ok base → membersOf ti' base = membersOf ti base)
    (tys : Members) (htys : ∀ m ∈ tys, ok m.2.base) (f : Ref → RExp) (bs : List Bind) :
    resolveBinds ti' tys f bs = resolveBinds ti tys f bs := by
  unfold resolveBinds
  apply List.map_congr_left
  intro bd _
  cases hl : tys.lookup bd.name with
  | none => rfl
  | some ty =>
    simp only
    rw [(filter_congr_all (Martian.Refactor.membersOf ti) (Martian.Refactor.membersOf ti') ok hmo
      (fun base ms _ hm => h.membersOf base ms hm) _).1 ty (htys _ (Proofs.ListFacts.mem_of_lookup hl))]

theorem resolveBinds_post_ok (g : String → List String → String × List String) (ti' : TypeInfo)
    (hmo : ∀ base, ok base → membersOf ti' base = membersOf ti base)
    (tys : Members) (htys : ∀ m ∈ tys, ok m.2.base) (f f' : Ref → RExp) (bs : List Bind)
    (hf : ∀ bd ∈ bs, ∀ r ∈ refs bd.exp, f' r = mapSref g (f r)) :
    resolveBinds ti' tys f' bs = mapVals (mapSref g) (resolveBinds ti tys f bs) := by
  rw [resolveBinds_congr _ _ f' (fun r => mapSref g (f r)) bs hf, resolveBinds_ti_ok h ti' hmo tys htys,
    resolveBinds_post]

end TypesOK

theorem mem_renKeyM (a b : String) (l : Members) (m : String × Ty) (hm : m ∈ renKeyM a b l) :
    ∃ m' ∈ l, m.2 = m'.2 := by
  induction l with
  | nil => cases hm
  | cons e t ih =>
    obtain ⟨k, v⟩ := e
    simp only [renKeyM] at hm
    split at hm
    · cases hm with
      | head => exact ⟨(k, v), List.mem_cons_self .., rfl⟩
      | tail _ h => exact ⟨m, List.mem_cons_of_mem _ h, rfl⟩
    · cases hm with
      | head => exact ⟨(k, v), List.mem_cons_self .., rfl⟩
      | tail _ h =>
        obtain ⟨m', hm', e⟩ := ih h
        exact ⟨m', List.mem_cons_of_mem _ hm', e⟩

/-! ### dropping a key

`dropKeyM` (member lists) and `dropKeyEnv` (resolved environments) erase the first entry with the key. -/

theorem lookup_eraseP_other {α : Type} (q n : String) (l : List (String × α)) (h : n ≠ q) :
    (l.eraseP (·.1 == q)).lookup n = l.lookup n := by
  induction l with
  | nil => rfl
  | cons e t ih =>
    obtain ⟨k, v⟩ := e
    rw [List.eraseP_cons]
    by_cases hk : k = q
    · subst hk
      simp [List.lookup_cons, beq_false_of_ne h]
    · cases hnk : (n == k) <;> simp [beq_false_of_ne hk, List.lookup_cons, hnk, ih]

theorem dropKeyM_eq (q : String) (l : Members) : dropKeyM q l = l.eraseP (·.1 == q) := by
  induction l with
  | nil => rfl
  | cons e t ih => simp [dropKeyM, List.eraseP_cons, ih]

theorem dropKeyEnv_eq (q : String) (env : Env) : dropKeyEnv q env = env.eraseP (·.1 == q) := by
  induction env with
  | nil => rfl
  | cons e t ih => simp [dropKeyEnv, List.eraseP_cons, ih]

theorem mem_dropKeyM (q : String) (l : Members) (m : String × Ty) (hm : m ∈ dropKeyM q l) : m ∈ l :=
  List.mem_of_mem_eraseP (dropKeyM_eq q l ▸ hm)

theorem lookup_dropKeyM_other (q n : String) (l : Members) (h : n ≠ q) :
    (dropKeyM q l).lookup n = l.lookup n := by
  rw [dropKeyM_eq, lookup_eraseP_other q n l h]

theorem envGet_dropKey_other (q n : String) (env : Env) (h : n ≠ q) :
    envGet (dropKeyEnv q env) n = envGet env n := by
  rw [envGet, dropKeyEnv_eq, lookup_eraseP_other q n env h, envGet]

theorem resolveBinds_removeFirst (q : String) (ti : TypeInfo) (tys : Members) (f : Ref → RExp) (bs : List Bind)
    (hnd : (bs.map (·.name)).Nodup) :
    resolveBinds ti (dropKeyM q tys) f (removeFirstBind q bs) = dropKeyEnv q (resolveBinds ti tys f bs) := by
  induction bs with
  | nil => rfl
  | cons bd t ih =>
    simp only [List.map_cons, List.nodup_cons] at hnd
    simp only [removeFirstBind]
    split
    · rename_i hk
      have htail : ∀ bd' ∈ t, bd'.name ≠ q := fun bd' hbd' h =>
        hnd.1 (hk ▸ List.mem_map.mpr ⟨bd', hbd', h⟩)
      simp only [resolveBinds, List.map_cons, dropKeyEnv, hk, if_true]
      apply List.map_congr_left
      intro bd' hbd'
      rw [lookup_dropKeyM_other q bd'.name tys (htail bd' hbd')]
    · rename_i hk
      have := ih hnd.2
      simp only [resolveBinds, List.map_cons] at this ⊢
      rw [this]
      simp [dropKeyEnv, hk, lookup_dropKeyM_other q bd.name tys hk]

theorem removeFirstBind_eq (q : String) (bs : List Bind) : removeFirstBind q bs = bs.eraseP (·.name == q) := by
  induction bs with
  | nil => rfl
  | cons b bs ih => simp [removeFirstBind, List.eraseP_cons, ih]

theorem removeFirstBind_sublist (q : String) (bs : List Bind) : (removeFirstBind q bs).Sublist bs :=
  removeFirstBind_eq q bs ▸ List.eraseP_sublist

theorem mem_removeFirstBind (q : String) (bs : List Bind) (bd : Bind) (h : bd ∈ removeFirstBind q bs) : bd ∈ bs :=
  (removeFirstBind_sublist q bs).subset h

theorem noStar_removeFirst (q : String) (bs : List Bind) (h : noStar bs = true) : noStar (removeFirstBind q bs) = true := by
  simp only [noStar, List.all_eq_true] at h ⊢
  exact fun bd hbd => h bd (mem_removeFirstBind q bs bd hbd)

theorem noStar_renameFirst (a b : String) (hstar : b ≠ "*") (l : List Bind) (h : noStar l = true) :
    noStar (renameFirstBind a b l) = true := by
  induction l with
  | nil => rfl
  | cons e t ih =>
    simp only [noStar, List.all_cons, Bool.and_eq_true, bne_iff_ne, ne_eq] at h
    simp only [renameFirstBind]
    split
    · simp only [noStar, List.all_cons, Bool.and_eq_true, bne_iff_ne, ne_eq]
      exact ⟨hstar, h.2⟩
    · simp only [noStar, List.all_cons, Bool.and_eq_true, bne_iff_ne, ne_eq]
      exact ⟨h.1, ih h.2⟩

theorem noStar_mapRefs (f : Ref → Ref) (bs : List Bind) (h : noStar bs = true) :
    noStar (bs.map (Bind.mapRefs f)) = true := by
  simpa [noStar, Bind.mapRefs] using h

theorem mem_graphRefs_iff (c : Callable) (r : Ref) :
    r ∈ graphRefs c ↔ (∃ k ∈ c.calls, ∃ bd ∈ k.binds, r ∈ refs bd.exp) ∨ (∃ bd ∈ c.ret, r ∈ refs bd.exp)
      ∨ r ∈ c.retain := by
  simp only [graphRefs, List.mem_append, List.mem_flatMap, or_assoc]

theorem mem_graphRefs_bind (c : Callable) (k : Call) (hk : k ∈ c.calls) (bd : Bind) (hbd : bd ∈ k.binds)
    (r : Ref) (hr : r ∈ refs bd.exp) : r ∈ graphRefs c :=
  (mem_graphRefs_iff c r).mpr (Or.inl ⟨k, hk, bd, hbd, hr⟩)

theorem mem_graphRefs_ret (c : Callable) (bd : Bind) (hbd : bd ∈ c.ret)
    (r : Ref) (hr : r ∈ refs bd.exp) : r ∈ graphRefs c :=
  (mem_graphRefs_iff c r).mpr (Or.inr (Or.inl ⟨bd, hbd, hr⟩))

theorem mem_graphRefs_retain (c : Callable) (r : Ref) (hr : r ∈ c.retain) : r ∈ graphRefs c :=
  (mem_graphRefs_iff c r).mpr (Or.inr (Or.inr hr))

theorem find_of_mem_ids (c : Callable) (K : String) (h : K ∈ callIds c) :
    ∃ k', c.calls.find? (·.id == K) = some k' := by
  obtain ⟨k, hk, hid⟩ := List.mem_map.mp h
  exact Option.isSome_iff_exists.mp (List.find?_isSome.mpr ⟨k, hk, beq_iff_eq.mpr hid⟩)

theorem mem_callIdsOf (x : String) (c : Callable) (hnd : (callIds c).Nodup) (K : String) (k' : Call)
    (hk : c.calls.find? (·.id == K) = some k') : K ∈ callIdsOf x c ↔ k'.decId = x := by
  have hkm := call_mem c K k' hk
  unfold callIdsOf
  constructor
  · intro h
    obtain ⟨k'', hk'', hid⟩ := List.mem_map.mp h
    have hk''m := (List.mem_filter.mp hk'').1
    have := Proofs.ListFacts.find?_key_of_nodup hnd hk''m
    rw [hid, hk] at this
    cases this
    simpa using (List.mem_filter.mp hk'').2
  · intro h
    exact List.mem_map.mpr ⟨k', List.mem_filter.mpr ⟨hkm.1, by simpa using h⟩, hkm.2⟩

/-- A reference of `pipe` to a call id that occurs: the call, its callee, how the edit's output map
acts on the call's outputs, and when the call is one of callable `x`. -/
theorem callee_of_ref (p : Program) (O : String → Bool → RExp → RExp) (pipe : Callable) (sib : String → RExp)
    (hnd : (callIds pipe).Nodup) (hsome : ∀ k ∈ pipe.calls, (p.find? k.decId).isSome = true)
    (x K : String) (hid : K ∈ callIds pipe) :
    ∃ k' d', pipe.calls.find? (·.id == K) = some k' ∧ p.find? k'.decId = some d'
      ∧ Osib p O pipe sib K = O d'.name d'.isPipe (sib K) ∧ (K ∈ callIdsOf x pipe ↔ d'.name = x) := by
  obtain ⟨k', hk'⟩ := find_of_mem_ids pipe K hid
  obtain ⟨d', hd'⟩ := Option.isSome_iff_exists.mp (hsome k' (call_mem pipe K k' hk').1)
  refine ⟨k', d', hk', hd', by simp [Osib, calleeOf, hk', hd'], ?_⟩
  rw [find_name p _ d' hd']
  exact mem_callIdsOf x pipe hnd K k' hk'

theorem projectMember_envEntries (h : String) (t : List String) (env : Env) :
    projectMember h t (envEntries env) = bindingPath t (envGet env h) := by
  induction env with
  | nil => rfl
  | cons e tl ih =>
    obtain ⟨k, v⟩ := e
    simp only [envEntries, projectMember, envGet, List.lookup_cons]
    by_cases hk : k = h
    · subst hk; simp
    · have : (h == k) = false := by simpa using fun e => hk e.symm
      simpa [hk, this, envGet] using ih

theorem typeInfo_rename_roundtrip (x y : String) (ti : TypeInfo)
    (hi : y ∉ ti.ins.map (·.1)) (ho : y ∉ ti.outs.map (·.1)) :
    (ti.renameCallable x y).renameCallable y x = ti := by
  cases ti with
  | mk structs ins outs =>
    simp only [TypeInfo.renameCallable]
    rw [renTop_roundtrip x y ins hi, renTop_roundtrip x y outs ho]

end Proofs.RefactorGraph
