/-
C01 — the ORDER of the stage instances below nested map calls: den (and the model's `instsT`)
enumerate them with the OUTERMOST call slowest; `ForkIdSet.MakeForkIds` (C11's model
`Martian.ForkName.makeForkIds`: the cartesian product with the FIRST source fastest) enumerates the
forks of a node, whose fork roots are listed outermost first, with the outermost call FASTEST.  The
two orders are the same list up to reversing the root list and every fork id.
-/
import Martian.ResolverStaticTree
import Martian.ForkNameSet

namespace Proofs.ResolverStatic
open Martian.Dataflow Martian.ResolverForks Martian.ResolverStatic

/-- C11's model of `MakeForkIds` is `prodFF` of the sources' parts -/
theorem makeForkIds_eq_prodFF (srcs : List Martian.ForkName.Src) :
    Martian.ForkName.makeForkIds srcs = prodFF (srcs.map Martian.ForkName.srcParts) := by
  induction srcs with
  | nil => rfl
  | cons s rest ih => simp [Martian.ForkName.makeForkIds, prodFF, ih]

theorem prodFF_snoc {α : Type} (xs : List α) : ∀ (A : List (List α)),
    prodFF (A ++ [xs]) = xs.flatMap fun x => (prodFF A).map (· ++ [x])
  | [] => by
    simp only [List.nil_append, prodFF, List.flatMap_cons, List.flatMap_nil, List.append_nil, List.map_cons,
      List.map_nil]
    exact List.map_eq_flatMap
  | ys :: A => by
    simp only [List.cons_append, prodFF, prodFF_snoc xs A, List.flatMap_assoc, List.map_flatMap, List.flatMap_map]
    simp [List.map_map, Function.comp_def, List.flatMap_map]

/-- den's order is the `MakeForkIds` order of the reversed root list, every fork id reversed -/
theorem prodFS_eq_prodFF_reverse {α : Type} : ∀ (L : List (List α)),
    prodFS L = (prodFF L.reverse).map List.reverse
  | [] => rfl
  | xs :: rest => by
    simp only [prodFS, List.reverse_cons, prodFF_snoc, List.map_flatMap, List.map_map]
    congr 1
    funext x
    rw [prodFS_eq_prodFF_reverse rest, List.map_map]
    apply List.map_congr_left
    intro t _
    simp

theorem denForks_eq_prodFS (dims : List (String × List Idx)) :
    denForks dims = prodFS (dims.map fun d => d.2.map fun ix => (d.1, ix)) := by
  induction dims with
  | nil => rfl
  | cons d rest ih =>
    obtain ⟨c, ixs⟩ := d
    simp [denForks, prodFS, ih, List.flatMap_map]

/-- the model enumerates the instances of a node below nested map calls in den's order -/
theorem instsT_chain_keys (st : StructTable) (F : Nat) (ρ : Store) (n : SNode) :
    ∀ (dims : List (String × List Idx)) (forks : List (String × Idx)) (f : ForkAssign),
      (instsT st F ρ forks f (chainT dims n)).map (·.key) =
        (denForks dims).map fun fk => ⟨n.path, forks ++ fk⟩
  | [], forks, f => by simp [chainT, instsT, denForks]
  | (c, ixs) :: rest, forks, f => by
    simp only [chainT, instsT, instsTList, List.append_nil, denForks, List.map_flatMap, List.map_map]
    congr 1
    funext ix
    rw [instsT_chain_keys st F ρ n rest (forks ++ [(c, ix)]) (fset f c ix)]
    apply List.map_congr_left
    intro fk _
    simp

end Proofs.ResolverStatic
