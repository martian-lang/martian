/-
C01 — the value operations of `den` (Martian.Dataflow / Martian.Resolver).  Projection through arrays and
typed maps (`proj1_arr`, `proj1_obj`, `projPath_arr`, `projPath_obj` under `NoMapFields`, `projPath_append`);
the element-by-element projection of resolve.go is the specification's (`resolvePath_eq`); static projection
of a binding expression denotes the projection of its value (`bp_sound`); `narrow` through its base-level
step (`narrowBase`, `narrow_succ`) is idempotent on tables with distinct member names (`StructsOk`,
`narrow_idem`); lookups in a merged chunk argument record (`lookup_filter_none`, `lookup_filter_keep`); looking a key
up in a history with distinct keys does not depend on its order (`find_perm`); lookups in mapped
association lists (`lookup_map_val`, `lookup_map_key`, `getD_map`).
At the head of the file the algebra of the element-wise maps (`mapArr_*`, `mapObj_comp`, `atBase_comp`).
-/
import Martian.Dataflow
import Martian.Resolver
import Proofs.ListFacts

namespace Proofs.Dataflow
open Martian.Dataflow Martian.Resolver

theorem mapArr_arr (n : Nat) (f : J → J) (xs : List J) :
    mapArr (n+1) f (.arr xs) = .arr (xs.map (mapArr n f)) := by
  simp [mapArr]

theorem mapArr_comp (n : Nat) (f g : J → J) (v : J) :
    mapArr n f (mapArr n g v) = mapArr n (f ∘ g) v := by
  induction n generalizing v with
  | zero => simp [mapArr]
  | succ n ih =>
    cases v with
    | arr xs =>
      simp only [mapArr, List.map_map, J.arr.injEq]
      apply List.map_congr_left
      intro x _
      exact ih x
    | null => simp [mapArr]
    | dnull => simp [mapArr]
    | atom s => simp [mapArr]
    | obj kvs => simp [mapArr]

theorem mapObj_comp (f g : J → J) (v : J) :
    mapObj f (mapObj g v) = mapObj (f ∘ g) v := by
  cases v <;> simp [mapObj, List.map_map, Function.comp_def]

theorem mapArr_congr (n : Nat) (f g : J → J) (h : ∀ v, f v = g v) (v : J) :
    mapArr n f v = mapArr n g v := by
  have : f = g := funext h
  rw [this]

theorem atBase_comp (t : Ty) (f g : J → J) (v : J) :
    atBase t f (atBase t g v) = atBase t (f ∘ g) v := by
  unfold atBase
  rw [mapArr_comp]
  cases t.mapDim with
  | zero => rfl
  | succ k =>
    apply mapArr_congr
    intro v
    simp only [Function.comp_apply]
    rw [mapObj_comp]
    congr 1
    funext x
    exact mapArr_comp k f g x

theorem proj1_arr (b : String) (m n : Nat) (f : String) (xs : List J) :
    proj1 ⟨b, m, n+1⟩ f (.arr xs) = .arr (xs.map (proj1 ⟨b, m, n⟩ f)) := by
  simp [proj1, atBase, mapArr]

theorem projTy1_arr (st : StructTable) (b : String) (m n : Nat) (f : String) :
    projTy1 st ⟨b, m, n+1⟩ f =
      { projTy1 st ⟨b, m, n⟩ f with arrDim := (projTy1 st ⟨b, m, n⟩ f).arrDim + 1 } := by
  unfold projTy1
  cases fieldTy st b f with
  | none => simp
  | some ft =>
    simp only
    by_cases h : m = 0
    · simp [h, Nat.add_assoc]
    · simp [h]

theorem projPath_arr (st : StructTable) (path : List String) :
    ∀ (b : String) (m n : Nat) (xs : List J),
      projPath st ⟨b, m, n+1⟩ path (.arr xs) = .arr (xs.map (projPath st ⟨b, m, n⟩ path)) := by
  induction path with
  | nil => intro b m n xs; simp [projPath]
  | cons f r ih =>
    intro b m n xs
    simp only [projPath]
    rw [proj1_arr, projTy1_arr]
    have := ih (projTy1 st ⟨b, m, n⟩ f).base (projTy1 st ⟨b, m, n⟩ f).mapDim
      (projTy1 st ⟨b, m, n⟩ f).arrDim (xs.map (proj1 ⟨b, m, n⟩ f))
    rw [this, List.map_map]
    rfl

theorem proj1_obj (b : String) (k : Nat) (f : String) (kvs : List (String × J)) :
    proj1 ⟨b, k+1, 0⟩ f (.obj kvs) = .obj (kvs.map fun kv => (kv.1, proj1 ⟨b, 0, k⟩ f kv.2)) := by
  simp [proj1, atBase, mapArr, mapObj]

/-- no field along the path (starting at type `t`) is itself a typed map — the
compiler's "invalid projection through nested maps" rule -/
def NoMapFields (st : StructTable) : Ty → List String → Prop
  | _, [] => True
  | t, f :: r =>
    (∀ ft, fieldTy st t.base f = some ft → ft.mapDim = 0) ∧ NoMapFields st (projTy1 st t f) r

theorem projTy1_map (st : StructTable) (b : String) (k : Nat) (f : String)
    (h : ∀ ft, fieldTy st b f = some ft → ft.mapDim = 0) :
    projTy1 st ⟨b, k+1, 0⟩ f =
        ⟨(projTy1 st ⟨b, 0, k⟩ f).base, (projTy1 st ⟨b, 0, k⟩ f).arrDim + 1, 0⟩ ∧
    projTy1 st ⟨b, 0, k⟩ f =
        ⟨(projTy1 st ⟨b, 0, k⟩ f).base, 0, (projTy1 st ⟨b, 0, k⟩ f).arrDim⟩ := by
  unfold projTy1
  cases hf : fieldTy st b f with
  | none => simp
  | some ft =>
    have := h ft hf
    simp [this]
    omega

theorem projPath_obj (st : StructTable) (path : List String) :
    ∀ (b : String) (k : Nat) (kvs : List (String × J)), NoMapFields st ⟨b, 0, k⟩ path →
      projPath st ⟨b, k+1, 0⟩ path (.obj kvs)
        = .obj (kvs.map fun kv => (kv.1, projPath st ⟨b, 0, k⟩ path kv.2)) := by
  induction path with
  | nil => intro b k kvs _; simp [projPath]
  | cons f r ih =>
    intro b k kvs h
    obtain ⟨h1, h2⟩ := h
    obtain ⟨e1, e2⟩ := projTy1_map st b k f h1
    simp only [projPath]
    rw [proj1_obj, e1]
    rw [e2] at h2
    rw [ih _ _ _ h2, List.map_map]
    congr 1
    apply List.map_congr_left
    intro kv _
    simp only [Function.comp_apply]
    rw [← e2]

/-- the run-time (element by element) formulation agrees with the specification's -/
theorem resolveArr_eq (f : J → J) (n : Nat) (v : J) : resolveArr f n v = mapArr n f v := by
  induction n generalizing v with
  | zero => simp [resolveArr, mapArr]
  | succ n ih =>
    cases v with
    | arr xs =>
      simp only [resolveArr, mapArr, J.arr.injEq]
      apply List.map_congr_left
      intro x _
      exact ih x
    | null => simp [resolveArr, mapArr]
    | dnull => simp [resolveArr, mapArr]
    | atom s => simp [resolveArr, mapArr]
    | obj kvs => simp [resolveArr, mapArr]

theorem resolve1_eq (t : Ty) (f : String) (v : J) : resolve1 t f v = proj1 t f v := by
  unfold resolve1 proj1 atBase
  rw [resolveArr_eq]
  apply mapArr_congr
  intro s
  unfold resolveMapLevel
  cases t.mapDim with
  | zero => rfl
  | succ k =>
    cases s with
    | obj kvs =>
      simp only [mapObj, J.obj.injEq]
      apply List.map_congr_left
      intro kv _
      rw [resolveArr_eq]
    | null => simp [mapObj]
    | dnull => simp [mapObj]
    | atom s => simp [mapObj]
    | arr xs => simp [mapObj]

theorem resolvePath_eq (st : StructTable) (path : List String) :
    ∀ (t : Ty) (v : J), resolvePath st t path v = projPath st t path v := by
  induction path with
  | nil => intro t v; simp [resolvePath, projPath]
  | cons f r ih => intro t v; simp [resolvePath, projPath, resolve1_eq, ih]

theorem projPath_append (st : StructTable) (path : List String) :
    ∀ (t : Ty) (f : String) (v : J),
      projPath st t (path ++ [f]) v = proj1 (pathTy st t path) f (projPath st t path v) := by
  induction path with
  | nil => intro t f v; simp [projPath, pathTy]
  | cons g r ih => intro t f v; simp [projPath, pathTy, ih]

theorem proj1_null (t : Ty) (f : String) : proj1 t f .null = .null := by
  unfold proj1 atBase
  cases t.arrDim <;> cases t.mapDim <;> simp [mapArr, mapObj, J.field]

theorem getD_map {α β : Type} (g : α → β) (xs : List α) (n : Nat) (d : α) :
    (xs.map g).getD n (g d) = g (xs.getD n d) := by
  simp only [List.getD_eq_getElem?_getD, List.getElem?_map]
  cases xs[n]? <;> rfl

theorem lookup_map_val {β γ : Type} (g : String → β → γ) (kvs : List (String × β)) (k : String) :
    (kvs.map fun kv => (kv.1, g kv.1 kv.2)).lookup k = (kvs.lookup k).map (g k) := by
  induction kvs with
  | nil => rfl
  | cons x xs ih =>
    obtain ⟨k', v⟩ := x
    simp only [List.map_cons, List.lookup_cons]
    cases hk : (k == k') with
    | true => rw [show k = k' by simpa using hk]; rfl
    | false => exact ih

theorem lookup_map_key {α β : Type} (key : α → String) (g : α → β) (l : List α) (k : String) :
    (l.map fun x => (key x, g x)).lookup k = (l.find? fun x => key x == k).map g := by
  induction l with
  | nil => rfl
  | cons x xs ih =>
    simp only [List.map_cons, List.lookup_cons, List.find?_cons, ih, @BEq.comm _ _ _ k (key x)]
    cases key x == k <;> rfl

theorem lookup_evalFields (st : StructTable) (env : Env) (f : String) (kvs : List (String × Exp)) :
    (evalFields st env kvs).lookup f = (kvs.lookup f).map (eval st env) := by
  induction kvs with
  | nil => simp [evalFields]
  | cons x xs ih =>
    obtain ⟨k, e⟩ := x
    simp only [evalFields, List.lookup_cons]
    cases (f == k) <;> simp [ih]

mutual
theorem bp_sound (st : StructTable) (env : Env) (f : String) :
    ∀ (e : Exp) (t : Ty), wt st env t e = true →
      eval st env (bindingPath1 f e) = proj1 t f (eval st env e)
  | .lit j, t, h => by
    cases j <;> simp [wt] at h
    simp [bindingPath1, eval, proj1_null]
  | .arr xs, t, h => by
    obtain ⟨b, m, n⟩ := t
    simp only [wt, Bool.and_eq_true, bne_iff_ne, ne_eq] at h
    cases n with
    | zero => exact absurd rfl h.1
    | succ n =>
      simp only [bindingPath1, eval, proj1_arr]
      rw [bpList_sound st env f xs ⟨b, m, n⟩ h.2]
  | .map kvs, t, h => by
    obtain ⟨b, m, n⟩ := t
    simp only [wt, Bool.and_eq_true, bne_iff_ne, ne_eq, beq_iff_eq] at h
    obtain ⟨⟨hn, hm⟩, hk⟩ := h
    subst hn
    cases m with
    | zero => exact absurd rfl hm
    | succ k =>
      simp only [bindingPath1, eval, proj1_obj]
      rw [bpFields_sound st env f kvs ⟨b, 0, k⟩ hk]
  | .struct kvs, t, h => by
    obtain ⟨b, m, n⟩ := t
    simp only [wt, Bool.and_eq_true, beq_iff_eq] at h
    obtain ⟨hn, hm⟩ := h
    subst hn; subst hm
    simp only [bindingPath1, eval, proj1, atBase, mapArr, J.field, lookup_evalFields]
    cases kvs.lookup f <;> simp [eval]
  | .self p path, t, h => by
    simp only [wt, beq_iff_eq] at h
    subst h
    simp [bindingPath1, eval, projPath_append]
  | .ref c path, t, h => by
    simp only [wt, beq_iff_eq] at h
    subst h
    simp [bindingPath1, eval, projPath_append]
theorem bpList_sound (st : StructTable) (env : Env) (f : String) :
    ∀ (es : List Exp) (t : Ty), wtList st env t es = true →
      evalList st env (bpList f es) = (evalList st env es).map (proj1 t f)
  | [], _, _ => by simp [bpList, evalList]
  | e :: es, t, h => by
    simp only [wtList, Bool.and_eq_true] at h
    simp [bpList, evalList, bp_sound st env f e t h.1, bpList_sound st env f es t h.2]
theorem bpFields_sound (st : StructTable) (env : Env) (f : String) :
    ∀ (kvs : List (String × Exp)) (t : Ty), wtFields st env t kvs = true →
      evalFields st env (bpFields f kvs) = (evalFields st env kvs).map fun kv => (kv.1, proj1 t f kv.2)
  | [], _, _ => by simp [bpFields, evalFields]
  | (k, e) :: es, t, h => by
    simp only [wtFields, Bool.and_eq_true] at h
    simp [bpFields, evalFields, bp_sound st env f e t h.1, bpFields_sound st env f es t h.2]
end

theorem evalList_getD (st : StructTable) (env : Env) :
    ∀ (xs : List Exp) (n : Nat),
      (evalList st env xs).getD n .null = eval st env (xs.getD n (.lit .null))
  | [], n => by simp [evalList, eval]
  | x :: xs, 0 => by simp [evalList]
  | x :: xs, n+1 => by simpa [evalList] using evalList_getD st env xs n

theorem lookup_map_mem {α : Type} (ps : List α) (name : α → String) (h : α → J)
    (hn : (ps.map name).Nodup) (q : α) (hq : q ∈ ps) :
    (ps.map fun p => (name p, h p)).lookup (name q) = some (h q) := by
  rw [lookup_map_key name h ps (name q), Proofs.ListFacts.find?_key_of_nodup hn hq]
  rfl

/-- member names of every struct are distinct (the compiler rejects duplicates) -/
def StructsOk (st : StructTable) : Prop :=
  ∀ name ps, st.lookup name = some ps → (ps.map (·.name)).Nodup

/-- the base-level step of `narrow` -/
def narrowBase (st : StructTable) (fuel : Nat) (t : Ty) (s : J) : J :=
  match st.lookup t.base with
  | none => s
  | some ps =>
    match s with
    | .obj _ => .obj (ps.map fun p => (p.name, narrow st fuel p.ty (s.field p.name)))
    | other => other

theorem narrow_succ (st : StructTable) (fuel : Nat) (t : Ty) (v : J) :
    narrow st (fuel+1) t v = atBase t (narrowBase st fuel t) v := by
  simp only [narrow]
  rfl

theorem narrowBase_idem (st : StructTable) (hst : StructsOk st) (fuel : Nat) (t : Ty)
    (ih : ∀ t v, narrow st fuel t (narrow st fuel t v) = narrow st fuel t v) (s : J) :
    narrowBase st fuel t (narrowBase st fuel t s) = narrowBase st fuel t s := by
  unfold narrowBase
  cases hl : st.lookup t.base with
  | none => rfl
  | some ps =>
    have hn := hst _ _ hl
    cases s with
    | obj kvs =>
      simp only [J.obj.injEq]
      apply List.map_congr_left
      intro p hp
      have : (J.obj (ps.map fun p => (p.name, narrow st fuel p.ty ((J.obj kvs).field p.name)))).field p.name
          = narrow st fuel p.ty ((J.obj kvs).field p.name) := by
        have h := lookup_map_mem ps (·.name) (fun p => narrow st fuel p.ty ((J.obj kvs).field p.name)) hn p hp
        simp only [J.field] at h ⊢
        rw [h]
        rfl
      rw [this, ih]
    | null => rfl
    | dnull => rfl
    | atom a => rfl
    | arr xs => rfl

theorem narrow_idem (st : StructTable) (hst : StructsOk st) :
    ∀ (fuel : Nat) (t : Ty) (v : J), narrow st fuel t (narrow st fuel t v) = narrow st fuel t v := by
  intro fuel
  induction fuel with
  | zero => intro t v; simp [narrow]
  | succ fuel ih =>
    intro t v
    rw [narrow_succ, narrow_succ, atBase_comp]
    have : (narrowBase st fuel t ∘ narrowBase st fuel t) = narrowBase st fuel t := by
      funext s
      exact narrowBase_idem st hst fuel t ih s
    rw [this]

theorem lookup_filter_none (b d : List (String × J)) (k : String) (h : (d.lookup k).isSome) :
    (b.filter fun x => (d.lookup x.1).isNone).lookup k = none := by
  rw [List.lookup_eq_none_iff]
  intro p hp
  have hp2 := (List.mem_filter.mp hp).2
  cases hk : (k == p.1) with
  | false => simp [bne, hk]
  | true =>
    rw [show k = p.1 by simpa using hk] at h
    simp [Option.isNone_iff_eq_none.mp hp2] at h

theorem lookup_filter_keep (b d : List (String × J)) (k : String) (h : d.lookup k = none) :
    (b.filter fun x => (d.lookup x.1).isNone).lookup k = b.lookup k := by
  induction b with
  | nil => rfl
  | cons x xs ih =>
    obtain ⟨a, v⟩ := x
    cases hk : (k == a) with
    | true =>
      have hx : (d.lookup a).isNone = true := by rw [← show k = a by simpa using hk, h]; rfl
      simp [hx, List.lookup_cons, hk]
    | false =>
      rw [List.filter_cons]
      split <;> simp [List.lookup_cons, hk, ih]

theorem find_perm {β : Type} (h1 h2 : List (InstKey × β)) (hp : h1.Perm h2)
    (hn : (h1.map (·.1)).Nodup) (k : InstKey) :
    h1.find? (fun e => e.1 == k) = h2.find? (fun e => e.1 == k) := by
  induction hp with
  | nil => rfl
  | cons x _ ih =>
    simp only [List.map_cons, List.nodup_cons] at hn
    simp only [List.find?_cons]
    split
    · rfl
    · exact ih hn.2
  | swap x y l =>
    simp only [List.map_cons, List.nodup_cons, List.mem_cons, not_or] at hn
    simp only [List.find?_cons]
    cases hx : (x.1 == k) <;> cases hy : (y.1 == k) <;> simp
    have ex : x.1 = k := by simpa using hx
    have ey : y.1 = k := by simpa using hy
    exact absurd (ey.trans ex.symm) hn.1.1
  | trans p1 _ ih1 ih2 =>
    have hn2 := (List.Perm.nodup_iff (List.Perm.map (·.1) p1)).mp hn
    exact (ih1 hn).trans (ih2 hn2)

end Proofs.Dataflow
