/-
Lemmas for Martian/TypingStrict.lean: completeness of `validExp` outside the
enumerated over-strict classes.
-/
import Martian.TypingStrict
import Proofs.Typing

namespace Martian.Typing
open Martian.Json Martian.Types

theorem overStrictFields_false (Γ : Env) : ∀ (fs : Fields) (kvs : KVs),
    overStrictFields Γ fs kvs = false →
      ∀ k t, (k, t) ∈ fs.toList → ∀ e, kvs.get k = some e → overStrict Γ t e = false
  | .nil, kvs, _, k, t, h, _, _ => by cases h
  | .cons k' t' r, kvs, h, k, t, hm, e, he => by
    simp only [overStrictFields, Bool.or_eq_false_iff] at h
    simp only [Fields.toList, List.mem_cons, Prod.mk.injEq] at hm
    rcases hm with ⟨rfl, rfl⟩ | hm
    · simpa [he] using h.1
    · exact overStrictFields_false Γ r kvs h.2 k t hm e he

theorem overStrict_ref (Γ : Env) (t : Ty) (e : Exp) (he : ∃ id p, e = .self id p ∨ e = .call id p) :
    overStrict Γ t e = !refOk Γ t e := by
  obtain ⟨id, p, rfl | rfl⟩ := he <;> cases t <;> simp [overStrict]

/-- Outside the over-strict classes `validExp` is complete: an expression whose
value validates cleanly against `t` is accepted for `t`. -/
theorem validExp_complete (Γ : Env) (ρ : Store) (t : Ty) :
    ∀ (e : Exp) (v : J), overStrict Γ t e = false → eval Γ ρ e = some v → valid t v = true →
      validExp Γ t e = true := by
  -- a reference outside class (R) is one that `refOk` accepts
  have ref : ∀ t e, (∃ id p, e = .self id p ∨ e = .call id p) → overStrict Γ t e = false →
      validExp Γ t e = true := fun t e he hos => by
    rw [validExp_ref Γ t e he]
    simpa [overStrict_ref Γ t e he] using hos
  induction t using Ty.induct' with
  | base b =>
    intro e v hos hev hv
    cases e with
    | null => exact validExp_null Γ _
    | int i =>
      simp only [eval, Option.some.injEq] at hev; subst hev
      cases b <;> simp [valid, check, checkBase] at hv <;> simp [validExp, validBase]
    | float m x =>
      simp only [eval, Option.some.injEq] at hev; subst hev
      cases b with
      | int => rw [valid_int_litFloat] at hv; simp [validExp, validBase, hv]
      | float => simp [validExp, validBase]
      | _ => simp [valid, check, checkBase] at hv
    | str s =>
      simp only [eval, Option.some.injEq] at hev; subst hev
      cases b <;> simp [valid, check, checkBase] at hv <;> simp [validExp, validBase]
    | bool x =>
      simp only [eval, Option.some.injEq] at hev; subst hev
      cases b <;> simp [valid, check, checkBase] at hv <;> simp [validExp, validBase]
    | arr xs =>
      simp only [eval, Option.map_eq_some_iff] at hev
      obtain ⟨vs, _, rfl⟩ := hev
      cases b <;> simp [valid, check, checkBase] at hv
    | map isStruct kvs =>
      simp only [eval, Option.map_eq_some_iff] at hev
      obtain ⟨vs, _, rfl⟩ := hev
      simp only [overStrict] at hos
      cases b <;> simp [valid, check, checkBase] at hv
      simp only [validExp, validBase]
      simpa using hos
    | self id p | call id p => exact ref _ _ ⟨id, p, by simp⟩ hos
  | user n =>
    intro e v hos hev hv
    cases e with
    | null => exact validExp_null Γ _
    | str s => simp [validExp]
    | int _ | float _ _ | bool _ =>
      simp only [eval, Option.some.injEq] at hev; subst hev
      simp [valid, check] at hv
    | arr _ | map _ _ =>
      simp only [eval, Option.map_eq_some_iff] at hev
      obtain ⟨vs, _, rfl⟩ := hev
      simp [valid, check] at hv
    | self id p | call id p => exact ref _ _ ⟨id, p, by simp⟩ hos
  | arr t ih =>
    intro e v hos hev hv
    cases e with
    | null => exact validExp_null Γ _
    | arr xs =>
      simp only [eval, evalL_eq, Option.map_eq_some_iff] at hev
      obtain ⟨vs, hvs, rfl⟩ := hev
      simp only [overStrict, List.any_eq_false] at hos
      simp only [validExp, List.all_eq_true]
      intro x hx
      obtain ⟨w, hw, hew⟩ := allSome_mem _ _ vs hvs x hx
      exact ih x w (by simpa using hos x hx) hew (valid_arr_iff.mp hv w hw)
    | int _ | float _ _ | str _ | bool _ =>
      simp only [eval, Option.some.injEq] at hev; subst hev
      simp [valid, check] at hv
    | map _ _ =>
      simp only [eval, Option.map_eq_some_iff] at hev
      obtain ⟨vs, _, rfl⟩ := hev
      simp [valid, check] at hv
    | self id p | call id p => exact ref _ _ ⟨id, p, by simp⟩ hos
  | tmap t ih =>
    intro e v hos hev hv
    cases e with
    | null => exact validExp_null Γ _
    | map isStruct kvs =>
      simp only [eval, evalKV_eq, Option.map_eq_some_iff] at hev
      obtain ⟨vs, hvs, rfl⟩ := hev
      cases isStruct with
      | true => simp [overStrict] at hos
      | false =>
        simp only [overStrict, List.any_eq_false] at hos
        simp only [validExp, List.all_eq_true, Bool.and_eq_true, Bool.or_eq_true, Bool.not_eq_true']
        intro kv hkv
        obtain ⟨w, hw, hew⟩ := allSome_mem _ _ vs hvs kv hkv
        obtain ⟨w2, hew2, rfl⟩ := Option.map_eq_some_iff.mp hew
        have hm := valid_tmap_iff.mp hv _ hw
        refine ⟨ih kv.2 w2 (by simpa using hos kv hkv) hew2 hm.1, ?_⟩
        cases hd : isDirMap t with
        | false => exact Or.inl rfl
        | true => exact Or.inr (hm.2 hd)
    | int _ | float _ _ | str _ | bool _ =>
      simp only [eval, Option.some.injEq] at hev; subst hev
      simp [valid, check] at hv
    | arr _ =>
      simp only [eval, Option.map_eq_some_iff] at hev
      obtain ⟨vs, _, rfl⟩ := hev
      simp [valid, check] at hv
    | self id p | call id p => exact ref _ _ ⟨id, p, by simp⟩ hos
  | struct n fs ih =>
    intro e v hos hev hv
    cases e with
    | null => exact validExp_null Γ _
    | map isStruct kvs =>
      simp only [eval, Option.map_eq_some_iff] at hev
      obtain ⟨vs, hvs, rfl⟩ := hev
      simp only [overStrict, Bool.or_eq_false_iff] at hos
      simp only [validExp, Bool.and_eq_true, Bool.not_eq_true']
      refine ⟨(validFields_iff Γ fs kvs).mpr fun k t hkt => ?_, hos.1⟩
      obtain ⟨w, hgw, hcw⟩ := valid_struct_iff.mp hv k t hkt
      have hg := getKey_evalKV Γ ρ k kvs vs hvs
      cases hk : kvs.get k with
      | none => simp [hk, hgw] at hg
      | some e =>
        simp only [hk] at hg
        obtain ⟨w', hew', hgw'⟩ := hg
        rw [hgw] at hgw'
        cases hgw'
        exact ⟨e, rfl, ih k t hkt e w (overStrictFields_false Γ fs kvs hos.2 k t hkt e hk) hew' hcw⟩
    | int _ | float _ _ | str _ | bool _ =>
      simp only [eval, Option.some.injEq] at hev; subst hev
      simp [valid, check] at hv
    | arr _ =>
      simp only [eval, Option.map_eq_some_iff] at hev
      obtain ⟨vs, _, rfl⟩ := hev
      simp [valid, check] at hv
    | self id p | call id p => exact ref _ _ ⟨id, p, by simp⟩ hos

end Martian.Typing
