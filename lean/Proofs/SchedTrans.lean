import Proofs.Sched

/-! Finished forks and nodes: `Node.getState` by outcome (`nodeState_cases`), a failed fork state
has a failed member (`forkStateOf_failed`); a finished fork
stays finished, a finished node stays finished
(C02 `done_stable`), a node the scheduler steps has finished prenodes, a node with a complete
fork has finished prenodes, and transitive blocking (C06 `dependents_blocked_transitive_partial`).  `FirstLoadInv` and `CompleteInv`, two of the fields of `ReachInv` (Proofs/SchedOnce.lean). -/
namespace Martian.Sched

theorem forkStateOf_done {fm jm cs sm} :
    (forkStateOf fm jm cs sm = .complete ∨ forkStateOf fm jm cs sm = .disabled) ↔
      (fm = some .complete ∨ fm = some .disabled) := by
  unfold forkStateOf
  repeat' split
  all_goals simp_all

theorem forkState_done {s : State} {n f : Nat} :
    (forkState s n f = .complete ∨ forkState s n f = .disabled) ↔ fmDone s n f = true := by
  unfold forkState fmDone
  rw [forkStateOf_done]; simp

/-- the fork loop of `Node.getState`, by outcome -/
theorem scanForks_spec (l : List FState) (d : Bool) :
    match scanForks l d with
    | .failed => .failed ∈ l
    | .done d' => (∀ x ∈ l, x = .complete ∨ x = .disabled) ∧ (d' = false → d = false ∨ .complete ∈ l)
    | .incomplete => ∃ x ∈ l, x ≠ .complete ∧ x ≠ .disabled := by
  induction l generalizing d with
  | nil => simp [scanForks]
  | cons a r ih =>
    cases a <;> simp only [scanForks]
    case failed => exact List.mem_cons_self ..
    case complete => have := ih false; revert this; cases scanForks r false <;> simp +contextual
    case disabled => have := ih d; revert this; cases scanForks r d <;> simp +contextual
    -- every other fork state ends the loop
    all_goals exact ⟨_, List.mem_cons_self .., by simp, by simp⟩

/-- `Node.getState`, by outcome -/
theorem nodeState_cases (s : State) (n : Nat) :
    (nodeState s n = .failed ∧ nodeDone s n = false ∧
      ∃ f ∈ s.forksOf n, forkState s n f = .failed) ∨
    (nodeState s n = .disabled ∧ nodeDone s n = true) ∨
    (nodeState s n = .complete ∧ nodeDone s n = true ∧
      ∃ f ∈ s.forksOf n, forkState s n f = .complete) ∨
    (nodeState s n = .running ∧ nodeDone s n = false ∧ ∀ p ∈ s.pre n, nodeDone s p = true) ∨
    (nodeState s n = .waiting ∧ nodeDone s n = false ∧ ∃ p ∈ s.pre n, nodeDone s p = false) := by
  have h := scanForks_spec (forkStates s n) true
  have hd : nodeDone s n = match scanForks (forkStates s n) true with
    | .done _ => true | _ => false := rfl
  have hn : nodeState s n = nodeStateOf (forkStates s n) ((s.pre n).all (nodeDone s)) := rfl
  have mem : ∀ x ∈ forkStates s n, ∃ f ∈ s.forksOf n, forkState s n f = x := fun x hx =>
    List.mem_map.mp hx
  unfold nodeStateOf at hn
  cases hs : scanForks (forkStates s n) true with
  | failed => rw [hs] at h hd hn; exact .inl ⟨hn, hd, mem _ h⟩
  | done d =>
    rw [hs] at h hd hn
    cases d
    · exact .inr (.inr (.inl ⟨hn, hd, mem _ ((h.2 rfl).resolve_left (by simp))⟩))
    · exact .inr (.inl ⟨hn, hd⟩)
  | incomplete =>
    rw [hs] at hd hn
    by_cases hp : (s.pre n).all (nodeDone s) = true <;> simp only [hp, if_true] at hn
    · exact .inr (.inr (.inr (.inl ⟨hn, hd, by simpa using hp⟩)))
    · exact .inr (.inr (.inr (.inr ⟨hn, hd, by simpa using hp⟩)))

theorem nodeDone_iff {s : State} {n : Nat} :
    nodeDone s n = true ↔ ∀ f ∈ s.forksOf n, fmDone s n f = true := by
  have h := scanForks_spec (forkStates s n) true
  have key : nodeDone s n = true ↔ ∀ x ∈ forkStates s n, x = .complete ∨ x = .disabled := by
    unfold nodeDone
    cases hs : scanForks (forkStates s n) true <;> rw [hs] at h
    · exact ⟨fun h' => (by cases h'), fun h' => by simpa using h' _ h⟩
    · exact ⟨fun _ => h.1, fun _ => rfl⟩
    · obtain ⟨x, hx, h1, h2⟩ := h
      exact ⟨fun h' => (by cases h'), fun h' => ((h' x hx).elim h1 h2).elim⟩
  rw [key]; simp [forkStates, forkState_done]

theorem nodeDone_iff_state {s : State} {n : Nat} :
    nodeDone s n = true ↔ nodeState s n = .complete ∨ nodeState s n = .disabled := by
  rcases nodeState_cases s n with h | h | h | h | h <;> simp [h]

theorem fmDone_iff {s : State} {n f : Nat} :
    fmDone s n f = true ↔
      (s.m ⟨n, f, .fork⟩).seen.has .errors = false ∧ (s.m ⟨n, f, .fork⟩).seen.has .assert = false ∧
      ((s.m ⟨n, f, .fork⟩).seen.has .complete = true ∨ (s.m ⟨n, f, .fork⟩).seen.has .disabled = true) := by
  unfold fmDone State.st
  generalize (s.m ⟨n, f, .fork⟩).seen = x
  simp only [Bool.or_eq_true, beq_iff_eq]
  constructor
  · rintro (h | h)
    · exact ⟨(metaState_complete h).1, (metaState_complete h).2.1, .inl (metaState_complete h).2.2⟩
    · exact ⟨(metaState_disabled h).1, (metaState_disabled h).2.1, .inr (metaState_disabled h).2.2⟩
  · rintro ⟨h1, h2, h3⟩
    rw [metaState_clean h1 h2]
    cases hc : x.has .complete
    · simp [h3.resolve_left (by simp [hc])]
    · simp

theorem forkState_open {s : State} {n f : Nat} (hnd : fmDone s n f = false)
    (hnf : s.st ⟨n, f, .fork⟩ ≠ some .failed) :
    forkState s n f =
      forkStateOf none (s.st ⟨n, f, .join⟩) (chunkStates s n f) (s.st ⟨n, f, .split⟩) := by
  unfold forkState
  cases hfm : s.st ⟨n, f, .fork⟩ with
  | none => rfl
  | some m => cases m <;> first | rfl | simp_all [fmDone]

theorem mem_chunkStates {s : State} {n f : Nat} {c : Option MState} :
    c ∈ chunkStates s n f ↔ ∃ i, i < s.nch n f ∧ s.st ⟨n, f, .chunk i⟩ = c := by
  simp [chunkStates, chunkState]

theorem chunkSum_failed_of {cs : List (Option MState)} (h : some .failed ∈ cs) :
    chunkSum cs = .failed := by
  have hany : cs.any (· == some .failed) = true := List.any_eq_true.mpr ⟨_, h, by simp⟩
  have hne : cs.isEmpty = false := by cases cs <;> simp_all
  simp [chunkSum, hne, hany]

theorem chunkSum_complete_of {cs : List (Option MState)} (hne : cs ≠ [])
    (h : ∀ c ∈ cs, c = some .complete) : chunkSum cs = .complete := by
  have he : cs.isEmpty = false := by cases cs <;> simp_all
  have ha : cs.any (· == some .failed) = false := by
    rw [List.any_eq_false]; intro c hc; simp [h c hc]
  have hb : cs.all (· == some .complete) = true := by
    rw [List.all_eq_true]; intro c hc; simp [h c hc]
  simp [chunkSum, he, ha, hb]

theorem chunkSum_none_of {cs : List (Option MState)} (h1 : none ∈ cs)
    (h2 : some .failed ∉ cs) : chunkSum cs = .none := by
  have he : cs.isEmpty = false := by cases cs <;> simp_all
  have ha : cs.any (· == some .failed) = false := by
    rw [List.any_eq_false]; intro c hc hcf; exact h2 ((beq_iff_eq.mp hcf) ▸ hc)
  have hb : cs.all (· == some .complete) = false := by
    rw [List.all_eq_false]; exact ⟨none, h1, by simp⟩
  have hd : cs.all (fun c => c == some .complete || c == some .queued || c == some .running)
      = false := by
    rw [List.all_eq_false]; exact ⟨none, h1, by simp⟩
  simp [chunkSum, he, ha, hb, hd]

theorem chunkSum_failed {cs : List (Option MState)} (h : chunkSum cs = .failed) :
    some .failed ∈ cs := by
  unfold chunkSum at h
  split at h; · cases h
  split at h
  · rename_i ha
    simp only [List.any_eq_true, beq_iff_eq] at ha
    obtain ⟨c, hc, rfl⟩ := ha; exact hc
  · split at h; · cases h
    split at h <;> cases h

theorem forkStateOf_failed {fm jm sm : Option MState} {cs : List (Option MState)}
    (h : forkStateOf fm jm cs sm = .failed) :
    fm = some .failed ∨ jm = some .failed ∨ some .failed ∈ cs ∨ sm = some .failed := by
  unfold forkStateOf at h
  split at h
  · exact Or.inl rfl
  · cases h
  · cases h
  · split at h
    · exact Or.inr (Or.inl rfl)
    · cases h
    · split at h
      · rename_i hcs; exact Or.inr (Or.inr (Or.inl (chunkSum_failed hcs)))
      · cases h
      · cases h
      · split at h
        · exact Or.inr (Or.inr (Or.inr rfl))
        · cases h
        · cases h

/-- how a sentinel becomes visible in a fork's own metadata: mrp writes it (the fork's directory
is written by mrp only, cache = directory) -/
theorem fork_seen_origin {s : State} {e : Ev} {o : Obj} {y : Sentinel} (hinv : ObjsInv s)
    (hen : enabled s e = true) (hr : o.r = .fork)
    (h : ((apply s e).m o).seen.has y = true) :
    (s.m o).seen.has y = true ∨ (e = .W o y ∧ mrpWriteOk s o y = true) := by
  have hfe := (hinv o).forkEq hr y
  have notJob : o.r.isJob = true → False := by simp [hr, Role.isJob]
  have hm := metaStep s e o
  generalize (apply s e).m o = m' at hm h
  cases hm with
  | W x =>
    by_cases hx : x = y
    · subst hx
      exact (en_W.mp hen).2.2.elim (fun hd => .inl (hfe hd)) (fun hw => .inr ⟨rfl, hw⟩)
    · exact .inl (by simpa [put, has_add, hx] using h)
  | R x =>
    by_cases hx : x = y
    · exact .inl (hfe (hx ▸ (en_R.mp hen).2.2))
    · exact .inl (by simpa [see, has_add, hx] using h)
  | D x =>
    by_cases hx : x = y
    · exact .inl (hfe (hx ▸ (en_D.mp hen).2.2))
    · exact .inl (by simpa [see, has_add, hx] using h)
  | U x => exact .inl (by simp only [unq, has_del, Bool.and_eq_true] at h; exact h.2)
  | launch => exact (notJob (launchOk_facts (en_launch.mp hen)).1).elim
  | silentfail => exact (notJob (en_silentfail.mp hen).2.1).elim
  | joblog => exact .inl h
  | jobend x => exact .inl h
  | reset => simp at h
  | restart => exact .inl (hfe h)
  | same => exact .inl h

theorem fmDone_stable {s : State} {e : Ev} {n f : Nat} (hinv : ObjsInv s)
    (hfull : s.full = false) (hen : enabled s e = true) (h : fmDone s n f = true) :
    fmDone (apply s e) n f = true := by
  have hne : e ≠ .reset ⟨n, f, .fork⟩ := by
    intro he; subst he
    have := reset_isJob hfull hen; simp [Role.isJob] at this
  obtain ⟨h1, h2, h3⟩ := fmDone_iff.mp h
  -- a failure marker would have been written by mrp, which fails a fork only while it is unfinished
  have nofail : ∀ y, y = .errors ∨ y = .assert → (s.m ⟨n, f, .fork⟩).seen.has y = false →
      ((apply s e).m ⟨n, f, .fork⟩).seen.has y = false := by
    intro y hy h0
    refine Bool.eq_false_iff.mpr fun hc => ?_
    rcases fork_seen_origin (o := ⟨n, f, .fork⟩) hinv hen rfl hc with a | ⟨_, hw⟩
    · simp [h0] at a
    · rcases hy with rfl | rfl
      · have := mrpWriteOk_iff.mp hw; simp [h] at this
      · exact (mrpWriteOk_iff.mp hw).elim
  exact fmDone_iff.mpr ⟨nofail _ (.inl rfl) h1, nofail _ (.inr rfl) h2,
    h3.imp (seen_mono hinv hne (by simp)) (seen_mono hinv hne (by simp))⟩

theorem fmDone_origin {s : State} {e : Ev} {n f : Nat} (hinv : ObjsInv s)
    (hen : enabled s e = true) (h0 : fmDone s n f = false) (h1 : fmDone (apply s e) n f = true) :
    (e = .W ⟨n, f, .fork⟩ .complete ∧ mrpWriteOk s ⟨n, f, .fork⟩ .complete = true) ∨
    (e = .W ⟨n, f, .fork⟩ .disabled ∧ mrpWriteOk s ⟨n, f, .fork⟩ .disabled = true) := by
  obtain ⟨he, ha, hcd⟩ := fmDone_iff.mp h1
  -- a failure marker in the fork's own metadata never disappears: `e` is not a reset of it, or
  -- else nothing would be there afterwards
  have hne : e ≠ .reset ⟨n, f, .fork⟩ := by
    intro h; subst h
    rw [apply_m] at hcd; simp at hcd
  have h2 : (s.m ⟨n, f, .fork⟩).seen.has .errors = false :=
    Bool.eq_false_iff.mpr fun h => by simp [seen_mono hinv hne (by simp) h] at he
  have h3 : (s.m ⟨n, f, .fork⟩).seen.has .assert = false :=
    Bool.eq_false_iff.mpr fun h => by simp [seen_mono hinv hne (by simp) h] at ha
  have hold : ∀ y, y = .complete ∨ y = .disabled → (s.m ⟨n, f, .fork⟩).seen.has y = true → False :=
    fun y hy h => by
      have := fmDone_iff.mpr ⟨h2, h3, by rcases hy with rfl | rfl; exact .inl h; exact .inr h⟩
      simp [h0] at this
  rcases hcd with hc | hd
  · exact .inl ((fork_seen_origin (o := ⟨n, f, .fork⟩) hinv hen rfl hc).resolve_left
      (hold _ (.inl rfl)))
  · exact .inr ((fork_seen_origin (o := ⟨n, f, .fork⟩) hinv hen rfl hd).resolve_left
      (hold _ (.inr rfl)))

/-- C02 `done_stable`: a finished node stays finished (complete/disabled never
reverts); the only exception is a fork added while the graph is (re)loaded. -/
theorem done_stable {s : State} {e : Ev} {p : Nat} (hinv : ObjsInv s) (hfull : s.full = false)
    (hen : enabled s e = true)
    (hc : s.phase = .loading → ∀ f, e ≠ .fork p f) (hd : nodeDone s p = true) :
    nodeDone (apply s e) p = true := by
  rw [nodeDone_iff] at hd ⊢
  intro f hf
  refine fmDone_stable hinv hfull hen (hd f ?_)
  rcases forksOf_step s e p with h' | ⟨f', rfl, _⟩ | ⟨l, rfl, h'⟩
  · rwa [h'] at hf
  · obtain ⟨hnc, _, _, hnorm⟩ := en_fork hen
    cases hq : s.phase
    · exact absurd rfl (hc hq f')
    · have := (hnorm hq).1; simp [nodeDone_iff.mpr hd] at this
    · exact absurd hq hnc
  · rw [h'] at hf; exact isSubNodup_mem (en_forkorder.mp hen).2.1 f hf

theorem nodeState_running {s : State} {n : Nat} (h : nodeState s n = .running) :
    ∀ p ∈ s.pre n, nodeDone s p = true := by
  rcases nodeState_cases s n with h' | h' | h' | h' | h' <;> simp_all

def PreInv (s : State) : Prop :=
  s.phase = .normal → ∀ n, s.cachedOf n = .running → ∀ p ∈ s.pre n, nodeDone s p = true

theorem pre_out_of_range {s : State} {n : Nat} (h : ¬ n < s.nodes.length) : s.pre n = [] := by
  have : s.nodes[n]? = none := by simpa using Nat.le_of_not_lt h
  simp [State.pre, this]

theorem preInv_step {s : State} {e : Ev} (hinv : ObjsInv s) (hfull : s.full = false)
    (hen : enabled s e = true)
    (h : PreInv s) : PreInv (apply s e) := by
  intro hph n hc p hp
  rw [apply_pre] at hp
  by_cases hs : s.phase = .normal
  · -- ordinary step in the normal phase
    have stable := done_stable (p := p) hinv hfull hen (fun hl => by rw [hs] at hl; cases hl)
    rcases cachedOf_step s e n with hc' | he
    · exact stable (h hs n (hc' ▸ hc) p hp)
    · rw [hc] at he; subst he
      exact stable (nodeState_running (en_nodestate.mp hen).2.2.symm p hp)
  · -- the step that enters the normal phase: `refresh` after loading
    rcases phase_step s e with h' | ⟨_, h'⟩ | ⟨_, h'⟩ | ⟨rfl, _⟩ <;>
      try (rw [hph] at h'; first | exact absurd h'.symm hs | cases h')
    have hl : s.phase = .loading := by
      cases hq : s.phase
      · rfl
      · exact absurd hq hs
      · exact absurd hq (en_refresh.mp hen).1
    have hfresh := (en_refresh.mp hen).2 hl
    have hc' : s.cachedOf n = .running := by simpa [apply_cachedOf] using hc
    by_cases hn : n < s.nodes.length
    · have : s.cachedOf n = nodeState s n := by
        simp only [allFresh, List.all_eq_true, List.mem_range, beq_iff_eq] at hfresh
        exact hfresh n hn
      exact done_stable hinv hfull hen (fun _ => by simp) (nodeState_running (this ▸ hc') p hp)
    · rw [pre_out_of_range hn] at hp; cases hp

theorem failed_fork_not_done {s : State} {p f : Nat} (hf : f ∈ s.forksOf p)
    (hfail : forkState s p f = .failed) : nodeDone s p = false :=
  Bool.eq_false_iff.mpr fun hd => by
    rcases forkState_done.mpr (nodeDone_iff.mp hd f hf) with h | h <;> simp [hfail] at h

/-- while the graph is first built (incarnation 0, loading) nothing has been
submitted and nothing is complete -/
def FirstLoadInv (s : State) : Prop :=
  s.inc = 0 → s.phase = .loading → ∀ o : Obj,
    (s.m o).disk.has .jobinfo = false ∧ (s.m o).disk.has .complete = false

theorem firstLoadInv_step {s : State} {e : Ev} (h : FirstLoadInv s) (hen : enabled s e = true) :
    FirstLoadInv (apply s e) := by
  intro hi hp o
  have hne : e ≠ .restart := fun he => by subst he; simp [apply_inc] at hi
  have hinc : s.inc = 0 := by
    rw [apply_inc] at hi
    split at hi
    · cases hi
    · exact hi
  have hp0 : s.phase = .loading := by
    rcases phase_step s e with h' | ⟨he, _⟩ | ⟨_, h'⟩ | ⟨_, h'⟩
    · exact h' ▸ hp
    · exact absurd he hne
    · rw [hp] at h'; cases h'
    · rw [hp] at h'; cases h'
  obtain ⟨a, b⟩ := h hinc hp0 o
  -- submissions and mrp's own `_complete` need the normal phase; a job that ends was submitted
  refine ⟨Bool.eq_false_iff.mpr fun hc => ?_, Bool.eq_false_iff.mpr fun hc => ?_⟩
  · have he := jobinfo_origin hen a hc
    subst he
    exact absurd (launchOk_common (en_launch.mp hen)).1 (by simp [hp0])
  · rcases complete_origin hen b hc with he | ⟨_, hw⟩
    · subst he; exact absurd (en_jobend.mp hen).2.2.1 (by simp [a])
    · exact absurd (mrpWriteOk_complete hw).1 (by simp [hp0])

/-- a node one of whose forks is complete has finished prenodes — as long as no
restart re-opened a finished node (`reopened`) -/
def CompleteInv (s : State) : Prop :=
  s.reopened = false → ∀ q f, (s.m ⟨q, f, .fork⟩).disk.has .complete = true → ∀ p ∈ s.pre q, nodeDone s p = true

theorem completeInv_step {s : State} {e : Ev} (hobj : ObjsInv s) (hfull : s.full = false)
    (hpre : PreInv s)
    (hfl : FirstLoadInv s) (h : CompleteInv s) (hen : enabled s e = true) :
    CompleteInv (apply s e) := by
  intro hro q f hc p hp
  have hro0 := apply_reopened_false hro
  rw [apply_pre] at hp
  cases hold : (s.m ⟨q, f, .fork⟩).disk.has .complete
  · rcases complete_origin hen hold hc with he | ⟨_, hw⟩
    · subst he; have := (en_jobend.mp hen).1; simp [Role.isJob] at this
    · obtain ⟨hph, hrun, _⟩ := mrpWriteOk_complete hw
      exact done_stable hobj hfull hen (fun hl => by rw [hph] at hl; cases hl)
        (hpre hph q hrun p hp)
  · have hdp := h hro0 q f hold p hp
    refine done_stable hobj hfull hen (fun hl f' he => ?_) hdp
    subst he
    by_cases h0 : s.inc = 0
    · have := (hfl h0 hl ⟨q, f, .fork⟩).2
      rw [hold] at this; cases this
    · simp [apply_reopened, hl, h0, hdp] at hro

theorem nodeState_complete_fork {s : State} (hobj : ObjsInv s) {q : Nat}
    (h : nodeState s q = .complete) :
    ∃ f, (s.m ⟨q, f, .fork⟩).disk.has .complete = true := by
  rcases nodeState_cases s q with h' | h' | ⟨_, _, f, _, hf⟩ | h' | h' <;> try simp_all
  have : s.st ⟨q, f, .fork⟩ = some .complete := by
    rcases forkStateOf_done.mp (.inl hf) with h1 | h1
    · exact h1
    · unfold forkState forkStateOf at hf; simp [h1] at hf
  exact ⟨f, (hobj _).sub _ (metaState_complete this).2.2⟩

/-- `p` is upstream of `n`: reachable through prenode edges, where every
intermediate node is not Disabled (a disabled or fork-less call consumes
nothing and waits for nothing: `Node.getState` reports it Disabled regardless of
its own prenodes). -/
inductive Upstream (s : State) : Nat → Nat → Prop where
  | direct {n p} : p ∈ s.pre n → Upstream s n p
  | step {n q p} : q ∈ s.pre n → nodeState s q ≠ .disabled → Upstream s q p → Upstream s n p

theorem upstream_done {s : State} (hobj : ObjsInv s) (hci : CompleteInv s)
    (hro : s.reopened = false) {n p : Nat}
    (hu : Upstream s n p) (hn : ∀ q ∈ s.pre n, nodeDone s q = true) : nodeDone s p = true := by
  induction hu with
  | direct hp => exact hn _ hp
  | step hq hnd _ ih =>
    apply ih
    rcases nodeDone_iff_state.mp (hn _ hq) with hc | hd
    · obtain ⟨f, hf⟩ := nodeState_complete_fork hobj hc
      exact hci hro _ f hf
    · exact absurd hd hnd

theorem unfinished_prenode_blocks {s : State} (hobj : ObjsInv s) (hci : CompleteInv s)
    (hro : s.reopened = false) {q m : Nat} (hm : m ∈ s.pre q) (hmd : nodeDone s m = false) :
    (∀ f, (s.m ⟨q, f, .fork⟩).disk.has .complete = false) ∧ nodeState s q ≠ .complete := by
  have hall : ∀ f, (s.m ⟨q, f, .fork⟩).disk.has .complete = false := fun f =>
    Bool.eq_false_iff.mpr fun hc => by simp [hci hro q f hc m hm] at hmd
  refine ⟨hall, fun hc => ?_⟩
  obtain ⟨f, hf⟩ := nodeState_complete_fork hobj hc
  rw [hall f] at hf; cases hf

theorem upstream_blocks_completion {s : State} (hobj : ObjsInv s) (hci : CompleteInv s)
    (hro : s.reopened = false) {n p : Nat} (hu : Upstream s n p) (hnd : nodeDone s p = false) :
    (∀ f, (s.m ⟨n, f, .fork⟩).disk.has .complete = false) ∧ nodeState s n ≠ .complete := by
  -- otherwise every prenode of `n` is finished, hence (`upstream_done`) so is `p`
  refine Classical.byContradiction fun hcon => ?_
  have hpre : ∀ q ∈ s.pre n, nodeDone s q = true := fun q hq =>
    Classical.byContradiction fun hqd =>
      hcon (unfinished_prenode_blocks hobj hci hro hq (Bool.eq_false_iff.mpr hqd))
  simp [upstream_done hobj hci hro hu hpre] at hnd

end Martian.Sched
