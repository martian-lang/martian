/-
C11, two parts.
(1) Fork id strings of two part lists that agree on a prefix and then diverge
in one part (a different index of the same array call / a different key of the
same map call) are different, for any two tails with the same number of parts
(of any kinds, sizes and key sets) — in particular when the run-time sized inner
calls have different lengths, key sets or emptiness under the two outer forks
(`forkIdString_diverge`).  Injectivity on part lists of one shape is the special case
where the tails have the same shape (`sameShape_eq_or_diverge`, `forkIdString_inj`).
(2) The fork set of one node (model: Martian/ForkNameSet.lean): `makeForkIds_shape`,
`makeForkIds_nodup`, `forkSet_names_nodup_tt`.
-/
import Martian.ForkName
import Proofs.ForkName
import Martian.ForkNameSet
import Proofs.ListFacts

namespace Martian.ForkName

/-! ## A fuel-free description of what `forkIdGo true true` appends -/

/-- What `ForkId.forkId` makes of one part: nothing (unresolved, or an empty range), an array
index (`fresh`: a run-time sized array of more than one element, which starts a new index group
unless it is the first part of an invocation), or a map key. -/
inductive Kind where
  | skip
  | arr (i len : Nat) (fresh : Bool)
  | key (k : Bytes)

def Part.kind : Part → Kind
  | .arr i len st => if len == 0 then .skip else .arr i len (!st && decide (1 < len))
  | .key k keys _ => if keys.isEmpty then .skip else .key k
  | _ => .skip

def Kind.ok : Kind → Prop
  | .arr i len _ => i < len
  | _ => True

def tailStr : List Kind → Bool → Nat → Nat → Bytes
  | [], _, idx, dim => forkIndexStr dim idx
  | .skip :: rest, _, idx, dim => tailStr rest false idx dim
  | .arr i len fresh :: rest, first, idx, dim =>
    if fresh && !first then forkIndexStr dim idx ++ cUnder :: tailStr rest false i len
    else tailStr rest false (idx + dim * i) (dim * len)
  | .key k :: rest, first, idx, dim =>
    (if first then [] else forkIndexStr dim idx ++ [cSlash]) ++
      (seg k ++ (if rest.isEmpty then [] else cSlash :: tailStr rest true 0 1))

/-- all contributing parts are array parts folded into one flat index: (total, dimension) -/
def flatIdx : List Kind → Bool → Nat → Nat → Option (Nat × Nat)
  | [], _, idx, dim => some (idx, dim)
  | .skip :: rest, _, idx, dim => flatIdx rest false idx dim
  | .arr i len fresh :: rest, first, idx, dim =>
    if fresh && !first then none else flatIdx rest false (idx + dim * i) (dim * len)
  | .key _ :: _, _, _, _ => none

/-- `isDefault`: one flat index, and that index is 0 -/
def defaultCase (ks : List Kind) (first : Bool) (idx dim : Nat) : Bool :=
  match flatIdx ks first idx dim with
  | some (T, _) => T == 0
  | none => false

theorem defaultCase_arr (i len : Nat) (fresh : Bool) (rest : List Kind) (first : Bool) (idx dim : Nat) :
    defaultCase (.arr i len fresh :: rest) first idx dim =
      if fresh && !first then false else defaultCase rest false (idx + dim * i) (dim * len) := by
  by_cases hc : (fresh && !first) = true <;> simp only [defaultCase, flatIdx, hc, if_true, Bool.false_eq_true, if_false]

theorem ok_not_skip_arr {i len : Nat} {st : Bool} (h : partOk (.arr i len st) = true) (hz : len ≠ 0) : i < len := by
  simp only [partOk, partValid, partSkip, Bool.or_eq_true, decide_eq_true_eq, beq_iff_eq] at h
  exact h.resolve_right hz

theorem ok_not_skip_key {k : Bytes} {keys : List Bytes} {st : Bool} (h : partOk (.key k keys st) = true)
    (hz : keys.isEmpty = false) : keys.contains k = true := by
  simp only [partOk, partValid, partSkip, Bool.or_eq_true] at h
  rcases h with h | h
  · exact h
  · rw [hz] at h; cases h

theorem kind_ok {p : Part} (h : partOk p = true) : p.kind.ok := by
  cases p with
  | arr i len st =>
    simp only [Part.kind]
    split
    · trivial
    · next hz => exact ok_not_skip_arr h (by simpa using hz)
  | key k keys st => simp only [Part.kind]; split <;> trivial
  | undet => trivial
  | empty => trivial

theorem forkIndexStr_ne_nil (dim idx : Nat) : forkIndexStr dim idx ≠ [] := by
  unfold forkIndexStr; split <;> simp [sFork0, sFork]

theorem forkIdGo_spec : ∀ (parts : List Part) (fuel : Nat) (first : Bool) (idx dim : Nat) (buf : Bytes),
    parts.all partOk = true → 2 * parts.length < fuel →
    forkIdGo true true fuel parts first idx dim buf =
      if buf.isEmpty && defaultCase (parts.map Part.kind) first idx dim then ⟨true, buf, true⟩
      else ⟨false, buf ++ tailStr (parts.map Part.kind) first idx dim, true⟩ := by
  intro parts
  induction parts with
  | nil =>
    intro fuel first idx dim buf _ hf
    cases fuel with
    | zero => omega
    | succ f =>
      simp only [forkIdGo, List.map_nil, defaultCase, flatIdx, tailStr]
      by_cases h1 : idx = 0 <;> by_cases h2 : buf.isEmpty = true <;> simp [h1, h2]
  | cons p rest ih =>
    intro fuel first idx dim buf hv hf
    simp only [List.all_cons, Bool.and_eq_true] at hv
    obtain ⟨hp, hrest⟩ := hv
    simp only [List.length_cons] at hf
    cases fuel with
    | zero => omega
    | succ f =>
    have skip : ∀ q : Part, q.kind = .skip →
        forkIdGo true true f rest false idx dim buf =
          if buf.isEmpty && defaultCase ((q :: rest).map Part.kind) first idx dim then ⟨true, buf, true⟩
          else ⟨false, buf ++ tailStr ((q :: rest).map Part.kind) first idx dim, true⟩ := by
      intro q hq
      rw [List.map_cons, hq]
      exact ih f false idx dim buf hrest (by omega)
    cases p with
    | arr i len st =>
      by_cases hz : len = 0
      · subst hz
        simp only [forkIdGo, beq_self_eq_true, if_true]
        exact skip _ rfl
      · have hil := ok_not_skip_arr hp hz
        have h0 : (len == 0) = false := by simpa using hz
        have h1 : ¬ (len ≤ i) := by omega
        simp only [forkIdGo, h0, Bool.false_eq_true, if_false, h1, List.map_cons, Part.kind, defaultCase_arr,
          tailStr]
        by_cases hc : (!st && decide (1 < len) && !first) = true
        · simp only [hc, if_true]
          rw [ih f false i len _ hrest (by omega)]
          simp [List.append_assoc]
        · simp only [hc]
          exact ih f false _ _ buf hrest (by omega)
    | key k keys st =>
      by_cases hz : keys = []
      · subst hz
        simp only [forkIdGo, List.length_nil, beq_self_eq_true, if_true]
        exact skip _ rfl
      · have hke : keys.isEmpty = false := by simpa using hz
        have hk := ok_not_skip_key hp hke
        have hl : (keys.length == 0) = false := by simpa using hz
        -- the map part as first part of an invocation
        have hfirst : ∀ (g : Nat) (b : Bytes) (x y : Nat), 2 * rest.length < g →
            forkIdGo true true (g + 1) (.key k keys st :: rest) true x y b =
              ⟨false, b ++ (seg k ++ (if rest.isEmpty then [] else cSlash :: tailStr (rest.map Part.kind) true 0 1)), true⟩ := by
          intro g b x y hg
          rw [forkIdGo_key_first true true st hk]
          cases hre : rest.isEmpty with
          | true => simp
          | false =>
            simp only [Bool.false_eq_true, if_false]
            rw [ih g true 0 1 _ hrest hg]
            simp [List.append_assoc]
        have hkind : (Part.key k keys st).kind = .key k := by simp only [Part.kind, hke]; rfl
        rw [List.map_cons, hkind]
        simp only [defaultCase, flatIdx, tailStr, List.isEmpty_map, Bool.and_false, Bool.false_eq_true, if_false]
        cases first with
        | true =>
          rw [hfirst f buf idx dim (by omega)]
          simp
        | false =>
          cases f with
          | zero => omega
          | succ g =>
            -- a map part that is not first costs two units of fuel: the index is flushed, then the same part is
            -- entered again as first (`reenter`); hence `2 * parts.length < fuel`
            have step : forkIdGo true true (g + 1 + 1) (.key k keys st :: rest) false idx dim buf =
                forkIdGo true true (g + 1) (.key k keys st :: rest) true 0 1 (buf ++ forkIndexStr dim idx ++ [cSlash]) := by
              simp only [forkIdGo, hl, hk, Bool.not_true, Bool.false_eq_true, if_false, if_true]
            rw [step, hfirst g _ 0 1 (by omega)]
            simp [List.append_assoc]
    | undet =>
      simp only [forkIdGo]
      exact skip _ rfl
    | empty =>
      simp only [forkIdGo, if_true]
      exact skip _ rfl

/-- the string `ForkId.forkId` produces at top level -/
def topStr (ks : List Kind) : Bytes := if defaultCase ks true 0 1 then sFork0 else tailStr ks true 0 1

theorem forkIdString_topStr (a : List Part) (hva : a.all partOk = true) (hlen : 2 ≤ a.length) :
    forkIdString true true a = some (topStr (a.map Part.kind)) := by
  match a, hlen with
  | p :: q :: r, _ =>
    simp only [forkIdString]
    rw [forkIdGo_spec (p :: q :: r) _ true 0 1 [] hva (by simp)]
    simp only [List.isEmpty_nil, Bool.true_and, topStr, List.nil_append]
    split <;> rfl

theorem forkIndexStr_form (D I : Nat) :
    ∃ X, forkIndexStr D I = sFork ++ X ∧ (∀ c ∈ X, isDigit c = true) ∧ digitsVal X 0 = some I := by
  unfold forkIndexStr
  split
  · next hc =>
    have : I = 0 := by simp only [Bool.and_eq_true, beq_iff_eq] at hc; exact hc.2
    subst this
    exact ⟨[0x30], rfl, by decide, rfl⟩
  · exact ⟨padded _ I, rfl, padded_digits _ I, digitsVal_padded _ I⟩

theorem forkIndexStr_bytes (dim idx : Nat) (c : UInt8) (hc : c ∈ forkIndexStr dim idx) :
    c ∈ sFork ∨ isDigit c = true := by
  obtain ⟨X, e, dX, _⟩ := forkIndexStr_form dim idx
  rw [e] at hc
  exact (List.mem_append.mp hc).imp id (dX c)

/-- the number a text starts with after `fork` -/
def readIdx (s : Bytes) : Option Nat := digitsVal ((s.drop 4).takeWhile isDigit) 0

theorem readIdx_forkIndexStr (D I : Nat) {r : Bytes} (hr : ∀ c ∈ r.head?, isDigit c = false) :
    readIdx (forkIndexStr D I ++ r) = some I := by
  obtain ⟨X, e, dX, vX⟩ := forkIndexStr_form D I
  have : (sFork ++ X ++ r).drop 4 = X ++ r := by rw [List.append_assoc]; rfl
  rw [readIdx, e, this, takeWhile_append_stop dX hr, vX]

theorem readIdx_forkIndexStr_nil (D I : Nat) : readIdx (forkIndexStr D I) = some I := by
  simpa using readIdx_forkIndexStr D I (r := []) (by simp)

theorem forkIndexStr_inj {d d' i j : Nat} (h : forkIndexStr d i = forkIndexStr d' j) : i = j :=
  Option.some.inj (by rw [← readIdx_forkIndexStr_nil d i, h, readIdx_forkIndexStr_nil])

/-! ## After an array part, the next index string carries the accumulated index modulo the dimension -/

theorem radix_bound {idx dim i len : Nat} (h1 : idx < dim) (h2 : i < len) : idx + dim * i < dim * len := by
  have := Nat.mul_le_mul_left dim (show i + 1 ≤ len by omega)
  rw [Nat.mul_succ] at this
  omega

/-- Later array parts add multiples of `dim`; a fresh group or a map part writes `idx` itself.  `d0` is there for
the induction (`dim` grows along it); `tailStr_ne` uses `d0 = dim`. -/
theorem tail_readIdx : ∀ (ks : List Kind) (idx dim d0 : Nat), d0 ∣ dim →
    ∃ I, readIdx (tailStr ks false idx dim) = some I ∧ I % d0 = idx % d0 := by
  intro ks
  induction ks with
  | nil =>
    intro idx dim d0 _
    exact ⟨idx, readIdx_forkIndexStr_nil dim idx, rfl⟩
  | cons k rest ih =>
    intro idx dim d0 hd
    cases k with
    | skip => exact ih idx dim d0 hd
    | arr i len fresh =>
      simp only [tailStr, Bool.not_false, Bool.and_true]
      split
      · exact ⟨idx, readIdx_forkIndexStr _ _ (by simp [cUnder, isDigit]), rfl⟩
      · obtain ⟨I, hf, hm⟩ := ih (idx + dim * i) (dim * len) d0 (Nat.dvd_trans hd (Nat.dvd_mul_right dim len))
        refine ⟨I, hf, ?_⟩
        obtain ⟨k, rfl⟩ := hd
        rw [hm, Nat.mul_assoc, Nat.add_mul_mod_self_left]
    | key k =>
      simp only [tailStr, Bool.false_eq_true, if_false, List.append_assoc]
      exact ⟨idx, readIdx_forkIndexStr _ _ (by simp [cSlash, isDigit]), rfl⟩

theorem tailStr_ne (ra rb : List Kind) {a b dim : Nat} (ha : a < dim) (hb : b < dim) (hab : a ≠ b) :
    tailStr ra false a dim ≠ tailStr rb false b dim := by
  intro h
  obtain ⟨IA, fA, mA⟩ := tail_readIdx ra a dim dim (Nat.dvd_refl _)
  obtain ⟨IB, fB, mB⟩ := tail_readIdx rb b dim dim (Nat.dvd_refl _)
  rw [h, fB] at fA
  rw [← Option.some.inj fA, mB, Nat.mod_eq_of_lt ha, Nat.mod_eq_of_lt hb] at mA
  exact hab mA.symm

/-- `diverge` (Martian/ForkNameSpec.lean) read on kinds: `diverge_kind` -/
inductive Kind.Diverge : Kind → Kind → Prop
  | arr {i i' len : Nat} (fresh : Bool) (hne : i ≠ i') (hi : i < len) (hi' : i' < len) :
      Diverge (.arr i len fresh) (.arr i' len fresh)
  | key {k k' : Bytes} (hne : k ≠ k') : Diverge (.key k) (.key k')

theorem diverge_kind {x y : Part} (h : diverge x y = true) : x.kind.Diverge y.kind := by
  cases x <;> cases y <;> simp only [diverge, Bool.and_eq_true, beq_iff_eq, bne_iff_ne, decide_eq_true_eq,
    Bool.false_eq_true] at h
  · obtain ⟨⟨⟨⟨rfl, rfl⟩, hne⟩, hi⟩, hi'⟩ := h
    have h0 : (_ == 0) = false := beq_eq_false_iff_ne.mpr (Nat.ne_of_gt (Nat.zero_lt_of_lt hi))
    simp only [Part.kind, h0]
    exact .arr _ hne hi hi'
  · obtain ⟨⟨⟨⟨rfl, rfl⟩, hne⟩, hk⟩, _⟩ := h
    have h0 : _ = false := List.isEmpty_eq_false_iff.mpr (List.ne_nil_of_mem (List.contains_iff_mem.mp hk))
    simp only [Part.kind, h0]
    exact .key hne

theorem tailStr_diverge_head {x y : Kind} (ra rb : List Kind) (first : Bool) {idx dim : Nat}
    (hd : x.Diverge y) (hi : idx < dim) :
    tailStr (x :: ra) first idx dim ≠ tailStr (y :: rb) first idx dim := by
  intro h
  cases hd with
  | arr fresh hne hil hil' =>
    simp only [tailStr] at h
    split at h
    · exact tailStr_ne ra rb hil hil' hne (List.cons.inj (List.append_cancel_left h)).2
    · refine tailStr_ne ra rb (radix_bound hi hil) (radix_bound hi hil') ?_ h
      exact fun e => hne (Nat.eq_of_mul_eq_mul_left (Nat.zero_lt_of_lt hi) (Nat.add_left_cancel e))
  | key hne =>
    simp only [tailStr] at h
    exact hne (seg_append_inj (by split <;> simp) (by split <;> simp) (List.append_cancel_left h)).1

theorem tailStr_diverge : ∀ (p : List Kind) {x y : Kind} (ra rb : List Kind) (first : Bool) (idx dim : Nat),
    x.Diverge y → (∀ k ∈ p, k.ok) → idx < dim →
    tailStr (p ++ x :: ra) first idx dim ≠ tailStr (p ++ y :: rb) first idx dim := by
  intro p
  induction p with
  | nil => intro x y ra rb first idx dim hd _ hi; exact tailStr_diverge_head ra rb first hd hi
  | cons q p' ih =>
    intro x y ra rb first idx dim hd hp hi h
    have hp' : ∀ k ∈ p', k.ok := fun k hk => hp k (List.mem_cons_of_mem _ hk)
    simp only [List.cons_append] at h
    cases q with
    | skip => exact ih ra rb false idx dim hd hp' hi h
    | arr i len fresh =>
      have hil : i < len := hp _ List.mem_cons_self
      simp only [tailStr] at h
      split at h
      · exact ih ra rb false i len hd hp' hil (List.cons.inj (List.append_cancel_left h)).2
      · exact ih ra rb false _ _ hd hp' (radix_bound hi hil) h
    | key k =>
      have hne : ∀ (z : Kind) (r : List Kind), (p' ++ z :: r).isEmpty = false := fun _ _ => by cases p' <;> rfl
      simp only [tailStr, hne, Bool.false_eq_true, if_false] at h
      exact ih ra rb true 0 1 hd hp' (by omega)
        (List.cons.inj (List.append_cancel_left (List.append_cancel_left h))).2

theorem flat_or_sep : ∀ (ks : List Kind) (first : Bool) (idx dim : Nat),
    match flatIdx ks first idx dim with
    | some (T, D) => tailStr ks first idx dim = forkIndexStr D T
    | none => cUnder ∈ tailStr ks first idx dim ∨ cSlash ∈ tailStr ks first idx dim := by
  intro ks
  induction ks with
  | nil => intro _ _ _; rfl
  | cons k rest ih =>
    intro first idx dim
    cases k with
    | skip => exact ih false idx dim
    | arr i len fresh =>
      by_cases hc : (fresh && !first) = true
      · simp only [flatIdx, tailStr, hc, if_true]
        exact Or.inl (List.mem_append_right _ List.mem_cons_self)
      · simp only [flatIdx, tailStr, hc]
        exact ih false _ _
    | key k =>
      simp only [flatIdx, tailStr]
      cases first with
      | true => exact Or.inl (List.mem_append_right _ (List.mem_append_left _ (List.mem_append_left _ (by decide))))
      | false => exact Or.inr (List.mem_append_left _ (List.mem_append_right _ List.mem_cons_self))

theorem flat_zero : ∀ (ks : List Kind) (first : Bool) (idx dim : Nat), defaultCase ks first idx dim = true →
    (∀ k ∈ ks, k.ok) → 0 < dim → idx = 0 ∧ ∀ k ∈ ks, k = .skip ∨ ∃ len fresh, k = .arr 0 len fresh := by
  intro ks
  induction ks with
  | nil => intro _ idx _ h _ _; exact ⟨eq_of_beq h, fun _ hk => nomatch hk⟩
  | cons k rest ih =>
    intro first idx dim h hok hd
    have hok' : ∀ k ∈ rest, k.ok := fun k hk => hok k (List.mem_cons_of_mem _ hk)
    cases k with
    | skip =>
      obtain ⟨h0, hr⟩ := ih false idx dim h hok' hd
      exact ⟨h0, fun k hk => (List.mem_cons.mp hk).elim (fun e => Or.inl e) (hr k)⟩
    | arr i len fresh =>
      have hil : i < len := hok _ List.mem_cons_self
      rw [defaultCase_arr] at h
      split at h
      · cases h
      · obtain ⟨h0, hr⟩ := ih false _ _ h hok' (Nat.mul_pos hd (Nat.zero_lt_of_lt hil))
        have hi0 : i = 0 := by
          rcases Nat.mul_eq_zero.mp (Nat.eq_zero_of_add_eq_zero_left h0) with e | e
          · omega
          · exact e
        refine ⟨Nat.eq_zero_of_add_eq_zero_right h0, fun k hk => (List.mem_cons.mp hk).elim (fun e => ?_) (hr k)⟩
        exact Or.inr ⟨len, fresh, by rw [e, hi0]⟩
    | key k => cases h

theorem tailStr_ne_fork0 (b : List Kind) (hb : defaultCase b true 0 1 = false) : sFork0 ≠ tailStr b true 0 1 := by
  intro h
  have hs := flat_or_sep b true 0 1
  unfold defaultCase at hb
  split at hs
  · next T D hf =>
    rw [hf] at hb
    rw [hs] at h
    exact absurd (forkIndexStr_inj (d := 1) (i := 0) h) (Ne.symm (by simpa using hb))
  · rcases hs with m | m <;> (rw [← h] at m; revert m; decide)

theorem topStr_diverge (p : List Kind) {x y : Kind} (ra rb : List Kind) (hd : x.Diverge y)
    (hA : ∀ k ∈ p ++ x :: ra, k.ok) (hB : ∀ k ∈ p ++ y :: rb, k.ok) :
    topStr (p ++ x :: ra) ≠ topStr (p ++ y :: rb) := by
  intro h
  unfold topStr at h
  split at h <;> split at h
  · -- both default: both flat with total 0, so the diverging indices are both 0
    next ha hb =>
    have mem : ∀ (z : Kind) (r : List Kind), z ∈ p ++ z :: r := fun _ _ => List.mem_append_right _ List.mem_cons_self
    have hx := (flat_zero _ _ _ _ ha hA (by omega)).2 x (mem x ra)
    have hy := (flat_zero _ _ _ _ hb hB (by omega)).2 y (mem y rb)
    cases hd with
    | arr fresh hne _ _ =>
      rcases hx with e | ⟨_, _, e⟩ <;> cases e
      rcases hy with e | ⟨_, _, e⟩ <;> cases e
      exact hne rfl
    | key _ => rcases hx with e | ⟨_, _, e⟩ <;> cases e
  · next hb => exact tailStr_ne_fork0 _ (by simpa using hb) h
  · next ha _ => exact tailStr_ne_fork0 _ (by simpa using ha) h.symm
  · exact tailStr_diverge p ra rb true 0 1 hd (fun k hk => hA k (List.mem_append_left _ hk)) (by omega) h

theorem singleId_diverge {x y : Part} (hd : diverge x y = true) : singleId x ≠ singleId y := by
  cases x <;> cases y <;> simp only [diverge, Bool.and_eq_true, beq_iff_eq, bne_iff_ne, decide_eq_true_eq,
    Bool.false_eq_true] at hd
  · next i len st i' len' st' =>
    obtain ⟨⟨⟨⟨rfl, rfl⟩, hne⟩, hi⟩, hi'⟩ := hd
    have h1 : ∀ j, j < len → singleId (.arr j len st) = some (sFork ++ itoa j) := by
      intro j hj
      have hle : decide (len ≤ j) = false := decide_eq_false (by omega)
      simp only [singleId, hle, Bool.and_false, Bool.false_eq_true, if_false]
      split
      · next h0 => rw [eq_of_beq h0]; rfl
      · rfl
    rw [h1 i hi, h1 i' hi']
    exact fun e => hne (itoa_inj (List.append_cancel_left (Option.some.inj e)))
  · next k keys st k' keys' st' =>
    obtain ⟨⟨⟨⟨rfl, rfl⟩, hne⟩, hk⟩, hk'⟩ := hd
    simp only [singleId, hk, hk', Bool.not_true, Bool.and_false, Bool.false_eq_true, if_false]
    exact fun e => hne (pathEscape_inj (List.append_cancel_left (Option.some.inj e)))

theorem diverge_ok (x y : Part) (h : diverge x y = true) : partValid x = true ∧ partValid y = true := by
  cases x <;> cases y <;> simp only [diverge, Bool.and_eq_true, beq_iff_eq, decide_eq_true_eq, Bool.false_eq_true] at h
  · obtain ⟨⟨⟨⟨rfl, _⟩, _⟩, h1⟩, h2⟩ := h
    simp only [partValid, h1, h2, decide_true, and_self]
  · obtain ⟨⟨⟨⟨rfl, _⟩, _⟩, h1⟩, h2⟩ := h
    exact ⟨h1, h2⟩

theorem kinds_ok {ps : List Part} (h : ps.all partOk = true) : ∀ k ∈ ps.map Part.kind, k.ok := by
  intro k hk
  obtain ⟨p, hp, rfl⟩ := List.mem_map.mp hk
  exact kind_ok (List.all_eq_true.mp h p hp)

theorem forkIdString_diverge (p : List Part) (x y : Part) (ra rb : List Part)
    (hd : diverge x y = true) (hp : p.all partOk = true) (hra : ra.all partOk = true) (hrb : rb.all partOk = true)
    (hlen : ra.length = rb.length) :
    forkIdString true true (p ++ x :: ra) ≠ forkIdString true true (p ++ y :: rb) := by
  obtain ⟨vx, vy⟩ := diverge_ok x y hd
  have okx : partOk x = true := by simp [partOk, vx]
  have oky : partOk y = true := by simp [partOk, vy]
  by_cases h2 : 2 ≤ (p ++ x :: ra).length
  · have h2' : 2 ≤ (p ++ y :: rb).length := by simp at h2 ⊢; omega
    have hA : (p ++ x :: ra).all partOk = true := by simp [hp, okx, hra]
    have hB : (p ++ y :: rb).all partOk = true := by simp [hp, oky, hrb]
    rw [forkIdString_topStr _ hA h2, forkIdString_topStr _ hB h2']
    have kA := kinds_ok hA
    have kB := kinds_ok hB
    simp only [List.map_append, List.map_cons] at kA kB ⊢
    exact fun h => topStr_diverge _ _ _ (diverge_kind hd) kA kB (Option.some.inj h)
  · have hp0 : p = [] := List.eq_nil_of_length_eq_zero (by simp at h2; omega)
    have hra0 : ra = [] := List.eq_nil_of_length_eq_zero (by simp at h2; omega)
    have hrb0 : rb = [] := List.eq_nil_of_length_eq_zero (by rw [← hlen, hra0]; rfl)
    subst hp0 hra0 hrb0
    exact singleId_diverge hd

theorem sameShapeP_eq_or_diverge {p q : Part} (hs : sameShapeP p q = true) (hp : partOk p = true)
    (hq : partOk q = true) : p = q ∨ diverge p q = true := by
  cases p <;> cases q <;> simp only [sameShapeP, Bool.and_eq_true, beq_iff_eq, Bool.or_eq_true, bne_iff_ne,
    Bool.not_eq_true', Bool.false_eq_true] at hs
  · next i l s i' l' s' =>
    obtain ⟨⟨rfl, rfl⟩, hpay⟩ := hs
    by_cases e : i = i'
    · exact Or.inl (by rw [e])
    · have hl : l ≠ 0 := hpay.resolve_right e
      exact Or.inr (by simp [diverge, e, ok_not_skip_arr hp hl, ok_not_skip_arr hq hl])
  · next k ks s k' ks' s' =>
    obtain ⟨⟨rfl, rfl⟩, hpay⟩ := hs
    by_cases e : k = k'
    · exact Or.inl (by rw [e])
    · have hl : ks.isEmpty = false := hpay.resolve_right e
      exact Or.inr (by simp only [diverge, beq_self_eq_true, bne_iff_ne.mpr e, ok_not_skip_key hp hl,
        ok_not_skip_key hq hl, Bool.and_self])
  · exact Or.inl rfl
  · exact Or.inl rfl

theorem sameShape_isEmpty : ∀ (a b : List Part), sameShape a b = true → a.isEmpty = b.isEmpty := by
  intro a b h
  cases a <;> cases b <;> simp_all [sameShape]

theorem sameShape_length : ∀ (a b : List Part), sameShape a b = true → a.length = b.length := by
  intro a
  induction a with
  | nil => intro b h; cases b <;> simp_all [sameShape]
  | cons p r ih =>
    intro b h
    cases b with
    | nil => simp [sameShape] at h
    | cons q s =>
      simp only [sameShape, Bool.and_eq_true] at h
      simp [ih s h.2]

theorem sameShape_eq_or_diverge : ∀ (a b : List Part), sameShape a b = true →
    a.all partOk = true → b.all partOk = true →
    a = b ∨ ∃ p x y ra rb, a = p ++ x :: ra ∧ b = p ++ y :: rb ∧ diverge x y = true ∧ ra.length = rb.length := by
  intro a
  induction a with
  | nil => intro b hs _ _; cases b with
    | nil => exact Or.inl rfl
    | cons _ _ => cases hs
  | cons p ra ih =>
    intro b hs hva hvb
    cases b with
    | nil => cases hs
    | cons q rb =>
      simp only [sameShape, List.all_cons, Bool.and_eq_true] at hs hva hvb
      rcases sameShapeP_eq_or_diverge hs.1 hva.1 hvb.1 with rfl | hd
      · rcases ih rb hs.2 hva.2 hvb.2 with rfl | ⟨p', x, y, ra', rb', rfl, rfl, hd, hl⟩
        · exact Or.inl rfl
        · exact Or.inr ⟨p :: p', x, y, ra', rb', rfl, rfl, hd, hl⟩
      · exact Or.inr ⟨[], p, q, ra, rb, rfl, rfl, hd, sameShape_length _ _ hs.2⟩

theorem forkIdString_inj (a b : List Part) (hs : sameShape a b = true)
    (hva : a.all partOk = true) (hvb : b.all partOk = true)
    (h : forkIdString true true a = forkIdString true true b) : a = b := by
  rcases sameShape_eq_or_diverge a b hs hva hvb with e | ⟨p, x, y, ra, rb, rfl, rfl, hd, hl⟩
  · exact e
  · simp only [List.all_append, List.all_cons, Bool.and_eq_true] at hva hvb
    exact absurd h (forkIdString_diverge p x y ra rb hd hva.1 hva.2.2 hvb.2.2 hl)

/-! ## The fork set of one node -/

theorem srcParts_nodup (s : Src) (h : srcOk s) : (srcParts s).Nodup := by
  cases s with
  | arr len =>
    simp only [srcParts]
    refine Proofs.ListFacts.nodup_map_of_inj_on List.nodup_range ?_
    intro a _ b _ e
    simpa using e
  | keys ks =>
    simp only [srcParts]
    refine Proofs.ListFacts.nodup_map_of_inj_on h ?_
    intro a _ b _ e
    simpa using e
  | undet => simp [srcParts]

theorem srcParts_shape (s : Src) (p q : Part) (hp : p ∈ srcParts s) (hq : q ∈ srcParts s) :
    sameShapeP p q = true ∧ partOk p = true := by
  cases s with
  | arr len =>
    simp only [srcParts, List.mem_map, List.mem_range] at hp hq
    obtain ⟨i, hi, rfl⟩ := hp
    obtain ⟨j, hj, rfl⟩ := hq
    have : len ≠ 0 := by omega
    simp [sameShapeP, partOk, partValid, hi, this]
  | keys ks =>
    simp only [srcParts, List.mem_map] at hp hq
    obtain ⟨k, hk, rfl⟩ := hp
    obtain ⟨k', hk', rfl⟩ := hq
    have hne : ks.isEmpty = false := by cases ks <;> simp_all
    simp [sameShapeP, partOk, partValid, hk, hne]
  | undet =>
    simp only [srcParts, List.mem_singleton] at hp hq
    subst hp; subst hq
    simp [sameShapeP, partOk, partSkip]

theorem makeForkIds_shape : ∀ (srcs : List Src) (a b : List Part), a ∈ makeForkIds srcs → b ∈ makeForkIds srcs →
    sameShape a b = true ∧ a.all partOk = true := by
  intro srcs
  induction srcs with
  | nil =>
    intro a b ha hb
    rw [makeForkIds, List.mem_singleton] at ha hb
    subst ha hb
    exact ⟨rfl, rfl⟩
  | cons s rest ih =>
    intro a b ha hb
    simp only [makeForkIds, List.mem_flatMap, List.mem_map] at ha hb
    obtain ⟨ta, hta, p, hp, rfl⟩ := ha
    obtain ⟨tb, htb, q, hq, rfl⟩ := hb
    obtain ⟨h1, h2⟩ := srcParts_shape s p q hp hq
    obtain ⟨h3, h4⟩ := ih ta tb hta htb
    simp [sameShape, h1, h2, h3, h4]

theorem makeForkIds_nodup : ∀ (srcs : List Src), (∀ s ∈ srcs, srcOk s) → (makeForkIds srcs).Nodup
  | [], _ => by simp [makeForkIds]
  | s :: rest, h =>
    Proofs.ListFacts.nodup_flatMap_map (makeForkIds_nodup rest fun x hx => h x (List.mem_cons_of_mem _ hx))
      (fun _ _ => srcParts_nodup s (h s List.mem_cons_self))
      fun _ _ _ _ e => ⟨(List.cons.inj e).2, (List.cons.inj e).1⟩

theorem forkSet_names_nodup_tt (srcs : List Src) (h : ∀ s ∈ srcs, srcOk s) :
    ((makeForkIds srcs).map (forkIdString true true)).Nodup := by
  apply Proofs.ListFacts.nodup_map_of_inj_on (makeForkIds_nodup srcs h)
  intro a ha b hb e
  obtain ⟨hs, hva⟩ := makeForkIds_shape srcs a b ha hb
  exact forkIdString_inj a b hs hva (makeForkIds_shape srcs b a hb ha).2 e

end Martian.ForkName
