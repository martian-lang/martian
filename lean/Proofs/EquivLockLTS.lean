import Martian.EquivLockLTS
import Martian.EquivLockLTSOld

/-! Two parts.  The lock protocol `Martian.LockLTS`: every disciplined step keeps the invariant `Inv` (at most one owner,
and then the lock file exists; only owners are registered), hence every disciplined run (`inv_step`, `inv_run`);
`drop_atMostOne` does the steps in which a process dies.  The check-then-write variant `Martian.LockLTSOld`
(`Martian/EquivLockLTSOld.lean`): the same for its own `Inv`, which also bounds the processes between check and write. -/
namespace Martian.LockLTS
open List

theorem drop_of_not_mem {p : Nat} : ∀ {l : List Nat}, p ∉ l → drop p l = l
  | [], _ => rfl
  | x :: l, h => by
    simp only [mem_cons, not_or] at h
    have hx : (x != p) = true := by simpa using fun e => h.1 e.symm
    simp only [drop, filter_cons, hx, if_true, cons.injEq, true_and]
    exact drop_of_not_mem h.2

theorem mem_drop {p x : Nat} {l : List Nat} : x ∈ drop p l ↔ x ∈ l ∧ x ≠ p := by
  simp [drop]

theorem drop_atMostOne {P P' : Prop} (p : Nat) {l : List Nat}
    (h : l = [] ∨ ∃ x, l = [x] ∧ P) (hP : ∀ x, l = [x] → x ≠ p → P → P') :
    drop p l = [] ∨ ∃ x, drop p l = [x] ∧ P' := by
  rcases h with rfl | ⟨x, rfl, hx⟩
  · exact Or.inl rfl
  · by_cases hxp : x = p
    · exact Or.inl (by simp [drop, hxp])
    · exact Or.inr ⟨x, by simp [drop, hxp], hP x rfl hxp hx⟩

/-- invariant of every run in which the operator removes `_lock` only when nobody owns it -/
structure Inv (s : St) : Prop where
  owner : s.holders = [] ∨ ∃ h, s.holders = [h] ∧ s.lockFile = true
  reg : ∀ x, x ∈ s.registered → x ∈ s.holders

theorem inv_init : Inv init := ⟨Or.inl rfl, by simp [init]⟩

theorem holders_nil_of_unlocked {s : St} (hi : Inv s) (h : s.lockFile = false) : s.holders = [] := by
  rcases hi.owner with h0 | ⟨x, _, hl⟩
  · exact h0
  · rw [h] at hl; cases hl

theorem inv_step (s : St) (a : Act) (hi : Inv s) (he : enabled s a = true) (hd : disciplined s a = true) :
    Inv (step false false s a).1 := by
  have acquire : ∀ p, Inv (step false false s (.acquire p)).1 := fun p => by
    cases hl : s.lockFile
    · have hh := holders_nil_of_unlocked hi hl
      simp only [step, hl, Bool.false_eq_true, if_false]
      refine ⟨Or.inr ⟨p, by simp [hh], rfl⟩, ?_⟩
      intro x hx; exact mem_cons_of_mem _ (hi.reg x hx)
    · have : (step false false s (.acquire p)).1 = s := by
        cases s; simp_all [step]
      rw [this]; exact hi
  cases a with
  | acquire p => exact acquire p
  -- a start that does not remove the directory when refused is `Lock()` and nothing else
  | start p => exact acquire p
  | register p =>
    simp only [enabled, Bool.and_eq_true, contains_iff_mem] at he
    simp only [step]
    refine ⟨hi.owner, ?_⟩
    intro x hx
    rcases mem_cons.mp hx with rfl | hx
    · exact he.1
    · exact hi.reg x hx
  | unlock p =>
    simp only [enabled, contains_iff_mem] at he
    rcases hi.owner with h0 | ⟨h, hh, hl⟩
    · rw [h0] at he; cases he
    · have hph : p = h := by simpa [hh] using he
      subst hph
      simp only [step]
      refine ⟨Or.inl (by simp [hh, drop]), ?_⟩
      intro x hx
      have := hi.reg x (mem_drop.mp hx).1
      rw [hh] at this
      exact absurd (by simpa using this) (mem_drop.mp hx).2
  | signal p =>
    simp only [step]
    refine ⟨drop_atMostOne p hi.owner fun x hx hne hl => ?_, fun x hx =>
      mem_drop.mpr ⟨hi.reg x (mem_drop.mp hx).1, (mem_drop.mp hx).2⟩⟩
    -- the owner `x ≠ p` survives, and `p`, not being an owner, is not registered
    have hnm : p ∉ s.registered := fun hm => by
      have : p = x := by simpa [hx] using hi.reg p hm
      exact hne this.symm
    simp [hl, hnm]
  | kill p =>
    simp only [step]
    exact ⟨drop_atMostOne p hi.owner fun _ _ _ hl => hl, fun x hx =>
      mem_drop.mpr ⟨hi.reg x (mem_drop.mp hx).1, (mem_drop.mp hx).2⟩⟩
  | rmLock =>
    simp only [disciplined, isEmpty_iff] at hd
    simp only [step]
    refine ⟨Or.inl hd, hi.reg⟩
  | acquireErr p => simp [disciplined] at hd
  | startFail p => simpa [step] using hi
  | acquireFail p => simpa [step] using hi

theorem inv_run : ∀ (tr : List Act) (s s' : St), Inv s → run false false disciplined s tr = some s' → Inv s'
  | [], s, s', hi, h => by simp only [run, Option.some.injEq] at h; exact h ▸ hi
  | a :: r, s, s', hi, h => by
    simp only [run] at h
    by_cases hc : (enabled s a && disciplined s a) = true
    · simp only [hc, if_true] at h
      simp only [Bool.and_eq_true] at hc
      exact inv_run r _ s' (inv_step s a hi hc.1 hc.2) h
    · simp [hc] at h

end Martian.LockLTS

/-! ## The check-then-write variant.  Its `drop` is the `drop` of `Martian.LockLTS` under another name. -/
namespace Martian.LockLTSOld
open List

theorem drop_of_not_mem {p : Nat} : ∀ {l : List Nat}, p ∉ l → drop p l = l :=
  LockLTS.drop_of_not_mem

theorem reg_drop {reg chk hold : List Nat} (p : Nat) (h : ∀ x, x ∈ reg ↔ x ∈ chk ∨ x ∈ hold) :
    ∀ x, x ∈ drop p reg ↔ x ∈ drop p chk ∨ x ∈ drop p hold := by
  intro x
  exact (LockLTS.mem_drop.trans (by rw [h x, or_and_right])).trans
    (or_congr LockLTS.mem_drop LockLTS.mem_drop).symm

/-- invariant of disciplined runs (handler registered after the check) -/
structure Inv (s : St) : Prop where
  owner : s.holders = [] ∨ ∃ h, s.holders = [h] ∧ s.lockFile = true
  acquiring : s.checked = [] ∨ ∃ c, s.checked = [c] ∧ s.lockFile = false ∧ s.holders = []
  reg : ∀ x, x ∈ s.registered ↔ x ∈ s.checked ∨ x ∈ s.holders

theorem inv_init : Inv init := ⟨Or.inl rfl, Or.inl rfl, by simp [init]⟩

theorem holders_nil_of_unlocked {s : St} (hi : Inv s) (h : s.lockFile = false) : s.holders = [] := by
  rcases hi.owner with h0 | ⟨x, _, hl⟩
  · exact h0
  · rw [h] at hl; cases hl

theorem checked_nil_of_owner {s : St} (hi : Inv s) {x : Nat} (hx : s.holders = [x]) :
    s.checked = [] := by
  rcases hi.acquiring with h0 | ⟨c, _, _, hn⟩
  · exact h0
  · rw [hx] at hn; cases hn

theorem inv_step (s : St) (a : Act) (hi : Inv s) (he : enabled s a = true) (hd : disciplined s a = true) :
    Inv (step false s a).1 := by
  cases a with
  | check p =>
    simp only [disciplined, isEmpty_iff] at hd
    cases hl : s.lockFile
    · have hh := holders_nil_of_unlocked hi hl
      simp only [step, hl, Bool.false_eq_true, if_false]
      refine ⟨Or.inl hh, Or.inr ⟨p, by simp [hd], rfl, hh⟩, ?_⟩
      intro x; simp [hi.reg x, hd, hh]
    · have : (step false s (.check p)).1 = s := by
        cases s; simp_all [step]
      rw [this]; exact hi
  | write p =>
    simp only [enabled, contains_iff_mem] at he
    rcases hi.acquiring with h0 | ⟨c, hc, hl, hh⟩
    · rw [h0] at he; cases he
    · have hpc : p = c := by simpa [hc] using he
      subst hpc
      simp only [step]
      refine ⟨Or.inr ⟨p, by simp [hh], rfl⟩, Or.inl (by simp [hc, drop]), ?_⟩
      intro x; simp [hi.reg x, hc, hh, drop]
  | unlock p =>
    simp only [enabled, contains_iff_mem] at he
    rcases hi.owner with h0 | ⟨h, hh, hl⟩
    · rw [h0] at he; cases he
    · have hph : p = h := by simpa [hh] using he
      subst hph
      have hc := checked_nil_of_owner hi hh
      simp only [step]
      refine ⟨Or.inl (by simp [hh, drop]), Or.inl hc, ?_⟩
      intro x; simp [hi.reg x, hc, hh, drop]
  | signal p =>
    simp only [step]
    refine ⟨LockLTS.drop_atMostOne p hi.owner fun x hx hne hl => ?_,
      LockLTS.drop_atMostOne p hi.acquiring fun _ _ _ h => ?_, reg_drop p hi.reg⟩
    · -- the owner `x ≠ p` survives, and `p`, neither owner nor acquiring, is not registered
      have hnm : p ∉ s.registered := by
        rw [hi.reg p, checked_nil_of_owner hi hx, hx]; simpa using fun e => hne e.symm
      simp [hl, hnm]
    · simp [h.1, h.2, drop]
  | kill p =>
    simp only [step]
    exact ⟨LockLTS.drop_atMostOne p hi.owner fun _ _ _ hl => hl,
      LockLTS.drop_atMostOne p hi.acquiring fun _ _ _ h => ⟨h.1, by simp [h.2, drop]⟩, reg_drop p hi.reg⟩
  | rmLock =>
    simp only [disciplined, Bool.and_eq_true, isEmpty_iff] at hd
    simp only [step]
    exact ⟨Or.inl hd.1, Or.inl hd.2, hi.reg⟩

theorem inv_run : ∀ (tr : List Act) (s s' : St), Inv s → run false disciplined s tr = some s' → Inv s'
  | [], s, s', hi, h => by simp only [run, Option.some.injEq] at h; exact h ▸ hi
  | a :: r, s, s', hi, h => by
    simp only [run] at h
    by_cases hc : (enabled s a && disciplined s a) = true
    · simp only [hc, if_true] at h
      simp only [Bool.and_eq_true] at hc
      exact inv_run r _ s' (inv_step s a hi hc.1 hc.2) h
    · simp [hc] at h

end Martian.LockLTSOld
