import Martian.FormatExpText

/-!
C09, accepted texts: from the range of the raw reader to `wf` of what Go's
`ParseValExp` holds (`canon g` of the raw result), and the float leaves of a
normal form are fixed by `canon g`.

* `wf_canon`: `GOK g`, `wfRaw e`, valid strings and no `-0` in `canon g e` give `wf (canon g e)`.
* `canon_norm_fixed`: `canon g (norm (canon g e)) = norm (canon g e)`: reading the printed form
  and canonicalising the floats again changes nothing (clause `fixed` of `GOK`).
-/

namespace Martian.FormatExp
open Martian.Lexer (Bytes parseInt)

theorem isVal_canon (g : Bytes → Bytes) (e : Exp) : isVal (canon g e) = isVal e := by
  cases e <;> simp [canon, isVal]

theorem sortedKeys_canonKV (g : Bytes → Bytes) : ∀ kvs : List (Bytes × Exp),
    sortedKeys (canonKV g kvs) = sortedKeys kvs := by
  have hall : ∀ (k : Bytes) (kvs : List (Bytes × Exp)),
      (canonKV g kvs).all (fun kv => bytesLt k kv.1) = kvs.all (fun kv => bytesLt k kv.1) := by
    intro k kvs
    induction kvs with
    | nil => simp [canonKV]
    | cons kv r ih => obtain ⟨k', v'⟩ := kv; simp [canonKV, ih]
  intro kvs
  induction kvs with
  | nil => simp [canonKV]
  | cons kv r ih => obtain ⟨k', v'⟩ := kv; simp [canonKV, sortedKeys, hall, ih]

theorem wf_canon_float (g : Bytes → Bytes) (hg : GOK g) (t : Bytes) (hr : wfRaw (.float t) = true)
    (hz : noNegZero (canon g (.float t)) = true) : wf (canon g (.float t)) = true := by
  simp only [wfRaw] at hr
  simp only [canon, noNegZero, Bool.not_eq_true', beq_eq_false_iff_ne, ne_eq] at hz
  simp only [canon, wf, Bool.or_eq_true]
  rcases hg.range t hr with h | h | h
  · exact Or.inl h
  · exact Or.inr h
  · exact absurd h hz

mutual
theorem wf_canon (g : Bytes → Bytes) (hg : GOK g) : ∀ e : Exp, wfRaw e = true →
    strsValid (canon g e) = true → noNegZero (canon g e) = true → wf (canon g e) = true
  | .null, _, _, _ => rfl
  | .nilArr, _, _, _ => rfl
  | .bool _, _, _, _ => rfl
  | .int _, h, _, _ => h
  | .str _, _, hs, _ => hs
  | .ref .., h, _, _ => h
  | .float t, hr, _, hz => wf_canon_float g hg t hr hz
  | .arr xs, hr, hs, hz => by
    simp only [wfRaw] at hr
    simp only [canon, strsValid] at hs
    simp only [canon, noNegZero] at hz
    simp only [canon, wf]
    exact wfL_canon g hg xs hr hs hz
  | .map kvs, hr, hs, hz => by
    simp only [wfRaw, Bool.and_eq_true] at hr
    simp only [canon, strsValid] at hs
    simp only [canon, noNegZero] at hz
    simp only [canon, wf, Bool.and_eq_true, sortedKeys_canonKV]
    exact ⟨hr.1, wfKV_canon g hg false kvs hr.2 hs hz⟩
  | .struct kvs, hr, hs, hz => by
    simp only [wfRaw, Bool.and_eq_true] at hr
    simp only [canon, strsValid] at hs
    simp only [canon, noNegZero] at hz
    simp only [canon, wf, Bool.and_eq_true, sortedKeys_canonKV]
    exact ⟨hr.1, wfKV_canon g hg true kvs hr.2 hs hz⟩
theorem wfL_canon (g : Bytes → Bytes) (hg : GOK g) : ∀ xs : List Exp, wfRawL xs = true →
    strsValidL (canonL g xs) = true → noNegZeroL (canonL g xs) = true → wfL (canonL g xs) = true
  | [], _, _, _ => rfl
  | x :: r, hr, hs, hz => by
    simp only [wfRawL, Bool.and_eq_true] at hr
    simp only [canonL, strsValidL, Bool.and_eq_true] at hs
    simp only [canonL, noNegZeroL, Bool.and_eq_true] at hz
    simp only [canonL, wfL, Bool.and_eq_true]
    exact ⟨wf_canon g hg x hr.1 hs.1 hz.1, wfL_canon g hg r hr.2 hs.2 hz.2⟩
theorem wfKV_canon (g : Bytes → Bytes) (hg : GOK g) (s : Bool) : ∀ kvs : List (Bytes × Exp),
    wfRawKV s kvs = true → strsValidKV (!s) (canonKV g kvs) = true →
    noNegZeroKV (canonKV g kvs) = true → wfKV s (canonKV g kvs) = true
  | [], _, _, _ => rfl
  | (k, v) :: r, hr, hs, hz => by
    simp only [wfRawKV, Bool.and_eq_true] at hr
    simp only [canonKV, strsValidKV, Bool.and_eq_true] at hs
    simp only [canonKV, noNegZeroKV, Bool.and_eq_true] at hz
    simp only [canonKV, wfKV, Bool.and_eq_true]
    refine ⟨⟨?_, wf_canon g hg v hr.1.2 hs.1.2 hz.1⟩, wfKV_canon g hg s r hr.2 hs.2 hz.2⟩
    cases s with
    | true => simpa using hr.1.1
    | false => simpa using hs.1.1
end

theorem canon_norm_fixed_float (g : Bytes → Bytes) (hg : GOK g) (t : Bytes) (hr : wfRaw (.float t) = true)
    (hw : wf (canon g (.float t)) = true) :
    canon g (norm (canon g (.float t))) = norm (canon g (.float t)) := by
  simp only [wfRaw] at hr
  simp only [canon, wf, Bool.or_eq_true] at hw
  simp only [canon, norm]
  by_cases hft : isFloatTok (g t) = true
  · simp only [hft, ↓reduceIte, canon, hg.fixed t hr hft]
  · simp only [hft, Bool.false_eq_true, ↓reduceIte]
    rcases hw with hw | hw
    · exact absurd hw hft
    · unfold isCanonInt at hw
      cases hp : parseInt (g t) with
      | none => simp [hp] at hw
      | some i => simp only [canon]

mutual
theorem canon_norm_fixed (g : Bytes → Bytes) (hg : GOK g) : ∀ e : Exp, wfRaw e = true →
    wf (canon g e) = true → canon g (norm (canon g e)) = norm (canon g e)
  | .null, _, _ => rfl
  | .nilArr, _, _ => rfl
  | .bool _, _, _ => rfl
  | .int _, _, _ => rfl
  | .str _, _, _ => rfl
  | .ref .., _, _ => rfl
  | .float t, hr, hw => canon_norm_fixed_float g hg t hr hw
  | .arr xs, hr, hw => by
    simp only [wfRaw] at hr
    simp only [canon, wf] at hw
    simp only [canon, norm, canonL_normL_fixed g hg xs hr hw]
  | .map kvs, hr, hw => by
    simp only [wfRaw, Bool.and_eq_true] at hr
    simp only [canon, wf, Bool.and_eq_true] at hw
    simp only [canon, norm, canonKV_normKV_fixed g hg false kvs hr.2 hw.2]
  | .struct [], _, _ => rfl
  | .struct ((k, v) :: r), hr, hw => by
    simp only [wfRaw, Bool.and_eq_true] at hr
    simp only [canon, wf, Bool.and_eq_true] at hw
    have := canonKV_normKV_fixed g hg true ((k, v) :: r) hr.2 hw.2
    simp only [canonKV] at this
    simp only [canon, canonKV, norm, this]
theorem canonL_normL_fixed (g : Bytes → Bytes) (hg : GOK g) : ∀ xs : List Exp, wfRawL xs = true →
    wfL (canonL g xs) = true → canonL g (normL (canonL g xs)) = normL (canonL g xs)
  | [], _, _ => rfl
  | x :: r, hr, hw => by
    simp only [wfRawL, Bool.and_eq_true] at hr
    simp only [canonL, wfL, Bool.and_eq_true] at hw
    simp only [canonL, normL, canon_norm_fixed g hg x hr.1 hw.1, canonL_normL_fixed g hg r hr.2 hw.2]
theorem canonKV_normKV_fixed (g : Bytes → Bytes) (hg : GOK g) (s : Bool) : ∀ kvs : List (Bytes × Exp),
    wfRawKV s kvs = true → wfKV s (canonKV g kvs) = true →
    canonKV g (normKV (canonKV g kvs)) = normKV (canonKV g kvs)
  | [], _, _ => rfl
  | (k, v) :: r, hr, hw => by
    simp only [wfRawKV, Bool.and_eq_true] at hr
    simp only [canonKV, wfKV, Bool.and_eq_true] at hw
    simp only [canonKV, normKV, canon_norm_fixed g hg v hr.1.2 hw.1.2,
      canonKV_normKV_fixed g hg s r hr.2 hw.2]
end

theorem gok_id : GOK id := ⟨fun _ h => Or.inl h, fun _ _ _ => rfl⟩

theorem gok_gSample : GOK gSample := by
  constructor
  · intro t ht
    unfold gSample
    split
    · exact Or.inr (Or.inl (by decide))
    · split
      · exact Or.inr (Or.inr rfl)
      · exact Or.inl ht
  · intro t _ h
    by_cases h1 : t = [0x31, 0x65, 0x33]
    · subst h1; exact absurd h (by decide)
    · by_cases h2 : t = [0x2D, 0x30, 0x2E, 0x30]
      · subst h2; exact absurd h (by decide)
      · have : gSample t = t := by simp [gSample, h1, h2]
        rw [this, this]

end Martian.FormatExp
