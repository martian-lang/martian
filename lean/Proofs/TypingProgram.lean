/-
The whole-program soundness theorem (Martian/TypingProgram.lean): induction over
the calls of a pipeline body in dependency order, establishing the store
invariant call by call, inside an induction over the nesting depth of pipelines.
The last part: a program without a `disabled` modifier never stops at `nullDisabled` (`RcND`, `stepCall_nd`,
`runCalls_nd`, `runPipe_nd`, `run_nd`).
-/
import Martian.TypingProgram
import Proofs.TypingRun

namespace Martian.Typing
open Martian.Json Martian.Types

mutual
  theorem tyEq_sound : ∀ (a b : Ty), tyEq a b = true → a = b
    | .base a, .base b, h => by simpa [tyEq] using h
    | .user a, .user b, h => by simpa [tyEq] using h
    | .arr a, .arr b, h => by simp only [tyEq] at h; rw [tyEq_sound a b h]
    | .tmap a, .tmap b, h => by simp only [tyEq] at h; rw [tyEq_sound a b h]
    | .struct n fs, .struct m gs, h => by
      simp only [tyEq, Bool.and_eq_true, beq_iff_eq] at h
      rw [h.1, fieldsEq_sound fs gs h.2]
    | .base _, .user _, h | .base _, .arr _, h | .base _, .tmap _, h | .base _, .struct _ _, h
    | .user _, .base _, h | .user _, .arr _, h | .user _, .tmap _, h | .user _, .struct _ _, h
    | .arr _, .base _, h | .arr _, .user _, h | .arr _, .tmap _, h | .arr _, .struct _ _, h
    | .tmap _, .base _, h | .tmap _, .user _, h | .tmap _, .arr _, h | .tmap _, .struct _ _, h
    | .struct _ _, .base _, h | .struct _ _, .user _, h | .struct _ _, .arr _, h | .struct _ _, .tmap _, h => by
      simp [tyEq] at h
  theorem fieldsEq_sound : ∀ (a b : Fields), fieldsEq a b = true → a = b
    | .nil, .nil, _ => rfl
    | .cons k t r, .cons k' t' r', h => by
      simp only [fieldsEq, Bool.and_eq_true, beq_iff_eq] at h
      rw [h.1.1, tyEq_sound t t' h.1.2, fieldsEq_sound r r' h.2]
    | .nil, .cons _ _ _, h | .cons _ _ _, .nil, h => by simp [fieldsEq] at h
end

theorem paramsEq_sound : ∀ (a b : List (Bytes × Ty)), paramsEq a b = true → a = b
  | [], [], _ => rfl
  | (k, t) :: r, (k', t') :: r', h => by
    simp only [paramsEq, Bool.and_eq_true, beq_iff_eq] at h
    rw [h.1.1, tyEq_sound t t' h.1.2, paramsEq_sound r r' h.2]
  | [], _ :: _, h | _ :: _, [], h => by simp [paramsEq] at h

theorem calleeEq_sound (a b : Callee) (h : calleeEq a b = true) : a = b := by
  simp only [calleeEq, Bool.and_eq_true, beq_iff_eq] at h
  cases a; cases b
  simp only at h
  obtain ⟨⟨⟨h1, h2⟩, h3⟩, h4⟩ := h
  subst h1 h2
  rw [paramsEq_sound _ _ h3, fieldsEq_sound _ _ h4]

/-- what a runner must do for one callable: conforming inputs ⇒ it does not fail:
it returns outputs that conform to the declared output struct, or it stops at a
`disabled` modifier that resolved to null -/
def RcOk (rc : Runner) (c : Callee) : Prop :=
  ∀ ins : List (Bytes × J),
    (∀ x t, c.params.lookup x = some t → ∃ v, ins.lookup x = some v ∧ valid t v = true) →
    rc c ins = .nullDisabled ∨ ∃ out, rc c ins = .ok out ∧ valid (.struct c.name c.outs) out = true

theorem collect_map {α β : Type} (f : α → Res β) (R : α → β → Prop) :
    ∀ (xs : List α), (∀ x ∈ xs, f x = .nullDisabled ∨ ∃ w, f x = .ok w ∧ R x w) →
      Res.collect (xs.map f) = .nullDisabled ∨
        ∃ ws, Res.collect (xs.map f) = .ok ws ∧ ∀ w ∈ ws, ∃ x ∈ xs, R x w
  | [], _ => Or.inr ⟨[], rfl, by simp⟩
  | x :: xs, h => by
    have ih := collect_map f R xs (fun y hy => h y (List.mem_cons_of_mem _ hy))
    rcases h x List.mem_cons_self with hx | ⟨w, hw, hr⟩
    · rcases ih with hn | ⟨ws, hws, _⟩
      · exact Or.inl (by simp [Res.collect, hx, hn])
      · exact Or.inl (by simp [Res.collect, hx, hws])
    · rcases ih with hn | ⟨ws, hws, hall⟩
      · exact Or.inl (by simp [Res.collect, hw, hn])
      · refine Or.inr ⟨w :: ws, by simp [Res.collect, hw, hws], ?_⟩
        intro w' hw'
        rcases List.mem_cons.mp hw' with rfl | hw'
        · exact ⟨x, List.mem_cons_self, hr⟩
        · obtain ⟨y, hy, hr'⟩ := hall w' hw'
          exact ⟨y, List.mem_cons_of_mem _ hy, hr'⟩

theorem argLists_sound (Γ : Env) (ρ : Store) (hρ : StoreOk Γ ρ) (bs : List (Bytes × Bind)) :
    ∀ (params : List (Bytes × Ty)),
      (∀ x t, (x, t) ∈ params → t.wf = true ∧ ∃ b, bs.lookup x = some b ∧ b.wf = true ∧
          validBind Γ t b = true ∧ bindHoleFreeT Γ t b = true) →
      ∃ args, argLists Γ ρ bs params = some args ∧ args.map Prod.fst = params.map Prod.fst ∧
        ∀ x t, (x, t) ∈ params → ∃ sp vs, (x, sp, vs) ∈ args ∧ ∀ v ∈ vs, valid t v = true
  | [], _ => ⟨[], rfl, rfl, by simp⟩
  | (x, t) :: r, h => by
    obtain ⟨htw, b, hl, hbw, hvb, hhf⟩ := h x t List.mem_cons_self
    obtain ⟨vs, hd, hval⟩ := bind_sound_rt Γ ρ hρ t htw b hbw hvb hhf
    obtain ⟨as, has, hkeys, hall⟩ := argLists_sound Γ ρ hρ bs r (fun x' t' hm => h x' t' (List.mem_cons_of_mem _ hm))
    have hchk : vs.all (fun v => valid t v) = true := List.all_eq_true.mpr hval
    refine ⟨(x, b.isSplit, vs) :: as, by simp [argLists, hl, hd, hchk, has], by simp [hkeys], ?_⟩
    intro x' t' hm
    rcases List.mem_cons.mp hm with heq | hm
    · cases heq
      exact ⟨b.isSplit, vs, List.mem_cons_self, hval⟩
    · obtain ⟨sp, vs', hmem, hv'⟩ := hall x' t' hm
      exact ⟨sp, vs', List.mem_cons_of_mem _ hmem, hv'⟩

theorem getD_valid (t : Ty) (vs : List J) (i : Nat) (h : ∀ v ∈ vs, valid t v = true) :
    valid t (vs.getD i .null) = true := by
  by_cases hi : i < vs.length
  · have : vs.getD i .null = vs[i] := by simp [List.getD, hi]
    rw [this]; exact h _ (List.getElem_mem hi)
  · have : vs.getD i .null = .null := by simp [List.getD, Nat.le_of_not_lt hi]
    rw [this]; exact valid_null t

theorem headD_valid (t : Ty) (vs : List J) (h : ∀ v ∈ vs, valid t v = true) :
    valid t (vs.headD .null) = true := by
  cases vs with
  | nil => exact valid_null t
  | cons a r => exact h a List.mem_cons_self

theorem forkInputs_ok (params : List (Bytes × Ty)) (args : List (Bytes × Bool × List J)) (i : Nat)
    (hn : (params.map Prod.fst).Nodup) (hkeys : args.map Prod.fst = params.map Prod.fst)
    (hall : ∀ x t, (x, t) ∈ params → ∃ sp vs, (x, sp, vs) ∈ args ∧ ∀ v ∈ vs, valid t v = true) :
    ∀ x t, params.lookup x = some t → ∃ v, (forkInputs args i).lookup x = some v ∧ valid t v = true := by
  intro x t hl
  obtain ⟨sp, vs, hmem, hv⟩ := hall x t (Proofs.ListFacts.mem_of_lookup hl)
  have hk : ((forkInputs args i).map Prod.fst).Nodup := by
    simp only [forkInputs, List.map_map]
    have : (Prod.fst ∘ fun a : Bytes × Bool × List J => (a.1, if a.2.1 then a.2.2.getD i J.null else a.2.2.headD J.null))
        = Prod.fst := by funext a; rfl
    rw [this, hkeys]; exact hn
  have hm : (x, if sp then vs.getD i J.null else vs.headD J.null) ∈ forkInputs args i := by
    simp only [forkInputs, List.mem_map]
    exact ⟨(x, sp, vs), hmem, rfl⟩
  refine ⟨_, lookup_of_mem_nodup hk hm, ?_⟩
  cases sp with
  | true => simpa using getD_valid t vs i hv
  | false => simpa using headD_valid t vs hv

theorem callOut_sound (rc : Runner) (c : Callee) (keys : List Bytes) (args : List (Bytes × Bool × List J))
    (sh : Option SplitShape) (hrc : RcOk rc c)
    (hin : ∀ i x t, c.params.lookup x = some t → ∃ v, (forkInputs args i).lookup x = some v ∧ valid t v = true)
    (hdir : ∀ ks, sh = some (.map ks) → isDirMap (Ty.struct c.name c.outs) = true →
      ∀ i, i < nforks args → legalName (keys.getD i []) = true) :
    callOut rc c keys args sh = .nullDisabled ∨
    ∃ out, callOut rc c keys args sh = .ok out ∧
      valid (CallSig.whole { name := c.name, mode := modeOf sh, src := sh, outs := c.outs }) out = true := by
  cases sh with
  | none =>
    rcases hrc (forkInputs args 0) (hin 0) with hn | ⟨out, ho, hv⟩
    · exact Or.inl (by simp [callOut, hn])
    · exact Or.inr ⟨out, by simp [callOut, ho], by simpa [CallSig.whole, modeOf, CallSig.struct] using hv⟩
  | some s =>
    cases s with
    | arr n =>
      rcases collect_map (fun i => rc c (forkInputs args i))
        (fun _ w => valid (.struct c.name c.outs) w = true) (List.range (nforks args))
        (fun i _ => hrc (forkInputs args i) (hin i)) with hn | ⟨ws, hws, hall⟩
      · exact Or.inl (by simp only [callOut]; rw [hn]; rfl)
      exact Or.inr ⟨.arr ws, by simp only [callOut]; rw [hws]; rfl,
        valid_arr_iff.mpr fun w hw => (hall w hw).elim fun _ h' => h'.2⟩
    | map ks =>
      rcases collect_map
        (fun i => (rc c (forkInputs args i)).map fun o => (keys.getD i [], o))
        (fun i (w : Bytes × J) => w.1 = keys.getD i [] ∧ valid (.struct c.name c.outs) w.2 = true)
        (List.range (nforks args))
        (fun i _ => by
          rcases hrc (forkInputs args i) (hin i) with hn | ⟨out, ho, hv⟩
          · exact Or.inl (by simp [hn, Res.map])
          · exact Or.inr ⟨(keys.getD i [], out), by simp [ho, Res.map], rfl, hv⟩) with hn | ⟨ws, hws, hall⟩
      · exact Or.inl (by simp only [callOut]; rw [hn]; rfl)
      refine Or.inr ⟨.obj ws, by simp only [callOut]; rw [hws]; rfl, valid_tmap_iff.mpr fun w hw => ?_⟩
      obtain ⟨i, hi, hk, hv⟩ := hall w hw
      exact ⟨hv, fun hd => hk ▸ hdir ks rfl hd i (List.mem_range.mp hi)⟩

theorem argLists_mem (Γ : Env) (ρ : Store) (bs : List (Bytes × Bind)) :
    ∀ (params : List (Bytes × Ty)) (args : List (Bytes × Bool × List J)),
      argLists Γ ρ bs params = some args →
      ∀ a ∈ args, ∃ t b, (a.1, t) ∈ params ∧ bs.lookup a.1 = some b ∧ a.2.1 = b.isSplit ∧
        deliveredT Γ ρ t b = some a.2.2 ∧ ∀ v ∈ a.2.2, valid t v = true
  | [], args, h => by simp [argLists] at h; subst h; simp
  | (x, t) :: r, args, h => by
    simp only [argLists] at h
    cases hb : bs.lookup x with
    | none => simp [hb] at h
    | some b =>
      simp only [hb] at h
      cases hd : deliveredT Γ ρ t b with
      | none => simp [hd] at h
      | some vs =>
        simp only [hd] at h
        by_cases hc : (vs.all fun v => valid t v) = true
        · simp only [hc, if_true] at h
          cases hr : argLists Γ ρ bs r with
          | none => simp [hr] at h
          | some as =>
            simp only [hr, Option.some.injEq] at h
            subst h
            intro a ha
            rcases List.mem_cons.mp ha with rfl | ha
            · exact ⟨t, b, List.mem_cons_self, hb, rfl, hd, List.all_eq_true.mp hc⟩
            · obtain ⟨t', b', hm, hrest⟩ := argLists_mem Γ ρ bs r as hr a ha
              exact ⟨t', b', List.mem_cons_of_mem _ hm, hrest⟩
        · simp [hc] at h

theorem staticLegalKeys_split {n : Nat} {params : List (Bytes × Ty)} {bs : List (Bytes × Bind)}
    (hk : staticLegalKeys n params bs = true) {x : Bytes} {t : Ty} {e : Exp}
    (hm : (x, t) ∈ params) (hl : bs.lookup x = some (.split e)) :
    ∃ b kvs, e = .map b kvs ∧ kvs.toList.length = n ∧ ∀ k ∈ kvs.toList.map Prod.fst, legalName k = true := by
  have h := List.all_eq_true.mp hk (x, t) hm
  simp only [hl] at h
  cases e with
  | map b kvs =>
    simp only [Bool.and_eq_true, decide_eq_true_eq, List.all_eq_true] at h
    exact ⟨b, kvs, rfl, h.1, h.2⟩
  | _ => cases h

theorem argLists_split_len (Γ : Env) (ρ : Store) (bs : List (Bytes × Bind)) (n : Nat)
    (params : List (Bytes × Ty)) (args : List (Bytes × Bool × List J))
    (hk : staticLegalKeys n params bs = true) (h : argLists Γ ρ bs params = some args) :
    ∀ a ∈ args, a.2.1 = true → a.2.2.length = n := by
  intro a ha hsp
  obtain ⟨t, b, hm, hl, hs, hd, _⟩ := argLists_mem Γ ρ bs params args h a ha
  rw [hs] at hsp
  cases b with
  | plain e => cases hsp
  | split e =>
    -- a map literal delivers one value per key
    obtain ⟨isS, kvs, rfl, hlen, _⟩ := staticLegalKeys_split hk hm hl
    simp only [deliveredT] at hd
    rw [allSome_length _ _ hd, List.length_map, hlen]

theorem nforks_le (n : Nat) : ∀ (args : List (Bytes × Bool × List J)) (m : Nat), m ≤ n →
    (∀ a ∈ args, a.2.1 = true → a.2.2.length = n) →
    args.foldl (fun m a => if a.2.1 then max m a.2.2.length else m) m ≤ n
  | [], m, hm, _ => by simpa using hm
  | a :: r, m, hm, h => by
    simp only [List.foldl_cons]
    apply nforks_le n r
    · cases hs : a.2.1 with
      | true =>
        have := h a List.mem_cons_self hs
        simp only [if_true]
        exact Nat.max_le.mpr ⟨hm, by omega⟩
      | false => simpa using hm
    · exact fun a' ha' => h a' (List.mem_cons_of_mem _ ha')

theorem nforks_pos_split : ∀ (args : List (Bytes × Bool × List J)) (m : Nat),
    m < args.foldl (fun m a => if a.2.1 then max m a.2.2.length else m) m → ∃ a ∈ args, a.2.1 = true
  | [], m, h => by simp at h
  | a :: r, m, h => by
    simp only [List.foldl_cons] at h
    cases hs : a.2.1 with
    | true => exact ⟨a, List.mem_cons_self, hs⟩
    | false =>
      simp only [hs, Bool.false_eq_true, if_false] at h
      obtain ⟨a', ha', hs'⟩ := nforks_pos_split r m h
      exact ⟨a', List.mem_cons_of_mem _ ha', hs'⟩

theorem splitKeys_skip (Γ : Env) (ρ : Store) (x : Bytes) (t : Ty) (r : List (Bytes × Ty))
    (bs : List (Bytes × Bind)) (h : ∀ e, bs.lookup x ≠ some (.split e)) :
    splitKeys Γ ρ ((x, t) :: r) bs = splitKeys Γ ρ r bs := by
  cases hb : bs.lookup x with
  | none => simp only [splitKeys, hb]
  | some b =>
    cases b with
    | plain e => simp only [splitKeys, hb]
    | split e => exact absurd hb (h e)

theorem splitKeys_lit (Γ : Env) (ρ : Store) (x : Bytes) (t : Ty) (r : List (Bytes × Ty))
    (bs : List (Bytes × Bind)) (b : Bool) (kvs : KVs) (h : bs.lookup x = some (.split (.map b kvs))) :
    splitKeys Γ ρ ((x, t) :: r) bs = kvs.toList.map Prod.fst := by
  simp only [splitKeys, h]

/-- the fork keys are the keys of the first split literal: legal names, and `n`
of them unless no parameter is split at all -/
theorem splitKeys_static (Γ : Env) (ρ : Store) {bs : List (Bytes × Bind)} {n : Nat}
    {params : List (Bytes × Ty)} (hk : staticLegalKeys n params bs = true) :
    ∀ (ps : List (Bytes × Ty)), (∀ p ∈ ps, p ∈ params) →
      (∀ k ∈ splitKeys Γ ρ ps bs, legalName k = true) ∧
      ((splitKeys Γ ρ ps bs).length = n ∨ ∀ p ∈ ps, ∀ b, bs.lookup p.1 = some b → b.isSplit = false)
  | [], _ => ⟨by simp [splitKeys], Or.inr (by simp)⟩
  | (x, t) :: r, hsub => by
    have ih := splitKeys_static Γ ρ hk r fun p hp => hsub p (List.mem_cons_of_mem _ hp)
    by_cases hx : ∃ e, bs.lookup x = some (.split e)
    · obtain ⟨e, he⟩ := hx
      obtain ⟨b, kvs, rfl, hlen, hleg⟩ := staticLegalKeys_split hk (hsub _ List.mem_cons_self) he
      rw [splitKeys_lit Γ ρ x t r bs b kvs he]
      exact ⟨hleg, Or.inl (by rw [List.length_map, hlen])⟩
    · rw [splitKeys_skip Γ ρ x t r bs fun e he => hx ⟨e, he⟩]
      refine ⟨ih.1, ih.2.imp id fun h p hp b hl => ?_⟩
      rcases List.mem_cons.mp hp with rfl | hp
      · cases b with
        | plain e => rfl
        | split e => exact absurd ⟨e, hl⟩ hx
      · exact h p hp b hl

/-- stores agree with environments on which calls have been made -/
def SameCalls (Γ : Env) (ρ : Store) : Prop := ∀ id, Γ.calls.lookup id = none → ρ.calls.lookup id = none

theorem lookup_snoc {α : Type} (l : List (Bytes × α)) (id : Bytes) (a : α) (id' : Bytes) :
    (l ++ [(id, a)]).lookup id' = (l.lookup id').or (if id' = id then some a else none) := by
  by_cases hq : id' = id
  · simp [List.lookup_append, List.lookup, hq]
  · have : (id' == id) = false := by simpa using hq
    simp [List.lookup_append, List.lookup, hq, this]

theorem StoreOk.extend (Γ : Env) (ρ : Store) (id : Bytes) (sig : CallSig) (v : J)
    (hρ : StoreOk Γ ρ) (hnew : Γ.calls.lookup id = none) (hnew' : ρ.calls.lookup id = none)
    (hv : valid sig.whole v = true) :
    StoreOk { Γ with calls := Γ.calls ++ [(id, sig)] } { ρ with calls := ρ.calls ++ [(id, v)] } := by
  refine ⟨hρ.1, fun id' sig' hl => ?_⟩
  simp only [lookup_snoc] at hl ⊢
  cases hg : Γ.calls.lookup id' with
  | some s =>
    obtain ⟨v', hv', hval⟩ := hρ.2 id' s hg
    simp only [hg, Option.some_or, Option.some.injEq] at hl
    subst hl
    exact ⟨v', by simp [hv'], hval⟩
  | none =>
    by_cases hq : id' = id
    · subst hq
      simp only [hg, Option.none_or, if_true, Option.some.injEq] at hl
      subst hl
      exact ⟨v, by simp [hnew'], hv⟩
    · simp [hg, hq] at hl

theorem sameCalls_extend (Γ : Env) (ρ : Store) (id : Bytes) (sig : CallSig) (v : J) (h : SameCalls Γ ρ) :
    SameCalls { Γ with calls := Γ.calls ++ [(id, sig)] } { ρ with calls := ρ.calls ++ [(id, v)] } := by
  intro id' hl
  simp only [lookup_snoc] at hl ⊢
  cases hg : Γ.calls.lookup id' with
  | some s => simp [hg] at hl
  | none =>
    by_cases hq : id' = id
    · simp [hq] at hl
    · simp [h id' hg, hq]

/-- an accepted `disabled` modifier does not FAIL to evaluate: it resolves to a
boolean, or to null (where the run time stops by design) -/
theorem disabledRT_sound (Γ : Env) (ρ : Store) (hρ : StoreOk Γ ρ) (callee : Callee)
    (binds : List (Bytes × Bind)) (w : Option Wild) (m : Mods)
    (hm : modsOk Γ callee binds w m = true)
    (hw : ∀ e, usingDisabled m.usings = some e → e.wf = true) :
    disabledRT Γ ρ m = .nullDisabled ∨ ∃ b, disabledRT Γ ρ m = .ok b := by
  have hnil : modErrs Γ callee binds w m = [] := by simpa [modsOk] using hm
  have hd := ((modErrs_nil_iff Γ callee binds w m).mp hnil).2.1
  cases hu : usingDisabled m.usings with
  | none => exact Or.inr ⟨false, by simp [disabledRT, hu]⟩
  | some e =>
    obtain ⟨v, hev, hval⟩ := plain_sound_rt Γ ρ hρ (.base .bool) rfl e (hw e hu) (hd e hu)
      (holeFree_base Γ .bool _)
    have hs := shape_of_valid _ _ hval
    cases hs with
    | null => exact Or.inl (by simp [disabledRT, hu, hev])
    | bool b => exact Or.inr ⟨b, by simp [disabledRT, hu, hev]⟩

theorem disabledRT_none (Γ : Env) (ρ : Store) (m : Mods) (h : usingDisabled m.usings = none) :
    disabledRT Γ ρ m = .ok false := by simp [disabledRT, h]

theorem fork_keys_legal (Γ : Env) (ρ : Store) (bs : List (Bytes × Bind)) (n : Nat)
    (params : List (Bytes × Ty)) (args : List (Bytes × Bool × List J))
    (hk : staticLegalKeys n params bs = true) (ha : argLists Γ ρ bs params = some args) :
    ∀ i, i < nforks args → legalName ((splitKeys Γ ρ params bs).getD i []) = true := by
  intro i hi
  have hle : nforks args ≤ n :=
    nforks_le n args 0 (Nat.zero_le _) (argLists_split_len Γ ρ bs n params args hk ha)
  -- there is a fork, so some argument is split, so the keys are those of a literal
  obtain ⟨a, ham, hsp⟩ := nforks_pos_split args 0 (by unfold nforks at hi; omega)
  obtain ⟨t, b, hm, hl, hs, _⟩ := argLists_mem Γ ρ bs params args ha a ham
  obtain ⟨hleg, hn | hnone⟩ := splitKeys_static Γ ρ hk params fun _ hp => hp
  · have hin : i < (splitKeys Γ ρ params bs).length := by omega
    rw [show (splitKeys Γ ρ params bs).getD i [] = (splitKeys Γ ρ params bs)[i] by
      simp [List.getD_eq_getElem?_getD, hin]]
    exact hleg _ (List.getElem_mem hin)
  · rw [hnone (a.1, t) hm b hl] at hs
    rw [hs] at hsp
    cases hsp

theorem stepCall_sound (P : Prog) (rc : Runner) (Γ : Env) (ρ : Store) (c : CallStm) (sh : Option SplitShape)
    (hρ : StoreOk Γ ρ) (hsame : SameCalls Γ ρ) (hnew : Γ.calls.lookup c.id = none)
    (hchk : checkStm Γ c = some sh) (hok : okStm P Γ c sh = true) (hrc : RcOk rc c.callee) :
    stepCall rc Γ ρ c = .nullDisabled ∨
    ∃ out, stepCall rc Γ ρ c =
        .ok ({ Γ with calls := Γ.calls ++ [(c.id, c.sig sh)] }, { ρ with calls := ρ.calls ++ [(c.id, out)] }) ∧
      StoreOk { Γ with calls := Γ.calls ++ [(c.id, c.sig sh)] } { ρ with calls := ρ.calls ++ [(c.id, out)] } ∧
      SameCalls { Γ with calls := Γ.calls ++ [(c.id, c.sig sh)] } { ρ with calls := ρ.calls ++ [(c.id, out)] } := by
  simp only [okStm, Bool.and_eq_true, List.all_eq_true, decide_eq_true_eq] at hok
  obtain ⟨⟨⟨⟨⟨⟨hpw, how⟩, hnd⟩, hbs⟩, hdw⟩, hdir⟩, _⟩ := hok
  -- the accepted call
  have hmods : modsOk Γ c.callee c.binds c.wild c.mods = true := by
    by_cases hm : modsOk Γ c.callee c.binds c.wild c.mods = true
    · exact hm
    · simp [checkStm, hm] at hchk
  have hcw : checkCallW Γ c.callee.params c.binds c.wild = some sh := by
    simpa [checkStm, hmods] using hchk
  cases hab : allBinds Γ c.callee.params c.binds c.wild with
  | none => simp [checkCallW, hab] at hcw
  | some bs =>
    rcases disabledRT_sound Γ ρ hρ c.callee c.binds c.wild c.mods hmods (by
      intro e he
      simpa [he] using hdw) with hdn | ⟨dis, hdis⟩
    · exact Or.inl (by simp [stepCall, hchk, hab, hdn])
    cases dis with
    | true =>
      -- a disabled call: null outputs
      refine Or.inr ⟨.null, by simp [stepCall, hchk, hab, hdis], ?_, sameCalls_extend Γ ρ c.id _ .null hsame⟩
      exact StoreOk.extend Γ ρ c.id (c.sig sh) .null hρ hnew (hsame c.id hnew) (valid_null _)
    | false =>
      simp only [hab, List.all_eq_true] at hbs
      have hcc : checkCall Γ c.callee.params bs = some sh := by simpa [checkCallW, hab] using hcw
      have hvc : validCall Γ c.callee.params bs = true := by simp [validCall, hcc]
      obtain ⟨args, hargs, hkeys, hall⟩ := argLists_sound Γ ρ hρ bs c.callee.params (by
        intro x t hm
        have hl := lookup_of_mem_nodup hnd hm
        obtain ⟨b, hbl, hvb⟩ := (validCall_spec hvc).2.1 x t hl
        have := hbs (x, b) (Proofs.ListFacts.mem_of_lookup hbl)
        simp only [hl, Bool.and_eq_true] at this
        exact ⟨hpw (x, t) hm, b, hbl, this.1, hvb, this.2⟩)
      rcases callOut_sound rc c.callee (splitKeys Γ ρ c.callee.params bs) args sh hrc
        (fun i => forkInputs_ok c.callee.params args i hnd hkeys hall)
        (by
          intro ks hs hd
          subst hs
          simp only [hab, hd, Bool.not_true, Bool.false_or] at hdir
          cases ks with
          | none => simp at hdir
          | some k => exact fork_keys_legal Γ ρ bs k.length c.callee.params args hdir hargs) with hcn | ⟨out, hout, hval⟩
      · exact Or.inl (by simp [stepCall, hchk, hab, hdis, hargs, hcn])
      refine Or.inr ⟨out, by simp [stepCall, hchk, hab, hdis, hargs, hout], ?_, sameCalls_extend Γ ρ c.id _ out hsame⟩
      exact StoreOk.extend Γ ρ c.id (c.sig sh) out hρ hnew (hsame c.id hnew) (by simpa [CallStm.sig] using hval)

theorem okCalls_cons {P : Prog} {Γ Γf : Env} {c : CallStm} {r : List CallStm}
    (h : okCalls P Γ (c :: r) = some Γf) :
    Γ.calls.lookup c.id = none ∧ ∃ sh, checkStm Γ c = some sh ∧ okStm P Γ c sh = true ∧
      okCalls P { Γ with calls := Γ.calls ++ [(c.id, c.sig sh)] } r = some Γf := by
  simp only [okCalls] at h
  cases hl : Γ.calls.lookup c.id with
  | some s => simp [hl] at h
  | none =>
    simp only [hl, Option.isSome_none, Bool.false_eq_true, if_false] at h
    cases hchk : checkStm Γ c with
    | none => simp [hchk] at h
    | some sh =>
      simp only [hchk] at h
      by_cases hokc : okStm P Γ c sh = true
      · exact ⟨rfl, sh, rfl, hokc, by simpa [hokc] using h⟩
      · simp [hokc] at h

theorem runCalls_sound (P : Prog) (rc : Runner) : ∀ (calls : List CallStm) (Γ : Env) (ρ : Store) (Γf : Env),
    StoreOk Γ ρ → SameCalls Γ ρ → okCalls P Γ calls = some Γf → (∀ c ∈ calls, RcOk rc c.callee) →
    runCalls rc Γ ρ calls = .nullDisabled ∨ ∃ ρf, runCalls rc Γ ρ calls = .ok (Γf, ρf) ∧ StoreOk Γf ρf
  | [], Γ, ρ, Γf, hρ, _, hok, _ => by
    simp only [okCalls, Option.some.injEq] at hok
    subst hok
    exact Or.inr ⟨ρ, rfl, hρ⟩
  | c :: r, Γ, ρ, Γf, hρ, hsame, hok, hrc => by
    obtain ⟨hl, sh, hchk, hokc, hok'⟩ := okCalls_cons hok
    rcases stepCall_sound P rc Γ ρ c sh hρ hsame hl hchk hokc
      (hrc c List.mem_cons_self) with hsn | ⟨out, hstep, hρ', hsame'⟩
    · exact Or.inl (by simp [runCalls, hsn])
    rcases runCalls_sound P rc r _ _ Γf hρ' hsame' hok'
      (fun c' hc' => hrc c' (List.mem_cons_of_mem _ hc')) with hrn | ⟨ρf, hrun, hρf⟩
    · exact Or.inl (by simp [runCalls, hstep, hrn])
    · exact Or.inr ⟨ρf, by simp [runCalls, hstep, hrun], hρf⟩

theorem okCalls_spec (P : Prog) : ∀ (calls : List CallStm) (Γ Γf : Env),
    okCalls P Γ calls = some Γf →
      checkCalls Γ calls = some Γf ∧ ∀ c ∈ calls, ∃ Γ' sh, okStm P Γ' c sh = true
  | [], Γ, Γf, h => ⟨by simpa [okCalls, checkCalls] using h, fun c hc => by cases hc⟩
  | c :: r, Γ, Γf, h => by
    obtain ⟨hl, sh, hchk, hokc, hok'⟩ := okCalls_cons h
    obtain ⟨ih1, ih2⟩ := okCalls_spec P r _ Γf hok'
    refine ⟨by simp [checkCalls, hl, hchk, ih1], fun c' hc' => ?_⟩
    rcases List.mem_cons.mp hc' with rfl | hm
    · exact ⟨Γ, sh, hokc⟩
    · exact ih2 c' hm

theorem runPipe_sound (P : Prog) (rc : Runner) (p : Pipeline) (ins : List (Bytes × J))
    (hok : okPipe P p = true)
    (hin : ∀ x t, p.ins.lookup x = some t → ∃ v, ins.lookup x = some v ∧ valid t v = true)
    (hrc : ∀ c ∈ p.calls, (∃ Γ' sh, okStm P Γ' c sh = true) → RcOk rc c.callee) :
    runPipe rc p ins = .nullDisabled ∨
    ∃ out, runPipe rc p ins = .ok out ∧ valid (.struct p.name p.outs) out = true := by
  simp only [okPipe, Bool.and_eq_true] at hok
  obtain ⟨⟨⟨hvu, _⟩, hwf⟩, hrest⟩ := hok
  cases hoc : okCalls P { self := p.ins, calls := [] } p.calls with
  | none => simp [hoc] at hrest
  | some Γf =>
    simp only [hoc] at hrest
    obtain ⟨hcc, hmem⟩ := okCalls_spec P p.calls _ Γf hoc
    cases hab : allBinds Γf p.outs.toList p.ret p.retWild with
    | none => simp [hab] at hrest
    | some bs =>
      simp only [hab, List.all_eq_true] at hrest
      rcases runCalls_sound P rc p.calls { self := p.ins, calls := [] } { self := ins, calls := [] } Γf
        ⟨hin, by intro id sig h; simp at h⟩ (fun id _ => rfl) hoc
        (fun c hc => hrc c hc (hmem c hc)) with hrn | ⟨ρf, hrun, hρf⟩
      · exact Or.inl (by simp [runPipe, hrn])
      -- the return statement was accepted in Γf
      have hvc : validCall Γf p.outs.toList bs = true := by
        simp only [validPipelineU, checkPipelineU, hcc, checkReturn, validCallW, checkCallW, hab] at hvu
        cases hr : (checkCall Γf p.outs.toList bs).isSome with
        | true => exact hr
        | false => cases hu : (unusedInputs p).isEmpty <;> simp [hu, hr] at hvu
      have hwf' := Fields.wf_iff.mp (by simpa [Ty.wf] using hwf)
      obtain ⟨vs, hvs, hkeys, hvals⟩ := retValueT_sound Γf ρf hρf bs p.outs (by
        intro k t hkt
        have hl := lookup_of_mem_nodup hwf'.1 hkt
        obtain ⟨b, hbl, hvb⟩ := (validCall_spec hvc).2.1 k t hl
        have hb := hrest (k, b) (Proofs.ListFacts.mem_of_lookup hbl)
        cases b with
        | split e => simp at hb
        | plain e =>
          simp only [hl, Bool.and_eq_true] at hb
          exact ⟨hwf'.2 k t hkt, e, hbl, hb.1, hvb, hb.2⟩)
      exact Or.inr ⟨.obj vs, by simp [runPipe, hrun, hab, hvs], valid_struct_of_members hwf hkeys hvals⟩

/-- a callable the program may call: a stage it names, or the pipeline it defines under that name -/
def CalleeOk (P : Prog) (top : CallStm) (c : Callee) : Prop :=
  (c.isStage = true → c ∈ P.callees top) ∧
  (c.isStage = false → ∃ q, P.find c.name = some q ∧ q.callee = c)

theorem calleeOk_of_okStm (P : Prog) (top : CallStm) (Γ : Env) (c : CallStm) (sh : Option SplitShape)
    (hmem : c.callee ∈ P.callees top) (h : okStm P Γ c sh = true) : CalleeOk P top c.callee := by
  refine ⟨fun _ => hmem, fun hns => ?_⟩
  simp only [okStm, Bool.and_eq_true, Bool.or_eq_true] at h
  rcases h.2 with hs | hq
  · rw [hns] at hs; cases hs
  · cases hf : P.find c.callee.name with
    | none => simp [hf] at hq
    | some q =>
      simp only [hf] at hq
      exact ⟨q, rfl, calleeEq_sound _ _ hq⟩

theorem run_sound (P : Prog) (O : Oracle) (top : CallStm) (hO : OracleOk P top O)
    (hP : ∀ p ∈ P.pipes, okPipe P p = true) :
    ∀ (n : Nat) (c : Callee), fits P n c = true → CalleeOk P top c → RcOk (run P O n) c := by
  intro n
  induction n with
  | zero => intro c h; simp [fits] at h
  | succ n ih =>
    intro c hfit hc ins hin
    by_cases hs : c.isStage = true
    · exact Or.inr ⟨O c.name ins, by simp [run, hs], hO c (hc.1 hs) hs ins⟩
    · have hns : c.isStage = false := by simpa using hs
      obtain ⟨q, hf, hq⟩ := hc.2 hns
      have hqm : q ∈ P.pipes := List.mem_of_find?_eq_some (by simpa [Prog.find] using hf)
      have hfits : ∀ s ∈ q.calls, fits P n s.callee = true := by
        simp only [fits, hns, Bool.false_or, hf, List.all_eq_true] at hfit
        exact hfit
      have hrc : ∀ s ∈ q.calls, (∃ Γ' sh, okStm P Γ' s sh = true) → RcOk (run P O n) s.callee := by
        intro s hsm ⟨Γ', sh, hok⟩
        have hmem : s.callee ∈ P.callees top := by
          simp only [Prog.callees, List.mem_cons, List.mem_flatMap, List.mem_map]
          exact Or.inr ⟨q, hqm, s, hsm, rfl⟩
        exact ih s.callee (hfits s hsm) (calleeOk_of_okStm P top Γ' s sh hmem hok)
      subst hq
      have hf' : P.find q.name = some q := by simpa [Pipeline.callee] using hf
      rcases runPipe_sound P (run P O n) q ins (hP q hqm) (by simpa [Pipeline.callee] using hin) hrc with hpn | ⟨out, hout, hval⟩
      · exact Or.inl (by simp [run, Pipeline.callee, hf', hpn])
      · exact Or.inr ⟨out, by simp [run, Pipeline.callee, hf', hout], by simpa [Pipeline.callee] using hval⟩

theorem runProgram_sound (P : Prog) (O : Oracle) (top : CallStm) (n : Nat)
    (hO : OracleOk P top O) (hP : progOk P top = true) (hn : fits P n top.callee = true) :
    ∃ sh, checkStm emptyEnv top = some sh ∧
      (runProgram P O n top = .nullDisabled ∨
       ∃ out, runProgram P O n top =
          .ok ({ self := [], calls := [(top.id, top.sig sh)] }, { self := [], calls := [(top.id, out)] }) ∧
        valid (top.sig sh).whole out = true) := by
  simp only [progOk, Bool.and_eq_true, List.all_eq_true] at hP
  obtain ⟨⟨⟨⟨hpipes, _⟩, htop⟩, _⟩, _⟩ := hP
  cases hchk : checkStm emptyEnv top with
  | none => simp [hchk] at htop
  | some sh =>
    simp only [hchk] at htop
    have hcal : CalleeOk P top top.callee :=
      calleeOk_of_okStm P top emptyEnv top sh (by simp [Prog.callees]) htop
    have hrc := run_sound P O top hO hpipes n top.callee hn hcal
    refine ⟨sh, rfl, ?_⟩
    rcases stepCall_sound P (run P O n) emptyEnv { self := [], calls := [] } top sh (storeOk_emptyEnv _)
      (by intro id _; rfl) (by simp [emptyEnv]) hchk htop hrc with hsn | ⟨out, hstep, hρ', _⟩
    · exact Or.inl (by simpa [runProgram] using hsn)
    refine Or.inr ⟨out, by simpa [runProgram, emptyEnv] using hstep, ?_⟩
    obtain ⟨v, hv, hval⟩ := hρ'.2 top.id (top.sig sh) (by simp [emptyEnv])
    simp at hv
    subst hv
    exact hval

/-- the runner never stops at a null `disabled` value -/
def RcND (rc : Runner) (c : Callee) : Prop := ∀ ins, rc c ins ≠ .nullDisabled

theorem collect_map_ne_nullDisabled {α β : Type} (f : α → Res β) (h : ∀ x, f x ≠ .nullDisabled) :
    ∀ (xs : List α), Res.collect (xs.map f) ≠ .nullDisabled
  | [] => by simp [Res.collect]
  | x :: xs => by
    have ih := collect_map_ne_nullDisabled f h xs
    have hx := h x
    simp only [List.map_cons]
    cases hf : f x with
    | nullDisabled => exact absurd hf hx
    | fail => simp [Res.collect]
    | ok a =>
      cases hc : Res.collect (xs.map f) with
      | nullDisabled => exact absurd hc ih
      | fail => simp [Res.collect, hc]
      | ok as => simp [Res.collect, hc]

theorem map_ne_nullDisabled {α β : Type} (f : α → β) (r : Res α) (h : r ≠ .nullDisabled) :
    r.map f ≠ .nullDisabled := by
  cases r with
  | nullDisabled => exact absurd rfl h
  | fail => simp [Res.map]
  | ok a => simp [Res.map]

theorem callOut_nd (rc : Runner) (c : Callee) (keys : List Bytes) (args : List (Bytes × Bool × List J))
    (sh : Option SplitShape) (h : RcND rc c) : callOut rc c keys args sh ≠ .nullDisabled := by
  cases sh with
  | none => exact h _
  | some s =>
    cases s with
    | arr n => exact map_ne_nullDisabled _ _ (collect_map_ne_nullDisabled _ (fun i => h _) _)
    | map ks =>
      exact map_ne_nullDisabled _ _
        (collect_map_ne_nullDisabled _ (fun i => map_ne_nullDisabled _ _ (h _)) _)

theorem stepCall_nd (rc : Runner) (Γ : Env) (ρ : Store) (c : CallStm)
    (hd : usingDisabled c.mods.usings = none) (h : RcND rc c.callee) :
    stepCall rc Γ ρ c ≠ .nullDisabled := by
  simp only [stepCall]
  cases checkStm Γ c with
  | none => simp
  | some sh =>
    cases allBinds Γ c.callee.params c.binds c.wild with
    | none => simp
    | some bs =>
      simp only [disabledRT_none Γ ρ c.mods hd]
      cases argLists Γ ρ bs c.callee.params with
      | none => simp
      | some args =>
        have := callOut_nd rc c.callee (splitKeys Γ ρ c.callee.params bs) args sh h
        cases hc : callOut rc c.callee (splitKeys Γ ρ c.callee.params bs) args sh with
        | nullDisabled => exact absurd hc this
        | fail => simp [hc]
        | ok out => simp [hc]

theorem runCalls_nd (rc : Runner) : ∀ (calls : List CallStm) (Γ : Env) (ρ : Store),
    (∀ c ∈ calls, usingDisabled c.mods.usings = none ∧ RcND rc c.callee) →
    runCalls rc Γ ρ calls ≠ .nullDisabled
  | [], _, _, _ => by simp [runCalls]
  | c :: r, Γ, ρ, h => by
    have h1 := stepCall_nd rc Γ ρ c (h c List.mem_cons_self).1 (h c List.mem_cons_self).2
    simp only [runCalls]
    cases hs : stepCall rc Γ ρ c with
    | nullDisabled => exact absurd hs h1
    | fail => simp
    | ok s => exact runCalls_nd rc r s.1 s.2 (fun c' hc' => h c' (List.mem_cons_of_mem _ hc'))

theorem runPipe_nd (rc : Runner) (p : Pipeline) (ins : List (Bytes × J))
    (h : ∀ c ∈ p.calls, usingDisabled c.mods.usings = none ∧ RcND rc c.callee) :
    runPipe rc p ins ≠ .nullDisabled := by
  have h1 := runCalls_nd rc p.calls { self := p.ins, calls := [] } { self := ins, calls := [] } h
  simp only [runPipe]
  cases hr : runCalls rc { self := p.ins, calls := [] } { self := ins, calls := [] } p.calls with
  | nullDisabled => exact absurd hr h1
  | fail => simp
  | ok s =>
    simp only
    cases allBinds s.1 p.outs.toList p.ret p.retWild with
    | none => simp
    | some bs => cases hrv : retValueT s.1 s.2 bs p.outs <;> simp [hrv]

theorem run_nd (P : Prog) (O : Oracle)
    (hP : ∀ p ∈ P.pipes, ∀ c ∈ p.calls, usingDisabled c.mods.usings = none) :
    ∀ (n : Nat) (c : Callee), RcND (run P O n) c := by
  intro n
  induction n with
  | zero => intro c ins; simp [run]
  | succ n ih =>
    intro c ins
    simp only [run]
    by_cases hs : c.isStage = true
    · simp [hs]
    · simp only [hs, Bool.false_eq_true, if_false]
      cases hf : P.find c.name with
      | none => simp
      | some q =>
        have hqm : q ∈ P.pipes := List.mem_of_find?_eq_some (by simpa [Prog.find] using hf)
        exact runPipe_nd (run P O n) q ins (fun s hsm => ⟨hP q hqm s hsm, ih s.callee⟩)

end Martian.Typing
