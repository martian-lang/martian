import Proofs.ShellLine

/-! The shapes of template lines found in the shipped templates (C18). -/
namespace Martian.JobTemplate
open Martian.ShellQuote

/-- what the substituted values are, in terms of the strings mrp was given -/
structure ValsOK (tbl : EscTable) (vals : String → Bytes) (g : Given) : Prop where
  cmd : vals "CMD" = formatArgsOrdered tbl g.envs g.cmd g.argv
  stdout : vals "STDOUT" = quote tbl g.stdout
  stderr : vals "STDERR" = quote tbl g.stderr
  workdir : vals "JOB_WORKDIR" = quote tbl g.workdir
  envsOK : ∀ kv ∈ g.envs, isName kv.1 = true ∧ validUtf8 kv.2 = true ∧ (0 : UInt8) ∉ kv.2
  cmdOK : validUtf8 g.cmd = true ∧ (0 : UInt8) ∉ g.cmd
  argvOK : ∀ a ∈ g.argv, validUtf8 a = true ∧ (0 : UInt8) ∉ a
  stdoutOK : validUtf8 g.stdout = true ∧ (0 : UInt8) ∉ g.stdout
  stderrOK : validUtf8 g.stderr = true ∧ (0 : UInt8) ∉ g.stderr
  workdirOK : validUtf8 g.workdir = true ∧ (0 : UInt8) ∉ g.workdir
  /-- the resources option is absent or a one-line comment (a scheduler directive) -/
  resOK : vals "RESOURCES" = [] ∨ ∃ r, vals "RESOURCES" = 0x23 :: r ∧ (0x0A : UInt8) ∉ r

theorem quote_ne_nil (tbl : EscTable) (s : Bytes) : quote tbl s ≠ [] := by simp [quote]

theorem formatArgsOrdered_ne_nil (tbl : EscTable) (envs : List (Bytes × Bytes)) (cmd : Bytes)
    (argv : List Bytes) : formatArgsOrdered tbl envs cmd argv ≠ [] := by
  simp [formatArgsOrdered, quote]

theorem cmdWords_eq (g : Given) :
    g.envs.map (fun kv => Tok.word (assignWord kv) true) ++ (initOf g.cmd g.argv).map w
      ++ [w (lastOf g.cmd g.argv)] = cmdWords g := by
  have := congrArg (List.map w) (initOf_lastOf g.cmd g.argv)
  simp only [List.map_append, List.map_cons, List.map_nil] at this
  simp only [cmdWords, List.append_assoc, this]

theorem lineRes_cmdAlone {tbl : EscTable} (ht : TableOK tbl = true) {vals : String → Bytes}
    {g : Given} (hv : ValsOK tbl vals g) :
    LineRes (renderLine vals [("CMD", [])]) (lineToks g .cmdAlone) := by
  have ht' : renderLine vals [("CMD", [])] = formatArgsOrdered tbl g.envs g.cmd g.argv := by
    simp [renderLine, segIsVar, hv.cmd, formatArgsOrdered_ne_nil]
  rw [ht']
  refine ⟨_, _, run_formatArgsOrdered ht g.envs g.cmd g.argv hv.envsOK hv.cmdOK hv.argvOK, Or.inl rfl, ?_⟩
  simp only [flush, lineToks]
  exact cmdWords_eq g

theorem lineRes_resources {tbl : EscTable} {vals : String → Bytes} {g : Given}
    (hv : ValsOK tbl vals g) :
    LineRes (renderLine vals [("RESOURCES", [])]) (lineToks g .resources) := by
  rcases hv.resOK with h | ⟨r, h, hr⟩
  · have : renderLine vals [("RESOURCES", [])] = [] := by simp [renderLine, segIsVar, h]
    rw [this]; exact lineRes_nil
  · have : renderLine vals [("RESOURCES", [])] = 0x23 :: r := by simp [renderLine, segIsVar, h]
    rw [this]
    exact ⟨_, _, run_hash_line r hr, Or.inr ⟨rfl, rfl⟩, rfl⟩

theorem lineRes_cd {tbl : EscTable} (ht : TableOK tbl = true) {vals : String → Bytes} {g : Given}
    (hv : ValsOK tbl vals g) :
    LineRes (renderLine vals shapeCd) (lineToks g .cdWorkdir) := by
  have ht' : renderLine vals shapeCd = [0x63, 0x64, 0x20] ++ quote tbl g.workdir := by
    simp [renderLine, shapeCd, segIsVar, hv.workdir, quote_ne_nil]
  have h1 : run clean [0x63, 0x64, 0x20] = some ([w bCd], clean) := rfl
  rw [ht']
  refine ⟨[w bCd], ⟨.normal, [] ++ g.workdir, .quoted, false, false⟩, ?_, Or.inl rfl, ?_⟩
  · rw [run_emit_append h1, clean, run_quote ht g.workdir _ _ _ _ hv.workdirOK.1 hv.workdirOK.2]
    simp
  · simp [flush, lineToks, w]

theorem lineRes_env {tbl : EscTable} (ht : TableOK tbl = true) {vals : String → Bytes} {g : Given}
    (hv : ValsOK tbl vals g) :
    LineRes (renderLine vals shapeEnv) (lineToks g .envCmdBg) := by
  have ht' : renderLine vals shapeEnv =
      (bEnv ++ [0x20]) ++ (formatArgsOrdered tbl g.envs g.cmd g.argv ++ ([0x20, 0x3E, 0x20] ++
        (quote tbl g.stdout ++ ([0x20, 0x32, 0x3E, 0x20] ++ (quote tbl g.stderr ++
          ([0x20, 0x26, 0x20] ++ bEcho ++ [0x20, 0x24, 0x21])))))) := by
    simp [renderLine, shapeEnv, segIsVar, hv.cmd, hv.stdout, hv.stderr, formatArgsOrdered_ne_nil, quote_ne_nil]
  have h1 : run clean (bEnv ++ [0x20]) = some ([w bEnv], clean) := rfl
  have h2 := run_formatArgsOrdered ht g.envs g.cmd g.argv hv.envsOK hv.cmdOK hv.argvOK
  have h3 : ∀ x : Bytes, run ⟨.normal, x, .quoted, false, false⟩ [0x20, 0x3E, 0x20]
      = some ([w x, Tok.op [0x3E]], clean) := fun _ => rfl
  have h4 := run_quote ht g.stdout [] .none false false hv.stdoutOK.1 hv.stdoutOK.2
  have h5 : ∀ x : Bytes, run ⟨.normal, x, .quoted, false, false⟩ [0x20, 0x32, 0x3E, 0x20]
      = some ([w x, Tok.op [0x32, 0x3E]], clean) := fun _ => rfl
  have h6 := run_quote ht g.stderr [] .none false false hv.stderrOK.1 hv.stderrOK.2
  have h7 : ∀ x : Bytes, run ⟨.normal, x, .quoted, false, false⟩
        ([0x20, 0x26, 0x20] ++ bEcho ++ [0x20, 0x24, 0x21])
      = some ([w x, Tok.op [0x26], w bEcho], ⟨.normal, [0x24, 0x21], .bare, false, true⟩) :=
    fun _ => rfl
  rw [ht']
  refine ⟨[w bEnv] ++ ((g.envs.map (fun kv => Tok.word (assignWord kv) true) ++ (initOf g.cmd g.argv).map w)
      ++ ([w (lastOf g.cmd g.argv), Tok.op [0x3E]] ++ ([w g.stdout, Tok.op [0x32, 0x3E]]
        ++ [w g.stderr, Tok.op [0x26], w bEcho]))),
    ⟨.normal, [0x24, 0x21], .bare, false, true⟩, ?_, Or.inl rfl, ?_⟩
  · rw [run_emit_append h1, run_emit_append h2, run_emit_append (h3 _), clean,
      run_silent_append h4, run_emit_append (h5 _), clean, run_silent_append h6, h7]
    simp
  · simp only [flush, lineToks]
    rw [← cmdWords_eq g]
    simp [w]

theorem flatten_no_nl (vals : String → Bytes) (l : SegLine)
    (h : ∀ s ∈ l, (0x0A : UInt8) ∉ (if segIsVar s then vals s.1 else s.2)) :
    (0x0A : UInt8) ∉ (l.map fun s => if segIsVar s then vals s.1 else s.2).flatten := by
  intro hm
  simp only [List.mem_flatten, List.mem_map] at hm
  obtain ⟨x, ⟨s, hs, rfl⟩, hx⟩ := hm
  exact h s hs hx

/-- a line whose first segment is literal text starting with `#`: whatever newline-free values
are substituted, the line is a comment (or is removed) -/
theorem lineRes_hash (vals : String → Bytes) (rest : Bytes) (more : SegLine)
    (h : ∀ s ∈ (("", 0x23 :: rest) : Seg) :: more, (0x0A : UInt8) ∉ (if segIsVar s then vals s.1 else s.2)) :
    LineRes (renderLine vals (("", 0x23 :: rest) :: more)) [] := by
  unfold renderLine
  split
  · exact lineRes_nil
  · have hnv : segIsVar (("", 0x23 :: rest) : Seg) = false := by simp [segIsVar]
    have := flatten_no_nl vals _ h
    simp only [List.map_cons, hnv, Bool.false_eq_true, if_false, List.flatten_cons,
      List.cons_append] at this ⊢
    have hX : (0x0A : UInt8) ∉ rest ++ (more.map fun s => if segIsVar s then vals s.1 else s.2).flatten := by
      intro hm; exact this (List.mem_cons_of_mem _ hm)
    exact ⟨_, _, run_hash_line _ hX, Or.inr ⟨rfl, rfl⟩, rfl⟩

theorem shapeOf_cases (l : SegLine) :
    shapeOf l = .other ∨
    (shapeOf l = .inert ∧ (∀ s ∈ l, s.1 ≠ "CMD") ∧
      (l = [] ∨ ∃ rest more, l = ("", 0x23 :: rest) :: more)) ∨
    (shapeOf l = .cmdAlone ∧ l = [("CMD", [])]) ∨
    (shapeOf l = .resources ∧ l = [("RESOURCES", [])]) ∨
    (shapeOf l = .cdWorkdir ∧ l = shapeCd) ∨
    (shapeOf l = .envCmdBg ∧ l = shapeEnv) := by
  unfold shapeOf
  split
  · exact .inr (.inl ⟨rfl, by simp, .inl rfl⟩)
  · split
    · exact .inl rfl
    · rename_i hc
      refine .inr (.inl ⟨rfl, fun s hs e => hc ?_, .inr ⟨_, _, rfl⟩⟩)
      exact List.any_eq_true.mpr ⟨s, hs, by simp [e]⟩
  · split
    · rename_i h; exact .inr (.inr (.inl ⟨rfl, h⟩))
    · split
      · rename_i h; exact .inr (.inr (.inr (.inl ⟨rfl, h⟩)))
      · split
        · rename_i h; exact .inr (.inr (.inr (.inr (.inl ⟨rfl, h⟩))))
        · split
          · rename_i h; exact .inr (.inr (.inr (.inr (.inr ⟨rfl, h⟩))))
          · exact .inl rfl

theorem lineRes_of_shape {tbl : EscTable} (ht : TableOK tbl = true) {vals : String → Bytes}
    {g : Given} (hv : ValsOK tbl vals g) (l : SegLine) (hs : shapeOf l ≠ .other)
    (hnl : shapeOf l = .inert →
      ∀ s ∈ l, (0x0A : UInt8) ∉ (if segIsVar s then vals s.1 else s.2)) :
    LineRes (renderLine vals l) (lineToks g (shapeOf l)) := by
  rcases shapeOf_cases l with h | ⟨h, _, rfl | ⟨rest, more, rfl⟩⟩ | ⟨h, rfl⟩ | ⟨h, rfl⟩ |
    ⟨h, rfl⟩ | ⟨h, rfl⟩
  · exact absurd h hs
  · exact lineRes_nil
  · rw [h]; exact lineRes_hash vals _ _ (hnl h)
  · rw [h]; exact lineRes_cmdAlone ht hv
  · rw [h]; exact lineRes_resources hv
  · rw [h]; exact lineRes_cd ht hv
  · rw [h]; exact lineRes_env ht hv

end Martian.JobTemplate
