/-
`Martian.TypesR` – the type system over numerals as Go reads them (float64 rounding in
`FilterJson` for `int`, binary64 range for `float`) – is the model of Proofs/Types.lean under the
reading `Reading.float64`, so every theorem proved there for an arbitrary reading holds of it.

The second part (`NumsExact`, `agree`, `filter_agree`, `check_agree`): the exact-decimal model
(`Martian.Types`) and `Martian.TypesR` agree on every JSON value all of whose numerals are float64
values (`Num.exact64`): validation verdict, filtered value and error class are equal, for every type.
-/
import Proofs.Types
import Proofs.JsonRound
namespace Martian.TypesR
open Martian.Json Martian.Types

/-- `strconv.ParseFloat`: a float is a literal that does not overflow binary64, and the integer
written is the one the rounded value is -/
def _root_.Martian.Types.Reading.float64 : Reading where
  fin := Num.finite64
  toInt? := Num.goInt?
  toInt?_inInt64 := Num.goInt?_inInt64
  fin_of_int64Lit {n} h := by
    cases n with
    | int v => simp [Num.finite64, show Num.inInt64 v = true from h]
    | flt m e => cases h

theorem checkBase_eq (b : Base) (v : J) : checkBase b v = Reading.float64.checkBase b v := by
  cases v with
  | num n => cases b <;> cases n <;> rfl
  | _ => cases b <;> rfl

theorem filterBase_eq (b : Base) (v : J) : filterBase b v = Reading.float64.filterBase b v := by
  cases v with
  | num n =>
    cases b <;> try rfl
    cases n <;> rfl
  | _ => cases b <;> rfl

mutual
  theorem check_eq : ∀ (t : Ty) (v : J), check t v = Reading.float64.check t v
    | .base b, v => by simp only [check, Reading.check, checkBase_eq]
    | .user _, v => by cases v <;> rfl
    | .arr t, v => by cases v <;> simp only [check, Reading.check, check_eq t]
    | .tmap t, v => by cases v <;> simp only [check, Reading.check, check_eq t]
    | .struct _ fs, v => by cases v <;> simp only [check, Reading.check, checkFields_eq fs]
  theorem checkFields_eq : ∀ (fs : Fields) (kvs : List (Bytes × J)),
      checkFields fs kvs = Reading.float64.checkFields fs kvs
    | .nil, _ => rfl
    | .cons k t r, kvs => by
      simp only [checkFields, Reading.checkFields, check_eq t, checkFields_eq r]
      cases getKey k kvs <;> rfl
end

mutual
  theorem filter_eq : ∀ (t : Ty) (v : J), filter t v = Reading.float64.filter t v
    | .base b, v => by simp only [filter, Reading.filter, filterBase_eq]
    | .user _, v => by cases v <;> rfl
    | .arr t, v => by cases v <;> simp only [filter, Reading.filter, filter_eq t]
    | .tmap t, v => by cases v <;> simp only [filter, Reading.filter, filter_eq t]
    | .struct _ fs, v => by cases v <;> simp only [filter, Reading.filter, filterFields_eq fs]
  theorem filterFields_eq : ∀ (fs : Fields) (kvs : List (Bytes × J)),
      filterFields fs kvs = Reading.float64.filterFields fs kvs
    | .nil, _ => rfl
    | .cons k t r, kvs => by
      simp only [filterFields, Reading.filterFields, filter_eq t, filterFields_eq r]
      cases getKey k kvs <;> rfl
end

theorem valid_eq (t : Ty) (v : J) : valid t v = Reading.float64.valid t v := by
  simp only [valid, Reading.valid, check_eq]

theorem shape_iff {t : Ty} {v : J} : Shape t v ↔ Reading.float64.Shape t v := by
  constructor <;> intro h <;> induction h <;> constructor <;> assumption

theorem valid_null (t : Ty) : valid t .null = true := by
  rw [valid_eq]; exact Reading.float64.valid_null t

theorem shape_of_valid : ∀ (t : Ty) (v : J), valid t v = true → Shape t v := by
  intro t v h
  rw [valid_eq] at h; exact shape_iff.mpr (Reading.float64.shape_of_valid t v h)

theorem valid_of_shape : ∀ (t : Ty) (v : J), Shape t v → valid t v = true := by
  intro t v h
  rw [valid_eq]; exact Reading.float64.valid_of_shape t v (shape_iff.mp h)

theorem filter_fst_of_not_canFilter (t : Ty) (v : J) (h : canFilter t = false) :
    (filter t v).1 = v := by
  rw [filter_eq]; exact Reading.float64.filter_fst_of_not_canFilter t v h

def fieldOut (t : Ty) : Option J → J
  | none => .null
  | some v => (filter t v).1

theorem fieldOut_eq (t : Ty) (o : Option J) : fieldOut t o = Reading.float64.fieldOut t o := by
  cases o <;> simp only [fieldOut, Reading.fieldOut, filter_eq]

theorem filterFields_fst : ∀ (fs : Fields) (kvs : List (Bytes × J)),
    (filterFields fs kvs).1 = fs.toList.map (fun kt => (kt.1, fieldOut kt.2 (getKey kt.1 kvs))) := by
  simp only [filterFields_eq, fieldOut_eq]; exact Reading.float64.filterFields_fst

theorem filter_struct_fst (n : Bytes) (fs : Fields) (kvs : List (Bytes × J)) :
    (filter (.struct n fs) (.obj kvs)).1 =
      .obj (fs.toList.map (fun kt => (kt.1, fieldOut kt.2 (getKey kt.1 kvs)))) := by
  simp only [filter_eq, fieldOut_eq]; exact Reading.float64.filter_struct_fst n fs kvs

theorem filter_idem (t : Ty) : t.wf = true → ∀ v, (filter t (filter t v).1).1 = (filter t v).1 := by
  simp only [filter_eq]; exact Reading.float64.filter_idem t

theorem shape_filter_of_assignable (d : Ty) : d.wf = true → ∀ (s : Ty) (v : J), Shape s v →
    assignable d s = true → noHole d s = true → Shape d (filter d v).1 := by
  simp only [filter_eq, shape_iff]; exact Reading.float64.shape_filter_of_assignable d

theorem filter_ok_of_valid (t : Ty) : ∀ v, valid t v = true → (filter t v).2 = .ok := by
  simp only [filter_eq, valid_eq]; exact Reading.float64.filter_ok_of_valid t

theorem filter_chain (d : Ty) : d.wf = true → ∀ (s : Ty) (v : J), s.wf = true → valid s v = true →
    assignable d s = true → pureNarrow d s = true →
    (filter d (filter s v).1).1 = (filter d v).1 := by
  simp only [filter_eq, valid_eq]; exact Reading.float64.filter_chain d

theorem noHole_exact (d : Ty) : d.wf = true → ∀ s : Ty, s.wf = true → assignable d s = true →
    noHole d s = false → ∃ v, Shape s v ∧ ¬ Shape d (filter d v).1 := by
  simp only [filter_eq, shape_iff]; exact Reading.float64.noHole_exact d

theorem checkFields_dedupLast : ∀ (fs : Fields) (kvs : List (Bytes × J)),
    checkFields fs (dedupLast kvs) = checkFields fs kvs := by
  simp only [checkFields_eq]; exact Reading.float64.checkFields_dedupLast

theorem filterFields_dedupLast : ∀ (fs : Fields) (kvs : List (Bytes × J)),
    filterFields fs (dedupLast kvs) = filterFields fs kvs := by
  simp only [filterFields_eq]; exact Reading.float64.filterFields_dedupLast

theorem filter_dropsT (t : Ty) : ∀ v, (filter t v).2 ≠ .fatal → DropsT (fun n i => n.goInt? = some i) t (filter t v).1 v := by
  simp only [filter_eq]; exact Reading.float64.filter_dropsT (fun _ _ h => h) t

theorem filter_drops (t : Ty) : ∀ v, (filter t v).2 ≠ .fatal → Drops (filter t v).1 v := fun v h =>
  (filter_dropsT t v h).rel (DL := DropsL) (DO := DropsO)
    ⟨.refl, fun n i h => .int n i h, .arr, .obj, .nil, .cons, .nil, .cons⟩

theorem assignable_refl (t : Ty) : t.wf = true → assignable t t = true :=
  Martian.Types.assignable_refl t

theorem noHole_refl (t : Ty) : t.wf = true → noHole t t = true :=
  Martian.Types.noHole_refl t

theorem assignable_arrN (a b : Ty) (ha : notArr a = true) (hb : notArr b = true) :
    ∀ n m, assignable (arrN n a) (arrN m b) = true ↔ n = m ∧ assignable a b = true :=
  Martian.Types.assignable_arrN a b ha hb

theorem getKey_append_last (k : Bytes) (v : J) : ∀ (l : List (Bytes × J)),
    getKey k (l ++ [(k, v)]) = some v :=
  Martian.Types.getKey_append_last k v

theorem getKey_fields_map_none (fs : Fields) (g : Bytes → J) {k : Bytes}
    (h : k ∉ fs.toList.map Prod.fst) :
    getKey k (fs.toList.map fun kt => (kt.1, g kt.1)) = none :=
  Martian.Types.getKey_fields_map_none fs g h

theorem dims_eq_of_assignable (d : Ty) : ∀ s, assignable d s = true → mapCoercion d s = false →
    dims d = dims s :=
  Martian.Types.dims_eq_of_assignable d

end Martian.TypesR

namespace Martian.TypesR
open Martian.Json Martian.Types

/-- every numeral in the value is exactly a float64 value -/
inductive NumsExact : J → Prop where
  | null : NumsExact .null
  | bool (b : Bool) : NumsExact (.bool b)
  | str (s : Bytes) : NumsExact (.str s)
  | num (n : Num) : n.exact64 = true → NumsExact (.num n)
  | arr (xs : List J) : (∀ x, x ∈ xs → NumsExact x) → NumsExact (.arr xs)
  | obj (kvs : List (Bytes × J)) : (∀ kv, kv ∈ kvs → NumsExact kv.2) → NumsExact (.obj kvs)

theorem filterBase_agree (b : Base) (v : J) (h : NumsExact v) :
    filterBase b v = Martian.Types.filterBase b v := by
  cases h with
  | num n hn =>
    cases b <;> try rfl
    · -- int
      cases n with
      | int i =>
        simp only [filterBase, Martian.Types.filterBase]
        by_cases hr : Num.inInt64 i = true
        · simp [hr]
        · have hr' : Num.inInt64 i = false := by simpa using hr
          simp [hr', Num.goInt?_of_exact_int i hn hr']
      | flt m e =>
        simp only [filterBase, Martian.Types.filterBase, Num.goInt?_of_exact_flt m e hn]
        cases (Num.flt m e).intValue? with
        | none => rfl
        | some i => by_cases hr : Num.inInt64 i = true <;> simp [hr]
    · -- float
      simp [filterBase, Martian.Types.filterBase, Num.finite64_of_exact n hn]
  | _ => cases b <;> rfl

theorem checkBase_agree (b : Base) (v : J) (h : NumsExact v) :
    checkBase b v = Martian.Types.checkBase b v := by
  cases h with
  | num n hn =>
    cases b with
    | int => cases n <;> rfl
    | float => simp [checkBase, Martian.Types.checkBase, Num.finite64_of_exact n hn]
    | _ => cases n <;> rfl
  | _ => cases b <;> rfl

theorem agree (t : Ty) (v : J) (h : NumsExact v) :
    check t v = Martian.Types.check t v ∧ filter t v = Martian.Types.filter t v := by
  simp only [check_eq, filter_eq, Martian.Types.check_eq, Martian.Types.filter_eq]
  refine Reading.congr (P := NumsExact) (fun b v hv => ?_) (fun xs h => by cases h; assumption)
    (fun kvs h => by cases h; assumption) t v h
  rw [← checkBase_eq, ← filterBase_eq, ← Martian.Types.checkBase_eq, ← Martian.Types.filterBase_eq]
  exact ⟨checkBase_agree b v hv, filterBase_agree b v hv⟩

theorem filter_agree (t : Ty) : ∀ v, NumsExact v → filter t v = Martian.Types.filter t v :=
  fun v h => (agree t v h).2

theorem check_agree (t : Ty) : ∀ v, NumsExact v → check t v = Martian.Types.check t v :=
  fun v h => (agree t v h).1

end Martian.TypesR
