import Martian.Vdr

/-! The bookkeeping of a fork as the proofs see it: who holds an argument (`Holds`), what pruning
leaves alone (`Frame`, `Keeps`, `Sh`), and the calls of the code every pass is a sequence of (`Own`):
an invariant is proved call by call, once (`run_induct`).  The file restates bodies that the model has inline (`cleanPhase` / `cleanTmp_eq`, `dropDone`, `killed` / `killed_iff`,
`killChunks` / `vdrKill_eq`, `kill_eq`, `dropArgs`), says what the earlier calls establish (`Needed`, `Ready`,
`cleanTmp3_ready`), and gives the case principles `vdrKillSome_induct`, `vdrKill_cases`, `vdrKill_nonvol` and
`kill_induct` (one pass is a sequence of `Own` transitions) besides `run_induct`. -/
namespace Martian.Vdr

def InDom (s : St) (a : Arg) : Prop := ∃ hs, (a, hs) ∈ s.fileArgs
def Holds (s : St) (a : Arg) (h : Holder) : Prop := ∃ hs, (a, hs) ∈ s.fileArgs ∧ h ∈ hs

theorem Holds.inDom {s : St} {a : Arg} {h : Holder} (x : Holds s a h) : InDom s a := by
  obtain ⟨hs, hm, _⟩ := x; exact ⟨hs, hm⟩

theorem mem_dom_iff (s : St) (a : Arg) : a ∈ s.dom ↔ InDom s a := by
  unfold St.dom InDom
  simp only [List.mem_map]
  constructor
  · rintro ⟨p, hp, rfl⟩; exact ⟨p.2, hp⟩
  · rintro ⟨hs, hm⟩; exact ⟨(a, hs), hm, rfl⟩

/-- everything but the bookkeeping maps is untouched and no argument appears -/
structure Frame (s s' : St) : Prop where
  disk : s'.disk = s.disk
  removed : s'.removed = s.removed
  cache : s'.cache = s.cache
  done : s'.doneNodes = s.doneNodes
  report : s'.report = s.report
  final : s'.final = s.final
  ran : s'.ran = s.ran
  dom : ∀ a, InDom s' a → InDom s a

/-- a holder is lost only for a reason `P` -/
def Keeps (P : Arg → Holder → Prop) (s s' : St) : Prop := ∀ a h, Holds s a h → Holds s' a h ∨ P a h

/-- holders and post nodes only disappear -/
structure Sh (s s' : St) : Prop where
  holds : ∀ a h, Holds s' a h → Holds s a h
  keys : ∀ p ∈ s'.postNodes, ∃ q ∈ s.postNodes, q.1 = p.1

theorem Frame.refl (s : St) : Frame s s := ⟨rfl, rfl, rfl, rfl, rfl, rfl, rfl, fun _ h => h⟩
theorem Frame.trans {a b c : St} (x : Frame a b) (y : Frame b c) : Frame a c :=
  ⟨y.disk.trans x.disk, y.removed.trans x.removed, y.cache.trans x.cache, y.done.trans x.done,
   y.report.trans x.report, y.final.trans x.final, y.ran.trans x.ran, fun a h => x.dom a (y.dom a h)⟩
theorem Keeps.refl (P) (s : St) : Keeps P s s := fun _ _ h => Or.inl h
theorem Keeps.trans {P} {a b c : St} (x : Keeps P a b) (y : Keeps P b c) : Keeps P a c := by
  intro ar h hh
  rcases x ar h hh with h1 | h1
  · exact y ar h h1
  · exact Or.inr h1
theorem Keeps.mono {P Q : Arg → Holder → Prop} {a b : St} (x : Keeps P a b) (h : ∀ ar ho, P ar ho → Q ar ho) : Keeps Q a b :=
  fun ar ho hh => (x ar ho hh).imp_right (h ar ho)
theorem Sh.refl (s : St) : Sh s s := ⟨fun _ _ h => h, fun p hp => ⟨p, hp, rfl⟩⟩
theorem Sh.trans {a b c : St} (x : Sh a b) (y : Sh b c) : Sh a c := by
  refine ⟨fun ar h hh => x.holds ar h (y.holds ar h hh), ?_⟩
  intro p hp
  obtain ⟨q, hq, e⟩ := y.keys p hp
  obtain ⟨r, hr, e'⟩ := x.keys q hq
  exact ⟨r, hr, e'.trans e⟩

theorem Sh.postNodes_nil {s s' : St} (h : Sh s s') (hp : s.postNodes = []) : s'.postNodes = [] := by
  apply List.eq_nil_iff_forall_not_mem.mpr
  intro p hm
  obtain ⟨q, hq, _⟩ := h.keys p hm
  rw [hp] at hq
  cases hq

theorem removeFileArg_frame (s : St) (b : Arg) : Frame s (removeFileArg s b) := by
  unfold removeFileArg
  split
  · exact Frame.refl s
  · refine ⟨rfl, rfl, rfl, rfl, rfl, rfl, rfl, ?_⟩
    rintro a ⟨hs, hm⟩
    exact ⟨hs, (List.mem_filter.mp hm).1⟩

theorem removeFileArg_keeps (s : St) (b : Arg) : Keeps (fun a _ => a = b) s (removeFileArg s b) := by
  unfold removeFileArg
  split
  · exact Keeps.refl _ s
  · rintro a h ⟨hs, hm, hh⟩
    by_cases e : a = b
    · exact Or.inr e
    · left
      refine ⟨hs, ?_, hh⟩
      simp only [List.mem_filter]
      exact ⟨hm, by simpa using e⟩

theorem removeFileArg_sh (s : St) (b : Arg) : Sh s (removeFileArg s b) := by
  unfold removeFileArg
  split
  · exact Sh.refl s
  · constructor
    · rintro a h ⟨hs, hm, hh⟩
      exact ⟨hs, (List.mem_filter.mp hm).1, hh⟩
    · intro p hp
      simp only [List.mem_filterMap] at hp
      obtain ⟨q, hq, hg⟩ := hp
      refine ⟨q, hq, ?_⟩
      split at hg
      · split at hg
        · cases hg
        · cases hg; rfl
      · cases hg; rfl

theorem removeFileArg_keepsDom (s : St) (a b : Arg) (hab : a ≠ b) (h : InDom s a) : InDom (removeFileArg s b) a := by
  unfold removeFileArg
  split
  · exact h
  · obtain ⟨hs, hm⟩ := h
    exact ⟨hs, List.mem_filter.mpr ⟨hm, by simpa using hab⟩⟩

theorem removePostNode_frame (s : St) (n : Node) : Frame s (removePostNode s n) := by
  unfold removePostNode
  split
  · exact Frame.refl s
  · refine ⟨rfl, rfl, rfl, rfl, rfl, rfl, rfl, ?_⟩
    rintro a ⟨hs, hm⟩
    simp only [List.mem_filterMap] at hm
    obtain ⟨p, hp, hq⟩ := hm
    split at hq
    · split at hq
      · cases hq
      · cases hq; exact ⟨p.2, hp⟩
    · cases hq; exact ⟨hs, hp⟩

theorem removePostNode_keeps (s : St) (n : Node) : Keeps (fun _ h => h = some n) s (removePostNode s n) := by
  unfold removePostNode
  split
  · exact Keeps.refl _ s
  · rename_i as _
    rintro a h ⟨hs, hm, hh⟩
    by_cases e : h = some n
    · exact Or.inr e
    · left
      by_cases hc : as.contains a = true
      · refine ⟨hs.filter (· != some n), ?_, ?_⟩
        · simp only [List.mem_filterMap]
          refine ⟨(a, hs), hm, ?_⟩
          have hne : (hs.filter (· != some n)).isEmpty = false := by
            rw [List.isEmpty_eq_false_iff_exists_mem]
            exact ⟨h, List.mem_filter.mpr ⟨hh, by simpa using e⟩⟩
          have hc' : a ∈ as := by simpa using hc
          simp [hc', hne]
        · exact List.mem_filter.mpr ⟨hh, by simpa using e⟩
      · refine ⟨hs, ?_, hh⟩
        simp only [List.mem_filterMap]
        have hc' : ¬ a ∈ as := by simpa using hc
        exact ⟨(a, hs), hm, by simp [hc']⟩

theorem removePostNode_sh (s : St) (n : Node) : Sh s (removePostNode s n) := by
  unfold removePostNode
  split
  · exact Sh.refl s
  · constructor
    · rintro a h ⟨hs, hm, hh⟩
      simp only [List.mem_filterMap] at hm
      obtain ⟨p, hp, hg⟩ := hm
      split at hg
      · split at hg
        · cases hg
        · cases hg
          exact ⟨p.2, hp, (List.mem_filter.mp hh).1⟩
      · cases hg; exact ⟨hs, hp, hh⟩
    · intro p hp
      exact ⟨p, (List.mem_filter.mp hp).1, rfl⟩

theorem removePostNode_keys (s : St) (n : Node) :
    ∀ p ∈ (removePostNode s n).postNodes, p ∈ s.postNodes ∧ p.1 ≠ n := by
  unfold removePostNode
  split
  · rename_i h
    intro p hp
    exact ⟨hp, fun e => by simpa [e] using List.lookup_eq_none_iff.mp h p hp⟩
  · intro p hp
    have := List.mem_filter.mp hp
    exact ⟨this.1, by simpa using this.2⟩

theorem removePostNodes_frame (ns : List Node) (s : St) : Frame s (removePostNodes s ns) :=
  List.foldlRecOn (motive := Frame s) _ _ (Frame.refl s) fun s' f n _ => f.trans (removePostNode_frame s' n)

theorem removePostNodes_sh (ns : List Node) (s : St) : Sh s (removePostNodes s ns) :=
  List.foldlRecOn (motive := Sh s) _ _ (Sh.refl s) fun s' f n _ => f.trans (removePostNode_sh s' n)

theorem removePostNodes_keeps (ns : List Node) (s : St) :
    Keeps (fun _ h => ∃ n ∈ ns, h = some n) s (removePostNodes s ns) :=
  List.foldlRecOn (motive := Keeps _ s) _ _ (Keeps.refl _ s) fun s' k n hn =>
    k.trans ((removePostNode_keeps s' n).mono fun _ _ e => ⟨n, hn, e⟩)

theorem removePostNodes_keys (ns : List Node) (s : St) :
    ∀ p ∈ (removePostNodes s ns).postNodes, p ∈ s.postNodes ∧ ∀ n ∈ ns, p.1 ≠ n := by
  unfold removePostNodes
  induction ns generalizing s with
  | nil => intro p hp; exact ⟨hp, fun n hn => by cases hn⟩
  | cons x r ih =>
    intro p hp
    obtain ⟨h1, h2⟩ := ih (removePostNode s x) p hp
    obtain ⟨h3, h4⟩ := removePostNode_keys s x p h1
    refine ⟨h3, ?_⟩
    intro n hn
    rcases List.mem_cons.mp hn with rfl | hn
    · exact h4
    · exact h2 n hn

/-- removal of the arguments of a list that satisfy `cond`: the shape of `removeEmpty`, `dropNoFiles`, `dropUnused` -/
def dropArgs (cond : Arg → Bool) (l : List Arg) (s : St) : St :=
  l.foldl (fun s a => if cond a then removeFileArg s a else s) s

theorem dropArgs_inv {P : St → Prop} {cond : Arg → Bool} (h : ∀ s a, cond a = true → P s → P (removeFileArg s a))
    (l : List Arg) {s : St} (h0 : P s) : P (dropArgs cond l s) := by
  refine List.foldlRecOn (motive := P) _ _ h0 ?_
  intro s' p a _
  split
  · rename_i hc; exact h s' a hc p
  · exact p

theorem dropArgs_frame (cond : Arg → Bool) (l : List Arg) (s : St) : Frame s (dropArgs cond l s) :=
  dropArgs_inv (P := Frame s) (fun s' a _ f => f.trans (removeFileArg_frame s' a)) l (Frame.refl s)

theorem dropArgs_sh (cond : Arg → Bool) (l : List Arg) (s : St) : Sh s (dropArgs cond l s) :=
  dropArgs_inv (P := Sh s) (fun s' a _ f => f.trans (removeFileArg_sh s' a)) l (Sh.refl s)

theorem dropArgs_keeps (cond : Arg → Bool) (l : List Arg) (s : St) :
    Keeps (fun a _ => cond a = true) s (dropArgs cond l s) :=
  dropArgs_inv (P := Keeps _ s) (fun s' b hc k => k.trans ((removeFileArg_keeps s' b).mono fun _ _ e => e ▸ hc)) l
    (Keeps.refl _ s)

theorem dropArgs_keepsDom (cond : Arg → Bool) (l : List Arg) (s : St) (a : Arg) (hc : cond a = false)
    (h : InDom s a) : InDom (dropArgs cond l s) a := by
  refine dropArgs_inv (P := fun s' => InDom s' a) ?_ l h
  intro s' b hb h'
  apply removeFileArg_keepsDom _ _ _ _ h'
  intro e; subst e; rw [hc] at hb; cases hb

theorem removeEmpty_frame (c : Cfg) (s : St) : Frame s (removeEmpty c s) := dropArgs_frame _ _ s

theorem prune_inv {P : St → Prop} (h : ∀ s a, P s → P (removeFileArg s a)) (c : Cfg) (es : List Entry) {s : St}
    (h0 : P s) : P (dropUnused es (dropNoFiles c s)) :=
  dropArgs_inv (fun s a _ => h s a) _ (dropArgs_inv (cond := fun a => (c.filesOf a).isEmpty) (fun s a _ => h s a) _ h0)

/-- the cache aside, building the cache is pruning -/
theorem cacheMap_frame (c : Cfg) (s : St) : Frame s { cacheMap c s with cache := s.cache } :=
  have f := prune_inv (P := Frame s) (fun s' a f => f.trans (removeFileArg_frame s' a)) c (cacheEntries c s) (Frame.refl s)
  ⟨f.disk, f.removed, rfl, f.done, f.report, f.final, f.ran, f.dom⟩

theorem cacheMap_sh (c : Cfg) (s : St) : Sh s (cacheMap c s) :=
  have h := prune_inv (P := Sh s) (fun s' a f => f.trans (removeFileArg_sh s' a)) c (cacheEntries c s) (Sh.refl s)
  ⟨h.holds, h.keys⟩

theorem normCache_frame (c : Cfg) (s : St) : Frame s { normCache c s with cache := s.cache } := by
  unfold normCache
  split
  · exact cacheMap_frame c s
  · exact ⟨rfl, rfl, rfl, rfl, rfl, rfl, rfl, fun _ h => h⟩

theorem normCache_sh (c : Cfg) (s : St) : Sh s (normCache c s) := by
  unfold normCache
  split
  · exact cacheMap_sh c s
  · exact ⟨fun _ _ h => h, fun p hp => ⟨p, hp, rfl⟩⟩

theorem normCache_inDom (c : Cfg) (s : St) :
    ∃ es, (normCache c s).cache = some es ∧ ∀ e ∈ es, ∀ a ∈ e.args, InDom (normCache c s) a := by
  unfold normCache
  split
  · refine ⟨_, rfl, ?_⟩
    intro e hm a ha
    have hm' := hm
    unfold cacheEntries at hm
    simp only [List.mem_map, List.mem_filter] at hm
    obtain ⟨d, _, rfl⟩ := hm
    have ha' := List.mem_filter.mp (List.mem_filter.mp ha).1
    have h1 : InDom (dropNoFiles c s) a :=
      dropArgs_keepsDom _ s.dom s a (by simpa using ha'.2) ((mem_dom_iff s a).mp ha'.1)
    refine dropArgs_keepsDom _ _ _ a ?_ h1
    simp only [Bool.not_eq_false', List.any_eq_true]
    exact ⟨_, hm', by simpa using ha⟩
  · refine ⟨_, rfl, ?_⟩
    intro e hm a ha
    unfold updateCache at hm
    simp only [List.mem_map] at hm
    obtain ⟨e0, _, rfl⟩ := hm
    exact (mem_dom_iff s a).mp (by simpa using (List.mem_filter.mp ha).2)

/-- one phase of temp cleaning: the body of the fold in the model's `cleanTmp`, word for word (`cleanTmp_eq` is `rfl`) -/
def cleanPhase (c : Cfg) (s : St) (ph : Nat) : St :=
  if s.ran.contains ph || (ph == 0 && !c.splits) then s else
  let gone := s.disk.filter (fun d => d.kind == .tmp ph)
  { s with
    disk := s.disk.filter (fun d => !(d.kind == .tmp ph))
    removed := s.removed ++ gone
    ran := ph :: s.ran
    report := { paths := if sumSize gone = 0 then s.report.paths
                         else s.report.paths ++ topLevel (gone.map (·.path))
                count := s.report.count + gone.length
                size := s.report.size + sumSize gone
                deltas := if sumSize gone = 0 then s.report.deltas
                          else s.report.deltas ++ [-(Int.ofNat (sumSize gone))] } }

theorem cleanTmp_eq (c : Cfg) (s : St) (upto : Nat) :
    cleanTmp c s upto = (List.range upto).foldl (cleanPhase c) s := rfl

/-- a complete-state pass forgets the consumers that are done -/
def dropDone (s : St) : St :=
  removePostNodes s ((s.postNodes.map (·.1)).filter (fun n => s.doneNodes.contains n))

/-- at or below the path of a cache entry that no argument keeps alive -/
def killed (es : List Entry) (d : DiskEnt) : Bool :=
  ((es.filter (fun e => e.args.isEmpty)).map (·.path)).any (fun k => pathIsInside d.path k)

theorem killed_iff {es : List Entry} {d : DiskEnt} :
    killed es d = true ↔ ∃ e ∈ es, e.args.isEmpty = true ∧ pathIsInside d.path e.path = true := by
  simp only [killed, List.any_eq_true, List.mem_map, List.mem_filter]
  constructor
  · rintro ⟨k, ⟨e, ⟨he, hemp⟩, rfl⟩, hin⟩; exact ⟨e, he, hemp, hin⟩
  · rintro ⟨e, he, hemp, hin⟩; exact ⟨_, ⟨e, ⟨he, hemp⟩, rfl⟩, hin⟩

theorem killCore_disk_eq (s : St) (es : List Entry) : (killCore s es).disk = s.disk.filter (fun d => !killed es d) := rfl

theorem killCore_removed_eq (s : St) (es : List Entry) :
    (killCore s es).removed = s.removed ++ s.disk.filter (killed es) := rfl

theorem killCore_disk {s : St} {es : List Entry} {d : DiskEnt} (h : d ∈ (killCore s es).disk) :
    d ∈ s.disk ∧ killed es d = false := by
  rw [killCore_disk_eq, List.mem_filter] at h
  exact ⟨h.1, by simpa using h.2⟩

theorem dropDone_frame (s : St) : Frame s (dropDone s) := removePostNodes_frame _ s

/-- `vdrKill` of a fork that is not volatile: the chunk-level files go and the fork is final; the last branch of
the model's `vdrKill`, word for word (`vdrKill_eq` is `rfl`) -/
def killChunks (c : Cfg) (s : St) : St :=
  let gone := if c.splits then s.disk.filter (fun d => d.kind == .chunk) else []
  { s with
    disk := s.disk.filter (fun d => !(c.splits && d.kind == .chunk))
    removed := s.removed ++ gone
    final := true
    report := { paths := s.report.paths ++ topLevel (gone.map (·.path))
                count := s.report.count + gone.length
                size := s.report.size + sumSize gone
                deltas := if sumSize gone = 0 then s.report.deltas
                          else s.report.deltas ++ [-(Int.ofNat (sumSize gone))] } }

theorem vdrKill_eq (c : Cfg) (s : St) :
    vdrKill c s = if s.final then s else if c.volatile then vdrKillSome c s true else killChunks c s := rfl

theorem kill_eq (c : Cfg) (s : St) :
    kill c s = if s.final then s else
      if (dropDone (cleanTmp c s 3)).postNodes.isEmpty then
        (if c.strict then vdrKillSome c (dropDone (cleanTmp c s 3)) true else vdrKill c (dropDone (cleanTmp c s 3)))
      else if c.strict then vdrKillSome c (dropDone (cleanTmp c s 3)) false else dropDone (cleanTmp c s 3) := rfl

/-- the phases whose temp entries a complete-state pass cleans -/
def Needed (c : Cfg) (ph : Nat) : Prop := ph < 3 ∧ (ph ≠ 0 ∨ c.splits = true)

def Ready (c : Cfg) (s : St) : Prop := ∀ ph, Needed c ph → ph ∈ s.ran

theorem cleanPhase_fields (c : Cfg) (s : St) (ph : Nat) :
    (cleanPhase c s ph).fileArgs = s.fileArgs ∧ (cleanPhase c s ph).postNodes = s.postNodes ∧
    (cleanPhase c s ph).cache = s.cache ∧ (cleanPhase c s ph).final = s.final ∧
    (cleanPhase c s ph).doneNodes = s.doneNodes := by
  unfold cleanPhase
  split <;> exact ⟨rfl, rfl, rfl, rfl, rfl⟩

theorem cleanTmp_fields (c : Cfg) (s : St) (upto : Nat) :
    (cleanTmp c s upto).fileArgs = s.fileArgs ∧ (cleanTmp c s upto).postNodes = s.postNodes ∧
    (cleanTmp c s upto).cache = s.cache ∧ (cleanTmp c s upto).final = s.final ∧
    (cleanTmp c s upto).doneNodes = s.doneNodes := by
  rw [cleanTmp_eq]
  refine List.foldlRecOn (motive := fun s' : St => s'.fileArgs = s.fileArgs ∧ s'.postNodes = s.postNodes ∧
    s'.cache = s.cache ∧ s'.final = s.final ∧ s'.doneNodes = s.doneNodes) _ _ ⟨rfl, rfl, rfl, rfl, rfl⟩ ?_
  intro s' ⟨a, b, cc, d, e⟩ ph _
  obtain ⟨a', b', c', d', e'⟩ := cleanPhase_fields c s' ph
  exact ⟨a'.trans a, b'.trans b, c'.trans cc, d'.trans d, e'.trans e⟩

theorem cleanPhase_ran_mono (c : Cfg) (s : St) (ph : Nat) : ∀ x ∈ s.ran, x ∈ (cleanPhase c s ph).ran := by
  intro x hx
  unfold cleanPhase
  split
  · exact hx
  · exact List.mem_cons_of_mem _ hx

theorem cleanPhase_adds (c : Cfg) (s : St) (ph : Nat) (h : ph ≠ 0 ∨ c.splits = true) :
    ph ∈ (cleanPhase c s ph).ran := by
  unfold cleanPhase
  split
  · rename_i hc
    simp only [Bool.or_eq_true, Bool.and_eq_true, beq_iff_eq, Bool.not_eq_true'] at hc
    rcases hc with hc | ⟨h0, hs⟩
    · simpa using hc
    · rcases h with h | h
      · exact absurd h0 h
      · rw [hs] at h; cases h
  · exact List.mem_cons_self

theorem cleanTmp3_ready (c : Cfg) (s : St) : Ready c (cleanTmp c s 3) := by
  have h3 : List.range 3 = [0, 1, 2] := by decide
  rw [cleanTmp_eq, h3]
  simp only [List.foldl_cons, List.foldl_nil]
  intro ph ⟨hlt, hne⟩
  have h012 : ph = 0 ∨ ph = 1 ∨ ph = 2 := by omega
  rcases h012 with rfl | rfl | rfl
  · apply cleanPhase_ran_mono; apply cleanPhase_ran_mono; exact cleanPhase_adds c s 0 hne
  · apply cleanPhase_ran_mono; exact cleanPhase_adds c _ 1 (Or.inl (by decide))
  · exact cleanPhase_adds c _ 2 (Or.inl (by decide))

/-- what a fork does by itself: the calls `step` and `kill` make (of temp cleaning, one phase), each with what
the code has established when it makes the call.  Every pass is a sequence of them (`kill_induct`). -/
inductive Own (c : Cfg) : St → St → Prop
  | removeEmpty (s) : Own c s (removeEmpty c s)
  | cacheMap (s) : Own c s (cacheMap c s)
  | cleanPhase (s ph) : s.final = false → Own c s (cleanPhase c s ph)
  | dropDone {s} : s.final = false → Own c s (dropDone s)
  | vdrKillSome {s} (done) : s.final = false → c.strict = true → Ready c s → (done = true → s.postNodes = []) →
      Own c s (vdrKillSome c s done)
  | vdrKill {s} : s.final = false → c.strict = false → Ready c s → s.postNodes = [] → Own c s (vdrKill c s)

/-- `P` is what is known while `vdrKillSome` works, `Q` what is claimed of the result; `fin` is given the test
the code has made -/
theorem vdrKillSome_induct {c : Cfg} {done : Bool} {P Q : St → Prop}
    (norm : ∀ s, P s → P (normCache c s))
    (core : ∀ s es, s.cache = some es → (∀ e ∈ es, ∀ a ∈ e.args, InDom s a) → P s → P (killCore s es))
    (stay : ∀ s, P s → Q s)
    (fin : ∀ s es, s.cache = some es → (∀ e ∈ es, ∀ a ∈ e.args, InDom s a) → (∀ e ∈ es, e.args.isEmpty = false) →
      (es = [] ∨ done = true ∨ s.postNodes = []) → P s → Q { s with final := true })
    {s : St} (h : P s) : Q (vdrKillSome c s done) := by
  unfold vdrKillSome
  dsimp only
  have h1 := norm s h
  obtain ⟨es, hes, nc⟩ := normCache_inDom c s
  generalize normCache c s = s1 at *
  rw [show s1.cache.getD [] = es by rw [hes]; rfl]
  have hne : ∀ e ∈ es.filter (fun e => !e.args.isEmpty), e.args.isEmpty = false :=
    fun e he => by simpa using (List.mem_filter.mp he).2
  split
  · rename_i hempty
    split
    · rename_i hdone
      refine fin s1 es hes nc ?_ (Or.inr (Or.inl hdone)) h1
      intro e he
      cases hx : e.args.isEmpty with
      | false => rfl
      | true =>
        have : e ∈ es.filter (fun e => e.args.isEmpty) := List.mem_filter.mpr ⟨he, hx⟩
        rw [List.isEmpty_iff.mp hempty] at this
        cases this
    · exact stay s1 h1
  · have h2 := core s1 es hes nc h1
    split
    · rename_i hcond
      refine fin (killCore s1 es) _ rfl (fun e he => nc e (List.mem_filter.mp he).1) hne ?_ h2
      simp only [Bool.or_eq_true, List.isEmpty_iff] at hcond
      rcases hcond with (h | h) | h
      · exact Or.inl h
      · exact Or.inr (Or.inl h)
      · exact Or.inr (Or.inr h)
    · exact stay _ h2

/-- `vdrKill` of a live fork: the file-level pass if the fork is volatile, the removal of the chunk-level files if not -/
theorem vdrKill_cases {c : Cfg} {s : St} {P : St → Prop} (hf : s.final = false)
    (vol : c.volatile = true → P (vdrKillSome c s true)) (non : c.volatile = false → P (killChunks c s)) :
    P (vdrKill c s) := by
  rw [vdrKill_eq, hf]
  cases hv : c.volatile with
  | true => exact vol hv
  | false => exact non hv

theorem vdrKill_nonvol {c : Cfg} {s : St} (hf : s.final = false) (hv : c.volatile = false) :
    vdrKill c s = killChunks c s := by
  rw [vdrKill_eq, hf, hv]; rfl

theorem cleanTmp_own {c : Cfg} {P : St → Prop} (own : ∀ a b, Own c a b → P a → P b) {s : St}
    (hf : s.final = false) (upto : Nat) (h : P s) : P (cleanTmp c s upto) := by
  rw [cleanTmp_eq]
  refine (List.foldlRecOn (motive := fun s' : St => s'.final = false ∧ P s') _ _ ⟨hf, h⟩ ?_).2
  rintro s' ⟨hf', p⟩ ph _
  exact ⟨(cleanPhase_fields c s' ph).2.2.2.1.trans hf', own _ _ (.cleanPhase s' ph hf') p⟩

theorem kill_induct {c : Cfg} {P : St → Prop} (own : ∀ a b, Own c a b → P a → P b) {s : St} (h : P s) :
    P (kill c s) := by
  rw [kill_eq]
  split
  · exact h
  · rename_i hf
    have hf : s.final = false := by simpa using hf
    have h1 := cleanTmp_own own hf 3 h
    have hf1 : (cleanTmp c s 3).final = false := (cleanTmp_fields c s 3).2.2.2.1.trans hf
    have rd1 := cleanTmp3_ready c s
    generalize cleanTmp c s 3 = s1 at *
    have h2 := own _ _ (.dropDone hf1) h1
    have f2 := dropDone_frame s1
    have hf2 := f2.final.trans hf1
    have rd2 : Ready c (dropDone s1) := fun ph hn => f2.ran ▸ rd1 ph hn
    generalize dropDone s1 = s2 at *
    split
    · rename_i hp
      have hp : s2.postNodes = [] := List.isEmpty_iff.mp hp
      split
      · rename_i hs; exact own _ _ (.vdrKillSome true hf2 hs rd2 (fun _ => hp)) h2
      · rename_i hs; exact own _ _ (.vdrKill hf2 (by simpa using hs) rd2 hp) h2
    · split
      · rename_i hs; exact own _ _ (.vdrKillSome false hf2 hs rd2 (fun h => nomatch h)) h2
      · exact h2

theorem run_induct {c : Cfg} {P : St → Prop}
    (done : ∀ s n, P s → P { s with doneNodes := n :: s.doneNodes })
    (restart : ∀ s, P s → P { s with fileArgs := c.initArgs, postNodes := c.initPost, cache := none })
    (own : ∀ a b, Own c a b → P a → P b) {s : St} (h : P s) (evs : List Ev) : P (run c s evs) := by
  unfold run
  refine List.foldlRecOn (motive := P) _ _ h fun s p e _ => ?_
  cases e with
  | nodeDone n => exact done s n p
  | nodeFailed _ | nodeReset _ => exact p
  | restart => exact restart s p
  | removeEmpty => exact own _ _ (.removeEmpty s) p
  | cacheMap => exact own _ _ (.cacheMap s) p
  | early upto =>
    show P (if s.final then s else cleanTmp c s (min upto 3))
    split
    · exact p
    · rename_i hf; exact cleanTmp_own own (by simpa using hf) _ p
  | kill => exact kill_induct own p

end Martian.Vdr
