/-
C01 — building blocks for carrying the refinement modulo `≈` (`J.approx`) instead of modulo
`J.erase`, which is what the EMPTY / NULL run-time source shape needs (den: `dnull` and optional
instances; the code and the model: the empty collection of the call's mode).  Restated in
Props/C01.lean as `resolveExp_refines_eval_approx_partial`, `args_approx_partial`,
`merge_empty_renders_dnull_partial`; what separates them from a refinement theorem for that shape
is described there.

* `cong_elemAt`, `approx_mkArgs`: element selection and the argument record of a call respect `≈`;
* `eval_resolveRefs_approx`: THE EXPRESSION STEP MODULO `≈` by composition — if den's environment
  is `≈` an environment `env'` (same types) that the static environment refines exactly (`EnvRel`),
  then den's value of every well-typed binding expression, narrowed, is `≈` the run-time
  evaluation of the statically resolved expression;
* `merge_empty_renders_dnull`: the model's value of a `merge` over an empty recorded index set is
  the empty collection of its mode, which renders den's `dnull`;
* `instsT_subR_empty`: over an empty recorded index set the model lists the instances below the
  call once, at "no element", marked optional — the shape of den's optional instances.
-/
import Proofs.DataflowApprox
import Proofs.ResolverStaticMain
import Martian.ResolverStaticTree

namespace Proofs.ResolverStatic
open Martian.Dataflow Martian.Resolver Martian.ResolverForks Martian.ResolverStatic Proofs.Dataflow
  Proofs.Approx

theorem nullish_getD : ∀ (xs : List J) (n : Nat), J.nullishList xs = true → (xs.getD n .null).nullish = true
  | [], _, _ => by simp [J.nullish]
  | x :: xs, 0, h => by simp only [J.nullishList, Bool.and_eq_true] at h; simpa using h.1
  | x :: xs, n+1, h => by
    simp only [J.nullishList, Bool.and_eq_true] at h
    simpa using nullish_getD xs n h.2

theorem approx_getD : ∀ (xs ys : List J) (n : Nat), J.approxList xs ys = true →
    J.approx (xs.getD n .null) (ys.getD n .null) = true
  | [], ys, _, h => by cases ys <;> simp [J.approxList, J.approx] at h ⊢
  | x :: xs, ys, n, h => by
    cases ys with
    | nil => simp [J.approxList] at h
    | cons y ys =>
      simp only [J.approxList, Bool.and_eq_true] at h
      cases n with
      | zero => simpa using h.1
      | succ n => simpa using approx_getD xs ys n h.2

/-- element selection (array index, map key, "no element") respects `≈` -/
theorem cong_elemAt (ix : Idx) : Cong (fun v => elemAt v ix) := by
  cases ix with
  | k s => exact cong_field s
  | none => exact ⟨rfl, fun _ _ _ => by simp [elemAt, J.approx, J.nullish]⟩
  | i n =>
    refine ⟨rfl, ?_⟩
    intro a b h
    cases a with
    | dnull =>
      rw [approx_dnull] at h
      show J.approx (elemAt .dnull (.i n)) _ = true
      simp only [elemAt]
      rw [approx_dnull]
      cases b with
      | arr ys => exact nullish_getD ys n (by simpa [J.nullish] using h)
      | null => simp [J.nullish]
      | dnull => simp [J.nullish]
      | atom s => simp [J.nullish] at h
      | obj kvs => simp [J.nullish]
    | null => cases b <;> simp [J.approx] at h ⊢; simp [elemAt, J.approx]
    | atom s => cases b <;> simp [J.approx] at h ⊢; simp [elemAt, J.approx]
    | obj kvs => cases b <;> simp [J.approx] at h ⊢; simp [elemAt, J.approx]
    | arr xs =>
      cases b <;> simp [J.approx] at h
      simp only [elemAt]
      exact approx_getD xs _ n h

/-- the argument record of a call (plain: `ix = none`; fork `ix` of a map call) respects `≈` of the
environments -/
theorem approx_mkArgs (st : StructTable) (F : Nat) (env env' : Env) (h : EnvApprox env env')
    (ins : List Param) (c : Call) (ix : Option Idx) :
    J.approx (mkArgs st F (argVals st env ins c) ix) (mkArgs st F (argVals st env' ins c) ix) = true := by
  simp only [mkArgs, argVals, List.map_map, J.approx]
  apply approxFields_map2
  intro p _
  simp only [Function.comp_apply]
  cases hfb : c.binds.find? (fun b => b.param == p.name) with
  | none =>
    refine ⟨rfl, ?_⟩
    apply (cong_narrow st F p.ty).2
    cases ix <;> simp [J.approx]
  | some b =>
    refine ⟨rfl, ?_⟩
    apply (cong_narrow st F p.ty).2
    have hv := approx_eval st env env' h b.exp
    simp only
    cases b.split with
    | false => cases ix <;> exact hv
    | true =>
      cases ix with
      | none => exact hv
      | some i => exact (cong_elemAt i).2 _ _ hv

/-- THE EXPRESSION STEP MODULO `≈`, by composition: den's environment `env` is `≈` an environment
`env'` which the static environment refines exactly -/
theorem eval_resolveRefs_approx (st : StructTable) (hst : StructsOk st) (F : Nat) (hF : NarrowFix st F)
    (ρ : Store) (Fs : ForkAssign → Prop) (env env' : Env) (self sib : RBMap)
    (hA : EnvApprox env env') (hrel : EnvRel st F ρ Fs env' self sib) (f : ForkAssign) (hf : Fs f)
    (e : Exp) (t : Ty) (hty : HasTy st env.selfTy env.callTy t e) :
    J.approx (narrow st F t (eval st env e)) (evalRT st F ρ f t (resolveRefs self sib e)) = true ∧
    HasTyR st t (resolveRefs self sib e) := by
  have hs : env'.selfTy = env.selfTy := by funext p; simp [Env.selfTy, hA.selfTys]
  have hc : env'.callTy = env.callTy := by funext c; exact hA.callTy c
  have hty' : HasTy st env'.selfTy env'.callTy t e := by rw [hs, hc]; exact hty
  have hE := eval_resolveRefs st hst F hF ρ Fs env' self sib hrel f hf e t hty'
  refine ⟨?_, hE.2⟩
  rw [← hE.1]
  exact (cong_narrow st F t).2 _ _ (approx_eval st env env' hA e)

/-- the model's value of a merge over an EMPTY recorded index set is the empty collection of its
mode: one of the renderings of den's `dnull` -/
theorem merge_empty_renders_dnull (st : StructTable) (F : Nat) (ρ : Store) (f : ForkAssign) (t : Ty)
    (c : String) (m : Bool) (e : RExp) (h : ρ.idx c f = []) :
    evalRT st F ρ f t (.merge c m e) = (if m then .obj [] else .arr []) ∧
    J.approx .dnull (evalRT st F ρ f t (.merge c m e)) = true := by
  cases m <;> simp [evalRT, h, J.approx, J.nullish, J.nullishList, J.nullishFields]

/-- over an empty recorded index set the model lists the instances below the call once, at "no
element", marked optional (den: the callee denoted once with `Idx.none`, every instance optional) -/
theorem instsT_subR_empty (st : StructTable) (F : Nat) (ρ : Store) (forks : List (String × Idx))
    (f : ForkAssign) (c : String) (m : Bool) (path : List String) (cins : RBMap) (ok : Bool)
    (ch : List STree) (h : ρ.idx c f = []) :
    instsT st F ρ forks f (.subR c m path cins ok ch)
      = (instsTList st F ρ (forks ++ [(c, .none)]) (fset f c .none) ch).map fun i => { i with optional := true } := by
  simp [instsT, h]

end Proofs.ResolverStatic
