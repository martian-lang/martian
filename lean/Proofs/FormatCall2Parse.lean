import Proofs.FormatCall2Norm
import Proofs.FormatExpRound

/-!
C09, part Call2: the token layer of the round trip of the statements of a
pipeline body: `toksCall2 c` / `toksReturn r` / `toksPRetain rs` / `toksBody b`,
and the readers applied to these token sequences FOLLOWED BY ANY FURTHER TOKENS
`rest` (for a call: not starting with `using`) return the normal form and `rest`.
`pBinds_iff`, `pBinds_toks`: the list reader of the plain call is `pBinds2` without a wildcard.
-/

namespace Martian.FormatCall2
open Martian.Lexer (Bytes)
open Martian.FormatExp Martian.FormatCall

abbrev tStar : Tok := .punct 0x2A

/-- the value of a wildcard binding: `self`, or a reference -/
def toksWild (e : Exp) : List Tok := if isBareSelf e then [.kSelf] else toks e

def toksWildOpt : Option Exp → List Tok
  | some e => tStar :: tEq :: (toksWild e ++ [tComma])
  | none => []

def toksBinds2 (bs : List Bind) (w : Option Exp) : List Tok := toksBinds bs ++ toksWildOpt w

def toksMods : List (Bytes × Exp) → List Tok
  | [] => []
  | kv :: r => .id kv.1 :: tEq :: (toks kv.2 ++ tComma :: toksMods r)

def toksUsing (m : Mods) : List Tok :=
  if usingPrinted m then .id sUsing :: tLP :: (toksMods (modList m) ++ [tRP]) else []

def toksCall2 (c : Call2) : List Tok :=
  (if isMap2 c then [.reserved sMap] else []) ++ .reserved sCall :: .id c.decId ::
    ((if c.id = c.decId then [] else [.reserved sAs, .id c.id]) ++ tLP ::
      (toksBinds2 c.binds c.wildcard ++ tRP :: toksUsing c.mods))

def toksReturn (r : Ret) : List Tok :=
  .reserved sReturn :: tLP :: (toksBinds2 r.binds r.wildcard ++ [tRP])

def toksRefs : List Exp → List Tok
  | [] => []
  | e :: r => toks e ++ tComma :: toksRefs r

def toksPRetain (rs : List Exp) : List Tok := .id sRetain :: tLP :: (toksRefs rs ++ [tRP])

def toksCalls : List Call2 → List Tok
  | [] => []
  | c :: r => toksCall2 c ++ toksCalls r

def toksRetainOpt : Option (List Exp) → List Tok
  | some rs => toksPRetain rs
  | none => []

def toksBody (b : Body) : List Tok :=
  toksCalls b.calls ++ (toksReturn b.ret ++ (toksRetainOpt b.retain ++ [tRC]))

/-- what follows a call statement does not start with `using` -/
def NoUsing (rest : List Tok) : Prop := ∀ r, rest ≠ .id sUsing :: r

/-- what follows the calls of a pipeline: not `call`, `map` or `using` -/
def EndCalls (rest : List Tok) : Prop :=
  NoUsing rest ∧ ∀ k r, rest = .reserved k :: r → k ≠ sCall ∧ k ≠ sMap

theorem noUsing_nil : NoUsing [] := by intro r h; cases h
theorem noUsing_reserved (k : Bytes) (r : List Tok) : NoUsing (.reserved k :: r) := by
  intro r' h; cases h
theorem noUsing_punct (c : UInt8) (r : List Tok) : NoUsing (.punct c :: r) := by
  intro r' h; cases h

theorem isBareSelf_eq {e : Exp} (h : isBareSelf e = true) : e = .ref true [] [] := by
  cases e with
  | ref s i o =>
    cases s <;> cases i <;> cases o <;> simp [isBareSelf] at h ⊢
  | _ => simp [isBareSelf] at h

theorem isRefE_eq {e : Exp} (h : isRefE e = true) : ∃ s i o, e = .ref s i o := by
  cases e with
  | ref s i o => exact ⟨s, i, o, rfl⟩
  | _ => simp [isRefE] at h

theorem toksRef_head (s : Bool) (i : Bytes) (o : List Bytes) (rest : List Tok) :
    (∃ r, toksRef s i o ++ rest = .kSelf :: tDot :: r) ∨ (∃ r, toksRef s i o ++ rest = .id i :: r) := by
  unfold toksRef
  cases s with
  | true => exact Or.inl ⟨_, rfl⟩
  | false => by_cases hd : o = [sDefault] <;> simp [hd]

theorem norm_ref (s : Bool) (i : Bytes) (o : List Bytes) : norm (.ref s i o) = .ref s i o := by
  simp [norm]

theorem pExp_ref_comma (fe : Nat) (s : Bool) (i : Bytes) (o : List Bytes) (rest : List Tok)
    (hw : wf (.ref s i o) = true) (hf : cost (.ref s i o) ≤ fe) :
    pExp fe (toks (.ref s i o) ++ tComma :: rest) = some (.ref s i o, tComma :: rest) := by
  have hp := pExp_toks (.ref s i o) fe (tComma :: rest) hw hf (noDot_comma rest)
  rwa [norm_ref] at hp

theorem pWild_toks (fe : Nat) (e : Exp) (rest : List Tok) (hw : wfWild e = true) (hf : cost e ≤ fe) :
    pWild fe (toksWild e ++ tComma :: rest) = some (e, rest) := by
  cases hb : isBareSelf e with
  | true =>
    have he := isBareSelf_eq hb
    subst he
    simp [toksWild, isBareSelf, pWild]
  | false =>
    simp only [wfWild, hb, Bool.false_or, Bool.and_eq_true] at hw
    obtain ⟨s, i, o, rfl⟩ := isRefE_eq hw.1
    have hp := pExp_ref_comma fe s i o rest hw.2 hf
    simp only [toksWild, hb, Bool.false_eq_true, ↓reduceIte]
    rw [pWild]
    · simp only [hp]
    · intro r h
      rcases toksRef_head s i o (tComma :: rest) with ⟨r', e⟩ | ⟨r', e⟩ <;>
        · rw [toks, e] at h; cases h

theorem cost_le_toksWild (e : Exp) : cost e ≤ 2 * (toksWildOpt (some e)).length := by
  cases hb : isBareSelf e with
  | true =>
    have he := isBareSelf_eq hb
    subst he
    simp [toksWildOpt, toksWild, isBareSelf, cost]
  | false =>
    have := cost_le e
    simp only [toksWildOpt, toksWild, hb, Bool.false_eq_true, ↓reduceIte, List.length_cons,
      List.length_append]
    omega

theorem pBinds2_toks (m : Bool) (fe : Nat) (w : Option Exp) (rest : List Tok)
    (hww : wfWildOpt w = true) :
    ∀ (bs : List Bind) (f : Nat), bs.all wfBind = true → (∀ b ∈ bs, b.split = true → m = true) →
    2 * (toksBinds2 bs w).length ≤ fe → (toksBinds2 bs w).length < f →
    pBinds2 m fe f (toksBinds2 bs w ++ tRP :: rest) = some (bs.map normBind, w, tRP :: rest)
  | _, 0, _, _, _, hf => by simp at hf
  | [], f + 1, _, _, hfe, _ => by
    cases w with
    | none => simp [toksBinds2, toksBinds, toksWildOpt, pBinds2]
    | some e =>
      have h := pWild_toks fe e (tRP :: rest) hww (by
        have := cost_le_toksWild e
        simp only [toksBinds2, toksBinds, List.nil_append] at hfe
        omega)
      have hshape : toksBinds2 [] (some e) ++ tRP :: rest =
          tStar :: tEq :: (toksWild e ++ tComma :: tRP :: rest) := by
        simp [toksBinds2, toksBinds, toksWildOpt]
      rw [hshape, pBinds2, h]
      rfl
  | b :: bs, f + 1, hw, hm, hfe, hf => by
    simp only [List.all_cons, Bool.and_eq_true] at hw
    simp only [toksBinds2, toksBinds, List.length_append, List.length_cons] at hfe hf
    have h1 := pBind_toks m fe b (toksBinds2 bs w ++ tRP :: rest) hw.1
      (hm b (List.mem_cons_self ..)) (by have := cost_le b.exp; omega)
    have ih := pBinds2_toks m fe w rest hww bs f hw.2
      (fun b' hb' => hm b' (List.mem_cons_of_mem _ hb'))
      (by simp only [toksBinds2, List.length_append]; omega)
      (by simp only [toksBinds2, List.length_append]; omega)
    simp only [toksBinds2, List.append_assoc] at h1 ih
    simp [toksBinds2, toksBinds, toksBindPre, pBinds2, h1, ih]

theorem pBinds_iff (m : Bool) (fe f : Nat) (ts : List Tok) : ∀ (bs : List Bind) (r : List Tok),
    pBinds m fe f ts = some (bs, r) ↔ pBinds2 m fe f ts = some (bs, none, r) := by
  fun_induction pBinds2 m fe f ts with
  | case1 | case2 => intro _ _; simp [pBinds]
  | case3 | case4 => intro _ _; simp [pBinds, pBind]
  | case5 f ts b r hb h1 _ ih =>
    intro bs r'
    rw [pBinds]
    · simp only [hb, Option.map_eq_some_iff, Prod.mk.injEq, Prod.exists]
      constructor
      · rintro ⟨bs', r1, h, rfl, rfl⟩
        exact ⟨bs', none, r1, (ih bs' r1).mp h, rfl, rfl, rfl⟩
      · rintro ⟨bs', w, r1, h, rfl, rfl, rfl⟩
        exact ⟨bs', r1, (ih bs' r1).mpr h, rfl, rfl⟩
    · exact h1
  | case6 f ts hb h1 _ =>
    intro _ _
    rw [pBinds]
    · simp [hb]
    · exact h1

theorem pBinds_toks (m : Bool) (fe : Nat) (bs : List Bind) (f : Nat) (hw : bs.all wfBind = true)
    (hm : ∀ b ∈ bs, b.split = true → m = true) (hfe : 2 * (toksBinds bs).length ≤ fe)
    (hf : (toksBinds bs).length < f) :
    pBinds m fe f (toksBinds bs ++ [tRP]) = some (bs.map normBind, [tRP]) := by
  have h := pBinds2_toks m fe none [] rfl bs f hw hm (by simpa [toksBinds2, toksWildOpt] using hfe)
    (by simpa [toksBinds2, toksWildOpt] using hf)
  rw [toksBinds2, toksWildOpt, List.append_nil] at h
  exact (pBinds_iff ..).mpr h

theorem pHead2_toks (f : Nat) (d i : Bytes) (rest : List Tok) :
    pHead2 (f + 1) false false false
      (.id d :: ((if i = d then [] else [.reserved sAs, .id i]) ++ tLP :: rest)) =
      some (false, false, false, d, i, rest) := by
  by_cases hid : i = d <;> simp [hid, pHead2]

theorem isModKw_disabled : isModKw sDisabled = false := by decide

theorem pModStm_toks (fe : Nat) (kv : Bytes × Exp) (rest : List Tok) (hw : wfMod kv = true)
    (hf : cost kv.2 ≤ fe) :
    pModStm fe (.id kv.1 :: tEq :: (toks kv.2 ++ tComma :: rest)) = some (kv, rest) := by
  obtain ⟨k, e⟩ := kv
  simp only [wfMod, Bool.or_eq_true, Bool.and_eq_true, beq_iff_eq] at hw
  rcases hw with ⟨hk, hb⟩ | ⟨⟨hk, hr⟩, hwf⟩
  · cases e with
    | bool b => cases b <;> simp [pModStm, hk, toks]
    | _ => simp [isBoolE] at hb
  · subst hk
    obtain ⟨s, i, o, rfl⟩ := isRefE_eq hr
    have hp := pExp_ref_comma fe s i o rest hwf hf
    simp only [pModStm, isModKw_disabled, Bool.false_eq_true, ↓reduceIte, hp]

theorem pMods_toks (fe : Nat) (rest : List Tok) : ∀ (l : List (Bytes × Exp)) (f : Nat),
    l.all wfMod = true → 2 * (toksMods l).length ≤ fe → (toksMods l).length < f →
    pMods fe f (toksMods l ++ tRP :: rest) = some (l, tRP :: rest)
  | _, 0, _, _, hf => by simp at hf
  | [], f + 1, _, _, _ => by simp [toksMods, pMods]
  | kv :: l, f + 1, hw, hfe, hf => by
    simp only [List.all_cons, Bool.and_eq_true] at hw
    simp only [toksMods, List.length_cons, List.length_append] at hfe hf
    have h1 := pModStm_toks fe kv (toksMods l ++ tRP :: rest) hw.1 (by have := cost_le kv.2; omega)
    have ih := pMods_toks fe rest l f hw.2 (by omega) (by omega)
    simp [toksMods, pMods, h1, ih]

theorem pUsing_none (fe f : Nat) (cur : List (Bytes × Exp)) (rest : List Tok) (h : NoUsing rest) :
    pUsing fe (f + 1) cur rest = some (cur, rest) := by
  cases rest with
  | nil => simp [pUsing]
  | cons t r =>
    cases t with
    | id u =>
      have hne : u ≠ sUsing := by
        intro e; subst e; exact h r rfl
      simp [pUsing, hne]
    | _ => simp [pUsing]

theorem modList_of_not_printed {m : Mods} (h : usingPrinted m = false) : modList m = [] := by
  have := usingPrinted_eq m
  rw [h] at this
  cases hm : modList m with
  | nil => rfl
  | cons a b => rw [hm] at this; simp at this

theorem pUsing_toks (fe f : Nat) (m : Mods) (rest : List Tok) (hw : wfMods m = true)
    (hfe : 2 * (toksUsing m).length ≤ fe) (hf : (toksUsing m).length ≤ f) (hr : NoUsing rest) :
    pUsing fe (f + 1) [] (toksUsing m ++ rest) = some (modList m, rest) := by
  unfold toksUsing at hfe hf ⊢
  cases hu : usingPrinted m with
  | false => rw [modList_of_not_printed hu]; exact pUsing_none _ _ _ _ hr
  | true =>
    simp only [hu, ↓reduceIte, List.length_cons, List.length_append, List.length_nil] at hfe hf
    obtain ⟨g, rfl⟩ : ∃ g, f = g + 1 := ⟨f - 1, by omega⟩
    have h1 := pMods_toks fe rest (modList m) (g + 1) (modList_wf m hw).1 (by omega) (by omega)
    have h2 := pUsing_none fe g (modList m) rest hr
    simp [pUsing, h1, h2]

theorem toksCall2_length (c : Call2) :
    (toksBinds2 c.binds c.wildcard).length + (toksUsing c.mods).length + 4 ≤ (toksCall2 c).length := by
  simp only [toksCall2, List.length_append, List.length_cons]
  omega

theorem pCall2_toks (c : Call2) (rest : List Tok) (hw : wfCall2 c = true) (hr : NoUsing rest) :
    pCall2 (toksCall2 c ++ rest) = some (normCall2 c, rest) := by
  obtain ⟨d, i, bs, w, m⟩ := c
  simp only [wfCall2, Bool.and_eq_true] at hw
  obtain ⟨⟨⟨⟨_, _⟩, hbs⟩, hww⟩, hwm⟩ := hw
  have hlen := toksCall2_length ⟨d, i, bs, w, m⟩
  simp only at hlen
  generalize hL : (toksCall2 ⟨d, i, bs, w, m⟩ ++ rest).length = L
  have hL' : (toksCall2 ⟨d, i, bs, w, m⟩).length ≤ L := by
    rw [← hL, List.length_append]; omega
  have hh := pHead2_toks L d i (toksBinds2 bs w ++ tRP :: (toksUsing m ++ rest))
  have hb := pBinds2_toks (isMap2 ⟨d, i, bs, w, m⟩) (2 * L + 1) w (toksUsing m ++ rest) hww bs (L + 1)
    hbs split_isMap (by omega) (by omega)
  have hu := pUsing_toks (2 * L + 1) L m rest hwm (by omega) (by omega) hr
  have hshape : toksCall2 ⟨d, i, bs, w, m⟩ ++ rest =
      (if isMap2 ⟨d, i, bs, w, m⟩ then [.reserved sMap] else []) ++ .reserved sCall :: .id d ::
        ((if i = d then [] else [.reserved sAs, .id i]) ++ tLP ::
          (toksBinds2 bs w ++ tRP :: (toksUsing m ++ rest))) := by
    simp [toksCall2]
  unfold pCall2
  rw [hL, hshape, pMapKw_toks]
  simp only [↓reduceIte, hh, hb, any_split_norm, hu, normCall2, normMods]
  simp [isMap2]

theorem pReturn_toks (r : Ret) (rest : List Tok) (hw : wfRet r = true) :
    pReturn (toksReturn r ++ rest) = some (normRet r, rest) := by
  obtain ⟨bs, w⟩ := r
  simp only [wfRet, Bool.and_eq_true] at hw
  obtain ⟨⟨hbs, hns⟩, hww⟩ := hw
  generalize hL : (toksReturn ⟨bs, w⟩ ++ rest).length = L
  have hL' : (toksBinds2 bs w).length + 3 ≤ L := by
    rw [← hL]; simp only [toksReturn, List.length_append, List.length_cons]; omega
  have hb := pBinds2_toks false (2 * L + 1) w rest hww bs (L + 1) hbs
    (fun b hb hs => by simpa [hs] using List.all_eq_true.mp hns b hb) (by omega) (by omega)
  have hshape : toksReturn ⟨bs, w⟩ ++ rest =
      .reserved sReturn :: tLP :: (toksBinds2 bs w ++ tRP :: rest) := by
    simp [toksReturn]
  rw [hshape] at hL ⊢
  simp only [pReturn, ↓reduceIte, hL, hb, normRet]

theorem pRefs_toks (fe : Nat) (rest : List Tok) : ∀ (rs : List Exp) (f : Nat),
    wfPRetain rs = true → 2 * (toksRefs rs).length ≤ fe → (toksRefs rs).length < f →
    pRefs fe f (toksRefs rs ++ tRP :: rest) = some (rs, tRP :: rest)
  | _, 0, _, _, hf => by simp at hf
  | [], f + 1, _, _, _ => by simp [toksRefs, pRefs]
  | e :: rs, f + 1, hw, hfe, hf => by
    simp only [wfPRetain, List.all_cons, Bool.and_eq_true] at hw
    simp only [toksRefs, List.length_cons, List.length_append] at hfe hf
    have hc := cost_le e
    obtain ⟨s, i, o, rfl⟩ := isRefE_eq hw.1.1
    have h1 := pExp_ref_comma fe s i o (toksRefs rs ++ tRP :: rest) hw.1.2 (by omega)
    have ih := pRefs_toks fe rest rs f hw.2 (by omega) (by omega)
    have hshape : toksRefs (.ref s i o :: rs) ++ tRP :: rest =
        toks (.ref s i o) ++ tComma :: (toksRefs rs ++ tRP :: rest) := by
      simp [toksRefs]
    rw [hshape, pRefs]
    · simp only [h1, ih, Option.map_some]
    · intro r h
      rcases toksRef_head s i o (tComma :: (toksRefs rs ++ tRP :: rest)) with ⟨r', e⟩ | ⟨r', e⟩ <;>
        · rw [toks, e] at h; cases h

theorem pPRetain_toks (rs : List Exp) (rest : List Tok) (hw : wfPRetain rs = true) :
    pPRetain (toksPRetain rs ++ rest) = some (some rs, rest) := by
  generalize hL : (toksPRetain rs ++ rest).length = L
  have hL' : (toksRefs rs).length + 3 ≤ L := by
    rw [← hL]; simp only [toksPRetain, List.length_append, List.length_cons]; omega
  have h := pRefs_toks (2 * L + 1) rest rs (L + 1) hw (by omega) (by omega)
  have hshape : toksPRetain rs ++ rest = .id sRetain :: tLP :: (toksRefs rs ++ tRP :: rest) := by
    simp [toksPRetain]
  rw [hshape] at hL ⊢
  simp only [pPRetain, ↓reduceIte, hL, h]

theorem pPRetain_none (rest : List Tok) (h : ∀ r, rest ≠ .id sRetain :: r) :
    pPRetain rest = some (none, rest) := by
  cases rest with
  | nil => simp [pPRetain]
  | cons t r =>
    cases t with
    | id u =>
      have hne : u ≠ sRetain := by
        intro e; subst e; exact h r rfl
      simp [pPRetain, hne]
    | _ => simp [pPRetain]

theorem toksCall2_head (c : Call2) :
    ∃ k r, toksCall2 c = .reserved k :: r ∧ (k = sCall ∨ k = sMap) := by
  unfold toksCall2
  cases isMap2 c with
  | true => exact ⟨_, _, rfl, Or.inr rfl⟩
  | false => exact ⟨_, _, rfl, Or.inl rfl⟩

theorem toksCalls_length_ge : ∀ cs : List Call2, cs.length ≤ (toksCalls cs).length
  | [] => by simp
  | c :: cs => by
    have := toksCalls_length_ge cs
    have h2 := toksCall2_length c
    simp only [toksCalls, List.length_cons, List.length_append]; omega

theorem noUsing_toksCalls (cs : List Call2) (rest : List Tok) (hr : NoUsing rest) :
    NoUsing (toksCalls cs ++ rest) := by
  cases cs with
  | nil => simpa [toksCalls] using hr
  | cons c cs =>
    obtain ⟨k, r, hk, _⟩ := toksCall2_head c
    simp only [toksCalls, hk, List.cons_append]
    exact noUsing_reserved _ _

theorem pCalls_toks (rest : List Tok) (hr : EndCalls rest) : ∀ (cs : List Call2) (f : Nat),
    cs.all wfCall2 = true → cs.length < f →
    pCalls f (toksCalls cs ++ rest) = some (cs.map normCall2, rest)
  | _, 0, _, hf => by simp at hf
  | [], f + 1, _, _ => by
    simp only [toksCalls, List.nil_append, List.map_nil]
    cases rest with
    | nil => simp [pCalls]
    | cons t r =>
      cases t with
      | reserved k =>
        have := hr.2 k r rfl
        simp [pCalls, this.1, this.2]
      | _ => simp [pCalls]
  | c :: cs, f + 1, hw, hf => by
    simp only [List.all_cons, Bool.and_eq_true] at hw
    have h1 := pCall2_toks c (toksCalls cs ++ rest) hw.1 (noUsing_toksCalls cs rest hr.1)
    have ih := pCalls_toks rest hr cs f hw.2 (by simp at hf; omega)
    obtain ⟨k, r, hk, hk'⟩ := toksCall2_head c
    have hshape : toksCalls (c :: cs) ++ rest = toksCall2 c ++ (toksCalls cs ++ rest) := by
      simp [toksCalls]
    rw [hshape]
    rw [hk, List.cons_append] at h1 ⊢
    have hkk : (k = sCall || k = sMap) = true := by
      rcases hk' with rfl | rfl <;> simp
    simp only [pCalls, hkk, ↓reduceIte, h1, ih, Option.map_some, List.map_cons]

theorem endCalls_return (r : List Tok) : EndCalls (.reserved sReturn :: r) := by
  refine ⟨noUsing_reserved _ _, ?_⟩
  intro k r' h
  cases h
  exact ⟨by decide, by decide⟩

theorem pBody_toks (b : Body) (rest : List Tok) (hw : wfBody b = true) :
    pBody (toksBody b ++ rest) = some (normBody b, rest) := by
  obtain ⟨cs, ret, rt⟩ := b
  simp only [wfBody, Bool.and_eq_true] at hw
  obtain ⟨⟨hcs, hret⟩, hrt⟩ := hw
  have hshape : toksBody ⟨cs, ret, rt⟩ ++ rest =
      toksCalls cs ++ (toksReturn ret ++ (toksRetainOpt rt ++ tRC :: rest)) := by
    simp [toksBody]
  have h1 := pCalls_toks (toksReturn ret ++ (toksRetainOpt rt ++ tRC :: rest))
    (endCalls_return _) cs
    ((toksCalls cs ++ (toksReturn ret ++ (toksRetainOpt rt ++ tRC :: rest))).length + 1) hcs
    (by
      have := toksCalls_length_ge cs
      rw [List.length_append]; omega)
  have h2 := pReturn_toks ret (toksRetainOpt rt ++ tRC :: rest) hret
  have h3 : pPRetain (toksRetainOpt rt ++ tRC :: rest) = some (rt, tRC :: rest) := by
    cases rt with
    | none => exact pPRetain_none _ (by intro r h; cases h)
    | some rs => exact pPRetain_toks rs (tRC :: rest) hrt
  unfold pBody
  rw [hshape, h1]
  simp only [h2, h3, normBody]

end Martian.FormatCall2
