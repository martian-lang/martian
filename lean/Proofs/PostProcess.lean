/-
Helper lemmas for C13: the abstract file system; the leaf operation
`moveOutFile` case by case (missing, recovered, moved, outside the pipestance,
the second occurrence of a file bound to two outputs); the per-level
combinators of the recursion and the equations of `handler` per type
constructor.
-/
import Martian.PostProcessDefs

namespace Martian.PostProcess

theorem stripPrefix_append (p s : Path) : stripPrefix p (p ++ s) = some s := by
  induction p with
  | nil => rfl
  | cons a p ih => simp [stripPrefix, ih]

theorem stripPrefix_some {p q s : Path} (h : stripPrefix p q = some s) : q = p ++ s := by
  induction p generalizing q with
  | nil => simp [stripPrefix] at h; simp [h]
  | cons a p ih =>
    cases q with
    | nil => simp [stripPrefix] at h
    | cons b q =>
      simp only [stripPrefix] at h
      split at h
      · next hab => rw [hab, ih h]; rfl
      · cases h

theorem isPrefix_append (p s : Path) : isPrefix p (p ++ s) = true := by
  simp [isPrefix, stripPrefix_append]

theorem isPrefix_self (p : Path) : isPrefix p p = true := by
  have := isPrefix_append p []
  simpa using this

theorem not_isPrefix_append {p q : Path} (h : isPrefix p q = false) (s : Path) :
    isPrefix (p ++ s) q = false := by
  cases hq : stripPrefix (p ++ s) q with
  | none => simp [isPrefix, hq]
  | some r =>
    have := stripPrefix_some hq
    rw [List.append_assoc] at this
    rw [this, isPrefix_append] at h
    cases h

theorem stripPrefix_none_of_not_isPrefix {p q : Path} (h : isPrefix p q = false) :
    stripPrefix p q = none := by
  cases hq : stripPrefix p q with
  | none => rfl
  | some r => simp [isPrefix, hq] at h

theorem recoverMoved_free (ps dest p : Path) (fs : FS) (h : fs.get dest = none) :
    recoverMoved ps dest p fs = (.null, fs) := by
  unfold recoverMoved
  split
  · rfl
  · rw [h]

theorem moveOutFile_missing (ps outs : Path) (name s : String) (p : Path) (fs : FS)
    (hs : s ≠ "") (hp : parsePath s = some p) (hnone : fs.get p = none)
    (hfree : fs.get (outs ++ [name]) = none) :
    moveOutFile ps outs name (.str s) fs = (.null, fs) := by
  simp [moveOutFile, hs, hp, hnone, recoverMoved_free _ _ _ _ hfree]

/-- interrupted earlier (file already under outs/, link not yet left behind):
the destination is reported, the link is put in place, the destination is untouched -/
theorem moveOutFile_recovered (ps outs : Path) (name s : String) (p : Path) (e : Entry) (fs : FS)
    (hs : s ≠ "") (hp : parsePath s = some p) (hnone : fs.get p = none) (hin : inside ps p = true)
    (hd : fs.get (outs ++ [name]) = some e) (hl : e.isLink = false) :
    moveOutFile ps outs name (.str s) fs =
      (.str (renderPath (outs ++ [name])),
        symlinkAt fs p (.rel (relPath p.dropLast (outs ++ [name])))) := by
  cases e with
  | link t => simp [Entry.isLink] at hl
  | file c => simp [moveOutFile, hs, hp, hnone, recoverMoved, hin, hd]
  | dir => simp [moveOutFile, hs, hp, hnone, recoverMoved, hin, hd]

theorem moveOutFile_empty (ps outs : Path) (name : String) (fs : FS) :
    moveOutFile ps outs name (.str "") fs = (.null, fs) := by
  simp [moveOutFile]

theorem symlinkAt_get_ne (fs : FS) (a : Path) (t : LinkT) (q : Path) (h : q ≠ a) :
    (symlinkAt fs a t).get q = fs.get q := by
  unfold symlinkAt
  split <;> simp [FS.set, h]

theorem symlinkAt_get_free (fs : FS) (a : Path) (t : LinkT) (h : fs.get a = none) :
    (symlinkAt fs a t).get a = some (.link t) := by
  unfold symlinkAt
  rw [h]; simp [FS.set]

theorem symlinkAt_get_occupied (fs : FS) (a : Path) (t : LinkT) (q : Path) (e : Entry)
    (h : fs.get a = some e) : (symlinkAt fs a t).get q = fs.get q := by
  unfold symlinkAt
  rw [h]

theorem rename_get_dst (fs : FS) (src dst suf : Path) :
    (rename fs src dst).get (dst ++ suf) = fs.get (src ++ suf) := by
  simp [rename, stripPrefix_append]

theorem rename_get_src (fs : FS) (src dst : Path) (h : isPrefix dst src = false) :
    (rename fs src dst).get src = none := by
  simp [rename, stripPrefix_none_of_not_isPrefix h, isPrefix_self]

theorem rename_get_other (fs : FS) (src dst q : Path) (h1 : isPrefix dst q = false)
    (h2 : isPrefix src q = false) : (rename fs src dst).get q = fs.get q := by
  simp [rename, stripPrefix_none_of_not_isPrefix h1, h2]

theorem mkdirAll_get_some (fs : FS) (o q : Path) (e : Entry) (h : fs.get q = some e) :
    (mkdirAll fs o).get q = some e := by
  simp [mkdirAll, h]

theorem mkdirAll_get_other (fs : FS) (o q : Path) (h : isPrefix q o = false) :
    (mkdirAll fs o).get q = fs.get q := by
  simp only [mkdirAll]
  cases fs.get q with
  | some x => rfl
  | none => simp [h]

theorem moveOutFile_moved_eq (ps outs : Path) (name s : String) (p : Path) (e : Entry) (fs : FS)
    (hs : s ≠ "") (hp : parsePath s = some p) (he : fs.get p = some e) (hl : e.isLink = false)
    (hin : inside ps p = true) (hfree : statExists fs statFuel (outs ++ [name]) = false) :
    moveOutFile ps outs name (.str s) fs =
      (.str (renderPath (outs ++ [name])),
        symlinkAt (rename (mkdirAll fs outs) p (outs ++ [name])) p
          (.rel (relPath p.dropLast (outs ++ [name])))) := by
  cases e with
  | link t => simp [Entry.isLink] at hl
  | file c => simp [moveOutFile, hs, hp, he, hin, hfree]
  | dir => simp [moveOutFile, hs, hp, he, hin, hfree]

theorem moveOutFile_moved (ps outs : Path) (name s : String) (p : Path) (e : Entry) (fs : FS)
    (hs : s ≠ "") (hp : parsePath s = some p) (he : fs.get p = some e) (hl : e.isLink = false)
    (hin : inside ps p = true) (hfree : statExists fs statFuel (outs ++ [name]) = false)
    (hsrc : isPrefix p outs = false) (hdst : isPrefix (outs ++ [name]) p = false) :
    (moveOutFile ps outs name (.str s) fs).1 = .str (renderPath (outs ++ [name])) ∧
    (∀ suf, (moveOutFile ps outs name (.str s) fs).2.get ((outs ++ [name]) ++ suf) = fs.get (p ++ suf)) ∧
    (moveOutFile ps outs name (.str s) fs).2.get p =
      some (.link (.rel (relPath p.dropLast (outs ++ [name])))) := by
  rw [moveOutFile_moved_eq ps outs name s p e fs hs hp he hl hin hfree]
  refine ⟨rfl, ?_, ?_⟩
  · intro suf
    have hne : (outs ++ [name]) ++ suf ≠ p := by
      intro h; rw [← h, isPrefix_append] at hdst; cases hdst
    show (symlinkAt _ p _).get _ = _
    rw [symlinkAt_get_ne _ _ _ _ hne, rename_get_dst,
      mkdirAll_get_other _ _ _ (not_isPrefix_append hsrc suf)]
  · show (symlinkAt _ p _).get p = _
    exact symlinkAt_get_free _ _ _ (rename_get_src _ _ _ hdst)

theorem moveOutFile_moved_frame (ps outs : Path) (name s : String) (p : Path) (e : Entry) (fs : FS)
    (hs : s ≠ "") (hp : parsePath s = some p) (he : fs.get p = some e) (hl : e.isLink = false)
    (hin : inside ps p = true) (hfree : statExists fs statFuel (outs ++ [name]) = false)
    (q : Path) (hq1 : isPrefix p q = false) (hq2 : isPrefix (outs ++ [name]) q = false)
    (hq3 : isPrefix q outs = false) :
    (moveOutFile ps outs name (.str s) fs).2.get q = fs.get q := by
  rw [moveOutFile_moved_eq ps outs name s p e fs hs hp he hl hin hfree]
  have hqp : q ≠ p := by
    intro h; rw [h, isPrefix_self] at hq1; cases hq1
  show (symlinkAt _ p _).get q = _
  rw [symlinkAt_get_ne _ _ _ _ hqp, rename_get_other _ _ _ _ hq2 hq1, mkdirAll_get_other _ _ _ hq3]

theorem moveOutFile_outside (ps outs : Path) (name s : String) (p : Path) (e : Entry) (fs : FS)
    (hs : s ≠ "") (hp : parsePath s = some p) (he : fs.get p = some e) (hl : e.isLink = false)
    (hout : inside ps p = false) :
    (moveOutFile ps outs name (.str s) fs).1 = .str s ∧
    (moveOutFile ps outs name (.str s) fs).2.get p = some e ∧
    ((mkdirAll fs outs).get (outs ++ [name]) = none →
      (moveOutFile ps outs name (.str s) fs).2.get (outs ++ [name]) = some (.link (.abs p))) := by
  have heq : moveOutFile ps outs name (.str s) fs =
      (.str s, symlinkAt (mkdirAll fs outs) (outs ++ [name]) (.abs p)) := by
    cases e with
    | link t => simp [Entry.isLink] at hl
    | file c => simp [moveOutFile, hs, hp, he, hout]
    | dir => simp [moveOutFile, hs, hp, he, hout]
  rw [heq]
  have hmk : (mkdirAll fs outs).get p = some e := mkdirAll_get_some _ _ _ _ he
  refine ⟨rfl, ?_, ?_⟩
  · show (symlinkAt _ _ _).get p = _
    cases hd : (mkdirAll fs outs).get (outs ++ [name]) with
    | none =>
      have : p ≠ outs ++ [name] := by intro hh; rw [hh, hd] at hmk; cases hmk
      rw [symlinkAt_get_ne _ _ _ _ this, hmk]
    | some x => rw [symlinkAt_get_occupied _ _ _ _ x hd, hmk]
  · intro h
    exact symlinkAt_get_free _ _ _ h

/-! ## one file bound to two outputs

`filepath.Rel` followed by `filepath.Join`/`Clean` gives the target back. -/

theorem resolve_clean (d cs : Path) (h : ∀ c ∈ cs, cleanComp c = true) : resolve d cs = d ++ cs := by
  induction cs generalizing d with
  | nil => simp [resolve]
  | cons c cs ih =>
    have hc := h c (by simp)
    simp only [cleanComp, Bool.and_eq_true, decide_eq_true_eq] at hc
    simp only [resolve, hc.1.1, hc.1.2, hc.2, if_false, or_self]
    rw [ih _ (fun c' hc' => h c' (by simp [hc']))]
    simp

theorem resolve_dotdots (d : Path) (m : Nat) (cs : List String) :
    resolve d (List.replicate m ".." ++ cs) = resolve (d.take (d.length - m)) cs := by
  induction m generalizing d with
  | zero => simp
  | succ m ih =>
    simp only [List.replicate_succ, List.cons_append, resolve, if_true]
    rw [ih, List.dropLast_eq_take, List.take_take, List.length_take]
    congr 2
    omega

theorem commonLen_spec (a b : Path) :
    commonLen a b ≤ a.length ∧ a.take (commonLen a b) = b.take (commonLen a b) := by
  induction a generalizing b with
  | nil => simp [commonLen]
  | cons x a ih =>
    cases b with
    | nil => simp [commonLen]
    | cons y b =>
      simp only [commonLen]
      split
      · next h => simp [h, ih b]
      · simp

/-- `Clean(Join(base, Rel(base, target))) = target` for a target without `.`/`..`/empty components -/
theorem resolve_relPath (base target : Path) (h : ∀ c ∈ target, cleanComp c = true) :
    resolve base (relPath base target) = target := by
  unfold relPath
  simp only
  rw [resolve_dotdots]
  have hle := (commonLen_spec base target).1
  have : base.length - (base.length - commonLen base target) = commonLen base target := by omega
  rw [this, (commonLen_spec base target).2, resolve_clean]
  · exact List.take_append_drop _ _
  · intro c hc
    exact h c (List.mem_of_mem_drop hc)

theorem moveOutFile_alias (ps outs2 : Path) (name2 s : String) (p d1 : Path) (e : Entry) (fs1 : FS)
    (hs : s ≠ "") (hp : parsePath s = some p)
    (hlink : fs1.get p = some (.link (.rel (relPath p.dropLast d1))))
    (hd1 : fs1.get d1 = some e) (hl : e.isLink = false)
    (hclean : ∀ c ∈ d1, cleanComp c = true)
    (hin : inside ps p = true)
    (hfree : statExists (mkdirAll fs1 outs2) statFuel (outs2 ++ [name2]) = false) :
    moveOutFile ps outs2 name2 (.str s) fs1 =
      (.str (renderPath d1),
        symlinkAt (mkdirAll fs1 outs2) (outs2 ++ [name2])
          (.rel (relPath (outs2 ++ [name2]).dropLast d1))) := by
  have hres : resolve p.dropLast (relPath p.dropLast d1) = d1 := resolve_relPath _ _ hclean
  have hget : (mkdirAll fs1 outs2).get d1 = some e := mkdirAll_get_some _ _ _ _ hd1
  have hchase : chase (mkdirAll fs1 outs2) chaseFuel none d1 = (none, d1) := by
    cases e with
    | link t => simp [Entry.isLink] at hl
    | file c => simp [chaseFuel, chase, hget]
    | dir => simp [chaseFuel, chase, hget]
  simp [moveOutFile, hs, hp, hlink, copyOutSymlink, hin, hfree, hres, hchase]

theorem copyOutSymlink_shape (ps dest : Path) (v : J) (p : Path) (t : LinkT) (fs : FS) :
    (copyOutSymlink ps dest v p t fs).1 = v ∨ ∃ s, (copyOutSymlink ps dest v p t fs).1 = .str s := by
  fun_cases copyOutSymlink ps dest v p t fs
  · exact Or.inl rfl
  all_goals exact Or.inr ⟨_, rfl⟩

theorem moveOutFile_shape (ps outs : Path) (name : String) (v : J) (fs : FS) :
    (moveOutFile ps outs name v fs).1 = .null ∨ (moveOutFile ps outs name v fs).1 = v ∨
      ∃ s, (moveOutFile ps outs name v fs).1 = .str s := by
  fun_cases moveOutFile ps outs name v fs
  · exact Or.inl rfl
  · exact Or.inl rfl
  · fun_cases recoverMoved ps (outs ++ [name]) _ fs
    · exact Or.inl rfl
    · exact Or.inr (Or.inr ⟨_, rfl⟩)
    · exact Or.inr (Or.inr ⟨_, rfl⟩)
    · exact Or.inl rfl
  · exact Or.inr (copyOutSymlink_shape ps _ _ _ _ _)
  · exact Or.inr (Or.inl rfl)
  · exact Or.inr (Or.inl rfl)
  · exact Or.inr (Or.inr ⟨_, rfl⟩)
  · exact Or.inr (Or.inl rfl)

theorem mapIdx_length (f : Nat → J → FS → J × FS) (i : Nat) (xs : List J) (fs : FS) :
    (mapIdx f i xs fs).1.length = xs.length := by
  induction xs generalizing i fs with
  | nil => rfl
  | cons x xs ih => simp [mapIdx, ih]

theorem mapIdx_get (f : Nat → J → FS → J × FS) (i : Nat) (xs : List J) (fs : FS) (n : Nat)
    (hn : n < xs.length) :
    ∃ fs', (mapIdx f i xs fs).1[n]'(by rw [mapIdx_length]; exact hn) = (f (i + n) xs[n] fs').1 := by
  induction xs generalizing i fs n with
  | nil => cases hn
  | cons x xs ih =>
    cases n with
    | zero => exact ⟨fs, by simp [mapIdx]⟩
    | succ n =>
      have hn' : n < xs.length := by simpa using hn
      obtain ⟨fs', h⟩ := ih (i + 1) (f i x fs).2 n hn'
      refine ⟨fs', ?_⟩
      simp only [mapIdx, List.getElem_cons_succ]
      rw [h]
      congr 2
      omega

theorem arrLevel_shape (da : Bool) (h : Handler) (k : Nat) (xs : List J) (o : Path) (fs : FS) :
    ∃ ys, (arrLevel da h k (.arr xs) o fs).1 = .arr ys ∧ ys.length = xs.length := by
  cases k with
  | zero => exact ⟨_, rfl, mapIdx_length _ _ _ _⟩
  | succ k => exact ⟨_, rfl, mapIdx_length _ _ _ _⟩

theorem mapKeys_keys (f : String → FS → J × FS) (ks : List String) (fs : FS) :
    (mapKeys f ks fs).1.map Prod.fst = ks := by
  induction ks generalizing fs with
  | nil => rfl
  | cons k ks ih => simp [mapKeys, ih]

theorem mapKeys_vals (f : String → FS → J × FS) (ks : List String) (fs : FS) :
    ∀ kv ∈ (mapKeys f ks fs).1, ∃ fs', kv.2 = (f kv.1 fs').1 := by
  induction ks generalizing fs with
  | nil => intro kv h; simp [mapKeys] at h
  | cons k ks ih =>
    intro kv h
    simp only [mapKeys, List.mem_cons] at h
    rcases h with h | h
    · exact ⟨fs, by rw [h]⟩
    · exact ih _ kv h

theorem mapLevel_keys (h : Handler) (kvs : List (String × J)) (o : Path) (fs : FS) :
    ∃ kvs', (mapLevel h (.obj kvs) o fs).1 = .obj kvs' ∧
      kvs'.map Prod.fst = sortStrings (dedup ((kvs.map Prod.fst).filter legalName)) :=
  ⟨_, rfl, mapKeys_keys _ _ _⟩

theorem structLevel_keys (hs : MemberHandlers) (kv : String × J) (kvs : List (String × J)) (o : Path)
    (fs : FS) :
    ∃ kvs', (structLevel hs (.obj (kv :: kvs)) o fs).1 = .obj kvs' ∧
      kvs'.map Prod.fst = sortStrings (hs.map Prod.fst) :=
  ⟨_, rfl, mapKeys_keys _ _ _⟩

theorem handlersMs_keys (da : Bool) (ps : Path) (ms : List (String × String × Ty)) :
    (handlersMs da ps ms).map Prod.fst = ms.map (·.1) := by
  induction ms with
  | nil => simp [handlersMs]
  | cons m ms ih =>
    obtain ⟨id, on, t⟩ := m
    simp [handlersMs, ih]

/-! ## the recursion, per type constructor

`handler` tests for null before it descends; the level functions return a value
that is not of their kind unchanged, so the test is redundant. -/

theorem arrLevel_of_not_arr (da : Bool) (h : Handler) (k : Nat) (v : J) (o : Path) (fs : FS)
    (hv : ∀ xs, v ≠ .arr xs) : arrLevel da h k v o fs = (v, fs) := by
  cases v with
  | arr xs => exact absurd rfl (hv xs)
  | _ => cases k <;> rfl

theorem handler_file (da : Bool) (ps : Path) (ext id on : String) (v : J) (outs : Path) (fs : FS) :
    handler da ps (.file ext) id on v outs fs = moveOutFile ps outs (outFilename (.file ext) id on) v fs := by
  cases v <;> rfl

theorem handler_arr (da : Bool) (ps : Path) (e : Ty) (k : Nat) (id on : String) (v : J) (outs : Path) (fs : FS) :
    handler da ps (.arr e k) id on v outs fs =
      if hasFile e then arrLevel da (handler da ps e) k v (outs ++ [outFilename (.arr e k) id on]) fs
      else (v, fs) := by
  cases he : hasFile e <;> cases v <;> simp [handler, he, arrLevel_of_not_arr]

theorem handler_tmap (da : Bool) (ps : Path) (e : Ty) (id on : String) (v : J) (outs : Path) (fs : FS) :
    handler da ps (.tmap e) id on v outs fs =
      if hasFile e then mapLevel (handler da ps e) v (outs ++ [outFilename (.tmap e) id on]) fs
      else (v, fs) := by
  cases he : hasFile e <;> cases v <;> simp [handler, he, mapLevel]

theorem handler_struct (da : Bool) (ps : Path) (ms : List (String × String × Ty)) (id on : String) (v : J)
    (outs : Path) (fs : FS) :
    handler da ps (.struct ms) id on v outs fs =
      if hasFileMs ms then structLevel (handlersMs da ps ms) v (outs ++ [outFilename (.struct ms) id on]) fs
      else (v, fs) := by
  cases he : hasFileMs ms <;> cases v <;> simp [handler, he, structLevel]

theorem handler_null (da : Bool) (ps : Path) (ty : Ty) (id on : String) (outs : Path) (fs : FS) :
    handler da ps ty id on .null outs fs = (.null, fs) := by
  cases ty <;> simp [handler] <;> split <;> rfl

theorem handler_nofile (da : Bool) (ps : Path) (ty : Ty) (id on : String) (v : J) (outs : Path) (fs : FS)
    (h : hasFile ty = false) :
    handler da ps ty id on v outs fs = (v, fs) := by
  cases ty with
  | scalar => simp [handler]
  | file ext => simp [hasFile] at h
  | arr e k => simp [hasFile] at h; simp [handler, h]
  | tmap e => simp [hasFile] at h; simp [handler, h]
  | struct ms => simp [hasFile] at h; simp [handler, h]

end Martian.PostProcess
