import Proofs.FormatDeclToks
import Proofs.FormatExpRound
import Proofs.FormatExpNum

/-!
C09: the token layer of the round trip for type names, parameter lists, struct
members, `struct` and `filetype` declarations: the readers of
Martian/FormatDecl.lean accept the token sequences of Proofs/FormatDeclToks.lean
and return the value, for every well-formed value, any following tokens that
cannot continue the construct, and any fuel above the number of tokens.
`BaseName`, `wfType_iff`: the shape of a type name, shared by the lexing and range layers.
-/

namespace Martian.FormatDecl
open Martian.Lexer (Bytes unquoteBytes)
open Martian.Format (quoteString)
open Martian.FormatExp

/-- what follows a `type_id` in a parameter or struct field: an `id` token, a
string, or a comma -/
def typeEnd : List Tok → Bool
  | .id _ :: _ => true
  | .str _ :: _ => true
  | .punct c :: _ => c == 0x2C
  | _ => false

theorem typeEnd_noDot {rest : List Tok} (h : typeEnd rest = true) : NoDot rest := by
  intro r e; subst e; simp [typeEnd] at h

theorem typeEnd_headPunct {rest : List Tok} {c : UInt8} (h : typeEnd rest = true) (hc : c ≠ 0x2C) :
    headPunct c rest = false := by
  cases rest with
  | nil => rfl
  | cons t r =>
    cases t <;> simp [typeEnd, headPunct] at h ⊢
    subst h; exact fun e => hc e.symm

theorem pArr_stop (rest : List Tok) (h : headPunct 0x5B rest = false) : pArr rest = (0, rest) := by
  unfold pArr
  split
  · rename_i a b r
    simp only [headPunct, beq_eq_false_iff_ne, ne_eq] at h
    have : (a == 0x5B) = false := by simp [h]
    simp [this]
  · rfl

theorem pArr_toksArr : ∀ (n : Nat) (rest : List Tok), headPunct 0x5B rest = false →
    pArr (toksArr n ++ rest) = (n, rest)
  | 0, rest, h => by simpa [toksArr] using pArr_stop rest h
  | n + 1, rest, h => by
    have ih := pArr_toksArr n rest h
    simp only [toksArr, List.cons_append]
    rw [pArr]
    simp [ih]

theorem headPunct_toksArr (c : UInt8) (n : Nat) (rest : List Tok) (hc : c ≠ 0x5B)
    (h : headPunct c rest = false) : headPunct c (toksArr n ++ rest) = false := by
  cases n with
  | zero => simpa [toksArr] using h
  | succ n =>
    simp only [toksArr, List.cons_append, headPunct, beq_eq_false_iff_ne, ne_eq]
    exact fun e => hc e.symm

theorem noDot_toksArr (n : Nat) (rest : List Tok) (h : NoDot rest) : NoDot (toksArr n ++ rest) := by
  cases n with
  | zero => simpa [toksArr] using h
  | succ n => intro r e; simp [toksArr] at e

theorem isBuiltin_cases {w : Bytes} (h : isBuiltin w = true) :
    w = sInt ∨ w = sString ∨ w = sPath ∨ w = sFloat ∨ w = sBool ∨ w = sMap := by
  simp only [isBuiltin, isNonMapBuiltin, Bool.or_eq_true, beq_iff_eq] at h
  rcases h with ((((h | h) | h) | h) | h) | h <;> simp [h]

theorem isIdent_not_builtin {w : Bytes} (h : isIdent w = true) : isBuiltin w = false := by
  cases hb : isBuiltin w with
  | false => rfl
  | true =>
    have hf : isIdent sInt = false ∧ isIdent sString = false ∧ isIdent sPath = false ∧
        isIdent sFloat = false ∧ isIdent sBool = false ∧ isIdent sMap = false := by decide +kernel
    rcases isBuiltin_cases hb with e | e | e | e | e | e <;> subst e <;> simp [hf] at h

theorem isNonMapBuiltin_isBuiltin {w : Bytes} (h : isNonMapBuiltin w = true) : isBuiltin w = true := by
  simp [isBuiltin, h]

theorem isNonMapBuiltin_ne_map {w : Bytes} (h : isNonMapBuiltin w = true) : w ≠ sMap := by
  intro e; subst e; revert h; decide

/-- the base name of a typed map's argument, or of a plain type other than `map`: one builtin keyword
other than `map`, or dotted identifiers -/
inductive BaseName : List Bytes → Prop
  | builtin {w : Bytes} (h : isNonMapBuiltin w = true) : BaseName [w]
  | idents {c : Bytes} {r : List Bytes} (h : (c :: r).all isIdent = true) : BaseName (c :: r)

theorem wfType_iff {t : TypeId} : wfType t = true ↔
    (BaseName t.tname ∨ t.tname = [sMap] ∧ t.mapDim = 0) ∧ t.arrayDim ≤ 32767 ∧ t.mapDim ≤ 32767 := by
  obtain ⟨n, ad, md⟩ := t
  simp only [wfType, Bool.and_eq_true, decide_eq_true_eq, and_assoc]
  refine and_congr_left' ⟨fun h => ?_, fun h => ?_⟩
  · match n, h with
    | [w], h =>
      simp only [Bool.or_eq_true, Bool.and_eq_true, beq_iff_eq] at h
      rcases h with (h | h) | h
      · exact .inl (.builtin h)
      · exact .inr ⟨by rw [h.1], h.2⟩
      · exact .inl (.idents (by simp [h]))
    | c :: d :: r, h => exact .inl (.idents h)
  · rcases h with hb | ⟨rfl, h⟩
    · cases hb with
      | builtin h => simp [h]
      | @idents c r h =>
        cases r with
        | nil => simp only [List.all_cons, List.all_nil, Bool.and_true] at h; simp [h]
        | cons d r => exact h
    · simp [h]

theorem toksBase_builtin {w : Bytes} (h : isNonMapBuiltin w = true) : toksBase [w] = [.reserved w] := by
  simp [toksBase, isNonMapBuiltin_isBuiltin h, toksDots]

theorem toksBase_idents {c : Bytes} {r : List Bytes} (h : (c :: r).all isIdent = true) :
    toksBase (c :: r) = .id c :: toksDots r := by
  simp only [List.all_cons, Bool.and_eq_true] at h
  simp [toksBase, isIdent_not_builtin h.1]

theorem pBase_toks {n : List Bytes} (f : Nat) (rest : List Tok) (hw : BaseName n)
    (hf : n.length ≤ f) (hr : NoDot rest) : pBase f (toksBase n ++ rest) = some (n, rest) := by
  cases hw with
  | builtin h => simp [toksBase_builtin h, pBase, h]
  | @idents c r h =>
    have hd := pDots_toks r f rest (by simp at hf ⊢; omega) hr
    simp [toksBase_idents h, pBase, hd]

theorem pPlain_toks (n : List Bytes) (k : Nat) (rest : List Tok) (hk : k ≤ 32767)
    (hr : headPunct 0x5B rest = false) :
    pPlain n (toksArr k ++ rest) = some (⟨n, k, 0⟩, rest) := by
  simp [pPlain, pArr_toksArr k rest hr, hk]

theorem pType_toks (t : TypeId) (f : Nat) (rest : List Tok) (hw : wfType t = true)
    (hf : t.tname.length ≤ f) (hr : typeEnd rest = true) :
    pType f (toksType t ++ rest) = some (t, rest) := by
  obtain ⟨n, ad, md⟩ := t
  obtain ⟨hn, had, hmd⟩ := wfType_iff.mp hw
  simp only at hn had hmd hf
  have h3 : pArr (toksArr ad ++ rest) = (ad, rest) := pArr_toksArr _ _ (typeEnd_headPunct hr (by decide))
  by_cases hm : 0 < md
  · -- map<T[]…>[]…
    have hb : BaseName n := hn.resolve_right fun h => by omega
    have h1 := pBase_toks f (toksArr (md - 1) ++ tGT :: (toksArr ad ++ rest)) hb hf
      (noDot_toksArr _ _ (by intro r e; cases e))
    have h2 : pArr (toksArr (md - 1) ++ tGT :: (toksArr ad ++ rest)) =
        (md - 1, tGT :: (toksArr ad ++ rest)) := pArr_toksArr _ _ rfl
    have hmd' : md - 1 + 1 = md := by omega
    have hle : md - 1 ≤ 32766 := by omega
    simp [toksType, hm, pType, headPunct, pMapArg, h1, h2, h3, hmd', hle, had]
  · obtain rfl : md = 0 := by omega
    have hp := pPlain_toks n ad rest had (typeEnd_headPunct hr (by decide))
    simp only [toksType, Nat.lt_irrefl, ↓reduceIte, List.append_assoc]
    rcases hn with hn | ⟨rfl, _⟩
    · cases hn with
      | builtin h => simp [toksBase_builtin h, pType, isNonMapBuiltin_ne_map h, h, hp]
      | @idents c r h =>
        have hdots := pDots_toks r f (toksArr ad ++ rest) (by simp at hf ⊢; omega)
          (noDot_toksArr _ _ (typeEnd_noDot hr))
        simp [toksBase_idents h, pType, hdots, hp]
    · have hlt : headPunct 0x3C (toksArr ad ++ rest) = false :=
        headPunct_toksArr _ _ _ (by decide) (typeEnd_headPunct hr (by decide))
      have hbm : isBuiltin sMap = true := by decide
      simp [toksBase, hbm, toksDots, pType, hlt, hp]

theorem toksType_head (t : TypeId) (hw : wfType t = true) (rest : List Tok) :
    ∃ k r, toksType t ++ rest = k :: r ∧ ((∃ w, k = .reserved w) ∨ ∃ w, k = .id w) := by
  obtain ⟨n, ad, md⟩ := t
  by_cases hm : 0 < md
  · exact ⟨_, _, by simp [toksType, hm]; exact ⟨rfl, rfl⟩, Or.inl ⟨_, rfl⟩⟩
  · simp only [wfType, Bool.and_eq_true] at hw
    have h1 := hw.1.1
    match n, h1 with
    | c :: r, _ =>
      refine ⟨_, _, by simp [toksType, hm, toksBase]; exact ⟨rfl, rfl⟩, ?_⟩
      split
      · exact Or.inl ⟨_, rfl⟩
      · exact Or.inr ⟨_, rfl⟩

theorem toksType_length (t : TypeId) : t.tname.length ≤ (toksType t).length := by
  obtain ⟨n, ad, md⟩ := t
  have hb : n.length ≤ (toksBase n).length := by
    cases n with
    | nil => simp
    | cons c r => simp [toksBase, toksDots_length]; omega
  simp only [toksType]
  split <;> simp <;> omega

theorem toksTail_head (h o : Bytes) (rest : List Tok) :
    ∃ k r, toksTail h o ++ rest = k :: r ∧ ∀ x, k ≠ .id x := by
  unfold toksTail
  by_cases h1 : h = [] ∧ o = []
  · obtain ⟨rfl, rfl⟩ := h1
    exact ⟨tComma, rest, by simp, fun x e => by cases e⟩
  · exact ⟨.str (quoteString h), _, by simp [h1]; rfl, fun x e => by cases e⟩

theorem typeEnd_toksTail (h o : Bytes) (rest : List Tok) : typeEnd (toksTail h o ++ rest) = true := by
  unfold toksTail
  by_cases h1 : h = [] ∧ o = []
  · obtain ⟨rfl, rfl⟩ := h1; simp [typeEnd]
  · simp [h1, typeEnd]

theorem pTail_toks (h o : Bytes) (rest : List Tok) (hh : Martian.ShellQuote.validUtf8 h = true)
    (ho : Martian.ShellQuote.validUtf8 o = true) :
    pTail (toksTail h o ++ rest) = some (h, o, rest) := by
  have uh := Martian.Format.unquote_quoteString h hh
  have uo := Martian.Format.unquote_quoteString o ho
  unfold toksTail
  by_cases h2 : o = []
  · subst h2
    by_cases h1 : h = []
    · subst h1; simp [pTail]
    · simp [h1, pTail, uh]
  · simp [h2, pTail, uh, uo]

theorem pInTail_toks (h : Bytes) (rest : List Tok) (hh : Martian.ShellQuote.validUtf8 h = true) :
    pInTail (toksTail h [] ++ rest) = some (h, rest) := by
  have uh := Martian.Format.unquote_quoteString h hh
  unfold toksTail
  by_cases h1 : h = []
  · subst h1; simp [pInTail]
  · simp [h1, pInTail, uh]

theorem pMember_toks (m : Member) (f : Nat) (rest : List Tok) (hw : wfMember m = true)
    (hf : (toksMember m).length ≤ f) :
    pMember f (toksMember m ++ rest) = some (m, rest) := by
  obtain ⟨t, i, h, o⟩ := m
  simp only [wfMember, Bool.and_eq_true] at hw
  obtain ⟨⟨⟨ht, _⟩, hh⟩, ho⟩ := hw
  have hlen : t.tname.length ≤ f := by
    have := toksType_length t
    simp only [toksMember, List.length_append] at hf
    omega
  have h1 := pType_toks t f (.id i :: (toksTail h o ++ rest)) ht hlen rfl
  have h2 := pTail_toks h o rest hh ho
  have e : toksMember ⟨t, i, h, o⟩ ++ rest = toksType t ++ .id i :: (toksTail h o ++ rest) := by
    simp [toksMember]
  rw [e]
  simp [pMember, h1, h2]

theorem headPunct_toksMember (c : UInt8) (m : Member) (rest : List Tok) (hw : wfMember m = true) :
    headPunct c (toksMember m ++ rest) = false := by
  simp only [wfMember, Bool.and_eq_true] at hw
  obtain ⟨k, r, e, hk⟩ := toksType_head m.type hw.1.1.1 (.id m.id :: (toksTail m.help m.outName ++ rest))
  have e' : toksMember m ++ rest = k :: r := by rw [← e]; simp [toksMember]
  rw [e']
  rcases hk with ⟨w, rfl⟩ | ⟨w, rfl⟩ <;> rfl

theorem toksMember_length_pos (m : Member) : 1 ≤ (toksMember m).length := by
  simp [toksMember]; omega

theorem pMembers_toks : ∀ (ms : List Member) (f : Nat) (rest : List Tok), ms ≠ [] →
    ms.all wfMember = true → (toksMembers ms).length < f →
    pMembers f (toksMembers ms ++ tRParen :: rest) = some (ms, tRParen :: rest)
  | [], _, _, hne, _, _ => absurd rfl hne
  | m :: ms, f, rest, _, hw, hf => by
    obtain ⟨f, rfl⟩ : ∃ g, f = g + 1 := ⟨f - 1, by omega⟩
    simp only [List.all_cons, Bool.and_eq_true] at hw
    simp only [toksMembers, List.length_append] at hf
    have h1 := pMember_toks m f (toksMembers ms ++ tRParen :: rest) hw.1 (by omega)
    have e : toksMembers (m :: ms) ++ tRParen :: rest =
        toksMember m ++ (toksMembers ms ++ tRParen :: rest) := by simp [toksMembers]
    rw [e, pMembers, h1]
    cases ms with
    | nil => simp [toksMembers, headPunct]
    | cons m' ms' =>
      simp only [List.all_cons, Bool.and_eq_true] at hw
      have hp : headPunct 0x29 (toksMembers (m' :: ms') ++ tRParen :: rest) = false := by
        have := headPunct_toksMember 0x29 m' (toksMembers ms' ++ tRParen :: rest) hw.2.1
        simpa [toksMembers] using this
      have ih := pMembers_toks (m' :: ms') f rest (by simp)
        (by simp [hw.2.1, hw.2.2]) (by have := toksMember_length_pos m; omega)
      simp [hp, ih]

theorem isIdent_ne_default {w : Bytes} (h : isIdent w = true) : w ≠ sDefault := by
  intro e; subst e; revert h; decide

theorem shownId_of_ident (p : Param) (h : isIdent p.id = true) : shownId p = p.id := by
  simp [shownId, isIdent_ne_default h]

theorem shownId_ne_nil (p : Param) (h : isIdent p.id = true) : shownId p ≠ [] := by
  rw [shownId_of_ident p h]; exact isIdent_ne_nil h

theorem toksParam_length (p : Param) : p.type.tname.length + 2 ≤ (toksParam p).length := by
  have := toksType_length p.type
  simp only [toksParam, toksTail, List.length_cons, List.length_append]
  omega

theorem pInParam_toks (p : Param) (f : Nat) (rest : List Tok) (hw : wfParam p = true)
    (hin : p.out = false) (hf : (toksParam p).length ≤ f) :
    pInParam f (toksParam p ++ rest) = some (p, rest) := by
  obtain ⟨⟨t, i, h, o⟩, out⟩ := p
  simp only at hin
  subst hin
  simp only [wfParam, Bool.and_eq_true, Bool.or_eq_true, Bool.false_eq_true, false_and, or_false,
    false_or, beq_iff_eq] at hw
  obtain ⟨⟨⟨⟨ht, hi⟩, hh⟩, _⟩, ho⟩ := hw
  subst ho
  have hlen : t.tname.length ≤ f := by
    have := toksParam_length ⟨⟨t, i, h, []⟩, false⟩
    simp only at this; omega
  have hs := shownId_ne_nil ⟨⟨t, i, h, []⟩, false⟩ hi
  have h1 := pType_toks t f (.id i :: (toksTail h [] ++ rest)) ht hlen rfl
  have h2 := pInTail_toks h rest hh
  have e : toksParam ⟨⟨t, i, h, []⟩, false⟩ ++ rest =
      .reserved sIn :: (toksType t ++ .id i :: (toksTail h [] ++ rest)) := by
    simp [toksParam, hs, mode, getOutName]
  rw [e]
  simp [pInParam, h1, h2]

theorem pOutParam_toks (p : Param) (f : Nat) (rest : List Tok) (hw : wfParam p = true)
    (hout : p.out = true) (hf : (toksParam p).length ≤ f) :
    pOutParam f (toksParam p ++ rest) = some (p, rest) := by
  obtain ⟨⟨t, i, h, o⟩, out⟩ := p
  simp only at hout
  subst hout
  simp only [wfParam, Bool.and_eq_true, Bool.or_eq_true, Bool.true_or, and_true, true_and,
    beq_iff_eq] at hw
  obtain ⟨⟨⟨ht, hi⟩, hh⟩, ho⟩ := hw
  have hlen : t.tname.length ≤ f := by
    have := toksParam_length ⟨⟨t, i, h, o⟩, true⟩
    simp only at this; omega
  have h2 := pTail_toks h o rest hh ho
  by_cases hd : i = sDefault
  · subst hd
    have h1 := pType_toks t f (toksTail h o ++ rest) ht hlen (typeEnd_toksTail h o rest)
    have e : toksParam ⟨⟨t, sDefault, h, o⟩, true⟩ ++ rest =
        .reserved sOut :: (toksType t ++ (toksTail h o ++ rest)) := by
      simp [toksParam, shownId, mode, getOutName]
    rw [e]
    obtain ⟨k, r, ek, hk⟩ := toksTail_head h o rest
    rw [ek] at h1 h2 ⊢
    cases k with
    | id x => exact absurd rfl (hk x)
    | _ => simp [pOutParam, h1, h2]
  · have hi' : isIdent i = true := by
      rcases hi with h | h
      · exact h
      · exact absurd h hd
    have hs := shownId_ne_nil ⟨⟨t, i, h, o⟩, true⟩ hi'
    have h1 := pType_toks t f (.id i :: (toksTail h o ++ rest)) ht hlen rfl
    have e : toksParam ⟨⟨t, i, h, o⟩, true⟩ ++ rest =
        .reserved sOut :: (toksType t ++ .id i :: (toksTail h o ++ rest)) := by
      simp [toksParam, hs, mode, getOutName]
    rw [e]
    simp [pOutParam, h1, h2]

theorem headKw_toksParam (w : Bytes) (p : Param) (rest : List Tok) :
    headKw w (toksParam p ++ rest) = (mode p == w) := by
  simp [toksParam, headKw]

theorem pInParams_toks : ∀ (ps : List Param) (f : Nat) (rest : List Tok),
    ps.all wfParam = true → ps.all (fun p => !p.out) = true → (toksParams ps).length < f →
    headKw sIn rest = false → pInParams f (toksParams ps ++ rest) = some (ps, rest)
  | [], f, rest, _, _, hf, hr => by
    obtain ⟨f, rfl⟩ : ∃ g, f = g + 1 := ⟨f - 1, by omega⟩
    simp [toksParams, pInParams, hr]
  | p :: ps, f, rest, hw, hm, hf, hr => by
    obtain ⟨f, rfl⟩ : ∃ g, f = g + 1 := ⟨f - 1, by omega⟩
    simp only [List.all_cons, Bool.and_eq_true, Bool.not_eq_true'] at hw hm
    simp only [toksParams, List.length_append] at hf
    have h1 := pInParam_toks p f (toksParams ps ++ rest) hw.1 hm.1 (by omega)
    have ih := pInParams_toks ps f rest hw.2 (by simpa using hm.2)
      (by have := toksParam_length p; omega) hr
    have hk : headKw sIn (toksParam p ++ (toksParams ps ++ rest)) = true := by
      rw [headKw_toksParam]; simp [mode, hm.1]
    have e : toksParams (p :: ps) ++ rest = toksParam p ++ (toksParams ps ++ rest) := by
      simp [toksParams]
    rw [e, pInParams]
    simp [hk, h1, ih]

theorem pOutParams_toks : ∀ (ps : List Param) (f : Nat) (rest : List Tok),
    ps.all wfParam = true → ps.all (fun p => p.out) = true → (toksParams ps).length < f →
    headKw sOut rest = false → pOutParams f (toksParams ps ++ rest) = some (ps, rest)
  | [], f, rest, _, _, hf, hr => by
    obtain ⟨f, rfl⟩ : ∃ g, f = g + 1 := ⟨f - 1, by omega⟩
    simp [toksParams, pOutParams, hr]
  | p :: ps, f, rest, hw, hm, hf, hr => by
    obtain ⟨f, rfl⟩ : ∃ g, f = g + 1 := ⟨f - 1, by omega⟩
    simp only [List.all_cons, Bool.and_eq_true] at hw hm
    simp only [toksParams, List.length_append] at hf
    have h1 := pOutParam_toks p f (toksParams ps ++ rest) hw.1 hm.1 (by omega)
    have ih := pOutParams_toks ps f rest hw.2 hm.2
      (by have := toksParam_length p; omega) hr
    have hk : headKw sOut (toksParam p ++ (toksParams ps ++ rest)) = true := by
      rw [headKw_toksParam]; simp [mode, hm.1]
    have e : toksParams (p :: ps) ++ rest = toksParam p ++ (toksParams ps ++ rest) := by
      simp [toksParams]
    rw [e, pOutParams]
    simp [hk, h1, ih]

theorem toksParams_append (a b : List Param) : toksParams (a ++ b) = toksParams a ++ toksParams b := by
  induction a with
  | nil => rfl
  | cons p a ih => simp [toksParams, ih]

theorem headKw_in_outs (ps : List Param) (rest : List Tok) (hm : ps.all (fun p => p.out) = true)
    (hr : headKw sIn rest = false) : headKw sIn (toksParams ps ++ rest) = false := by
  cases ps with
  | nil => simpa [toksParams] using hr
  | cons p ps =>
    simp only [List.all_cons, Bool.and_eq_true] at hm
    have e : toksParams (p :: ps) ++ rest = toksParam p ++ (toksParams ps ++ rest) := by
      simp [toksParams]
    rw [e, headKw_toksParam]
    simp [mode, hm.1]; decide

theorem parseParamsToks_toks (ins outs : List Param) (hwi : ins.all wfParam = true)
    (hwo : outs.all wfParam = true) (hi : ins.all (fun p => !p.out) = true)
    (ho : outs.all (fun p => p.out) = true) :
    parseParamsToks (toksParams (ins ++ outs)) = some (ins ++ outs) := by
  unfold parseParamsToks
  rw [toksParams_append]
  have h1 := pInParams_toks ins ((toksParams ins ++ toksParams outs).length + 1) (toksParams outs)
    hwi hi (by simp only [List.length_append]; omega)
    (by simpa using headKw_in_outs outs [] ho rfl)
  have h2 := pOutParams_toks outs ((toksParams ins ++ toksParams outs).length + 1) [] hwo ho
    (by simp only [List.length_append]; omega) rfl
  rw [List.append_nil] at h2
  rw [h1]
  simp only [h2]

theorem toksMembers_length_pos : ∀ ms : List Member, ms.length ≤ (toksMembers ms).length
  | [] => by simp
  | m :: ms => by
    have := toksMembers_length_pos ms
    have := toksMember_length_pos m
    simp only [toksMembers, List.length_append, List.length_cons]; omega

theorem parseStructToks_toks (s : Struct) (hw : wfStruct s = true) :
    parseStructToks (toksStruct s) = some s := by
  obtain ⟨i, ms⟩ := s
  simp only [wfStruct, Bool.and_eq_true, Bool.not_eq_true', List.isEmpty_eq_false_iff] at hw
  have h := pMembers_toks ms ((toksStruct ⟨i, ms⟩).length + 1) [] hw.1.2 hw.2
    (by simp [toksStruct]; omega)
  simp only [toksStruct] at h ⊢
  unfold parseStructToks
  simp only [h]
  simp

theorem parseFiletypeToks_toks (t : Filetype) (hw : wfFiletype t = true) :
    parseFiletypeToks (toksFiletype t) = some t := by
  obtain ⟨n⟩ := t
  simp only [wfFiletype, Bool.and_eq_true, Bool.not_eq_true', List.isEmpty_eq_false_iff] at hw
  match n, hw with
  | c :: r, _ =>
    have h := pDots_toks r ((toksFiletype ⟨c :: r⟩).length + 1) [tSemi]
      (by simp [toksFiletype, toksDots_length]; omega) (by intro r e; cases e)
    simp only [toksFiletype] at h ⊢
    unfold parseFiletypeToks
    simp only [h]
    simp

end Martian.FormatDecl
