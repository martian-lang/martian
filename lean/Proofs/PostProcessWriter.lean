/-
C13, the record file.  `parse_emit` (C13 `result_wellformed`): the token-level JSON parser reads
back exactly the tree the hand-built writer emitted.  The record under a write
that is cut short: the two steps of `writeAtomicAt` (temp file, rename) and the
in-place writer as operations on a file system of byte files (`BFS`).
-/
import Martian.PostProcessDefs

namespace Martian.PostProcess

theorem emit_head (t : J) : ∃ a r, emit t = a :: r ∧ goodHead a = true := by
  cases t with
  | null => exact ⟨.null, [], rfl, rfl⟩
  | lit s => exact ⟨.lit s, [], rfl, rfl⟩
  | str s => exact ⟨.str s, [], rfl, rfl⟩
  | arr xs =>
    cases xs with
    | nil => exact ⟨.lbrack, [.rbrack], rfl, rfl⟩
    | cons x xs => exact ⟨.lbrack, emit x ++ emitTail xs, rfl, rfl⟩
  | obj kvs =>
    cases kvs with
    | nil => exact ⟨.lbrace, [.rbrace], rfl, rfl⟩
    | cons kv kvs =>
      obtain ⟨k, v⟩ := kv
      exact ⟨.lbrace, .str k :: .colon :: (emit v ++ emitFields kvs), rfl, rfl⟩

theorem parseVal_lbrack (n : Nat) (a : Tok) (r : List Tok) (h : goodHead a = true) :
    parseVal (n + 1) (.lbrack :: a :: r) =
      match parseVal n (a :: r) with
      | some (x, r1) =>
        match parseTail n r1 with
        | some (xs, r2) => some (.arr (x :: xs), r2)
        | none => none
      | none => none := by
  cases a <;> first | (exact absurd h (by decide)) | rfl

theorem emit_pos (t : J) : 0 < (emit t).length := by
  obtain ⟨a, r, h, _⟩ := emit_head t
  simp [h]

theorem emitTail_pos (xs : List J) : 0 < (emitTail xs).length := by
  cases xs <;> simp [emitTail]

theorem emitFields_pos (kvs : List (String × J)) : 0 < (emitFields kvs).length := by
  cases kvs <;> simp [emitFields]

mutual
theorem parseVal_emit (t : J) (n : Nat) (rest : List Tok) (h : (emit t).length ≤ n) :
    parseVal n (emit t ++ rest) = some (t, rest) := by
  cases n with
  | zero => exact absurd (emit_pos t) (Nat.not_lt.mpr h)
  | succ n =>
    cases t with
    | null => rfl
    | lit s => rfl
    | str s => rfl
    | arr xs =>
      cases xs with
      | nil => rfl
      | cons x xs =>
        obtain ⟨a, r, ha, hg⟩ := emit_head x
        have hlen : (emit x).length + (emitTail xs).length ≤ n := by
          simp [emit] at h; omega
        have h1 := parseVal_emit x n (emitTail xs ++ rest) (by omega)
        have h2 := parseTail_emit xs n rest (by omega)
        show parseVal (n + 1) (.lbrack :: (emit x ++ emitTail xs) ++ rest) = _
        rw [List.cons_append, List.append_assoc, ha, List.cons_append, parseVal_lbrack n a _ hg,
          ← List.cons_append, ← ha, h1]
        simp only [h2]
    | obj kvs =>
      cases kvs with
      | nil => rfl
      | cons kv kvs =>
        obtain ⟨k, v⟩ := kv
        have hlen : (emit v).length + (emitFields kvs).length + 2 ≤ n := by
          simp [emit] at h; omega
        have h1 := parseVal_emit v n (emitFields kvs ++ rest) (by omega)
        have h2 := parseFields_emit kvs n rest (by omega)
        show parseVal (n + 1) (.lbrace :: .str k :: .colon :: (emit v ++ emitFields kvs) ++ rest) = _
        simp only [List.cons_append, List.append_assoc, parseVal, h1, h2]
theorem parseTail_emit (xs : List J) (n : Nat) (rest : List Tok) (h : (emitTail xs).length ≤ n) :
    parseTail n (emitTail xs ++ rest) = some (xs, rest) := by
  cases n with
  | zero => exact absurd (emitTail_pos xs) (Nat.not_lt.mpr h)
  | succ n =>
    cases xs with
    | nil => rfl
    | cons x xs =>
      have hlen : (emit x).length + (emitTail xs).length ≤ n := by
        simp [emitTail] at h; omega
      have h1 := parseVal_emit x n (emitTail xs ++ rest) (by omega)
      have h2 := parseTail_emit xs n rest (by omega)
      show parseTail (n + 1) (.comma :: (emit x ++ emitTail xs) ++ rest) = _
      simp only [List.cons_append, List.append_assoc, parseTail, h1, h2]
theorem parseFields_emit (kvs : List (String × J)) (n : Nat) (rest : List Tok)
    (h : (emitFields kvs).length ≤ n) :
    parseFields n (emitFields kvs ++ rest) = some (kvs, rest) := by
  cases n with
  | zero => exact absurd (emitFields_pos kvs) (Nat.not_lt.mpr h)
  | succ n =>
    cases kvs with
    | nil => rfl
    | cons kv kvs =>
      obtain ⟨k, v⟩ := kv
      have hlen : (emit v).length + (emitFields kvs).length + 2 ≤ n := by
        simp [emitFields] at h; omega
      have h1 := parseVal_emit v n (emitFields kvs ++ rest) (by omega)
      have h2 := parseFields_emit kvs n rest (by omega)
      show parseFields (n + 1) (.comma :: .str k :: .colon :: (emit v ++ emitFields kvs) ++ rest) = _
      simp only [List.cons_append, List.append_assoc, parseFields, h1, h2]
end

theorem parse_emit (t : J) : parse (emit t) = some t := by
  unfold parse
  have := parseVal_emit t ((emit t).length + 1) [] (by omega)
  rw [List.append_nil] at this
  rw [this]

theorem str_append_tmp_ne (n : String) : n ++ ".tmp" ≠ n := by
  intro h
  have := congrArg String.length h
  simp [String.length_append] at this

theorem tmpPath_ne (target : Path) : tmpPath target ≠ target := by
  rcases List.eq_nil_or_concat target with e | ⟨d, n, e⟩
  · subst e; simp [tmpPath]
  · subst e
    intro h
    simp [tmpPath, List.concat_eq_append] at h

theorem writeAtomicCut_spec (fs : BFS) (target : Path) (new : List UInt8) (k : Nat) :
    (k = 0 → writeAtomicCut fs target new k = fs) ∧
    (0 < k → k ≤ new.length + 1 →
      writeAtomicCut fs target new k target = fs target ∧
      writeAtomicCut fs target new k (tmpPath target) = some (new.take (k - 1))) ∧
    (new.length + 1 < k →
      writeAtomicCut fs target new k target = some new ∧
      writeAtomicCut fs target new k (tmpPath target) = none) ∧
    (∀ q, q ≠ target → q ≠ tmpPath target → writeAtomicCut fs target new k q = fs q) := by
  have hne := tmpPath_ne target
  refine ⟨fun h => by simp [writeAtomicCut, h], fun h0 h1 => ?_, fun h => ?_, fun q h1 h2 => ?_⟩
  · have : k ≠ 0 := by omega
    simp [writeAtomicCut, this, h1, BFS.set, Ne.symm hne]
  · have h0 : k ≠ 0 := by omega
    have h1 : ¬ k ≤ new.length + 1 := by omega
    simp [writeAtomicCut, h0, h1, BFS.rename, BFS.set, hne]
  · unfold writeAtomicCut
    split
    · rfl
    · split <;> simp [BFS.rename, BFS.set, h1, h2]

theorem writeAtomicCut_record (fs : BFS) (target : Path) (old new : List UInt8) (k : Nat)
    (h : fs target = some old) :
    (writeAtomicCut fs target new k target = some old ∨ writeAtomicCut fs target new k target = some new) ∧
    (k ≤ new.length + 1 → writeAtomicCut fs target new k target = some old) ∧
    (new.length + 1 < k → writeAtomicCut fs target new k target = some new) := by
  obtain ⟨s0, s1, s2, _⟩ := writeAtomicCut_spec fs target new k
  have hle : k ≤ new.length + 1 → writeAtomicCut fs target new k target = some old := by
    intro hk
    by_cases h0 : k = 0
    · rw [s0 h0, h]
    · rw [(s1 (by omega) hk).1, h]
  refine ⟨?_, hle, fun hk => (s2 hk).1⟩
  by_cases hk : k ≤ new.length + 1
  · exact Or.inl (hle hk)
  · exact Or.inr (s2 (by omega)).1

theorem writeInplaceCut_record (fs : BFS) (target : Path) (new : List UInt8) (k : Nat) (h0 : 0 < k) :
    writeInplaceCut fs target new k target = some (new.take (k - 1)) := by
  have : k ≠ 0 := by omega
  simp [writeInplaceCut, this, BFS.set]

theorem recordAfterFault_eq (w : RecordWriter) (fs : BFS) (target : Path) (old new : List UInt8) (k : Nat)
    (h : fs target = some old) :
    writeCut w fs target new k target = some (recordAfterFault w old new k) := by
  cases w with
  | atomic =>
    obtain ⟨_, h1, h2⟩ := writeAtomicCut_record fs target old new k h
    simp only [writeCut, recordAfterFault]
    split
    · exact h2 (by omega)
    · exact h1 (by omega)
  | inplace =>
    simp only [writeCut, recordAfterFault]
    split
    · rename_i hk; simp [writeInplaceCut, hk, h]
    · rename_i hk; exact writeInplaceCut_record fs target new k (by omega)

end Martian.PostProcess
