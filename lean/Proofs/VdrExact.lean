import Proofs.VdrInv
import Proofs.VdrShrink

/-! Exact accounting for every configuration: the file -> arguments cache is
aligned one-to-one with the entries below the files/ directories, so what a
file-level pass counts is what it removes.  `DiskWF`, `All2`, `Aligned`, `XInv` (`XInv.own`, `XInv.run`). -/
namespace Martian.Vdr

/-- symbolic links (the entries with further logical names) are not below
another entry of the files/ directories: the shape the exactness of the
report depends on (see `report_undercounts_nested_link`) -/
def LinksTop (disk : List DiskEnt) : Prop :=
  ∀ d ∈ disk, d.alts ≠ [] → ∀ d' ∈ disk, isTmp d'.kind = false →
    pathIsInside d.path d'.path = true → d' = d

/-- two lists related position by position -/
inductive All2 {α β : Type} (R : α → β → Prop) : List α → List β → Prop
  | nil : All2 R [] []
  | cons {a b l1 l2} : R a b → All2 R l1 l2 → All2 R (a :: l1) (b :: l2)

/-- a cache entry describes a disk entry -/
def Rel (e : Entry) (d : DiskEnt) : Prop :=
  e.path = d.path ∧ e.size = d.size ∧ e.count = 1 ∧ e.names = d.path :: d.alts

/-- the cache has exactly one entry, in order, per entry below a files/ directory -/
def Aligned (es : List Entry) (disk : List DiskEnt) : Prop :=
  All2 Rel es (disk.filter (fun d => !isTmp d.kind))

/-- whoever keeps something alive keeps everything above it alive -/
def Mono (es : List Entry) : Prop :=
  ∀ e ∈ es, ∀ e' ∈ es, pathIsInside e.path e'.path = true → ∀ a ∈ e.args, a ∈ e'.args

/-- temp entries are not below entries of a files/ directory -/
def Sep (disk : List DiskEnt) : Prop :=
  ∀ d ∈ disk, isTmp d.kind = true → ∀ d' ∈ disk, isTmp d'.kind = false → pathIsInside d.path d'.path = false

theorem forall2_filter {α β : Type} {R : α → β → Prop} {p : α → Bool} {q : β → Bool} {l1 : List α} {l2 : List β}
    (h : All2 R l1 l2) (hpq : ∀ a b, a ∈ l1 → b ∈ l2 → R a b → p a = q b) :
    All2 R (l1.filter p) (l2.filter q) := by
  induction h with
  | nil => exact All2.nil
  | @cons a b l1 l2 hab _ ih =>
    have e := hpq a b List.mem_cons_self List.mem_cons_self hab
    have ih' := ih (fun x y hx hy => hpq x y (List.mem_cons_of_mem _ hx) (List.mem_cons_of_mem _ hy))
    cases hq : q b with
    | true => simp only [List.filter, e, hq]; exact All2.cons hab ih'
    | false => simp only [List.filter, e, hq]; exact ih'

theorem forall2_map_self {α β : Type} {R : α → β → Prop} (f : β → α) (h : ∀ b, R (f b) b) (l : List β) :
    All2 R (l.map f) l := by
  induction l with
  | nil => exact All2.nil
  | cons x r ih => exact All2.cons (h x) ih

theorem forall2_map_left {α β : Type} {R : α → β → Prop} (g : α → α) {l1 : List α} {l2 : List β}
    (h : All2 R l1 l2) (hg : ∀ a b, R a b → R (g a) b) : All2 R (l1.map g) l2 := by
  induction h with
  | nil => exact All2.nil
  | cons hab _ ih => exact All2.cons (hg _ _ hab) ih

theorem forall2_mem_left {α β : Type} {R : α → β → Prop} {l1 : List α} {l2 : List β}
    (h : All2 R l1 l2) : ∀ a ∈ l1, ∃ b ∈ l2, R a b := by
  induction h with
  | nil => intro a ha; cases ha
  | cons hab _ ih =>
    intro x hx
    rcases List.mem_cons.mp hx with rfl | hx
    · exact ⟨_, List.mem_cons_self, hab⟩
    · obtain ⟨b, hb, r⟩ := ih x hx
      exact ⟨b, List.mem_cons_of_mem _ hb, r⟩

theorem All2.flip {α β : Type} {R : α → β → Prop} {l1 : List α} {l2 : List β} (h : All2 R l1 l2) :
    All2 (fun b a => R a b) l2 l1 := by
  induction h with
  | nil => exact All2.nil
  | cons hab _ ih => exact All2.cons hab ih

theorem forall2_mem_right {α β : Type} {R : α → β → Prop} {l1 : List α} {l2 : List β}
    (h : All2 R l1 l2) : ∀ b ∈ l2, ∃ a ∈ l1, R a b :=
  forall2_mem_left h.flip

theorem rel_sums {es : List Entry} {ds : List DiskEnt} (h : All2 Rel es ds) :
    sumECount es = ds.length ∧ sumESize es = sumSize ds := by
  induction h with
  | nil => simp [sumECount, sumESize, sumSize]
  | cons hab _ ih =>
    obtain ⟨_, hs, hc, _⟩ := hab
    obtain ⟨i1, i2⟩ := ih
    simp only [sumECount, sumESize, sumSize, List.map_cons, List.sum_cons, List.length_cons] at *
    omega

theorem filter_of_imp {α : Type} (p q : α → Bool) (l : List α) (h : ∀ x ∈ l, p x = true → q x = true) :
    l.filter p = (l.filter q).filter p := by
  rw [List.filter_filter]
  apply List.filter_congr
  intro x hx
  cases hp : p x with
  | false => rfl
  | true => rw [h x hx hp]; rfl

theorem filter_comm_nonTmp (p : DiskEnt → Bool) (l : List DiskEnt) :
    (l.filter p).filter (fun d => !isTmp d.kind) = (l.filter (fun d => !isTmp d.kind)).filter p := by
  rw [List.filter_filter, List.filter_filter]
  apply List.filter_congr
  intro x _
  exact Bool.and_comm _ _

structure DiskWF (disk : List DiskEnt) : Prop where
  sep : Sep disk
  top : LinksTop disk

/-- the invariant behind `report_exact_partial` -/
structure XInv (s0 s : St) : Prop where
  exact : Exact s
  sub : ∀ d ∈ s.disk, d ∈ s0.disk
  al : s.final = false → ∀ es, s.cache = some es → Aligned es s.disk ∧ Mono es

theorem XInv.frame {s0 s s' : St} (x : XInv s0 s) (f : Frame s s') : XInv s0 s' := by
  refine ⟨x.exact.ofEq f.removed f.report, fun d h => x.sub d (f.disk ▸ h), ?_⟩
  intro hf es he
  rw [f.disk]
  exact x.al (f.final ▸ hf) es (f.cache ▸ he)

theorem cacheEntries_aligned (c : Cfg) (s : St) : Aligned (cacheEntries c s) s.disk := by
  unfold Aligned cacheEntries
  exact forall2_map_self _ (fun d => ⟨rfl, rfl, rfl, rfl⟩) _

theorem cacheEntries_mono (c : Cfg) (s0 s : St) (ok : CfgOK c s0) (top : LinksTop s0.disk)
    (sub : ∀ d ∈ s.disk, d ∈ s0.disk) : Mono (cacheEntries c s) := by
  intro e he e' he' hin a ha
  unfold cacheEntries at he he'
  simp only [List.mem_map, List.mem_filter] at he he'
  obtain ⟨d, ⟨hd, _⟩, rfl⟩ := he
  obtain ⟨d', ⟨hd', ht'⟩, rfl⟩ := he'
  simp only [List.mem_filter] at ha ⊢
  refine ⟨ha.1, ?_⟩
  by_cases hal : d.alts = []
  · have h1 : refs c a d.path = true := by
      have := ha.2
      rw [hal] at this
      exact this
    exact anyOverlap_cons_mono _ _ _
      (refs_mono (ok.cleanD d (sub d hd)) (ok.cleanD d' (sub d' hd')) (ok.noDbl d (sub d hd)) (ok.noDbl d' (sub d' hd')) (ok.cleanF a) hin h1)
  · have := top d (sub d hd) hal d' (sub d' hd') (by simpa using ht') hin
    rw [this]
    exact ha.2

theorem XInv.cacheMap {c : Cfg} {s0 s : St} (ok : CfgOK c s0) (top : LinksTop s0.disk) (x : XInv s0 s) :
    XInv s0 (cacheMap c s) := by
  have f := cacheMap_frame c s
  refine ⟨x.exact.ofEq f.removed f.report, fun d h => x.sub d (f.disk ▸ h), ?_⟩
  · intro _ es he
    cases (show some (cacheEntries c s) = some es from he)
    rw [show (Martian.Vdr.cacheMap c s).disk = s.disk from f.disk]
    exact ⟨cacheEntries_aligned c s, cacheEntries_mono c s0 s ok top x.sub⟩

theorem XInv.updateCache {s0 s : St} (x : XInv s0 s) {es : List Entry} (he : s.cache = some es) :
    XInv s0 { s with cache := some (updateCache s es) } := by
  refine ⟨x.exact, x.sub, ?_⟩
  intro hf es' he'
  cases (show some (Martian.Vdr.updateCache s es) = some es' from he')
  obtain ⟨al, mo⟩ := x.al hf es he
  constructor
  · unfold Aligned Martian.Vdr.updateCache at *
    exact forall2_map_left _ al (fun e d r => r)
  · intro e hm e' hm' hin a ha
    unfold Martian.Vdr.updateCache at hm hm'
    simp only [List.mem_map] at hm hm'
    obtain ⟨e0, h0, rfl⟩ := hm
    obtain ⟨e0', h0', rfl⟩ := hm'
    simp only [List.mem_filter] at ha ⊢
    exact ⟨mo e0 h0 e0' h0' hin a ha.1, ha.2⟩

theorem XInv.normCache {c : Cfg} {s0 s : St} (ok : CfgOK c s0) (top : LinksTop s0.disk) (x : XInv s0 s) :
    XInv s0 (normCache c s) := by
  unfold Martian.Vdr.normCache
  split
  · exact x.cacheMap ok top
  · rename_i es he; exact x.updateCache he

theorem XInv.cleanPhase {c : Cfg} {s0 s : St} (x : XInv s0 s) (ph : Nat) : XInv s0 (cleanPhase c s ph) := by
  refine ⟨exact_cleanPhase c s ph x.exact, fun d h => x.sub d ((shr_cleanPhase c s ph).disk d h), ?_⟩
  unfold Martian.Vdr.cleanPhase
  split
  · exact x.al
  · intro hf es he
    -- the entries below the files/ directories are untouched
    have hsame : (s.disk.filter (fun d => !(d.kind == Kind.tmp ph))).filter (fun d => !isTmp d.kind)
        = s.disk.filter (fun d => !isTmp d.kind) := by
      rw [List.filter_filter]
      apply List.filter_congr
      intro d _
      cases d.kind <;> simp [isTmp]
    obtain ⟨al, mo⟩ := x.al hf es he
    exact ⟨show All2 Rel es _ from hsame ▸ al, mo⟩

theorem XInv.killCore {s0 s : St} (wf : DiskWF s0.disk) (x : XInv s0 s) (es : List Entry)
    (hf : s.final = false) (he : s.cache = some es) : XInv s0 (killCore s es) := by
  obtain ⟨al, mo⟩ := x.al hf es he
  -- the two predicates agree on related pairs
  have hpq : ∀ e d, e ∈ es → d ∈ s.disk.filter (fun d => !isTmp d.kind) → Rel e d → e.args.isEmpty = killed es d := by
    intro e d hes _ r
    cases hemp : e.args.isEmpty with
    | true => exact (killed_iff.mpr ⟨e, hes, hemp, by rw [r.1]; exact pathIsInside_self _⟩).symm
    | false =>
      cases hk : killed es d with
      | false => rfl
      | true =>
        obtain ⟨e', hes', hemp', hin⟩ := killed_iff.mp hk
        obtain ⟨a, ha⟩ := List.isEmpty_eq_false_iff_exists_mem.mp hemp
        have := mo e hes e' hes' (r.1 ▸ hin) a ha
        rw [List.isEmpty_iff.mp hemp'] at this
        cases this
  -- temp entries are not inside kill paths
  have htmp : ∀ d ∈ s.disk, killed es d = true → (!isTmp d.kind) = true := by
    intro d hd hk
    cases ht : isTmp d.kind with
    | false => rfl
    | true =>
      obtain ⟨e', hes', _, hin⟩ := killed_iff.mp hk
      obtain ⟨d', hd', r⟩ := forall2_mem_left al e' hes'
      have hd'' := List.mem_filter.mp hd'
      have := wf.sep d (x.sub d hd) ht d' (x.sub d' hd''.1) (by simpa using hd''.2)
      rw [← r.1, hin] at this
      cases this
  have hkill : All2 Rel (es.filter (fun e => e.args.isEmpty))
      ((s.disk.filter (fun d => !isTmp d.kind)).filter (killed es)) := forall2_filter al hpq
  obtain ⟨hc, hs⟩ := rel_sums hkill
  refine ⟨?_, fun d h => x.sub d (killCore_disk h).1, ?_⟩
  · unfold Exact
    rw [killCore_removed_eq, filter_of_imp _ _ _ htmp]
    show s.report.count + sumECount _ = _ ∧ s.report.size + sumESize _ = _
    rw [List.length_append, sumSize_append, hc, hs]
    obtain ⟨e1, e2⟩ := x.exact
    omega
  · intro _ es' he'
    cases (show some (es.filter (fun e => !e.args.isEmpty)) = some es' from he')
    constructor
    · unfold Aligned
      rw [killCore_disk_eq, filter_comm_nonTmp]
      apply forall2_filter al
      intro e d hes hd r
      rw [hpq e d hes hd r]
    · intro e hm e' hm' hin a ha
      exact mo e (List.mem_filter.mp hm).1 e' (List.mem_filter.mp hm').1 hin a ha

theorem XInv.vdrKillSome {c : Cfg} {s0 s : St} (ok : CfgOK c s0) (wf : DiskWF s0.disk) (x : XInv s0 s)
    (hf : s.final = false) (done : Bool) : XInv s0 (vdrKillSome c s done) :=
  vdrKillSome_induct (P := fun s' => s'.final = false ∧ XInv s0 s')
    (fun s' h => ⟨(normCache_frame c s').final.trans h.1, h.2.normCache ok wf.top⟩)
    (fun _ es he _ h => ⟨h.1, h.2.killCore wf es h.1 he⟩) (fun _ h => h.2)
    (fun _ _ _ _ _ _ h => ⟨h.2.exact, h.2.sub, nofun⟩) ⟨hf, x⟩

theorem XInv.killChunks {c : Cfg} {s0 s : St} (x : XInv s0 s) : XInv s0 (killChunks c s) :=
  ⟨exact_killChunks c s x.exact, fun d h => x.sub d (List.mem_filter.mp h).1, fun h => nomatch h⟩

theorem XInv.vdrKill {c : Cfg} {s0 s : St} (ok : CfgOK c s0) (wf : DiskWF s0.disk) (x : XInv s0 s) :
    XInv s0 (vdrKill c s) := by
  rw [vdrKill_eq]
  split
  · exact x
  · rename_i hf
    split
    · exact x.vdrKillSome ok wf (by simpa using hf) true
    · exact x.killChunks

theorem XInv.own {c : Cfg} {s0 s s' : St} (ok : CfgOK c s0) (wf : DiskWF s0.disk) (o : Own c s s')
    (x : XInv s0 s) : XInv s0 s' := by
  cases o with
  | removeEmpty => exact x.frame (removeEmpty_frame c s)
  | cacheMap => exact x.cacheMap ok wf.top
  | cleanPhase ph _ => exact x.cleanPhase ph
  | dropDone _ => exact x.frame (dropDone_frame s)
  | vdrKillSome done hf _ _ _ => exact x.vdrKillSome ok wf hf done
  | vdrKill _ _ _ _ => exact x.vdrKill ok wf

theorem XInv.run {c : Cfg} {s0 s : St} (ok : CfgOK c s0) (wf : DiskWF s0.disk) (x : XInv s0 s) (evs : List Ev) :
    XInv s0 (run c s evs) :=
  run_induct (fun _ _ x => ⟨x.exact, x.sub, x.al⟩) (fun _ x => ⟨x.exact, x.sub, fun _ _ he => nomatch he⟩)
    (fun _ _ o x => x.own ok wf o) x evs

theorem XInv.init (s0 : St) (fr : Fresh s0) (h0 : s0.report.count = 0 ∧ s0.report.size = 0) : XInv s0 s0 := by
  refine ⟨?_, fun d h => h, ?_⟩
  · unfold Exact
    rw [fr.removed, h0.1, h0.2]; simp [sumSize]
  · intro _ es he
    rw [fr.cache] at he
    cases he

end Martian.Vdr
