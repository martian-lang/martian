/-
C01 — `J.erase` (dnull ↦ null) commutes with field selection, projection, narrowing, element selection
at an array index (`elemAt_erase_i`; not at `Idx.none`, where `elemAt` is `dnull` whatever the value) and,
on the erased environment `eraseEnv`, with the evaluation of expressions whose literals are null or scalars
(`eval_eraseEnv`).  Used to run the refinement lemmas on the ERASED environment of a program with
`disabled` calls.
-/
import Martian.Dataflow
import Proofs.Dataflow

namespace Proofs.ResolverStatic
open Martian.Dataflow Proofs.Dataflow

theorem eraseList_eq (xs : List J) : J.eraseList xs = xs.map J.erase := by
  induction xs with
  | nil => rfl
  | cons x xs ih => simp [J.eraseList, ih]

theorem eraseFields_eq (kvs : List (String × J)) : J.eraseFields kvs = kvs.map fun kv => (kv.1, J.erase kv.2) := by
  induction kvs with
  | nil => rfl
  | cons x xs ih => obtain ⟨k, v⟩ := x; simp [J.eraseFields, ih]

theorem erase_arr (xs : List J) : J.erase (.arr xs) = .arr (xs.map J.erase) := by simp [J.erase, eraseList_eq]
theorem erase_obj (kvs : List (String × J)) : J.erase (.obj kvs) = .obj (kvs.map fun kv => (kv.1, J.erase kv.2)) := by
  simp [J.erase, eraseFields_eq]

theorem lookup_map_erase (kvs : List (String × J)) (k : String) :
    (kvs.map fun kv => (kv.1, J.erase kv.2)).lookup k = (kvs.lookup k).map J.erase :=
  lookup_map_val (fun _ => J.erase) kvs k

theorem field_erase (v : J) (k : String) : (J.erase v).field k = J.erase (v.field k) := by
  cases v with
  | obj kvs =>
    rw [erase_obj]
    simp only [J.field, lookup_map_erase]
    cases kvs.lookup k <;> simp [J.erase]
  | null => simp [J.erase, J.field]
  | dnull => simp [J.erase, J.field]
  | atom s => simp [J.erase, J.field]
  | arr xs => rw [erase_arr]; simp [J.field, J.erase]

theorem mapArr_erase (g g' : J → J) (h : ∀ x, J.erase (g x) = g' (J.erase x)) :
    ∀ (n : Nat) (v : J), J.erase (mapArr n g v) = mapArr n g' (J.erase v) := by
  intro n
  induction n with
  | zero => intro v; simp [mapArr, h]
  | succ n ih =>
    intro v
    cases v with
    | arr xs =>
      rw [erase_arr]
      simp only [mapArr, erase_arr, List.map_map, J.arr.injEq]
      apply List.map_congr_left
      intro x _
      exact ih x
    | null => simp [mapArr, J.erase]
    | dnull => simp [mapArr, J.erase]
    | atom s => simp [mapArr, J.erase]
    | obj kvs => rw [erase_obj]; simp [mapArr, J.erase]

theorem mapObj_erase (g g' : J → J) (h : ∀ x, J.erase (g x) = g' (J.erase x)) (v : J) :
    J.erase (mapObj g v) = mapObj g' (J.erase v) := by
  cases v with
  | obj kvs =>
    rw [erase_obj]
    simp only [mapObj, erase_obj, List.map_map, J.obj.injEq]
    apply List.map_congr_left
    intro kv _
    simp [h]
  | null => simp [mapObj, J.erase]
  | dnull => simp [mapObj, J.erase]
  | atom s => simp [mapObj, J.erase]
  | arr xs => rw [erase_arr]; simp [mapObj, J.erase]

theorem atBase_erase (t : Ty) (g g' : J → J) (h : ∀ x, J.erase (g x) = g' (J.erase x)) (v : J) :
    J.erase (atBase t g v) = atBase t g' (J.erase v) := by
  unfold atBase
  apply mapArr_erase
  intro x
  cases t.mapDim with
  | zero => exact h x
  | succ k => exact mapObj_erase _ _ (mapArr_erase g g' h k) x

theorem proj1_erase (t : Ty) (f : String) (v : J) : J.erase (proj1 t f v) = proj1 t f (J.erase v) := by
  unfold proj1
  exact atBase_erase t _ _ (fun x => (field_erase x f).symm) v

theorem projPath_erase (st : StructTable) (path : List String) :
    ∀ (t : Ty) (v : J), J.erase (projPath st t path v) = projPath st t path (J.erase v) := by
  induction path with
  | nil => intro t v; rfl
  | cons f r ih => intro t v; simp only [projPath]; rw [ih, proj1_erase]

theorem narrow_erase (st : StructTable) : ∀ (F : Nat) (t : Ty) (v : J),
    J.erase (narrow st F t v) = narrow st F t (J.erase v) := by
  intro F
  induction F with
  | zero => intro t v; simp [narrow]
  | succ F ih =>
    intro t v
    rw [narrow_succ, narrow_succ]
    apply atBase_erase
    intro s
    unfold narrowBase
    cases st.lookup t.base with
    | none => rfl
    | some ps =>
      cases s with
      | obj kvs =>
        rw [erase_obj]
        simp only [erase_obj, List.map_map, J.obj.injEq]
        apply List.map_congr_left
        intro p _
        simp only [Function.comp_apply, Prod.mk.injEq, true_and]
        rw [ih, ← field_erase, erase_obj]
      | null => simp [J.erase]
      | dnull => simp [J.erase]
      | atom a => simp [J.erase]
      | arr xs => rw [erase_arr]

theorem isTrue_erase (v : J) : Martian.Dataflow.isTrue (J.erase v) = Martian.Dataflow.isTrue v := by
  cases v <;> simp [J.erase, Martian.Dataflow.isTrue]

theorem indicesOf_erase (v : J) : indicesOf (J.erase v) = indicesOf v := by
  cases v with
  | arr xs => rw [erase_arr]; simp [indicesOf]
  | obj kvs => rw [erase_obj]; simp [indicesOf]
  | null => rfl
  | dnull => rfl
  | atom s => rfl

theorem getD_map_erase (xs : List J) (n : Nat) : (xs.map J.erase).getD n .null = J.erase (xs.getD n .null) :=
  getD_map J.erase xs n .null

theorem elemAt_erase_i (v : J) (k : Nat) : elemAt (J.erase v) (.i k) = J.erase (elemAt v (.i k)) := by
  cases v with
  | arr xs => rw [erase_arr]; simp only [elemAt]; exact getD_map_erase xs k
  | obj kvs => rw [erase_obj]; simp [elemAt, J.erase]
  | null => simp [elemAt, J.erase]
  | dnull => simp [elemAt, J.erase]
  | atom s => simp [elemAt, J.erase]

/-- the environment with every value erased -/
def eraseEnv (env : Env) : Env :=
  { env with selfVal := J.erase env.selfVal, calls := env.calls.map fun x => (x.1, x.2.1, J.erase x.2.2) }

theorem selfTy_eraseEnv (env : Env) : (eraseEnv env).selfTy = env.selfTy := rfl

theorem lookup_eraseEnv (env : Env) (c : String) :
    (eraseEnv env).calls.lookup c = (env.calls.lookup c).map fun x => (x.1, J.erase x.2) :=
  lookup_map_val (fun _ (x : Ty × J) => (x.1, J.erase x.2)) env.calls c

theorem callTy_eraseEnv (env : Env) : (eraseEnv env).callTy = env.callTy := by
  funext c
  simp only [Env.callTy, lookup_eraseEnv]
  cases env.calls.lookup c <;> rfl

theorem callVal_eraseEnv (env : Env) (c : String) : (eraseEnv env).callVal c = J.erase (env.callVal c) := by
  simp only [Env.callVal, lookup_eraseEnv]
  cases env.calls.lookup c <;> simp [J.erase]

theorem typesOf_eraseEnv (env : Env) : (eraseEnv env).calls.map (fun x => (x.1, x.2.1)) = env.calls.map fun x => (x.1, x.2.1) := by
  simp [eraseEnv, List.map_map, Function.comp_def]

mutual
theorem eval_eraseEnv (st : StructTable) (env : Env) :
    ∀ (e : Exp), Exp.clean e = true → eval st (eraseEnv env) e = J.erase (eval st env e)
  | .lit j, h => by
    cases j <;> simp [Exp.clean] at h <;> simp [eval, J.erase]
  | .arr xs, h => by
    simp only [Exp.clean] at h
    simp only [eval, erase_arr, eval_eraseEnvList st env xs h]
  | .map kvs, h => by
    simp only [Exp.clean] at h
    simp only [eval, erase_obj, eval_eraseEnvFields st env kvs h]
  | .struct kvs, h => by
    simp only [Exp.clean] at h
    simp only [eval, erase_obj, eval_eraseEnvFields st env kvs h]
  | .self p path, _ => by
    simp only [eval, selfTy_eraseEnv, projPath_erase]
    rw [show (eraseEnv env).selfVal = J.erase env.selfVal from rfl, field_erase]
  | .ref c path, _ => by
    simp only [eval, callTy_eraseEnv, callVal_eraseEnv, projPath_erase]
theorem eval_eraseEnvList (st : StructTable) (env : Env) :
    ∀ (es : List Exp), Exp.cleanList es = true →
      evalList st (eraseEnv env) es = (evalList st env es).map J.erase
  | [], _ => by simp [evalList]
  | e :: es, h => by
    simp only [Exp.cleanList, Bool.and_eq_true] at h
    simp [evalList, eval_eraseEnv st env e h.1, eval_eraseEnvList st env es h.2]
theorem eval_eraseEnvFields (st : StructTable) (env : Env) :
    ∀ (kvs : List (String × Exp)), Exp.cleanFields kvs = true →
      evalFields st (eraseEnv env) kvs = (evalFields st env kvs).map fun kv => (kv.1, J.erase kv.2)
  | [], _ => by simp [evalFields]
  | (k, e) :: es, h => by
    simp only [Exp.cleanFields, Bool.and_eq_true] at h
    simp [evalFields, eval_eraseEnv st env e h.1, eval_eraseEnvFields st env es h.2]
end

end Proofs.ResolverStatic
