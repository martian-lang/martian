/-
C01 — the refinement for call graphs with plain calls, run-time `disabled` controls and map calls (of
stages and pipelines, nested; array or typed-map mode) of statically known or of RUN-TIME size (the split
sources are references: the size is known when the upstream stage has run), modulo `J.erase`.

The induction over the calls of a body (`refine_calls_of_step`) carries the environment relation on the
RENDERED environment `mapEnv ε env` (`Rendering`, Proofs/ResolverStaticDis.lean: every den-side operation
commutes with `ε`; here `ε` is the erasure, in Proofs/ResolverStaticTree3.lean the identity) and
asks of each call one thing, `StepOf`: what the static phase adds for it evaluates to den's `evalCall`.
The kinds of calls are then separate lemmas: `step_plain`, `step_disabled`, and `step_mapped` for a map
call in either mode (`MappedOkX`).  `mapped_forks` is what its two halves share (den's `evalCall` over
the index set of the split sources, and the callee in every fork); the halves differ in where the index
set comes from and in the output node: static size — the static flag (`mapped_factsX`) and the unrolled
outputs (`evalRT_unrolled`); run-time size — `TreeHyp.subR`, `IdxLocal.agree` and the `merge` node
(`evalRT_merge`).  A fragment is a typing of bodies that dispatches its calls to the steps (`callsStep_R`,
`callsStep_E` here, `callsStep_T` in Proofs/ResolverStaticTree3.lean).

What is given about the run: the store's index sets `ρ.idx` ("the recorded lengths"), which
(`idxOkT`, decidable, checked along the forks that exist) are the index sets of the collections the
calls were split over, not empty, and (`IdxLocal`) depend only on the forks of the enclosing calls.
The static phase resolves the outputs of a call of run-time size to a `merge` node; the run-time phase
enumerates its elements from `ρ.idx`.
The file ends with the induction over the call graph: `refine_callableX` (callables, by the fuel), `twoPhaseX`
(a program, for any rendering) with its instances `twoPhaseR_eq_den_F` and `twoPhaseE_eq_den_F`, and what the
store of a run records (`storeOfRun_ext`, `storeOfRun_ok`, `storeOfRun_local`).
-/
import Proofs.ResolverStaticDis
import Martian.ResolverStaticCheck
import Proofs.DataflowApprox
import Proofs.ResolverStaticMapG

namespace Proofs.ResolverStatic
open Martian.Dataflow Martian.Resolver Martian.ResolverForks Martian.ResolverStatic Proofs.Dataflow
  Proofs.ResolverForks

theorem indicesOf_narrow_ne {st : StructTable} {F : Nat} (hF : NarrowFix st F) (b : String) (m a : Nat) (v : J)
    (h : indicesOf (narrow st F ⟨b, m, a + 1⟩ v) ≠ []) :
    indicesOf v = indicesOf (narrow st F ⟨b, m, a + 1⟩ v) := by
  obtain ⟨xs, rfl, hi⟩ := narrow_arrTy_indices hF b m a v h
  rw [hi]
  rfl

theorem splitIsMap_of_static (st : StructTable) (self sib : RBMap) (e : Exp) {m : Bool} {ixs : List Idx}
    (h : staticIndices (resolveRefs self sib e) = some (m, ixs)) : splitIsMap st self sib e = m := by
  unfold splitIsMap
  generalize resolveRefs self sib e = r at h
  cases r with
  | arr xs => simp only [staticIndices, Option.some.injEq, Prod.mk.injEq] at h; exact h.1
  | map kvs => simp only [staticIndices, Option.some.injEq, Prod.mk.injEq] at h; exact h.1
  | _ => simp [staticIndices] at h

theorem evalCall_fst (st : StructTable) (F : Nat) (insOf : String → List Param) (run : Runner)
    (path : List String) (forks : List (String × Idx)) (env : Env) (c : Call) :
    (evalCall st F insOf run path forks env c).1 = liftTy c.callee (callMode st env c) := by
  simp only [evalCall, apply_ite Prod.fst, ite_self]

/-- what `runtimeMode = some mv` says about the split bindings -/
theorem runtimeMode_facts (st : StructTable) (self sib : RBMap) (ins : List Param) (c : Call) (mv : Bool)
    (h : runtimeMode st self sib ins c = some mv) :
    ∀ p ∈ ins, ∀ b, c.binds.find? (fun b => b.param == p.name) = some b → b.split = true →
      isRuntimeSrc st self sib b.exp = true ∧ splitIsMap st self sib b.exp = mv := by
  unfold runtimeMode at h
  cases hsp : splitParam ins c with
  | none => simp [hsp] at h
  | some p0 =>
    simp only [hsp] at h
    cases hb0 : c.binds.find? (fun b => b.param == p0.name) with
    | none => simp [hb0] at h
    | some b0 =>
      simp only [hb0] at h
      split at h
      · next hcond =>
        simp only [Option.some.injEq] at h
        simp only [Bool.and_eq_true, List.all_eq_true] at hcond
        intro p hp b hb hs
        have := hcond.2 p hp
        simp only [hb, hs, Bool.not_true, Bool.false_or, Bool.and_eq_true, beq_iff_eq] at this
        exact ⟨this.1, by rw [this.2, h]⟩
      · cases h

theorem isRuntimeSrc_not_lit (st : StructTable) (self sib : RBMap) (j : J) :
    isRuntimeSrc st self sib (.lit j) = false := by
  simp [isRuntimeSrc, resolveRefs]

/-- the recorded index set of call `c` depends only on the forks of the calls around it -/
def IdxLocal (ρ : Store) (c : String) (dims : List String) : Prop :=
  ∀ f g : ForkAssign, (∀ d ∈ dims, f.lookup d = g.lookup d) → ρ.idx c f = ρ.idx c g

theorem treeOkPList_append (above : List String) : ∀ (a b : List STree),
    treeOkPList above (a ++ b) = (treeOkPList above a && treeOkPList above b)
  | [], b => by simp [treeOkPList]
  | t :: a, b => by simp [treeOkPList, treeOkPList_append above a b, Bool.and_assoc]

theorem idxOkTList_append (st : StructTable) (F : Nat) (ρ : Store) (f : ForkAssign) : ∀ (a b : List STree),
    idxOkTList st F ρ f (a ++ b) = (idxOkTList st F ρ f a && idxOkTList st F ρ f b)
  | [], b => by simp [idxOkTList]
  | t :: a, b => by simp [idxOkTList, idxOkTList_append st F ρ f a b, Bool.and_assoc]

theorem subROccList_append (dims : List String) : ∀ (a b : List STree),
    subROccList dims (a ++ b) = subROccList dims a ++ subROccList dims b
  | [], b => by simp [subROccList]
  | t :: a, b => by simp [subROccList, subROccList_append dims a b]

/-- what the induction over the static trees `ts` below the calls `above`, inside the fork dimensions
`dims`, assumes: every node of the trees satisfies `StoreAtNode` (`store`), the trees pass
`treeOkPList` (`ok`), the recorded index sets are those of the split collections (`idx`) and depend
only on the forks of the calls around their call (`loc`) -/
structure TreeHyp (st : StructTable) (F : Nat) (nm : List String → String) (O : Oracle) (ρ : Store)
    (above : List String) (dims : List (String × List Idx)) (f0 : ForkAssign) (ts : List STree) : Prop where
  store : ∀ n ∈ flattenTList dims ts, StoreAtNode nm O ρ n
  ok : treeOkPList above ts = true
  idx : idxOkTList st F ρ f0 ts = true
  loc : ∀ o ∈ subROccList (dims.map (·.1)) ts, IdxLocal ρ o.1 o.2.2

section treeHyp
variable {st : StructTable} {F : Nat} {nm : List String → String} {O : Oracle} {ρ : Store}
  {above : List String} {dims : List (String × List Idx)} {f0 : ForkAssign}

theorem TreeHyp.append {a b : List STree} (h : TreeHyp st F nm O ρ above dims f0 (a ++ b)) :
    TreeHyp st F nm O ρ above dims f0 a ∧ TreeHyp st F nm O ρ above dims f0 b := by
  obtain ⟨h1, h2, h3, h4⟩ := h
  rw [treeOkPList_append, Bool.and_eq_true] at h2
  rw [idxOkTList_append, Bool.and_eq_true] at h3
  exact ⟨⟨fun n hn => h1 n (by rw [flattenTList_append]; simp [hn]), h2.1, h3.1,
      fun o ho => h4 o (by rw [subROccList_append]; simp [ho])⟩,
    ⟨fun n hn => h1 n (by rw [flattenTList_append]; simp [hn]), h2.2, h3.2,
      fun o ho => h4 o (by rw [subROccList_append]; simp [ho])⟩⟩

theorem TreeHyp.sub {c : String} {m : Bool} {ixs : List Idx} {ok : Bool} {ch : List STree}
    (h : TreeHyp st F nm O ρ above dims f0 [.sub c m ixs ok ch]) :
    ok = true ∧ above.contains c = false ∧
    ∀ ix ∈ ixs, TreeHyp st F nm O ρ (above ++ [c]) (dims ++ [(c, ixs)]) (fset f0 c ix) ch := by
  obtain ⟨h1, h2, h3, h4⟩ := h
  simp only [treeOkPList, treeOkP, Bool.and_true, Bool.and_eq_true, Bool.not_eq_true'] at h2
  simp only [idxOkTList, idxOkT, Bool.and_true, List.all_eq_true] at h3
  refine ⟨h2.1.1, h2.1.2, fun ix hix => ⟨?_, h2.2, h3 ix hix, ?_⟩⟩
  · intro n hn
    exact h1 n (by simpa [flattenTList, flattenT] using hn)
  · intro o ho
    exact h4 o (by simpa [subROccList, subROcc] using ho)

theorem TreeHyp.guard {d : RExp} {ch : List STree}
    (h : TreeHyp st F nm O ρ above dims f0 [.guard d ch]) : TreeHyp st F nm O ρ above dims f0 ch := by
  obtain ⟨h1, h2, h3, h4⟩ := h
  simp only [treeOkPList, treeOkP, Bool.and_true] at h2
  simp only [idxOkTList, idxOkT, Bool.and_true] at h3
  exact ⟨fun n hn => h1 n (by simpa [flattenTList, flattenT] using hn), h2, h3,
    fun o ho => h4 o (by simpa [subROccList, subROcc] using ho)⟩

theorem TreeHyp.subR {c : String} {m : Bool} {path : List String} {cins : RBMap} {ok : Bool} {ch : List STree}
    (h : TreeHyp st F nm O ρ above dims f0 [.subR c m path cins ok ch]) :
    ok = true ∧ above.contains c = false ∧ ρ.idx c f0 ≠ [] ∧
    (∀ kv ∈ cins, ∀ c' m' src, kv.2.exp = .split c' m' src → c' = c →
      indicesOf (evalRT st F ρ f0 (liftSplitTy m kv.2.ty) src) = ρ.idx c f0) ∧
    IdxLocal ρ c (dims.map (·.1)) ∧
    ∀ ix ∈ ρ.idx c f0, TreeHyp st F nm O ρ (above ++ [c]) (dims ++ [(c, [])]) (fset f0 c ix) ch := by
  obtain ⟨h1, h2, h3, h4⟩ := h
  simp only [treeOkPList, treeOkP, Bool.and_true, Bool.and_eq_true, Bool.not_eq_true'] at h2
  simp only [idxOkTList, idxOkT, Bool.and_true, Bool.and_eq_true, List.all_eq_true, Bool.not_eq_true',
    List.isEmpty_eq_false_iff] at h3
  obtain ⟨⟨hok, habove⟩, hch⟩ := h2
  obtain ⟨⟨hne, hsrc⟩, hidx⟩ := h3
  refine ⟨hok, habove, hne, ?_, ?_, ?_⟩
  · intro kv hkv c' m' src he hc
    have := hsrc kv hkv
    simp only [he, Bool.or_eq_true, bne_iff_ne, ne_eq, decide_eq_true_eq] at this
    cases this with
    | inl h => exact absurd hc h
    | inr h => exact h
  · exact h4 (c, path, dims.map (·.1)) (by simp [subROccList, subROcc])
  · intro ix hix
    refine ⟨?_, hch, hidx ix hix, ?_⟩
    · intro n hn
      exact h1 n (by simpa [flattenTList, flattenT] using hn)
    · intro o ho
      refine h4 o ?_
      simp only [subROccList, subROcc, List.append_nil, List.mem_cons]
      exact Or.inr (by simpa using ho)

theorem IdxLocal.agree {c : String} {forks : List (String × Idx)} (h : IdxLocal ρ c (forks.map (·.1)))
    {f g : ForkAssign} (hf : Agree forks f) (hg : Agree forks g) : ρ.idx c f = ρ.idx c g := by
  apply h
  intro d hd
  simp only [List.mem_map] at hd
  obtain ⟨e, he, rfl⟩ := hd
  rw [hf e he, hg e he]

end treeHyp

/-- a split binding of a map call in mode `m`, as an entry of the call's resolved inputs -/
theorem cins_split_entry (st : StructTable) (self sib : RBMap) (ins : List Param) (c : Call) (p : Param)
    (b : Martian.Dataflow.Bind) (hp : p ∈ ins) (hfb : c.binds.find? (fun b => b.param == p.name) = some b)
    (hs : b.split = true) (m : Bool) (hm : splitIsMap st self sib b.exp = m) :
    (p.name, (⟨.split c.id m (filterT st (liftSplitTy m p.ty) (resolveRefs self sib b.exp)), p.ty⟩ : RB))
      ∈ resolveBindsT st self sib ins c := by
  simp only [resolveBindsT, List.mem_map]
  exact ⟨p, hp, by simp [hfb, hs, hm]⟩

theorem splitMode_eq_S (st : StructTable) (env : Env) (e : Exp) :
    splitMode st env e = splitModeS st env.selfTy env.callTy e := by cases e <;> rfl

theorem callMode_eq_S (st : StructTable) (env : Env) (c : Call) :
    callMode st env c = callModeS st env.selfTy env.callTy c := by
  unfold callMode callModeS
  cases c.mapped <;> simp
  cases firstSplit c <;> simp [splitMode_eq_S]

theorem callTyS_env (st : StructTable) (env : Env) (c : Call) :
    callTyS st env.selfTy (callTyOfB (typesOf env)) c = liftTy c.callee (callMode st env c) := by
  rw [callMode_eq_S, callTy_typesOf]
  rfl

/-- a map call in TYPED-MAP mode without `disabled`: like `MappedOkT` at the typed-map collection
types, and the element types have no typed map below (a typed map of typed maps is not a type) -/
def MappedOkK (st : StructTable) (P : Program) (sT cT : String → Ty) (c : Call) : Prop :=
  c.mapped = true ∧ c.disabled = none ∧ (∃ b ∈ c.binds, b.split = true) ∧
  (∀ b ∈ c.binds, b.split = true →
    ∃ p ∈ P.insOf c.callee, c.binds.find? (fun b' => b'.param == p.name) = some b) ∧
  (∀ p ∈ P.insOf c.callee, ∀ b, c.binds.find? (fun b => b.param == p.name) = some b →
    HasTy st sT cT (if b.split then liftSplitTy true p.ty else p.ty) b.exp) ∧
  (∀ p ∈ P.insOf c.callee, ∀ b, c.binds.find? (fun b => b.param == p.name) = some b → b.split = true →
    NoMapBelow st p.ty)

def CallOkR (st : StructTable) (P : Program) (sT cT : String → Ty) (c : Call) : Prop :=
  CallClean c ∧
  ((CallOk st P.insOf sT cT c ∧ ∀ b ∈ c.binds, b.split = false) ∨ MappedOkT st P sT cT c ∨
    DisabledOkE st P sT cT c ∨ MappedOkK st P sT cT c)

def CallsOkR (st : StructTable) (P : Program) (sT : String → Ty) :
    List (String × Ty) → List Call → Prop
  | _, [] => True
  | L, c :: cs =>
    CallOkR st P sT (callTyOf L) c ∧ CallsOkR st P sT (L ++ [(c.id, callTyS st sT (callTyOfB L) c)]) cs

def PipelineOkR (st : StructTable) (P : Program) (pins outs : List Param)
    (calls : List Call) (ret : List (String × Exp)) : Prop :=
  CallsOkR st P (selfTyOf pins) [] calls ∧
  ∀ p ∈ outs, ∀ e, ret.lookup p.name = some e →
    Exp.clean e = true ∧ HasTy st (selfTyOf pins) (callTyOf (callTypesS st (selfTyOf pins) [] calls)) p.ty e

structure WellTypedR (P : Program) : Prop where
  structs : StructsOk P.table
  outsOf : ∀ name c, P.callables.lookup name = some c → P.table.lookup name = some c.outs
  pipelines : ∀ name pins outs calls ret,
    P.callables.lookup name = some (.pipeline pins outs calls ret) →
      PipelineOkR P.table P pins outs calls ret
  top : CallOk P.table P.insOf (selfTyOf []) (callTyOf []) P.top ∧ (∀ b ∈ P.top.binds, b.split = false) ∧
    ∀ b ∈ P.top.binds, Exp.clean b.exp = true

/-- the static types of the resolved environment are den's types (`L`: the types of the calls so far) -/
def TyRelL (sT : String → Ty) (L : List (String × Ty)) (self sib : RBMap) : Prop :=
  (∀ p, ((self.lookup p).map (·.ty)).getD badTy = sT p) ∧
  (∀ c, (L.lookup c).isSome = (sib.lookup c).isSome) ∧
  (∀ c, ((sib.lookup c).map (·.ty)).getD badTy = callTyOf L c)

theorem tyRelL_step {sT : String → Ty} {L : List (String × Ty)} {self sib : RBMap} (h : TyRelL sT L self sib)
    (id : String) (ty : Ty) (rb : RB) (hty : rb.ty = ty) :
    TyRelL sT (L ++ [(id, ty)]) self (sib ++ [(id, rb)]) := by
  obtain ⟨h1, h2, h3⟩ := h
  refine ⟨h1, ?_, ?_⟩
  · intro c
    have := h2 c
    simp only [List.lookup_append]
    cases hl : L.lookup c with
    | some x =>
      cases hs : sib.lookup c with
      | some y => simp
      | none => rw [hl, hs] at this; simp at this
    | none =>
      cases hs : sib.lookup c with
      | some y => rw [hl, hs] at this; simp at this
      | none => simp only [Option.none_or, List.lookup_cons, List.lookup_nil]; cases (c == id) <;> simp
  · intro c
    have hd := h2 c
    have ht := h3 c
    simp only [callTyOf, List.lookup_append] at ht ⊢
    cases hl : L.lookup c with
    | some x =>
      rw [hl] at hd ht
      cases hs : sib.lookup c with
      | none => simp [hs] at hd
      | some y => rw [hs] at ht; simpa using ht
    | none =>
      rw [hl] at hd
      cases hs : sib.lookup c with
      | some y => simp [hs] at hd
      | none =>
        simp only [Option.none_or, List.lookup_cons, List.lookup_nil]
        cases (c == id) with
        | true => simp [hty]
        | false => simp

/-- the mode the static phase computes for a run-time sized source is the mode of its typing -/
theorem splitIsMap_of_ty (st : StructTable) (sT : String → Ty) (L : List (String × Ty)) (self sib : RBMap)
    (htr : TyRelL sT L self sib)
    (e : Exp) (m : Bool) (pty : Ty) (hty : HasTy st sT (callTyOf L) (liftSplitTy m pty) e)
    (hrs : isRuntimeSrc st self sib e = true) : splitIsMap st self sib e = m := by
  have hdims : ∀ T : Ty, Sub st T (liftSplitTy m pty) → (T.arrDim == 0 && T.mapDim != 0) = m := by
    intro T hs
    obtain ⟨d1, d2⟩ := hs.dims
    cases m with
    | false => simp only [liftSplitTy, Bool.false_eq_true, if_false] at d1 d2; simp [d2]
    | true => simp only [liftSplitTy, if_true] at d1 d2; simp [d1, d2]
  simp only [isRuntimeSrc, Bool.and_eq_true] at hrs
  unfold splitIsMap
  cases e with
  | lit j => simp [resolveRefs] at hrs
  | arr xs => simp [resolveRefs] at hrs
  | map kvs => simp [resolveRefs] at hrs
  | struct kvs => simp [resolveRefs] at hrs
  | self p path =>
    simp only [HasTy] at hty
    have hT : refTyOf st self sib (.self p path) = pathTy st (sT p) path := by
      simp only [refTyOf, htr.1 p]
    rw [hT]
    cases hr : resolveRefs self sib (.self p path) <;> rw [hr] at hrs <;> simp at hrs <;> exact hdims _ hty.2
  | ref c path =>
    simp only [HasTy] at hty
    have hT : refTyOf st self sib (.ref c path) = pathTy st (callTyOf L c) path := by
      simp only [refTyOf, htr.2.2 c]
    rw [hT]
    cases hr : resolveRefs self sib (.ref c path) <;> rw [hr] at hrs <;> simp at hrs <;> exact hdims _ hty.2

theorem MappedOkK.toX {st : StructTable} {P : Program} {sT cT : String → Ty} {c : Call}
    (h : MappedOkK st P sT cT c) : MappedOkX st P sT cT c true :=
  ⟨h.1, h.2.1, h.2.2.1, h.2.2.2.1, h.2.2.2.2.1, fun _ => h.2.2.2.2.2⟩

section ctxX
variable (st : StructTable) (hst : StructsOk st) (F : Nat) (hF : NarrowFix st F) (ρ : Store)
include hst hF

omit hst in
theorem splitVals_indicesX {ε : J → J} {C : Exp → Prop} (hε : Rendering ε C) (P : Program) (env : Env) (sT cT : String → Ty) (c : Call) (m : Bool)
    (hc : MappedOkX st P sT cT c m) (hclean : CleanX C c) (ixs : List Idx) (hne : ixs ≠ [])
    (hsrc : ∀ p ∈ P.insOf c.callee, ∀ b, c.binds.find? (fun b => b.param == p.name) = some b → b.split = true →
      indicesOf (narrow st F (liftSplitTy m p.ty) (eval st (mapEnv ε env) b.exp)) = ixs) :
    (∀ v ∈ splitVals st env c, indicesOf v = ixs) ∧ ∀ ix ∈ ixs, IdxMode ix m := by
  obtain ⟨_, hd, ⟨b0, hb0, hs0⟩, hpar, _, hnb⟩ := hc
  have per : ∀ b ∈ c.binds, b.split = true →
      indicesOf (eval st env b.exp) = ixs ∧ ∀ ix ∈ ixs, IdxMode ix m := by
    intro b hb hs
    obtain ⟨p, hp, hfb⟩ := hpar b hb hs
    have h1 := hsrc p hp b hfb hs
    obtain ⟨e1, e2⟩ := indicesOf_narrow_lift hF m p.ty (fun hm => (hnb hm p hp b hfb hs).mapDim) _
      (by rw [h1]; exact hne)
    rw [h1] at e1
    rw [e1] at e2
    rw [hε.eval st env b.exp (hclean.1 b hb), hε.indices] at e1
    exact ⟨e1, e2⟩
  refine ⟨?_, (per b0 hb0 hs0).2⟩
  intro v hv
  simp only [splitVals, hd, List.append_nil, List.mem_map, List.mem_filter] at hv
  obtain ⟨b, ⟨hb, hs⟩, rfl⟩ := hv
  exact (per b hb hs).1

end ctxX

/-- den's result for one call statement (type, value, instances below) against what the static phase adds
for it (resolved outputs `rb`, subtrees `ts`), modulo the rendering `ε` -/
structure CallStep (ε : J → J) (st : StructTable) (F : Nat) (ρ : Store) (forks : List (String × Idx))
    (d : Ty × J × List Inst) (rb : RB) (ts : List STree) : Prop where
  ty : rb.ty = d.1
  val : ∀ f, Agree forks f → ε d.2.1 = evalRT st F ρ f d.1 rb.exp
  hasTy : HasTyR st d.1 rb.exp
  insts : ∀ f, Agree forks f → d.2.2.map (mapInst ε) = instsTList st F ρ forks f ts

/-- what the static phase adds for call `c` (`staticCallT`) is matched by den's `evalCall`, of type `ty` -/
def StepOf (ε : J → J) (st : StructTable) (F : Nat) (ρ : Store) (P : Program) (run : Runner)
    (node : String → List String → RBMap → RB × List STree) (path : List String)
    (forks : List (String × Idx)) (self : RBMap) (c : Call) (env : Env) (sib : RBMap) (ty : Ty) : Prop :=
  (evalCall st F P.insOf run path forks env c).1 = ty ∧
  CallStep ε st F ρ forks (evalCall st F P.insOf run path forks env c)
    (staticCallT st P.insOf node path self sib c).1 (staticCallT st P.insOf node path self sib c).2

section merged
variable {ε : J → J} {C : Exp → Prop} (hε : Rendering ε C)
  (st : StructTable) (hst : StructsOk st) (F : Nat) (ρ : Store) (hρ : StoreExt ρ)

include hε hst hρ in
theorem evalRT_unrolled (c : Call) (m : Bool) (ixs : List Idx) (out : RExp) (vals : Idx → J)
    (hall : ∀ ix ∈ ixs, IdxMode ix m) (hpush : pushOk c.id m out = true)
    (hty : HasTyR st ⟨c.callee, 0, 0⟩ out) :
    (∀ f, (∀ ix ∈ ixs, ε (vals ix) = evalRT st F ρ (fset f c.id ix) ⟨c.callee, 0, 0⟩ out) →
      ε (collect (if m then .map else .arr) ixs (ixs.map vals))
        = evalRT st F ρ f (liftTy c.callee (if m then .map else .arr)) (unrolledOutputsT c (m, ixs) out).exp) ∧
    HasTyR st (liftTy c.callee (if m then .map else .arr)) (unrolledOutputsT c (m, ixs) out).exp ∧
    (unrolledOutputsT c (m, ixs) out).ty = liftTy c.callee (if m then .map else .arr) := by
  have hp := fun ix hix t f => pushFork_evalRT st hst F ρ hρ c.id ix m (hall ix hix) out t f
  cases m with
  | false =>
    simp only [unrolledOutputsT, Bool.false_eq_true, if_false, liftTy, collect, hε.arr, evalRT,
      evalRTList_map, List.map_map, J.arr.injEq, HasTyR]
    refine ⟨fun f hv => ?_, ⟨by simp, HasTyRList_map st _ _ _ fun ix hix => (hp ix hix _ [] hty hpush).2⟩, trivial⟩
    apply List.map_congr_left
    intro ix hix
    simp only [Function.comp_apply]
    rw [(hp ix hix _ f hty hpush).1]
    exact hv ix hix
  | true =>
    have c1 : ((0 : Nat) == 0 && ((1 : Nat) != 0)) = true := by decide
    simp only [unrolledOutputsT, if_true, liftTy, collect, zip_map_self, hε.obj, evalRT, c1,
      evalRTFields_map, List.map_map, J.obj.injEq, HasTyR]
    refine ⟨fun f hv => ?_,
      Or.inl ⟨trivial, by simp, HasTyRFields_map st _ _ _ _ fun ix hix => (hp ix hix _ [] hty hpush).2⟩, trivial⟩
    apply List.map_congr_left
    intro ix hix
    simp only [Function.comp_apply, Prod.mk.injEq, true_and]
    rw [(hp ix hix _ f hty hpush).1]
    exact hv ix hix

include hε in
theorem evalRT_merge (c : Call) (m : Bool) (ixs : List Idx) (out : RExp) (vals : Idx → J) (f : ForkAssign)
    (hidx : ρ.idx c.id f = ixs)
    (hv : ∀ ix ∈ ixs, ε (vals ix) = evalRT st F ρ (fset f c.id ix) ⟨c.callee, 0, 0⟩ out) :
    ε (collect (if m then .map else .arr) ixs (ixs.map vals))
      = evalRT st F ρ f (liftTy c.callee (if m then .map else .arr)) (.merge c.id m out) := by
  cases m with
  | false =>
    simp only [Bool.false_eq_true, if_false, liftTy, collect, hε.arr, evalRT, hidx, List.map_map, J.arr.injEq]
    exact List.map_congr_left fun ix hix => hv ix hix
  | true =>
    simp only [if_true, liftTy, collect, zip_map_self, hε.obj, evalRT, hidx, List.map_map, J.obj.injEq]
    apply List.map_congr_left
    intro ix hix
    simp only [Function.comp_apply, Prod.mk.injEq, true_and]
    exact hv ix hix

theorem HasTyR_merge (c : Call) (m : Bool) (out : RExp) (hns : noSplitOf c.id out = true)
    (hty : HasTyR st ⟨c.callee, 0, 0⟩ out) :
    HasTyR st (liftTy c.callee (if m then .map else .arr)) (.merge c.id m out) := by
  cases m with
  | false => simp only [Bool.false_eq_true, if_false, liftTy, HasTyR]; exact ⟨by simp, hns, hty⟩
  | true => simp only [if_true, liftTy, HasTyR]; exact ⟨trivial, by simp, hns, hty⟩

end merged

/-- the callees: den's result for a callable against the static node, below any fork list -/
def RunsGood (ε : J → J) (st : StructTable) (F : Nat) (ρ : Store) (P : Program) (nm : List String → String) (O : Oracle)
    (run : Runner) (node : String → List String → RBMap → RB × List STree) : Prop :=
  ∀ callee path forks' dims' args cins f0', dims'.map (·.1) = forks'.map (·.1) →
    ArgsRelC st F ρ forks' (P.insOf callee) (ε args) cins → Agree forks' f0' →
    TreeHyp st F nm O ρ (forks'.map (·.1)) dims' f0' (node callee path cins).2 →
    GoodX ε st F ρ forks' callee (run callee path forks' args) (node callee path cins)

section steps
variable {ε : J → J} {C : Exp → Prop} (hε : Rendering ε C) {st : StructTable} (hst : StructsOk st) {F : Nat} (hF : NarrowFix st F) {ρ : Store} (hρ : StoreExt ρ)
  {P : Program} {nm : List String → String} {O : Oracle} {run : Runner}
  {node : String → List String → RBMap → RB × List STree} {path : List String}
  {forks : List (String × Idx)} {dims : List (String × List Idx)} {self : RBMap}
  (hal : dims.map (·.1) = forks.map (·.1))
  (hnodeTy : ∀ callee path cins, (node callee path cins).1.ty = ⟨callee, 0, 0⟩)
  (hrun : RunsGood ε st F ρ P nm O run node)
  {c : Call} {env : Env} {sib : RBMap} {f0 : ForkAssign}
  (hrel : EnvRel st F ρ (Agree forks) (mapEnv ε env) self sib) (hf0 : Agree forks f0)
include hε hst hF hal hrun hrel hf0

theorem child_plain (hclean : ∀ b ∈ c.binds, C b.exp) (hns : ∀ b ∈ c.binds, b.split = false)
    (hb : ∀ p ∈ P.insOf c.callee, ∀ b, c.binds.find? (fun b => b.param == p.name) = some b →
      HasTy st (mapEnv ε env).selfTy (mapEnv ε env).callTy p.ty b.exp)
    (hT : TreeHyp st F nm O ρ (forks.map (·.1)) dims f0
      (node c.callee (path ++ [c.id]) (resolveBindsT st self sib (P.insOf c.callee) c)).2) :
    GoodX ε st F ρ forks c.callee
      (run c.callee (path ++ [c.id]) forks (mkArgs st F (argVals st env (P.insOf c.callee) c) none))
      (node c.callee (path ++ [c.id]) (resolveBindsT st self sib (P.insOf c.callee) c)) := by
  -- `argVals` and `resolveBindsT` look at the bindings of the call only
  have hargs : ArgsRelC st F ρ forks (P.insOf c.callee)
      (mkArgs st F (argVals st (mapEnv ε env) (P.insOf c.callee) c) none)
      (resolveBindsT st self sib (P.insOf c.callee) c) :=
    args_stepC st hst F hF ρ P.insOf forks (mapEnv ε env) self sib hrel
      { c with mapped := false, disabled := none } ⟨rfl, rfl, hb⟩ hns f0 hf0
  rw [← mkArgs_map hε st F env _ c none (by simp) hclean] at hargs
  exact hrun c.callee (path ++ [c.id]) forks dims _ _ f0 hal hargs hf0 hT

/-- the forks of a map call in mode `m` over the index set `ixs` of its split sources: den's `evalCall`,
and the callee in every fork -/
theorem mapped_forks (m : Bool) (hclean : CleanX C c)
    (hc : MappedOkX st P (mapEnv ε env).selfTy (mapEnv ε env).callTy c m) (ixs : List Idx) (hne : ixs ≠ [])
    (hsrc : ∀ p ∈ P.insOf c.callee, ∀ b, c.binds.find? (fun b => b.param == p.name) = some b → b.split = true →
      splitIsMap st self sib b.exp = m ∧ (∀ j, b.exp ≠ .lit j) ∧
      indicesOf (narrow st F (liftSplitTy m p.ty) (eval st (mapEnv ε env) b.exp)) = ixs)
    (dix : List Idx) (habove : (forks.map (·.1)).contains c.id = false)
    (hT : ∀ ix ∈ ixs, TreeHyp st F nm O ρ (forks.map (·.1) ++ [c.id]) (dims ++ [(c.id, dix)]) (fset f0 c.id ix)
      (node c.callee (path ++ [c.id]) (resolveBindsT st self sib (P.insOf c.callee) c)).2) :
    evalCall st F P.insOf run path forks env c =
      (liftTy c.callee (if m then .map else .arr),
       collect (if m then .map else .arr) ixs (ixs.map fun ix =>
          (run c.callee (path ++ [c.id]) (forks ++ [(c.id, ix)])
            (mkArgs st F (argVals st env (P.insOf c.callee) c) (some ix))).1),
       ixs.flatMap fun ix =>
          (run c.callee (path ++ [c.id]) (forks ++ [(c.id, ix)])
            (mkArgs st F (argVals st env (P.insOf c.callee) c) (some ix))).2) ∧
    ∀ ix ∈ ixs, IdxMode ix m ∧ GoodX ε st F ρ (forks ++ [(c.id, ix)]) c.callee
      (run c.callee (path ++ [c.id]) (forks ++ [(c.id, ix)])
        (mkArgs st F (argVals st env (P.insOf c.callee) c) (some ix)))
      (node c.callee (path ++ [c.id]) (resolveBindsT st self sib (P.insOf c.callee) c)) := by
  obtain ⟨hm, hd, hex, hpar, hty, _⟩ := id hc
  obtain ⟨hidx, hall⟩ := splitVals_indicesX st F hF hε P env _ _ c m hc hclean ixs hne
    fun p hp b hfb hs => (hsrc p hp b hfb hs).2.2
  have hmode : callMode st env c = if m then .map else .arr := by
    rw [← callMode_mapEnv ε]
    apply callMode_of_ty st P (mapEnv ε env) c m hm hex hpar hty
    intro b hb hs
    obtain ⟨p, hp, hfb⟩ := hpar b hb hs
    exact (hsrc p hp b hfb hs).2.1
  refine ⟨evalCall_mappedC st F P.insOf run path forks env c _ ixs hm hd hex hidx hne hmode, fun ix hix =>
    ⟨hall ix hix, ?_⟩⟩
  have ha := args_mappedX st hst F hF ρ P forks (mapEnv ε env) self sib hrel c m hc
    (fun p hp b hfb hs => (hsrc p hp b hfb hs).1) ix (hall ix hix) f0 hf0
  have hsome : some ix ≠ some Idx.none := by
    intro e
    cases e
    cases m <;> cases hall _ hix
  rw [← mkArgs_map hε st F env _ c (some ix) hsome hclean.1] at ha
  exact hrun c.callee (path ++ [c.id]) (forks ++ [(c.id, ix)]) (dims ++ [(c.id, dix)]) _ _ (fset f0 c.id ix)
    (by simp [hal]) ha (hf0.fset c.id ix habove) (by simpa using hT ix hix)

include hρ in
theorem step_mapped (m : Bool) (hclean : CleanX C c) (sT : String → Ty) (hsT : env.selfTy = sT)
    (hc0 : MappedOkX st P sT (callTyOf (typesOf env)) c m) (htr : TyRelL sT (typesOf env) self sib)
    (hT : TreeHyp st F nm O ρ (forks.map (·.1)) dims f0 (staticCallT st P.insOf node path self sib c).2) :
    StepOf ε st F ρ P run node path forks self c env sib (liftTy c.callee (if m then .map else .arr)) := by
  have hc : MappedOkX st P (mapEnv ε env).selfTy (mapEnv ε env).callTy c m := by
    rw [selfTy_mapEnv ε, callTy_mapEnv ε, hsT, callTy_typesOf]; exact hc0
  obtain ⟨hm, hd, hex, hpar, hty, _⟩ := id hc
  unfold StepOf
  generalize hr : node c.callee (path ++ [c.id]) (resolveBindsT st self sib (P.insOf c.callee) c) = r
  cases hrt : ((callIndicesT st self sib (P.insOf c.callee) c).isNone &&
      (runtimeMode st self sib (P.insOf c.callee) c).isSome) with
  | true =>
    obtain ⟨mv, hrm⟩ : ∃ mv, runtimeMode st self sib (P.insOf c.callee) c = some mv := by
      cases h : runtimeMode st self sib (P.insOf c.callee) c with
      | none => simp [h] at hrt
      | some mv => exact ⟨mv, rfl⟩
    have hfacts := runtimeMode_facts st self sib (P.insOf c.callee) c mv hrm
    have hmv : mv = m := by
      obtain ⟨b0, hb0, hs0⟩ := hex
      obtain ⟨p0, hp0, hfb0⟩ := hpar b0 hb0 hs0
      have hty0 := hc0.2.2.2.2.1 p0 hp0 b0 hfb0
      simp only [hs0, if_true] at hty0
      rw [← (hfacts p0 hp0 b0 hfb0 hs0).2]
      exact splitIsMap_of_ty st sT (typesOf env) self sib htr b0.exp m p0.ty hty0 (hfacts p0 hp0 b0 hfb0 hs0).1
    subst hmv
    rw [hrm] at hrt
    simp only [staticCallT, hm, if_true, hr, hrm, hrt, Option.getD_some] at hT ⊢
    obtain ⟨hokf, habove, hne, hsrc, hloc, hch⟩ := hT.subR
    simp only [Bool.and_eq_true] at hokf
    rw [hal] at hloc
    generalize hixs : ρ.idx c.id f0 = ixs at hne hsrc hch
    have hidxA : ∀ f, Agree forks f → ρ.idx c.id f = ixs := fun f hf => by
      rw [← hixs]; exact hloc.agree hf hf0
    obtain ⟨hden, hchild⟩ := mapped_forks hε hst hF hal hrun hrel hf0 mv hclean hc ixs hne
      (fun p hp b hfb hs => ⟨(hfacts p hp b hfb hs).2,
        (fun j hj => by have := (hfacts p hp b hfb hs).1; rw [hj, isRuntimeSrc_not_lit] at this; cases this), by
          have h2 := hty p hp b hfb
          simp only [hs, if_true] at h2
          rw [(eval_resolveExpT st hst F hF ρ _ (mapEnv ε env) self sib hrel f0 hf0 b.exp _ h2).1]
          exact hsrc _ (cins_split_entry st self sib (P.insOf c.callee) c p b hp hfb hs mv (hfacts p hp b hfb hs).2)
            c.id mv _ rfl rfl⟩)
      [] habove (by rw [hr]; exact hch)
    rw [hr] at hchild
    obtain ⟨ix0, hix0⟩ := List.exists_mem_of_ne_nil ixs hne
    rw [hden]
    refine ⟨rfl, by cases mv <;> rfl,
      fun f hf => evalRT_merge hε st F ρ c mv ixs r.1.exp _ f (hidxA f hf) fun ix hix =>
        (hchild ix hix).2.1 _ (hf.fset c.id ix habove),
      HasTyR_merge st c mv r.1.exp hokf.1 (hchild ix0 hix0).2.2.1, ?_⟩
    intro f hf
    have hne' : ixs.isEmpty = false := List.isEmpty_eq_false_iff.mpr hne
    simp only [instsTList, instsT, List.append_nil, List.map_flatMap, hidxA f hf, hne', Bool.false_eq_true, if_false]
    exact flatMap_congr_mem _ _ _ fun ix hix => (hchild ix hix).2.2.2 _ (hf.fset c.id ix habove)
  | false =>
    generalize hci : (callIndicesT st self sib (P.insOf c.callee) c).getD (false, []) = ixsP
    simp only [staticCallT, hm, if_true, hr, hci, hrt, Bool.false_eq_true, if_false] at hT ⊢
    obtain ⟨hokf, habove, hch⟩ := hT.sub
    simp only [Bool.and_eq_true, Bool.not_eq_true'] at hokf
    obtain ⟨⟨⟨⟨_, hnonempty⟩, hss⟩, _⟩, hnmg⟩ := hokf
    obtain ⟨hix1, hfacts⟩ := mapped_factsX st hst F hF ρ P (Agree forks) (mapEnv ε env) self sib hrel f0 hf0 c m hc
      ixsP hss
    obtain ⟨m', ixs⟩ := ixsP
    simp only at hix1 hnonempty hnmg hch
    subst hix1
    have hne : ixs ≠ [] := by
      intro e; rw [e] at hnonempty; simp at hnonempty
    obtain ⟨hden, hchild⟩ := mapped_forks hε hst hF hal hrun hrel hf0 m' hclean hc ixs hne
      (fun p hp b hfb hs => ⟨splitIsMap_of_static st self sib b.exp (hfacts p hp b hfb hs),
        (fun j hj => by have := hfacts p hp b hfb hs; rw [hj] at this; simp [resolveRefs, staticIndices] at this), by
          have h2 := hty p hp b hfb
          simp only [hs, if_true] at h2
          rw [(eval_resolveRefs st hst F hF ρ _ (mapEnv ε env) self sib hrel f0 hf0 b.exp _ h2).1]
          exact indicesOf_evalRT_static st F ρ f0 p.ty (hfacts p hp b hfb hs)⟩)
      ixs habove (by rw [hr]; exact hch)
    rw [hr] at hchild
    obtain ⟨ix0, hix0⟩ := List.exists_mem_of_ne_nil ixs hne
    obtain ⟨hv, htyR, hrbty⟩ := evalRT_unrolled hε st hst F ρ hρ c m' ixs r.1.exp
      (fun ix => (run c.callee (path ++ [c.id]) (forks ++ [(c.id, ix)])
        (mkArgs st F (argVals st env (P.insOf c.callee) c) (some ix))).1) (fun ix hix => (hchild ix hix).1) hnmg
      (hchild ix0 hix0).2.2.1
    rw [hden]
    refine ⟨rfl, hrbty, fun f hf => hv f fun ix hix => (hchild ix hix).2.1 _ (hf.fset c.id ix habove), htyR, ?_⟩
    intro f hf
    simp only [instsTList, instsT, List.append_nil, List.map_flatMap]
    exact flatMap_congr_mem _ _ _ fun ix hix => (hchild ix hix).2.2.2 _ (hf.fset c.id ix habove)

include hnodeTy

theorem step_unguarded (hclean : ∀ b ∈ c.binds, C b.exp) (hns : ∀ b ∈ c.binds, b.split = false)
    (hb : ∀ p ∈ P.insOf c.callee, ∀ b, c.binds.find? (fun b => b.param == p.name) = some b →
      HasTy st (mapEnv ε env).selfTy (mapEnv ε env).callTy p.ty b.exp)
    (hs : staticCallT st P.insOf node path self sib c
      = node c.callee (path ++ [c.id]) (resolveBindsT st self sib (P.insOf c.callee) c))
    (hden : evalCall st F P.insOf run path forks env c =
      (⟨c.callee, 0, 0⟩,
       (run c.callee (path ++ [c.id]) forks (mkArgs st F (argVals st env (P.insOf c.callee) c) none)).1,
       (run c.callee (path ++ [c.id]) forks (mkArgs st F (argVals st env (P.insOf c.callee) c) none)).2))
    (hT : TreeHyp st F nm O ρ (forks.map (·.1)) dims f0 (staticCallT st P.insOf node path self sib c).2) :
    StepOf ε st F ρ P run node path forks self c env sib ⟨c.callee, 0, 0⟩ := by
  rw [hs] at hT
  obtain ⟨g1, g2, g3⟩ := child_plain hε hst hF hal hrun hrel hf0 hclean hns hb hT
  rw [StepOf, hs, hden]
  exact ⟨rfl, hnodeTy _ _ _, g1, g2, g3⟩

theorem step_plain (hclean : CleanX C c) (hns : ∀ b ∈ c.binds, b.split = false)
    (sT : String → Ty) (hsT : env.selfTy = sT) (hc : CallOk st P.insOf sT (callTyOf (typesOf env)) c)
    (hT : TreeHyp st F nm O ρ (forks.map (·.1)) dims f0 (staticCallT st P.insOf node path self sib c).2) :
    StepOf ε st F ρ P run node path forks self c env sib ⟨c.callee, 0, 0⟩ :=
  step_unguarded hε hst hF hal hnodeTy hrun hrel hf0 hclean.1 hns
    (by rw [selfTy_mapEnv ε, callTy_mapEnv ε, hsT, callTy_typesOf]; exact hc.2.2)
    (by simp only [staticCallT, hc.1, Bool.false_eq_true, if_false, hc.2.1])
    (evalCall_plain st F P.insOf run path forks env c hc.1 hc.2.1) hT

theorem step_disabled (hdn : ε .dnull = .null) (hclean : CleanX C c)
    (sT : String → Ty) (hsT : env.selfTy = sT) (hdis : DisabledOkE st P sT (callTyOf (typesOf env)) c)
    (hT : TreeHyp st F nm O ρ (forks.map (·.1)) dims f0 (staticCallT st P.insOf node path self sib c).2) :
    StepOf ε st F ρ P run node path forks self c env sib ⟨c.callee, 0, 0⟩ := by
  rw [← hsT, ← callTy_typesOf, ← selfTy_mapEnv ε, ← callTy_mapEnv ε] at hdis
  obtain ⟨hm, ⟨e, hd, htyd⟩, hns, hb⟩ := hdis
  have hctl : ∀ f, Agree forks f →
      Martian.Dataflow.isTrue (evalRT st F ρ f ⟨"bool", 0, 0⟩ (resolveRefs self sib e))
        = Martian.Dataflow.isTrue (eval st env e) := by
    intro f hf
    have h1 := (eval_resolveRefs st hst F hF ρ (Agree forks) (mapEnv ε env) self sib hrel f hf e _ htyd).1
    rw [← h1, isTrue_narrow0 hF, hε.eval st env e (hclean.2 _ hd), hε.isTrue]
  have htyctl := (eval_resolveRefs st hst F hF ρ (Agree forks) (mapEnv ε env) self sib hrel f0 hf0 e _ htyd).2
  generalize hdr : resolveRefs self sib e = dR at hctl htyctl
  have hdlt := evalCall_disabled st F P.insOf run path forks env c e hm hd
  by_cases hfalse : dR = .lit (.atom "false")
  · have hnot : Martian.Dataflow.isTrue (eval st env e) = false := by
      rw [← hctl f0 hf0, hfalse]; simp [evalRT, Martian.Dataflow.isTrue]
    exact step_unguarded hε hst hF hal hnodeTy hrun hrel hf0 hclean.1 hns hb
      (by simp only [staticCallT, hm, Bool.false_eq_true, if_false, hd, hdr, hfalse])
      (by rw [hdlt, hnot]; rfl) hT
  · have hs : staticCallT st P.insOf node path self sib c
        = (⟨mkDisabled dR (node c.callee (path ++ [c.id]) (resolveBindsT st self sib (P.insOf c.callee) c)).1.exp,
            (node c.callee (path ++ [c.id]) (resolveBindsT st self sib (P.insOf c.callee) c)).1.ty⟩,
           [STree.guard dR (node c.callee (path ++ [c.id]) (resolveBindsT st self sib (P.insOf c.callee) c)).2]) := by
      simp only [staticCallT, hm, Bool.false_eq_true, if_false, hd, hdr]
    rw [hs] at hT
    obtain ⟨g1, g2, g3⟩ := child_plain hε hst hF hal hrun hrel hf0 hclean.1 hns hb hT.guard
    have hty := HasTyR_mkDisabled st dR _ _ htyctl g2
    rw [StepOf, hs, hdlt]
    refine ⟨by split <;> rfl, ?_⟩
    cases htrue : Martian.Dataflow.isTrue (eval st env e) with
    | true =>
      refine ⟨hnodeTy _ _ _, fun f hf => ?_, hty, fun f hf => ?_⟩
      · simp [evalRT_mkDisabled, hctl f hf, htrue, hdn]
      · simp [instsTList, instsT, hctl f hf, htrue]
    | false =>
      refine ⟨hnodeTy _ _ _, fun f hf => ?_, hty, fun f hf => ?_⟩
      · simpa [evalRT_mkDisabled, hctl f hf, htrue] using g1 f hf
      · simpa [instsTList, instsT, hctl f hf, htrue] using g3 f hf

end steps

/-- every call of a well-typed body contributes a `StepOf`, of the type the typing assumed for the calls after
it: `Ok L cs` is the typing of the calls `cs` after calls of types `L`, `tys L cs` the types they add -/
def CallsStep (ε : J → J) (st : StructTable) (F : Nat) (ρ : Store) (P : Program) (nm : List String → String) (O : Oracle)
    (run : Runner) (node : String → List String → RBMap → RB × List STree) (path : List String)
    (forks : List (String × Idx)) (dims : List (String × List Idx)) (self : RBMap) (sT : String → Ty)
    (Ok : List (String × Ty) → List Call → Prop)
    (tys : List (String × Ty) → List Call → List (String × Ty)) : Prop :=
  ∀ (c : Call) (cs : List Call) (env : Env) (sib : RBMap) (f0 : ForkAssign),
    EnvRel st F ρ (Agree forks) (mapEnv ε env) self sib → env.selfTy = sT → Ok (typesOf env) (c :: cs) →
    TyRelL sT (typesOf env) self sib → Agree forks f0 →
    TreeHyp st F nm O ρ (forks.map (·.1)) dims f0 (staticCallT st P.insOf node path self sib c).2 →
    ∃ ty, StepOf ε st F ρ P run node path forks self c env sib ty ∧ Ok (typesOf env ++ [(c.id, ty)]) cs ∧
      tys (typesOf env) (c :: cs) = (c.id, ty) :: tys (typesOf env ++ [(c.id, ty)]) cs

theorem refine_calls_of_step (ε : J → J) (st : StructTable) (F : Nat) (ρ : Store) (P : Program) (nm : List String → String)
    (O : Oracle) (run : Runner) (node : String → List String → RBMap → RB × List STree) (path : List String)
    (forks : List (String × Idx)) (dims : List (String × List Idx)) (self : RBMap) (sT : String → Ty)
    (Ok : List (String × Ty) → List Call → Prop)
    (tys : List (String × Ty) → List Call → List (String × Ty)) (htys0 : ∀ L, tys L [] = [])
    (hstep : CallsStep ε st F ρ P nm O run node path forks dims self sT Ok tys) :
    ∀ (cs : List Call) (env : Env) (sib : RBMap) (acc : List Inst) (sacc : List STree),
      EnvRel st F ρ (Agree forks) (mapEnv ε env) self sib → env.selfTy = sT → Ok (typesOf env) cs →
      TyRelL sT (typesOf env) self sib →
      (∀ f, Agree forks f → acc.map (mapInst ε) = instsTList st F ρ forks f sacc) →
      ∀ f0, Agree forks f0 →
      TreeHyp st F nm O ρ (forks.map (·.1)) dims f0 (staticCallsT st P.insOf node path self cs sib []).2 →
      EnvRel st F ρ (Agree forks) (mapEnv ε (evalCalls st F P.insOf run path forks cs env acc).1) self
          (staticCallsT st P.insOf node path self cs sib sacc).1 ∧
      (evalCalls st F P.insOf run path forks cs env acc).1.selfTys = env.selfTys ∧
      typesOf (evalCalls st F P.insOf run path forks cs env acc).1 = typesOf env ++ tys (typesOf env) cs ∧
      (∀ f, Agree forks f → (evalCalls st F P.insOf run path forks cs env acc).2.map (mapInst ε)
        = instsTList st F ρ forks f (staticCallsT st P.insOf node path self cs sib sacc).2) := by
  intro cs
  induction cs with
  | nil =>
    intro env sib acc sacc hrel _ _ _ hacc _ _ _
    simp only [evalCalls, staticCallsT, htys0, List.append_nil]
    exact ⟨hrel, trivial, trivial, hacc⟩
  | cons c cs ih =>
    intro env sib acc sacc hrel hsT hok htr hacc f0 hf0 hT
    rw [staticCallsT_cons, staticCallsT_acc] at hT
    obtain ⟨ty, ⟨hdty, hcs⟩, hok', htys⟩ := hstep c cs env sib f0 hrel hsT hok htr hf0 hT.append.1
    simp only [evalCalls]
    rw [staticCallsT_cons]
    generalize staticCallT st P.insOf node path self sib c = s at hT hcs
    generalize evalCall st F P.insOf run path forks env c = d at hdty hcs
    obtain ⟨dty, dv, di⟩ := d
    simp only at hdty
    subst hdty
    have hrel' := envRel_stepC st F ρ (Agree forks) (mapEnv ε env) self sib hrel c.id dty _ s.1 hcs.val hcs.hasTy
    rw [← mapEnv_append ε] at hrel'
    have := ih { env with calls := env.calls ++ [(c.id, dty, dv)] } (sib ++ [(c.id, s.1)]) (acc ++ di) (sacc ++ s.2)
      hrel' hsT (by simpa [typesOf] using hok') (by simpa [typesOf] using tyRelL_step htr c.id dty s.1 hcs.ty)
      (fun f hf => by rw [List.map_append, hacc f hf, hcs.insts f hf, instsTList_append]) f0 hf0 hT.append.2
    obtain ⟨r1, r2, r3, r4⟩ := this
    refine ⟨r1, r2, ?_, r4⟩
    rw [r3, htys]
    simp [typesOf]

section callsR
variable (st : StructTable) (hst : StructsOk st) (F : Nat) (hF : NarrowFix st F) (ρ : Store) (hρ : StoreExt ρ)
include hst hF hρ

theorem callsStep_R (P : Program) (nm : List String → String) (O : Oracle) (run : Runner)
    (node : String → List String → RBMap → RB × List STree) (path : List String)
    (forks : List (String × Idx)) (dims : List (String × List Idx)) (self : RBMap) (sT : String → Ty)
    (hal : dims.map (·.1) = forks.map (·.1))
    (hnodeTy : ∀ callee path cins, (node callee path cins).1.ty = ⟨callee, 0, 0⟩)
    (hrun : RunsGood J.erase st F ρ P nm O run node) :
    CallsStep J.erase st F ρ P nm O run node path forks dims self sT (CallsOkR st P sT) (callTypesS st sT) := by
  intro c cs env sib f0 hrel hsT hok htr hf0 hT
  simp only [CallsOkR] at hok
  obtain ⟨⟨hclean, hc⟩, hcs⟩ := hok
  have key : ∃ ty, StepOf J.erase st F ρ P run node path forks self c env sib ty := by
    rcases hc with hplain | hmapped | hdis | hmapK
    · exact ⟨_, step_plain Rendering.erase hst hF hal hnodeTy hrun hrel hf0 hclean hplain.2 sT hsT hplain.1 hT⟩
    · exact ⟨_, step_mapped Rendering.erase hst hF hρ hal hrun hrel hf0 false hclean sT hsT hmapped.toX htr hT⟩
    · exact ⟨_, step_disabled Rendering.erase hst hF hal hnodeTy hrun hrel hf0 rfl hclean sT hsT hdis hT⟩
    · exact ⟨_, step_mapped Rendering.erase hst hF hρ hal hrun hrel hf0 true hclean sT hsT hmapK.toX htr hT⟩
  obtain ⟨ty, hS⟩ := key
  -- the typing follows den's own types
  have hty : callTyS st sT (callTyOfB (typesOf env)) c = ty := by
    rw [← hsT, callTyS_env, ← evalCall_fst st F P.insOf run path forks, hS.1]
  exact ⟨ty, hS, hty ▸ hcs, by simp only [callTypesS, hty]⟩

theorem refine_callsR (P : Program) (nm : List String → String) (O : Oracle) (run : Runner)
    (node : String → List String → RBMap → RB × List STree) (path : List String)
    (forks : List (String × Idx)) (dims : List (String × List Idx)) (self : RBMap) (sT : String → Ty)
    (hal : dims.map (·.1) = forks.map (·.1))
    (hnodeTy : ∀ callee path cins, (node callee path cins).1.ty = ⟨callee, 0, 0⟩)
    (hrun : ∀ callee path forks' dims' args cins f0', dims'.map (·.1) = forks'.map (·.1) →
      ArgsRelC st F ρ forks' (P.insOf callee) (J.erase args) cins → Agree forks' f0' →
      TreeHyp st F nm O ρ (forks'.map (·.1)) dims' f0' (node callee path cins).2 →
      GoodE st F ρ forks' callee (run callee path forks' args) (node callee path cins)) :
    ∀ (cs : List Call) (env : Env) (sib : RBMap) (acc : List Inst) (sacc : List STree),
      EnvRel st F ρ (Agree forks) (eraseEnv env) self sib → env.selfTy = sT → CallsOkR st P sT (typesOf env) cs →
      TyRelL sT (typesOf env) self sib →
      (∀ f, Agree forks f → acc.map eraseInst = instsTList st F ρ forks f sacc) →
      ∀ f0, Agree forks f0 →
      TreeHyp st F nm O ρ (forks.map (·.1)) dims f0 (staticCallsT st P.insOf node path self cs sib []).2 →
      EnvRel st F ρ (Agree forks) (eraseEnv (evalCalls st F P.insOf run path forks cs env acc).1) self
          (staticCallsT st P.insOf node path self cs sib sacc).1 ∧
      (evalCalls st F P.insOf run path forks cs env acc).1.selfTys = env.selfTys ∧
      typesOf (evalCalls st F P.insOf run path forks cs env acc).1 = typesOf env ++ callTypesS st sT (typesOf env) cs ∧
      (∀ f, Agree forks f → (evalCalls st F P.insOf run path forks cs env acc).2.map eraseInst
        = instsTList st F ρ forks f (staticCallsT st P.insOf node path self cs sib sacc).2) :=
  refine_calls_of_step J.erase st F ρ P nm O run node path forks dims self sT (CallsOkR st P sT) (callTypesS st sT)
    (fun _ => rfl) (callsStep_R st hst F hF ρ hρ P nm O run node path forks dims self sT hal hnodeTy hrun)

end callsR

mutual
theorem treeOk_implies_P1 (st : StructTable) (nf : Nat) (ρ : Store) :
    ∀ (t : STree) (above : List String) (f : ForkAssign), treeOk above t = true →
      treeOkP above t = true ∧ idxOkT st nf ρ f t = true ∧ ∀ dims, subROcc dims t = []
  | .node _, _, _, _ => by simp [treeOkP, idxOkT, subROcc]
  | .sub c m ixs ok ch, above, f, h => by
    simp only [treeOk, Bool.and_eq_true] at h
    simp only [treeOkP, idxOkT, subROcc, Bool.and_eq_true, List.all_eq_true]
    exact ⟨⟨h.1, (treeOk_implies_P st nf ρ ch _ f h.2).1⟩,
      fun ix _ => (treeOk_implies_P st nf ρ ch _ _ h.2).2.1,
      fun dims => (treeOk_implies_P st nf ρ ch _ f h.2).2.2 _⟩
  | .guard d ch, above, f, h => by
    simp only [treeOk] at h
    simp only [treeOkP, idxOkT, subROcc]
    exact treeOk_implies_P st nf ρ ch above f h
  | .subR _ _ _ _ _ _, _, _, h => by simp [treeOk] at h
theorem treeOk_implies_P (st : StructTable) (nf : Nat) (ρ : Store) :
    ∀ (ts : List STree) (above : List String) (f : ForkAssign), treeOkList above ts = true →
      treeOkPList above ts = true ∧ idxOkTList st nf ρ f ts = true ∧ ∀ dims, subROccList dims ts = []
  | [], _, _, _ => by simp [treeOkPList, idxOkTList, subROccList]
  | t :: ts, above, f, h => by
    simp only [treeOkList, Bool.and_eq_true] at h
    have h1 := treeOk_implies_P1 st nf ρ t above f h.1
    have h2 := treeOk_implies_P st nf ρ ts above f h.2
    simp only [treeOkPList, idxOkTList, subROccList, Bool.and_eq_true]
    exact ⟨⟨h1.1, h2.1⟩, ⟨h1.2.1, h2.2.1⟩, fun dims => by rw [h1.2.2, h2.2.2]; rfl⟩
end

/-- trees of static size only (`treeOkList`) satisfy what the induction assumes, for any recorded index sets -/
theorem TreeHyp.of_treeOk {st : StructTable} {F : Nat} {nm : List String → String} {O : Oracle} {ρ : Store}
    {above : List String} {dims : List (String × List Idx)} {f0 : ForkAssign} {ts : List STree}
    (hstore : ∀ n ∈ flattenTList dims ts, StoreAtNode nm O ρ n) (hok : treeOkList above ts = true) :
    TreeHyp st F nm O ρ above dims f0 ts :=
  have h := treeOk_implies_P st F ρ ts above f0 hok
  ⟨hstore, h.1, h.2.1, fun o ho => by rw [h.2.2] at ho; cases ho⟩

section callsE
variable (st : StructTable) (hst : StructsOk st) (F : Nat) (hF : NarrowFix st F) (ρ : Store) (hρ : StoreExt ρ)
include hst hF hρ

theorem callsStep_E (P : Program) (nm : List String → String) (O : Oracle) (run : Runner)
    (node : String → List String → RBMap → RB × List STree) (path : List String)
    (forks : List (String × Idx)) (dims : List (String × List Idx)) (self : RBMap) (sT : String → Ty)
    (hal : dims.map (·.1) = forks.map (·.1))
    (hnodeTy : ∀ callee path cins, (node callee path cins).1.ty = ⟨callee, 0, 0⟩)
    (hrun : RunsGood J.erase st F ρ P nm O run node) :
    CallsStep J.erase st F ρ P nm O run node path forks dims self sT (CallsOkE st P sT) (fun _ cs => callTypesM cs) := by
  intro c cs env sib f0 hrel hsT hok htr hf0 hT
  simp only [CallsOkE] at hok
  obtain ⟨⟨hclean, hc⟩, hcs⟩ := hok
  have key : ∃ ty, callTyM c = ty ∧ StepOf J.erase st F ρ P run node path forks self c env sib ty := by
    rcases hc with hplain | hmapped | hdis
    · exact ⟨_, by simp [callTyM, hplain.1.1],
        step_plain Rendering.erase hst hF hal hnodeTy hrun hrel hf0 hclean hplain.2 sT hsT hplain.1 hT⟩
    · exact ⟨_, by simp [callTyM, hmapped.1, liftTy],
        step_mapped Rendering.erase hst hF hρ hal hrun hrel hf0 false hclean sT hsT hmapped.toX htr hT⟩
    · exact ⟨_, by simp [callTyM, hdis.1],
        step_disabled Rendering.erase hst hF hal hnodeTy hrun hrel hf0 rfl hclean sT hsT hdis hT⟩
  obtain ⟨ty, hty, hS⟩ := key
  exact ⟨ty, hS, hty ▸ hcs, by simp only [callTypesM, List.map_cons, hty]⟩

end callsE

theorem staticCallableT_ty (P : Program) (nm : List String → String) :
    ∀ (fuel : Nat) (callee : String) (path : List String) (ins : RBMap),
      (staticCallableT P nm fuel callee path ins).1.ty = ⟨callee, 0, 0⟩
  | 0, _, _, _ => rfl
  | fuel+1, callee, path, ins => by
    simp only [staticCallableT]
    cases P.callables.lookup callee with
    | none => rfl
    | some cb => cases cb <;> rfl

section graph
variable {ε : J → J} {C : Exp → Prop} (hε : Rendering ε C) (P : Program) (F : Nat) (hF : NarrowFix P.table F)
  (nm : List String → String) (O : Oracle) (hO : ∀ k v, O k = some v → ε v = v) (ρ : Store) (hρ : StoreExt ρ)
  (hstructs : StructsOk P.table)
  (houts : ∀ name c, P.callables.lookup name = some c → P.table.lookup name = some c.outs)
  (Ok : (String → Ty) → List (String × Ty) → List Call → Prop)
  (tys : (String → Ty) → List (String × Ty) → List Call → List (String × Ty))
  (htys0 : ∀ sT L, tys sT L [] = [])
  (hpipe : ∀ name pins outs calls ret, P.callables.lookup name = some (.pipeline pins outs calls ret) →
    Ok (selfTyOf pins) [] calls ∧ ∀ p ∈ outs, ∀ e, ret.lookup p.name = some e →
      C e ∧ HasTy P.table (selfTyOf pins) (callTyOf (tys (selfTyOf pins) [] calls)) p.ty e)
  (hstep : ∀ (run : Runner) (node : String → List String → RBMap → RB × List STree) (path : List String)
    (forks : List (String × Idx)) (dims : List (String × List Idx)) (self : RBMap) (sT : String → Ty),
    dims.map (·.1) = forks.map (·.1) →
    (∀ callee path cins, (node callee path cins).1.ty = ⟨callee, 0, 0⟩) →
    RunsGood ε P.table F ρ P nm O run node →
    CallsStep ε P.table F ρ P nm O run node path forks dims self sT (Ok sT) (tys sT))
include hε hF hO hstructs houts htys0 hpipe hstep

theorem refine_callableX :
    ∀ (fuel : Nat) (callee : String) (path : List String) (forks : List (String × Idx))
      (dims : List (String × List Idx)) (args : J) (cins : RBMap),
      ∀ f0 : ForkAssign, dims.map (·.1) = forks.map (·.1) →
      ArgsRelC P.table F ρ forks (P.insOf callee) (ε args) cins → Agree forks f0 →
      TreeHyp P.table F nm O ρ (forks.map (·.1)) dims f0 (staticCallableT P nm fuel callee path cins).2 →
      GoodX ε P.table F ρ forks callee (runCallable P O F fuel callee path forks args)
        (staticCallableT P nm fuel callee path cins) := by
  intro fuel
  induction fuel with
  | zero =>
    intro callee path forks dims args cins _ _ _ _ _
    simp only [runCallable, staticCallableT, GoodX, evalRT, instsTList, hε.null, List.map_nil]
    exact ⟨fun _ _ => trivial, HasTyR_null _ _, fun _ _ => trivial⟩
  | succ fuel ih =>
    intro callee path forks dims args cins f0 hal hargs hf0 hT
    simp only [runCallable, staticCallableT] at hT ⊢
    cases hl : P.callables.lookup callee with
    | none =>
      simp only [GoodX, evalRT, instsTList, hε.null, List.map_nil]
      exact ⟨fun _ _ => trivial, HasTyR_null _ _, fun _ _ => trivial⟩
    | some cb =>
      cases cb with
      | stage sins souts =>
        simp only [hl] at hT
        have hs := hT.store { path := path, callee := callee, inputs := cins, forks := dims }
          (by simp [flattenTList, flattenT])
        refine ⟨?_, ?_, ?_⟩
        · intro f hf
          simp only [evalRT, projPath]
          have := hs f
          simp only [key_of_agree f dims forks hal hf] at this
          rw [this, hε.narrow]
          congr 1
          cases ho : O ⟨path, forks⟩ with
          | none => exact hε.null
          | some v => exact hO _ _ ho
        · simp only [HasTyR, pathTy]
          exact Sub.refl _
        · intro f hf
          obtain ⟨g, hc, ha, _⟩ := hargs
          simp only [instsTList, instsT, List.append_nil, runtimeArgs, hc, List.map_map,
            List.map_cons, List.map_nil, mapInst, ha f hf, List.cons.injEq, and_true]
          rfl
      | pipeline pins outs calls ret =>
        simp only [hl] at hT
        have hins : P.insOf callee = pins := by simp [Program.insOf, hl, Callable.ins]
        rw [hins] at hargs
        obtain ⟨hcalls, hret⟩ := hpipe callee pins outs calls ret hl
        have htab := houts callee _ hl
        simp only [Callable.outs] at htab
        have hinit : EnvRel P.table F ρ (Agree forks) (mapEnv ε ⟨pins, args, []⟩) cins [] :=
          envRel_initC P.table F ρ forks pins (ε args) cins hargs
        have htr0 : TyRelL (selfTyOf pins) (typesOf ⟨pins, args, []⟩) cins [] := by
          obtain ⟨g, hc, _, _⟩ := hargs
          refine ⟨?_, fun _ => rfl, fun _ => rfl⟩
          intro p
          rw [hc, lookup_map_find]
          simp only [selfTyOf]
          cases pins.find? (fun q => q.name == p) <;> rfl
        have hcs := refine_calls_of_step ε P.table F ρ P nm O (runCallable P O F fuel) (staticCallableT P nm fuel)
          path forks dims cins (selfTyOf pins) (Ok (selfTyOf pins)) (tys (selfTyOf pins)) (htys0 _)
          (hstep _ _ path forks dims cins _ hal (staticCallableT_ty P nm fuel) ih)
          calls ⟨pins, args, []⟩ [] [] [] hinit rfl (by simpa [typesOf] using hcalls) htr0
          (fun _ _ => by simp [instsTList]) f0 hf0 hT
        obtain ⟨hrel, hself, htypes, hinst⟩ := hcs
        simp only
        generalize evalCalls P.table F P.insOf (runCallable P O F fuel) path forks calls ⟨pins, args, []⟩ [] = R
          at hrel hself htypes hinst
        generalize staticCallsT P.table P.insOf (staticCallableT P nm fuel) path cins calls [] [] = S
          at hrel hinst
        have hsT : (mapEnv ε R.1).selfTy = selfTyOf pins := by rw [selfTy_mapEnv ε, selfTy_eq, hself]
        have hcT : (mapEnv ε R.1).callTy = callTyOf (tys (selfTyOf pins) [] calls) := by
          rw [callTy_mapEnv ε, callTy_typesOf, htypes]; simp [typesOf]
        obtain ⟨hv, hty⟩ := rets_struct P.table hstructs F hF ρ (Agree forks) callee outs htab ret
          (fun e => ε (eval P.table R.1 e)) (fun t e => filterT P.table t (resolveRefs cins S.1 e))
          fun p hp e he => by
            obtain ⟨hcl, hty⟩ := hret p hp e he
            rw [← hcT] at hty; rw [← hsT] at hty
            rw [← hε.eval P.table R.1 e hcl]
            exact ⟨fun f hf => (eval_resolveExpT P.table hstructs F hF ρ _ _ cins S.1 hrel f hf e p.ty hty).1,
              (eval_resolveExpT P.table hstructs F hF ρ _ _ cins S.1 hrel f0 hf0 e p.ty hty).2⟩
        refine ⟨fun f hf => Eq.trans ?_ (hv f hf), hty, hinst⟩
        simp only [hε.obj, List.map_map, J.obj.injEq]
        apply List.map_congr_left
        intro p _
        simp only [Function.comp_apply, Prod.mk.injEq, true_and, hε.narrow]
        cases ret.lookup p.name <;> simp [hε.null]

theorem twoPhaseX
    (htop : CallOk P.table P.insOf (selfTyOf []) (callTyOf []) P.top ∧ (∀ b ∈ P.top.binds, b.split = false) ∧
      ∀ b ∈ P.top.binds, C b.exp)
    (hT : TreeHyp P.table F nm O ρ [] [] [] (staticProgramT P nm).2) :
    (ε (runCallable P O F P.fuel P.top.callee [P.top.id] []
        (mkArgs P.table F (argVals P.table ⟨[], .null, []⟩ (P.insOf P.top.callee) P.top) none)).1,
     (runCallable P O F P.fuel P.top.callee [P.top.id] []
        (mkArgs P.table F (argVals P.table ⟨[], .null, []⟩ (P.insOf P.top.callee) P.top) none)).2.map (mapInst ε))
      = ((evalRT P.table F ρ [] ⟨P.top.callee, 0, 0⟩ (staticProgramT P nm).1.exp),
         instsTList P.table F ρ [] [] (staticProgramT P nm).2) := by
  have henv : EnvRel P.table F ρ (Agree []) (mapEnv ε ⟨[], .null, []⟩) [] [] := by
    refine ⟨?_, ?_, ?_⟩
    · intro p; simp [mapEnv, Env.selfTy, σexp, HasTyR_null, evalRT, J.field, hε.null]
    · intro c; simp [mapEnv, Env.callTy, Env.callVal, σexp, HasTyR_null, evalRT]
    · intro c; rfl
  have htop' : CallOk P.table P.insOf (Env.selfTy (mapEnv ε ⟨[], .null, []⟩))
      (Env.callTy (mapEnv ε ⟨[], .null, []⟩)) P.top := by
    rw [selfTy_mapEnv ε, callTy_mapEnv ε, selfTy_eq, callTy_typesOf]
    exact htop.1
  have hargs := args_stepC P.table hstructs F hF ρ P.insOf [] _ [] [] henv P.top htop' htop.2.1
    [] (Agree.nil [])
  rw [← mkArgs_map hε P.table F _ _ P.top none (by simp) htop.2.2] at hargs
  have := refine_callableX hε P F hF nm O hO ρ hstructs houts Ok tys htys0 hpipe hstep P.fuel P.top.callee [P.top.id]
    [] [] _ _ [] rfl hargs (Agree.nil []) hT
  obtain ⟨g1, _, g3⟩ := this
  exact Prod.ext (g1 [] (Agree.nil [])) (g3 [] (Agree.nil []))

end graph

section graphR
variable (P : Program) (hw : WellTypedR P) (F : Nat) (hF : NarrowFix P.table F)
  (nm : List String → String) (O : Oracle) (hO : OracleClean O) (ρ : Store) (hρ : StoreExt ρ)
include hw hF hO hρ

/-- the refinement with run-time `disabled` controls and map calls of run-time size (array or typed-map mode), modulo
the erasure `dnull ↦ null`: outputs and every stage instance's arguments -/
theorem twoPhaseR_eq_den_F
    (hT : TreeHyp P.table F nm O ρ [] [] [] (staticProgramT P nm).2) :
    (J.erase (runCallable P O F P.fuel P.top.callee [P.top.id] []
        (mkArgs P.table F (argVals P.table ⟨[], .null, []⟩ (P.insOf P.top.callee) P.top) none)).1,
     (runCallable P O F P.fuel P.top.callee [P.top.id] []
        (mkArgs P.table F (argVals P.table ⟨[], .null, []⟩ (P.insOf P.top.callee) P.top) none)).2.map eraseInst)
      = ((evalRT P.table F ρ [] ⟨P.top.callee, 0, 0⟩ (staticProgramT P nm).1.exp),
         instsTList P.table F ρ [] [] (staticProgramT P nm).2) :=
  twoPhaseX Rendering.erase P F hF nm O (fun k v h => Proofs.Approx.erase_clean v (hO k v h)) ρ hw.structs hw.outsOf (CallsOkR P.table P) (callTypesS P.table) (fun _ _ => rfl)
    hw.pipelines
    (fun run node path forks dims self sT hal hnodeTy hrun =>
      callsStep_R P.table hw.structs F hF ρ hρ P nm O run node path forks dims self sT hal hnodeTy hrun)
    hw.top hT

end graphR

section graphE
variable (P : Program) (hw : WellTypedE P) (F : Nat) (hF : NarrowFix P.table F)
  (nm : List String → String) (O : Oracle) (hO : OracleClean O) (ρ : Store) (hρ : StoreExt ρ)
include hw hF hO hρ

/-- the refinement with run-time `disabled` controls, modulo the erasure `dnull ↦ null`: outputs and
every stage instance's arguments -/
theorem twoPhaseE_eq_den_F
    (hstore : ∀ n ∈ flattenTList [] (staticProgramT P nm).2, StoreAtNode nm O ρ n)
    (hok : treeOkList [] (staticProgramT P nm).2 = true) :
    (J.erase (runCallable P O F P.fuel P.top.callee [P.top.id] []
        (mkArgs P.table F (argVals P.table ⟨[], .null, []⟩ (P.insOf P.top.callee) P.top) none)).1,
     (runCallable P O F P.fuel P.top.callee [P.top.id] []
        (mkArgs P.table F (argVals P.table ⟨[], .null, []⟩ (P.insOf P.top.callee) P.top) none)).2.map eraseInst)
      = ((evalRT P.table F ρ [] ⟨P.top.callee, 0, 0⟩ (staticProgramT P nm).1.exp),
         instsTList P.table F ρ [] [] (staticProgramT P nm).2) :=
  twoPhaseX Rendering.erase P F hF nm O (fun k v h => Proofs.Approx.erase_clean v (hO k v h)) ρ hw.structs hw.outsOf (CallsOkE P.table P) (fun _ _ cs => callTypesM cs)
    (fun _ _ => rfl) hw.pipelines
    (fun run node path forks dims self sT hal hnodeTy hrun =>
      callsStep_E P.table hw.structs F hF ρ hρ P nm O run node path forks dims self sT hal hnodeTy hrun)
    hw.top
    (.of_treeOk hstore hok)

end graphE

theorem storeOfRun_ext (nm : List String → String) (nodes : List SNode)
    (occ : List (String × List String × List String)) (O : Oracle) (I : IdxRec) :
    StoreExt (storeOfRun nm nodes occ O I) := by
  intro node f g h
  refine ⟨(storeOfNodes_ext nm nodes O node f g h).1, ?_⟩
  intro c
  simp only [storeOfRun]
  cases occ.lookup c with
  | none => rfl
  | some pd =>
    simp only
    congr 2
    apply List.map_congr_left
    intro d _
    rw [h d]

theorem storeOfRun_ok (nm : List String → String) (nodes : List SNode)
    (occ : List (String × List String × List String)) (O : Oracle) (I : IdxRec)
    (hn : (nodes.map fun n => nm n.path).Nodup) :
    ∀ n ∈ nodes, StoreAtNode nm O (storeOfRun nm nodes occ O I) n :=
  fun n hmem f => storeOfNodes_ok nm nodes O hn n hmem f

theorem storeOfRun_local (nm : List String → String) (nodes : List SNode)
    (occ : List (String × List String × List String)) (O : Oracle) (I : IdxRec)
    (hn : (occ.map (·.1)).Nodup) :
    ∀ o ∈ occ, IdxLocal (storeOfRun nm nodes occ O I) o.1 o.2.2 := by
  intro o ho f g h
  obtain ⟨c, path, dims⟩ := o
  simp only [storeOfRun, Proofs.ListFacts.lookup_of_mem_nodup hn ho]
  congr 2
  apply List.map_congr_left
  intro d hd
  rw [h d hd]

end Proofs.ResolverStatic
