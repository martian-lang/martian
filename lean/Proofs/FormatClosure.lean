import Martian.Format
import Proofs.FormatTopo
import Proofs.ListFacts

/-!
The closure `topoSort` sorts by, in two parts.

* The `for changes` loop of `addNextDeps` (`closeFix`) reaches a fixed point of `closeOnce` within
  `n² + 1` rounds (counting argument: a round that changes the table adds a pair, there are at
  most `n²` pairs; `closedTable_fix`); a fixed point of `closeOnce` is transitive
  (`closedDeps_trans`); so `topoSort_sorted'` is `topoSort_sorted` without its transitivity
  hypothesis.
* The closure is the LEAST transitive relation on the calls that contains the direct dependencies
  (`closedDeps_least'`); `topoSort` depends on the edge list only through membership
  (`topoSort_congr`); sorting the calls in the order `topoSort` put them in changes nothing
  (`topoSort_relabel`).
-/
namespace Martian.Format

def pairs (n : Nat) : List (Nat × Nat) := (List.range n).flatMap fun a => (List.range n).map fun b => (a, b)

theorem mem_pairs {n a b : Nat} : (a, b) ∈ pairs n ↔ a < n ∧ b < n := by
  simp [pairs]

theorem length_pairs (n : Nat) : (pairs n).length = n * n := by
  rw [pairs, List.length_flatMap]
  simp [List.map_const', List.sum_replicate_nat]

def cnt (n : Nat) (d : Dep) : Nat := (pairs n).countP fun p => d p.1 p.2

theorem cnt_le (n : Nat) (d d' : Dep)
    (h : ∀ a b, a < n → b < n → d a b = true → d' a b = true) : cnt n d ≤ cnt n d' :=
  List.countP_mono_left fun (a, b) hp => h a b (mem_pairs.mp hp).1 (mem_pairs.mp hp).2

theorem cnt_lt (n : Nat) (d d' : Dep)
    (h : ∀ a b, a < n → b < n → d a b = true → d' a b = true)
    (a b : Nat) (ha : a < n) (hb : b < n) (h0 : d a b = false) (h1 : d' a b = true) :
    cnt n d < cnt n d' :=
  Proofs.ListFacts.countP_lt_of_imp (fun (a, b) hp => h a b (mem_pairs.mp hp).1 (mem_pairs.mp hp).2)
    (y := (a, b)) (mem_pairs.mpr ⟨ha, hb⟩) h0 h1

theorem cnt_bound (n : Nat) (d : Dep) : cnt n d ≤ n * n :=
  (length_pairs n) ▸ List.countP_le_length

theorem tabulate_congr (n : Nat) (d d' : Dep) (h : ∀ a b, a < n → b < n → d a b = d' a b) :
    tabulate n d = tabulate n d' := by
  unfold tabulate
  apply List.map_congr_left
  intro a ha
  apply List.map_congr_left
  intro b hb
  exact h a b (List.mem_range.mp ha) (List.mem_range.mp hb)

theorem tabulate_ofTable_tabulate (n : Nat) (d : Dep) :
    tabulate n (ofTable (tabulate n d)) = tabulate n d :=
  tabulate_congr n _ _ (fun a b ha hb => ofTable_tabulate n d a b ha hb)

theorem tabulate_ne (n : Nat) (d d' : Dep) (h : tabulate n d' ≠ tabulate n d) :
    ∃ a b, a < n ∧ b < n ∧ d a b ≠ d' a b := by
  apply Classical.byContradiction
  intro hno
  apply h
  apply tabulate_congr
  intro a b ha hb
  apply Classical.byContradiction
  intro hne
  exact hno ⟨a, b, ha, hb, fun h' => hne h'.symm⟩

theorem closeOnce_infl (n : Nat) (d : Dep) (a b : Nat) (h : d a b = true) :
    closeOnce n d a b = true := by
  simp [closeOnce, h]

/-- With enough fuel for the pairs still absent, the loop ends in a table that
one more round leaves unchanged. -/
theorem closeFix_fix (n : Nat) : ∀ (k : Nat) (t : List (List Bool)),
    tabulate n (ofTable t) = t → n * n + 1 ≤ cnt n (ofTable t) + k →
    tabulate n (closeOnce n (ofTable (closeFix n k t))) = closeFix n k t := by
  intro k
  induction k with
  | zero =>
    intro t _ hf
    have := cnt_bound n (ofTable t)
    omega
  | succ k ih =>
    intro t hshape hf
    unfold closeFix
    simp only
    by_cases heq : tabulate n (closeOnce n (ofTable t)) = t
    · simp only [heq, beq_self_eq_true, ↓reduceIte]
    · have hb : (tabulate n (closeOnce n (ofTable t)) == t) = false := by
        simpa using heq
      simp only [hb, Bool.false_eq_true, ↓reduceIte]
      apply ih
      · exact tabulate_ofTable_tabulate n _
      · -- the round changed the table, so it added a pair
        have hne : tabulate n (closeOnce n (ofTable t)) ≠ tabulate n (ofTable t) := by
          rw [hshape]; exact heq
        obtain ⟨a, b, ha, hb', hab⟩ := tabulate_ne n (ofTable t) (closeOnce n (ofTable t)) hne
        have h0 : ofTable t a b = false := by
          cases h : ofTable t a b with
          | false => rfl
          | true => exact absurd (by rw [h, closeOnce_infl n _ a b h]) hab
        have h1 : closeOnce n (ofTable t) a b = true := by
          cases h : closeOnce n (ofTable t) a b with
          | true => rfl
          | false => exact absurd (by rw [h0, h]) hab
        have hlt : cnt n (ofTable t) < cnt n (closeOnce n (ofTable t)) :=
          cnt_lt n _ _ (fun x y _ _ hxy => closeOnce_infl n _ x y hxy) a b ha hb' h0 h1
        have hle : cnt n (closeOnce n (ofTable t)) ≤
            cnt n (ofTable (tabulate n (closeOnce n (ofTable t)))) :=
          cnt_le n _ _ (fun x y hx hy hxy => by rw [ofTable_tabulate n _ x y hx hy]; exact hxy)
        omega

/-- the fuel `n² + 1` of `closedTable` is never exhausted -/
theorem closedTable_fix (n : Nat) (edges : List (Nat × Nat)) :
    tabulate n (closeOnce n (ofTable (closedTable n edges))) = closedTable n edges := by
  unfold closedTable
  apply closeFix_fix
  · exact tabulate_ofTable_tabulate n _
  · omega

theorem trans_of_fix (n : Nat) (t : List (List Bool))
    (h : tabulate n (closeOnce n (ofTable t)) = t) : transOn (List.range n) (ofTable t) = true := by
  unfold transOn
  simp only [List.all_eq_true, List.mem_range]
  intro a ha b hb c hc
  by_cases hab : ofTable t a b = true
  · by_cases hbc : ofTable t b c = true
    · have hac : ofTable t a c = true := by
        have hc1 : closeOnce n (ofTable t) a c = true := by
          unfold closeOnce
          simp only [Bool.or_eq_true, List.any_eq_true, List.mem_range, Bool.and_eq_true]
          exact Or.inr ⟨b, hb, hab, hbc⟩
        have := ofTable_tabulate n (closeOnce n (ofTable t)) a c ha hc
        rw [h] at this
        rw [this]; exact hc1
      simp [hac]
    · simp [hbc]
  · simp [hab]

theorem closedDeps_trans (n : Nat) (edges : List (Nat × Nat)) :
    transOn (List.range n) (closedDeps n edges) = true :=
  trans_of_fix n (closedTable n edges) (closedTable_fix n edges)

theorem closeFix_mono (n : Nat) : ∀ (k : Nat) (t : List (List Bool)) (a b : Nat), a < n → b < n →
    ofTable t a b = true → ofTable (closeFix n k t) a b = true := by
  intro k
  induction k with
  | zero => intro t a b _ _ h; exact h
  | succ k ih =>
    intro t a b ha hb h
    unfold closeFix
    simp only
    split
    · exact h
    · apply ih _ a b ha hb
      rw [ofTable_tabulate n _ a b ha hb]
      exact closeOnce_infl n _ a b h

theorem closedDeps_contains_edges' (n : Nat) (edges : List (Nat × Nat)) (a b : Nat)
    (ha : a < n) (hb : b < n) (h : (a, b) ∈ edges) : closedDeps n edges a b = true :=
  closeFix_mono n _ _ a b ha hb (by rw [ofTable_tabulate n _ a b ha hb]; simp [depOfEdges, h])

/-- without a cycle the result of `topoSort` is in dependency order for the
whole closed relation — no transitivity hypothesis -/
theorem topoSort_sorted' (n : Nat) (edges : List (Nat × Nat))
    (hcyc : hasCycle n (closedDeps n edges) = false) :
    sortedFrom (closedDeps n edges) (topoSort n edges) = true :=
  topoSort_sorted n edges hcyc (closedDeps_trans n edges)

end Martian.Format

namespace Martian.Format

theorem closeOnce_least (n : Nat) (R : Nat → Nat → Prop)
    (htr : ∀ a b c, a < n → b < n → c < n → R a b → R b c → R a c) (d : Dep)
    (hd : ∀ a b, a < n → b < n → d a b = true → R a b) :
    ∀ a b, a < n → b < n → closeOnce n d a b = true → R a b := by
  intro a b ha hb h
  unfold closeOnce at h
  simp only [Bool.or_eq_true, List.any_eq_true, List.mem_range, Bool.and_eq_true] at h
  rcases h with h | ⟨c, hc, hac, hcb⟩
  · exact hd a b ha hb h
  · exact htr a c b ha hc hb (hd a c ha hc hac) (hd c b hc hb hcb)

theorem closeFix_least (n : Nat) (R : Nat → Nat → Prop)
    (htr : ∀ a b c, a < n → b < n → c < n → R a b → R b c → R a c) :
    ∀ (k : Nat) (t : List (List Bool)),
      (∀ a b, a < n → b < n → ofTable t a b = true → R a b) →
      ∀ a b, a < n → b < n → ofTable (closeFix n k t) a b = true → R a b := by
  intro k
  induction k with
  | zero => intro t ht a b ha hb h; exact ht a b ha hb h
  | succ k ih =>
    intro t ht a b ha hb h
    unfold closeFix at h
    simp only at h
    split at h
    · exact ht a b ha hb h
    · refine ih _ ?_ a b ha hb h
      intro x y hx hy hxy
      rw [ofTable_tabulate n _ x y hx hy] at hxy
      exact closeOnce_least n R htr (ofTable t) ht x y hx hy hxy

/-- **The closure is the least one.**  Every relation on the calls `0 … n-1` that contains the
direct dependencies and is transitive contains the closed dependency relation `topoSort` sorts
by: the `for changes` loop of `addNextDeps` adds nothing but consequences of transitivity. -/
theorem closedDeps_least' (n : Nat) (edges : List (Nat × Nat)) (R : Nat → Nat → Prop)
    (hE : ∀ a b, a < n → b < n → (a, b) ∈ edges → R a b)
    (htr : ∀ a b c, a < n → b < n → c < n → R a b → R b c → R a c)
    (a b : Nat) (ha : a < n) (hb : b < n) (h : closedDeps n edges a b = true) : R a b := by
  unfold closedDeps closedTable at h
  refine closeFix_least n R htr _ _ ?_ a b ha hb h
  intro x y hx hy hxy
  rw [ofTable_tabulate n _ x y hx hy] at hxy
  simp only [depOfEdges, List.contains_iff_mem] at hxy
  exact hE x y hx hy hxy

theorem getD_of_lt (l : List Nat) (i : Nat) (h : i < l.length) : l.getD i 0 = l[i] := by
  simp [List.getD_eq_getElem?_getD, List.getElem?_eq_getElem h]

theorem sortedFrom_iff (d : Dep) (l : List Nat) :
    sortedFrom d l = true ↔ ∀ i j, i < j → j < l.length → d (l.getD i 0) (l.getD j 0) = false := by
  rw [sortedFrom_pairwise, List.pairwise_iff_getElem]
  constructor
  · intro h i j hij hj
    rw [getD_of_lt _ _ (by omega), getD_of_lt _ _ hj]
    exact h i j (by omega) hj hij
  · intro h i j hi hj hij
    have := h i j hij hj
    rwa [getD_of_lt _ _ hi, getD_of_lt _ _ hj] at this

theorem getD_range (n i : Nat) (h : i < n) : (List.range n).getD i 0 = i := by
  rw [getD_of_lt _ _ (by simpa using h)]
  simp

theorem depOfEdges_congr (e1 e2 : List (Nat × Nat)) (h : ∀ a b, (a, b) ∈ e1 ↔ (a, b) ∈ e2) :
    depOfEdges e1 = depOfEdges e2 := by
  funext a b
  simp only [depOfEdges]
  rw [Bool.eq_iff_iff]
  simp only [List.contains_iff_mem]
  exact h a b

theorem topoSort_congr (n : Nat) (e1 e2 : List (Nat × Nat)) (h : ∀ a b, (a, b) ∈ e1 ↔ (a, b) ∈ e2) :
    topoSort n e1 = topoSort n e2 := by
  unfold topoSort closedTable
  rw [depOfEdges_congr e1 e2 h]

theorem closedDeps_congr (n : Nat) (e1 e2 : List (Nat × Nat)) (h : ∀ a b, (a, b) ∈ e1 ↔ (a, b) ∈ e2) :
    closedDeps n e1 = closedDeps n e2 := by
  unfold closedDeps closedTable
  rw [depOfEdges_congr e1 e2 h]

theorem perm_range_getD_lt {n : Nat} {L : List Nat} (hp : L.Perm (List.range n)) (i : Nat) (hi : i < n) :
    L.getD i 0 < n := by
  have hlen : L.length = n := by simpa using hp.length_eq
  rw [getD_of_lt _ _ (by omega)]
  have : L[i]'(by omega) ∈ List.range n := hp.subset (List.getElem_mem _)
  simpa using this

/-- **A sorted list of calls stays where it is.**  Let `L` be any arrangement of the calls
`0 … n-1` that is in dependency order for the closed relation of `edges`, and let `edges'` be
dependencies between POSITIONS in `L` that all come from `edges` (`(i, j) ∈ edges'` implies
`(L[i], L[j]) ∈ edges`).  Then `topoSort` on the positions moves nothing — whether or not
`edges'` has a cycle.  (Minimality of the closure: the closed relation of `edges'`, pulled back
along `L`, is contained in the closed relation of `edges`.) -/
theorem topoSort_relabel (n : Nat) (edges edges' : List (Nat × Nat)) (L : List Nat)
    (hp : L.Perm (List.range n))
    (hs : sortedFrom (closedDeps n edges) L = true)
    (he : ∀ i j, i < n → j < n → (i, j) ∈ edges' → (L.getD i 0, L.getD j 0) ∈ edges) :
    topoSort n edges' = List.range n := by
  have hlt := fun i hi => perm_range_getD_lt hp i hi
  have hpull : ∀ i j, i < n → j < n → closedDeps n edges' i j = true →
      closedDeps n edges (L.getD i 0) (L.getD j 0) = true := by
    intro i j hi hj h
    refine closedDeps_least' n edges' (fun i j => closedDeps n edges (L.getD i 0) (L.getD j 0) = true)
      ?_ ?_ i j hi hj h
    · intro a b ha hb hab
      exact closedDeps_contains_edges' n edges _ _ (hlt a ha) (hlt b hb) (he a b ha hb hab)
    · intro a b c ha hb hc hab hbc
      have htr := closedDeps_trans n edges
      unfold transOn at htr
      simp only [List.all_eq_true, List.mem_range] at htr
      have := htr _ (hlt a ha) _ (hlt b hb) _ (hlt c hc)
      rw [hab, hbc] at this
      simpa using this
  have hlen : L.length = n := by simpa using hp.length_eq
  have hsorted : sortedFrom (closedDeps n edges') (List.range n) = true := by
    rw [sortedFrom_iff]
    intro i j hij hj
    simp only [List.length_range] at hj
    rw [getD_range n i (by omega), getD_range n j hj]
    cases hd : closedDeps n edges' i j with
    | false => rfl
    | true =>
      have h1 := hpull i j (by omega) hj hd
      have h2 := (sortedFrom_iff _ L).mp hs i j hij (by omega)
      rw [h1] at h2
      cases h2
  unfold topoSort
  simp only
  split
  · rfl
  · exact loop_sorted _ _ _ 0 (by simpa [closedDeps] using hsorted)

end Martian.Format
