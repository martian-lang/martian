/-
C19 — side conditions of the call-graph theorems, derived from the edits' own analyses.
First part: one pass of `removeUnusedCalls` (`passRem_ok`, `passSeeds_ok`: `CallRemOK` and the seeds of the
cascade from `unusedCalls`, `unboundInputs`, `leftoverInputs`; `calls_pass_graphK`), the loop without
`-top-calls` as the iterated pass (`removeLoop_calls_iter`, `calls_iter_graphK`, `remove_calls_loop_graph_eq`)
and its upper bound `GraphLe`.  Second part (section `RoFull`): the whole edit `removeOutput` on an
unreferenced output — the parameter, then the cascade of the pipeline inputs it leaves unbound
(`remove_output_plain_graph`).
-/
import Proofs.RefactorClosure
import Proofs.RefactorGraphDel
import Proofs.RefactorRemove
import Proofs.RefactorGraphRem
import Proofs.RefactorGraphRo

namespace Proofs.RefactorGraph
open Martian.Refactor
open Proofs.Refactor (dropCalls dropCalls_eq dropCalls_fields dropCalls_sublist idsToDrop foldl_removeCallById
  applyCallRemovals_eq)

theorem graphRefs_call_mem (c : Callable) (r : Ref) (hr : r ∈ graphRefs c) (hk : r.kind = RefKind.call) :
    r.id ∈ callRefIdsOf c := by
  have hid : ∀ e : Exp, r ∈ refs e → r.id ∈ refIds RefKind.call e := by
    intro e he
    unfold refIds
    exact List.mem_map.mpr ⟨r, List.mem_filter.mpr ⟨he, by simp [hk]⟩, rfl⟩
  unfold callRefIdsOf
  rcases (mem_graphRefs_iff c r).mp hr with ⟨k, hk', b, hb, hr⟩ | ⟨b, hb, hr⟩ | hr
  · apply List.mem_append_right
    apply List.mem_flatMap.mpr
    exact ⟨k, hk', List.mem_append_left _ (List.mem_flatMap.mpr ⟨b, hb, hid _ hr⟩)⟩
  · apply List.mem_append_left; apply List.mem_append_left
    exact List.mem_flatMap.mpr ⟨b, hb, hid _ hr⟩
  · apply List.mem_append_left; apply List.mem_append_right
    exact List.mem_map.mpr ⟨r, List.mem_filter.mpr ⟨hr, by simp [hk]⟩, rfl⟩

/-- the removal list of one calls pass -/
def passRem (p : Program) : List CallRemoval :=
  ((p.callables.filter (·.isPipe)).map fun pipe => (⟨pipe.name, unusedCalls p pipe⟩ : CallRemoval)).filter
    (fun r => !r.ids.isEmpty)

def passSeeds (p : Program) : List Pair :=
  (p.callables.filter (·.isPipe)).flatMap fun pipe =>
    let ids := unusedCalls p pipe
    if ids.isEmpty then [] else (unboundInputs p pipe [] ids).map (fun i => (pipe.name, i))

theorem unusedCallPlan_eq (p : Program) :
    unusedCallPlan p = (passRem p, removeInputClosure p (closureFuel p * ((passSeeds p).length + 1)) (passSeeds p) []) :=
  rfl

theorem passRem_find (p : Program) (hnd : (p.callables.map (·.name)).Nodup) (c : Callable) (hc : c ∈ p.callables)
    (r : CallRemoval) (h : (passRem p).find? (fun r => r.pipe == c.name) = some r) :
    c.isPipe = true ∧ r.ids = unusedCalls p c := by
  have hm := List.mem_of_find?_eq_some h
  have hn := List.find?_some h
  simp only [passRem, List.mem_filter, List.mem_map] at hm
  obtain ⟨⟨pipe, ⟨hpm, hpp⟩, rfl⟩, _⟩ := hm
  simp only [beq_iff_eq] at hn
  have : pipe = c := Proofs.ListFacts.nodup_map_inj hnd pipe hpm c hc hn
  subst this
  exact ⟨hpp, rfl⟩

theorem passRem_find_none_top (p : Program) (hne : ∀ c ∈ p.callables, c.name ≠ "") (t : Call) :
    (passRem p).find? (fun r => r.pipe == (topPipe t).name) = none := by
  rw [List.find?_eq_none]
  intro r hr
  simp only [passRem, List.mem_filter, List.mem_map] at hr
  obtain ⟨⟨pipe, ⟨hpm, _⟩, rfl⟩, _⟩ := hr
  have := hne pipe hpm
  simpa [topPipe] using this

theorem passRem_ok (p : Program) (hs : StructOK p = true) : CallRemOK (passRem p) p = true := by
  have hsp := StructOK_parts hs
  have hdel : ∀ c, structOKc c = true → (c ∈ p.callables ∨ ∃ t, c = topPipe t) → pipeOKDel (passRem p) c = true := by
    intro c hc hwhere
    have hp := structOKc_parts hc
    simp only [pipeOKDel, Bool.and_eq_true, Bool.or_eq_true, List.all_eq_true, decide_eq_true_eq,
      bne_iff_ne, ne_eq, List.isEmpty_iff]
    refine ⟨⟨⟨⟨hp.1, hp.2.1⟩, fun k hk => (hp.2.2.1 k hk).1⟩, hp.2.2.2⟩, ?_⟩
    intro r hr
    by_cases hk : r.kind = RefKind.call
    · right
      unfold keepOf
      cases hf : (passRem p).find? (fun r => r.pipe == c.name) with
      | none => rfl
      | some e =>
        rcases hwhere with hcm | ⟨t, rfl⟩
        · obtain ⟨hpp, hids⟩ := passRem_find p hsp.1 c hcm e hf
          simp only [hpp, Bool.true_and, Bool.not_eq_true', List.contains_eq_mem, decide_eq_false_iff_not, hids]
          intro hmem
          exact (Proofs.Refactor.remove_unused_preserves p c r.id hmem).1 (graphRefs_call_mem c r hr hk)
        · rw [passRem_find_none_top p (fun c hc => (hsp.2.1 c hc).1) t] at hf
          cases hf
    · exact Or.inl hk
  simp only [CallRemOK, Bool.and_eq_true, List.all_eq_true, bne_iff_ne, ne_eq]
  refine ⟨⟨?_, fun c hc => hdel c (hsp.2.1 c hc).2 (Or.inl hc)⟩, ?_⟩
  · intro r hr
    simp only [passRem, List.mem_filter, List.mem_map] at hr
    obtain ⟨⟨pipe, ⟨hpm, _⟩, rfl⟩, _⟩ := hr
    exact (hsp.2.1 pipe hpm).1
  · cases ht : p.top with
    | none => rfl
    | some t => exact hdel _ (hsp.2.2 t ht) (Or.inr ⟨t, rfl⟩)

theorem dropCalls_le (rem : List CallRemoval) (c : Callable) : CalLe (dropCalls rem c) c := by
  have hs := dropCalls_sublist rem c
  have hf := dropCalls_fields rem c
  exact ⟨hf.1, hf.2.1, hf.2.2.2.1 ▸ List.Sublist.refl _, hf.2.2.2.2.1 ▸ List.Sublist.refl _, hs.map _,
    fun k hk => ⟨k, hs.subset hk, CallLe.refl k⟩⟩

theorem applyCallRemovals_le (rem : List CallRemoval) (p : Program) : ProgLe (applyCallRemovals rem p) p :=
  ProgLe.map p fun c _ => dropCalls_le rem c

theorem idsToDrop_passRem (p : Program) (hnd : (p.callables.map (·.name)).Nodup) (c : Callable)
    (hc : c ∈ p.callables) :
    idsToDrop (passRem p) c = if c.isPipe then unusedCalls p c else [] := by
  unfold idsToDrop
  cases hf : (passRem p).find? (fun r => r.pipe == c.name) with
  | some r => obtain ⟨hp, hr⟩ := passRem_find p hnd c hc r hf; simp [hp, hr]
  | none =>
    by_cases hp : c.isPipe = true
    · -- a pipeline without an entry has no unused call: the list keeps every non-empty entry
      rw [List.find?_eq_none] at hf
      have := hf ⟨c.name, unusedCalls p c⟩
      simp only [passRem, List.mem_filter, List.mem_map, beq_self_eq_true, not_true_eq_false, imp_false, not_and,
        Bool.not_eq_true'] at this
      have he : (unusedCalls p c).isEmpty = true := by simpa using this ⟨c, ⟨hc, hp⟩, rfl⟩
      rw [if_pos hp, List.isEmpty_iff.mp he]
    · rw [if_neg hp]

theorem passSeeds_ok (p : Program) (hs : StructOK p = true) :
    ∀ s ∈ passSeeds p, seedOK s.1 s.2 (applyCallRemovals (passRem p) p) = true := by
  have hsp := StructOK_parts hs
  intro s hsm
  simp only [passSeeds, List.mem_flatMap, List.mem_filter] at hsm
  obtain ⟨pipe, ⟨hpm, hpp⟩, hsm⟩ := hsm
  split at hsm
  · cases hsm
  · obtain ⟨i, hi, rfl⟩ := List.mem_map.mp hsm
    have hF : dropCalls (passRem p) pipe = _ := dropCalls_eq (passRem p) pipe
    rw [idsToDrop_passRem p hsp.1 pipe hpm, if_pos hpp,
      foldl_removeCallById _ _ (structOKc_parts (hsp.2.1 pipe hpm).2).2.1] at hF
    refine seedOK_unbound p hs (dropCalls (passRem p)) p.top (fun c => (dropCalls_fields _ c).1) pipe hpm []
      (unusedCalls p pipe) i hi ?_ ?_ ?_ <;> rw [hF]
    · intro k hk
      have hk' := List.mem_filter.mp hk
      exact ⟨hk'.1, by simpa using hk'.2⟩
    · exact fun b hb => ⟨hb, List.not_mem_nil⟩
    · exact fun r hr => hr

theorem keepOf_eq_keepN (rem : List CallRemoval) :
    keepOf rem = fun c i => keepN rem c.name c.isPipe i := by
  funext c i; rfl

theorem calls_pass_graphK (p : Program) (ti : TypeInfo) (hs : StructOK p = true) (big fuel : Nat)
    (κ : String → Bool → String → Bool) :
    deepGraphKeepAt (fun c i => κ c.name c.isPipe i) big fuel (ti.removeInputs (unusedCallPlan p).2)
        (removeInputs (unusedCallPlan p).2 (applyCallRemovals (unusedCallPlan p).1 p))
      = (unusedCallPlan p).2.foldl (fun g xq => g.map (remNodeIn xq.1 xq.2))
          (deepGraphKeepAt (fun c i => keepN (unusedCallPlan p).1 c.name c.isPipe i && κ c.name c.isPipe i)
            big fuel ti p) := by
  simp only [unusedCallPlan_eq]
  have hok' := cascade_remInsOK p (applyCallRemovals (passRem p) p) hs (applyCallRemovals_le _ p)
    (passSeeds p) (passSeeds_ok p hs) (closureFuel p * ((passSeeds p).length + 1))
  rw [remove_inputs_graph_atK _ ti _ hok' κ big fuel,
    remove_calls_graph_atK (passRem p) ti p (passRem_ok p hs) κ big fuel, keepOf_eq_keepN]

/-- node `n'` is node `n` with some resolved inputs removed and nothing else changed -/
def NodeLe (n' n : Node) : Prop :=
  n'.fqid = n.fqid ∧ n'.callable = n.callable ∧ n'.isPipe = n.isPipe ∧ n'.outputs = n.outputs
  ∧ n'.retained = n.retained ∧ n'.inputs.Sublist n.inputs

def GraphLe (g' g : List Node) : Prop := ∀ n' ∈ g', ∃ n ∈ g, NodeLe n' n

theorem GraphLe.refl (g : List Node) : GraphLe g g :=
  fun n hn => ⟨n, hn, rfl, rfl, rfl, rfl, rfl, List.Sublist.refl _⟩

theorem GraphLe.trans {a b c : List Node} (h1 : GraphLe a b) (h2 : GraphLe b c) : GraphLe a c := by
  intro n hn
  obtain ⟨m, hm, hnm⟩ := h1 n hn
  obtain ⟨k, hk, hmk⟩ := h2 m hm
  exact ⟨k, hk, hnm.1.trans hmk.1, hnm.2.1.trans hmk.2.1, hnm.2.2.1.trans hmk.2.2.1,
    hnm.2.2.2.1.trans hmk.2.2.2.1, hnm.2.2.2.2.1.trans hmk.2.2.2.2.1, hnm.2.2.2.2.2.trans hmk.2.2.2.2.2⟩

theorem dropKeyEnv_sublist (q : String) (env : Env) : (dropKeyEnv q env).Sublist env :=
  dropKeyEnv_eq q env ▸ List.eraseP_sublist

theorem graphLe_remNodeIn (x q : String) (g : List Node) : GraphLe (g.map (remNodeIn x q)) g := by
  intro n' hn'
  obtain ⟨n, hn, rfl⟩ := List.mem_map.mp hn'
  refine ⟨n, hn, ?_⟩
  unfold remNodeIn
  split
  · exact ⟨rfl, rfl, rfl, rfl, rfl, dropKeyEnv_sublist q _⟩
  · exact ⟨rfl, rfl, rfl, rfl, rfl, List.Sublist.refl _⟩

theorem graphLe_fold (pairs : List Pair) : ∀ g : List Node,
    GraphLe (pairs.foldl (fun g xq => g.map (remNodeIn xq.1 xq.2)) g) g := by
  induction pairs with
  | nil => intro g; exact GraphLe.refl g
  | cons xq rest ih =>
    intro g
    simp only [List.foldl_cons]
    exact (ih _).trans (graphLe_remNodeIn xq.1 xq.2 g)

theorem pass_structOK (p : Program) (hs : StructOK p = true) (rem : List CallRemoval) (ins : List Pair) :
    StructOK (removeInputs ins (applyCallRemovals rem p)) = true := by
  have hsp := StructOK_parts hs
  rw [removeInputs_eq, applyCallRemovals_eq]
  simp only [StructOK, Bool.and_eq_true, decide_eq_true_eq, List.all_eq_true, bne_iff_ne, ne_eq,
    List.map_map]
  have hle : ∀ c ∈ p.callables, CalLe (foldF ins (dropCalls rem c)) c := fun c hc =>
    (foldF_le ins _).trans (dropCalls_le rem c)
  refine ⟨⟨?_, ?_⟩, ?_⟩
  · have : p.callables.map ((fun c => c.name) ∘ foldF ins ∘ dropCalls rem) = p.callables.map (·.name) := by
      apply List.map_congr_left
      intro c hc
      exact (hle c hc).1
    rw [this]; exact hsp.1
  · intro c hc
    obtain ⟨c0, hc0, rfl⟩ := List.mem_map.mp hc
    refine ⟨?_, structOKc_of_le _ c0 (hle c0 hc0) (hsp.2.1 c0 hc0).2⟩
    have := (hle c0 hc0).1
    simp only [Function.comp] at this ⊢
    rw [this]; exact (hsp.2.1 c0 hc0).1
  · cases ht : p.top with
    | none => simp
    | some t =>
      simp only [Option.map_some]
      exact structOKc_of_le _ _ (topPipe_le _ _ (foldB_le ins t)) (hsp.2.2 t ht)

theorem removeStep_calls (p0 p : Program) : removeStep p0 true [] p = removeUnusedCallsPass p :=
  Prod.ext rfl (Bool.or_false _)

/-- without `-top-calls` the loop is the calls pass iterated until its plan is empty or the fuel is
used up; every pass before the last had something to delete -/
theorem removeLoop_calls_iter (p0 : Program) (ti : TypeInfo) : ∀ (n : Nat) (p : Program),
    ∃ m, m ≤ n ∧ removeLoop p0 true [] n p = (callsIter m (ti, p)).2
      ∧ (∀ k, k < m → (unusedCallPlan (callsIter k (ti, p)).2).1 ≠ [])
      ∧ (m < n → (unusedCallPlan (callsIter m (ti, p)).2).1 = []) := by
  intro n
  induction n generalizing ti with
  | zero =>
    exact fun p => ⟨0, Nat.le_refl _, rfl, fun k hk => absurd hk (Nat.not_lt_zero _), fun h => absurd h (Nat.lt_irrefl _)⟩
  | succ n ih =>
    intro p
    rw [Proofs.Refactor.removeLoop_succ, removeStep_calls, Proofs.Refactor.callsPass_eq]
    by_cases hrem : (unusedCallPlan p).1 = []
    · exact ⟨0, Nat.zero_le _, by simp [hrem, callsIter], fun k hk => absurd hk (Nat.not_lt_zero _), fun _ => hrem⟩
    · obtain ⟨m, hmn, heq, hsteps, hfix⟩ := ih (callsPass (ti, p)).1 (callsPass (ti, p)).2
      have hE : (unusedCallPlan p).1.isEmpty = false := by simpa using hrem
      simp only [hE, Bool.false_eq_true, if_false, if_true]
      refine ⟨m + 1, Nat.succ_le_succ hmn, heq, fun k hk => ?_, fun h => hfix (Nat.lt_of_succ_lt_succ h)⟩
      cases k with
      | zero => exact hrem
      | succ k => exact hsteps k (Nat.lt_of_succ_lt_succ hk)

theorem callsIter_structOK : ∀ (m : Nat) (s : TypeInfo × Program), StructOK s.2 = true →
    StructOK (callsIter m s).2 = true
  | 0, _, hs => hs
  | m + 1, s, hs => callsIter_structOK m (callsPass s) (pass_structOK s.2 hs _ _)

theorem callsIter_ti : ∀ (m : Nat) (s : TypeInfo × Program),
    (callsIter m s).1 = s.1.removeInputs (loopPairs m s)
  | 0, _ => rfl
  | m + 1, s => by
    show (callsIter m (callsPass s)).1 = _
    rw [callsIter_ti m (callsPass s)]
    simp only [loopPairs, TypeInfo.removeInputs, List.foldl_append]
    rfl

theorem calls_iter_graphK (big fuel : Nat) : ∀ (m : Nat) (s : TypeInfo × Program) (κ : String → Bool → String → Bool),
    StructOK s.2 = true →
    deepGraphKeepAt (fun c i => κ c.name c.isPipe i) big fuel (callsIter m s).1 (callsIter m s).2
      = (loopPairs m s).foldl (fun g xq => g.map (remNodeIn xq.1 xq.2))
          (deepGraphKeepAt (fun c i => loopKeep m s c.name c.isPipe i && κ c.name c.isPipe i) big fuel s.1 s.2) := by
  intro m
  induction m with
  | zero =>
    intro s κ _
    simp only [callsIter, loopPairs, loopKeep, List.foldl_nil, Bool.true_and]
  | succ m ih =>
    intro s κ hs
    show deepGraphKeepAt _ big fuel (callsIter m (callsPass s)).1 (callsIter m (callsPass s)).2 = _
    rw [ih (callsPass s) κ (pass_structOK s.2 hs _ _)]
    have hp := calls_pass_graphK s.2 s.1 hs big fuel (fun n b i => loopKeep m (callsPass s) n b i && κ n b i)
    show List.foldl _ (deepGraphKeepAt _ big fuel (s.1.removeInputs (unusedCallPlan s.2).2)
      (removeInputs (unusedCallPlan s.2).2 (applyCallRemovals (unusedCallPlan s.2).1 s.2))) _ = _
    rw [hp]
    simp only [loopPairs, loopKeep, List.foldl_append, Bool.and_assoc]

theorem calls_iter_graph (big fuel : Nat) (m : Nat) (s : TypeInfo × Program) (hs : StructOK s.2 = true) :
    deepGraphAt big fuel (callsIter m s).1 (callsIter m s).2
      = (loopPairs m s).foldl (fun g xq => g.map (remNodeIn xq.1 xq.2))
          (deepGraphKeepAt (fun c i => loopKeep m s c.name c.isPipe i) big fuel s.1 s.2) := by
  have := calls_iter_graphK big fuel m s (fun _ _ _ => true) hs
  simp only [Bool.and_true] at this
  rw [← this, deepGraphKeepAt_true]

theorem remove_calls_loop_graph_eq (p0 : Program) (big fuel n : Nat) (p : Program) (ti : TypeInfo)
    (hs : StructOK p = true) :
    ∃ m, m ≤ n
      ∧ removeLoop p0 true [] n p = (callsIter m (ti, p)).2
      ∧ deepGraphAt big fuel (ti.removeInputs (loopPairs m (ti, p))) (removeLoop p0 true [] n p)
          = (loopPairs m (ti, p)).foldl (fun g xq => g.map (remNodeIn xq.1 xq.2))
              (deepGraphKeepAt (fun c i => loopKeep m (ti, p) c.name c.isPipe i) big fuel ti p)
      ∧ (∀ k, k < m → (unusedCallPlan (callsIter k (ti, p)).2).1 ≠ [])
      ∧ (m < n → (unusedCallPlan (removeLoop p0 true [] n p)).1 = []) := by
  obtain ⟨m, hmn, heq, hsteps, hfix⟩ := removeLoop_calls_iter p0 ti n p
  refine ⟨m, hmn, heq, ?_, hsteps, fun h => heq ▸ hfix h⟩
  rw [heq, ← callsIter_ti m (ti, p)]
  exact calls_iter_graph big fuel m (ti, p) hs

theorem nodesOfKeep_sublist (keep : Callable → String → Bool) (ti : TypeInfo) (p : Program) (big : Nat) :
    ∀ fuel pipe self pre k, (nodesOfKeep keep ti p big fuel pipe self pre k).Sublist
      (nodesOf ti p big fuel pipe self pre k) := by
  intro fuel
  induction fuel with
  | zero => intro pipe self pre k; simp [nodesOfKeep, nodesOf]
  | succ fuel ih =>
    intro pipe self pre k
    rw [nodesOfKeep, nodesOf]
    cases hd : p.find? k.decId with
    | none => simp
    | some d =>
      simp only []
      apply List.Sublist.cons_cons
      cases hp : d.isPipe with
      | false => simp
      | true =>
        simp only [if_true]
        generalize d.calls = l
        induction l with
        | nil => simp
        | cons k' rest ihl =>
          simp only [List.filter_cons]
          split
          · simp only [List.flatMap_cons]
            exact List.Sublist.append (ih d _ _ k') ihl
          · simp only [List.flatMap_cons]
            exact List.Sublist.trans ihl (List.sublist_append_right _ _)

theorem deepGraphKeepAt_sublist (keep : Callable → String → Bool) (big fuel : Nat) (ti : TypeInfo) (p : Program) :
    (deepGraphKeepAt keep big fuel ti p).Sublist (deepGraphAt big fuel ti p) := by
  unfold deepGraphKeepAt deepGraphAt
  cases p.top with
  | none => exact List.Sublist.refl _
  | some t => exact nodesOfKeep_sublist keep ti p big fuel _ _ _ _

theorem remove_calls_loop_graph (p0 : Program) (big fuel : Nat) : ∀ (n : Nat) (p : Program) (ti : TypeInfo),
    StructOK p = true →
    ∃ ti', GraphLe (deepGraphAt big fuel ti' (removeLoop p0 true [] n p)) (deepGraphAt big fuel ti p) := by
  intro n p ti hs
  obtain ⟨m, _, _, hg, _⟩ := remove_calls_loop_graph_eq p0 big fuel n p ti hs
  refine ⟨ti.removeInputs (loopPairs m (ti, p)), ?_⟩
  rw [hg]
  refine (graphLe_fold _ _).trans ?_
  intro n' hn'
  exact ⟨n', (deepGraphKeepAt_sublist _ big fuel ti p).subset hn', rfl, rfl, rfl, rfl, rfl, List.Sublist.refl _⟩

section RoFull
variable (x o : String)

/-- the cascade of `removeOutputPlain` -/
def roPairs (p : Program) : List Pair :=
  match p.find? x with
  | some xc =>
    if xc.isPipe then removeInputClosure p (closureFuel p) ((unboundInputs p xc [o] []).map (fun i => (x, i))) []
    else []
  | none => []

theorem FRo_le (c : Callable) : CalLe (FRo x o c) c := by
  have hf := FRo_fields x o c
  refine ⟨hf.1, hf.2.1, ?_, hf.2.2.2.1 ▸ List.Sublist.refl _, ?_, ?_⟩
  · unfold FRo
    split
    · split
      · exact removeFirstBind_sublist o c.ret
      · exact List.Sublist.refl _
    · exact List.Sublist.refl _
  · simp only [callIds, hf.2.2.1]; exact List.Sublist.refl _
  · intro k hk
    rw [hf.2.2.1] at hk
    exact ⟨k, hk, CallLe.refl k⟩

theorem remove_output_plain_graph (ti : TypeInfo) (p : Program) (hok : RemOutOK x o ti p = true)
    (hs : StructOK p = true) :
    deepGraph ((ti.removeOutput x o).removeInputs (roPairs x o p)) (removeOutputPlain x o p)
      = (roPairs x o p).foldl (fun g xq => g.map (remNodeIn xq.1 xq.2))
          ((deepGraph ti p).map (remNodeOut x o)) := by
  have hok0 := hok
  simp only [RemOutOK, Bool.and_eq_true, bne_iff_ne, ne_eq, List.all_eq_true] at hok
  obtain ⟨⟨⟨⟨hx, hfx⟩, hall⟩, _⟩, _⟩ := hok
  cases hxc : p.find? x with
  | none => simp [hxc] at hfx
  | some xc =>
  simp only [hxc, Bool.and_eq_true, List.all_eq_true, Bool.or_eq_true, bne_iff_ne, ne_eq, beq_iff_eq] at hfx
  obtain ⟨⟨hcons, _⟩, _⟩ := hfx
  have hp' := outStep_eq x o p xc hxc hcons
  have hxcm := find_mem p x xc hxc
  have hxcn := find_name p x xc hxc
  cases hxp : xc.isPipe with
  | false =>
    have hpairs : roPairs x o p = [] := by simp [roPairs, hxc, hxp]
    have hplain : removeOutputPlain x o p = outStep x o p := by
      simp [removeOutputPlain, outStep, hxc, hxp]
    rw [hpairs, hplain]
    exact remove_output_graph x o ti p hok0
  | true =>
    have hpairs : roPairs x o p
        = removeInputClosure p (closureFuel p) ((unboundInputs p xc [o] []).map (fun i => (x, i))) [] := by
      simp [roPairs, hxc, hxp]
    have hplain : removeOutputPlain x o p = removeInputs (roPairs x o p) (outStep x o p) := by
      simp [removeOutputPlain, outStep, hxc, hxp, hpairs, applyOutAction]
    have hle : ProgLe (outStep x o p) p := hp' ▸ ProgLe.map p fun c _ => FRo_le x o c
    have hseeds : ∀ s ∈ (unboundInputs p xc [o] []).map (fun i => (x, i)),
        seedOK s.1 s.2 (outStep x o p) = true := by
      intro s hsm
      obtain ⟨i, hi, rfl⟩ := List.mem_map.mp hsm
      have hf := FRo_fields x o xc
      have hret : ∀ b ∈ (FRo x o xc).ret, b ∈ xc.ret ∧ b.name ∉ [o] := by
        intro b hb
        rw [show (FRo x o xc).ret = removeFirstBind o xc.ret by simp [FRo, hxp, hxcn]] at hb
        exact ⟨mem_removeFirstBind o _ b hb,
          by simpa using removeFirstBind_no o xc.ret ((pipeOKRo_parts x o (hall xc hxcm)).2.2.2.1 hxcn) b hb⟩
      have h := seedOK_unbound p hs (FRo x o) p.top (fun c => (FRo_fields x o c).1) xc hxcm [o] [] i hi
        (fun k hk => ⟨hf.2.2.1 ▸ hk, List.not_mem_nil⟩) hret fun r hr => hf.2.2.2.1 ▸ hr
      rw [hxcn] at h
      rw [hp']
      exact h
    have hrem' : RemInsOK (roPairs x o p) (outStep x o p) = true := by
      rw [hpairs]
      exact cascade_remInsOK p (outStep x o p) hs hle _ hseeds (closureFuel p)
    rw [hplain, remove_inputs_graph _ _ _ hrem', remove_output_graph x o ti p hok0]

end RoFull

end Proofs.RefactorGraph
