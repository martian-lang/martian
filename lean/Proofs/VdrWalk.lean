import Martian.VdrWalk
import Proofs.VdrFs
import Proofs.VdrShrink
import Proofs.VdrPath

/-! What the walk enumerates has only real directories above it (below the
root of the walk): `ParentsReal` for walked entries is a theorem about the
walk, not an assumption (`walkBelow_parentsReal`).  The guard against removing through a link: `runG_eq`,
`hfsB_spec`, and the dichotomy `walked_removed_in_place` (C14 `removed_in_place_or_nothing`). -/
namespace Martian.Vdr

def seg (p : Path) : Path := p.takeWhile (fun c => c != '/')

theorem seg_append {n t : Path} (hn : n.contains '/' = false) (ht : t = [] ∨ t.head? = some '/') :
    seg (n ++ t) = n := by
  induction n with
  | nil =>
    rcases ht with rfl | ht
    · rfl
    · cases t with
      | nil => simp at ht
      | cons c r => simp at ht; subst ht; simp [seg]
  | cons c r ih =>
    simp only [List.contains_cons, Bool.or_eq_false_iff] at hn
    have hc : (c != '/') = true := by
      have := hn.1
      simp only [beq_eq_false_iff_ne, ne_eq] at this
      simpa using fun h => this h.symm
    simp only [seg, List.cons_append, List.takeWhile_cons, hc, if_true]
    congr 1
    exact ih hn.2

theorem seg_prefix {a b : Path} (h : a <+: b) (hs : '/' ∈ a) : seg a = seg b := by
  induction a generalizing b with
  | nil => cases hs
  | cons c r ih =>
    obtain ⟨t, rfl⟩ := h
    by_cases hc : c = '/'
    · subst hc; simp [seg]
    · have hc' : (c != '/') = true := by simpa using hc
      simp only [seg, List.cons_append, List.takeWhile_cons, hc', if_true]
      congr 1
      apply ih ⟨t, rfl⟩
      rcases List.mem_cons.mp hs with h | h
      · exact absurd h.symm hc
      · exact h

/-- `p` is `root/n` or lies below it -/
def Under (root n p : Path) : Prop := ∃ s, p = root ++ '/' :: n ++ s ∧ (s = [] ∨ s.head? = some '/')

theorem Under.self (root n : Path) : Under root n (root ++ '/' :: n) := ⟨[], by simp, Or.inl rfl⟩

theorem Under.deeper {root n m p : Path} (h : Under (root ++ '/' :: n) m p) : Under root n p := by
  obtain ⟨s, rfl, _⟩ := h
  exact ⟨'/' :: m ++ s, by simp, Or.inr (by simp)⟩

theorem under_prefix {root n1 n2 a b : Path} (h1 : n1.contains '/' = false) (h2 : n2.contains '/' = false)
    (ha : Under root n1 a) (hb : Under root n2 b) (h : (a ++ ['/']) <+: b) : n1 = n2 := by
  obtain ⟨s1, rfl, hs1⟩ := ha
  obtain ⟨s2, rfl, hs2⟩ := hb
  have h' : (n1 ++ (s1 ++ ['/'])) <+: (n2 ++ s2) := by
    have : (root ++ '/' :: (n1 ++ (s1 ++ ['/']))) <+: (root ++ '/' :: (n2 ++ s2)) := by simpa using h
    have := (List.prefix_append_right_inj root).mp this
    simpa using (List.prefix_cons_inj '/').mp this
  have hslash : '/' ∈ n1 ++ (s1 ++ ['/']) := by simp
  have e := seg_prefix h' hslash
  have t1 : s1 ++ ['/'] = [] ∨ (s1 ++ ['/']).head? = some '/' := by
    rcases hs1 with rfl | hs
    · exact Or.inr rfl
    · cases s1 with
      | nil => simp at hs
      | cons c r => exact Or.inr (by simpa using hs)
  rw [seg_append h1 t1, seg_append h2 hs2] at e
  exact e

theorem wf_names : ∀ (t : FsTree), t.wf = true → ∀ n ∈ t.names, n.contains '/' = false := by
  intro t
  induction t with
  | nil => intro _ n hn; cases hn
  | file n _ r ih | link n _ r ih =>
    intro h m hm
    simp only [FsTree.wf, Bool.and_eq_true, Bool.not_eq_true'] at h
    rcases List.mem_cons.mp hm with rfl | hm
    · exact h.1.1.2
    · exact ih h.2 m hm
  | dir n ch r _ ih =>
    intro h m hm
    simp only [FsTree.wf, Bool.and_eq_true, Bool.not_eq_true'] at h
    rcases List.mem_cons.mp hm with rfl | hm
    · exact h.1.1.1.2
    · exact ih h.2 m hm

theorem walkBelow_under : ∀ (t : FsTree) (root p : Path) (k : WKind), (p, k) ∈ walkBelow root t →
    ∃ n ∈ t.names, Under root n p := by
  intro t
  induction t with
  | nil => intro _ _ _ h; cases h
  | file n _ r ih | link n _ r ih =>
    intro root p k h
    simp only [walkBelow, List.mem_cons, Prod.mk.injEq] at h
    rcases h with ⟨rfl, _⟩ | h
    · exact ⟨n, List.mem_cons_self, Under.self root n⟩
    · obtain ⟨m, hm, hu⟩ := ih root p k h
      exact ⟨m, List.mem_cons_of_mem _ hm, hu⟩
  | dir n ch r ihc ihr =>
    intro root p k h
    simp only [walkBelow, List.mem_cons, Prod.mk.injEq, List.mem_append] at h
    rcases h with ⟨rfl, _⟩ | h | h
    · exact ⟨n, List.mem_cons_self, Under.self root n⟩
    · obtain ⟨m, _, hu⟩ := ihc _ p k h
      exact ⟨n, List.mem_cons_self, hu.deeper⟩
    · obtain ⟨m, hm, hu⟩ := ihr root p k h
      exact ⟨m, List.mem_cons_of_mem _ hm, hu⟩

theorem walkBelow_paths (t : FsTree) (root : Path) :
    (walkBelow root t).map (·.1) = (entsBelow root t).map (·.path) := by
  induction t generalizing root with
  | nil => rfl
  | file n _ r ih | link n _ r ih => simp [walkBelow, entsBelow, ih]
  | dir n ch r ihc ihr => simp [walkBelow, entsBelow, ihc, ihr]

theorem entsBelow_under (t : FsTree) (root : Path) (e : FsEnt) (h : e ∈ entsBelow root t) :
    ∃ n ∈ t.names, Under root n e.path := by
  have : e.path ∈ (walkBelow root t).map (·.1) := walkBelow_paths t root ▸ List.mem_map_of_mem h
  obtain ⟨⟨p, k⟩, hp, e'⟩ := List.mem_map.mp this
  exact e' ▸ walkBelow_under t root p k hp

/-- `ParentsReal` over the file system below the root, for every walked entry -/
theorem walkBelow_parentsReal (t : FsTree) (hw : t.wf = true) (root p : Path) (k : WKind)
    (hp : (p, k) ∈ walkBelow root t) : ParentsReal (entsBelow root t) p := by
  revert hw root p k
  induction t with
  | nil => intro _ _ _ _ h; cases h
  | file n x r ih | link n x r ih =>
    intro hw root p k hp e he hl hpre
    have hnames := wf_names _ hw
    simp only [FsTree.wf, Bool.and_eq_true, Bool.not_eq_true'] at hw
    have hn : n.contains '/' = false := hw.1.1.2
    have hnot : n ∉ r.names := by simpa using hw.1.2
    simp only [walkBelow, List.mem_cons, Prod.mk.injEq] at hp
    simp only [entsBelow, List.mem_cons] at he
    rcases he with rfl | he
    · rcases hp with ⟨rfl, _⟩ | hp
      · have := prefix_slash_len hpre
        simp at this
      · obtain ⟨n2, hn2, hu2⟩ := walkBelow_under r root p k hp
        have := under_prefix hn (hnames n2 (List.mem_cons_of_mem _ hn2)) (Under.self root n) hu2 hpre
        exact hnot (this ▸ hn2)
    · obtain ⟨n1, hn1, hu1⟩ := entsBelow_under r root e he
      have hn1s := hnames n1 (List.mem_cons_of_mem _ hn1)
      rcases hp with ⟨rfl, _⟩ | hp
      · have := under_prefix hn1s hn hu1 (Under.self root n) hpre
        exact hnot (this ▸ hn1)
      · exact ih hw.2 root p k hp e he hl hpre
  | dir n ch r ihc ihr =>
    intro hw root p k hp e he hl hpre
    have hnames := wf_names _ hw
    simp only [FsTree.wf, Bool.and_eq_true, Bool.not_eq_true'] at hw
    have hn : n.contains '/' = false := hw.1.1.1.2
    have hnot : n ∉ r.names := by simpa using hw.1.1.2
    simp only [walkBelow, List.mem_cons, Prod.mk.injEq, List.mem_append] at hp
    simp only [entsBelow, List.mem_cons, List.mem_append] at he
    rcases he with rfl | he | he
    · exact hl rfl
    · -- a link inside this directory
      obtain ⟨m, _, hum⟩ := entsBelow_under ch _ e he
      rcases hp with ⟨rfl, _⟩ | hp | hp
      · obtain ⟨s, hs, _⟩ := hum
        have := prefix_slash_len hpre
        rw [hs] at this
        simp at this
        omega
      · exact ihc hw.1.2 _ p k hp e he hl hpre
      · obtain ⟨n2, hn2, hu2⟩ := walkBelow_under r root p k hp
        have := under_prefix hn (hnames n2 (List.mem_cons_of_mem _ hn2)) hum.deeper hu2 hpre
        exact hnot (this ▸ hn2)
    · obtain ⟨n1, hn1, hu1⟩ := entsBelow_under r root e he
      have hn1s := hnames n1 (List.mem_cons_of_mem _ hn1)
      rcases hp with ⟨rfl, _⟩ | hp | hp
      · have := under_prefix hn1s hn hu1 (Under.self root n) hpre
        exact hnot (this ▸ hn1)
      · obtain ⟨m, _, hum⟩ := walkBelow_under ch _ p k hp
        have := under_prefix hn1s hn hu1 hum.deeper hpre
        exact hnot (this ▸ hn1)
      · exact ihr hw.2 root p k hp e he hl hpre

theorem walkBelow_inside (t : FsTree) (root p : Path) (k : WKind) (hp : (p, k) ∈ walkBelow root t) :
    pathIsInside p root = true := by
  obtain ⟨n, _, s, rfl, _⟩ := walkBelow_under t root p k hp
  exact (pathIsInside_iff _ _).mpr (Or.inr ⟨n ++ s, by simp⟩)

/-- a refused fork lives the history without its passes -/
theorem runG_eq (r : Bool) (c : Cfg) (s : St) (evs : List Ev) :
    runG r c s evs = run c s (if r then evs.filter (fun e => !e.removes) else evs) := by
  cases r with
  | false => rfl
  | true =>
    unfold runG run
    induction evs generalizing s with
    | nil => rfl
    | cons e t ih => cases e <;> exact ih _

theorem runG_false (c : Cfg) (s : St) (evs : List Ev) : runG false c s evs = run c s evs := runG_eq false c s evs

theorem runG_true_removed (c : Cfg) (s : St) (evs : List Ev) :
    (runG true c s evs).removed = s.removed ∧ (runG true c s evs).disk = s.disk ∧
    (runG true c s evs).report = s.report ∧ (runG true c s evs).final = s.final := by
  rw [runG_eq]
  obtain ⟨hd, hr, hp, hf⟩ := run_refused c s (evs.filter (fun e => !e.removes))
    (fun e he => by simpa using (List.mem_filter.mp he).2)
  exact ⟨hr, hd, hp, hf⟩

theorem not_refused {fs : List FsEnt} {chain : List Path} (h : refusedBy fs chain = false) :
    ∀ e ∈ fs, e.link ≠ none → e.path ∉ chain := by
  intro e he hl hc
  unfold refusedBy at h
  rw [List.any_eq_false] at h
  have := h e he
  have h1 : e.link.isSome = true := by
    cases hl' : e.link with
    | none => exact absurd hl' hl
    | some _ => rfl
  simp [h1] at this
  exact this hc

/-- a link that is elsewhere is not above anything below the root -/
theorem elsewhere_not_above {root e p : Path} (h1 : pathIsInside root e = false) (h2 : pathIsInside e root = false)
    (hp : pathIsInside p root = true) : ¬ ((e ++ ['/']) <+: p) := by
  intro hpre
  have hpe : pathIsInside p e = true := (pathIsInside_iff p e).mpr (Or.inr hpre)
  rcases inside_comparable hpe hp with h | h
  · rw [h2] at h; cases h
  · rw [h1] at h; cases h

theorem hfsB_spec {fs : List FsEnt} {chain : List Path} {root : Path} {t : FsTree} (h : hfsB fs chain root t = true) :
    ∀ e ∈ fs, e.link ≠ none → e.path ∈ chain ∨ e ∈ entsBelow root t ∨
      (pathIsInside root e.path = false ∧ pathIsInside e.path root = false) := by
  intro e he hl
  unfold hfsB at h
  rw [List.all_eq_true] at h
  have := h e he
  simp only [Bool.or_eq_true, Bool.and_eq_true, Bool.not_eq_true', Option.isNone_iff_eq_none,
    List.contains_eq_mem, decide_eq_true_eq] at this
  rcases this with ((h1 | h1) | h1) | h1
  · exact absurd h1 hl
  · exact Or.inl h1
  · exact Or.inr (Or.inl h1)
  · exact Or.inr (Or.inr h1)

theorem walked_removed_in_place {c : Cfg} {s0 : St} {evs : List Ev} {root : Path} {t : FsTree} {fs : List FsEnt}
    {chain : List Path} (hw : t.wf = true) (fr : s0.removed = [])
    (hdisk : ∀ d ∈ s0.disk, ∃ k, (d.path, k) ∈ walkBelow root t)
    (hfs : ∀ e ∈ fs, e.link ≠ none → e.path ∈ chain ∨ e ∈ entsBelow root t ∨
      (pathIsInside root e.path = false ∧ pathIsInside e.path root = false))
    (hr : refusedBy fs chain = false) :
    ∀ d ∈ (run c s0 evs).removed,
      pathIsInside d.path root = true ∧ ParentsReal fs d.path ∧ ∀ e ∈ fs, throughLink e d.path = d.path := by
  intro d hd
  rcases (shr_run c s0 evs).removed d hd with h1 | h1
  · rw [fr] at h1; cases h1
  · obtain ⟨k, hk⟩ := hdisk d h1
    have hin := walkBelow_inside t root d.path k hk
    have hp : ParentsReal fs d.path := by
      intro e he hl
      rcases hfs e he hl with hc | hb | ⟨e1, e2⟩
      · exact absurd hc (not_refused hr e he hl)
      · exact walkBelow_parentsReal t hw root d.path k hk e hb hl
      · exact elsewhere_not_above e1 e2 hin
    exact ⟨hin, hp, parentsReal_acts_in_place _ _ hp⟩

end Martian.Vdr
