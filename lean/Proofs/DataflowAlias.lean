/-
C01 — renaming (swapping) call ids inside one pipeline body: machinery for `den_alias`.  At the end: the
sample program `exProg` with its oracle `exOracle` and the call `exAliasCall`, used by the examples of
Props/C01.lean.
-/
import Martian.Dataflow

namespace Proofs.DataflowAlias
open Martian.Dataflow

/-- the transposition of two call ids (a bijection, so no freshness side conditions) -/
def swapId (a b x : String) : String :=
  if x = a then b else if x = b then a else x

theorem swapId_inj (a b x y : String) (h : swapId a b x = swapId a b y) : x = y := by
  unfold swapId at h
  by_cases hxa : x = a <;> by_cases hxb : x = b <;> by_cases hya : y = a <;> by_cases hyb : y = b <;>
    simp_all

theorem swapId_invol (a b x : String) : swapId a b (swapId a b x) = x := by
  unfold swapId
  by_cases hxa : x = a <;> by_cases hxb : x = b <;> simp_all

theorem swapId_beq (a b x y : String) : (swapId a b x == swapId a b y) = (x == y) := by
  by_cases h : x = y
  · subst h
    rw [beq_self_eq_true, beq_self_eq_true]
  · have : swapId a b x ≠ swapId a b y := fun e => h (swapId_inj a b x y e)
    rw [beq_eq_false_iff_ne.mpr this, beq_eq_false_iff_ne.mpr h]

theorem lookup_swap {β : Type} (a b c : String) (l : List (String × β)) :
    (l.map fun e => (swapId a b e.1, e.2)).lookup (swapId a b c) = l.lookup c := by
  induction l with
  | nil => rfl
  | cons x xs ih =>
    obtain ⟨k, v⟩ := x
    simp only [List.map_cons, List.lookup_cons, swapId_beq, ih]

mutual
def swapExp (a b : String) : Exp → Exp
  | .lit j => .lit j
  | .arr xs => .arr (swapList a b xs)
  | .map kvs => .map (swapFields a b kvs)
  | .struct kvs => .struct (swapFields a b kvs)
  | .self p path => .self p path
  | .ref c path => .ref (swapId a b c) path
def swapList (a b : String) : List Exp → List Exp
  | [] => []
  | e :: es => swapExp a b e :: swapList a b es
def swapFields (a b : String) : List (String × Exp) → List (String × Exp)
  | [] => []
  | (k, e) :: es => (k, swapExp a b e) :: swapFields a b es
end

def swapEnv (a b : String) (env : Env) : Env :=
  { env with calls := env.calls.map fun e => (swapId a b e.1, e.2) }

def swapCall (a b : String) (c : Call) : Call :=
  { id := swapId a b c.id
    callee := c.callee
    mapped := c.mapped
    binds := c.binds.map fun bd => ⟨bd.param, bd.split, swapExp a b bd.exp⟩
    disabled := c.disabled.map fun d => (d.1, swapExp a b d.2) }

theorem callTy_swap (a b c : String) (env : Env) :
    (swapEnv a b env).callTy (swapId a b c) = env.callTy c := by
  simp [Env.callTy, swapEnv, lookup_swap]

theorem callVal_swap (a b c : String) (env : Env) :
    (swapEnv a b env).callVal (swapId a b c) = env.callVal c := by
  simp [Env.callVal, swapEnv, lookup_swap]

theorem selfTy_swap (a b p : String) (env : Env) : (swapEnv a b env).selfTy p = env.selfTy p := rfl

mutual
theorem eval_swap (st : StructTable) (a b : String) (env : Env) :
    ∀ e : Exp, eval st (swapEnv a b env) (swapExp a b e) = eval st env e
  | .lit j => by simp [swapExp, eval]
  | .arr xs => by simp [swapExp, eval, evalList_swap st a b env xs]
  | .map kvs => by simp [swapExp, eval, evalFields_swap st a b env kvs]
  | .struct kvs => by simp [swapExp, eval, evalFields_swap st a b env kvs]
  | .self p path => by simp [swapExp, eval, selfTy_swap]; rfl
  | .ref c path => by simp [swapExp, eval, callTy_swap, callVal_swap]
theorem evalList_swap (st : StructTable) (a b : String) (env : Env) :
    ∀ es : List Exp, evalList st (swapEnv a b env) (swapList a b es) = evalList st env es
  | [] => by simp [swapList, evalList]
  | e :: es => by simp [swapList, evalList, eval_swap st a b env e, evalList_swap st a b env es]
theorem evalFields_swap (st : StructTable) (a b : String) (env : Env) :
    ∀ kvs : List (String × Exp),
      evalFields st (swapEnv a b env) (swapFields a b kvs) = evalFields st env kvs
  | [] => by simp [swapFields, evalFields]
  | (k, e) :: es => by
    simp [swapFields, evalFields, eval_swap st a b env e, evalFields_swap st a b env es]
end

theorem splitMode_swap (st : StructTable) (a b : String) (env : Env) (e : Exp) :
    splitMode st (swapEnv a b env) (swapExp a b e) = splitMode st env e := by
  cases e <;> simp [swapExp, splitMode, callTy_swap, selfTy_swap]

theorem find_split_swap (a b : String) (binds : List Bind) :
    (binds.map fun bd => (⟨bd.param, bd.split, swapExp a b bd.exp⟩ : Bind)).find? (·.split)
      = (binds.find? (·.split)).map fun bd => ⟨bd.param, bd.split, swapExp a b bd.exp⟩ :=
  List.find?_map ..

theorem firstSplit_swap (a b : String) (c : Call) :
    firstSplit (swapCall a b c) = (firstSplit c).map (swapExp a b) := by
  unfold firstSplit
  simp only [swapCall, find_split_swap]
  cases c.binds.find? (·.split) with
  | some bd => simp
  | none =>
    simp only [Option.map_none]
    cases c.disabled with
    | none => simp
    | some d =>
      obtain ⟨s, e⟩ := d
      cases s <;> simp

theorem callMode_swap (st : StructTable) (a b : String) (env : Env) (c : Call) :
    callMode st (swapEnv a b env) (swapCall a b c) = callMode st env c := by
  unfold callMode
  rw [firstSplit_swap]
  have : (swapCall a b c).mapped = c.mapped := rfl
  rw [this]
  cases firstSplit c <;> simp [splitMode_swap]

theorem find_param_swap (a b : String) (binds : List Bind) (p : String) :
    (binds.map fun bd => (⟨bd.param, bd.split, swapExp a b bd.exp⟩ : Bind)).find? (fun bd => bd.param == p)
      = (binds.find? (fun bd => bd.param == p)).map fun bd => ⟨bd.param, bd.split, swapExp a b bd.exp⟩ :=
  List.find?_map ..

theorem argVals_swap (st : StructTable) (a b : String) (env : Env) (ins : List Param) (c : Call) :
    argVals st (swapEnv a b env) ins (swapCall a b c) = argVals st env ins c := by
  unfold argVals
  apply List.map_congr_left
  intro p _
  simp only [swapCall, find_param_swap]
  cases c.binds.find? (fun bd => bd.param == p.name) with
  | none => simp
  | some bd => simp [eval_swap]

theorem filter_split_vals (st : StructTable) (a b : String) (env : Env) (binds : List Bind) :
    ((binds.map fun bd => (⟨bd.param, bd.split, swapExp a b bd.exp⟩ : Bind)).filter (·.split)).map
        (fun bd => eval st (swapEnv a b env) bd.exp)
      = (binds.filter (·.split)).map (fun bd => eval st env bd.exp) := by
  rw [List.filter_map, List.map_map]
  exact List.map_congr_left fun bd _ => eval_swap st a b env bd.exp

theorem splitVals_swap (st : StructTable) (a b : String) (env : Env) (c : Call) :
    splitVals st (swapEnv a b env) (swapCall a b c) = splitVals st env c := by
  unfold splitVals
  have h1 := filter_split_vals st a b env c.binds
  simp only [swapCall] at h1 ⊢
  rw [h1]
  cases c.disabled with
  | none => rfl
  | some d =>
    obtain ⟨s, e⟩ := d
    cases s <;> simp [eval_swap]

theorem callIndices_swap (st : StructTable) (a b : String) (env : Env) (c : Call) :
    callIndices st (swapEnv a b env) (swapCall a b c) = callIndices st env c := by
  unfold callIndices
  rw [splitVals_swap]

theorem splitsAgree_swap (st : StructTable) (a b : String) (env : Env) (c : Call) :
    splitsAgree st (swapEnv a b env) (swapCall a b c) = splitsAgree st env c := by
  unfold splitsAgree
  rw [splitVals_swap]

def tInt : Ty := ⟨"int", 0, 0⟩
def tInts : Ty := ⟨"int", 0, 1⟩

/-- GEN / ECHO stages, INNER maps ECHO statically over [10,20,30], TOP maps INNER
over GEN's run-time output. -/
def exProg : Program :=
  { structs := []
    callables :=
      [ ("GEN", .stage [⟨"what", tInts⟩] [⟨"result", tInts⟩]),
        ("ECHO", .stage [⟨"what", tInt⟩, ⟨"k", tInt⟩] [⟨"result", tInt⟩]),
        ("INNER", .pipeline [⟨"v", tInt⟩] [⟨"r", tInts⟩]
          [ { id := "ECHO", callee := "ECHO", mapped := true,
              binds := [⟨"what", false, .self "v" []⟩,
                        ⟨"k", true, .arr [.lit (.atom "10"), .lit (.atom "20"), .lit (.atom "30")]⟩],
              disabled := none } ]
          [("r", .ref "ECHO" ["result"])]),
        ("TOP", .pipeline [⟨"xs", tInts⟩] [⟨"r", ⟨"int", 0, 2⟩⟩]
          [ { id := "GEN", callee := "GEN", mapped := false,
              binds := [⟨"what", false, .self "xs" []⟩], disabled := none },
            { id := "INNER", callee := "INNER", mapped := true,
              binds := [⟨"v", true, .ref "GEN" ["result"]⟩], disabled := none } ]
          [("r", .ref "INNER" ["r"])]) ]
    top := { id := "TOP", callee := "TOP", mapped := false,
             binds := [⟨"xs", false, .arr [.lit (.atom "1"), .lit (.atom "2")]⟩], disabled := none } }

/-- echo oracle: GEN returns its input (here [1,2]); ECHO returns `what` -/
def exOracle : Oracle := fun k =>
  match k.path, k.forks with
  | ["TOP", "GEN"], [] => some (.obj [("result", .arr [.atom "1", .atom "2"])])
  | ["TOP", "INNER", "ECHO"], [("INNER", .i 0), _] => some (.obj [("result", .atom "1")])
  | ["TOP", "INNER", "ECHO"], [("INNER", .i 1), _] => some (.obj [("result", .atom "2")])
  | _, _ => none

def exAliasCall (id x : String) : Call :=
  { id := id, callee := "S", mapped := false,
    binds := [⟨"x", false, .ref x ["o"]⟩, ⟨"y", false, .ref "C" []⟩], disabled := none }

end Proofs.DataflowAlias
