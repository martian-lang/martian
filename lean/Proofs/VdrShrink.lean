import Proofs.VdrPass
import Martian.VdrAll
import Proofs.VdrPath

/-! Two parts.  First, structural facts for every configuration: the disk only shrinks and what is logged as
removed was on disk (`Shr`, `shr_run`); only a consumer's completion makes it done (`run_done`); events other
than the passes remove nothing (`run_refused`); a fork that is neither volatile nor strict loses temp entries
and chunk-level files only, and accounts for them exactly (`run_removed_nonvol`, `exact_run_nonvol`).  Then the
whole pipestance (Martian/VdrAll.lean): `grun_eq`, `mem_proj`, `Layout`, `no_cross_fork_removal`. -/
namespace Martian.Vdr

/-- `s'` has lost disk entries of `s` and logged nothing else as removed -/
structure Shr (s s' : St) : Prop where
  disk : ∀ d ∈ s'.disk, d ∈ s.disk
  removed : ∀ d ∈ s'.removed, d ∈ s.removed ∨ d ∈ s.disk

theorem Shr.refl (s : St) : Shr s s := ⟨fun _ h => h, fun _ h => Or.inl h⟩
theorem Shr.trans {a b c : St} (x : Shr a b) (y : Shr b c) : Shr a c := by
  refine ⟨fun d h => x.disk d (y.disk d h), ?_⟩
  intro d h
  rcases y.removed d h with h1 | h1
  · exact x.removed d h1
  · exact Or.inr (x.disk d h1)
theorem Shr.ofEq {s s' : St} (hd : s'.disk = s.disk) (hr : s'.removed = s.removed) : Shr s s' :=
  ⟨fun _ h => hd ▸ h, fun _ h => Or.inl (hr ▸ h)⟩

theorem Shr.sweep {s s' : St} (p : DiskEnt → Bool) {gone : List DiskEnt} (hd : s'.disk = s.disk.filter (fun d => !p d))
    (hr : s'.removed = s.removed ++ gone) (hg : ∀ d ∈ gone, d ∈ s.disk) : Shr s s' := by
  refine ⟨fun d h => (List.mem_filter.mp (hd ▸ h)).1, ?_⟩
  intro d h
  rw [hr, List.mem_append] at h
  exact h.imp_right (hg d)

theorem shr_cleanPhase (c : Cfg) (s : St) (ph : Nat) : Shr s (cleanPhase c s ph) := by
  unfold cleanPhase
  split
  · exact Shr.refl s
  · exact Shr.sweep (fun d => d.kind == .tmp ph) rfl rfl (fun _ h => (List.mem_filter.mp h).1)

theorem shr_killChunks (c : Cfg) (s : St) : Shr s (killChunks c s) := by
  refine Shr.sweep (fun d => c.splits && d.kind == .chunk) rfl rfl ?_
  intro d h
  split at h
  · exact (List.mem_filter.mp h).1
  · cases h

theorem shr_vdrKillSome (c : Cfg) (s : St) (done : Bool) : Shr s (vdrKillSome c s done) :=
  vdrKillSome_induct (P := Shr s) (Q := Shr s)
    (fun s' h => h.trans (Shr.ofEq (normCache_frame c s').disk (normCache_frame c s').removed))
    (fun s' es _ _ h => h.trans (Shr.sweep _ rfl rfl (fun _ h => (List.mem_filter.mp h).1))) (fun _ h => h) (fun _ _ _ _ _ _ h => h.trans (Shr.ofEq rfl rfl))
    (Shr.refl s)

theorem Shr.own {c : Cfg} {s s' : St} (t : Own c s s') : Shr s s' := by
  cases t with
  | removeEmpty => have f := removeEmpty_frame c s; exact Shr.ofEq f.disk f.removed
  | cacheMap => exact Shr.ofEq (cacheMap_frame c s).disk (cacheMap_frame c s).removed
  | cleanPhase ph _ => exact shr_cleanPhase c s ph
  | dropDone _ => have f := dropDone_frame s; exact Shr.ofEq f.disk f.removed
  | vdrKillSome done _ _ _ _ => exact shr_vdrKillSome c s done
  | vdrKill hf _ _ _ => exact vdrKill_cases hf (fun _ => shr_vdrKillSome c s true) (fun _ => shr_killChunks c s)

theorem shr_run (c : Cfg) (s : St) (evs : List Ev) : Shr s (run c s evs) :=
  run_induct (P := Shr s) (fun _ _ h => h.trans (Shr.ofEq rfl rfl)) (fun _ h => h.trans (Shr.ofEq rfl rfl))
    (fun _ _ t h => h.trans (Shr.own t)) (Shr.refl s) evs

theorem vdrKillSome_done (c : Cfg) (s : St) (done : Bool) : (vdrKillSome c s done).doneNodes = s.doneNodes :=
  vdrKillSome_induct (P := fun s' => s'.doneNodes = s.doneNodes) (Q := fun s' => s'.doneNodes = s.doneNodes)
    (fun s' h => (normCache_frame c s').done.trans h) (fun _ _ _ _ h => h) (fun _ h => h) (fun _ _ _ _ _ _ h => h) rfl

theorem Own.doneNodes {c : Cfg} {s s' : St} (t : Own c s s') : s'.doneNodes = s.doneNodes := by
  cases t with
  | removeEmpty => exact (removeEmpty_frame c s).done
  | cacheMap => exact (cacheMap_frame c s).done
  | cleanPhase ph _ => exact (cleanPhase_fields c s ph).2.2.2.2
  | dropDone _ => exact (dropDone_frame s).done
  | vdrKillSome done _ _ _ _ => exact vdrKillSome_done c s done
  | vdrKill hf _ _ _ =>
    exact vdrKill_cases (P := fun b => b.doneNodes = s.doneNodes) hf (fun _ => vdrKillSome_done c s true) (fun _ => rfl)

theorem kill_done (c : Cfg) (s : St) : (kill c s).doneNodes = s.doneNodes :=
  kill_induct (P := fun s' => s'.doneNodes = s.doneNodes) (fun _ _ t h => t.doneNodes.trans h) rfl

theorem step_done (c : Cfg) (s : St) (e : Ev) :
    ∀ n ∈ (step c s e).doneNodes, n ∈ s.doneNodes ∨ e = .nodeDone n := by
  intro n hn
  cases e with
  | nodeDone m =>
    rcases List.mem_cons.mp hn with rfl | hn
    · exact Or.inr rfl
    · exact Or.inl hn
  | nodeFailed _ | nodeReset _ | restart => exact Or.inl hn
  | removeEmpty => exact Or.inl ((Own.removeEmpty (c := c) s).doneNodes ▸ hn)
  | cacheMap => exact Or.inl ((Own.cacheMap (c := c) s).doneNodes ▸ hn)
  | early upto =>
    have hn' : n ∈ (if s.final then s else cleanTmp c s (min upto 3)).doneNodes := hn
    split at hn'
    · exact Or.inl hn'
    · exact Or.inl ((cleanTmp_fields c s _).2.2.2.2 ▸ hn')
  | kill => exact Or.inl (kill_done c s ▸ hn)

theorem run_done (c : Cfg) (s : St) (evs : List Ev) :
    ∀ n ∈ (run c s evs).doneNodes, n ∈ s.doneNodes ∨ Ev.nodeDone n ∈ evs := by
  unfold run
  induction evs generalizing s with
  | nil => intro n hn; exact Or.inl hn
  | cons e r ih =>
    intro n hn
    rcases ih (step c s e) n hn with h | h
    · rcases step_done c s e n h with h1 | h1
      · exact Or.inl h1
      · exact Or.inr (h1 ▸ List.mem_cons_self)
    · exact Or.inr (List.mem_cons_of_mem _ h)

/-- the event is one of the passes that remove something -/
def Ev.removes : Ev → Bool
  | .early _ => true
  | .kill => true
  | _ => false

theorem step_refused (c : Cfg) (s : St) (e : Ev) (h : e.removes = false) :
    (step c s e).disk = s.disk ∧ (step c s e).removed = s.removed ∧ (step c s e).report = s.report ∧
    (step c s e).final = s.final := by
  cases e with
  | removeEmpty =>
    have f := removeEmpty_frame c s
    exact ⟨f.disk, f.removed, f.report, f.final⟩
  | cacheMap =>
    have f := cacheMap_frame c s
    exact ⟨f.disk, f.removed, f.report, f.final⟩
  | early _ | kill => cases h
  | _ => exact ⟨rfl, rfl, rfl, rfl⟩

theorem run_refused (c : Cfg) (s : St) (evs : List Ev) (h : ∀ e ∈ evs, e.removes = false) :
    (run c s evs).disk = s.disk ∧ (run c s evs).removed = s.removed ∧ (run c s evs).report = s.report ∧
    (run c s evs).final = s.final := by
  unfold run
  induction evs generalizing s with
  | nil => exact ⟨rfl, rfl, rfl, rfl⟩
  | cons e r ih =>
    obtain ⟨h1, h2, h3, h4⟩ := step_refused c s e (h e List.mem_cons_self)
    obtain ⟨g1, g2, g3, g4⟩ := ih (step c s e) (fun x hx => h x (List.mem_cons_of_mem _ hx))
    exact ⟨g1.trans h1, g2.trans h2, g3.trans h3, g4.trans h4⟩

theorem sumSize_append (a b : List DiskEnt) : sumSize (a ++ b) = sumSize a + sumSize b := by
  simp [sumSize, List.sum_append]

def Exact (s : St) : Prop := s.report.count = s.removed.length ∧ s.report.size = sumSize s.removed

theorem Exact.ofEq {s s' : St} (x : Exact s) (hr : s'.removed = s.removed) (hp : s'.report = s.report) : Exact s' := by
  unfold Exact at *
  rw [hr, hp]; exact x

theorem exact_cleanPhase (c : Cfg) (s : St) (ph : Nat) (x : Exact s) : Exact (cleanPhase c s ph) := by
  unfold cleanPhase
  split
  · exact x
  · unfold Exact at *
    simp only [List.length_append, sumSize_append]
    omega

theorem exact_killChunks (c : Cfg) (s : St) (x : Exact s) : Exact (killChunks c s) := by
  unfold Exact killChunks at *
  simp only [List.length_append, sumSize_append]
  omega

/-- a fork that is neither volatile nor strict never runs the file-level pass: `vdrKill` drops its chunk-level files -/
theorem Exact.own {c : Cfg} {s s' : St} (hv : c.volatile = false) (hs : c.strict = false) (t : Own c s s')
    (x : Exact s) : Exact s' := by
  cases t with
  | removeEmpty => have f := removeEmpty_frame c s; exact x.ofEq f.removed f.report
  | cacheMap => exact x.ofEq (cacheMap_frame c s).removed (cacheMap_frame c s).report
  | cleanPhase ph _ => exact exact_cleanPhase c s ph x
  | dropDone _ => have f := dropDone_frame s; exact x.ofEq f.removed f.report
  | vdrKillSome _ _ hst _ _ => rw [hs] at hst; cases hst
  | vdrKill hf _ _ _ => rw [vdrKill_nonvol hf hv]; exact exact_killChunks c s x

theorem exact_run_nonvol (c : Cfg) (s : St) (hv : c.volatile = false) (hs : c.strict = false) (evs : List Ev)
    (x : Exact s) : Exact (run c s evs) :=
  run_induct (fun _ _ x => x.ofEq rfl rfl) (fun _ x => x.ofEq rfl rfl) (fun _ _ t x => x.own hv hs t) x evs

/-- what a fork that is neither volatile nor strict can lose -/
def Losable (c : Cfg) (d : DiskEnt) : Prop := isTmp d.kind = true ∨ (c.splits = true ∧ d.kind = .chunk)

theorem run_removed_nonvol (c : Cfg) (s : St) (hv : c.volatile = false) (hs : c.strict = false) (evs : List Ev) :
    ∀ d ∈ (run c s evs).removed, d ∈ s.removed ∨ Losable c d := by
  refine run_induct (P := fun s' => ∀ d ∈ s'.removed, d ∈ s.removed ∨ Losable c d)
    (fun _ _ h => h) (fun _ h => h) ?_ (fun d h => Or.inl h) evs
  intro a b t h d hd
  have same : b.removed = a.removed → d ∈ s.removed ∨ Losable c d := fun e => h d (e ▸ hd)
  cases t with
  | removeEmpty => exact same (removeEmpty_frame c a).removed
  | cacheMap => exact same (cacheMap_frame c a).removed
  | cleanPhase ph _ =>
    unfold cleanPhase at hd
    split at hd
    · exact h d hd
    · rcases List.mem_append.mp hd with hd | hd
      · exact h d hd
      · have : d.kind = .tmp ph := by simpa using (List.mem_filter.mp hd).2
        exact Or.inr (Or.inl (by rw [this]; rfl))
  | dropDone _ => exact same (dropDone_frame a).removed
  | vdrKillSome _ _ hst _ _ => rw [hs] at hst; cases hst
  | vdrKill hf _ _ _ =>
    rw [vdrKill_nonvol hf hv] at hd
    rcases List.mem_append.mp hd with hd | hd
    · exact h d hd
    · split at hd
      · rename_i hsp
        exact Or.inr (Or.inr ⟨hsp, by simpa using (List.mem_filter.mp hd).2⟩)
      · cases hd

end Martian.Vdr

/-! The product system is the family of its components: after any global
history every fork is in the state its own projection of the history leads to. -/
namespace Martian.Vdr

theorem grun_eq (fs : List PFork) (evs : List GEv) :
    grun fs evs = fs.map fun f => { f with st := run f.cfg f.st (proj f.id evs) } := by
  induction evs generalizing fs with
  | nil => simp [grun, proj, run]
  | cons e r ih =>
    have h : grun fs (e :: r) = grun (gstep fs e) r := rfl
    rw [h, ih]
    cases e with
    | nodeDone n =>
      simp only [gstep, List.map_map]
      apply List.map_congr_left
      intro f _
      simp [proj, run]
    | fork id ev =>
      simp only [gstep, List.map_map]
      apply List.map_congr_left
      intro f _
      by_cases hf : f.id = id
      · simp [proj, run, hf]
      · have h2 : (id == f.id) = false := by simpa using fun e : id = f.id => hf e.symm
        simp [proj, h2, hf]

theorem mem_proj {id : ForkId} {evs : List GEv} {e : Ev} (h : e ∈ proj id evs) :
    (∃ n, e = .nodeDone n ∧ GEv.nodeDone n ∈ evs) ∨ GEv.fork id e ∈ evs := by
  induction evs with
  | nil => simp [proj] at h
  | cons g r ih =>
    have tail : e ∈ proj id r → (∃ n, e = .nodeDone n ∧ GEv.nodeDone n ∈ g :: r) ∨ GEv.fork id e ∈ g :: r :=
      fun h => (ih h).imp (fun ⟨m, e1, e2⟩ => ⟨m, e1, List.mem_cons_of_mem _ e2⟩) (List.mem_cons_of_mem _)
    cases g with
    | nodeDone n =>
      rcases List.mem_cons.mp h with rfl | h
      · exact Or.inl ⟨n, rfl, List.mem_cons_self⟩
      · exact tail h
    | fork f ev =>
      simp only [proj] at h
      split at h
      · rename_i hf
        rcases List.mem_cons.mp h with rfl | h
        · exact Or.inr ((show f = id by simpa using hf) ▸ List.mem_cons_self)
        · exact tail h
      · exact tail h

/-- where the forks live: every fork's entries lie inside its own directory, the
directories of different forks are not inside one another, fork ids are unique,
nothing has been removed yet -/
structure Layout (dir : ForkId → Path) (fs : List PFork) : Prop where
  own : ∀ f ∈ fs, ∀ d ∈ f.st.disk, pathIsInside d.path (dir f.id) = true
  apart : ∀ f ∈ fs, ∀ q ∈ fs, f.id ≠ q.id →
    pathIsInside (dir f.id) (dir q.id) = false ∧ pathIsInside (dir q.id) (dir f.id) = false
  uniq : ∀ f ∈ fs, ∀ q ∈ fs, f.id = q.id → f = q
  fresh : ∀ f ∈ fs, f.st.removed = []

/-- no path a fork removes has an entry of ANOTHER fork at or below it -/
theorem no_cross_fork_removal {dir : ForkId → Path} {fs : List PFork} (lay : Layout dir fs) (evs : List GEv)
    {f q : PFork} (hf : f ∈ fs) (hq : q ∈ fs) (hne : f.id ≠ q.id) :
    ∀ g ∈ (run f.cfg f.st (proj f.id evs)).removed, ∀ d ∈ q.st.disk, pathIsInside d.path g.path = false := by
  intro g hg d hd
  cases hin : pathIsInside d.path g.path with
  | false => rfl
  | true =>
    exfalso
    have hg0 : g ∈ f.st.disk := by
      rcases (shr_run f.cfg f.st (proj f.id evs)).removed g hg with h | h
      · rw [lay.fresh f hf] at h; cases h
      · exact h
    have h1 := inside_trans hin (lay.own f hf g hg0)
    have h2 := lay.own q hq d hd
    obtain ⟨a1, a2⟩ := lay.apart f hf q hq hne
    rcases inside_comparable h1 h2 with h | h
    · rw [a1] at h; cases h
    · rw [a2] at h; cases h

end Martian.Vdr
