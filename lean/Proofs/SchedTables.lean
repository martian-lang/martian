import Martian.SchedTables
import Proofs.SchedOnce

/-! The table-driven `forkStateOf` equals the model's (`forkStateOf_eq_table`; for `scanForks` the equation is
`scanForks_is_table` in Props/C02.lean); every scheduler action the
model allows is the action `Fork.stepStage`'s chain assigns to the current fork state (`doChunks`,
`doJoin`, `doComplete` here; the three `doSplit` cases are one line each in Props/C02.lean). -/
namespace Martian.Sched

theorem chunkLoop_spec (cs : List (Option MState)) (c r : Bool) :
    chunkLoop cs c r =
      if cs.any (· == some .failed) then none
      else some (c && cs.all (· == some .complete),
                 r && cs.all (fun x => x == some .complete || x == some .queued || x == some .running)) := by
  induction cs generalizing c r with
  | nil => simp [chunkLoop]
  | cons x xs ih =>
    have step : chunkLoop (x :: xs) c r =
        if x = some .failed then none
        else chunkLoop xs (c && x == some .complete)
          (r && (x == some .complete || x == some .queued || x == some .running)) := by
      rcases x with _ | m <;> (try cases m) <;> simp [chunkLoop, chunkEff, chunkSwitch] <;>
        cases c <;> cases r <;> rfl
    rw [step, ih]
    by_cases hx : x = some .failed
    · simp [hx]
    · simp [hx, Bool.and_assoc]

theorem chunkSum_eq_table (cs : List (Option MState)) : chunkSum cs = chunkSumTable cs := by
  unfold chunkSum chunkSumTable
  rw [chunkLoop_spec]
  by_cases he : cs.isEmpty = true
  · simp [he]
  · by_cases hf : cs.any (· == some .failed) = true
    · simp [he, hf]
    · simp only [he, hf, Bool.false_eq_true, if_false, Bool.true_and]

/-! `runSteps` on `forkSteps`, one statement of `Fork.getState` at a time (each step compares the
names of the members once) -/

theorem runSteps_own (fm jm sm : Option MState) (c : CSum) : runSteps fm jm sm c forkSteps =
    match fm with
    | some .failed => .failed
    | some .complete => .complete
    | some .disabled => .disabled
    | _ => runSteps fm jm sm c (forkSteps.drop 1) := by
  rcases fm with _ | fm <;> (try cases fm) <;> rfl

theorem runSteps_join (fm jm sm : Option MState) (c : CSum) :
    runSteps fm jm sm c (forkSteps.drop 1) =
    match jm with
    | some .failed => .failed
    | some st => .join st
    | none => runSteps fm jm sm c (forkSteps.drop 2) := by
  rcases jm with _ | jm <;> (try cases jm) <;> rfl

theorem runSteps_chunks (fm jm sm : Option MState) (c : CSum) :
    runSteps fm jm sm c (forkSteps.drop 2) =
    match c with
    | .failed => .failed
    | .complete => .chunksComplete
    | .running => .chunksRunning
    | .none => runSteps fm jm sm c (forkSteps.drop 3) := by
  cases c <;> rfl

theorem runSteps_split (fm jm sm : Option MState) (c : CSum) :
    runSteps fm jm sm c (forkSteps.drop 3) =
    match sm with
    | some .failed => .failed
    | some st => .split st
    | none => .ready := by
  rcases sm with _ | sm <;> (try cases sm) <;> rfl

theorem forkStateOf_eq_table (fm jm sm : Option MState) (cs : List (Option MState)) :
    forkStateOf fm jm cs sm = runSteps fm jm sm (chunkSumTable cs) forkSteps := by
  rw [← chunkSum_eq_table, runSteps_own, runSteps_join, runSteps_chunks, runSteps_split]
  rfl

/-- chunks are submitted (`Chunk.step` inside `doChunks`) only in fork state `split_complete`
— or when the fork has meanwhile failed (a sibling chunk, or the fork itself: `doChunks`
goes on submitting the remaining chunks of the same pass) -/
theorem launch_chunk_is_doChunks {s : State} {n f i : Nat}
    (h : launchOk s ⟨n, f, .chunk i⟩ = true) :
    stageAction (forkState s n f) = some .doChunks ∨ forkState s n f = .failed := by
  obtain ⟨_, hh, _, _, hnd⟩ := launchOk_common h
  obtain ⟨_, hc, hs, hj⟩ := (launchOk_iff.mp h).2
  by_cases hff : s.st ⟨n, f, .fork⟩ = some .failed
  · right; simp [forkState, forkStateOf, hff]
  rw [forkState_open hnd hff]
  by_cases hcf : some .failed ∈ chunkStates s n f
  · right; simp [forkStateOf, hj, chunkSum_failed_of hcf]
  · left
    have hcs := chunkSum_none_of (mem_chunkStates.mpr ⟨i, hasObj_chunk hh, hc⟩) hcf
    simp only [forkStateOf, hj, hcs, hs]; rfl

/-- the join is submitted (`doJoin`) in fork state `chunks_complete`, or — a split that
defined no chunks: `doChunks` skips the chunk phase in the same pass — `split_complete`;
or the fork's own metadata has meanwhile failed -/
theorem launch_join_is_doJoin {s : State} {n f : Nat} (h : launchOk s ⟨n, f, .join⟩ = true) :
    stageAction (forkState s n f) = some .doJoin ∨
    (s.nch n f = 0 ∧ stageAction (forkState s n f) = some .doChunks) ∨
    forkState s n f = .failed := by
  obtain ⟨_, _, _, _, hnd⟩ := launchOk_common h
  obtain ⟨_, hj, hz, hnz⟩ := (launchOk_iff.mp h).2
  by_cases hff : s.st ⟨n, f, .fork⟩ = some .failed
  · right; right; simp [forkState, forkStateOf, hff]
  rw [forkState_open hnd hff]
  by_cases h0 : s.nch n f = 0
  · have hcs : chunkStates s n f = [] := by simp [chunkStates, h0]
    refine .inr (.inl ⟨h0, ?_⟩)
    simp only [forkStateOf, hj, hcs, chunkSum, List.isEmpty_nil, if_true, hz h0]; rfl
  · have hcs : chunkSum (chunkStates s n f) = .complete :=
      chunkSum_complete_of (by simp [chunkStates]; omega) fun c hc => by
        obtain ⟨i, hi, rfl⟩ := mem_chunkStates.mp hc
        exact allChunksComplete_iff.mp (hnz h0) i hi
    left
    simp only [forkStateOf, hj, hcs]; rfl

/-- the fork's `_complete` of a stage is written (`doComplete`) in fork state `join_complete`
(or the fork's own metadata has meanwhile failed) -/
theorem fork_complete_is_doComplete {s : State} {n f : Nat} (hk : s.kind n ≠ .pipeline)
    (h : mrpWriteOk s ⟨n, f, .fork⟩ .complete = true) :
    stageAction (forkState s n f) = some .doComplete ∨ forkState s n f = .failed := by
  obtain ⟨_, _, hnd, hj⟩ := mrpWriteOk_iff.mp h
  by_cases hff : s.st ⟨n, f, .fork⟩ = some .failed
  · right; simp [forkState, forkStateOf, hff]
  left
  rw [forkState_open hnd hff]
  simp only [forkStateOf, hj.resolve_left hk]; rfl

end Martian.Sched
