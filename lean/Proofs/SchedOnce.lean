import Martian.SchedProgress
import Proofs.SchedTrans

/-! How the event classes of Martian/SchedProgress.lean lie in one another (`sched_quiet`, `quiet_iff`,
`quiet_ff`, `ff_nf`, `benign_nf`; the class `Ev.failureFree` is of Martian/Sched.lean).  The completion chain fork ⇒ join ⇒ chunks ⇒ split.  Whatever
fails, in every reachable state: how a job ends (`EndInv`) and what a non-empty join directory or a submitted chunk says
about the chunks and the split (`ChainF`); with the invariants of Proofs/Sched and
Proofs/SchedTrans they make `ReachInv`, proved by the one induction on `Reach` (`reach_inv`).
In runs without failure events: `ChainInv`, `CleanReach`.  Without a restart or reset besides
(`FFReach`) the invariant `FFInv` follows, by which every complete job object was submitted
exactly once (C03 `exactly_once_at_complete`).  Also `CleanInv`, `complete_not_resettable`, `ObjOK`, `join_fill`, `launch_pre_done` (a launched job has finished
prenodes), and `ExactlyOnce` / `exactly_once_of_inv`. -/
namespace Martian.Sched

/-! The event classes, from the narrowest: `sched` ⊆ `quiet` = neither `failing` nor `structural`
⊆ `failureFree` ⊆ not `failing` ⊇ `benign`. -/

theorem sched_quiet {s : State} {e : Ev} (h : e.sched s = true) : e.quiet s = true := by
  cases e <;> simp_all [Ev.sched, Ev.quiet, Ev.failing, Ev.structural]

theorem quiet_iff {s : State} {e : Ev} :
    e.quiet s = true ↔ e.failing = false ∧ e.structural s = false := by simp [Ev.quiet]

theorem quiet_ff {s : State} {e : Ev} (h : e.quiet s = true) : e.failureFree = true := by
  cases e <;> simp_all [Ev.quiet, Ev.failing, Ev.structural, Ev.failureFree]

theorem ff_nf {e : Ev} (he : e.failureFree = true) : e.failing = false := by
  cases e <;> simp_all [Ev.failureFree, Ev.failing]

theorem benign_nf {s : State} {e : Ev} (h : e.benign s = true) : e.failing = false := by
  simp only [Ev.benign, Bool.and_eq_true, Bool.not_eq_true'] at h; exact h.1

def CleanNode (s : State) (n : Nat) : Prop :=
  ∀ f r, (s.m ⟨n, f, r⟩).disk.has .errors = false ∧ (s.m ⟨n, f, r⟩).disk.has .assert = false

def CleanInv (s : State) : Prop := ∀ n, CleanNode s n

theorem cleanInv_step {s : State} {e : Ev} (hen : enabled s e = true) (hnf : e.failing = false)
    (h : CleanInv s) : CleanInv (apply s e) := by
  intro n f r
  refine ⟨Bool.eq_false_iff.mpr fun h1 => ?_, Bool.eq_false_iff.mpr fun h1 => ?_⟩
  · rcases errors_origin hen (h n f r).1 h1 with ⟨he, _⟩ | he | he <;> subst he <;>
      simp [Ev.failing] at hnf
  · have he := assert_origin hen (h n f r).2 h1
    subst he; simp [Ev.failing] at hnf

theorem disk_complete_of_st {s : State} (hobj : ObjsInv s) {o : Obj}
    (h : s.st o = some .complete) : (s.m o).disk.has .complete = true :=
  (hobj o).sub _ (metaState_complete h).2.2

theorem dst_complete_of {s : State} {o : Obj}
    (hc : (s.m o).disk.has .errors = false ∧ (s.m o).disk.has .assert = false)
    (h : (s.m o).disk.has .complete = true) : s.dst o = some .complete := by
  unfold State.dst; rw [metaState_clean hc.1 hc.2, h]; rfl

/-- default mode: an object whose directory says complete (and carries no failure) is
never reset — job object or mrp's stub alike -/
theorem complete_not_resettable {s : State} (hfull : s.full = false) {o : Obj}
    (hcl : (s.m o).disk.has .errors = false ∧ (s.m o).disk.has .assert = false)
    (hc : (s.m o).disk.has .complete = true) : enabled s (.reset o) = false :=
  Bool.eq_false_iff.mpr fun hen => by
    have hro := (en_reset.mp hen).2
    -- the last disjunct is `restartQueuedLocal` (`_queued_locally` there, not complete):
    -- a complete job only loses the sentinel
    simp [hfull, dst_complete_of hcl hc] at hro

/-- per object (not the fork's own metadata): a live job has recorded no outcome; an object whose
directory says complete carries no `_assert` and no `_errors` that mrp has not seen (a job ends
once; later `_errors` are mrp's own); `_errors` unknown to mrp were written by a submitted job -/
structure EndObj (s : State) (o : Obj) : Prop where
  a0 : o ∈ s.alive → (s.m o).disk.has .jobinfo = true
  a : o ∈ s.alive → (s.m o).disk.has .complete = false ∧ (s.m o).disk.has .assert = false ∧
    ((s.m o).disk.has .errors = true → (s.m o).seen.has .errors = true)
  b : (s.m o).disk.has .complete = true → (s.m o).disk.has .assert = false ∧
    ((s.m o).disk.has .errors = true → (s.m o).seen.has .errors = true)
  c : (s.m o).disk.has .errors = true →
    (s.m o).seen.has .errors = true ∨ (s.m o).disk.has .jobinfo = true

def EndInv (s : State) : Prop := ∀ o : Obj, o.r ≠ .fork → EndObj s o

theorem endInv_step {s : State} {e : Ev} (hobj : ObjsInv s) (hrole : RoleInv s)
    (h : EndInv s) (hen : enabled s e = true) : EndInv (apply s e) := by
  intro o hr
  have hp := h o hr
  by_cases hreset : e = .reset o
  · subst hreset
    have hm : (apply s (.reset o)).m o = {} := by rw [apply_m]; simp
    have hna : o ∉ (apply s (.reset o)).alive := fun hmem =>
      (mem_alive_apply.mp hmem).elim (fun h' => by cases h') (fun h' => h'.2.2.2.2 rfl)
    constructor
    · intro h'; exact absurd h' hna
    · intro h'; exact absurd h' hna
    · rw [hm]; simp
    · rw [hm]; simp
  by_cases hl : e = .launch o
  · subst hl
    obtain ⟨_, hjob, hst⟩ := launchOk_facts (en_launch.mp hen)
    obtain ⟨hji, hcomp⟩ := st_none_disk hobj hrole hst
    have hass : (s.m o).disk.has .assert = false :=
      Bool.eq_false_iff.mpr fun hx => by simp [(hobj o).kk hjob (.inr (.inr hx))] at hji
    have herr : (s.m o).disk.has .errors = false :=
      Bool.eq_false_iff.mpr fun hx => by
        rcases hp.c hx with h' | h'
        · simp [(metaState_none hst).1] at h'
        · simp [hji] at h'
    have hm : (apply s (.launch o)).m o = put .queuedLocally (put .jobinfo (s.m o)) := by
      rw [apply_m]; simp
    constructor
    · intro _; rw [hm]; simp [put, has_add]
    · intro _; rw [hm]; simp [put, has_add, hcomp, hass, herr]
    · rw [hm]; simp [put, has_add, hcomp]
    · rw [hm]; simp [put, has_add, herr]
  -- every other event
  have dmono : ∀ y, y ≠ Sentinel.queuedLocally → (s.m o).disk.has y = true →
      ((apply s e).m o).disk.has y = true := fun y hy => disk_mono hreset hy
  have smono : ∀ y, y ≠ Sentinel.queuedLocally → (s.m o).seen.has y = true →
      ((apply s e).m o).seen.has y = true := fun y hy => seen_mono hobj hreset hy
  have alive_pre : o ∈ (apply s e).alive → o ∈ s.alive ∧ (∀ x, e ≠ .jobend o x) ∧
      e ≠ .silentfail o := fun hmem =>
    (mem_alive_apply.mp hmem).elim (fun h' => absurd h' hl) (fun h' => ⟨h'.1, h'.2.1, h'.2.2.1⟩)
  -- `_errors` on disk afterwards: written by mrp just now (and seen), there before, or the job's
  have errors_seen : ((apply s e).m o).disk.has .errors = true →
      ((apply s e).m o).seen.has .errors = true ∨ (s.m o).disk.has .errors = true ∨
      e = .jobend o .errors := by
    intro h1
    cases h0 : (s.m o).disk.has .errors
    · rcases errors_origin hen h0 h1 with ⟨he, _⟩ | he | he
      · subst he; exact .inl (by rw [apply_m]; simp [put, has_add])
      · subst he; exact .inl (by rw [apply_m]; simp [put, has_add])
      · exact .inr (.inr he)
    · exact .inr (.inl rfl)
  constructor
  · intro hmem
    exact dmono _ (by simp) (hp.a0 (alive_pre hmem).1)
  · intro hmem
    obtain ⟨hal, hnj, hns⟩ := alive_pre hmem
    obtain ⟨hc, hass, herr⟩ := hp.a hal
    refine ⟨Bool.eq_false_iff.mpr fun hx => ?_, Bool.eq_false_iff.mpr fun hx => ?_, fun hx => ?_⟩
    · rcases complete_origin hen hc hx with he | ⟨_, hw⟩
      · exact absurd he (hnj _)
      · have := (st_none_disk hobj hrole ((mrpWriteOk_complete hw).2.2.2 hr)).1
        rw [hp.a0 hal] at this; cases this
    · exact absurd (assert_origin hen hass hx) (hnj _)
    · rcases errors_seen hx with h' | h' | h'
      · exact h'
      · exact smono _ (by simp) (herr h')
      · exact absurd h' (hnj _)
  · intro hx
    cases hc0 : (s.m o).disk.has .complete
    · -- `_complete` is new
      rcases complete_origin hen hc0 hx with he | ⟨he, hw⟩
      · subst he
        obtain ⟨_, hass, herr⟩ := hp.a (en_jobend.mp hen).2.2.2.2.2.2
        have hm : (apply s (.jobend o .complete)).m o = toDisk .complete (s.m o) := by
          rw [apply_m]; simp
        rw [hm]
        refine ⟨by simp [toDisk, has_add, hass], fun h' => ?_⟩
        have : (s.m o).disk.has .errors = true := by simpa [toDisk, has_add] using h'
        simpa [toDisk] using herr this
      · subst he
        obtain ⟨_, _, hnj, hst⟩ := mrpWriteOk_complete hw
        have hsn := metaState_none (hst hr)
        have hsub := ((hrole o).nj hnj).2.2.2
        have hass : (s.m o).disk.has .assert = false :=
          Bool.eq_false_iff.mpr fun hx' => by simp [hsub _ hx'] at hsn
        have herr : (s.m o).disk.has .errors = false :=
          Bool.eq_false_iff.mpr fun hx' => by simp [hsub _ hx'] at hsn
        have hm : (apply s (.W o .complete)).m o = put .complete (s.m o) := by
          rw [apply_m]; simp
        rw [hm]
        exact ⟨by simp [put, has_add, hass], by simp [put, has_add, herr]⟩
    · -- a job that has recorded `_complete` has ended: no `_assert`, no `_errors` of its own
      obtain ⟨hass, herr⟩ := hp.b hc0
      have ended : ∀ x, e ≠ .jobend o x := fun x he => by
        subst he; exact absurd (en_jobend.mp hen).2.2.2.2.1 (by simp [hc0])
      refine ⟨Bool.eq_false_iff.mpr fun hx' => ended _ (assert_origin hen hass hx'), fun hx' => ?_⟩
      rcases errors_seen hx' with h' | h' | h'
      · exact h'
      · exact smono _ (by simp) (herr h')
      · exact absurd h' (ended _)
  · intro hx
    rcases errors_seen hx with h' | h' | h'
    · exact .inl h'
    · exact (hp.c h').imp (smono _ (by simp)) (dmono _ (by simp))
    · subst h'
      exact .inr (dmono _ (by simp) (en_jobend.mp hen).2.2.1)

/-- the directory says complete and nothing else -/
def ObjOK (s : State) (o : Obj) : Prop :=
  (s.m o).disk.has .complete = true ∧ (s.m o).disk.has .errors = false ∧
    (s.m o).disk.has .assert = false

theorem objOK_of_st_complete {s : State} (hobj : ObjsInv s) (hend : EndInv s) {o : Obj}
    (hr : o.r ≠ .fork) (h : s.st o = some .complete) : ObjOK s o := by
  have hd := disk_complete_of_st hobj h
  obtain ⟨hass, herr⟩ := (hend o hr).b hd
  exact ⟨hd, Bool.eq_false_iff.mpr fun hx => absurd (herr hx) (by simp [(metaState_complete h).1]), hass⟩

theorem objOK_step {s : State} {e : Ev} (hend : EndInv s)
    (hfull : s.full = false) (hen : enabled s e = true) {o : Obj} (hr : o.r ≠ .fork)
    (hok : ObjOK s o) (hnw : mrpWriteOk s o .errors = false) : ObjOK (apply s e) o := by
  obtain ⟨hc, herr, hass⟩ := hok
  have hne : e ≠ .reset o := by
    intro he; subst he
    rw [complete_not_resettable hfull ⟨herr, hass⟩ hc] at hen; cases hen
  -- the job has recorded `_complete`: it has ended
  have ended : ∀ x, e ≠ .jobend o x := fun x he => by
    subst he; exact absurd (en_jobend.mp hen).2.2.2.2.1 (by simp [hc])
  refine ⟨disk_mono hne (by simp) hc, Bool.eq_false_iff.mpr fun hx => ?_,
    Bool.eq_false_iff.mpr fun hx => ended _ (assert_origin hen hass hx)⟩
  rcases errors_origin hen herr hx with ⟨_, hw⟩ | he | he
  · simp [hnw] at hw
  · subst he
    exact absurd ((hend o hr).a (en_silentfail.mp hen).2.2.2).1 (by simp [hc])
  · exact ended _ he

def joinEmpty (s : State) (n f : Nat) : Prop :=
  (s.m ⟨n, f, .join⟩).disk.has .jobinfo = false ∧ (s.m ⟨n, f, .join⟩).disk.has .complete = false

theorem st_join_of_nonempty {s : State} (hobj : ObjsInv s) (hrole : RoleInv s) {n f : Nat}
    (h : ¬ joinEmpty s n f) : s.st ⟨n, f, .join⟩ ≠ none :=
  fun hst => h (st_none_disk hobj hrole hst)

/-- The join directory is filled by the submission of the join or by mrp's stub, and by nothing
else.  At that moment every chunk the split defined is seen complete (without chunks: the
split), and the event touches nothing but the join's directory. -/
theorem join_fill {s : State} {e : Ev} {n f : Nat} (hen : enabled s e = true)
    (h : joinEmpty s n f) (h' : ¬ joinEmpty (apply s e) n f) :
    (∀ i, i < s.nch n f → s.st ⟨n, f, .chunk i⟩ = some .complete) ∧
    (s.nch n f = 0 → s.st ⟨n, f, .split⟩ = some .complete) ∧
    (apply s e).nch n f = s.nch n f ∧
    ∀ r, r ≠ .join → (apply s e).m ⟨n, f, r⟩ = s.m ⟨n, f, r⟩ := by
  have key : e = .launch ⟨n, f, .join⟩ ∨
      (e = .W ⟨n, f, .join⟩ .complete ∧ mrpWriteOk s ⟨n, f, .join⟩ .complete = true) := by
    cases hx : ((apply s e).m ⟨n, f, .join⟩).disk.has .jobinfo
    · cases hy : ((apply s e).m ⟨n, f, .join⟩).disk.has .complete
      · exact absurd ⟨hx, hy⟩ h'
      · rcases complete_origin hen h.2 hy with he | he
        · subst he; exact absurd (en_jobend.mp hen).2.2.1 (by simp [h.1])
        · exact .inr he
    · exact .inl (jobinfo_origin hen h.1 hx)
  rcases key with he | ⟨he, hw⟩
  · subst he
    obtain ⟨_, _, hz, hnz⟩ := (launchOk_iff.mp (en_launch.mp hen)).2
    exact ⟨fun i hi => allChunksComplete_iff.mp (hnz (by omega)) i hi, hz, by rw [apply_nch],
      fun r hr => by simp [apply_m, hr.symm]⟩
  · subst he
    obtain ⟨_, _, _, _, _, hpos, hacc⟩ := mrpWriteOk_iff.mp hw
    exact ⟨allChunksComplete_iff.mp hacc, fun hz => by omega, by rw [apply_nch],
      fun r hr => by simp [apply_m, hr.symm]⟩

theorem hasObj_chunk {s : State} {n f i : Nat} (h : s.hasObj ⟨n, f, .chunk i⟩ = true) :
    i < s.nch n f := by
  simp only [State.hasObj, Bool.and_eq_true, decide_eq_true_eq] at h
  exact h.2

/-- the completion chain, whatever fails: only chunks in range have anything in their directory;
once the join has been submitted (or stubbed) every chunk in range is complete and nothing else;
once a chunk or the join has been submitted the split is complete and nothing else -/
structure ChainF (s : State) : Prop where
  k0 : ∀ n f i y, (s.m ⟨n, f, .chunk i⟩).disk.has y = true → i < s.nch n f
  k1 : ∀ n f, ¬ joinEmpty s n f → ∀ i, i < s.nch n f → ObjOK s ⟨n, f, .chunk i⟩
  k2 : ∀ n f, (¬ joinEmpty s n f ∨ ∃ i, (s.m ⟨n, f, .chunk i⟩).disk.has .jobinfo = true) →
    ObjOK s ⟨n, f, .split⟩

theorem chainF_step {s : State} {e : Ev} (hobj : ObjsInv s) (hrole : RoleInv s) (hend : EndInv s)
    (hfull : s.full = false) (h : ChainF s) (hen : enabled s e = true) : ChainF (apply s e) := by
  have stepOK := fun (o : Obj) (hr : o.r ≠ .fork) => objOK_step hend hfull hen hr
  constructor
  · intro n f i y hj
    cases hc : (s.m ⟨n, f, .chunk i⟩).disk.has y
    · -- a new file: the object exists, or its job was submitted before
      have old : (s.m ⟨n, f, .chunk i⟩).disk.has .jobinfo = true → i < s.nch n f := h.k0 n f i _
      rcases disk_origin hen hc hj with ⟨he, _⟩ | he | ⟨he, _⟩ | ⟨he, _⟩ | ⟨he, _⟩ <;> subst he <;>
        rw [apply_nch]
      · exact hasObj_chunk (en_W.mp hen).2.1
      · exact old (en_jobend.mp hen).2.2.1
      · exact hasObj_chunk (launchOk_common (en_launch.mp hen)).2.1
      · exact old (en_joblog.mp hen).2.1
      · exact old (en_silentfail.mp hen).2.2.1
    · -- chunk objects are only dropped when their directory is empty
      have hi := h.k0 n f i y hc
      rcases nch_step s e n f with h' | h'
      · rwa [h']
      · rw [h'] at hen
        rcases (en_mkchunks hen).2.2 with ⟨_, hz, _⟩ | ⟨_, hdrop, _⟩
        · omega
        · exact (hdrop i hi).resolve_right fun h' => by simp [h'] at hc
  · intro n f hje' i hi
    by_cases hje : joinEmpty s n f
    · -- the join directory is being filled now
      obtain ⟨hch, _, hn, hm⟩ := join_fill hen hje hje'
      rw [hn] at hi
      have := objOK_of_st_complete hobj hend (o := ⟨n, f, .chunk i⟩) (by simp) (hch i hi)
      unfold ObjOK at this ⊢
      rw [hm _ (by simp)]; exact this
    · -- the chunk count does not grow while the join exists, and mrp fails no chunk any more
      have hle : (apply s e).nch n f ≤ s.nch n f := by
        rcases nch_step s e n f with h' | h'
        · exact Nat.le_of_eq h'
        · rw [h'] at hen
          rcases (en_mkchunks hen).2.2 with ⟨_, _, _, hj⟩ | ⟨_, _, hg⟩
          · exact absurd hj (st_join_of_nonempty hobj hrole hje)
          · exact hg.resolve_right hje
      refine stepOK _ (by simp) (h.k1 n f hje i (Nat.lt_of_lt_of_le hi hle))
        (Bool.eq_false_iff.mpr fun hw => ?_)
      exact st_join_of_nonempty hobj hrole hje (mrpWriteOk_iff.mp hw).2
  · intro n f hp'
    by_cases hp : ¬ joinEmpty s n f ∨ ∃ i, (s.m ⟨n, f, .chunk i⟩).disk.has .jobinfo = true
    · -- mrp fails the split only before anything else of the fork is submitted
      refine stepOK _ (by simp) (h.k2 n f hp) (Bool.eq_false_iff.mpr fun hw => ?_)
      obtain ⟨_, hj, hnc⟩ := mrpWriteOk_iff.mp hw
      rcases hp with hp | ⟨i, hi⟩
      · exact st_join_of_nonempty hobj hrole hp hj
      · simp [hnc i (h.k0 n f i _ hi)] at hi
    · have hje : joinEmpty s n f := Classical.byContradiction fun hx => hp (.inl hx)
      have hnc : ∀ i, (s.m ⟨n, f, .chunk i⟩).disk.has .jobinfo = false := fun i =>
        Bool.eq_false_iff.mpr fun hx => hp (.inr ⟨i, hx⟩)
      -- the event that makes the premise true needs the split seen complete and leaves it alone
      have key : s.st ⟨n, f, .split⟩ = some .complete ∧
          (apply s e).m ⟨n, f, .split⟩ = s.m ⟨n, f, .split⟩ := by
        by_cases hje' : joinEmpty (apply s e) n f
        · obtain ⟨i, hi⟩ := hp'.resolve_left (fun hx => hx hje')
          have he := jobinfo_origin hen (hnc i) hi
          subst he
          exact ⟨(launchOk_iff.mp (en_launch.mp hen)).2.2.2.1, by simp [apply_m]⟩
        · obtain ⟨hch, hz, _, hm⟩ := join_fill hen hje hje'
          refine ⟨hz ?_, hm _ (by simp)⟩
          -- a chunk that is seen complete was submitted
          refine Classical.byContradiction fun h0 => ?_
          have h1 := disk_complete_of_st hobj (hch 0 (by omega))
          exact absurd ((hobj ⟨n, f, .chunk 0⟩).kk rfl (.inr (.inl h1))) (by simp [hnc 0])
      have := objOK_of_st_complete hobj hend (o := ⟨n, f, .split⟩) (by simp) key.1
      unfold ObjOK at this ⊢
      rw [key.2]; exact this

/-- what holds in every state reachable in the default reset mode -/
structure ReachInv (g : List NodeInfo) (s : State) : Prop where
  base : BaseInv s
  full : s.full = false
  nodes : s.nodes = g
  pre : PreInv s
  firstLoad : FirstLoadInv s
  complete : CompleteInv s
  ends : EndInv s
  chainF : ChainF s
  submitted : ∀ o, (s.m o).disk.has .jobinfo = true → ∃ i, (o, i) ∈ s.launches

theorem submitted_step {s : State} {e : Ev} (hen : enabled s e = true)
    (h : ∀ o, (s.m o).disk.has .jobinfo = true → ∃ i, (o, i) ∈ s.launches) (o : Obj)
    (hj : ((apply s e).m o).disk.has .jobinfo = true) : ∃ i, (o, i) ∈ (apply s e).launches := by
  cases hc : (s.m o).disk.has .jobinfo
  · have he := jobinfo_origin hen hc hj
    subst he; exact ⟨s.inc, by simp [apply_launches]⟩
  · obtain ⟨i, hi⟩ := h o hc
    exact ⟨i, by rw [apply_launches]; split <;> simp [hi]⟩

theorem reachInv_init (g : List NodeInfo) : ReachInv g (init g) := by
  have hm : ∀ o, (init g).m o = {} := fun o => rfl
  have ha : (init g).alive = [] := rfl
  have hje : ∀ n f, joinEmpty (init g) n f := fun n f => by simp [joinEmpty, hm]
  refine ⟨baseInv_start g false, rfl, rfl, fun h => by simp [init] at h, fun _ _ o => ⟨rfl, rfl⟩,
    (fun _ q f hc => by cases hc), fun o _ => by constructor <;> simp [hm, ha], ?_,
    fun o h => by simp [hm] at h⟩
  exact ⟨fun n f i y h => by simp [hm] at h, fun n f h => absurd (hje n f) h,
    fun n f h => h.elim (fun h => absurd (hje n f) h) (fun ⟨i, h⟩ => by simp [hm] at h)⟩

theorem reachInv_step {g : List NodeInfo} {s : State} {e : Ev} (hen : enabled s e = true)
    (h : ReachInv g s) : ReachInv g (apply s e) :=
  ⟨baseInv_step hen h.base, (apply_full s e).trans h.full, (apply_nodes s e).trans h.nodes,
   preInv_step h.base.obj h.full hen h.pre, firstLoadInv_step h.firstLoad hen,
   completeInv_step h.base.obj h.full h.pre h.firstLoad h.complete hen,
   endInv_step h.base.obj h.base.role h.ends hen,
   chainF_step h.base.obj h.base.role h.ends h.full h.chainF hen, submitted_step hen h.submitted⟩

theorem reach_inv {g : List NodeInfo} {s : State} (h : Reach g s) : ReachInv g s := by
  induction h with
  | init => exact reachInv_init g
  | step _ hen ih => exact reachInv_step hen ih

theorem reach_baseInv {g : List NodeInfo} {s : State} (h : Reach g s) : BaseInv s :=
  (reach_inv h).base

theorem reach_objsInv {g : List NodeInfo} {s : State} (h : Reach g s) : ObjsInv s :=
  (reach_inv h).base.obj

theorem reach_roleInv {g : List NodeInfo} {s : State} (h : Reach g s) : RoleInv s :=
  (reach_inv h).base.role

theorem reach_launchInv {g : List NodeInfo} {s : State} (h : Reach g s) : LaunchInv s :=
  (reach_inv h).base.launch

theorem reach_full {g : List NodeInfo} {s : State} (h : Reach g s) : s.full = false :=
  (reach_inv h).full

theorem reach_nodes {g : List NodeInfo} {s : State} (h : Reach g s) : s.nodes = g :=
  (reach_inv h).nodes

/-- a job is submitted only when every prenode of its node is finished -/
theorem launch_pre_done {g : List NodeInfo} {s : State} {o : Obj} (hr : Reach g s)
    (hen : enabled s (.launch o) = true) : ∀ p ∈ s.pre o.n, nodeDone s p = true :=
  (reach_inv hr).pre (launchOk_common (en_launch.mp hen)).1 o.n
    (launchOk_common (en_launch.mp hen)).2.2.1

/-- on disk, as long as no failure marker exists: a complete stage fork has a complete join; a
submitted chunk has a split that mrp has seen complete; a disabled stage fork has nothing in its
job directories -/
structure ChainInv (s : State) : Prop where
  c1 : ∀ n f, s.kind n ≠ .pipeline → (s.m ⟨n, f, .fork⟩).disk.has .complete = true →
    (s.m ⟨n, f, .join⟩).disk.has .complete = true
  c3 : ∀ n f i, (s.m ⟨n, f, .chunk i⟩).disk.has .jobinfo = true →
    (s.m ⟨n, f, .split⟩).seen.has .complete = true
  dis : ∀ n f, s.kind n ≠ .pipeline → (s.m ⟨n, f, .fork⟩).disk.has .disabled = true →
    ∀ r, r ≠ .fork → (s.m ⟨n, f, r⟩).disk.has .jobinfo = false ∧
      (s.m ⟨n, f, r⟩).disk.has .complete = false

theorem chainInv_init (g : List NodeInfo) : ChainInv (init g) := by
  have hm : ∀ o, (init g).m o = {} := fun o => rfl
  constructor <;> simp [hm]

theorem chainInv_step {s : State} {e : Ev} (hobj : ObjsInv s) (hrole : RoleInv s)
    (hclean : CleanInv s) (hfull : s.full = false) (h : ChainInv s)
    (hen : enabled s e = true) : ChainInv (apply s e) := by
  -- `_complete` (on disk / seen) of a clean object survives every event
  have keepC : ∀ (o : Obj), (s.m o).disk.has .complete = true →
      ((apply s e).m o).disk.has .complete = true := by
    intro o hc
    apply disk_mono _ (by simp) hc
    intro he; subst he
    rw [complete_not_resettable hfull (hclean o.n o.f o.r) hc] at hen; cases hen
  have keepS : ∀ (o : Obj), (s.m o).seen.has .complete = true →
      ((apply s e).m o).seen.has .complete = true := by
    intro o hc
    apply seen_mono hobj _ (by simp) hc
    intro he; subst he
    rw [complete_not_resettable hfull (hclean o.n o.f o.r) ((hobj o).sub _ hc)] at hen
    cases hen
  refine ⟨?_, ?_, ?_⟩
  · -- c1: mrp completes a stage fork when it has seen the join complete
    intro n f hk hfc
    rw [apply_kind] at hk
    cases hc : (s.m ⟨n, f, .fork⟩).disk.has .complete
    · rcases complete_origin hen hc hfc with he | ⟨_, hw⟩
      · subst he; have := (en_jobend.mp hen).1; simp [Role.isJob] at this
      · exact keepC _ (disk_complete_of_st hobj
          ((mrpWriteOk_iff.mp hw).2.2.2.resolve_left hk))
    · exact keepC _ (h.c1 n f hk hc)
  · -- c3: a chunk is submitted when mrp has seen the split complete
    intro n f i hj
    cases hc : (s.m ⟨n, f, .chunk i⟩).disk.has .jobinfo
    · have he := jobinfo_origin hen hc hj
      subst he
      exact keepS _ (metaState_complete (launchOk_iff.mp (en_launch.mp hen)).2.2.2.1).2.2
    · exact keepS _ (h.c3 n f i hc)
  · intro n f hk hd r hr
    rw [apply_kind] at hk
    cases hc : (s.m ⟨n, f, .fork⟩).disk.has .disabled
    · -- newly disabled: the fork was `ready`, and the event touches only the fork's own metadata
      rcases disk_origin hen hc hd with ⟨he, hw⟩ | he | ⟨_, he⟩ | ⟨_, he⟩ | ⟨_, he⟩
      · subst he
        obtain ⟨hjn, hsn⟩ := forkState_ready ((mrpWriteOk_iff.mp hw).resolve_left hk)
        have hm : (apply s (.W ⟨n, f, .fork⟩ .disabled)).m ⟨n, f, r⟩ = s.m ⟨n, f, r⟩ := by
          simp [apply_m, hr.symm]
        rw [hm]
        cases r with
        | split => exact st_none_disk hobj hrole hsn
        | chunk j =>
          have hcj : (s.m ⟨n, f, .chunk j⟩).disk.has .jobinfo = false :=
            Bool.eq_false_iff.mpr fun hx => st_ne_none_of_seen (.inr rfl) (h.c3 n f j hx) hsn
          exact ⟨hcj, Bool.eq_false_iff.mpr fun hx => by
            simp [(hobj ⟨n, f, .chunk j⟩).kk rfl (.inr (.inl hx))] at hcj⟩
        | join => exact st_none_disk hobj hrole hjn
        | fork => exact absurd rfl hr
      · subst he; have := (en_jobend.mp hen).1; simp [Role.isJob] at this
      · rcases he with he | he <;> cases he
      · cases he
      · cases he
    · -- already disabled: the fork is finished, nothing of it is submitted or stubbed any more
      obtain ⟨a, b⟩ := h.dis n f hk hc r hr
      have hFclean := hclean n f .fork
      have hdone : fmDone s n f = true :=
        fmDone_iff.mpr ⟨not_seen_of_not_disk hobj hFclean.1, not_seen_of_not_disk hobj hFclean.2,
          .inr ((hobj ⟨n, f, .fork⟩).forkEq rfl _ hc)⟩
      refine ⟨Bool.eq_false_iff.mpr fun hx => ?_, Bool.eq_false_iff.mpr fun hx => ?_⟩
      · have he := jobinfo_origin hen a hx
        subst he
        exact absurd (launchOk_common (en_launch.mp hen)).2.2.2.2 (by simp [hdone])
      · rcases complete_origin hen b hx with he | ⟨he, hw⟩
        · subst he; exact absurd (en_jobend.mp hen).2.2.1 (by simp [a])
        · subst he
          cases r with
          | split =>
            have := (mrpWriteOk_iff.mp hw).2.2.2
            rcases forkState_done.mpr hdone with h' | h' <;> simp [h'] at this
          | chunk j => cases (mrpWriteOk_complete hw).2.2.1
          | join => exact absurd (mrpWriteOk_iff.mp hw).2.2.2.1 (by simp [hdone])
          | fork => exact absurd rfl hr

structure FFObj (k : Kind) (r : Role) (m : Meta) : Prop where
  clean : m.disk.has .errors = false ∧ m.disk.has .assert = false
  nj : jobObj k r = false →
    (∀ y, m.disk.has y = true → m.seen.has y = true) ∧ m.disk.has .jobinfo = false

structure FFInv (s : State) : Prop where
  inc0 : s.inc = 0
  alive : s.phase ≠ .crashed
  noReset : s.resets = []
  obj : ∀ o : Obj, FFObj (s.kind o.n) o.r (s.m o)
  ld : s.phase = .loading → ∀ o : Obj,
    (s.m o).disk.has .jobinfo = false ∧ (s.m o).disk.has .complete = false
  launched : ∀ o : Obj, (s.m o).disk.has .jobinfo = true → (o, 0) ∈ s.launches
  c1 : ∀ n f, s.kind n ≠ .pipeline → (s.m ⟨n, f, .fork⟩).disk.has .complete = true →
    (s.m ⟨n, f, .join⟩).disk.has .complete = true
  c2 : ∀ n f, ((s.m ⟨n, f, .join⟩).disk.has .jobinfo = true ∨
      (s.m ⟨n, f, .join⟩).disk.has .complete = true) →
    (∀ i, i < s.nch n f → (s.m ⟨n, f, .chunk i⟩).disk.has .complete = true) ∧
    (s.nch n f = 0 → (s.m ⟨n, f, .split⟩).disk.has .complete = true)
  c3 : ∀ n f i, (s.m ⟨n, f, .chunk i⟩).disk.has .jobinfo = true →
    (s.m ⟨n, f, .split⟩).seen.has .complete = true
  dis : ∀ n f, s.kind n ≠ .pipeline → (s.m ⟨n, f, .fork⟩).disk.has .disabled = true →
    ∀ r i, (⟨n, f, r⟩, i) ∉ s.launches
  inRange : ∀ n f i, (s.m ⟨n, f, .chunk i⟩).disk.has .jobinfo = true → i < s.nch n f

theorem ff_clean {s : State} (hff : FFInv s) : CleanInv s :=
  fun n f r => (hff.obj ⟨n, f, r⟩).clean

theorem ff_ne_reset {e : Ev} (he : e.failureFree = true) (o : Obj) : e ≠ .reset o := by
  intro h; subst h; simp [Ev.failureFree] at he

theorem ff_inc {s : State} {e : Ev} (he : e.failureFree = true) : (apply s e).inc = s.inc := by
  rw [apply_inc]
  split
  · cases he
  · rfl

theorem ff_resets {s : State} {e : Ev} (he : e.failureFree = true) :
    (apply s e).resets = s.resets := by
  rw [apply_resets]
  split
  · cases he
  · rfl

theorem ff_alive {s : State} {e : Ev} (he : e.failureFree = true) (h : s.phase ≠ .crashed) :
    (apply s e).phase ≠ .crashed := by
  rcases phase_step s e with h' | ⟨_, h'⟩ | ⟨rfl, _⟩ | ⟨_, h'⟩ <;> try (rw [h']; simp [h]; done)
  cases he

/-- what is known of a state reached from the initial state without any failure event -/
structure CleanReach (g : List NodeInfo) (s : State) : Prop where
  reach : Reach g s
  clean : CleanInv s
  chain : ChainInv s

theorem cleanReach_init (g : List NodeInfo) : CleanReach g (init g) :=
  ⟨.init, fun _ _ _ => ⟨rfl, rfl⟩, chainInv_init g⟩

theorem cleanReach_step {g : List NodeInfo} {s : State} {e : Ev} (hen : enabled s e = true)
    (hnf : e.failing = false) (h : CleanReach g s) : CleanReach g (apply s e) :=
  ⟨.step h.reach hen, cleanInv_step hen hnf h.clean,
   chainInv_step (reach_objsInv h.reach) (reach_roleInv h.reach) h.clean (reach_full h.reach)
     h.chain hen⟩

/-- … and, besides, without a restart or a reset -/
structure FFReach (g : List NodeInfo) (s : State) : Prop where
  clean : CleanReach g s
  inc0 : s.inc = 0
  noReset : s.resets = []
  up : s.phase ≠ .crashed

theorem ffReach_init (g : List NodeInfo) : FFReach g (init g) :=
  ⟨cleanReach_init g, rfl, rfl, by simp [init]⟩

theorem ffReach_step {g : List NodeInfo} {s : State} {e : Ev} (hen : enabled s e = true)
    (he : e.failureFree = true) (h : FFReach g s) : FFReach g (apply s e) :=
  ⟨cleanReach_step hen (ff_nf he) h.clean, (ff_inc he).trans h.inc0, (ff_resets he).trans h.noReset,
   ff_alive he h.up⟩

/-- The failure-free invariant is what the invariants of reachable states say when nothing has
failed, nothing was reset and mrp was never restarted. -/
theorem FFReach.ffInv {g : List NodeInfo} {s : State} (h : FFReach g s) : FFInv s := by
  have hI := reach_inv h.clean.reach
  have hF := hI.chainF
  have hch := h.clean.chain
  have hobj : ∀ o : Obj, FFObj (s.kind o.n) o.r (s.m o) := fun o =>
    ⟨h.clean.clean o.n o.f o.r,
     fun hj => ⟨((hI.base.role o).nj hj).2.2.2, ((hI.base.role o).nj hj).2.1⟩⟩
  -- what is in the submission history has left its `_jobinfo`
  have submitted : ∀ o i, (o, i) ∈ s.launches → (s.m o).disk.has .jobinfo = true := fun o i hm =>
    (hI.base.launch.alive o i hm).resolve_right fun ⟨k, _, _, c⟩ => by simp [h.noReset] at c
  refine ⟨h.inc0, h.up, h.noReset, hobj, fun hp => hI.firstLoad h.inc0 hp, ?_,
    hch.c1, ?_, hch.c3, ?_, fun n f i hj => hF.k0 n f i _ hj⟩
  · -- … and every `_jobinfo` was written by a submission, of incarnation 0
    intro o hj
    obtain ⟨i, hi⟩ := hI.submitted o hj
    have := h.inc0 ▸ hI.base.launch.le o i hi
    rwa [show i = 0 by omega] at hi
  · intro n f hp
    have hje : ¬ joinEmpty s n f := fun h => by rcases hp with hp | hp <;> simp [h.1, h.2] at hp
    exact ⟨fun i hi => (hF.k1 n f hje i hi).1, fun _ => (hF.k2 n f (.inl hje)).1⟩
  · intro n f hk hd r i hm
    have hji := submitted _ i hm
    by_cases hrf : r = .fork
    · subst hrf; simp [((hobj ⟨n, f, .fork⟩).nj rfl).2] at hji
    · simp [(hch.dis n f hk hd r hrf).1] at hji

theorem ff_replay {g : List NodeInfo} {evs : List Ev} {s : State}
    (hfe : FailureFree evs) (h : replay (init g) evs = .ok s) : FFReach g s :=
  replayFrom_inv (fun _ e he hen => ffReach_step hen (hfe e he)) (ffReach_init g) h

/-- number of submissions of an object in the whole history -/
def launchCount (s : State) (o : Obj) : Nat := (s.launches.filter (fun p => p.1 == o)).length

/-- in a failure-free history every submission is of incarnation 0 and none is repeated: an object
was submitted once if its `_jobinfo` exists, and never otherwise -/
theorem launchCount_eq {s : State} (hl : LaunchInv s) (hff : FFInv s) (o : Obj) :
    launchCount s o = if (s.m o).disk.has .jobinfo = true then 1 else 0 := by
  have hcount : launchCount s o = if (o, 0) ∈ s.launches then 1 else 0 := by
    unfold launchCount
    rw [← List.countP_eq_length_filter, ← hl.nodup.count, List.count_eq_countP]
    apply List.countP_congr
    intro p hp
    have : p.2 ≤ 0 := hff.inc0 ▸ hl.le p.1 p.2 hp
    obtain ⟨a, b⟩ := p
    simp_all
  have hiff : (o, 0) ∈ s.launches ↔ (s.m o).disk.has .jobinfo = true :=
    ⟨fun hm => (hl.alive o 0 hm).resolve_right fun ⟨k, _, _, c⟩ => by simp [hff.noReset] at c,
     hff.launched o⟩
  simp only [hcount, hiff]

/-- what "exactly once" means for fork `f` of stage node `n` in state `s` (as in
`exactly_once_at_complete`) -/
def ExactlyOnce (s : State) (n f : Nat) : Prop :=
  (s.st ⟨n, f, .fork⟩ = some .complete →
    (∀ i, i < s.nch n f → launchCount s ⟨n, f, .chunk i⟩ = 1) ∧
    (∀ i, s.nch n f ≤ i → launchCount s ⟨n, f, .chunk i⟩ = 0) ∧
    (s.kind n = .splitstage →
      launchCount s ⟨n, f, .split⟩ = 1 ∧ launchCount s ⟨n, f, .join⟩ = 1) ∧
    (s.kind n = .stage →
      launchCount s ⟨n, f, .split⟩ = 0 ∧ launchCount s ⟨n, f, .join⟩ = 0)) ∧
  (s.st ⟨n, f, .fork⟩ = some .disabled → ∀ r, launchCount s ⟨n, f, r⟩ = 0)

theorem exactly_once_of_inv {s : State} (hobj : ObjsInv s) (hl : LaunchInv s) (hff : FFInv s)
    (n f : Nat) (hk : s.kind n ≠ .pipeline) : ExactlyOnce s n f := by
  constructor
  · intro hc
    have hjc := hff.c1 n f hk (disk_complete_of_st hobj hc)
    obtain ⟨hch, hsp0⟩ := hff.c2 n f (Or.inr hjc)
    have hchunk : ∀ i, i < s.nch n f → (s.m ⟨n, f, .chunk i⟩).disk.has .jobinfo = true :=
      fun i hi => (hobj ⟨n, f, .chunk i⟩).kk rfl (Or.inr (Or.inl (hch i hi)))
    refine ⟨?_, ?_, ?_, ?_⟩
    · intro i hi; rw [launchCount_eq hl hff]; simp [hchunk i hi]
    · intro i hi
      rw [launchCount_eq hl hff]
      split
      · rename_i hj; have := hff.inRange n f i hj; omega
      · rfl
    · intro hks
      have hjob : ∀ r, r = Role.split ∨ r = Role.join → jobObj (s.kind n) r = true := by
        rintro r (rfl | rfl) <;> simp [jobObj, hks]
      have hsplitc : (s.m ⟨n, f, .split⟩).disk.has .complete = true := by
        by_cases hz : s.nch n f = 0
        · exact hsp0 hz
        · exact (hobj _).sub _ (hff.c3 n f 0 (hchunk 0 (by omega)))
      constructor
      · rw [launchCount_eq hl hff]
        simp [(hobj ⟨n, f, .split⟩).kk (hjob _ (Or.inl rfl)) (Or.inr (Or.inl hsplitc))]
      · rw [launchCount_eq hl hff]
        simp [(hobj ⟨n, f, .join⟩).kk (hjob _ (Or.inr rfl)) (Or.inr (Or.inl hjc))]
    · intro hks
      constructor
      · rw [launchCount_eq hl hff]
        simp [((hff.obj ⟨n, f, .split⟩).nj (by simp [jobObj, hks])).2]
      · rw [launchCount_eq hl hff]
        simp [((hff.obj ⟨n, f, .join⟩).nj (by simp [jobObj, hks])).2]
  · intro hd r
    have hdd := (hobj _).sub _ (metaState_disabled hd).2.2
    rw [launchCount_eq hl hff]
    split
    · rename_i hj
      exact absurd (hff.launched _ hj) (hff.dis n f hk hdd r 0)
    · rfl

end Martian.Sched
