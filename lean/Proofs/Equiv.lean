import Martian.Equiv
import Proofs.SortKeys

/-! Lemmas for C15: `equal`/`equiv` decide equality of the erased meaning (`exp_equal_iff`, `callable_iff`, `equivCall_iff`,
all through `Martian.SortKeys.matchAll_iff`); at the end the invariant of the atomic lock model `lockStep`
(`LockInv`, `lockInv_step`, `lockInv_run`). -/
namespace Martian.Equiv
open Martian.SortKeys List

theorem atom_equal_iff (a b : Atom) : a.equal b = true ↔ a.sem = b.sem := by
  rcases a with _ | _ | _ | _ | (_ | _) | _ <;> rcases b with _ | _ | _ | _ | (_ | _) | _ <;>
    simp [Atom.equal, Atom.sem, and_assoc]

theorem semMap_eq : ∀ e : Exp, semMap e = (kvs e).map fun p => (p.1, p.2.sem)
  | .mcons k v r => by simp [semMap, kvs, semMap_eq r]
  | .atom _ | .split _ | .anil | .acons _ _ | .mnil => by simp [semMap, kvs]

theorem mlen_eq : ∀ e : Exp, mlen e = (kvs e).length
  | .mcons k v r => by simp [mlen, kvs, mlen_eq r]
  | .atom _ | .split _ | .anil | .acons _ _ | .mnil => by simp [mlen, kvs]

theorem mlookup_eq (k : Key) : ∀ e : Exp, mlookup k e = lookupL k (kvs e)
  | .mcons k' v r => by simp [mlookup, kvs, lookupL, mlookup_eq k r]
  | .atom _ | .split _ | .anil | .acons _ _ | .mnil => by simp [mlookup, kvs, lookupL]

theorem sem_isArr : ∀ e : Exp, isArr e = true → e.sem = .arr (semArr e)
  | .anil, _ => by simp [Exp.sem, semArr]
  | .acons x r, _ => by simp [Exp.sem, semArr]
  | .atom _, h | .split _, h | .mnil, h | .mcons _ _ _, h => by simp [isArr] at h

theorem sem_isMap : ∀ e : Exp, isMap e = true → e.sem = .map (sortK (semMap e))
  | .mnil, _ => by simp [Exp.sem, semMap, sortK]
  | .mcons k v r, _ => by simp [Exp.sem, semMap]
  | .atom _, h | .split _, h | .anil, h | .acons _ _, h => by simp [isMap] at h

theorem sem_not_map : ∀ e : Exp, isMap e = false → ∀ l, e.sem ≠ .map l
  | .atom _, _, _ | .split _, _, _ | .anil, _, _ | .acons _ _, _, _ => by simp [Exp.sem]
  | .mnil, h, _ | .mcons _ _ _, h, _ => by simp [isMap] at h

theorem allIn_eq : ∀ e o : Exp, allIn e o =
    (kvs e).all (fun p => (lookupL p.1 (kvs o)).any (fun v' => p.2.equal v'))
  | .mcons k v r, o => by
    simp only [allIn, kvs, all_cons, mlookup_eq, allIn_eq r o]
  | .atom _, _ | .split _, _ | .anil, _ | .acons _ _, _ | .mnil, _ => by simp [allIn, kvs]

theorem equal_map : ∀ e o : Exp, isMap e = true →
    e.equal o = (isMap o && matchAll Exp.equal (kvs e) (kvs o))
  | .mnil, o, _ => by
    simp only [Exp.equal, matchAll, kvs, mlen_eq, length_nil, all_nil, Bool.and_true]
    cases isMap o <;> simp [eq_comm, Bool.beq_eq_decide_eq]
  | .mcons k v r, o, _ => by
    simp only [Exp.equal, matchAll, kvs, mlen_eq, length_cons, all_cons, mlookup_eq, allIn_eq,
      Bool.and_assoc]
  | .atom _, _, h | .split _, _, h | .anil, _, h | .acons _ _, _, h => by simp [isMap] at h

theorem wf_kvs : ∀ e : Exp, e.wf = true →
    ((kvs e).map Prod.fst).Nodup ∧ ∀ p ∈ kvs e, p.2.wf = true
  | .mcons k v r, h => by
    simp only [Exp.wf, Bool.and_eq_true, Bool.not_eq_true'] at h
    obtain ⟨⟨⟨hv, hr⟩, _⟩, hk⟩ := h
    have ih := wf_kvs r hr
    constructor
    · have : nodupKeys (kvs (.mcons k v r)) = true := by
        simp only [kvs, nodupKeys, hk, Bool.not_false, Bool.true_and]
        exact (nodupKeys_iff _).mpr ih.1
      exact (nodupKeys_iff _).mp this
    · intro p hp
      simp only [kvs, mem_cons] at hp
      rcases hp with rfl | hp
      · exact hv
      · exact ih.2 p hp
  | .atom _, _ | .split _, _ | .anil, _ | .acons _ _, _ | .mnil, _ => by simp [kvs]

private def Q (e : Exp) : Prop :=
  ∀ o : Exp, e.wf = true → o.wf = true → (e.equal o = true ↔ e.sem = o.sem)

private theorem map_case (e : Exp) (hm : isMap e = true) (hq : ∀ p ∈ kvs e, Q p.2) : Q e := by
  intro o he ho
  rw [equal_map e o hm]
  cases hmo : isMap o
  · simp only [Bool.false_and, Bool.false_eq_true, false_iff]
    rw [sem_isMap e hm]
    exact fun h => sem_not_map o hmo _ h.symm
  · rw [sem_isMap e hm, sem_isMap o hmo, semMap_eq, semMap_eq, Bool.true_and]
    have hwe := wf_kvs e he
    have hwo := wf_kvs o ho
    rw [matchAll_iff Exp.equal Exp.sem Exp.sem (kvs e) (kvs o) hwe.1 hwo.1
      (fun p hp q hq' => hq p hp q.2 (hwe.2 p hp) (hwo.2 q hq'))]
    constructor
    · intro h; rw [h]
    · intro h; injection h

theorem exp_equal_iff_aux (e : Exp) : Q e ∧ ∀ p ∈ kvs e, Q p.2 := by
  induction e with
  | atom a =>
    refine ⟨?_, by simp [kvs]⟩
    intro o _ _
    cases o <;> simp [Exp.equal, Exp.sem, atom_equal_iff]
  | split e ih =>
    refine ⟨?_, by simp [kvs]⟩
    intro o he ho
    cases o with
    | split e' =>
      simp only [Exp.wf] at he ho
      simp [Exp.equal, Exp.sem, ih.1 e' he ho]
    | _ => simp [Exp.equal, Exp.sem]
  | anil =>
    refine ⟨?_, by simp [kvs]⟩
    intro o _ _
    cases o <;> simp [Exp.equal, Exp.sem]
  | acons x r ihx ihr =>
    refine ⟨?_, by simp [kvs]⟩
    intro o he ho
    cases o with
    | acons y s =>
      simp only [Exp.wf, Bool.and_eq_true] at he ho
      obtain ⟨⟨hx, hr⟩, har⟩ := he
      obtain ⟨⟨hy, hs⟩, has⟩ := ho
      have h1 := ihx.1 y hx hy
      have h2 := ihr.1 s hr hs
      rw [sem_isArr r har, sem_isArr s has] at h2
      simp only [Exp.equal, Exp.sem, Bool.and_eq_true, h1, h2, SemExp.arr.injEq, cons.injEq]
    | _ => simp [Exp.equal, Exp.sem]
  | mnil =>
    refine ⟨?_, by simp [kvs]⟩
    exact map_case .mnil rfl (by simp [kvs])
  | mcons k v r ihv ihr =>
    have hall : ∀ p ∈ kvs (.mcons k v r), Q p.2 := by
      intro p hp
      simp only [kvs, mem_cons] at hp
      rcases hp with rfl | hp
      · exact ihv.1
      · exact ihr.2 p hp
    exact ⟨map_case _ rfl hall, hall⟩

/-- `Exp.equal` decides equality of meaning on well-formed expressions. -/
theorem exp_equal_iff (e o : Exp) (he : e.wf = true) (ho : o.wf = true) :
    e.equal o = true ↔ e.sem = o.sem := (exp_equal_iff_aux e).1 o he ho

theorem inParamEq_iff (x y : Param) : inParamEq x y = true ↔ semIn x = semIn y := by
  cases x with | mk t a m f o => cases y with | mk t' a' m' f' o' =>
  simp only [inParamEq, semIn, SemParam.mk.injEq, Bool.and_eq_true, Bool.or_eq_true, beq_iff_eq,
    and_true]
  by_cases h2 : f = 2
  · subst h2
    constructor
    · rintro ⟨⟨rfl, rfl⟩, _⟩; simp
    · rintro ⟨rfl, rfl, _⟩; simp
  · constructor
    · rintro ⟨⟨rfl, rfl⟩, h⟩
      rcases h with h | ⟨⟨rfl, _⟩, rfl⟩
      · exact absurd h h2
      · simp
    · rintro ⟨rfl, rfl, h⟩
      simp only [h2, if_false, Option.some.injEq, Prod.mk.injEq] at h
      simp [h.1, h.2]

theorem outParamEq_iff (chk : Bool) (x y : Param) :
    outParamEq chk x y = true ↔ semOut chk x = semOut chk y := by
  have hin := inParamEq_iff x y
  cases x with | mk t a m f o => cases y with | mk t' a' m' f' o' =>
  simp only [outParamEq, Bool.and_eq_true, hin]
  simp only [semOut, semIn, SemParam.mk.injEq]
  constructor
  · rintro ⟨⟨rfl, rfl, h, _⟩, hn⟩
    refine ⟨rfl, rfl, h, ?_⟩
    cases chk <;> simp_all
    by_cases h23 : f = 2 ∨ f = 3
    · rcases hn with hn | hn
      · exact absurd h23 (by omega)
      · simp [hn]
    · simp [h23]
  · rintro ⟨rfl, rfl, h, hn⟩
    refine ⟨⟨rfl, rfl, h, trivial⟩, ?_⟩
    cases chk <;> simp_all
    by_cases h23 : f = 2 ∨ f = 3
    · simp only [h23, if_true, Option.some.injEq] at hn
      exact Or.inr hn
    · exact Or.inl (by omega)

theorem bindsWf_iff (l : List (Key × Exp)) :
    bindsWf l = true ↔ ((nonstar l).map Prod.fst).Nodup ∧ ∀ p ∈ l, p.2.wf = true := by
  simp [bindsWf, nodupKeys_iff]

theorem mem_of_mem_nonstar {l : List (Key × Exp)} {p : Key × Exp} (h : p ∈ nonstar l) : p ∈ l :=
  (mem_filter.mp h).1

theorem nonstar_length_le (l : List (Key × Exp)) : (nonstar l).length ≤ l.length :=
  length_filter_le _ _

theorem lookup_nonstar {k : Key} (hk : k ≠ star) : ∀ b : List (Key × Exp),
    lookupL k (nonstar b) = lookupL k b
  | [] => rfl
  | (k', v) :: r => by
    have ih := lookup_nonstar hk r
    unfold nonstar at ih ⊢
    by_cases hs : k' = star
    · subst hs; simpa [filter_cons, lookupL, hk] using ih
    · by_cases hkk : k = k' <;> simp [lookupL, hs, hkk, ih]

/-- the loop of `BindStms.Equals` is the lookup comparison on the non-`*` entries -/
theorem bindsEq_all (b : List (Key × Exp)) : ∀ a : List (Key × Exp),
    a.all (fun p => p.1 == star || (lookupL p.1 b).any (fun v' => p.2.equal v')) =
    (nonstar a).all (fun p => (lookupL p.1 (nonstar b)).any (fun v' => p.2.equal v'))
  | [] => rfl
  | (k, v) :: r => by
    by_cases hs : k = star
    · subst hs
      simp [nonstar, all_cons]
      simpa [nonstar] using bindsEq_all b r
    · have hs' : (k != star) = true := by simpa using hs
      have hs'' : (k == star) = false := by simpa using hs
      simp only [nonstar, filter_cons, hs', if_true, all_cons, hs'', Bool.false_or]
      rw [show filter (fun p => p.1 != star) b = nonstar b from rfl, lookup_nonstar hs b]
      congr 1
      exact bindsEq_all b r

theorem bindsEq_iff (a b : List (Key × Exp)) (ha : bindsWf a = true) (hb : bindsWf b = true) :
    bindsEq a b = true ∧ (nonstar a).length = (nonstar b).length ↔ semBinds a = semBinds b := by
  have ha' := (bindsWf_iff a).mp ha
  have hb' := (bindsWf_iff b).mp hb
  have hm := matchAll_iff Exp.equal Exp.sem Exp.sem (nonstar a) (nonstar b) ha'.1 hb'.1
    (fun p hp q hq => exp_equal_iff p.2 q.2 (ha'.2 p (mem_of_mem_nonstar hp))
      (hb'.2 q (mem_of_mem_nonstar hq)))
  simp only [matchAll, Bool.and_eq_true, beq_iff_eq] at hm
  simp only [bindsEq, Bool.and_eq_true, beq_iff_eq, bindsEq_all, semBinds, Prod.mk.injEq, ← hm]
  have := nonstar_length_le a
  have := nonstar_length_le b
  constructor
  · rintro ⟨⟨h1, h2⟩, h3⟩; exact ⟨⟨h3, h2⟩, by omega⟩
  · rintro ⟨⟨h3, h2⟩, h4⟩; exact ⟨⟨by omega, h2⟩, h3⟩

theorem nonstar_length_of_sem {a b : List (Key × Exp)} (h : semBinds a = semBinds b) :
    (nonstar a).length = (nonstar b).length := by
  simp only [semBinds, Prod.mk.injEq] at h
  simpa using (perm_of_sortK_eq h.1).length_eq

theorem keyed_iff {V S : Type} (eqv : V → V → Bool) (semA semB : V → S)
    (h : ∀ x y, eqv x y = true ↔ semA x = semB y) (a b : List (Key × V))
    (ha : nodupKeys a = true) (hb : nodupKeys b = true) :
    matchAll eqv a b = true ↔
      sortK (a.map fun p => (p.1, semA p.2)) = sortK (b.map fun p => (p.1, semB p.2)) :=
  matchAll_iff eqv semA semB a b ((nodupKeys_iff a).mp ha) ((nodupKeys_iff b).mp hb)
    (fun p _ q _ => h p.2 q.2)

/-- the part of `Modifiers` that is meaning -/
def Mods.sem (m : Mods) : Bool × Bool × Option SemExp :=
  (m.isLocal, m.preflight, m.disabled.map Exp.sem)

theorem mods_equiv_iff (m o : Mods) (hm : m.wf = true) (ho : o.wf = true) :
    m.equiv false o = true ↔ m.sem = o.sem := by
  cases m with | mk l p v t d => cases o with | mk l' p' v' t' d' =>
  simp only [Mods.equiv, Mods.sem, Prod.mk.injEq, Bool.false_eq_true, if_false]
  simp only [Mods.wf] at hm ho
  by_cases hl : l = l' <;> by_cases hp : p = p' <;> simp [hl, hp]
  subst hl; subst hp
  cases d with
  | none => cases d' <;> simp
  | some b =>
    cases d' with
    | none => cases t' <;> simp
    | some b' =>
      simp only [Bool.and_eq_true] at hm ho
      simp [ho.1, exp_equal_iff b b' hm.2 ho.2]

theorem lookupL_all {V : Type} (P : V → Bool) : ∀ (l : List (Key × V)) (k : Key) (v : V),
    l.all (fun s => P s.2) = true → lookupL k l = some v → P v = true
  | [], _, _, _, h => by simp [lookupL] at h
  | (k', v') :: r, k, v, hl, h => by
    simp only [all_cons, Bool.and_eq_true] at hl
    simp only [lookupL] at h
    split at h
    · cases h; exact hl.1
    · exact lookupL_all P r k v hl.2 h

theorem lookup_wf {T : Tab} (W : Tab) {k : Key} {x : Callable}
    (hT : T.all (fun p => p.2.wfIn W) = true) (h : lookupL k T = some x) : x.wfIn W = true :=
  lookupL_all (·.wfIn W) T k x hT h

theorem semCallable_ne_missing (s : Call → Sem) (x : Callable) : semCallable s x ≠ .missing := by
  cases x <;> simp [semCallable]

theorem matchAll_length {V : Type} {eqv : V → V → Bool} {a b : List (Key × V)}
    (h : matchAll eqv a b = true) : a.length = b.length := by
  simp only [matchAll, Bool.and_eq_true, beq_iff_eq] at h
  exact h.1

theorem equivCallable_insLen {rec : Call → Call → Bool} {x y : Callable}
    (h : equivCallable rec x y = true) : x.insLen = y.insLen := by
  cases x <;> cases y <;> simp only [equivCallable, Bool.and_eq_true, Bool.false_eq_true] at h
  · exact matchAll_length h.1.2
  · exact matchAll_length h.1.1.1

theorem optPair_iff {S : Type} (eqv : Callable → Callable → Bool) (semA semB : Callable → S)
    (missing : S) (hA : ∀ x, semA x ≠ missing) (hB : ∀ y, semB y ≠ missing) (ox oy : Option Callable)
    (h : ∀ x y, ox = some x → oy = some y → (eqv x y = true ↔ semA x = semB y)) :
    (match (generalizing := false) ox, oy with
      | none, none => true
      | some x, some y => eqv x y
      | _, _ => false) = true ↔
    (match (generalizing := false) ox with | none => missing | some x => semA x) =
      (match (generalizing := false) oy with | none => missing | some y => semB y) := by
  cases ox with
  | none =>
    cases oy with
    | none => simp
    | some y => simpa using fun e => hB y e.symm
  | some x =>
    cases oy with
    | none => simpa using hA x
    | some y => exact h x y rfl rfl

/-- hypotheses about sub-calls: `rec` decides equality of `sA`/`sB` on
well-formed calls that bind all parameters of their callees -/
theorem callable_iff (T U : Tab) (rec : Call → Call → Bool) (sA sB : Call → Sem) (x y : Callable)
    (hx : x.wfIn T = true) (hy : y.wfIn U = true)
    (h : ∀ c d : Call, c.wf = true → d.wf = true → c.completeIn T = true → d.completeIn U = true →
      (rec c d = true ↔ sA c = sB d)) :
    equivCallable rec x y = true ↔ semCallable sA x = semCallable sB y := by
  cases x with
  | stage s i o =>
    cases y with
    | stage s' i' o' =>
      simp only [Callable.wfIn, Bool.and_eq_true] at hx hy
      simp only [equivCallable, semCallable, Bool.and_eq_true, beq_iff_eq, Sem.stage.injEq,
        keyed_iff _ _ _ inParamEq_iff i i' hx.1 hy.1, keyed_iff _ _ _ (outParamEq_iff false) o o' hx.2 hy.2,
        and_assoc]
    | pipeline i' o' cs' r' => simp [equivCallable, semCallable]
  | pipeline i o cs r =>
    cases y with
    | stage s' i' o' => simp [equivCallable, semCallable]
    | pipeline i' o' cs' r' =>
      simp only [Callable.wfIn, Bool.and_eq_true, all_eq_true, beq_iff_eq] at hx hy
      obtain ⟨⟨⟨⟨⟨⟨hi, ho⟩, hk⟩, hcs⟩, hr⟩, hrl⟩, hcc⟩ := hx
      obtain ⟨⟨⟨⟨⟨⟨hi', ho'⟩, hk'⟩, hcs'⟩, hr'⟩, hrl'⟩, hcc'⟩ := hy
      have hcalls : matchAll rec (keyed cs) (keyed cs') = true ↔
          sortK ((keyed cs).map fun p => (p.1, sA p.2)) = sortK ((keyed cs').map fun p => (p.1, sB p.2)) := by
        apply matchAll_iff rec sA sB _ _ ((nodupKeys_iff _).mp hk) ((nodupKeys_iff _).mp hk')
        intro p hp q hq
        simp only [keyed, mem_map] at hp hq
        rcases hp with ⟨c, hc, rfl⟩
        rcases hq with ⟨d, hd, rfl⟩
        exact h c d (hcs c hc) (hcs' d hd) (hcc c hc) (hcc' d hd)
      have houts := keyed_iff _ _ _ (outParamEq_iff true) o o' ho ho'
      simp only [equivCallable, semCallable, Bool.and_eq_true, Sem.pipeline.injEq,
        keyed_iff _ _ _ inParamEq_iff i i' hi hi', houts.symm, hcalls.symm]
      constructor
      · rintro ⟨⟨⟨h1, h2⟩, h3⟩, h4⟩
        have hl : (nonstar r).length = (nonstar r').length := by
          rw [hrl, hrl']; exact matchAll_length h2
        exact ⟨h1, h2, (bindsEq_iff r r' hr hr').mp ⟨h3, hl⟩, h4⟩
      · rintro ⟨h1, h2, h3, h4⟩
        exact ⟨⟨⟨h1, h2⟩, ((bindsEq_iff r r' hr hr').mpr h3).1⟩, h4⟩

/-- `CallStm.EquivalentTo` (with the second `disabled` lookup reading the *other*
table) decides equality of the unfolded meaning, at every depth. -/
theorem equivCall_iff : ∀ (n : Nat) (T U : Tab), T.wf = true → U.wf = true →
    ∀ c d : Call, c.wf = true → d.wf = true → c.completeIn T = true → d.completeIn U = true →
      (equivCall false n T U c d = true ↔ semCall n T c = semCall n U d)
  | 0, _, _, _, _, _, _, _, _, _, _ => by simp [equivCall, semCall]
  | n + 1, T, U, hT, hU, c, d, hc, hd, hcc, hdc => by
    have ih := equivCall_iff n T U hT hU
    simp only [Call.wf, Bool.and_eq_true] at hc hd
    have hm := mods_equiv_iff c.mods d.mods hc.2 hd.2
    simp only [Mods.sem, Prod.mk.injEq] at hm
    simp only [equivCall, semCall, Bool.and_eq_true, beq_iff_eq, Sem.call.injEq, hm]
    have hcallee := optPair_iff (equivCallable (equivCall false n T U)) (semCallable (semCall n T))
      (semCallable (semCall n U)) Sem.missing (semCallable_ne_missing _) (semCallable_ne_missing _)
      (lookupL c.decId T) (lookupL d.decId U) fun x y hx hy =>
        callable_iff T U _ _ _ x y (lookup_wf T hT hx) (lookup_wf U hU hy) ih
    -- equivalent callees take the same number of parameters, and compile binds each of them once
    have hlen : (match lookupL c.decId T, lookupL d.decId U with
        | none, none => true
        | some x, some y => equivCallable (equivCall false n T U) x y
        | _, _ => false) = true → c.binds.length = d.binds.length →
          (nonstar c.binds).length = (nonstar d.binds).length := by
      simp only [Call.completeIn] at hcc hdc
      cases hx : lookupL c.decId T <;> cases hy : lookupL d.decId U <;>
        simp only [hx, hy, beq_iff_eq] at hcc hdc ⊢
      · omega
      · exact fun h => nomatch h
      · exact fun h => nomatch h
      · intro he _
        rw [hcc, hdc]; exact equivCallable_insLen he
    constructor
    · rintro ⟨⟨⟨h1, h2⟩, h3⟩, h4⟩
      have hl := hlen h4 (by
        simp only [bindsEq, Bool.and_eq_true, beq_iff_eq] at h2; exact h2.1)
      exact ⟨h1, (bindsEq_iff _ _ hc.1 hd.1).mp ⟨h2, hl⟩, h3.1, h3.2.1, h3.2.2, hcallee.mp h4⟩
    · rintro ⟨h1, h2, h3, h4, h5, h6⟩
      exact ⟨⟨⟨h1, ((bindsEq_iff _ _ hc.1 hd.1).mpr h2).1⟩, h3, h4, h5⟩, hcallee.mpr h6⟩

/-- invariant of disciplined runs (handler registered only after the check): the
`_lock` file exists iff exactly one process holds it, and only holders are registered -/
def LockInv (s : LockState) : Prop :=
  s.registered = s.holders ∧
  (s.lockFile = false → s.holders = []) ∧ (s.lockFile = true → ∃ p, s.holders = [p])

theorem lockInv_init : LockInv lockInit := by simp [LockInv, lockInit]

theorem lockInv_step (s : LockState) (op : LockOp) (hi : LockInv s) (hd : disciplined s op = true) :
    LockInv (lockStep false s op).1 := by
  obtain ⟨hr, h0, h1⟩ := hi
  cases hl : s.lockFile
  · have hh := h0 hl
    cases op with
    | lock p => simp [lockStep, hl, LockInv, hh, hr]
    | unlock p => simp [disciplined, hh] at hd
    | signal p => simp [lockStep, LockInv, hl, hh, hr]
  · obtain ⟨q, hq⟩ := h1 hl
    cases op with
    | lock p => simpa [lockStep, hl, LockInv, hr] using ⟨q, hq⟩
    | unlock p =>
      simp only [disciplined, hq, contains_cons, contains_nil, Bool.or_false, beq_iff_eq] at hd
      simp [lockStep, LockInv, hq, hd, hr]
    | signal p =>
      by_cases hpq : p = q
      · simp [lockStep, LockInv, hq, hr, hpq]
      · have hne : (q != p) = true := by simpa using fun h => hpq h.symm
        simp [lockStep, LockInv, hq, hr, hl, hne, hpq]

theorem lockInv_run : ∀ (ops : List LockOp) (s s' : LockState), LockInv s →
    lockRun false s ops = some s' → LockInv s'
  | [], s, s', hi, h => by simp only [lockRun, Option.some.injEq] at h; exact h ▸ hi
  | op :: r, s, s', hi, h => by
    simp only [lockRun] at h
    by_cases hd : disciplined s op = true
    · simp only [hd, if_true] at h
      exact lockInv_run r _ s' (lockInv_step s op hi hd) h
    · simp [hd] at h

end Martian.Equiv
