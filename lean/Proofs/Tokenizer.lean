/-
C08 lemmas about the whole-tokenizer model (`Martian/Tokenizer.lean`), for ALL inputs.  For ANY tables (switch table,
token ids, identifier regex): every rule and `nextTokenT` return a prefix of the input (`keywordTokenT_ind`), and the
scanner loop `lexRawFuel` reconstructs its input, does not depend on the fuel, leaves bytes only after INVALID,
and counts lines by newline bytes.  The last section instantiates these at the regenerated tables (`lexAllRaw_*`,
`lexAll_mem`).
-/
import Martian.Tokenizer
import Proofs.LexerRegexString

namespace Martian.Tokenizer
open Martian.Regex (Bytes Re decodeRune isWord pmatch ite_of)
open Martian.Lexer (spanDigits optMinus optSign matchInt matchFloat matchString scanBody numTok fracExp
  fracOnly expPart)

/-! ## every rule of the tokenizer returns a prefix of its input -/

theorem numberRule_prefix (T : Tables) (b : Bytes) : (numberRule T b).1 <+: b := by
  unfold numberRule numTok
  cases hf : matchFloat false b with
  | some t =>
    have := LexerRegex.matchFloat_decides.prefix hf
    simp only
    by_cases hp : (Martian.Lexer.parseFloat false t).isSome = true <;> simp [hp, this]
  | none =>
    simp only
    cases hi : matchInt b with
    | some t =>
      have := LexerRegex.matchInt_decides.prefix hi
      simp only
      by_cases hp : (Martian.Lexer.parseInt t).isSome = true <;> simp [hp, this]
    | none => simp

theorem stringRule_prefix (T : Tables) (b : Bytes) : (stringRule T b).1 <+: b := by
  unfold stringRule
  cases h : matchString b with
  | some t => simpa using LexerRegex.matchString_decides.prefix h
  | none => simp

theorem idRule_prefix (T : Tables) (b : Bytes) : (idRule T b).1 <+: b := by
  unfold idRule
  cases T.idRe with
  | none => simp
  | some re =>
    simp only
    cases h : pmatch re b with
    | some t =>
      obtain ⟨post, hp, _⟩ := Martian.Regex.pmatch_sound h
      exact ⟨post, hp.symm⟩
    | none => simp

theorem leadingSpace_prefix (b : Bytes) : leadingSpace b <+: b := List.take_prefix _ _

theorem commentRule_prefix (T : Tables) (b : Bytes) : (commentRule T b).1 <+: b := by
  unfold commentRule
  cases b with
  | nil => simp
  | cons c r =>
    simp only
    split
    · simp
    · exact List.take_prefix _ _

theorem bytesPrefixString_prefix (b kw : Bytes) : bytesPrefixString b kw <+: b := by
  unfold bytesPrefixString
  split
  · simp
  · split
    · exact List.take_prefix _ _
    · simp

theorem keywordMatch_cons (T : Tables) (b : Bytes) (kw tok : String) (rest : List (String × String)) :
    keywordMatch T b ((kw, tok) :: rest) =
      if (bytesPrefixString b (strBytes kw)).length > 0 then (bytesPrefixString b (strBytes kw), lookupId T.ids tok)
      else keywordMatch T b rest := rfl

theorem keywordMatch_prefix (T : Tables) (b : Bytes) : ∀ kws, (keywordMatch T b kws).1 <+: b
  | [] => List.nil_prefix
  | (kw, tok) :: rest => by
    rw [keywordMatch_cons]
    exact ite_of (P := fun x : Bytes × Nat => x.1 <+: b) (bytesPrefixString_prefix _ _) (keywordMatch_prefix T b rest)

theorem findClause_mem : ∀ (sw : SwitchTable) (c : Nat) (kind : String) (kws : List (String × String)),
    findClause sw c = some (kind, kws) → ∃ bs, (bs, kind, kws) ∈ sw
  | [], _, _, _, h => by simp [findClause] at h
  | (bs, kd, ks) :: rest, c, kind, kws, h => by
    unfold findClause at h
    split at h
    · cases h; exact ⟨bs, by simp⟩
    · obtain ⟨bs', hm⟩ := findClause_mem rest c kind kws h
      exact ⟨bs', by simp [hm]⟩

/-- What `keywordToken` returns is nothing, one punctuation byte, the result of one of the rules, or that of a
keyword list of the switch table: a property of all of these is a property of the result. -/
theorem keywordTokenT_ind {P : Bytes × Nat → Prop} (T : Tables) (b : Bytes) (none : P ([], 0))
    (punct : ∀ c r, b = c :: r → P (b.take 1, c.toNat)) (string : P (stringRule T b))
    (comment : P (commentRule T b)) (space : P (leadingSpace b, skipId T)) (number : P (numberRule T b))
    (ident : P (idRule T b)) (keywords : ∀ bs kind kws, (bs, kind, kws) ∈ T.sw → P (keywordMatch T b kws)) :
    P (keywordTokenT T b) := by
  unfold keywordTokenT
  cases b with
  | nil => exact none
  | cons c r =>
    simp only
    cases hf : findClause T.sw c.toNat with
    | some kk =>
      obtain ⟨bs, hm⟩ := findClause_mem _ _ kk.1 kk.2 hf
      exact ite_of (punct c r rfl) (ite_of string (ite_of comment (ite_of space (ite_of number (ite_of ident
        (ite_of (keywords bs _ _ hm) none))))))
    | none => exact ite_of space none

theorem keywordTokenT_prefix (T : Tables) (b : Bytes) : (keywordTokenT T b).1 <+: b :=
  keywordTokenT_ind (P := fun x => x.1 <+: b) T b (List.nil_prefix) (fun _ _ _ => List.take_prefix _ _)
    (stringRule_prefix T b) (commentRule_prefix T b) (leadingSpace_prefix b) (numberRule_prefix T b) (idRule_prefix T b)
    (fun _ _ kws _ => keywordMatch_prefix T b kws)

theorem nextTokenT_prefix (T : Tables) (head : Bytes) : (nextTokenT T head).2 <+: head := by
  unfold nextTokenT
  simp only
  split
  · exact keywordTokenT_prefix T head
  · split
    · exact idRule_prefix T head
    · simp

theorem nextToken_prefix (head : Bytes) : ∃ rest, head = (nextToken head).2 ++ rest := by
  obtain ⟨rest, h⟩ := nextTokenT_prefix genTables head
  exact ⟨rest, h.symm⟩

theorem nextTokenT_progress (T : Tables) (head : Bytes) :
    (nextTokenT T head).1 = invalidId T ∨ 0 < (nextTokenT T head).2.length := by
  unfold nextTokenT
  simp only
  split
  · right; assumption
  · split
    · right; assumption
    · left; rfl

theorem nextToken_progress (head : Bytes) :
    (nextToken head).1 = invalidId genTables ∨ 0 < (nextToken head).2.length :=
  nextTokenT_progress genTables head

/-! ## the scanner loop -/

/-- the token of an iteration is the same in all three branches of `stepLoc` -/
theorem stepLoc_fst (T : Tables) (l : Loc) (id : Nat) (text : Bytes) :
    (stepLoc T l id text).1 =
      ⟨id, text, (if l.incCol then skipLoc l.tok l.line l.col else (l.line, l.col)).1,
        (if l.incCol then skipLoc l.tok l.line l.col else (l.line, l.col)).2⟩ := by
  unfold stepLoc
  simp only
  split
  · rfl
  · split <;> rfl

theorem stepLoc_text (T : Tables) (l : Loc) (id : Nat) (text : Bytes) : (stepLoc T l id text).1.text = text := by
  rw [stepLoc_fst]

theorem stepLoc_id (T : Tables) (l : Loc) (id : Nat) (text : Bytes) : (stepLoc T l id text).1.id = id := by
  rw [stepLoc_fst]

theorem skipLoc_line : ∀ (b : Bytes) (line col : Nat), (skipLoc b line col).1 = line + countNL b
  | [], line, col => by simp [skipLoc, countNL]
  | b :: r, line, col => by
    simp only [skipLoc, countNL]
    split
    · rw [skipLoc_line r]; omega
    · rw [skipLoc_line r]; omega

/-- the line `Lex` is on when it looks at the next token: the stored line plus
the newlines of the previous token, over which the location is advanced first -/
def effLine (l : Loc) : Nat := if l.incCol then l.line + countNL l.tok else l.line

theorem effLine_eq (l : Loc) : (if l.incCol then skipLoc l.tok l.line l.col else (l.line, l.col)).1 = effLine l := by
  unfold effLine
  split
  · exact skipLoc_line _ _ _
  · rfl

theorem stepLoc_line1 (T : Tables) (l : Loc) (id : Nat) (text : Bytes) :
    (stepLoc T l id text).1.line = effLine l := by
  rw [stepLoc_fst]; exact effLine_eq l

theorem lexRawFuel_zero (T : Tables) (src : Bytes) (l : Loc) : lexRawFuel T 0 src l = ([], src) := by
  simp [lexRawFuel]

theorem lexRawFuel_nil (T : Tables) (f : Nat) (l : Loc) : lexRawFuel T f [] l = ([], []) := by
  cases f <;> simp [lexRawFuel]

theorem lexRawFuel_cons (T : Tables) (f : Nat) (c : UInt8) (r : Bytes) (l : Loc) :
    lexRawFuel T (f + 1) (c :: r) l =
      if stops T (nextTokenT T (c :: r)).1 then
        ([(stepLoc T l (nextTokenT T (c :: r)).1 (nextTokenT T (c :: r)).2).1],
         (c :: r).drop (nextTokenT T (c :: r)).2.length)
      else
        ((stepLoc T l (nextTokenT T (c :: r)).1 (nextTokenT T (c :: r)).2).1 ::
           (lexRawFuel T f ((c :: r).drop (nextTokenT T (c :: r)).2.length)
              (stepLoc T l (nextTokenT T (c :: r)).1 (nextTokenT T (c :: r)).2).2).1,
         (lexRawFuel T f ((c :: r).drop (nextTokenT T (c :: r)).2.length)
              (stepLoc T l (nextTokenT T (c :: r)).1 (nextTokenT T (c :: r)).2).2).2) := by
  simp only [lexRawFuel]

/-- the texts of all tokens (SKIP and COMMENT ones
included), in order, followed by the unconsumed rest, are the input — for any
fuel. -/
theorem lexRawFuel_reconstructs (T : Tables) : ∀ (f : Nat) (src : Bytes) (l : Loc),
    ((lexRawFuel T f src l).1.map Tok.text).flatten ++ (lexRawFuel T f src l).2 = src := by
  intro f
  induction f with
  | zero => intro src l; simp [lexRawFuel_zero]
  | succ f ih =>
    intro src l
    cases src with
    | nil => simp [lexRawFuel_nil]
    | cons c r =>
      rw [lexRawFuel_cons]
      have hp := List.prefix_iff_eq_append.mp (nextTokenT_prefix T (c :: r))
      split
      · simpa [stepLoc_text] using hp
      · simp only [List.map_cons, List.flatten_cons, stepLoc_text, List.append_assoc]
        rw [ih]
        exact hp

/-- an iteration after which the loop goes on has consumed at least one byte
(given that the constants SKIP and COMMENT differ from INVALID) -/
theorem not_stops_progress (T : Tables) (hS : skipId T ≠ invalidId T) (hC : commentId T ≠ invalidId T)
    (s : Bytes) (h : ¬ stops T (nextTokenT T s).1 = true) : 0 < (nextTokenT T s).2.length := by
  rcases nextTokenT_progress T s with hi | hp
  · exfalso
    apply h
    unfold stops
    rw [hi]
    simp only [bne_iff_ne, ne_eq, Bool.and_eq_true, beq_self_eq_true, and_true]
    exact ⟨fun e => hS e.symm, fun e => hC e.symm⟩
  · exact hp

/-- the fuel is never the reason the loop stops: any two fuels above the
length of the source give the same result. -/
theorem lexRawFuel_fuel (T : Tables) (hS : skipId T ≠ invalidId T) (hC : commentId T ≠ invalidId T) :
    ∀ (f g : Nat) (src : Bytes) (l : Loc), src.length < f → src.length < g →
      lexRawFuel T f src l = lexRawFuel T g src l := by
  intro f
  induction f with
  | zero => intro g src l h; omega
  | succ f ih =>
    intro g src l hf hg
    cases g with
    | zero => omega
    | succ g =>
      cases src with
      | nil => simp [lexRawFuel_nil]
      | cons c r =>
        rw [lexRawFuel_cons, lexRawFuel_cons]
        split
        · rfl
        · rename_i hs
          have hp := not_stops_progress T hS hC (c :: r) hs
          have hlen : ((c :: r).drop (nextTokenT T (c :: r)).2.length).length < (c :: r).length := by
            simp only [List.length_drop, List.length_cons]
            omega
          rw [ih g _ _ (by simp only [List.length_cons] at hf hlen ⊢; omega)
                (by simp only [List.length_cons] at hg hlen ⊢; omega)]

/-- with enough fuel, bytes are left unconsumed only after an INVALID token,
which is then the last one -/
theorem lexRawFuel_rest (T : Tables) (hS : skipId T ≠ invalidId T) (hC : commentId T ≠ invalidId T) :
    ∀ (f : Nat) (src : Bytes) (l : Loc), src.length < f → (lexRawFuel T f src l).2 ≠ [] →
      ∃ pre t, (lexRawFuel T f src l).1 = pre ++ [t] ∧ t.id = invalidId T := by
  intro f
  induction f with
  | zero => intro src l h; omega
  | succ f ih =>
    intro src l hf hne
    cases src with
    | nil => simp [lexRawFuel_nil] at hne
    | cons c r =>
      rw [lexRawFuel_cons] at hne ⊢
      split
      · rename_i hs
        refine ⟨[], _, rfl, ?_⟩
        rw [stepLoc_id]
        unfold stops at hs
        simp only [Bool.and_eq_true, beq_iff_eq] at hs
        exact hs.2
      · rename_i hs
        simp only [hs, Bool.false_eq_true, ↓reduceIte] at hne
        have hp := not_stops_progress T hS hC (c :: r) hs
        have hlen : ((c :: r).drop (nextTokenT T (c :: r)).2.length).length < f := by
          simp only [List.length_drop, List.length_cons] at hf ⊢
          omega
        obtain ⟨pre, t, he, hid⟩ := ih _ _ hlen hne
        exact ⟨(stepLoc T l (nextTokenT T (c :: r)).1 (nextTokenT T (c :: r)).2).1 :: pre, t,
          by simp only [he, List.cons_append], hid⟩

/-! ## line numbers -/

/-- by how much a token advances the line: by the newlines in its text (white
space, comments — a comment ends with its newline, if it has one — and string
literals) -/
def lineAdvance (_T : Tables) (t : Tok) : Nat := countNL t.text

theorem stepLoc_line2 (T : Tables) (l : Loc) (id : Nat) (text : Bytes) :
    effLine (stepLoc T l id text).2 = effLine l + lineAdvance T (stepLoc T l id text).1 := by
  have hp := effLine_eq l
  unfold lineAdvance
  rw [stepLoc_text]
  unfold stepLoc
  simp only
  split
  · simp only [effLine, Bool.false_eq_true, if_false, skipLoc_line, hp]
  · split
    · simp only [effLine, Bool.false_eq_true, if_false, skipLoc_line, hp]
    · simp [effLine, hp]

/-- the line of every token is the line `Lex` starts on plus the number of `\n` bytes in the texts of ALL tokens before
it (white space, string literals, and comments: a comment counts by the newline it contains, not as one) -/
theorem lexRawFuel_line (T : Tables) : ∀ (f : Nat) (src : Bytes) (l : Loc) (pre : List Tok) (t : Tok) (post : List Tok),
    (lexRawFuel T f src l).1 = pre ++ t :: post → t.line = effLine l + (pre.map (lineAdvance T)).sum := by
  intro f
  induction f with
  | zero => intro src l pre t post h; simp [lexRawFuel_zero] at h
  | succ f ih =>
    intro src l pre t post h
    cases src with
    | nil => simp [lexRawFuel_nil] at h
    | cons c r =>
      rw [lexRawFuel_cons] at h
      split at h
      · cases pre with
        | nil =>
          simp only [List.nil_append, List.cons.injEq] at h
          rw [← h.1, stepLoc_line1]; simp
        | cons p pre' =>
          simp only [List.cons_append, List.cons.injEq] at h
          have := h.2
          simp at this
      · cases pre with
        | nil =>
          simp only [List.nil_append, List.cons.injEq] at h
          rw [← h.1, stepLoc_line1]; simp
        | cons p pre' =>
          simp only [List.cons_append, List.cons.injEq] at h
          have := ih _ _ _ _ _ h.2
          rw [this, stepLoc_line2, ← h.1]
          simp only [List.map_cons, List.sum_cons]
          omega

/-! ## the tokenizer as regenerated (`Gen.tokSwitch`, `Gen.tokIds`, `Gen.tokIdRegex`) -/

theorem gen_skip_ne_invalid : skipId genTables ≠ invalidId genTables := by decide
theorem gen_comment_ne_invalid : commentId genTables ≠ invalidId genTables := by decide

theorem lexAllRaw_reconstructs (src : Bytes) :
    ((lexAllRaw src).1.map Tok.text).flatten ++ (lexAllRaw src).2 = src ∧
    ((lexAllRaw src).2 ≠ [] → ∃ pre t, (lexAllRaw src).1 = pre ++ [t] ∧ t.id = invalidId genTables) :=
  ⟨lexRawFuel_reconstructs genTables _ src startLoc,
   lexRawFuel_rest genTables gen_skip_ne_invalid gen_comment_ne_invalid _ src startLoc (Nat.lt_succ_self _)⟩

theorem lexAllRaw_fuel (src : Bytes) (f : Nat) (h : src.length + 1 ≤ f) :
    lexRawFuel genTables f src startLoc = lexAllRaw src :=
  lexRawFuel_fuel genTables gen_skip_ne_invalid gen_comment_ne_invalid f _ src startLoc (by omega)
    (Nat.lt_succ_self _)

theorem lexAllRaw_line (src : Bytes) (pre : List Tok) (t : Tok) (post : List Tok)
    (h : (lexAllRaw src).1 = pre ++ t :: post) : t.line = 1 + (pre.map (lineAdvance genTables)).sum :=
  lexRawFuel_line genTables _ src startLoc pre t post h

/-- non-vacuity: `in x\n#\n$` is IN, ID, then INVALID on line 3 (a comment and a newline before it) -/
example : (lexAll [0x69, 0x6E, 0x20, 0x78, 0x0A, 0x23, 0x0A, 0x24]).map (fun t => (t.id, t.line, t.col)) =
    [(57354, 1, 1), (57378, 1, 4), (57348, 3, 1)] := by decide +kernel

theorem countNL_append : ∀ (a b : Bytes), countNL (a ++ b) = countNL a + countNL b
  | [], b => by simp [countNL]
  | x :: a, b => by simp only [List.cons_append, countNL, countNL_append a b]; omega

theorem sum_lineAdvance (T : Tables) : ∀ (pre : List Tok),
    (pre.map (lineAdvance T)).sum = countNL (pre.map Tok.text).flatten
  | [] => by simp [countNL]
  | t :: pre => by
    simp only [List.map_cons, List.sum_cons, List.flatten_cons, countNL_append, sum_lineAdvance T pre, lineAdvance]

/-- the reported line is the real line: the line of every token is 1 + the
number of newline bytes of the source before it (the texts of the tokens before
it are, by `lexAllRaw_reconstructs`, exactly the source up to the token). -/
theorem lexAllRaw_real_line (src : Bytes) (pre : List Tok) (t : Tok) (post : List Tok)
    (h : (lexAllRaw src).1 = pre ++ t :: post) : t.line = 1 + countNL (pre.map Tok.text).flatten := by
  rw [← sum_lineAdvance genTables pre]
  exact lexAllRaw_line src pre t post h

/-- every token of the stream (white space and comments included) is what ONE
call of `nextToken` returns on a suffix of the source -/
theorem lexRawFuel_mem (T : Tables) : ∀ (f : Nat) (src : Bytes) (l : Loc) (t : Tok),
    t ∈ (lexRawFuel T f src l).1 → ∃ head, nextTokenT T head = (t.id, t.text) := by
  intro f
  induction f with
  | zero => intro src l t h; simp [lexRawFuel_zero] at h
  | succ f ih =>
    intro src l t h
    cases src with
    | nil => simp [lexRawFuel_nil] at h
    | cons c r =>
      rw [lexRawFuel_cons] at h
      have hhead : ∀ t', t' = (stepLoc T l (nextTokenT T (c :: r)).1 (nextTokenT T (c :: r)).2).1 →
          ∃ head, nextTokenT T head = (t'.id, t'.text) := by
        intro t' e
        exact ⟨c :: r, by rw [e, stepLoc_id, stepLoc_text]⟩
      split at h
      · simp only [List.mem_singleton] at h
        exact hhead t h
      · simp only [List.mem_cons] at h
        rcases h with h | h
        · exact hhead t h
        · exact ih _ _ t h

theorem lexAll_mem (src : Bytes) (t : Tok) (h : t ∈ lexAll src) :
    ∃ head, nextToken head = (t.id, t.text) := by
  have : t ∈ (lexAllRaw src).1 := (List.mem_filter.mp h).1
  exact lexRawFuel_mem genTables _ src startLoc t this

end Martian.Tokenizer
