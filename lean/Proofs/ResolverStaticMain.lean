/-
C01 — the refinement "two-phase resolver = den" for PLAIN programs, and the induction over
the call graph that the fragments of the flat static phase share (`Flat`): `WellTyped`, `ArgsRel`, `mkArgs_eq`,
`envRel_step`, `rets_struct`; `Flat.CallStep`, `Flat.refine_calls_of_step`, `Flat.refine_callable`, `Flat.twoPhase`;
`twoPhase_eq_den_F`.
-/
import Proofs.ResolverStaticRefine

namespace Proofs.ResolverStatic
open Martian.Dataflow Martian.Resolver Martian.ResolverForks Martian.ResolverStatic Proofs.Dataflow
  Proofs.ResolverForks

/-- a plain call (not mapped, no `disabled`) whose bindings are assignable to the callee's parameters -/
def CallOk (st : StructTable) (insOf : String → List Param) (sT cT : String → Ty) (c : Call) : Prop :=
  c.mapped = false ∧ c.disabled = none ∧
  ∀ p ∈ insOf c.callee, ∀ b, c.binds.find? (fun b => b.param == p.name) = some b →
    HasTy st sT cT p.ty b.exp

/-- the calls of a pipeline body, each typed against the calls before it -/
def CallsOk (st : StructTable) (insOf : String → List Param) (sT : String → Ty) :
    List (String × Ty) → List Call → Prop
  | _, [] => True
  | L, c :: cs =>
    CallOk st insOf sT (callTyOf L) c ∧ CallsOk st insOf sT (L ++ [(c.id, ⟨c.callee, 0, 0⟩)]) cs

def callTypes (cs : List Call) : List (String × Ty) := cs.map fun c => (c.id, ⟨c.callee, 0, 0⟩)

def PipelineOk (st : StructTable) (insOf : String → List Param) (pins outs : List Param)
    (calls : List Call) (ret : List (String × Exp)) : Prop :=
  CallsOk st insOf (selfTyOf pins) [] calls ∧
  ∀ p ∈ outs, ∀ e, ret.lookup p.name = some e →
    HasTy st (selfTyOf pins) (callTyOf (callTypes calls)) p.ty e

/-- what the compiler guarantees of a plain program, as far as the refinement needs it -/
structure WellTyped (P : Program) : Prop where
  structs : StructsOk P.table
  outsOf : ∀ name c, P.callables.lookup name = some c → P.table.lookup name = some c.outs
  pipelines : ∀ name pins outs calls ret,
    P.callables.lookup name = some (.pipeline pins outs calls ret) →
      PipelineOk P.table P.insOf pins outs calls ret
  top : CallOk P.table P.insOf (selfTyOf []) (callTyOf []) P.top

/-- plain programs: every resolved expression is evaluated in the empty fork assignment -/
abbrev Fs0 : ForkAssign → Prop := fun f => f = []

/-- with map calls: in every fork assignment -/
abbrev FsT : ForkAssign → Prop := fun _ => True

/-- den's argument record against the resolved inputs of a node, in the fork assignments `Fs` -/
def ArgsRel (st : StructTable) (F : Nat) (ρ : Store) (Fs : ForkAssign → Prop) (pins : List Param) (args : J)
    (cins : RBMap) : Prop :=
  ∃ g : Param → RExp,
    cins = pins.map (fun q => (q.name, (⟨g q, q.ty⟩ : RB))) ∧
    (∀ f, Fs f → args = .obj (pins.map fun q => (q.name, evalRT st F ρ f q.ty (g q)))) ∧
    ∀ q ∈ pins, HasTyR st q.ty (g q)

def typesOf (env : Env) : List (String × Ty) := env.calls.map fun x => (x.1, x.2.1)

theorem lookup_map_find {β : Type} (ps : List Param) (g : Param → β) (k : String) :
    (ps.map fun q => (q.name, g q)).lookup k = (ps.find? (fun q => q.name == k)).map g :=
  lookup_map_key (·.name) g ps k

theorem callTy_typesOf (env : Env) : env.callTy = callTyOf (typesOf env) := by
  funext c
  simp only [Env.callTy, callTyOf, typesOf]
  congr 1
  induction env.calls with
  | nil => rfl
  | cons x xs ih =>
    obtain ⟨k, t, v⟩ := x
    simp only [List.lookup_cons, List.map_cons]
    cases (c == k) <;> simp [ih]

theorem selfTy_eq (env : Env) : env.selfTy = selfTyOf env.selfTys := by
  funext p
  rfl

theorem HasTyR_null (st : StructTable) (t : Ty) : HasTyR st t (.lit .null) := by
  simp [HasTyR, LitOk]

section rets
variable (st : StructTable) (hst : StructsOk st) (F : Nat) (hF : NarrowFix st F) (ρ : Store)
include hst hF

/-- the resolved outputs of a pipeline node (`makeOutExp`: the struct of its resolved return bindings, a
missing one null) evaluate, at the callee's struct type, to den's output record -/
theorem rets_struct (Fs : ForkAssign → Prop) (callee : String) (outs : List Param)
    (htab : st.lookup callee = some outs) (ret : List (String × Exp)) (val : Exp → J) (res : Ty → Exp → RExp)
    (h : ∀ p ∈ outs, ∀ e, ret.lookup p.name = some e →
      (∀ f, Fs f → narrow st F p.ty (val e) = evalRT st F ρ f p.ty (res p.ty e)) ∧ HasTyR st p.ty (res p.ty e)) :
    (∀ f, Fs f →
      J.obj (outs.map fun p => (p.name, narrow st F p.ty (match ret.lookup p.name with
        | some e => val e
        | none => .null)))
      = evalRT st F ρ f ⟨callee, 0, 0⟩ (.struct (outs.map fun p => (p.name, match ret.lookup p.name with
        | some e => res p.ty e
        | none => .lit .null)))) ∧
    HasTyR st ⟨callee, 0, 0⟩ (.struct (outs.map fun p => (p.name, match ret.lookup p.name with
      | some e => res p.ty e
      | none => .lit .null))) := by
  have hn := hst _ _ htab
  have key : ∀ p ∈ outs,
      (∀ f, Fs f → narrow st F p.ty (match ret.lookup p.name with
          | some e => val e
          | none => .null)
        = evalRT st F ρ f p.ty (match ret.lookup p.name with
          | some e => res p.ty e
          | none => .lit .null)) ∧
      HasTyR st p.ty (match ret.lookup p.name with
          | some e => res p.ty e
          | none => .lit .null) := by
    intro p hp
    cases he : ret.lookup p.name with
    | none => exact ⟨fun f _ => by simp [narrow_null hF, evalRT], HasTyR_null _ _⟩
    | some e => exact h p hp e he
  refine ⟨fun f hf => ?_, ?_⟩
  · rw [evalRT_struct st hst F ρ f ⟨callee, 0, 0⟩ outs _ rfl rfl htab]
    simp only [J.obj.injEq]
    apply List.map_congr_left
    intro p hp
    rw [lookup_map_find, find_name_of_nodup outs hn p hp]
    exact congrArg (Prod.mk p.name) ((key p hp).1 f hf)
  · simp only [HasTyR]
    refine ⟨trivial, trivial, outs, htab, ?_, ?_⟩
    · apply HasTyRMembers_of_mem
      intro k e hke _
      simp only [List.mem_map, Prod.mk.injEq] at hke
      obtain ⟨p, hp, hk, he⟩ := hke
      subst hk; subst he
      rw [memberTy_mem hn hp]
      exact (key p hp).2
    · intro p hp
      rw [lookup_map_find, find_name_of_nodup outs hn p hp]
      rfl

end rets

section main
variable (st : StructTable) (hst : StructsOk st) (F : Nat) (hF : NarrowFix st F) (ρ : Store)
include hst hF

omit hst in
/-- den's argument record of fork `o` of a call, binding by binding -/
theorem mkArgs_eq (ins : List Param) (env : Env) (c : Call) (o : Option Idx) (f : ForkAssign) (g : Param → Bind → RExp)
    (h : ∀ p ∈ ins, ∀ b, c.binds.find? (fun b => b.param == p.name) = some b →
      narrow st F p.ty
          (match b.split, o with
           | true, some i => elemAt (eval st env b.exp) i
           | _, _ => eval st env b.exp) = evalRT st F ρ f p.ty (g p b)) :
    mkArgs st F (argVals st env ins c) o = .obj (ins.map fun p => (p.name, evalRT st F ρ f p.ty
      (match c.binds.find? (fun b => b.param == p.name) with
       | some b => g p b
       | none => .lit .null))) := by
  simp only [mkArgs, argVals, List.map_map, J.obj.injEq]
  apply List.map_congr_left
  intro p hp
  simp only [Function.comp_apply]
  cases hfb : c.binds.find? (fun b => b.param == p.name) with
  | none => simp [narrow_null hF, evalRT]
  | some b => exact congrArg (Prod.mk p.name) (h p hp b hfb)

omit hst in
/-- den's argument record of a call (fork `o` of it) against ANY resolved inputs that agree with it binding by
binding: `rb p b` is what the static phase makes of the binding `b` of parameter `p` -/
theorem argsRel_of_binds (Fs : ForkAssign → Prop) (ins : List Param) (env : Env) (c : Call) (o : Option Idx)
    (rb : Param → Bind → RB)
    (h : ∀ p ∈ ins, ∀ b, c.binds.find? (fun b => b.param == p.name) = some b →
      (rb p b).ty = p.ty ∧
      (∀ f, Fs f → narrow st F p.ty
          (match b.split, o with
           | true, some i => elemAt (eval st env b.exp) i
           | _, _ => eval st env b.exp) = evalRT st F ρ f p.ty (rb p b).exp) ∧
      HasTyR st p.ty (rb p b).exp) :
    ArgsRel st F ρ Fs ins (mkArgs st F (argVals st env ins c) o)
      (ins.map fun p => (p.name,
        match c.binds.find? (fun b => b.param == p.name) with
        | some b => rb p b
        | none => ⟨.lit .null, p.ty⟩)) := by
  refine ⟨fun q => match c.binds.find? (fun b => b.param == q.name) with
    | some b => (rb q b).exp
    | none => .lit .null, ?_, ?_, ?_⟩
  · apply List.map_congr_left
    intro p hp
    dsimp only
    cases hfb : c.binds.find? (fun b => b.param == p.name) with
    | none => rfl
    | some b => rw [← (h p hp b hfb).1]
  · exact fun f hf => mkArgs_eq st F hF ρ ins env c o f _ fun p hp b hfb => (h p hp b hfb).2.1 f hf
  · intro p hp
    dsimp only
    cases hfb : c.binds.find? (fun b => b.param == p.name) with
    | none => exact HasTyR_null st _
    | some b => exact (h p hp b hfb).2.2

theorem args_step (Fs : ForkAssign → Prop) (f0 : ForkAssign) (hf0 : Fs f0) (insOf : String → List Param)
    (env : Env) (self sib : RBMap) (hrel : EnvRel st F ρ Fs env self sib) (c : Call)
    (hc : CallOk st insOf env.selfTy env.callTy c) :
    ArgsRel st F ρ Fs (insOf c.callee) (mkArgs st F (argVals st env (insOf c.callee) c) none)
      (resolveBinds st self sib (insOf c.callee) c) :=
  argsRel_of_binds st F hF ρ Fs _ env c none (fun p b => ⟨filterR st p.ty (resolveRefs self sib b.exp), p.ty⟩)
    fun p hp b hfb =>
      have key := fun f hf => eval_resolveExp st hst F hF ρ Fs env self sib hrel f hf b.exp p.ty (hc.2.2 p hp b hfb)
      ⟨rfl, fun f hf => by cases b.split <;> exact (key f hf).1, (key f0 hf0).2⟩

omit hst hF in
theorem envRel_empty (Fs : ForkAssign → Prop) : EnvRel st F ρ Fs ⟨[], .null, []⟩ [] [] := by
  refine ⟨?_, ?_, ?_⟩
  · intro p; simp [Env.selfTy, σexp, HasTyR_null, evalRT, J.field]
  · intro c; simp [Env.callTy, Env.callVal, σexp, HasTyR_null, evalRT]
  · intro c; rfl

omit hst hF in
theorem envRel_init (Fs : ForkAssign → Prop) (pins : List Param) (args : J) (cins : RBMap)
    (h : ArgsRel st F ρ Fs pins args cins) : EnvRel st F ρ Fs ⟨pins, args, []⟩ cins [] := by
  obtain ⟨g, hc, ha, hty⟩ := h
  refine ⟨?_, ?_, ?_⟩
  · intro p
    simp only [Env.selfTy, σexp]
    rw [hc, lookup_map_find]
    cases hf : pins.find? (fun q => q.name == p) with
    | none =>
      refine ⟨by simp [HasTyR_null], fun f hfa => ?_⟩
      rw [ha f hfa]
      simp [J.field, lookup_map_find, hf, evalRT]
    | some q =>
      simp only [Option.map_some, Option.getD_some]
      refine ⟨hty q (List.mem_of_find?_eq_some hf), fun f hfa => ?_⟩
      rw [ha f hfa]
      simp [J.field, lookup_map_find, hf]
  · intro c
    simp [Env.callTy, Env.callVal, σexp, HasTyR_null, evalRT]
  · intro c
    rfl

omit hst hF in
theorem envRel_step (Fs : ForkAssign → Prop) (env : Env) (self sib : RBMap) (hrel : EnvRel st F ρ Fs env self sib)
    (id : String) (ty : Ty) (v : J) (rb : RB)
    (hv : ∀ f, Fs f → v = evalRT st F ρ f ty rb.exp) (hty : HasTyR st ty rb.exp) :
    EnvRel st F ρ Fs { env with calls := env.calls ++ [(id, ty, v)] } self (sib ++ [(id, rb)]) := by
  refine ⟨hrel.hself, ?_, ?_⟩
  · intro c
    have hd := hrel.hdom c
    have hc := hrel.hcall c
    simp only [Env.callTy, Env.callVal, σexp, List.lookup_append] at hc ⊢
    cases h1 : env.calls.lookup c with
    | some x =>
      rw [h1] at hd hc
      cases h2 : sib.lookup c with
      | none => simp [h2] at hd
      | some y =>
        rw [h2] at hc
        simpa using hc
    | none =>
      rw [h1] at hd
      cases h2 : sib.lookup c with
      | some y => simp [h2] at hd
      | none =>
        simp only [Option.none_or, List.lookup_cons, List.lookup_nil]
        cases (c == id) with
        | true => simpa using ⟨hty, fun f hf => hv f hf⟩
        | false => simp [HasTyR_null, evalRT]
  · intro c
    have hd := hrel.hdom c
    simp only [List.lookup_append]
    cases h1 : env.calls.lookup c with
    | some x =>
      rw [h1] at hd
      cases h2 : sib.lookup c with
      | none => simp [h2] at hd
      | some y => simp
    | none =>
      rw [h1] at hd
      cases h2 : sib.lookup c with
      | some y => simp [h2] at hd
      | none =>
        simp only [Option.none_or, List.lookup_cons, List.lookup_nil]
        cases (c == id) <;> rfl

omit hst hF in
theorem evalCall_plain (insOf : String → List Param) (run : Runner) (path : List String)
    (forks : List (String × Idx)) (env : Env) (c : Call) (hm : c.mapped = false) (hd : c.disabled = none) :
    evalCall st F insOf run path forks env c =
      (⟨c.callee, 0, 0⟩,
       (run c.callee (path ++ [c.id]) forks (mkArgs st F (argVals st env (insOf c.callee) c) none)).1,
       (run c.callee (path ++ [c.id]) forks (mkArgs st F (argVals st env (insOf c.callee) c) none)).2) := by
  simp [evalCall, hd, hm, callMode, liftTy]

end main

theorem staticCalls_acc (st : StructTable) (insOf : String → List Param)
    (node : String → List String → RBMap → RB × List SNode) (path : List String) (self : RBMap) :
    ∀ (cs : List Call) (sib : RBMap) (acc : List SNode),
      (staticCalls st insOf node path self cs sib acc).2
        = acc ++ (staticCalls st insOf node path self cs sib []).2 := by
  intro cs
  induction cs with
  | nil => intro sib acc; simp [staticCalls]
  | cons c cs ih =>
    intro sib acc
    simp only [staticCalls]
    split
    · rw [ih, ih _ ([] ++ _)]; simp
    · rw [ih, ih _ ([] ++ _)]; simp

/-!
## The induction over a call graph, for the flat static phase

`staticCalls` / `staticCallable` against den's `evalCalls` / `runCallable`, once for the three fragments (plain programs
here, map calls of stages in Proofs/ResolverStaticMap.lean and Proofs/ResolverStaticMapG.lean).  A fragment is given by:
the set `Fs` of fork assignments in which resolved expressions are read; `I`, the stage instances of a list of nodes (it
distributes over `++`); `SA n`, what the store is assumed to hold at node `n`; `Q fuel`, what is assumed of a static
node besides; `Inv L cs sib L'`, what is assumed of the calls `cs` still to do after calls of types `L` with resolved
outputs `sib` — their typing, which leaves the types `L'`, and whatever check of the static phase the fragment needs.
It shows that each of its calls contributes a `StepOf` and hands `Inv` on (`CallsStep`, from `step_plain` /
`step_mapped`, the kinds of calls).  `refine_calls_of_step` is the induction over the calls of a body,
`refine_callable` the induction on the fuel (`good_null` / `good_stage` / `good_pipeline`: the kinds of callables),
`twoPhase` the top level.  Proofs/ResolverStaticRun.lean has the twin for the tree-shaped phase (`staticCallsT`).
-/

namespace Flat

/-- den's result for a callable against the static node -/
def Good (st : StructTable) (F : Nat) (ρ : Store) (Fs : ForkAssign → Prop) (I : List SNode → List Inst)
    (callee : String) (d : J × List Inst) (s : RB × List SNode) : Prop :=
  (∀ f, Fs f → d.1 = evalRT st F ρ f ⟨callee, 0, 0⟩ s.1.exp) ∧ HasTyR st ⟨callee, 0, 0⟩ s.1.exp ∧ d.2 = I s.2

/-- the callees: `Good` for every callable, given `SA` at the stage nodes of its static node and `Q` of the node -/
def RunsGood (st : StructTable) (F : Nat) (ρ : Store) (Fs : ForkAssign → Prop) (I : List SNode → List Inst)
    (insOf : String → List Param) (SA : SNode → Prop) (Q : String → List String → RBMap → Prop) (run : Runner)
    (node : String → List String → RBMap → RB × List SNode) : Prop :=
  ∀ callee path args cins, ArgsRel st F ρ Fs (insOf callee) args cins →
    (∀ n ∈ (node callee path cins).2, SA n) → Q callee path cins →
    Good st F ρ Fs I callee (run callee path [] args) (node callee path cins)

/-- den's result `d` for one call statement (type, value, instances below) against what the static phase adds
for it: resolved outputs `rb`, stage nodes `ns` -/
structure CallStep (st : StructTable) (F : Nat) (ρ : Store) (Fs : ForkAssign → Prop) (I : List SNode → List Inst)
    (d : Ty × J × List Inst) (rb : RB) (ns : List SNode) : Prop where
  val : ∀ f, Fs f → d.2.1 = evalRT st F ρ f d.1 rb.exp
  hasTy : HasTyR st d.1 rb.exp
  insts : d.2.2 = I ns

end Flat

section skeleton
variable (st : StructTable) (F : Nat) (ρ : Store) (Fs : ForkAssign → Prop) (I : List SNode → List Inst)
  (hI : ∀ a b, I (a ++ b) = I a ++ I b)
  (insOf : String → List Param) (run : Runner) (node : String → List String → RBMap → RB × List SNode)
  (path : List String) (self : RBMap) (sT : String → Ty)

/-- the nodes still to come when the static phase goes on after a call with the nodes `ns`: those, then the nodes
of the calls after it -/
theorem staticCalls_snd_of_step {c : Call} {cs : List Call} {sib sib' : RBMap} {ns : List SNode}
    (h : ∀ sacc, staticCalls st insOf node path self (c :: cs) sib sacc
      = staticCalls st insOf node path self cs sib' (sacc ++ ns)) :
    (staticCalls st insOf node path self (c :: cs) sib []).2
      = ns ++ (staticCalls st insOf node path self cs sib' []).2 := by
  rw [h, staticCalls_acc]
  rfl

/-- the nodes a step adds are among the nodes still to come (where `SA` is assumed) -/
theorem Flat.store_of_step {SA : SNode → Prop} {c : Call} {cs : List Call} {sib sib' : RBMap} {ns : List SNode}
    (hstore : ∀ n ∈ (staticCalls st insOf node path self (c :: cs) sib []).2, SA n)
    (h : ∀ sacc, staticCalls st insOf node path self (c :: cs) sib sacc
      = staticCalls st insOf node path self cs sib' (sacc ++ ns)) : ∀ n ∈ ns, SA n :=
  fun n hn => hstore n (by rw [staticCalls_snd_of_step st insOf node path self h]; exact List.mem_append_left _ hn)

theorem staticCalls_plain {c : Call} (cs : List Call) (sib : RBMap) (hm : c.mapped = false) (sacc : List SNode) :
    staticCalls st insOf node path self (c :: cs) sib sacc
      = staticCalls st insOf node path self cs
          (sib ++ [(c.id, (node c.callee (path ++ [c.id]) (resolveBinds st self sib (insOf c.callee) c)).1)])
          (sacc ++ (node c.callee (path ++ [c.id]) (resolveBinds st self sib (insOf c.callee) c)).2) := by
  simp only [staticCalls, hm, Bool.false_eq_true, if_false]

namespace Flat

/-- the static phase goes on after call `c` with resolved outputs `rb` and stage nodes `ns`, which den's
`evalCall`, of type `ty`, matches -/
def StepOf (c : Call) (cs : List Call) (env : Env) (sib : RBMap) (ty : Ty) (rb : RB) (ns : List SNode) : Prop :=
  (∀ sacc, staticCalls st insOf node path self (c :: cs) sib sacc
    = staticCalls st insOf node path self cs (sib ++ [(c.id, rb)]) (sacc ++ ns)) ∧
  (evalCall st F insOf run path [] env c).1 = ty ∧
  CallStep st F ρ Fs I (evalCall st F insOf run path [] env c) rb ns

/-- every call of a body that satisfies `Inv`, with `SA` at the nodes still to come, contributes a `StepOf` and hands
`Inv` on -/
def CallsStep (SA : SNode → Prop) (Inv : List (String × Ty) → List Call → RBMap → List (String × Ty) → Prop) :
    Prop :=
  ∀ c cs env sib L', EnvRel st F ρ Fs env self sib → env.selfTy = sT →
    Inv (typesOf env) (c :: cs) sib L' → (∀ n ∈ (staticCalls st insOf node path self (c :: cs) sib []).2, SA n) →
    ∃ ty rb ns, StepOf st F ρ Fs I insOf run node path self c cs env sib ty rb ns ∧
      Inv (typesOf env ++ [(c.id, ty)]) cs (sib ++ [(c.id, rb)]) L'

include hI in
theorem refine_calls_of_step
    (SA : SNode → Prop) (Inv : List (String × Ty) → List Call → RBMap → List (String × Ty) → Prop)
    (hnil : ∀ L sib L', Inv L [] sib L' → L' = L)
    (hstep : CallsStep st F ρ Fs I insOf run node path self sT SA Inv) :
    ∀ (cs : List Call) (env : Env) (sib : RBMap) (acc : List Inst) (sacc : List SNode) (L' : List (String × Ty)),
      EnvRel st F ρ Fs env self sib → env.selfTy = sT → Inv (typesOf env) cs sib L' → acc = I sacc →
      (∀ n ∈ (staticCalls st insOf node path self cs sib []).2, SA n) →
      EnvRel st F ρ Fs (evalCalls st F insOf run path [] cs env acc).1 self
          (staticCalls st insOf node path self cs sib sacc).1 ∧
      (evalCalls st F insOf run path [] cs env acc).1.selfTys = env.selfTys ∧
      typesOf (evalCalls st F insOf run path [] cs env acc).1 = L' ∧
      (evalCalls st F insOf run path [] cs env acc).2 = I (staticCalls st insOf node path self cs sib sacc).2 := by
  intro cs
  induction cs with
  | nil =>
    intro env sib acc sacc L' hrel _ hinv hacc _
    exact ⟨hrel, rfl, (hnil _ _ _ hinv).symm, hacc⟩
  | cons c cs ih =>
    intro env sib acc sacc L' hrel hsT hinv hacc hstore
    obtain ⟨ty, rb, ns, ⟨hstatic, hty, hcs⟩, hinv'⟩ := hstep c cs env sib L' hrel hsT hinv hstore
    rw [staticCalls_snd_of_step st insOf node path self hstatic] at hstore
    simp only [evalCalls]
    rw [hstatic]
    generalize evalCall st F insOf run path [] env c = d at hty hcs
    obtain ⟨dty, dv, di⟩ := d
    obtain ⟨hval, hhas, hin⟩ := hcs
    simp only at hty hval hhas hin
    subst hty
    exact ih { env with calls := env.calls ++ [(c.id, dty, dv)] } (sib ++ [(c.id, rb)]) (acc ++ di) (sacc ++ ns) L'
      (envRel_step st F ρ Fs env self sib hrel c.id dty dv rb hval hhas) hsT (by simpa [typesOf] using hinv')
      (by rw [hacc, hin, hI]) fun n hn => hstore n (List.mem_append_right _ hn)

end Flat

end skeleton

namespace Flat

section kinds
variable (st : StructTable) (hst : StructsOk st) (F : Nat) (hF : NarrowFix st F) (ρ : Store)
  (Fs : ForkAssign → Prop) (I : List SNode → List Inst) (f0 : ForkAssign) (hf0 : Fs f0)
include hst hF hf0

/-- a plain call: the callee, run on den's arguments, against the node of the resolved bindings -/
theorem step_plain {insOf : String → List Param} {run : Runner}
    {node : String → List String → RBMap → RB × List SNode} {path : List String} {self sib : RBMap} {env : Env}
    {c : Call} (hrel : EnvRel st F ρ Fs env self sib) (hc : CallOk st insOf env.selfTy env.callTy c)
    (hgood : ∀ args, ArgsRel st F ρ Fs (insOf c.callee) args (resolveBinds st self sib (insOf c.callee) c) →
      Good st F ρ Fs I c.callee (run c.callee (path ++ [c.id]) [] args)
        (node c.callee (path ++ [c.id]) (resolveBinds st self sib (insOf c.callee) c))) :
    (evalCall st F insOf run path [] env c).1 = ⟨c.callee, 0, 0⟩ ∧
    CallStep st F ρ Fs I (evalCall st F insOf run path [] env c)
      (node c.callee (path ++ [c.id]) (resolveBinds st self sib (insOf c.callee) c)).1
      (node c.callee (path ++ [c.id]) (resolveBinds st self sib (insOf c.callee) c)).2 := by
  obtain ⟨g1, g2, g3⟩ := hgood _ (args_step st hst F hF ρ Fs f0 hf0 insOf env self sib hrel c hc)
  rw [evalCall_plain st F insOf run path [] env c hc.1 hc.2.1]
  exact ⟨rfl, g1, g2, g3⟩

omit hst hF hf0 in
theorem good_null (h0 : [] = I []) (callee : String) (t : Ty) :
    Good st F ρ Fs I callee (.null, []) (⟨.lit .null, t⟩, []) :=
  ⟨fun _ _ => by simp [evalRT], HasTyR_null _ _, h0⟩

omit hst hF hf0 in
/-- a stage node: its outputs are the reference to the node, read where the store holds the recorded outs `out`;
its one instance carries den's arguments -/
theorem good_stage (nm : List String → String) (callee : String) (path : List String) (out args : J) (cins : RBMap)
    (pins : List Param) (hargs : ArgsRel st F ρ Fs pins args cins) (h0 : Fs [])
    (hI : I [⟨path, callee, cins, [], []⟩] = [toInst st F ρ ⟨path, callee, cins, [], []⟩])
    (hs : ∀ f, Fs f → ρ.outs (nm path) f = out) :
    Good st F ρ Fs I callee (narrow st F ⟨callee, 0, 0⟩ out, [⟨⟨path, []⟩, args, false, false⟩])
      (⟨.ref (nm path) ⟨callee, 0, 0⟩ [], ⟨callee, 0, 0⟩⟩, [⟨path, callee, cins, [], []⟩]) := by
  refine ⟨fun f hf => by simp only [evalRT, projPath, hs f hf], ?_, ?_⟩
  · simp only [HasTyR, pathTy]
    exact Sub.refl _
  · obtain ⟨g, hc, ha, _⟩ := hargs
    rw [hI]
    simp only [toInst, runtimeArgs, hc, ha [] h0, List.map_map]
    rfl

/-- a pipeline node, from the refinement of its body (`R`: den's environment and instances after the calls, `S`: the
static phase's) and the typing of its return bindings against the types `L` of the calls -/
theorem good_pipeline (callee : String) (pins outs : List Param)
    (htab : st.lookup callee = some outs) (ret : List (String × Exp)) (L : List (String × Ty))
    (hret : ∀ p ∈ outs, ∀ e, ret.lookup p.name = some e → HasTy st (selfTyOf pins) (callTyOf L) p.ty e)
    (cins : RBMap) (R : Env × List Inst) (S : RBMap × List SNode)
    (h : EnvRel st F ρ Fs R.1 cins S.1 ∧ R.1.selfTys = pins ∧ typesOf R.1 = L ∧ R.2 = I S.2) :
    Good st F ρ Fs I callee
      (.obj (outs.map fun p => (p.name, narrow st F p.ty (match ret.lookup p.name with
        | some e => eval st R.1 e
        | none => .null))), R.2)
      (⟨.struct (outs.map fun p => (p.name, match ret.lookup p.name with
        | some e => filterR st p.ty (resolveRefs cins S.1 e)
        | none => .lit .null)), ⟨callee, 0, 0⟩⟩, S.2) := by
  obtain ⟨hrel, hself, htypes, hinst⟩ := h
  have hsT : R.1.selfTy = selfTyOf pins := by rw [selfTy_eq, hself]
  have hcT : R.1.callTy = callTyOf L := by rw [callTy_typesOf, htypes]
  obtain ⟨hv, hty⟩ := rets_struct st hst F hF ρ Fs callee outs htab ret (eval st R.1)
    (fun t e => filterR st t (resolveRefs cins S.1 e)) fun p hp e he =>
      have hty : HasTy st R.1.selfTy R.1.callTy p.ty e := by rw [hsT, hcT]; exact hret p hp e he
      ⟨fun f hf => (eval_resolveExp st hst F hF ρ Fs R.1 cins S.1 hrel f hf e p.ty hty).1,
        (eval_resolveExp st hst F hF ρ Fs R.1 cins S.1 hrel f0 hf0 e p.ty hty).2⟩
  exact ⟨hv, hty, hinst⟩

end kinds

theorem callsStep_plain (st : StructTable) (hst : StructsOk st) (F : Nat) (hF : NarrowFix st F) (ρ : Store)
    (insOf : String → List Param) (run : Runner)
    (node : String → List String → RBMap → RB × List SNode) (path : List String) (self : RBMap) (sT : String → Ty)
    (hrun : RunsGood st F ρ Fs0 (List.map (toInst st F ρ)) insOf (fun _ => True) (fun _ _ _ => True) run node) :
    CallsStep st F ρ Fs0 (List.map (toInst st F ρ)) insOf run node path self sT (fun _ => True)
      fun L cs _ L' => CallsOk st insOf sT L cs ∧ L' = L ++ callTypes cs :=
  fun c cs env sib L' hrel hsT ⟨⟨hc, hcs⟩, hL⟩ _ =>
    ⟨_, _, _, ⟨staticCalls_plain st insOf node path self cs sib hc.1,
        step_plain st hst F hF ρ Fs0 _ [] rfl hrel (by rw [hsT, callTy_typesOf]; exact hc) fun _ h =>
          hrun _ _ _ _ h (fun _ _ => trivial) trivial⟩,
      hcs, by simp [hL, callTypes]⟩

end Flat

/-- den's arguments of the top call against its resolved inputs -/
theorem argsRel_top (F : Nat) (ρ : Store) (Fs : ForkAssign → Prop) (f0 : ForkAssign) (hf0 : Fs f0) (st : StructTable)
    (hst : StructsOk st) (hF : NarrowFix st F) (insOf : String → List Param) (top : Call)
    (htop : CallOk st insOf (selfTyOf []) (callTyOf []) top) :
    ArgsRel st F ρ Fs (insOf top.callee) (mkArgs st F (argVals st ⟨[], .null, []⟩ (insOf top.callee) top) none)
      (resolveBinds st [] [] (insOf top.callee) top) :=
  args_step st hst F hF ρ Fs f0 hf0 insOf ⟨[], .null, []⟩ [] [] (envRel_empty st F ρ Fs) top
    (by rw [selfTy_eq, callTy_typesOf]; exact htop)

namespace Flat

section graph
variable (P : Program) (F : Nat) (hF : NarrowFix P.table F) (nm : List String → String) (O : Oracle) (ρ : Store)
  (hstructs : StructsOk P.table)
  (houts : ∀ name c, P.callables.lookup name = some c → P.table.lookup name = some c.outs)
  (Fs : ForkAssign → Prop) (hFs : Fs []) (I : List SNode → List Inst) (hI : ∀ a b, I (a ++ b) = I a ++ I b)
  (hI1 : ∀ path callee cins, I [⟨path, callee, cins, [], []⟩] = [toInst P.table F ρ ⟨path, callee, cins, [], []⟩])
  (SA : SNode → Prop)
  (hSA : ∀ path callee cins, SA ⟨path, callee, cins, [], []⟩ →
    ∀ f, Fs f → ρ.outs (nm path) f = (O ⟨path, []⟩).getD .null)
  (Q : Nat → String → List String → RBMap → Prop)
  (Inv : Nat → List Param → List String → RBMap →
    List (String × Ty) → List Call → RBMap → List (String × Ty) → Prop)
  (hnil : ∀ fuel pins path self L sib L', Inv fuel pins path self L [] sib L' → L' = L)
  (hpipe : ∀ fuel callee path cins pins outs calls ret,
    P.callables.lookup callee = some (.pipeline pins outs calls ret) → Q (fuel + 1) callee path cins →
    ∃ L, Inv fuel pins path cins [] calls [] L ∧
      ∀ p ∈ outs, ∀ e, ret.lookup p.name = some e → HasTy P.table (selfTyOf pins) (callTyOf L) p.ty e)
  (hstep : ∀ fuel,
    RunsGood P.table F ρ Fs I P.insOf SA (Q fuel) (runCallable P O F fuel) (staticCallable P nm fuel) →
    ∀ pins path self, CallsStep P.table F ρ Fs I P.insOf (runCallable P O F fuel) (staticCallable P nm fuel) path self
      (selfTyOf pins) SA (Inv fuel pins path self))
include hF hstructs houts hFs hI hI1 hSA hnil hpipe hstep

/-- the induction on the fuel, once: a fragment is given by what it assumes of a static node (`SA` at its stage
nodes, `Q fuel` of the node itself), by what `Q` gives for the body of a pipeline node (`hpipe`) and by the kinds of
calls it has (`hstep`) -/
theorem refine_callable :
    ∀ fuel, RunsGood P.table F ρ Fs I P.insOf SA (Q fuel) (runCallable P O F fuel) (staticCallable P nm fuel) := by
  have hI0 : [] = I [] := (List.self_eq_append_right.mp (hI [] [])).symm
  intro fuel
  induction fuel with
  | zero => exact fun callee _ _ _ _ _ _ => good_null _ _ _ _ I hI0 callee _
  | succ fuel ih =>
    intro callee path args cins hargs hstore hq
    simp only [runCallable, staticCallable] at hstore ⊢
    cases hl : P.callables.lookup callee with
    | none => exact good_null _ _ _ _ I hI0 callee _
    | some cb =>
      have hins : P.insOf callee = cb.ins := by simp [Program.insOf, hl]
      rw [hins] at hargs
      cases cb with
      | stage sins souts =>
        simp only [hl] at hstore
        exact good_stage P.table F ρ Fs I nm callee path _ args cins sins hargs hFs (hI1 _ _ _)
          (hSA path callee cins (hstore _ (by simp)))
      | pipeline pins outs calls ret =>
        simp only [hl] at hstore
        obtain ⟨L, hinv, hret⟩ := hpipe fuel callee path cins pins outs calls ret hl hq
        exact good_pipeline P.table hstructs F hF ρ Fs I [] hFs callee pins outs (houts callee _ hl) ret L hret cins
          _ _
          (refine_calls_of_step P.table F ρ Fs I hI P.insOf _ _ path cins _ SA _ (hnil fuel pins path cins)
            (hstep fuel ih pins path cins) calls ⟨pins, args, []⟩ [] [] [] L
            (envRel_init P.table F ρ Fs pins args cins hargs) rfl hinv hI0 hstore)

/-- both phases = den, for a fragment of the flat static phase -/
theorem twoPhase (htop : CallOk P.table P.insOf (selfTyOf []) (callTyOf []) P.top)
    (hstore : ∀ n ∈ (staticProgram P nm).2, SA n) (hq : Q P.fuel P.top.callee [P.top.id] (topInputs P)) :
    runCallable P O F P.fuel P.top.callee [P.top.id] []
        (mkArgs P.table F (argVals P.table ⟨[], .null, []⟩ (P.insOf P.top.callee) P.top) none)
      = ((evalRT P.table F ρ [] ⟨P.top.callee, 0, 0⟩ (staticProgram P nm).1.exp), I (staticProgram P nm).2) := by
  obtain ⟨g1, _, g3⟩ := refine_callable P F hF nm O ρ hstructs houts Fs hFs I hI hI1 SA hSA Q Inv hnil hpipe hstep
    P.fuel P.top.callee [P.top.id] _ _ (argsRel_top F ρ Fs [] hFs P.table hstructs hF P.insOf P.top htop) hstore hq
  exact Prod.ext (g1 [] hFs) g3

end graph

end Flat

section graph
variable (P : Program) (hw : WellTyped P) (F : Nat) (hF : NarrowFix P.table F)
  (nm : List String → String) (O : Oracle) (ρ : Store) (hρ : StoreOf nm O ρ)
include hw hF hρ

/-- THE REFINEMENT for plain programs: both phases of the resolver = den -/
theorem twoPhase_eq_den_F :
    runCallable P O F P.fuel P.top.callee [P.top.id] []
        (mkArgs P.table F (argVals P.table ⟨[], .null, []⟩ (P.insOf P.top.callee) P.top) none)
      = ((evalRT P.table F ρ [] ⟨P.top.callee, 0, 0⟩ (staticProgram P nm).1.exp),
         (staticProgram P nm).2.map (toInst P.table F ρ)) :=
  Flat.twoPhase P F hF nm O ρ hw.structs hw.outsOf (Fs := Fs0) (hFs := rfl)
    (I := List.map (toInst P.table F ρ)) (hI := fun _ _ => List.map_append) (hI1 := fun _ _ _ => rfl)
    (SA := fun _ => True) (hSA := fun path _ _ _ f hf => by rw [hf, hρ path []])
    (Q := fun _ _ _ _ => True)
    (Inv := fun _ pins _ _ L cs _ L' => CallsOk P.table P.insOf (selfTyOf pins) L cs ∧ L' = L ++ callTypes cs)
    (hnil := fun _ _ _ _ L _ L' h => by simpa [callTypes] using h.2)
    (hpipe := fun _ callee _ _ pins outs calls ret hl _ =>
      ⟨_, ⟨(hw.pipelines callee pins outs calls ret hl).1, rfl⟩, (hw.pipelines callee pins outs calls ret hl).2⟩)
    (hstep := fun _ ih pins path self =>
      Flat.callsStep_plain P.table hw.structs F hF ρ P.insOf _ _ path self (selfTyOf pins) ih)
    hw.top (fun _ _ => trivial) trivial

end graph

end Proofs.ResolverStatic
