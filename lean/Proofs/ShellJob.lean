import Proofs.ShellShapes
import Proofs.Decimal
import Proofs.ShellReplace

/-! Two parts (C18).  From the inputs of `jobScript` to the hypotheses of the shape lemmas: `JobOK`, `NoNl`, `valsOK_of_job`,
`vals_no_nl`, `script_tokens_of_lines`, `job_tokens_of_lines`.  Then `jobScript` on the bytes of a well-formed template is
`renderScript` on its segments: `job_pairs`, `job_vals_ne`, `jobScript_eq_render`. -/
namespace Martian.JobTemplate
open Martian.ShellQuote
open Proofs.Decimal (digit digits loop_eq digits_all)

theorem digitByte_eq (n : Nat) : digitByte n = digit (n % 10) := by
  have h : ∀ k : Fin 10, (0x30 : UInt8) + k.val.toUInt8 = digit k.val := by decide
  exact h ⟨n % 10, Nat.mod_lt _ (by decide)⟩

theorem natDigitsAux_step (f n : Nat) (acc : Bytes) : natDigitsAux (f + 1) n acc =
    if n < 10 then digit n :: acc else natDigitsAux f (n / 10) (digit (n % 10) :: acc) := by
  rw [natDigitsAux, digitByte_eq]
  by_cases h : n < 10
  · rw [if_pos h, if_pos (by simp; omega), Nat.mod_eq_of_lt h]
  · rw [if_neg h, if_neg (by simp; omega)]

theorem natDigits_eq (n : Nat) : natDigits n = digits n := by
  rw [natDigits, loop_eq natDigitsAux_step _ _ _ (Nat.lt_succ_self n), List.append_nil]

theorem natDigits_digits (n : Nat) : ∀ b ∈ natDigits n, isDigit b = true := natDigits_eq n ▸ digits_all n

theorem isDigit_facts {b : UInt8} (h : isDigit b = true) : b ≠ 0x0A ∧ b ≠ 0 ∧ b < 0x80 := by
  simp only [isDigit, Bool.and_eq_true, decide_eq_true_eq] at h
  have h1 := UInt8.le_iff_toNat_le.mp h.1
  have h2 := UInt8.le_iff_toNat_le.mp h.2
  simp at h1 h2
  refine ⟨?_, ?_, ?_⟩
  · intro e; subst e; simp at h1
  · intro e; subst e; simp at h1
  · apply UInt8.lt_iff_toNat_lt.mpr; simp; omega

theorem natDigits_no_nl (n : Nat) : (0x0A : UInt8) ∉ natDigits n :=
  fun h => (isDigit_facts (natDigits_digits n _ h)).1 rfl

theorem natDigits_ok (n : Nat) : validUtf8 (natDigits n) = true ∧ (0 : UInt8) ∉ natDigits n :=
  ⟨validUtf8_ascii _ (fun b hb => (isDigit_facts (natDigits_digits n b hb)).2.2),
   fun h => (isDigit_facts (natDigits_digits n _ h)).2.1 rfl⟩

theorem quote_no_nl {tbl : EscTable} (ht : TableOK tbl = true) (s : Bytes)
    (hv : validUtf8 s = true) (h0 : (0 : UInt8) ∉ s) (hn : (0x0A : UInt8) ∉ s) :
    (0x0A : UInt8) ∉ quote tbl s := by
  intro h
  simp only [quote, quoteBody_valid tbl s hv, List.mem_cons, List.mem_append, List.mem_flatMap] at h
  rcases h with h | ⟨b, hb, h⟩ | h
  · exact absurd h (by decide)
  · -- `b` is written as itself, possibly after a backslash
    have hx : (0x0A : UInt8) = b := by
      rcases quoteByte_cases ht (b := b) (fun e => h0 (e ▸ hb)) with ⟨he, _⟩ | ⟨he, _⟩ <;>
        simpa [he] using h
    exact hn (hx ▸ hb)
  · exact absurd h (by decide)

theorem mem_insertSorted (tbl : EscTable) (kv x : Bytes × Bytes) (l : List (Bytes × Bytes)) :
    x ∈ insertSorted tbl kv l → x = kv ∨ x ∈ l := by
  induction l with
  | nil => simp [insertSorted]
  | cons y ys ih =>
    unfold insertSorted
    split
    · simp
    · intro h
      rcases List.mem_cons.mp h with rfl | h
      · simp
      · exact (ih h).imp_right (List.mem_cons_of_mem _)

theorem mem_sortEnvs (tbl : EscTable) (x : Bytes × Bytes) (l : List (Bytes × Bytes)) :
    x ∈ sortEnvs tbl l → x ∈ l := by
  unfold sortEnvs
  induction l with
  | nil => simp
  | cons y ys ih =>
    simp only [List.foldr_cons]
    intro h
    rcases mem_insertSorted tbl y x _ h with rfl | h
    · simp
    · exact List.mem_cons_of_mem _ (ih h)

theorem mem_mergeEnvs (names : List Bytes) (thr : Bytes) (envs : List (Bytes × Bytes))
    (x : Bytes × Bytes) (h : x ∈ mergeEnvs names thr envs) :
    (x.1 ∈ names ∧ x.2 = thr) ∨ x ∈ envs := by
  unfold mergeEnvs at h
  rcases List.mem_append.mp h with h | h
  · left
    simp only [List.mem_map, List.mem_filter] at h
    obtain ⟨n, ⟨hn, _⟩, rfl⟩ := h
    exact ⟨List.mem_eraseDups.mp hn, rfl⟩
  · exact Or.inr h

theorem replaceFirst_hash (new r : Bytes) :
    replaceFirst resKey new (0x23 :: r) = 0x23 :: replaceFirst resKey new r := by
  simp [replaceFirst, resKey]

theorem replaceFirst_mem (old new : Bytes) : ∀ (s : Bytes) (x : UInt8),
    x ∈ replaceFirst old new s → x ∈ new ∨ x ∈ s
  | [], x, h => by simp [replaceFirst] at h
  | b :: r, x, h => by
    unfold replaceFirst at h
    split at h
    · exact (List.mem_append.mp h).imp_right List.mem_of_mem_drop
    · rcases List.mem_cons.mp h with rfl | h
      · simp
      · exact (replaceFirst_mem old new r x h).imp_right (List.mem_cons_of_mem _)

/-- the documented domain: names are names, every string is NUL-free valid UTF-8; the mapped
resources option is absent or a one-line comment -/
structure JobOK (j : JobIn) : Prop where
  threadEnvs : ∀ n ∈ j.threadEnvs, isName n = true
  envs : ∀ kv ∈ j.envs, isName kv.1 = true ∧ validUtf8 kv.2 = true ∧ (0 : UInt8) ∉ kv.2
  cmd : validUtf8 j.cmd = true ∧ (0 : UInt8) ∉ j.cmd
  argv : ∀ a ∈ j.argv, validUtf8 a = true ∧ (0 : UInt8) ∉ a
  stdout : validUtf8 j.stdout = true ∧ (0 : UInt8) ∉ j.stdout
  stderr : validUtf8 j.stderr = true ∧ (0 : UInt8) ∉ j.stderr
  workdir : validUtf8 j.workdir = true ∧ (0 : UInt8) ∉ j.workdir
  res : mappedResources j = [] ∨ ∃ r, mappedResources j = 0x23 :: r ∧ (0x0A : UInt8) ∉ r

/-- no newline in the values that templates put on `#` (scheduler directive) lines, nor in the work directory -/
structure NoNl (j : JobIn) : Prop where
  fqname : (0x0A : UInt8) ∉ j.fqname
  shellName : (0x0A : UInt8) ∉ j.shellName
  stdout : (0x0A : UInt8) ∉ j.stdout
  stderr : (0x0A : UInt8) ∉ j.stderr
  workdir : (0x0A : UInt8) ∉ j.workdir
  account : (0x0A : UInt8) ∉ j.account

/-- a job inside the domain on any template text, with metacharacters in command, argument,
environment value and paths (`$(id)`, backtick, quote, backslash, blank) -/
def sampleJob (tmpl : Bytes) : JobIn :=
  { tmpl := tmpl, fqname := [0x49, 0x44], shellName := [0x6D], stdout := [0x2F, 0x60, 0x22],
    stderr := [0x2F, 0x5C], workdir := [0x2F, 0x20, 0x27], threadEnvs := [[0x54]],
    envs := [([0x41], [0x24, 0x48])], cmd := [0x2F, 0x24, 0x28, 0x69, 0x64, 0x29],
    argv := [[0x3B, 0x26]], threads := 1, memGB := 1, vmemGB := 0, threadsPerJob := 1,
    memGBPerJob := 1, extraVmemGB := 0, memGBPerCore := 0, alwaysVmem := false, account := [],
    special := [], mappings := [], resOpt := [] }

theorem sampleJob_ok (tmpl : Bytes) : JobOK (sampleJob tmpl) ∧ NoNl (sampleJob tmpl) := by
  refine ⟨⟨?_, ?_, ?_, ?_, ?_, ?_, ?_, Or.inl rfl⟩, ⟨?_, ?_, ?_, ?_, ?_, ?_⟩⟩
  all_goals (dsimp only [sampleJob]; decide)

theorem valsOK_of_job {tbl : EscTable} (j : JobIn) (hj : JobOK j) :
    ValsOK tbl (valsOf (params tbl j)) (givenOf tbl j) where
  cmd := rfl
  stdout := rfl
  stderr := rfl
  workdir := rfl
  envsOK := by
    intro kv hkv
    rcases mem_mergeEnvs _ _ _ kv (mem_sortEnvs tbl kv _ hkv) with ⟨hn, ht⟩ | h
    · refine ⟨hj.threadEnvs _ hn, ?_, ?_⟩ <;> rw [ht]
      · exact (natDigits_ok _).1
      · exact (natDigits_ok _).2
    · exact hj.envs kv h
  cmdOK := hj.cmd
  argvOK := hj.argv
  stdoutOK := hj.stdout
  stderrOK := hj.stderr
  workdirOK := hj.workdir
  resOK := hj.res

theorem param_names (tbl : EscTable) (j : JobIn) :
    (params tbl j).map (·.1) = paramSpec.map (·.1) := rfl

theorem forall_params {tbl : EscTable} {j : JobIn} {Q : String × Kind × Bytes → Prop}
    (jobName : Q ("JOB_NAME", .raw, j.fqname ++ [0x2E] ++ j.shellName))
    (int : ∀ name n, Q (name, .int, natDigits n))
    (stdout : Q ("STDOUT", .quoted, quote tbl j.stdout))
    (stderr : Q ("STDERR", .quoted, quote tbl j.stderr))
    (workdir : Q ("JOB_WORKDIR", .quoted, quote tbl j.workdir))
    (cmd : Q ("CMD", .cmd, formatArgs tbl
      (mergeEnvs j.threadEnvs (natDigits (resources j).threads) j.envs) j.cmd j.argv))
    (account : Q ("ACCOUNT", .raw, j.account))
    (res : Q ("RESOURCES", .raw, mappedResources j)) : ∀ p ∈ params tbl j, Q p := by
  simp only [params, List.forall_mem_cons, List.not_mem_nil, false_imp_iff, implies_true, and_true]
  exact ⟨jobName, int _ _, stdout, stderr, workdir, cmd, int _ _, int _ _, int _ _, int _ _,
    int _ _, int _ _, int _ _, int _ _, int _ _, int _ _, int _ _, int _ _, int _ _, int _ _,
    int _ _, int _ _, account, res⟩

theorem valsOf_param {tbl : EscTable} {j : JobIn} {name : String}
    (h : name ∈ paramSpec.map (·.1)) :
    ∃ p ∈ params tbl j, p.1 = name ∧ valsOf (params tbl j) name = p.2.2 := by
  rw [← param_names tbl j, List.mem_map] at h
  unfold valsOf
  cases hf : (params tbl j).find? fun p => p.1 == name with
  | some p => exact ⟨p, List.mem_of_find?_eq_some hf, by simpa using List.find?_some hf, rfl⟩
  | none =>
    obtain ⟨p, hp, he⟩ := h
    simpa [he] using List.find?_eq_none.mp hf p hp

theorem vals_no_nl {tbl : EscTable} (ht : TableOK tbl = true) (j : JobIn) (hj : JobOK j)
    (hn : NoNl j) (name : String) (hmem : paramSpec.any (fun p => p.1 == name) = true)
    (hc : name ≠ "CMD") : (0x0A : UInt8) ∉ valsOf (params tbl j) name := by
  have hname : name ∈ paramSpec.map (·.1) := by
    obtain ⟨p, hp, he⟩ := List.any_eq_true.mp hmem
    exact List.mem_map.mpr ⟨p, hp, eq_of_beq he⟩
  obtain ⟨p, hp, rfl, hv⟩ := valsOf_param (tbl := tbl) (j := j) hname
  rw [hv]
  refine forall_params (Q := fun p => p.1 ≠ "CMD" → (0x0A : UInt8) ∉ p.2.2)
    ?_ (fun _ n _ => natDigits_no_nl n)
    (fun _ => quote_no_nl ht j.stdout hj.stdout.1 hj.stdout.2 hn.stdout)
    (fun _ => quote_no_nl ht j.stderr hj.stderr.1 hj.stderr.2 hn.stderr)
    (fun _ => quote_no_nl ht j.workdir hj.workdir.1 hj.workdir.2 hn.workdir)
    (fun h => absurd rfl h) (fun _ => hn.account) ?_ p hp hc
  · intro _
    simp only [List.mem_append, List.mem_singleton, not_or]
    exact ⟨⟨hn.fqname, by decide⟩, hn.shellName⟩
  · intro _
    rcases hj.res with h | ⟨r, h, hr⟩
    · rw [h]; simp
    · rw [h]; intro hm
      rcases List.mem_cons.mp hm with h | h
      · exact absurd h (by decide)
      · exact hr h

theorem inert_no_cmd (l : SegLine) (h : shapeOf l = .inert) : ∀ s ∈ l, s.1 ≠ "CMD" := by
  rcases shapeOf_cases l with h' | ⟨_, hc, _⟩ | ⟨h', _⟩ | ⟨h', _⟩ | ⟨h', _⟩ | ⟨h', _⟩
  case inr.inl => exact hc
  all_goals exact absurd (h.symm.trans h') (by decide)

theorem script_tokens_of_lines {tbl : EscTable} (ht : TableOK tbl = true) {vals : String → Bytes}
    {g : Given} (hv : ValsOK tbl vals g) (ls : List SegLine)
    (hs : ∀ l ∈ ls, shapeOf l ≠ .other)
    (hnl : ∀ l ∈ ls, shapeOf l = .inert →
      ∀ s ∈ l, (0x0A : UInt8) ∉ (if segIsVar s then vals s.1 else s.2)) :
    shToks (renderScript vals ls) = some (expectedToks g ls) :=
  shToks_of_lineRes (lineRes_script (renderLine vals) (fun l => lineToks g (shapeOf l)) ls
    (fun l hl => lineRes_of_shape ht hv l (hs l hl) (hnl l hl)))

theorem lineOK_facts {l : SegLine} (h : lineOK l = true) :
    shapeOf l ≠ .other ∧ ∀ s ∈ l,
      (segIsVar s = true → paramSpec.any (fun p => p.1 == s.1) = true) ∧
      (segIsVar s = false → (0x0A : UInt8) ∉ s.2) := by
  unfold lineOK at h
  simp only [Bool.and_eq_true, bne_iff_ne, ne_eq, List.all_eq_true] at h
  refine ⟨h.1, ?_⟩
  intro s hs
  have := h.2 s hs
  constructor
  · intro hv; simpa [hv] using this
  · intro hv
    simp only [hv, Bool.false_eq_true, if_false, Bool.not_eq_true', List.contains_eq_mem,
      decide_eq_false_iff_not] at this
    exact this

theorem job_tokens_of_lines {tbl : EscTable} (ht : TableOK tbl = true) (j : JobIn) (hj : JobOK j)
    (hn : NoNl j) (ls : List SegLine) (hok : ls.all lineOK = true) :
    shToks (renderScript (valsOf (params tbl j)) ls) = some (expectedToks (givenOf tbl j) ls) := by
  rw [List.all_eq_true] at hok
  apply script_tokens_of_lines ht (valsOK_of_job j hj) ls
  · intro l hl; exact (lineOK_facts (hok l hl)).1
  · intro l hl hin s hs
    have hf := (lineOK_facts (hok l hl)).2 s hs
    cases hv : segIsVar s with
    | true =>
      simp only [if_true]
      exact vals_no_nl ht j hj hn s.1 (hf.1 hv) (inert_no_cmd l hin s hs)
    | false =>
      simp only [Bool.false_eq_true, if_false]
      exact hf.2 hv

/-- comment lines that hold no variable at all: no newline hypothesis is needed -/
def noVarsInComments (ls : List SegLine) : Bool :=
  ls.all fun l => shapeOf l != .inert || l.all fun s => !segIsVar s

theorem job_tokens_no_comment_vars {tbl : EscTable} (ht : TableOK tbl = true) (j : JobIn)
    (hj : JobOK j) (ls : List SegLine) (hok : ls.all lineOK = true)
    (hnv : noVarsInComments ls = true) :
    shToks (renderScript (valsOf (params tbl j)) ls) = some (expectedToks (givenOf tbl j) ls) := by
  rw [List.all_eq_true] at hok
  unfold noVarsInComments at hnv
  rw [List.all_eq_true] at hnv
  apply script_tokens_of_lines ht (valsOK_of_job j hj) ls
  · intro l hl; exact (lineOK_facts (hok l hl)).1
  · intro l hl hin s hs
    have h1 := hnv l hl
    simp only [hin, bne_self_eq_false, Bool.false_or, List.all_eq_true, Bool.not_eq_true'] at h1
    have hv := h1 s hs
    simp only [hv, Bool.false_eq_true, if_false]
    exact ((lineOK_facts (hok l hl)).2 s hs).2 hv

/-! ## `jobScript` (byte level) = `renderScript` (segment level) -/

theorem natDigits_ne_nil (n : Nat) : natDigits n ≠ [] := natDigits_eq n ▸ Proofs.Decimal.digits_ne_nil n

theorem bytesOf_ofList (l : List Char) :
    bytesOf (String.ofList l) = l.map fun c => c.toNat.toUInt8 := by
  rw [bytesOf, String.toList_ofList]

theorem varKey_eq (name : String) : varKey name = bytesOf "__MRO_" ++ bytesOf name ++ bytesOf "__" := by
  unfold varKey bytesOf
  rw [String.toList_append, String.toList_append, List.map_append, List.map_append]

theorem param_names_nodup : (paramSpec.map (·.1)).Nodup := by decide +kernel

theorem valsOf_self : ∀ (ps : List (String × Kind × Bytes)), (ps.map (·.1)).Nodup →
    ∀ p ∈ ps, valsOf ps p.1 = p.2.2
  | [], _, p, hp => by cases hp
  | q :: qs, hnd, p, hp => by
    simp only [List.map_cons, List.nodup_cons] at hnd
    rcases List.mem_cons.mp hp with rfl | hp
    · simp [valsOf]
    · have hne : (q.1 == p.1) = false := by
        apply Bool.eq_false_iff.mpr
        intro e
        exact hnd.1 (by rw [eq_of_beq e]; exact List.mem_map.mpr ⟨p, hp, rfl⟩)
      have ih := valsOf_self qs hnd.2 p hp
      simp only [valsOf, List.find?_cons, hne] at ih ⊢
      exact ih

theorem job_pairs (tbl : EscTable) (j : JobIn) :
    (params tbl j).map (fun p => (varKey p.1, p.2.2))
      = paramKeys.map fun nk => (nk.2, valsOf (params tbl j) nk.1) := by
  have hk : paramKeys = (params tbl j).map fun p => (p.1, varKey p.1) := by
    have h1 : paramKeys = (paramSpec.map (·.1)).map fun n => (n, varKey n) := by
      simp [paramKeys, List.map_map, Function.comp_def]
    have h2 : ((params tbl j).map fun p => (p.1, varKey p.1))
        = ((params tbl j).map (·.1)).map fun n => (n, varKey n) := by
      simp [List.map_map, Function.comp_def]
    rw [h1, h2, param_names]
  rw [hk, List.map_map]
  apply List.map_congr_left
  intro p hp
  have hnd : ((params tbl j).map (·.1)).Nodup := by rw [param_names]; exact param_names_nodup
  simp [valsOf_self _ hnd p hp]

/-- every parameter but the raw ones has a non-empty value -/
theorem job_vals_ne (tbl : EscTable) (j : JobIn) :
    ∀ nk ∈ paramKeys, nk.1 ∉ maybeEmptyParams → valsOf (params tbl j) nk.1 ≠ [] := by
  intro nk hnk hme
  have hname : nk.1 ∈ paramSpec.map (·.1) := by
    obtain ⟨p, hp, rfl⟩ := List.mem_map.mp hnk
    exact List.mem_map.mpr ⟨p, hp, rfl⟩
  obtain ⟨p, hp, he, hv⟩ := valsOf_param (tbl := tbl) (j := j) hname
  rw [hv]
  exact forall_params (Q := fun p => p.1 ∉ maybeEmptyParams → p.2.2 ≠ [])
    (fun h => absurd (show "JOB_NAME" ∈ maybeEmptyParams by decide) h)
    (fun _ n _ => natDigits_ne_nil n)
    (fun _ => quote_ne_nil tbl _) (fun _ => quote_ne_nil tbl _) (fun _ => quote_ne_nil tbl _)
    (fun _ => formatArgsOrdered_ne_nil tbl _ _ _)
    (fun h => absurd (show "ACCOUNT" ∈ maybeEmptyParams by decide) h)
    (fun h => absurd (show "RESOURCES" ∈ maybeEmptyParams by decide) h) p hp (he ▸ hme)

theorem jobScript_eq_render {tbl : EscTable} (ls : List SegLine)
    (hwf : wfTemplate paramKeys maybeEmptyParams ls = true) (j : JobIn)
    (hT : j.tmpl = templateTextK paramKeys ls) :
    jobScript tbl j = renderScript (valsOf (params tbl j)) ls := by
  have S : Setting paramKeys maybeEmptyParams ls (valsOf (params tbl j)) :=
    ⟨hwf, job_vals_ne tbl j⟩
  have := S.replace_eq_render
  unfold pairsOf at this
  unfold jobScript
  rw [job_pairs, hT]
  exact this

end Martian.JobTemplate
