/-! Decimal numerals over bytes: the reference printer `digits`, the value `valueFrom` of a digit string, and
`loop_eq`, through which a model's fuelled printing loop is `digits`.  "Is a digit" is spelled `0x30 ≤ c && c ≤ 0x39`,
the body of every model's `isDigit`, so that the facts are accepted for each of them as they stand; `valueFrom` is the
fold of `Martian.Lexer.decValFrom` and `Martian.JsonBytes.decValFrom`. -/
namespace Proofs.Decimal

def digit (d : Nat) : UInt8 := UInt8.ofNat (48 + d)

def valueFrom (a : Nat) (ds : List UInt8) : Nat := ds.foldl (fun a c => 10 * a + (c.toNat - 48)) a

/-- the decimal numeral of `n`, most significant digit first -/
def digits (n : Nat) : List UInt8 := if n < 10 then [digit n] else digits (n / 10) ++ [digit (n % 10)]

theorem digit_spec : ∀ d < 10, (0x30 ≤ digit d && digit d ≤ 0x39) = true ∧ (digit d).toNat - 48 = d ∧ (0 < d → digit d ≠ 0x30) := by
  decide

theorem digit_mod (n : Nat) : (0x30 ≤ digit (n % 10) && digit (n % 10) ≤ 0x39) = true ∧ (digit (n % 10)).toNat - 48 = n % 10 :=
  ⟨(digit_spec _ (Nat.mod_lt n (by decide))).1, (digit_spec _ (Nat.mod_lt n (by decide))).2.1⟩

theorem digits_lt {n : Nat} (h : n < 10) : digits n = [digit n] := by rw [digits, if_pos h]

theorem digits_ne_nil (n : Nat) : digits n ≠ [] := by
  rw [digits]; split <;> simp

theorem digits_all (n : Nat) : ∀ c ∈ digits n, (0x30 ≤ c && c ≤ 0x39) = true := by
  fun_induction digits n with
  | case1 n h => intro c hc; rw [List.mem_singleton.mp hc]; exact (digit_spec n h).1
  | case2 n _ ih =>
    intro c hc
    rcases List.mem_append.mp hc with hc | hc
    · exact ih c hc
    · rw [List.mem_singleton.mp hc]; exact (digit_mod n).1

theorem value_snoc (ds : List UInt8) (d : UInt8) : valueFrom 0 (ds ++ [d]) = 10 * valueFrom 0 ds + (d.toNat - 48) := by
  simp [valueFrom, List.foldl_append]

theorem value_digits (n : Nat) : valueFrom 0 (digits n) = n := by
  fun_induction digits n with
  | case1 n h => simp [valueFrom, (digit_spec n h).2.1]
  | case2 n _ ih => rw [value_snoc, ih, (digit_mod n).2]; omega

/-- no leading zero, except for `0` itself -/
theorem digits_head (n : Nat) : 0 < n → (digits n).head? ≠ some 0x30 := by
  fun_induction digits n with
  | case1 n h => intro h0; simpa using (digit_spec n h).2.2 h0
  | case2 n h ih =>
    intro _
    have := ih (by omega)
    cases hd : digits (n / 10) with
    | nil => exact absurd hd (digits_ne_nil _)
    | cons c t => simpa [hd] using this

theorem digits_zero : digits 0 = [0x30] := by rw [digits_lt (by decide)]; rfl

/-- `digits n` has `k + 1` bytes exactly for `10^k ≤ n < 10^(k+1)` (and `n < 10`, `k = 0`) -/
theorem digits_length_le (n : Nat) : ∀ k, n < 10 ^ (k + 1) → (digits n).length ≤ k + 1 := by
  fun_induction digits n with
  | case1 n h => intro k _; simp
  | case2 n h ih =>
    intro k hk
    cases k with
    | zero => omega
    | succ k =>
      have := ih k (by rw [Nat.pow_succ] at hk; omega)
      simp only [List.length_append, List.length_singleton]; omega

theorem digits_length_ge (n : Nat) : ∀ k, k = 0 ∨ 10 ^ k ≤ n → k + 1 ≤ (digits n).length := by
  fun_induction digits n with
  | case1 n h =>
    intro k hk
    cases k with
    | zero => simp
    | succ k =>
      have := Nat.pow_pos (n := k) (show 0 < 10 by decide)
      rw [Nat.pow_succ] at hk; omega
  | case2 n h ih =>
    intro k hk
    cases k with
    | zero => simp
    | succ k =>
      have := ih k (Or.inr (by rw [Nat.pow_succ] at hk; omega))
      simp only [List.length_append, List.length_singleton]; omega

/-- a fuelled loop that peels off the last digit in front of an accumulator prints `digits` -/
theorem loop_eq {aux : Nat → Nat → List UInt8 → List UInt8}
    (step : ∀ f n acc, aux (f + 1) n acc = if n < 10 then digit n :: acc else aux f (n / 10) (digit (n % 10) :: acc)) :
    ∀ (f n : Nat) (acc : List UInt8), n < f → aux f n acc = digits n ++ acc
  | 0, _, _, h => by omega
  | f + 1, n, acc, h => by
    rw [step, digits]
    split
    · rfl
    · rw [loop_eq step f (n / 10) _ (by omega), List.append_assoc]; rfl

end Proofs.Decimal
