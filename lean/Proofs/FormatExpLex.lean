import Proofs.FormatExpToks
import Proofs.FormatExpNum
import Martian.Format
import Proofs.FormatQuote
import Proofs.LexerRegexString

/-!
C09, print → tokens for value expressions, in two parts.

* Namespace `Martian.Format`: the string rule of the tokenizer (`tokStringRule`,
  `Martian.Lexer.matchString`) matches exactly the text `quoteString` printed, whatever follows
  it (`matchString_quoteString`).
* Namespace `Martian.FormatExp`: `LexOK s ts R` (the text `s`, followed by a text in `R`, lexes as
  `ts` and then the tokens of what follows), its composition lemmas (`LexOK.append`, `LexOK.app`,
  `LexOK.tok` for every token class), and `lexOK_fmt` / `lexAll_fmt`: the printed text of a
  well-formed expression, followed by the end of the input or a terminator byte (`,` `]` `}`
  newline, space), lexes as `toks e` and then the tokens of what follows.
-/
namespace Martian.Format
open Martian.Lexer (scanBody matchString ruleEsc digitsOK isHex isDigit isOct)
open Martian.ShellQuote (ge80_not_special rune_high)
open Martian.LexerRegex (scanBody_plain scanBody_esc scanBody_quote)
open Martian.Escape Martian.InvocationStr

theorem isHex_hexDigit : ∀ k, k < 16 → isHex (hexDigit k) = true := by decide

theorem scan_escAscii (f : Nat) (b : UInt8) (X : List UInt8) :
    scanBody (f + 1) (escAscii b ++ X) = (scanBody f X).map (escAscii b ++ ·) := by
  rcases escAscii_cases b with ⟨he, h⟩ | ⟨he, h5c, h22⟩ | ⟨c, he, hm⟩ | ⟨he, hlt⟩ <;> rw [he]
  · exact scanBody_esc f b 0 true [] X (by rcases h with rfl | rfl <;> decide) rfl rfl
  · exact scanBody_plain f b X (by simp [Martian.LexerRegex.plain, h22, h5c])
  · refine scanBody_esc f c 0 true [] X ?_ rfl rfl
    simp only [List.mem_cons, Prod.mk.injEq, List.not_mem_nil, or_false] at hm
    rcases hm with ⟨_, rfl⟩ | ⟨_, rfl⟩ | ⟨_, rfl⟩ | ⟨_, rfl⟩ | ⟨_, rfl⟩ <;> decide
  · have h1 := isHex_hexDigit (b.toNat / 16) (by omega)
    have h2 := isHex_hexDigit (b.toNat % 16) (by omega)
    exact scanBody_esc f 0x75 4 true [0x30, 0x30, _, _] X (by decide) rfl
      (by simp only [digitsOK, ↓reduceIte, List.all_cons, h1, h2]; rfl)

/-- the string rule on each unit of the printed text: every unit is kept as it is -/
theorem scan_unit {u out : List UInt8} (h : EUnit escAscii u out) : Step scanBody u u := by
  cases h with
  | ascii b _ => exact .one (escAscii_len b) fun f X => scan_escAscii f b X
  | ls => exact .one (by decide) fun f X =>
      scanBody_esc f 0x75 4 true [0x32, 0x30, 0x32, 0x38] X (by decide) rfl (by decide)
  | ps => exact .one (by decide) fun f X =>
      scanBody_esc f 0x75 4 true [0x32, 0x30, 0x32, 0x39] X (by decide) rfl (by decide)
  | rune b r w hb hw =>
    exact .copies fun c hc f X =>
      have ⟨h22, _, _, h5c⟩ := ge80_not_special c (rune_high hb hw c hc)
      scanBody_plain f c X (by simp [Martian.LexerRegex.plain, h22, h5c])

theorem matchString_quoteString (s rest : List UInt8) (h : Martian.ShellQuote.validUtf8 s = true) :
    Martian.Lexer.matchString (Martian.Format.quoteString s ++ rest) = some (Martian.Format.quoteString s) := by
  have hs := encFrom_spells escAscii s h
  rw [encFrom_escAscii] at hs
  have hs := (hs.text_ind (P := fun q => Step scanBody q q) .nil fun hu => (scan_unit hu).append).read
    (tail := 0x22 :: rest) (fun f => scanBody_quote f rest) ((quoteBody s ++ 0x22 :: rest).length + 1)
    (by simp [quoteBody]; omega)
  simp only [quoteString, quoteBody, List.cons_append, List.append_assoc, List.nil_append,
    matchString] at hs ⊢
  rw [hs]
  rfl

end Martian.Format


namespace Martian.FormatExp
open Martian.Lexer (Bytes isWord isDigit matchString numTok NumTok parseInt matchFloat matchInt
  optMinus spanDigits)
open Martian.Format (quoteString)

theorem sp_facts (c : UInt8) (h : isSp c = true) : isPunct c = false := by
  simp only [isSp, Bool.or_eq_true, beq_iff_eq] at h
  rcases h with ((((rfl | rfl) | rfl) | rfl) | rfl) | rfl <;> rfl

theorem num_head_facts : ∀ c : UInt8, (isDigit c || c == 0x2D) = true →
    isPunct c = false ∧ isSp c = false ∧ (c == 0x23) = false ∧ (c == 0x22) = false := by
  apply Martian.LexerRegex.forall_byte
  decide +kernel

theorem word_head_facts : ∀ c : UInt8, (isAlpha c || c == 0x5F) = true →
    isPunct c = false ∧ isSp c = false ∧ (c == 0x23) = false ∧ (c == 0x22) = false ∧
      (isDigit c || c == 0x2D) = false ∧ isWord c = true := by
  apply Martian.LexerRegex.forall_byte
  decide +kernel

theorem lexAll_cons (c : UInt8) (r : Bytes) :
    lexAll (c :: r) = match nextLex (c :: r) with
      | (Lexeme.tok k, n) => Option.map (fun x => k :: x) (lexAll (List.drop (n - 1) r))
      | (Lexeme.skip, n) => lexAll (List.drop (n - 1) r)
      | (Lexeme.invalid, _) => none := by
  rw [lexAll.eq_def (c :: r)]; rfl

theorem lexAll_nil : lexAll [] = some [] := by
  rw [lexAll.eq_def []]

theorem lexAll_tok (t rest : Bytes) (k : Tok) (ht : t ≠ [])
    (h : nextLex (t ++ rest) = (.tok k, t.length)) :
    lexAll (t ++ rest) = (lexAll rest).map (k :: ·) := by
  cases t with
  | nil => exact absurd rfl ht
  | cons c t =>
    rw [List.cons_append] at h ⊢
    rw [lexAll_cons, h]
    simp

theorem nextLex_sp (c : UInt8) (r : Bytes) (h : isSp c = true) : nextLex (c :: r) = (.skip, 1) := by
  simp only [nextLex, sp_facts c h, h, Bool.false_eq_true, ↓reduceIte]

theorem lexAll_sp (c : UInt8) (r : Bytes) (h : isSp c = true) : lexAll (c :: r) = lexAll r := by
  rw [lexAll_cons, nextLex_sp c r h]; rfl

theorem lexAll_spaces : ∀ (ws rest : Bytes), ws.all isSp = true → lexAll (ws ++ rest) = lexAll rest
  | [], _, _ => rfl
  | c :: ws, rest, h => by
    simp only [List.all_cons, Bool.and_eq_true] at h
    rw [List.cons_append, lexAll_sp c _ h.1]
    exact lexAll_spaces ws rest h.2

/-- what may follow a printed expression: the end of the input or `,` `]` `}` newline, space -/
def TermStart (rest : Bytes) : Prop := rest = [] ∨ ∃ c r, rest = c :: r ∧ isTerm c = true

/-- what may follow a word: the end of the input or a non-word byte -/
def WordEnd (rest : Bytes) : Prop := rest = [] ∨ ∃ c r, rest = c :: r ∧ isWord c = false

theorem TermStart.cons (c : UInt8) (r : Bytes) (h : isTerm c = true) : TermStart (c :: r) :=
  Or.inr ⟨c, r, rfl, h⟩

theorem WordEnd.cons (c : UInt8) (r : Bytes) (h : isWord c = false) : WordEnd (c :: r) :=
  Or.inr ⟨c, r, rfl, h⟩

theorem TermStart.wordEnd {rest : Bytes} (h : TermStart rest) : WordEnd rest := by
  rcases h with h | ⟨c, r, h, hc⟩
  · exact Or.inl h
  · exact Or.inr ⟨c, r, h, (isTerm_facts hc).word⟩

theorem nextLex_punct (c : UInt8) (r : Bytes) (h : isPunct c = true) :
    nextLex (c :: r) = (.tok (.punct c), 1) := by
  simp only [nextLex, h, ↓reduceIte]

theorem nextLex_str (s rest : Bytes) (h : Martian.ShellQuote.validUtf8 s = true) :
    nextLex (quoteString s ++ rest) = (.tok (.str (quoteString s)), (quoteString s).length) := by
  have hm := Martian.Format.matchString_quoteString s rest h
  have hq : quoteString s ++ rest = 0x22 :: (Martian.Format.quoteBody s ++ [0x22] ++ rest) := by
    simp [quoteString]
  rw [hq] at hm ⊢
  have h1 : isPunct 0x22 = false := by decide
  have h2 : isSp 0x22 = false := by decide
  have h3 : ((0x22 : UInt8) == 0x23) = false := by decide
  simp only [nextLex, h1, h2, h3, hm, Bool.false_eq_true, ↓reduceIte, beq_self_eq_true]

theorem numTok_nohead (c : UInt8) (r : Bytes) (h : (isDigit c || c == 0x2D) = false) :
    numTok false (c :: r) = .nomatch := by
  simp only [Bool.or_eq_false_iff] at h
  simp [numTok, Martian.LexerRegex.matchFloat_eq, matchInt, optMinus, spanDigits, h.1, h.2]

theorem numTok_nil : numTok false [] = .nomatch := by
  simp [numTok, Martian.LexerRegex.matchFloat_eq, matchInt, optMinus, spanDigits]

theorem numTok_head {t : Bytes} (h : numTok false t ≠ .nomatch) :
    ∃ c r, t = c :: r ∧ (isDigit c || c == 0x2D) = true := by
  cases t with
  | nil => exact absurd numTok_nil h
  | cons c r =>
    refine ⟨c, r, rfl, ?_⟩
    cases hh : (isDigit c || c == 0x2D) with
    | true => rfl
    | false => exact absurd (numTok_nohead c r hh) h

theorem numTok_termStart (t rest : Bytes) (hr : TermStart rest) :
    numTok false (t ++ rest) = numTok false t := by
  rcases hr with rfl | ⟨c, r, rfl, hc⟩
  · rw [List.append_nil]
  · exact numTok_append t c r hc

theorem nextLex_numHead (c : UInt8) (r : Bytes) (h : (isDigit c || c == 0x2D) = true) :
    nextLex (c :: r) = match numTok false (c :: r) with
      | .float t => (.tok (.float t), t.length)
      | .int t => (.tok (.int t), t.length)
      | _ => (.invalid, 0) := by
  obtain ⟨h1, h2, h3, h4⟩ := num_head_facts c h
  simp only [nextLex, h1, h2, h3, h4, h, Bool.false_eq_true, ↓reduceIte]
  cases numTok false (c :: r) <;> rfl

theorem nextLex_num {t : Bytes} (rest : Bytes) (h : numTok false t ≠ .nomatch) (hr : TermStart rest) :
    nextLex (t ++ rest) = match numTok false t with
      | .float t => (.tok (.float t), t.length)
      | .int t => (.tok (.int t), t.length)
      | _ => (.invalid, 0) := by
  obtain ⟨c, r, rfl, hc⟩ := numTok_head h
  rw [← numTok_termStart (c :: r) rest hr]
  exact nextLex_numHead c _ hc

def headOK : Bytes → Bool
  | c :: _ => isAlpha c || c == 0x5F
  | [] => false

theorem lookupKw_head (w : Bytes) (t : String) : ∀ tbl : List (Bytes × String),
    tbl.all (fun kv => headOK kv.1) = true → lookupKw w tbl = some t → headOK w = true
  | [], _, h => by simp [lookupKw] at h
  | (k, t') :: tbl, ha, h => by
    simp only [List.all_cons, Bool.and_eq_true] at ha
    unfold lookupKw at h
    split at h
    · rename_i hw; rw [hw]; exact ha.1
    · exact lookupKw_head w t tbl ha.2 h

theorem wordLexeme_head {w : Bytes} {k : Tok} (h : wordLexeme w = .tok k) : headOK w = true := by
  unfold wordLexeme at h
  split at h
  · rename_i t ht
    exact lookupKw_head w t keywordTable (by decide) ht
  · split at h
    · rename_i c d r
      split at h
      · rename_i hc
        simp only [Bool.or_eq_true, Bool.and_eq_true] at hc
        rcases hc with hc | hc
        · simp [headOK, hc]
        · simp [headOK, hc.1]
      · exact Lexeme.noConfusion h
    · rename_i c
      split at h
      · rename_i hc; simp [headOK, hc]
      · exact Lexeme.noConfusion h
    · exact Lexeme.noConfusion h

theorem takeWhile_word : ∀ (w rest : Bytes), w.all isWord = true → WordEnd rest →
    (w ++ rest).takeWhile isWord = w
  | [], rest, _, hr => by
    rcases hr with rfl | ⟨c, r, rfl, hc⟩
    · rfl
    · simp [hc]
  | c :: w, rest, h, hr => by
    simp only [List.all_cons, Bool.and_eq_true] at h
    rw [List.cons_append, List.takeWhile_cons, h.1]
    simp only [↓reduceIte]
    rw [takeWhile_word w rest h.2 hr]

theorem nextLex_word (w rest : Bytes) (hw : w.all isWord = true) (hh : headOK w = true)
    (hr : WordEnd rest) : nextLex (w ++ rest) = (wordLexeme w, w.length) := by
  cases w with
  | nil => simp [headOK] at hh
  | cons c w =>
    have ht := takeWhile_word (c :: w) rest hw hr
    rw [List.cons_append] at ht ⊢
    obtain ⟨h1, h2, h3, h4, h5, _⟩ := word_head_facts c hh
    simp only [headOK] at hh
    simp only [nextLex, h1, h2, h3, h4, h5, hh, ht, Bool.false_eq_true, ↓reduceIte]

theorem wordLexeme_self : wordLexeme sSelf = .tok .kSelf := by decide +kernel
theorem wordLexeme_default : wordLexeme sDefault = .tok .kDefault := by decide +kernel
theorem wordLexeme_null : wordLexeme sNull = .tok .kNull := by decide +kernel
theorem wordLexeme_true : wordLexeme sTrue = .tok .kTrue := by decide +kernel
theorem wordLexeme_false : wordLexeme sFalse = .tok .kFalse := by decide +kernel

/-- the text `s`, followed by any text in `R`, lexes as `ts` and then the tokens of what follows -/
def LexOK (s : Bytes) (ts : List Tok) (R : Bytes → Prop) : Prop :=
  ∀ rest, R rest → lexAll (s ++ rest) = (lexAll rest).map (ts ++ ·)

def AnyRest : Bytes → Prop := fun _ => True

theorem LexOK.append {s1 s2 : Bytes} {t1 t2 : List Tok} {R1 R2 : Bytes → Prop}
    (h1 : LexOK s1 t1 R1) (h2 : LexOK s2 t2 R2) (hR : ∀ rest, R2 rest → R1 (s2 ++ rest)) :
    LexOK (s1 ++ s2) (t1 ++ t2) R2 := by
  intro rest hr
  rw [List.append_assoc, h1 _ (hR rest hr), h2 rest hr]
  cases FormatExp.lexAll rest <;> simp

/-- the case without side condition: the first piece may be followed by anything -/
theorem LexOK.app {s1 s2 : Bytes} {t1 t2 : List Tok} {R : Bytes → Prop}
    (h1 : LexOK s1 t1 AnyRest) (h2 : LexOK s2 t2 R) : LexOK (s1 ++ s2) (t1 ++ t2) R :=
  h1.append h2 (fun _ _ => trivial)

theorem LexOK.lexAll {s : Bytes} {ts : List Tok} (h : LexOK s ts AnyRest) (rest : Bytes) :
    FormatExp.lexAll (s ++ rest) = (FormatExp.lexAll rest).map (ts ++ ·) := h rest trivial

theorem LexOK.lexAll_nil {s : Bytes} {ts : List Tok} (h : LexOK s ts AnyRest) :
    FormatExp.lexAll s = some ts := by
  have := h [] trivial
  rw [List.append_nil, FormatExp.lexAll_nil] at this
  rw [this]; simp

theorem LexOK.congr {s s' : Bytes} {t t' : List Tok} {R : Bytes → Prop}
    (h : LexOK s t R) (hs : s' = s) (ht : t' = t) : LexOK s' t' R := by
  subst hs; subst ht; exact h

theorem LexOK.weaken {s : Bytes} {t : List Tok} {R R' : Bytes → Prop}
    (h : LexOK s t R) (hR : ∀ rest, R' rest → R rest) : LexOK s t R' :=
  fun rest hr => h rest (hR rest hr)

theorem LexOK.spaces {ws : Bytes} (h : ws.all isSp = true) (R : Bytes → Prop) : LexOK ws [] R := by
  intro rest _
  rw [lexAll_spaces ws rest h]
  cases FormatExp.lexAll rest <;> rfl

theorem LexOK.nil (R : Bytes → Prop) : LexOK [] [] R := LexOK.spaces rfl R

theorem LexOK.tok {t : Bytes} {k : Tok} {R : Bytes → Prop} (ht : t ≠ [])
    (h : ∀ rest, R rest → nextLex (t ++ rest) = (.tok k, t.length)) : LexOK t [k] R :=
  fun rest hr => lexAll_tok t rest k ht (h rest hr)

theorem LexOK.punct {c : UInt8} (h : isPunct c = true) (R : Bytes → Prop) :
    LexOK [c] [.punct c] R :=
  LexOK.tok (by simp) fun rest _ => nextLex_punct c rest h

theorem LexOK.str {s : Bytes} (h : Martian.ShellQuote.validUtf8 s = true) (R : Bytes → Prop) :
    LexOK (quoteString s) [.str (quoteString s)] R :=
  LexOK.tok (by simp [quoteString]) fun rest _ => nextLex_str s rest h

theorem LexOK.word {w : Bytes} {k : Tok} (hw : w.all isWord = true)
    (hk : wordLexeme w = .tok k) : LexOK w [k] WordEnd := by
  have hh := wordLexeme_head hk
  refine LexOK.tok ?_ fun rest hr => by rw [nextLex_word w rest hw hh hr, hk]
  rintro rfl; simp [headOK] at hh

theorem LexOK.ident {w : Bytes} (h : isIdent w = true) : LexOK w [.id w] WordEnd := by
  simp only [isIdent, Bool.and_eq_true, beq_iff_eq] at h
  exact LexOK.word h.1 h.2

theorem LexOK.float {t : Bytes} (h : numTok false t = .float t) : LexOK t [.float t] TermStart := by
  have hn : numTok false t ≠ .nomatch := by rw [h]; exact fun h => NumTok.noConfusion h
  refine LexOK.tok ?_ fun rest hr => by rw [nextLex_num rest hn hr, h]
  rintro rfl; exact hn numTok_nil

theorem LexOK.int {t : Bytes} (h : numTok false t = .int t) : LexOK t [.int t] TermStart := by
  have hn : numTok false t ≠ .nomatch := by rw [h]; exact fun h => NumTok.noConfusion h
  refine LexOK.tok ?_ fun rest hr => by rw [nextLex_num rest hn hr, h]
  rintro rfl; exact hn numTok_nil

theorem all_isSp_append {a b : Bytes} (ha : a.all isSp = true) (hb : b.all isSp = true) :
    (a ++ b).all isSp = true := by
  rw [List.all_append, ha, hb]; rfl

theorem all_isSp_indent : indent.all isSp = true := by decide

theorem all_isSp_spaces (n : Nat) : (spaces n).all isSp = true := by
  induction n with
  | zero => rfl
  | succ n ih =>
    rw [spaces, List.replicate_succ, List.all_cons, ← spaces, ih]; decide

theorem wordEnd_dotted (out : List Bytes) (rest : Bytes) (h : WordEnd rest) :
    WordEnd (dotted out ++ rest) := by
  cases out with
  | nil => exact h
  | cons y out => exact WordEnd.cons _ _ (by decide)

theorem LexOK.dotted : ∀ (out : List Bytes), out.all isIdent = true →
    LexOK (dotted out) (toksDots out) WordEnd
  | [], _ => LexOK.nil _
  | x :: out, h => by
    simp only [List.all_cons, Bool.and_eq_true] at h
    have ih := LexOK.dotted out h.2
    have h1 : LexOK [0x2E] [tDot] AnyRest := LexOK.punct (by decide) _
    have h2 := LexOK.ident h.1
    have h12 := h1.app h2
    have h123 := LexOK.append h12 ih (wordEnd_dotted out)
    exact h123.congr (by simp [Martian.FormatExp.dotted]) (by simp [toksDots])

theorem all_isWord_self : sSelf.all isWord = true := by decide
theorem all_isWord_default : sDefault.all isWord = true := by decide
theorem all_isWord_null : sNull.all isWord = true := by decide
theorem all_isWord_true : sTrue.all isWord = true := by decide
theorem all_isWord_false : sFalse.all isWord = true := by decide

theorem LexOK.ref (self : Bool) (id : Bytes) (out : List Bytes)
    (hw : (isIdent id && ((!self && out == [sDefault]) || out.all isIdent)) = true) :
    LexOK (fmtRef self id out) (toksRef self id out) WordEnd := by
  simp only [Bool.and_eq_true, Bool.or_eq_true, Bool.not_eq_true', beq_iff_eq] at hw
  obtain ⟨hid, hout⟩ := hw
  have hdot : LexOK [0x2E] [tDot] AnyRest := LexOK.punct (by decide) _
  have hdotW : ∀ rest : Bytes, WordEnd ([0x2E] ++ rest) :=
    fun rest => WordEnd.cons _ _ (by decide)
  cases self with
  | true =>
    have hout : out.all isIdent = true := by
      rcases hout with h | h
      · exact absurd h.1 (by simp)
      · exact h
    have h1 : LexOK sSelf [.kSelf] WordEnd := LexOK.word all_isWord_self wordLexeme_self
    have h := ((h1.append hdot (fun rest _ => hdotW rest)).app (LexOK.ident hid)).append
      (LexOK.dotted out hout) (wordEnd_dotted out)
    exact h.congr (by simp [fmtRef, isIdent_ne_nil hid]) (by simp [toksRef])
  | false =>
    by_cases hd : out = [sDefault]
    · subst hd
      have h3 : LexOK sDefault [.kDefault] WordEnd := LexOK.word all_isWord_default wordLexeme_default
      have h := ((LexOK.ident hid).append hdot (fun rest _ => hdotW rest)).app h3
      exact h.congr (by simp [fmtRef, Martian.FormatExp.dotted]) (by simp [toksRef])
    · have hout : out.all isIdent = true := by
        rcases hout with h | h
        · exact absurd h.2 hd
        · exact h
      have h := (LexOK.ident hid).append (LexOK.dotted out hout) (wordEnd_dotted out)
      exact h.congr (by simp [fmtRef]) (by simp [toksRef, hd])

theorem LexOK.item {pre s nxt : Bytes} {tp ts tn : List Tok} {R : Bytes → Prop}
    (hp : LexOK pre tp AnyRest) (ih : LexOK s ts TermStart) (hn : LexOK nxt tn R) :
    LexOK (pre ++ s ++ [0x2C, 0x0A] ++ nxt) (tp ++ ts ++ tComma :: tn) R := by
  have hc : LexOK [0x2C] [tComma] AnyRest := LexOK.punct (by decide) _
  have hnl : LexOK [0x0A] [] AnyRest := LexOK.spaces (by decide) _
  have htail := (hc.app hnl).app hn
  have h := (hp.app ih).append htail
    (fun rest _ => TermStart.cons _ _ (by decide))
  exact h.congr (by simp) (by simp)

/-- `o` newline, a body lexed without condition, the prefix and `c` -/
theorem LexOK.bracket {o c : UInt8} (ho : isPunct o = true) (hc : isPunct c = true)
    {body p : Bytes} {tb : List Tok} (hb : LexOK body tb AnyRest) (hp : p.all isSp = true)
    (R : Bytes → Prop) :
    LexOK (o :: 0x0A :: (body ++ p ++ [c])) (.punct o :: (tb ++ [.punct c])) R := by
  have h1 : LexOK [o] [.punct o] AnyRest := LexOK.punct ho _
  have hnl : LexOK [0x0A] [] AnyRest := LexOK.spaces (by decide) _
  have h2 : LexOK p [] AnyRest := LexOK.spaces hp _
  have h3 : LexOK [c] [.punct c] R := LexOK.punct hc _
  have h := (((h1.app hnl).app hb).app h2).app h3
  exact h.congr (by simp) (by simp)

theorem LexOK.pair {o c : UInt8} (ho : isPunct o = true) (hc : isPunct c = true)
    (R : Bytes → Prop) : LexOK [o, c] [.punct o, .punct c] R := by
  have h1 : LexOK [o] [.punct o] AnyRest := LexOK.punct ho _
  have h3 : LexOK [c] [.punct c] R := LexOK.punct hc _
  exact (h1.app h3).congr (by simp) (by simp)

theorem LexOK.arr1 {p s s' : Bytes} {ts : List Tok} (b : Bool) (hp : p.all isSp = true)
    (ih : LexOK s ts TermStart) (ih' : LexOK s' ts TermStart) (R : Bytes → Prop) :
    LexOK (if b then 0x5B :: (s ++ [0x5D])
        else 0x5B :: 0x0A :: (p ++ indent ++ s' ++ [0x2C, 0x0A] ++ p ++ [0x5D]))
      (if b then tLB :: (ts ++ [tRB]) else tLB :: (ts ++ [tComma, tRB])) R := by
  cases b with
  | true =>
    have h1 : LexOK [0x5B] [tLB] AnyRest := LexOK.punct (by decide) _
    have h3 : LexOK [0x5D] [tRB] R := LexOK.punct (by decide) _
    exact ((h1.app ih).append h3 (fun rest _ => TermStart.cons _ _ (by decide))).congr (by simp) (by simp)
  | false =>
    have hb := LexOK.item (LexOK.spaces (all_isSp_append hp all_isSp_indent) _) ih' (LexOK.nil AnyRest)
    exact (LexOK.bracket (o := 0x5B) (c := 0x5D) (by decide) (by decide) hb hp R).congr
      (by simp) (by simp)

theorem LexOK.key {vp k pad : Bytes} {tk : Tok} (hp : vp.all isSp = true) (hk : LexOK k [tk] WordEnd)
    (hpad : pad.all isSp = true) : LexOK (vp ++ k ++ [0x3A, 0x20] ++ pad) [tk, tColon] AnyRest := by
  have h3 : LexOK [0x3A] [tColon] AnyRest := LexOK.punct (by decide) _
  have h4 : LexOK (0x20 :: pad) [] AnyRest :=
    LexOK.spaces (by rw [List.all_cons, hpad]; rfl) _
  exact (((LexOK.spaces hp AnyRest).app hk).append (h3.app h4)
    (fun rest _ => WordEnd.cons _ _ (by decide))).congr
    (by simp) (by simp)

theorem LexOK.floatExp {t : Bytes} (hw : (isFloatTok t || isCanonInt t) = true) :
    LexOK t [if isFloatTok t then .float t else .int t] TermStart := by
  cases hf : isFloatTok t with
  | true => exact LexOK.float (eq_of_beq hf)
  | false =>
    rw [hf, Bool.false_or] at hw
    exact LexOK.int (isCanonInt_lex hw)

theorem LexOK.kw {w : Bytes} {k : Tok} (hw : w.all isWord = true) (hk : wordLexeme w = .tok k) :
    LexOK w [k] TermStart :=
  (LexOK.word hw hk).weaken (fun _ => TermStart.wordEnd)

mutual
theorem lexOK_fmt : ∀ (e : Exp) (p : Bytes), wf e = true → p.all isSp = true →
    LexOK (fmt p e) (toks e) TermStart
  | .null, _, _, _ => LexOK.kw all_isWord_null wordLexeme_null
  | .nilArr, _, _, _ => LexOK.kw all_isWord_null wordLexeme_null
  | .bool true, _, _, _ => LexOK.kw all_isWord_true wordLexeme_true
  | .bool false, _, _, _ => LexOK.kw all_isWord_false wordLexeme_false
  | .int _, _, hw, _ => LexOK.int (fmtInt_lex _ hw).1
  | .float _, _, hw, _ => LexOK.floatExp hw
  | .str _, _, hw, _ => LexOK.str hw _
  | .ref self id out, _, hw, _ => (LexOK.ref self id out hw).weaken (fun _ => TermStart.wordEnd)
  | .arr [], _, _, _ => LexOK.pair (o := 0x5B) (c := 0x5D) (by decide) (by decide) _
  | .map [], _, _, _ => LexOK.pair (o := 0x7B) (c := 0x7D) (by decide) (by decide) _
  | .struct [], _, _, _ => LexOK.pair (o := 0x7B) (c := 0x7D) (by decide) (by decide) _
  | .arr [x], p, hw, hp => by
    simp only [wf, wfL, Bool.and_true] at hw
    rw [fmt, toks]
    exact LexOK.arr1 (single x) hp (lexOK_fmt x p hw hp)
      (lexOK_fmt x (p ++ indent) hw (all_isSp_append hp all_isSp_indent)) _
  | .arr (x :: y :: r), p, hw, hp => by
    rw [fmt, toks]
    exact LexOK.bracket (by decide) (by decide)
      (lexOK_fmtElems (x :: y :: r) (p ++ indent) hw (all_isSp_append hp all_isSp_indent)) hp _
  | .map (kv :: r), p, hw, hp => by
    simp only [wf, Bool.and_eq_true] at hw
    rw [fmt, toks]
    exact LexOK.bracket (by decide) (by decide)
      (lexOK_fmtKVs (kv :: r) (p ++ indent) hw.2 (all_isSp_append hp all_isSp_indent)) hp _
  | .struct (kv :: r), p, hw, hp => by
    simp only [wf, Bool.and_eq_true] at hw
    rw [fmt, toks]
    exact LexOK.bracket (by decide) (by decide)
      (lexOK_fmtFields (kv :: r) (p ++ indent) _ hw.2 (all_isSp_append hp all_isSp_indent)) hp _
theorem lexOK_fmtElems : ∀ (xs : List Exp) (vp : Bytes), wfL xs = true → vp.all isSp = true →
    LexOK (fmtElems vp xs) (toksElems xs) AnyRest
  | [], _, _, _ => LexOK.nil _
  | x :: r, vp, hw, hp => by
    simp only [wfL, Bool.and_eq_true] at hw
    rw [fmtElems, toksElems]
    exact LexOK.item (tp := []) (LexOK.spaces hp _) (lexOK_fmt x vp hw.1 hp) (lexOK_fmtElems r vp hw.2 hp)
theorem lexOK_fmtKVs : ∀ (kvs : List (Bytes × Exp)) (vp : Bytes), wfKV false kvs = true →
    vp.all isSp = true → LexOK (fmtKVs vp kvs) (toksKVs kvs) AnyRest
  | [], _, _, _ => LexOK.nil _
  | (k, v) :: r, vp, hw, hp => by
    simp only [wfKV, Bool.and_eq_true, Bool.false_eq_true, ↓reduceIte] at hw
    rw [fmtKVs, toksKVs]
    have hpre := (LexOK.key hp (LexOK.str hw.1.1 _) (pad := []) rfl).congr (List.append_nil _).symm rfl
    exact LexOK.item hpre (lexOK_fmt v vp hw.1.2 hp) (lexOK_fmtKVs r vp hw.2 hp)
theorem lexOK_fmtFields : ∀ (kvs : List (Bytes × Exp)) (vp : Bytes) (w : Nat),
    wfKV true kvs = true → vp.all isSp = true → LexOK (fmtFields vp w kvs) (toksFields kvs) AnyRest
  | [], _, _, _, _ => LexOK.nil _
  | (k, v) :: r, vp, w, hw, hp => by
    simp only [wfKV, Bool.and_eq_true, ↓reduceIte] at hw
    rw [fmtFields, toksFields]
    have hpad : (if single v then spaces (w - k.length) else []).all isSp = true := by
      split
      · exact all_isSp_spaces _
      · rfl
    exact LexOK.item (LexOK.key hp (LexOK.ident hw.1.1) hpad) (lexOK_fmt v vp hw.1.2 hp)
      (lexOK_fmtFields r vp w hw.2 hp)
end

/-- in particular the text is rejected by the tokenizer iff what follows it is -/
theorem lexAll_fmt (e : Exp) (p rest : Bytes) (hw : wf e = true) (hp : p.all isSp = true)
    (hr : TermStart rest) :
    lexAll (fmt p e ++ rest) = (lexAll rest).map (toks e ++ ·) :=
  lexOK_fmt e p hw hp rest hr

theorem lexAll_fmtElems (xs : List Exp) (vp rest : Bytes) (hw : wfL xs = true)
    (hp : vp.all isSp = true) :
    lexAll (fmtElems vp xs ++ rest) = (lexAll rest).map (toksElems xs ++ ·) :=
  lexOK_fmtElems xs vp hw hp rest trivial

theorem lexAll_fmtKVs (kvs : List (Bytes × Exp)) (vp rest : Bytes) (hw : wfKV false kvs = true)
    (hp : vp.all isSp = true) :
    lexAll (fmtKVs vp kvs ++ rest) = (lexAll rest).map (toksKVs kvs ++ ·) :=
  lexOK_fmtKVs kvs vp hw hp rest trivial

theorem lexAll_fmtFields (kvs : List (Bytes × Exp)) (vp : Bytes) (w : Nat) (rest : Bytes)
    (hw : wfKV true kvs = true) (hp : vp.all isSp = true) :
    lexAll (fmtFields vp w kvs ++ rest) = (lexAll rest).map (toksFields kvs ++ ·) :=
  lexOK_fmtFields kvs vp w hw hp rest trivial

theorem lexAll_fmt_top (e : Exp) (hw : wf e = true) : lexAll (fmt [] e) = some (toks e) := by
  have h := lexAll_fmt e [] [] hw rfl (Or.inl rfl)
  rw [List.append_nil, lexAll_nil] at h
  rw [h]; simp

end Martian.FormatExp
