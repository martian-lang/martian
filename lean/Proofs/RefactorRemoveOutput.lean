import Martian.Refactor

/-! C19 — removing an output nothing refers to: `walk_unref`, `remove_output_unused`. -/
namespace Proofs.Refactor
open Martian.Refactor

theorem shouldRemove_false (isRef : Ref → Bool) (e : Exp) (h : ∀ r ∈ refs e, isRef r = false) :
    shouldRemove isRef e = false := by
  fun_induction shouldRemove isRef e with
  | case1 r => exact h r (by simp [refs])
  | case2 v ih => exact ih h
  | case3 k hd ih | case4 k hd ih => exact ih (fun r hr => h r (by simp [refs, hr]))
  | case5 => rfl

theorem removeRef_id (isRef : Ref → Bool) (e : Exp) (h : ∀ r ∈ refs e, isRef r = false) :
    removeRefExp isRef e = e ∧ ∀ st, removeRefElems isRef st e = e := by
  induction e with
  | ref r => exact ⟨by rw [removeRefExp, h r (by simp [refs])]; rfl, fun _ => by rw [removeRefElems]⟩
  | split v ih =>
    exact ⟨by rw [removeRefExp, shouldRemove_false isRef v h, (ih h).1]; rfl, fun _ => by rw [removeRefElems]⟩
  | arr es ih | map _ es ih =>
    exact ⟨by rw [removeRefExp, shouldRemove_false isRef _ h, (ih h).2]; rfl, fun _ => by rw [removeRefElems]⟩
  | cons k a t iha iht =>
    have ha : ∀ r ∈ refs a, isRef r = false := fun r hr => h r (by simp [refs, hr])
    have ht : ∀ r ∈ refs t, isRef r = false := fun r hr => h r (by simp [refs, hr])
    exact ⟨by rw [removeRefExp, (iha ha).1, (iht ht).2],
      fun st => by rw [removeRefElems, shouldRemove_false isRef a ha, (iha ha).1, (iht ht).2]; rfl⟩
  | _ => exact ⟨by rw [removeRefExp], fun _ => by rw [removeRefElems]⟩

theorem foldl_fixed {α β} (f : β → α → β) (s : β) (l : List α)
    (h : ∀ a ∈ l, f s a = s) : l.foldl f s = s := by
  induction l with
  | nil => rfl
  | cons a l ih =>
    simp only [List.foldl_cons]
    rw [h a (by simp)]
    exact ih (fun b hb => h b (by simp [hb]))

theorem set_self {α} {l : List α} {i : Nat} {a : α} (h : l[i]? = some a) : l.set i a = l := by
  obtain ⟨hlt, rfl⟩ := List.getElem?_eq_some_iff.mp h
  exact List.set_getElem_self hlt

theorem mapUntilStar_id (f : Bind → Bind) (bs : List Bind) (h : ∀ b ∈ bs, f b = b) :
    mapUntilStar f bs = bs := by
  induction bs with
  | nil => rfl
  | cons b bs ih =>
    simp only [mapUntilStar]
    split
    · rfl
    · rw [h b (by simp), ih (fun c hc => h c (by simp [hc]))]

theorem unref_pipe {x o : String} {p : Program} (h : outputUnreferenced x o p = true)
    (pipe : Callable) (hm : pipe ∈ p.callables) (hp : pipe.isPipe = true) :
    (∀ k ∈ pipe.calls, (∀ b ∈ k.binds, ∀ r ∈ refs b.exp, isCallRefTo pipe x o r = false) ∧
        (∀ b ∈ k.mods, ∀ r ∈ refs b.exp, isCallRefTo pipe x o r = false)) ∧
    (∀ b ∈ pipe.ret, ∀ r ∈ refs b.exp, isCallRefTo pipe x o r = false) ∧
    (∀ r ∈ pipe.retain, isCallRefTo pipe x o r = false) := by
  simp only [outputUnreferenced, List.all_eq_true] at h
  have := h pipe hm
  simp only [hp, Bool.not_true, Bool.false_or, Bool.and_eq_true, List.all_eq_true,
    Bool.not_eq_true'] at this
  obtain ⟨⟨h1, h2⟩, h3⟩ := this
  exact ⟨h1, h2, h3⟩

theorem walk_unref (n : Nat) (x o : String) (p : Program) (acts : List OutAction)
    (h : outputUnreferenced x o p = true) (xc : Callable) (hx : p.find? x = some xc) :
    removeOutputWalk (n+1) x o (p, acts) = (p,
      if xc.isPipe then
          acts ++ [OutAction.pipeOut x o,
                   OutAction.inputs (removeInputClosure p (closureFuel p)
                     ((unboundInputs p xc [o] []).map (fun i => (x, i))) [])]
        else acts ++ [OutAction.stageOut x o]) := by
  rw [removeOutputWalk, hx]
  -- every visit of a pipeline returns the state it was given
  apply foldl_fixed
  intro i _
  split
  · rfl
  · rename_i pipe hi
    have hm : pipe ∈ p.callables := List.mem_of_getElem? hi
    by_cases hp : pipe.isPipe = true
    · obtain ⟨h1, h2, h3⟩ := unref_pipe h pipe hm hp
      rw [if_neg (show ¬ ((!pipe.isPipe) = true) by simp [hp])]
      have hret : pipe.retain.filter (isCallRefTo pipe x o) = [] :=
        List.filter_eq_nil_iff.mpr fun r hr => by rw [h3 r hr]; exact Bool.false_ne_true
      have hcalls : pipe.calls.map (fun k =>
            { k with binds := mapUntilStar (fun b => { b with exp := removeRefExp (isCallRefTo pipe x o) b.exp }) k.binds })
            = pipe.calls := by
        rw [List.map_congr_left (g := id)]
        · simp
        · intro k hk
          rw [mapUntilStar_id]
          · rfl
          · intro b hb
            rw [(removeRef_id _ b.exp ((h1 k hk).1 b hb)).1]
      have hp1 : setCallable p i { pipe with calls := pipe.calls } = p := by
        simp only [setCallable]
        rw [set_self hi]
      simp only [hret, hcalls, hp1, List.map_nil, List.append_nil]
      rw [List.flatMap_eq_nil_iff.mpr]
      · simp only [List.append_nil]
        apply foldl_fixed
        intro j _
        simp only [hi]
        split
        · rfl
        · rename_i b hj
          have hb : b ∈ pipe.ret := List.mem_of_getElem? hj
          have : pipe.ret.set j { b with exp := b.exp } = pipe.ret := set_self hj
          rw [shouldRemove_false _ b.exp (h2 b hb), (removeRef_id _ b.exp (h2 b hb)).1, this, hp1]
          simp only [Bool.false_eq_true, if_false, ite_self]
      · intro k hk
        rw [List.filterMap_eq_nil_iff]
        intro b hb
        have := (h1 k hk).2 b hb
        split
        · rename_i r hr
          rw [hr] at this
          simp [refs] at this
          simp [this]
        · rfl
    · simp [hp]

theorem foldl_ge (l : List Callable) (a : Nat) :
    a ≤ l.foldl (fun n c => n + c.outs.length + 1) a := by
  induction l generalizing a with
  | nil => exact Nat.le_refl _
  | cons c l ih =>
    simp only [List.foldl_cons]
    exact Nat.le_trans (by omega) (ih _)

theorem outFuel_succ (p : Program) : ∃ k, outFuel p = k + 1 := by
  have := foldl_ge p.callables 1
  exact ⟨outFuel p - 1, by unfold outFuel; omega⟩

theorem remove_output_unused (p : Program) (x o : String)
    (h : outputUnreferenced x o p = true) :
    removeOutput x o p = removeOutputPlain x o p := by
  unfold removeOutput removeOutputPlain
  cases hx : p.find? x with
  | none => rfl
  | some xc =>
    obtain ⟨k, hk⟩ := outFuel_succ p
    simp only [hk, walk_unref k x o p [] h xc hx]
    cases xc.isPipe <;> rfl

end Proofs.Refactor
