import Martian.Regex
import Martian.RegexOrder

/-!
The matcher against its enumeration, and the enumeration against the semantics.
`ends r pre s` lists ALL ways the regex can match a prefix of `s` (as pairs: text
before the end position, reversed; rest), in Go's / Perl's leftmost-first
preference order: the first alternative before the second, more iterations of a
greedy repetition before fewer.

* `m_eq_firstSome`: the backtracking matcher with continuation `k` returns `k` of
  the FIRST element of that list on which `k` succeeds; `pmatch_first`: `pmatch`
  returns the first element.
* `mem_ends_iff`: the list consists exactly of the matches of the denotational
  semantics.  No continuation occurs: membership in `flatMap` / `++` / `filter`
  is sequencing / alternative / non-empty iteration of relations (`Enum.seq`,
  `Enum.alt`, `Enum.nonempty`), one lemma each for all constructors and loops.
The second part of the file derives soundness and completeness of the matcher against the denotational semantics
from the two: `m_sound`, `m_complete`, `pmatch_sound` (what the matcher returns is a prefix of the input that the regex
matches), `pmatch_complete` (when some prefix matches, the matcher returns a match: backtracking is exhaustive, the
fuel of the star loop suffices, skipping empty iterations loses nothing), `pmatch_none_iff`.  It also holds a
fact on `if` that other files use (`ite_of`) and `parse_ofList` (the regex-syntax parser on a string literal).
-/
namespace Martian.Regex

variable {α : Type}

theorem orElse_some {a b : Option α} {x : α} (h : orElse a b = some x) :
    a = some x ∨ (a = none ∧ b = some x) := by
  cases a with
  | some y => left; simpa [orElse] using h
  | none => right; exact ⟨rfl, by simpa [orElse] using h⟩

theorem orElse_isSome_left {a b : Option α} (h : a.isSome = true) : (orElse a b).isSome = true := by
  cases a with
  | some y => simp [orElse]
  | none => simp at h

theorem orElse_isSome_right {a b : Option α} (h : b.isSome = true) : (orElse a b).isSome = true := by
  cases a with
  | some y => simp [orElse]
  | none => simpa [orElse] using h

def firstSome (l : List Pos) (k : K α) : Option α :=
  match l with
  | [] => none
  | (p, s) :: t => orElse (k p s) (firstSome t k)

/-! ### `firstSome` -/

theorem orElse_assoc (a b c : Option α) : orElse (orElse a b) c = orElse a (orElse b c) := by
  cases a <;> rfl

theorem orElse_none_right (a : Option α) : orElse a none = a := by cases a <;> rfl

theorem firstSome_append (l1 l2 : List Pos) (k : K α) :
    firstSome (l1 ++ l2) k = orElse (firstSome l1 k) (firstSome l2 k) := by
  induction l1 with
  | nil => rfl
  | cons x t ih =>
    obtain ⟨p, s⟩ := x
    simp only [List.cons_append, firstSome, ih, orElse_assoc]

theorem firstSome_flatMap (l : List Pos) (f : Pos → List Pos) (k : K α) :
    firstSome (l.flatMap f) k = firstSome l (fun p s => firstSome (f (p, s)) k) := by
  induction l with
  | nil => rfl
  | cons x t ih =>
    obtain ⟨p, s⟩ := x
    simp only [List.flatMap_cons, firstSome_append, ih, firstSome]

theorem firstSome_filter (l : List Pos) (c : Pos → Bool) (g : K α) :
    firstSome (l.filter c) g = firstSome l (fun p s => if c (p, s) then g p s else none) := by
  induction l with
  | nil => rfl
  | cons x t ih =>
    obtain ⟨p, s⟩ := x
    by_cases hc : c (p, s) = true
    · simp only [List.filter_cons, hc, if_true, firstSome, ih]
    · simp only [List.filter_cons, hc, Bool.false_eq_true, if_false, firstSome, ih]
      rfl

theorem firstSome_congr (l : List Pos) (k1 k2 : K α) (h : ∀ p s, k1 p s = k2 p s) :
    firstSome l k1 = firstSome l k2 := by
  have : k1 = k2 := funext fun p => funext fun s => h p s
  rw [this]

theorem firstSome_single (p s : Bytes) (k : K α) : firstSome [(p, s)] k = k p s := by
  simp [firstSome, orElse_none_right]

/-- a step function and its enumeration agree -/
def StepEnum (step : Bytes → Bytes → K α → Option α) (e : Bytes → Bytes → List Pos) : Prop :=
  ∀ pre s (k : K α), step pre s k = firstSome (e pre s) k

theorem repMin_enum {step : Bytes → Bytes → K α → Option α} {e} (h : StepEnum step e) :
    ∀ n, StepEnum (repMin step n) (endsMin e n) := by
  intro n
  induction n with
  | zero => intro pre s k; simp [repMin, endsMin, firstSome_single]
  | succ n ih =>
    intro pre s k
    simp only [repMin, endsMin, h pre s, firstSome_flatMap]
    exact firstSome_congr _ _ _ (fun p s' => ih p s' k)

theorem repMax_enum {step : Bytes → Bytes → K α → Option α} {e} (h : StepEnum step e) :
    ∀ n, StepEnum (repMax step n) (endsMax e n) := by
  intro n
  induction n with
  | zero => intro pre s k; simp [repMax, endsMax, firstSome_single]
  | succ n ih =>
    intro pre s k
    simp only [repMax, endsMax, h pre s, firstSome_append, firstSome_flatMap, firstSome_single]
    congr 1
    exact firstSome_congr _ _ _ (fun p s' => ih p s' k)

theorem repStar_enum {step : Bytes → Bytes → K α → Option α} {e} (h : StepEnum step e) :
    ∀ f, StepEnum (repStar step f) (endsStar e f) := by
  intro f
  induction f with
  | zero => intro pre s k; simp [repStar, endsStar, firstSome_single]
  | succ f ih =>
    intro pre s k
    simp only [repStar, endsStar, h pre s, firstSome_append, firstSome_flatMap, firstSome_single,
      firstSome_filter]
    congr 1
    apply firstSome_congr
    intro p s'
    by_cases hlt : s'.length < s.length
    · simp [hlt, ih p s' k]
    · simp [hlt]

/-- The matcher returns the continuation's result on the FIRST element of the
priority-ordered enumeration on which the continuation succeeds. -/
theorem m_eq_firstSome : ∀ (r : Re), StepEnum (α := α) (m r) (ends r) := by
  intro r
  induction r with
  | eps => intro pre s k; simp [m, ends, firstSome_single]
  | cls rs =>
    intro pre s k
    cases s with
    | nil => simp [m, ends, firstSome]
    | cons c t =>
      simp only [m, ends]
      split <;> simp [firstSome, orElse_none_right]
  | ncls rs =>
    intro pre s k
    cases s with
    | nil => simp [m, ends, firstSome]
    | cons c t =>
      simp only [m, ends]
      split
      · split <;> simp [firstSome, orElse_none_right]
      · simp [firstSome, orElse_none_right]
  | cat a b iha ihb =>
    intro pre s k
    simp only [m, ends, iha pre s, firstSome_flatMap]
    exact firstSome_congr _ _ _ (fun p s' => ihb p s' k)
  | alt a b iha ihb =>
    intro pre s k
    simp only [m, ends, iha pre s, ihb pre s, firstSome_append]
  | rep a mn mx iha =>
    intro pre s k
    cases mx with
    | none =>
      simp only [m, ends, repMin_enum iha mn pre s, firstSome_flatMap]
      exact firstSome_congr _ _ _ (fun p s' => repStar_enum iha _ p s' k)
    | some M =>
      simp only [m, ends]
      split
      · rfl
      · simp only [repMin_enum iha mn pre s, firstSome_flatMap]
        exact firstSome_congr _ _ _ (fun p s' => repMax_enum iha _ p s' k)
  | bot => intro pre s k; simp only [m, ends]; split <;> simp [firstSome, orElse_none_right]
  | wordb => intro pre s k; simp only [m, ends]; split <;> simp [firstSome, orElse_none_right]

theorem firstSome_head (l : List Pos) :
    firstSome l (fun pre _ => some pre.reverse) = l.head?.map fun x => x.1.reverse := by
  cases l with
  | nil => rfl
  | cons x t => obtain ⟨p, s⟩ := x; simp [firstSome, orElse]

/-- `pmatch` returns the FIRST match in leftmost-first order. -/
theorem pmatch_first (r : Re) (s : Bytes) : pmatch r s = (ends r [] s).head?.map fun x => x.1.reverse := by
  unfold pmatch
  rw [m_eq_firstSome r [] s, firstSome_head]

theorem firstSome_some_mem {l : List Pos} {k : K α} {x : α} (h : firstSome l k = some x) :
    ∃ p s, (p, s) ∈ l ∧ k p s = some x := by
  induction l with
  | nil => cases h
  | cons y t ih =>
    obtain ⟨p, s⟩ := y
    simp only [firstSome] at h
    rcases orElse_some h with h1 | ⟨_, h2⟩
    · exact ⟨p, s, by simp, h1⟩
    · obtain ⟨p', s', hm, hk⟩ := ih h2
      exact ⟨p', s', by simp [hm], hk⟩

theorem firstSome_isSome_of_mem {l : List Pos} {k : K α} {p s : Bytes} (hm : (p, s) ∈ l)
    (hk : (k p s).isSome = true) : (firstSome l k).isSome = true := by
  induction l with
  | nil => cases hm
  | cons y t ih =>
    obtain ⟨p', s'⟩ := y
    simp only [firstSome]
    simp only [List.mem_cons, Prod.mk.injEq] at hm
    rcases hm with ⟨rfl, rfl⟩ | hm
    · exact orElse_isSome_left hk
    · exact orElse_isSome_right (ih hm)

/-! ### the enumeration and the denotational semantics -/

/-- `e` enumerates the relation `P`: from any position (`pre` before it, reversed; `s` ahead) it lists
the ends of the prefixes of `s` in `P`, each with the text before it. -/
def Enum (P : Bytes → Bytes → Bytes → Prop) (e : Bytes → Bytes → List Pos) : Prop :=
  ∀ pre s p rest, (p, rest) ∈ e pre s ↔ ∃ w, s = w ++ rest ∧ p = w.reverse ++ pre ∧ P pre w rest

/-- `P`, then `Q` where `P` ended: the shape of `Matches (.cat a b)` and of `IterN P (k + 1)` -/
def Seq (P Q : Bytes → Bytes → Bytes → Prop) (pre w post : Bytes) : Prop :=
  ∃ w1 w2, w = w1 ++ w2 ∧ P pre w1 (w2 ++ post) ∧ Q (w1.reverse ++ pre) w2 post

variable {P Q : Bytes → Bytes → Bytes → Prop} {e e1 e2 : Bytes → Bytes → List Pos}

theorem Enum.congr (h : Enum P e) (hpq : ∀ pre w post, P pre w post ↔ Q pre w post) : Enum Q e :=
  fun pre s p rest => by simp only [h pre s, hpq]

theorem Enum.eps : Enum (fun _ w _ => w = []) (fun pre s => [(pre, s)]) := by
  intro pre s p rest
  simp only [List.mem_singleton, Prod.mk.injEq]
  constructor
  · rintro ⟨rfl, rfl⟩; exact ⟨[], rfl, rfl, rfl⟩
  · rintro ⟨_, rfl, rfl, rfl⟩; exact ⟨rfl, rfl⟩

theorem Enum.seq (h1 : Enum P e1) (h2 : Enum Q e2) :
    Enum (Seq P Q) (fun pre s => (e1 pre s).flatMap fun x => e2 x.1 x.2) := by
  intro pre s p rest
  rw [List.mem_flatMap]
  constructor
  · rintro ⟨⟨p1, r1⟩, hx, hy⟩
    obtain ⟨w1, rfl, rfl, hp⟩ := (h1 ..).mp hx
    obtain ⟨w2, rfl, rfl, hq⟩ := (h2 ..).mp hy
    exact ⟨w1 ++ w2, by simp, by simp, w1, w2, rfl, hp, hq⟩
  · rintro ⟨_, rfl, rfl, w1, w2, rfl, hp, hq⟩
    exact ⟨(w1.reverse ++ pre, w2 ++ rest), (h1 ..).mpr ⟨w1, by simp, rfl, hp⟩, (h2 ..).mpr ⟨w2, rfl, by simp, hq⟩⟩

theorem Enum.alt (h1 : Enum P e1) (h2 : Enum Q e2) :
    Enum (fun pre w post => P pre w post ∨ Q pre w post) (fun pre s => e1 pre s ++ e2 pre s) :=
  fun pre s p rest => by simp only [List.mem_append, h1 pre s, h2 pre s, ← exists_or, ← and_or_left]

/-- what the star loop keeps of a step: the iterations that consume something -/
theorem Enum.nonempty (h : Enum P e) : Enum (fun pre w post => P pre w post ∧ w ≠ [])
    (fun pre s => (e pre s).filter fun x => decide (x.2.length < s.length)) := by
  intro pre s p rest
  simp only [List.mem_filter, h pre s, decide_eq_true_eq]
  constructor
  · rintro ⟨⟨w, rfl, rfl, hp⟩, hl⟩
    exact ⟨w, rfl, rfl, hp, by rintro rfl; simp at hl⟩
  · rintro ⟨w, rfl, rfl, hp, hne⟩
    exact ⟨⟨w, rfl, rfl, hp⟩, by cases w <;> simp at hne ⊢; omega⟩

theorem Enum.min (h : Enum P e) : ∀ n, Enum (IterN P n) (endsMin e n)
  | 0 => Enum.eps
  | n + 1 => h.seq (Enum.min h n)

theorem Enum.max (h : Enum P e) : ∀ n, Enum (fun pre w post => ∃ j, j ≤ n ∧ IterN P j pre w post) (endsMax e n)
  | 0 => Enum.eps.congr fun pre w post =>
    ⟨fun hw => ⟨0, Nat.le_refl _, hw⟩, fun ⟨j, hj, hit⟩ => by cases Nat.le_zero.mp hj; exact hit⟩
  | n + 1 => ((h.seq (Enum.max h n)).alt Enum.eps).congr fun pre w post => by
    constructor
    · rintro (⟨w1, w2, e, hp, j, hj, hit⟩ | hw)
      · exact ⟨j + 1, by omega, w1, w2, e, hp, hit⟩
      · exact ⟨0, by omega, hw⟩
    · rintro ⟨j, hj, hit⟩
      cases j with
      | zero => exact Or.inr hit
      | succ j => obtain ⟨w1, w2, e, hp, hit⟩ := hit; exact Or.inl ⟨w1, w2, e, hp, j, by omega, hit⟩

/-- the star loop is the bounded greedy loop over the steps that consume something -/
theorem endsStar_eq_endsMax (e : Bytes → Bytes → List Pos) : ∀ f pre s, endsStar e f pre s =
    endsMax (fun pre s => (e pre s).filter fun x => decide (x.2.length < s.length)) f pre s
  | 0, _, _ => rfl
  | f + 1, pre, s => by simp only [endsStar, endsMax, endsStar_eq_endsMax e f]

theorem IterN_append {P : Bytes → Bytes → Bytes → Prop} : ∀ (a b : Nat) (pre w1 w2 post : Bytes),
    IterN P a pre w1 (w2 ++ post) → IterN P b (w1.reverse ++ pre) w2 post →
    IterN P (a + b) pre (w1 ++ w2) post := by
  intro a
  induction a with
  | zero =>
    intro b pre w1 w2 post h1 h2
    simp only [IterN] at h1
    subst h1
    simpa using h2
  | succ a ih =>
    intro b pre w1 w2 post h1 h2
    obtain ⟨u, v, rfl, hp, hit⟩ := h1
    have : a + 1 + b = (a + b) + 1 := by omega
    rw [this]
    refine ⟨u, v ++ w2, by simp, by simpa using hp, ?_⟩
    apply ih b (u.reverse ++ pre) v w2 post hit
    simpa [List.reverse_append, List.append_assoc] using h2

theorem IterN_split {P : Bytes → Bytes → Bytes → Prop} : ∀ (a b : Nat) (pre w post : Bytes),
    IterN P (a + b) pre w post →
    ∃ w1 w2, w = w1 ++ w2 ∧ IterN P a pre w1 (w2 ++ post) ∧ IterN P b (w1.reverse ++ pre) w2 post := by
  intro a
  induction a with
  | zero =>
    intro b pre w post h
    exact ⟨[], w, rfl, rfl, by simpa using h⟩
  | succ a ih =>
    intro b pre w post h
    have e : a + 1 + b = (a + b) + 1 := by omega
    rw [e] at h
    obtain ⟨u, v, rfl, hp, hit⟩ := h
    obtain ⟨w1, w2, rfl, h1, h2⟩ := ih b _ _ _ hit
    refine ⟨u ++ w1, w2, by simp, ⟨u, w1, rfl, by simpa using hp, h1⟩, ?_⟩
    simpa [List.reverse_append, List.append_assoc] using h2

theorem IterN_mono (h : ∀ pre w post, P pre w post → Q pre w post) :
    ∀ n pre w post, IterN P n pre w post → IterN Q n pre w post
  | 0, _, _, _, hw => hw
  | n + 1, _, _, _, ⟨w1, w2, e, hp, hit⟩ => ⟨w1, w2, e, h _ _ _ hp, IterN_mono h n _ _ _ hit⟩

/-- empty iterations can be dropped; what is left is no more iterations than bytes -/
theorem IterN_nonempty : ∀ n pre w post, IterN P n pre w post →
    ∃ j, j ≤ w.length ∧ IterN (fun pre w post => P pre w post ∧ w ≠ []) j pre w post
  | 0, _, _, _, hw => ⟨0, Nat.zero_le _, hw⟩
  | n + 1, pre, _, post, ⟨w1, w2, rfl, hp, hit⟩ => by
    obtain ⟨j, hj, h⟩ := IterN_nonempty n _ _ _ hit
    cases w1 with
    | nil => exact ⟨j, by simpa using hj, by simpa using h⟩
    | cons c r => exact ⟨j + 1, by simp; omega, c :: r, w2, rfl, ⟨hp, by simp⟩, h⟩

/-- with the length of the text ahead as fuel the star loop enumerates every number of iterations -/
theorem Enum.star (h : Enum P e) :
    Enum (fun pre w post => ∃ j, IterN P j pre w post) (fun pre s => endsStar e s.length pre s) := by
  intro pre s p rest
  show (p, rest) ∈ endsStar e s.length pre s ↔ _
  rw [endsStar_eq_endsMax, h.nonempty.max s.length pre s]
  refine exists_congr fun w => and_congr_right fun hs => and_congr_right fun _ => ?_
  constructor
  · rintro ⟨j, _, hit⟩; exact ⟨j, IterN_mono (fun _ _ _ hp => hp.1) j _ _ _ hit⟩
  · rintro ⟨j, hit⟩
    obtain ⟨j', hj, hit'⟩ := IterN_nonempty j _ _ _ hit
    exact ⟨j', by rw [hs, List.length_append]; omega, hit'⟩

/-- `mn` iterations and then `j` more, `j` as `B` allows: the two loops of a repetition -/
theorem seq_IterN_iff (B : Nat → Prop) (mn : Nat) (pre w post : Bytes) :
    Seq (IterN P mn) (fun pre w post => ∃ j, B j ∧ IterN P j pre w post) pre w post ↔
      ∃ k, mn ≤ k ∧ B (k - mn) ∧ IterN P k pre w post := by
  constructor
  · rintro ⟨w1, w2, rfl, h1, j, hb, h2⟩
    exact ⟨mn + j, by omega, by simpa using hb, IterN_append _ _ _ _ _ _ h1 h2⟩
  · rintro ⟨k, hk, hb, hit⟩
    obtain ⟨j, rfl⟩ : ∃ j, k = mn + j := ⟨k - mn, by omega⟩
    obtain ⟨w1, w2, rfl, h1, h2⟩ := IterN_split _ _ _ _ _ hit
    exact ⟨w1, w2, rfl, h1, j, by simpa using hb, h2⟩

/-- the anchors: nothing is consumed, the position is tested -/
theorem Enum.test (c : Bytes → Bytes → Bool) :
    Enum (fun pre w post => w = [] ∧ c pre post = true) (fun pre s => if c pre s then [(pre, s)] else []) := by
  intro pre s p rest
  show (p, rest) ∈ (if c pre s then [(pre, s)] else []) ↔ _
  constructor
  · intro hm
    split at hm
    · obtain ⟨_, rfl, rfl, rfl⟩ := (Enum.eps ..).mp hm; exact ⟨[], rfl, rfl, rfl, ‹_›⟩
    · cases hm
  · rintro ⟨_, rfl, rfl, rfl, hc⟩; simp [hc]

theorem ends_enum : ∀ r : Re, Enum (Matches r) (ends r)
  | .eps => Enum.eps
  | .cat a b => (ends_enum a).seq (ends_enum b)
  | .alt a b => (ends_enum a).alt (ends_enum b)
  | .bot => (Enum.test fun pre _ => pre.isEmpty).congr fun _ _ _ => by simp [Matches]
  | .wordb => (Enum.test fun pre s => wordBefore pre != wordAfter s).congr fun _ _ _ => by simp [Matches]
  | .cls rs => fun pre s p rest => by
    constructor
    · intro hm
      cases s with
      | nil => cases hm
      | cons c t =>
        simp only [ends] at hm
        split at hm
        · rename_i hc
          simp only [Bool.and_eq_true, decide_eq_true_eq] at hc
          cases List.mem_singleton.mp hm
          exact ⟨[c], rfl, rfl, c, rfl, hc.1, hc.2⟩
        · cases hm
    · rintro ⟨_, rfl, rfl, c, rfl, h1, h2⟩
      simp [ends, h1, h2]
  | .ncls rs => fun pre s p rest => by
    constructor
    · intro hm
      cases s with
      | nil => cases hm
      | cons c t =>
        simp only [ends] at hm
        split at hm
        · rename_i hc
          split at hm
          · cases hm
          · rename_i hin
            cases List.mem_singleton.mp hm
            exact ⟨[c], rfl, rfl, c, _, rfl, Or.inl ⟨hc, by simpa using hin, rfl⟩⟩
        · rename_i hc
          cases List.mem_singleton.mp hm
          exact ⟨_, (List.take_append_drop _ _).symm, rfl, c, t, List.take_append_drop _ _, Or.inr ⟨hc, rfl⟩⟩
    · rintro ⟨w, rfl, rfl, c, t, hwp, hcase⟩
      rw [hwp]
      rcases hcase with ⟨h1, h2, rfl⟩ | ⟨h1, rfl⟩
      · cases hwp
        simp [ends, h1, h2]
      · have := List.append_cancel_left (hwp.trans (List.take_append_drop (runeLen (c :: t)) (c :: t)).symm)
        simp [ends, h1, this]
  | .rep a mn none => (((ends_enum a).min mn).seq (ends_enum a).star).congr fun pre w post => by
    have := seq_IterN_iff (P := Matches a) (fun _ => True) mn pre w post
    simp only [true_and] at this
    simp [Matches, this]
  | .rep a mn (some M) => fun pre s p rest => by
    simp only [ends]
    split
    · rename_i hM
      simp only [List.not_mem_nil, Matches, false_iff]
      rintro ⟨w, _, _, k, hk, hkM, _⟩
      have := hkM M rfl
      omega
    · rename_i hM
      refine (((ends_enum a).min mn).seq ((ends_enum a).max (M - mn))).congr (fun pre w post => ?_) pre s p rest
      rw [seq_IterN_iff (fun j => j ≤ M - mn)]
      refine exists_congr fun k => and_congr_right fun hk => and_congr_left fun _ => ?_
      simp only [Option.some.injEq, forall_eq']
      omega

/-- The enumeration is exactly the set of matches of the denotational
semantics: `(p, rest)` occurs iff some prefix `w` of the input matches, ends
at `rest`, and `p` is the text up to that end (reversed). -/
theorem mem_ends_iff (r : Re) (pre s p rest : Bytes) :
    (p, rest) ∈ ends r pre s ↔ ∃ w, s = w ++ rest ∧ p = w.reverse ++ pre ∧ Matches r pre w rest :=
  ends_enum r pre s p rest

/-! ## the matcher against the denotational semantics -/

theorem ite_of {α : Type} {P : α → Prop} {c : Prop} [Decidable c] {a b : α} (ha : P a) (hb : P b) :
    P (if c then a else b) := iteInduction (fun _ => ha) (fun _ => hb)

theorem m_sound (r : Re) (pre s : Bytes) (k : K α) (x : α) (h : m r pre s k = some x) :
    ∃ w post, s = w ++ post ∧ Matches r pre w post ∧ k (w.reverse ++ pre) post = some x := by
  rw [m_eq_firstSome] at h
  obtain ⟨p, post, hm, hk⟩ := firstSome_some_mem h
  obtain ⟨w, rfl, rfl, hw⟩ := (mem_ends_iff ..).mp hm
  exact ⟨w, post, rfl, hw, hk⟩

theorem m_complete (r : Re) (pre w post : Bytes) (k : K α) (h : Matches r pre w post)
    (hk : (k (w.reverse ++ pre) post).isSome = true) : (m r pre (w ++ post) k).isSome = true := by
  rw [m_eq_firstSome]
  exact firstSome_isSome_of_mem ((mem_ends_iff ..).mpr ⟨w, rfl, rfl, h⟩) hk

/-! ### `pmatch` -/

theorem pmatch_sound {r : Re} {s w : Bytes} (h : pmatch r s = some w) :
    ∃ post, s = w ++ post ∧ Matches r [] w post := by
  obtain ⟨w', post, rfl, hm, hk⟩ := m_sound r _ _ _ _ h
  simp only [List.append_nil, List.reverse_reverse, Option.some.injEq] at hk
  subst hk
  exact ⟨post, rfl, hm⟩

theorem pmatch_complete {r : Re} {w post : Bytes} (h : Matches r [] w post) :
    (pmatch r (w ++ post)).isSome = true :=
  m_complete r _ _ _ _ h (by simp)

theorem pmatch_none_iff (r : Re) (s : Bytes) :
    pmatch r s = none ↔ ¬ ∃ w post, s = w ++ post ∧ Matches r [] w post := by
  constructor
  · intro h ⟨w, post, hs, hm⟩
    have := pmatch_complete hm
    rw [← hs, h] at this
    cases this
  · intro h
    cases hp : pmatch r s with
    | none => rfl
    | some w =>
      obtain ⟨post, hs, hm⟩ := pmatch_sound hp
      exact absurd ⟨w, post, hs, hm⟩ h

/-- For a string literal (it unifies with `String.ofList _`): the kernel gets the characters without decoding the
literal's UTF-8 bytes, which is quadratic in its length. -/
theorem parse_ofList (l : List Char) : parse (String.ofList l) = parseCodes (l.map Char.toNat) := by
  rw [parse, String.toList_ofList]

end Martian.Regex
