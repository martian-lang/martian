/-
C19 — on programs without `disabled` modifiers the extended model `deepGraphD`
(RefactorGraphD.lean) is exactly the embedding of `deepGraph`.

Each function of the extended model is written clause for clause like its plain
counterpart, plus clauses for `dis`, which the image of `RExp.toD` never meets: so
it commutes with `toD`, on the constructors without sub-expressions by definition;
and with an empty list of disabling controls every test on that list evaluates.
-/
import Martian.RefactorGraphD
import Proofs.RefactorGraph

namespace Proofs.RefactorGraph
open Martian.Refactor

theorem toD_rnull : RExp.toD rnull = dnull := rfl

theorem bindingPathD_toD_all (v : RExp) :
    (∀ path, bindingPathD path v.toD = (bindingPath path v).toD)
    ∧ (∀ path, bindingPathElemsD path v.toD = (bindingPathElems path v).toD)
    ∧ (∀ h t, projectMemberD h t v.toD = (projectMember h t v).toD) := by
  induction v with
  | arr es ih => exact ⟨fun path => congrArg DExp.arr (ih.2.1 path), fun _ => rfl, fun _ _ => rfl⟩
  | map st es ih =>
    refine ⟨fun path => ?_, fun _ => rfl, fun _ _ => rfl⟩
    cases st with
    | false => exact congrArg (DExp.map false) (ih.2.1 path)
    | true =>
      cases path with
      | nil => rfl
      | cons h t => exact ih.2.2 h t
  | cons k hd tl ih1 ih2 =>
    refine ⟨fun _ => rfl, fun path => ?_, fun h t => ?_⟩
    · show DExp.cons k _ _ = DExp.cons k _ _
      rw [ih1.1, ih2.2.1]
    · show (if k = h then _ else _) = RExp.toD (if k = h then _ else _)
      split
      · exact ih1.1 t
      · exact ih2.2.2 h t
  | _ => exact ⟨fun _ => rfl, fun _ => rfl, fun _ _ => rfl⟩

theorem filterD_toD_all (mo : String → Option Members) (v : RExp) :
    (∀ ty, filterD mo ty v.toD = (filterExp mo ty v).toD)
    ∧ (∀ ty, filterElemsD mo ty v.toD = (filterElems mo ty v).toD)
    ∧ (∀ ms, filterMembersD mo ms v.toD = (filterMembers mo ms v).toD) := by
  induction v with
  | arr es ih =>
    refine ⟨fun ty => ?_, fun _ => rfl, fun _ => rfl⟩
    rw [RExp.toD, filterD, filterExp]
    cases mo ty.base with
    | none => rfl
    | some ms => simp only [apply_ite RExp.toD, RExp.toD, ih.2.1]
  | map st es ih =>
    refine ⟨fun ty => ?_, fun _ => rfl, fun _ => rfl⟩
    rw [RExp.toD, filterD, filterExp]
    cases mo ty.base with
    | none => rfl
    | some ms => simp only [apply_ite RExp.toD, RExp.toD, ih.2.1, ih.2.2]
  | cons k hd tl ih1 ih2 =>
    refine ⟨fun _ => rfl, fun ty => ?_, fun ms => ?_⟩
    · show DExp.cons k _ _ = DExp.cons k _ _
      rw [ih1.1, ih2.2.1]
    · rw [RExp.toD, filterMembersD, filterMembers]
      cases ms.lookup k with
      | some mty =>
        show DExp.cons k _ _ = DExp.cons k _ _
        rw [ih1.1, ih2.2.2]
      | none => exact ih2.2.2 ms
  | _ => exact ⟨fun _ => rfl, fun _ => rfl, fun _ => rfl⟩

theorem substRefsD_toD (f : Ref → RExp) (e : Exp) :
    substRefsD (RExp.toD ∘ f) e = (substRefs f e).toD := by
  induction e with
  | split e ih | arr e ih | map _ e ih => exact congrArg _ ih
  | cons k h t ih1 ih2 =>
    show DExp.cons k _ _ = DExp.cons k _ _
    rw [ih1, ih2]
  | _ => rfl

def envD (env : Env) : DEnv := env.map (fun kv => (kv.1, kv.2.toD))

theorem denvGet_envD (env : Env) (k : String) : denvGet (envD env) k = (envGet env k).toD := by
  unfold denvGet envGet envD
  induction env with
  | nil => rfl
  | cons e t ih =>
    rw [List.map_cons, List.lookup_cons, List.lookup_cons]
    cases k == e.1 with
    | true => rfl
    | false => exact ih

theorem denvEntries_envD (env : Env) : denvEntries (envD env) = (envEntries env).toD := by
  induction env with
  | nil => rfl
  | cons e t ih => exact congrArg (DExp.cons e.1 e.2.toD) ih

theorem lookupRefD_toD (self : Env) (sib : String → RExp) :
    lookupRefD (envD self) (RExp.toD ∘ sib) = RExp.toD ∘ lookupRef self sib := by
  funext r
  show bindingPathD r.path _ = (bindingPath r.path _).toD
  rw [← (bindingPathD_toD_all _).1]
  cases r.kind with
  | self => exact congrArg _ (denvGet_envD self r.id)
  | call => rfl

theorem resolveBindsD_toD (ti : TypeInfo) (tys : Members) (f : Ref → RExp) (bs : List Bind) :
    resolveBindsD ti tys (RExp.toD ∘ f) bs = envD (resolveBinds ti tys f bs) := by
  unfold resolveBindsD resolveBinds envD
  rw [List.map_map]
  apply List.map_congr_left
  intro b _
  rw [Function.comp_apply, substRefsD_toD]
  cases tys.lookup b.name with
  | some ty => exact congrArg _ ((filterD_toD_all _ _).1 ty)
  | none => rfl

theorem rrefsD_toD (v : RExp) : rrefsD v.toD = (rrefs v).map RExp.toD := by
  induction v with
  | split e ih | arr e ih | map _ e ih => exact ih
  | cons k h t ih1 ih2 =>
    show rrefsD h.toD ++ rrefsD t.toD = _
    rw [ih1, ih2, rrefs, List.map_append]
  | _ => rfl

def noDisC (c : Callable) : Prop := ∀ k ∈ c.calls, k.mods.all (fun b => b.name != "disabled") = true

theorem nodeDisable_nil (k : Call) (f : Ref → DExp) (h : k.mods.all (fun b => b.name != "disabled") = true) :
    nodeDisable [] k f = [] := by
  have : k.mods.find? (·.name == "disabled") = none :=
    List.find?_eq_none.mpr fun b hb => by simpa using List.all_eq_true.mp h b hb
  unfold nodeDisable
  rw [this]
  rfl

theorem callInsD_toD (ti : TypeInfo) (pipe : Callable) (self : Env) (sib : String → RExp) (d : Callable) (k : Call) :
    callInsD ti pipe (envD self) (RExp.toD ∘ sib) d k = envD (callIns ti pipe self sib d k) := by
  unfold callInsD callIns
  rw [lookupRefD_toD, resolveBindsD_toD]

theorem callOutputsD_toD (ti : TypeInfo) (p : Program) (hp : ∀ n d, p.find? n = some d → noDisC d) :
    ∀ fuel pipe self pre, noDisC pipe →
      callOutputsD ti p fuel pipe (envD self) [] pre = RExp.toD ∘ callOutputs ti p fuel pipe self pre := by
  intro fuel
  induction fuel with
  | zero => intros; rfl
  | succ fuel ih =>
    intro pipe self pre hpipe
    funext id
    rw [Function.comp_apply, callOutputsD, callOutputs, ih pipe self pre hpipe]
    cases hk : pipe.calls.find? (·.id == id) with
    | none => rfl
    | some k =>
      dsimp only
      cases hd : p.find? k.decId with
      | none => rfl
      | some d =>
        dsimp only
        rw [nodeDisable_nil k _ (hpipe k (call_mem pipe id k hk).1), callInsD_toD, ih d _ _ (hp _ d hd),
          lookupRefD_toD, resolveBindsD_toD, denvEntries_envD]
        cases d.isPipe with
        | false => cases d.outs.isEmpty <;> rfl
        | true => cases d.ret.isEmpty <;> rfl

theorem flatMap_congr_map {α β γ : Type} (h : β → γ) {l : List α} {f : α → List γ} {g : α → List β}
    (H : ∀ a ∈ l, f a = (g a).map h) : l.flatMap f = (l.flatMap g).map h := by
  rw [List.map_flatMap]
  exact flatMap_congr' H

theorem nodesOfD_toD (ti : TypeInfo) (p : Program) (hp : ∀ n d, p.find? n = some d → noDisC d) (big : Nat) :
    ∀ fuel pipe self pre k, noDisC pipe → k ∈ pipe.calls →
      nodesOfD ti p big fuel pipe (envD self) [] pre k = (nodesOf ti p big fuel pipe self pre k).map Node.toD := by
  intro fuel
  induction fuel with
  | zero => intros; rfl
  | succ fuel ih =>
    intro pipe self pre k hpipe hk
    rw [nodesOfD, nodesOf]
    cases hd : p.find? k.decId with
    | none => rfl
    | some d =>
      dsimp only
      rw [nodeDisable_nil k _ (hpipe k hk), callOutputsD_toD ti p hp big pipe self pre hpipe, callInsD_toD,
        callOutputsD_toD ti p hp big d _ _ (hp _ d hd), callOutputsD_toD ti p hp (big + 1) pipe self pre hpipe,
        lookupRefD_toD]
      cases d.isPipe with
      | false => rfl
      | true =>
        -- the node differs in `retained` only; the nodes below by the induction hypothesis
        exact congr
          (congrArg List.cons (congrArg (DNode.mk _ _ _ _ _ · []) (flatMap_congr_map _ fun r _ => rrefsD_toD _)))
          (flatMap_congr_map _ fun k' hk' => ih d _ _ k' (hp _ d hd) hk')

/-- **the embedding**: without `disabled` modifiers the extended model is the plain one -/
theorem deepGraphD_eq_embed (ti : TypeInfo) (p : Program) (h : noDisabledMods p = true) :
    deepGraphD ti p = (deepGraph ti p).map Node.toD := by
  obtain ⟨hc, ht⟩ := Bool.and_eq_true_iff.mp h
  have hp : ∀ n d, p.find? n = some d → noDisC d :=
    fun n d hd => List.all_eq_true.mp (List.all_eq_true.mp hc d (find_mem p n d hd))
  unfold deepGraphD deepGraph
  revert ht
  cases p.top with
  | none => intro; rfl
  | some t =>
    intro ht
    have htop : noDisC (topPipe t) := by
      intro k hk
      rw [List.mem_singleton.mp hk]
      exact ht
    exact nodesOfD_toD ti p hp _ _ (topPipe t) [] [] t htop (List.mem_singleton_self t)

end Proofs.RefactorGraph
