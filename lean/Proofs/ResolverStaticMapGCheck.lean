/-
C01 — soundness of the decidable type check `wellTypedGB` (map calls of stages in array /
typed-map mode).
-/
import Proofs.ResolverStaticMapG
import Proofs.ResolverStaticCheck

namespace Proofs.ResolverStatic
open Martian.Dataflow Martian.Resolver Martian.ResolverForks Martian.ResolverStatic Proofs.Dataflow

theorem mappedOkGB_sound (st : StructTable) (n : Nat) (P : Program) (sT cT : String → Ty) (c : Call)
    (isMap : Bool) (h : mappedOkGB st n P sT cT c isMap = true) : MappedOkG st P sT cT c isMap := by
  simp only [mappedOkGB, Bool.and_eq_true, Option.isNone_iff_eq_none, List.any_eq_true, List.all_eq_true,
    decide_eq_true_eq, Bool.or_eq_true, Bool.not_eq_true', beq_iff_eq] at h
  obtain ⟨⟨⟨⟨⟨⟨⟨hm, hd⟩, hst⟩, hex⟩, hnd⟩, hpar⟩, hmz⟩, hty⟩ := h
  refine ⟨hm, hd, ?_, ?_, ?_, ?_, ?_⟩
  · unfold isStageB at hst
    cases hl : P.callables.lookup c.callee with
    | none => simp [hl] at hst
    | some cb =>
      cases cb with
      | stage a b => exact ⟨a, b, rfl⟩
      | pipeline a b d e => simp [hl] at hst
  · obtain ⟨b, hb, hs⟩ := hex
    exact ⟨b, hb, hs⟩
  · intro b hb hs
    cases hpar b hb with
    | inl h0 => rw [h0] at hs; cases hs
    | inr h0 =>
      obtain ⟨p, hp, hpn⟩ := h0
      refine ⟨p, hp, ?_⟩
      rw [hpn]
      exact find_key_of_nodup c.binds (·.param) hnd b hb
  · intro him p hp b hb hs
    cases hmz with
    | inl h0 => rw [him] at h0; cases h0
    | inr h0 =>
      have := h0 p hp
      simp only [hb, hs, Bool.not_true, Bool.false_or, beq_iff_eq] at this
      exact this
  · intro p hp b hb
    have := hty p hp
    simp only [hb] at this
    exact hasTyB_sound st n sT cT b.exp _ this

theorem callOkGB_sound (st : StructTable) (n : Nat) (P : Program) (sT cT : String → Ty) (c : Call)
    (ty : Ty) (h : callOkGB st n P sT cT c = some ty) : CallOkG st P sT cT c ty := by
  unfold callOkGB at h
  split at h
  · next h1 =>
    simp only [Bool.and_eq_true, List.all_eq_true, Bool.not_eq_true'] at h1
    simp only [Option.some.injEq] at h
    exact Or.inl ⟨callOkB_sound st n P.insOf sT cT c h1.1, h1.2, h.symm⟩
  · split at h
    · next h2 =>
      simp only [Option.some.injEq] at h
      exact Or.inr ⟨false, mappedOkGB_sound st n P sT cT c false h2, by simp [← h]⟩
    · split at h
      · next h3 =>
        simp only [Option.some.injEq] at h
        exact Or.inr ⟨true, mappedOkGB_sound st n P sT cT c true h3, by simp [← h]⟩
      · cases h

theorem callsOkGB_sound (st : StructTable) (n : Nat) (P : Program) (sT : String → Ty) :
    ∀ (cs : List Call) (L L' : List (String × Ty)), callsOkGB st n P sT L cs = some L' →
      CallsOkG st P sT L cs L'
  | [], L, L', h => by
    simp only [callsOkGB, Option.some.injEq] at h
    simp only [CallsOkG]
    exact h.symm
  | c :: cs, L, L', h => by
    simp only [callsOkGB] at h
    cases hc : callOkGB st n P sT (callTyOfB L) c with
    | none => simp [hc] at h
    | some ty =>
      simp only [hc] at h
      exact ⟨ty, callOkGB_sound st n P sT _ c ty (by rw [← callTyOfB_eq]; exact hc),
        callsOkGB_sound st n P sT cs _ L' h⟩

theorem wellTypedGB_sound (P : Program) (h : wellTypedGB P = true) : WellTypedG P := by
  simp only [wellTypedGB, Bool.and_eq_true, List.all_eq_true, beq_iff_eq, Bool.not_eq_true'] at h
  obtain ⟨⟨⟨⟨h1, h2⟩, h3⟩, h4⟩, h5⟩ := h
  refine ⟨structsOkB_sound _ h1, ?_, ?_, ?_⟩
  · intro name c hl
    exact h2 (name, c) (mem_of_lookup _ _ _ hl)
  · intro name pins outs calls ret hl
    have := h3 (name, _) (mem_of_lookup _ _ _ hl)
    simp only [pipelineOkGB] at this
    cases hc : callsOkGB P.table P.table.length P (selfTyOfB pins) [] calls with
    | none => simp [hc] at this
    | some L =>
      simp only [hc, List.all_eq_true] at this
      refine ⟨L, callsOkGB_sound _ _ _ _ calls [] L (by rw [← selfTyOfB_eq]; exact hc), ?_⟩
      intro p hp e he
      have h6 := this p hp
      simp only [he] at h6
      exact hasTyB_sound _ _ _ _ e p.ty h6
  · exact ⟨callOkB_sound _ _ _ _ _ _ h4, h5⟩

end Proofs.ResolverStatic
