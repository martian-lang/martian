/-
C01 — the two-phase resolver on ONE expression:

* `HasTyR st t r`: the resolved expression `r` may be bound where `t` is expected; `HasTyR.ind` is
  induction on such a typing with every case in normal form (the typed laws below are proved by it),
  the list-level functions of the mutual definitions are maps (`evalRTList_eq_map`, …);
* `evalRT_struct`, `evalRT_filterStruct`: the run-time evaluation at a struct type, member by member;
* a reference-free JSON literal evaluates alike typed and untyped, in every fork assignment
  (`evalRT_json`, `evalR_json_indep`);
* `evalRT_filterR`  (L0): the static struct narrowing of literals is invisible to
  the type-directed run-time evaluation.
-/
import Martian.ResolverStatic
import Proofs.ResolverStaticNarrow
import Proofs.ResolverForks

namespace Proofs.ResolverStatic
open Martian.Dataflow Martian.Resolver Martian.ResolverForks Martian.ResolverStatic Proofs.Dataflow

def Scalar (st : StructTable) (t : Ty) : Prop := t.arrDim = 0 ∧ t.mapDim = 0 ∧ st.lookup t.base = none

def LitOk (st : StructTable) (t : Ty) (j : J) : Prop := j = .null ∨ ((∃ s, j = .atom s) ∧ Scalar st t)

/-- the fields along the path exist -/
def FieldsExist (st : StructTable) : Ty → List String → Prop
  | _, [] => True
  | t, f :: r => (fieldTy st t.base f).isSome ∧ FieldsExist st (projTy1 st t f) r

/-- no projection of a value of type `t` along existing fields is (or passes through) a typed map:
what the element type of a TYPED-MAP mode map call must satisfy for the element to be projected
inside the callee (a typed map of typed maps is not a type) -/
def NoMapBelow (st : StructTable) (t : Ty) : Prop :=
  ∀ path, FieldsExist st t path → (pathTy st t path).mapDim = 0

theorem NoMapBelow.mapDim {st : StructTable} {t : Ty} (h : NoMapBelow st t) : t.mapDim = 0 := h [] trivial

theorem NoMapBelow.field {st : StructTable} {t : Ty} (h : NoMapBelow st t) (f : String)
    (hf : (fieldTy st t.base f).isSome) : NoMapBelow st (projTy1 st t f) :=
  fun path hp => h (f :: path) ⟨hf, hp⟩

mutual
def HasTyR (st : StructTable) : Ty → RExp → Prop
  | t, .lit j => LitOk st t j
  | t, .arr xs => t.arrDim ≠ 0 ∧ HasTyRList st { t with arrDim := t.arrDim - 1 } xs
  | t, .map kvs =>
    (t.arrDim = 0 ∧ t.mapDim ≠ 0 ∧ HasTyRFields st ⟨t.base, 0, t.mapDim - 1⟩ kvs) ∨
    -- a reference-free literal where an untyped `map` is expected
    (t.arrDim = 0 ∧ t.mapDim = 0 ∧ st.lookup t.base = none ∧ jsonRFields kvs = true)
  | t, .struct kvs => t.arrDim = 0 ∧ t.mapDim = 0 ∧
      ∃ ps, st.lookup t.base = some ps ∧ HasTyRMembers st ps kvs ∧ ∀ p ∈ ps, (kvs.lookup p.name).isSome
  | t, .ref _ sty path => Sub st (pathTy st sty path) t
  -- the element of the current fork of an ARRAY-mode map call (a split input that reached an
  -- environment: the callee is a mapped pipeline)
  | t, .split _ false e => HasTyR st { t with arrDim := t.arrDim + 1 } e
  -- … of a TYPED-MAP mode map call: the element type has no typed map below
  | t, .split _ true e => NoMapBelow st t ∧ HasTyR st ⟨t.base, t.arrDim + 1, 0⟩ e
  -- the collection of the per-fork values of an ARRAY-mode map call of run-time size, whose value does
  -- not contain the call's own split (the cancelling shape of `mkMerge`)
  | t, .merge c false e => t.arrDim ≠ 0 ∧ noSplitOf c e = true ∧ HasTyR st { t with arrDim := t.arrDim - 1 } e
  | t, .merge c true e => t.arrDim = 0 ∧ t.mapDim ≠ 0 ∧ noSplitOf c e = true ∧ HasTyR st ⟨t.base, 0, t.mapDim - 1⟩ e
  | t, .disabled d v => HasTyR st ⟨"bool", 0, 0⟩ d ∧ HasTyR st t v
  | t, .fork _ _ e => HasTyR st t e
def HasTyRList (st : StructTable) : Ty → List RExp → Prop
  | _, [] => True
  | t, e :: es => HasTyR st t e ∧ HasTyRList st t es
def HasTyRFields (st : StructTable) : Ty → List (String × RExp) → Prop
  | _, [] => True
  | t, (_, e) :: es => HasTyR st t e ∧ HasTyRFields st t es
def HasTyRMembers (st : StructTable) : List Param → List (String × RExp) → Prop
  | _, [] => True
  | ps, (k, e) :: es =>
    ((ps.find? fun p => p.name == k).isSome → HasTyR st (memberTy ps k) e) ∧ HasTyRMembers st ps es
end

theorem memberTy_find (ps : List Param) (k : String) (p : Param)
    (h : ps.find? (fun q => q.name == k) = some p) : memberTy ps k = p.ty := by
  simp [memberTy, h]

theorem mem_of_lookup {β : Type} : ∀ (kvs : List (String × β)) (k : String) (e : β),
    kvs.lookup k = some e → (k, e) ∈ kvs :=
  fun _ _ _ => Proofs.ListFacts.mem_of_lookup

theorem HasTyRMembers_iff (st : StructTable) (ps : List Param) :
    ∀ kvs : List (String × RExp), HasTyRMembers st ps kvs ↔
      ∀ kv ∈ kvs, (ps.find? fun p => p.name == kv.1).isSome → HasTyR st (memberTy ps kv.1) kv.2
  | [] => by simp [HasTyRMembers]
  | (k, e) :: es => by simp [HasTyRMembers, HasTyRMembers_iff st ps es]

theorem HasTyRMembers_of_mem (st : StructTable) (ps : List Param) :
    ∀ (kvs : List (String × RExp)),
      (∀ k e, (k, e) ∈ kvs → (ps.find? fun p => p.name == k).isSome → HasTyR st (memberTy ps k) e) →
      HasTyRMembers st ps kvs :=
  fun kvs h => (HasTyRMembers_iff st ps kvs).mpr fun kv hkv => h kv.1 kv.2 hkv

theorem HasTyRMembers_mem (st : StructTable) (ps : List Param) :
    ∀ (kvs : List (String × RExp)), HasTyRMembers st ps kvs →
      ∀ k e, (k, e) ∈ kvs → (ps.find? fun p => p.name == k).isSome → HasTyR st (memberTy ps k) e :=
  fun kvs hm k e h => (HasTyRMembers_iff st ps kvs).mp hm (k, e) h

theorem HasTyRMembers_find (st : StructTable) (ps : List Param) (kvs : List (String × RExp))
    (hm : HasTyRMembers st ps kvs) {k : String} {e : RExp} (hke : (k, e) ∈ kvs) {p : Param}
    (hf : ps.find? (fun q => q.name == k) = some p) : HasTyR st p.ty e := by
  have := HasTyRMembers_mem st ps kvs hm k e hke (by simp [hf])
  rwa [memberTy_find ps k p hf] at this

theorem HasTyRMembers_lookup (st : StructTable) (ps : List Param) :
    ∀ (kvs : List (String × RExp)) (k : String) (e : RExp) (p : Param), HasTyRMembers st ps kvs →
      kvs.lookup k = some e → ps.find? (fun q => q.name == k) = some p → HasTyR st p.ty e :=
  fun kvs k e _ hm hl hf => HasTyRMembers_find st ps kvs hm (mem_of_lookup kvs k e hl) hf

theorem evalRTList_eq_map (st : StructTable) (nf : Nat) (ρ : Store) (f : ForkAssign) (t : Ty) :
    ∀ xs : List RExp, evalRTList st nf ρ f t xs = xs.map (evalRT st nf ρ f t)
  | [] => rfl
  | x :: xs => by simp only [evalRTList, List.map_cons, evalRTList_eq_map st nf ρ f t xs]

theorem evalRTFields_eq_map (st : StructTable) (nf : Nat) (ρ : Store) (f : ForkAssign) (t : Ty) :
    ∀ kvs : List (String × RExp),
      evalRTFields st nf ρ f t kvs = kvs.map fun kv => (kv.1, evalRT st nf ρ f t kv.2)
  | [] => rfl
  | (k, e) :: es => by simp only [evalRTFields, List.map_cons, evalRTFields_eq_map st nf ρ f t es]

theorem HasTyRList_iff (st : StructTable) (t : Ty) :
    ∀ xs : List RExp, HasTyRList st t xs ↔ ∀ x ∈ xs, HasTyR st t x
  | [] => by simp [HasTyRList]
  | x :: xs => by simp [HasTyRList, HasTyRList_iff st t xs]

theorem HasTyRFields_iff (st : StructTable) (t : Ty) :
    ∀ kvs : List (String × RExp), HasTyRFields st t kvs ↔ ∀ kv ∈ kvs, HasTyR st t kv.2
  | [] => by simp [HasTyRFields]
  | (k, e) :: es => by simp [HasTyRFields, HasTyRFields_iff st t es]

section induct
variable (st : StructTable) {motive : Ty → RExp → Prop}
  (null : ∀ t, motive t (.lit .null))
  (atom : ∀ b s, st.lookup b = none → motive ⟨b, 0, 0⟩ (.lit (.atom s)))
  (arr : ∀ b m n xs, (∀ x ∈ xs, HasTyR st ⟨b, m, n⟩ x ∧ motive ⟨b, m, n⟩ x) → motive ⟨b, m, n + 1⟩ (.arr xs))
  (map : ∀ b k kvs, (∀ kv ∈ kvs, HasTyR st ⟨b, 0, k⟩ kv.2 ∧ motive ⟨b, 0, k⟩ kv.2) →
    motive ⟨b, k + 1, 0⟩ (.map kvs))
  (json : ∀ b kvs, st.lookup b = none → jsonRFields kvs = true → motive ⟨b, 0, 0⟩ (.map kvs))
  (struct : ∀ b ps kvs, st.lookup b = some ps → HasTyRMembers st ps kvs →
    (∀ p ∈ ps, (kvs.lookup p.name).isSome) →
    (∀ k e, (k, e) ∈ kvs → ∀ p, ps.find? (fun q => q.name == k) = some p → motive p.ty e) →
    motive ⟨b, 0, 0⟩ (.struct kvs))
  (ref : ∀ t n sty path, Sub st (pathTy st sty path) t → motive t (.ref n sty path))
  (splitArr : ∀ b m a c e, HasTyR st ⟨b, m, a + 1⟩ e → motive ⟨b, m, a + 1⟩ e →
    motive ⟨b, m, a⟩ (.split c false e))
  (splitMap : ∀ b a c e, NoMapBelow st ⟨b, 0, a⟩ → HasTyR st ⟨b, a + 1, 0⟩ e → motive ⟨b, a + 1, 0⟩ e →
    motive ⟨b, 0, a⟩ (.split c true e))
  (mergeArr : ∀ b m n c e, noSplitOf c e = true → HasTyR st ⟨b, m, n⟩ e → motive ⟨b, m, n⟩ e →
    motive ⟨b, m, n + 1⟩ (.merge c false e))
  (mergeMap : ∀ b k c e, noSplitOf c e = true → HasTyR st ⟨b, 0, k⟩ e → motive ⟨b, 0, k⟩ e →
    motive ⟨b, k + 1, 0⟩ (.merge c true e))
  (disabled : ∀ t d v, HasTyR st ⟨"bool", 0, 0⟩ d → motive ⟨"bool", 0, 0⟩ d → HasTyR st t v → motive t v →
    motive t (.disabled d v))
  (fork : ∀ t c ix e, HasTyR st t e → motive t e → motive t (.fork c ix e))
include null atom arr map json struct ref splitArr splitMap mergeArr mergeMap disabled fork

mutual
/-- induction on the typing of a resolved expression, each case with its type in normal form -/
theorem HasTyR.ind : ∀ (r : RExp) (t : Ty) (h : HasTyR st t r), motive t r
  | .lit j, ⟨b, m, a⟩, h => by
    simp only [HasTyR, LitOk, Scalar] at h
    rcases h with rfl | ⟨⟨s, rfl⟩, rfl, rfl, hl⟩
    · exact null _
    · exact atom b s hl
  | .arr xs, ⟨b, m, a⟩, h => by
    simp only [HasTyR] at h
    cases a with
    | zero => exact absurd rfl h.1
    | succ n => exact arr b m n xs (HasTyR.indList xs _ h.2)
  | .map kvs, ⟨b, m, a⟩, h => by
    simp only [HasTyR] at h
    rcases h with ⟨rfl, hm, hk⟩ | ⟨rfl, rfl, hl, hj⟩
    · cases m with
      | zero => exact absurd rfl hm
      | succ k => exact map b k kvs (HasTyR.indFields kvs _ hk)
    · exact json b kvs hl hj
  | .struct kvs, ⟨b, m, a⟩, h => by
    simp only [HasTyR] at h
    obtain ⟨rfl, rfl, ps, hl, hmem, hall⟩ := h
    exact struct b ps kvs hl hmem hall (HasTyR.indMembers ps kvs hmem)
  | .ref n sty path, t, h => ref t n sty path h
  | .split c false e, ⟨b, m, a⟩, h => splitArr b m a c e h (HasTyR.ind e _ h)
  | .split c true e, ⟨b, m, a⟩, h => by
    simp only [HasTyR] at h
    obtain rfl : m = 0 := h.1.mapDim
    exact splitMap b a c e h.1 h.2 (HasTyR.ind e _ h.2)
  | .merge c false e, ⟨b, m, a⟩, h => by
    simp only [HasTyR] at h
    cases a with
    | zero => exact absurd rfl h.1
    | succ n => exact mergeArr b m n c e h.2.1 h.2.2 (HasTyR.ind e _ h.2.2)
  | .merge c true e, ⟨b, m, a⟩, h => by
    simp only [HasTyR] at h
    obtain ⟨rfl, hm, hns, he⟩ := h
    cases m with
    | zero => exact absurd rfl hm
    | succ k => exact mergeMap b k c e hns he (HasTyR.ind e _ he)
  | .disabled d v, t, h => disabled t d v h.1 (HasTyR.ind d _ h.1) h.2 (HasTyR.ind v t h.2)
  | .fork c ix e, t, h => fork t c ix e h (HasTyR.ind e t h)
theorem HasTyR.indList : ∀ (xs : List RExp) (t : Ty), HasTyRList st t xs →
    ∀ x ∈ xs, HasTyR st t x ∧ motive t x
  | [], _, _, _, hx => by cases hx
  | y :: ys, t, h, x, hx => by
    rcases List.mem_cons.mp hx with hxy | hx
    · rw [hxy]; exact ⟨h.1, HasTyR.ind y t h.1⟩
    · exact HasTyR.indList ys t h.2 x hx
theorem HasTyR.indFields : ∀ (kvs : List (String × RExp)) (t : Ty), HasTyRFields st t kvs →
    ∀ kv ∈ kvs, HasTyR st t kv.2 ∧ motive t kv.2
  | [], _, _, _, hx => by cases hx
  | (k, y) :: ys, t, h, x, hx => by
    rcases List.mem_cons.mp hx with hxy | hx
    · rw [hxy]; exact ⟨h.1, HasTyR.ind y t h.1⟩
    · exact HasTyR.indFields ys t h.2 x hx
theorem HasTyR.indMembers (ps : List Param) : ∀ (kvs : List (String × RExp)), HasTyRMembers st ps kvs →
    ∀ k e, (k, e) ∈ kvs → ∀ p, ps.find? (fun q => q.name == k) = some p → motive p.ty e
  | [], _, _, _, hx, _, _ => by cases hx
  | (k', y) :: ys, h, k, e, hx, p, hf => by
    rcases List.mem_cons.mp hx with hx | hx
    · have hk : k = k' := (Prod.mk.inj hx).1
      rw [(Prod.mk.inj hx).2, ← memberTy_find ps k p hf, hk]
      exact HasTyR.ind y _ (h.1 (by rw [← hk, hf]; rfl))
    · exact HasTyR.indMembers ps ys h.2 k e hx p hf
end
end induct

section lookups
variable (st : StructTable) (nf : Nat) (ρ : Store) (f : ForkAssign)

theorem lookup_evalRTMembers (ps : List Param) :
    ∀ (kvs : List (String × RExp)) (k : String),
      (evalRTMembers st nf ρ f ps kvs).lookup k = (kvs.lookup k).map (evalRT st nf ρ f (memberTy ps k))
  | [], _ => by simp [evalRTMembers]
  | (k', e) :: es, k => by
    simp only [evalRTMembers, List.lookup_cons]
    cases hk : (k == k') with
    | true =>
      have : k = k' := by simpa using hk
      subst this
      simp
    | false => simpa using lookup_evalRTMembers ps es k

theorem lookup_filterRMembers (ps : List Param) :
    ∀ (kvs : List (String × RExp)) (k : String),
      (filterRMembers st ps kvs).lookup k = (kvs.lookup k).map (filterR st (memberTy ps k))
  | [], _ => by simp [filterRMembers]
  | (k', e) :: es, k => by
    simp only [filterRMembers, List.lookup_cons]
    cases hk : (k == k') with
    | true =>
      have : k = k' := by simpa using hk
      subst this
      simp
    | false => simpa using lookup_filterRMembers ps es k

theorem lookup_resolveRefsFields (self sib : RBMap) :
    ∀ (kvs : List (String × Exp)) (k : String),
      (resolveRefsFields self sib kvs).lookup k = (kvs.lookup k).map (resolveRefs self sib)
  | [], _ => by simp [resolveRefsFields]
  | (k', e) :: es, k => by
    simp only [resolveRefsFields, List.lookup_cons]
    cases hk : (k == k') <;> simp [lookup_resolveRefsFields self sib es k]

end lookups

theorem find_name_eq (ps : List Param) (k : String) (p : Param)
    (h : ps.find? (fun q => q.name == k) = some p) : p.name = k ∧ p ∈ ps := by
  refine ⟨?_, List.mem_of_find?_eq_some h⟩
  have := List.find?_some h
  simpa using this

/-- lookup in the list the static struct filter builds (declared members, in
declaration order, those that are present) -/
theorem lookup_filterMap_members {α : Type} (ps : List Param) (hn : (ps.map (·.name)).Nodup)
    (g : Param → Option α) (p : Param) (hp : p ∈ ps) :
    (ps.filterMap fun q => (g q).map fun e => (q.name, e)).lookup p.name = g p := by
  induction ps with
  | nil => cases hp
  | cons q qs ih =>
    simp only [List.map_cons, List.nodup_cons, List.mem_map, not_exists, not_and] at hn
    simp only [List.filterMap_cons]
    rcases List.mem_cons.mp hp with rfl | hp'
    · cases hg : g p with
      | some e => simp
      | none =>
        -- no later entry carries p's name
        simp only [Option.map_none, List.lookup_eq_none_iff, List.mem_filterMap, Option.map_eq_some_iff]
        rintro ⟨k, e⟩ ⟨r, hr, _, _, hre⟩
        cases hre
        simpa using fun h => hn.1 r hr h.symm
    · have hne : (p.name == q.name) = false := by simpa using fun h => hn.1 p hp' h
      cases g q with
      | none => exact ih hn.2 hp'
      | some e => simp only [Option.map_some, List.lookup_cons, hne]; exact ih hn.2 hp'

theorem mem_filterMap_members {α : Type} (ps : List Param) (g : Param → Option α) (k : String) (e : α)
    (h : (k, e) ∈ ps.filterMap fun q => (g q).map fun e => (q.name, e)) :
    ∃ p ∈ ps, p.name = k ∧ g p = some e := by
  simp only [List.mem_filterMap, Option.map_eq_some_iff, Prod.mk.injEq] at h
  obtain ⟨p, hp, a, ha, hk, he⟩ := h
  exact ⟨p, hp, hk, by rw [ha, he]⟩

mutual
theorem evalRT_json (st : StructTable) (nf : Nat) (ρ : Store) :
    ∀ (e : RExp) (t : Ty) (f : ForkAssign), jsonR e = true → t.mapDim = 0 → st.lookup t.base = none →
      evalRT st nf ρ f t e = evalR st ρ f e
  | .lit j, _, _, _, _, _ => by simp [evalRT, evalR]
  | .arr xs, t, f, h, hm, hl => by
    simp only [jsonR] at h
    simp only [evalRT, evalR]
    rw [evalRT_jsonList st nf ρ xs { t with arrDim := t.arrDim - 1 } f h hm hl]
  | .map kvs, t, f, h, hm, hl => by
    simp only [jsonR] at h
    have c : (t.arrDim == 0 && t.mapDim != 0) = false := by simp [hm]
    simp only [evalRT, evalR, c, Bool.false_eq_true, if_false, hl]
    rw [evalRT_jsonFields st nf ρ kvs ⟨t.base, 0, 0⟩ f h rfl hl]
  | .struct _, _, _, h, _, _ => by simp [jsonR] at h
  | .ref _ _ _, _, _, h, _, _ => by simp [jsonR] at h
  | .split _ _ _, _, _, h, _, _ => by simp [jsonR] at h
  | .merge _ _ _, _, _, h, _, _ => by simp [jsonR] at h
  | .disabled _ _, _, _, h, _, _ => by simp [jsonR] at h
  | .fork _ _ _, _, _, h, _, _ => by simp [jsonR] at h
theorem evalRT_jsonList (st : StructTable) (nf : Nat) (ρ : Store) :
    ∀ (es : List RExp) (t : Ty) (f : ForkAssign), jsonRList es = true → t.mapDim = 0 → st.lookup t.base = none →
      evalRTList st nf ρ f t es = evalRList st ρ f es
  | [], _, _, _, _, _ => by simp [evalRTList, evalRList]
  | e :: es, t, f, h, hm, hl => by
    simp only [jsonRList, Bool.and_eq_true] at h
    simp only [evalRTList, evalRList, evalRT_json st nf ρ e t f h.1 hm hl, evalRT_jsonList st nf ρ es t f h.2 hm hl]
theorem evalRT_jsonFields (st : StructTable) (nf : Nat) (ρ : Store) :
    ∀ (es : List (String × RExp)) (t : Ty) (f : ForkAssign), jsonRFields es = true → t.mapDim = 0 →
      st.lookup t.base = none → evalRTFields st nf ρ f t es = evalRFields st ρ f es
  | [], _, _, _, _, _ => by simp [evalRTFields, evalRFields]
  | (k, e) :: es, t, f, h, hm, hl => by
    simp only [jsonRFields, Bool.and_eq_true] at h
    simp only [evalRTFields, evalRFields, evalRT_json st nf ρ e t f h.1 hm hl,
      evalRT_jsonFields st nf ρ es t f h.2 hm hl]
end

mutual
theorem evalR_json_indep (st : StructTable) (ρ : Store) (f g : ForkAssign) :
    ∀ e : RExp, jsonR e = true → evalR st ρ f e = evalR st ρ g e
  | .lit j, _ => by simp [evalR]
  | .arr xs, h => by simp only [jsonR] at h; simp only [evalR, evalR_json_indepList st ρ f g xs h]
  | .map kvs, h => by simp only [jsonR] at h; simp only [evalR, evalR_json_indepFields st ρ f g kvs h]
  | .struct _, h => by simp [jsonR] at h
  | .ref _ _ _, h => by simp [jsonR] at h
  | .split _ _ _, h => by simp [jsonR] at h
  | .merge _ _ _, h => by simp [jsonR] at h
  | .disabled _ _, h => by simp [jsonR] at h
  | .fork _ _ _, h => by simp [jsonR] at h
theorem evalR_json_indepList (st : StructTable) (ρ : Store) (f g : ForkAssign) :
    ∀ es : List RExp, jsonRList es = true → evalRList st ρ f es = evalRList st ρ g es
  | [], _ => rfl
  | e :: es, h => by
    simp only [jsonRList, Bool.and_eq_true] at h
    simp only [evalRList, evalR_json_indep st ρ f g e h.1, evalR_json_indepList st ρ f g es h.2]
theorem evalR_json_indepFields (st : StructTable) (ρ : Store) (f g : ForkAssign) :
    ∀ es : List (String × RExp), jsonRFields es = true → evalRFields st ρ f es = evalRFields st ρ g es
  | [], _ => rfl
  | (k, e) :: es, h => by
    simp only [jsonRFields, Bool.and_eq_true] at h
    simp only [evalRFields, evalR_json_indep st ρ f g e h.1, evalR_json_indepFields st ρ f g es h.2]
end

theorem evalRT_json_eq (st : StructTable) (nf : Nat) (ρ : Store) (e : RExp) (t t' : Ty) (f g : ForkAssign)
    (h : jsonR e = true) (hm : t.mapDim = 0) (hl : st.lookup t.base = none)
    (hm' : t'.mapDim = 0) (hl' : st.lookup t'.base = none) :
    evalRT st nf ρ f t e = evalRT st nf ρ g t' e := by
  rw [evalRT_json st nf ρ e t f h hm hl, evalRT_json st nf ρ e t' g h hm' hl', evalR_json_indep st ρ f g e h]

section L0
variable (st : StructTable) (hst : StructsOk st) (nf : Nat) (ρ : Store) (f : ForkAssign)
include hst

omit hst in
theorem memberTy_mem {ps : List Param} (hn : (ps.map (·.name)).Nodup) {p : Param} (hp : p ∈ ps) :
    memberTy ps p.name = p.ty :=
  memberTy_find ps p.name p (find_name_of_nodup ps hn p hp)

theorem evalRT_struct (t : Ty) (ps : List Param) (kvs : List (String × RExp))
    (ha : t.arrDim = 0) (hm : t.mapDim = 0) (hl : st.lookup t.base = some ps) :
    evalRT st nf ρ f t (.struct kvs)
      = .obj (ps.map fun p => (p.name, ((kvs.lookup p.name).map (evalRT st nf ρ f p.ty)).getD .null)) := by
  have c : (t.arrDim == 0 && t.mapDim != 0) = false := by simp [ha, hm]
  simp only [evalRT, c, Bool.false_eq_true, if_false, hl, J.obj.injEq]
  apply List.map_congr_left
  intro p hp
  rw [lookup_evalRTMembers, memberTy_mem (hst _ _ hl) hp]

/-- the struct case of L0, shared by the filters (`g` = `filterR st` / `filterT st`) -/
theorem evalRT_filterStruct (g : Ty → RExp → RExp) (t : Ty) (ps : List Param)
    (kvs members : List (String × RExp))
    (ha : t.arrDim = 0) (hm : t.mapDim = 0) (hl : st.lookup t.base = some ps)
    (hall : ∀ p ∈ ps, (kvs.lookup p.name).isSome)
    (hlk : ∀ p ∈ ps, members.lookup p.name = (kvs.lookup p.name).map (g p.ty))
    (ih : ∀ p ∈ ps, ∀ e, kvs.lookup p.name = some e →
      evalRT st nf ρ f p.ty (g p.ty e) = evalRT st nf ρ f p.ty e ∧ HasTyR st p.ty (g p.ty e)) :
    evalRT st nf ρ f t (.struct (ps.filterMap fun p => (members.lookup p.name).map fun e => (p.name, e)))
      = evalRT st nf ρ f t (.struct kvs) ∧
    HasTyR st t (.struct (ps.filterMap fun p => (members.lookup p.name).map fun e => (p.name, e))) := by
  have hn := hst _ _ hl
  have key : ∀ p ∈ ps,
      (ps.filterMap fun q => (members.lookup q.name).map fun e => (q.name, e)).lookup p.name
        = (kvs.lookup p.name).map (g p.ty) := by
    intro p hp
    rw [lookup_filterMap_members ps hn _ p hp, hlk p hp]
  constructor
  · rw [evalRT_struct st hst nf ρ f t ps _ ha hm hl, evalRT_struct st hst nf ρ f t ps kvs ha hm hl]
    congr 1
    apply List.map_congr_left
    intro p hp
    rw [key p hp]
    cases he : kvs.lookup p.name with
    | none => rfl
    | some e => simp only [Option.map_some, Option.getD_some, (ih p hp e he).1]
  · simp only [HasTyR]
    refine ⟨ha, hm, ps, hl, ?_, ?_⟩
    · apply HasTyRMembers_of_mem
      intro k e' hmem' _
      obtain ⟨p, hp, hpk, hg⟩ := mem_filterMap_members ps _ k e' hmem'
      subst hpk
      rw [hlk p hp] at hg
      cases he : kvs.lookup p.name with
      | none => simp [he] at hg
      | some e =>
        simp only [he, Option.map_some, Option.some.injEq] at hg
        subst hg
        rw [memberTy_mem hn hp]
        exact (ih p hp e he).2
    · intro p hp
      rw [key p hp]
      have := hall p hp
      cases he : kvs.lookup p.name with
      | none => simp [he] at this
      | some e => simp

omit hst in
theorem filterRList_eq_map (t : Ty) : ∀ xs : List RExp, filterRList st t xs = xs.map (filterR st t)
  | [] => rfl
  | x :: xs => by simp only [filterRList, List.map_cons, filterRList_eq_map t xs]

omit hst in
theorem filterRFields_eq_map (t : Ty) :
    ∀ kvs : List (String × RExp), filterRFields st t kvs = kvs.map fun kv => (kv.1, filterR st t kv.2)
  | [] => rfl
  | (k, e) :: es => by simp only [filterRFields, List.map_cons, filterRFields_eq_map t es]

theorem evalRT_filterR :
    ∀ (r : RExp) (t : Ty), HasTyR st t r →
      evalRT st nf ρ f t (filterR st t r) = evalRT st nf ρ f t r ∧ HasTyR st t (filterR st t r) := by
  intro r t h
  apply HasTyR.ind st (motive := fun t r =>
      evalRT st nf ρ f t (filterR st t r) = evalRT st nf ρ f t r ∧ HasTyR st t (filterR st t r)) (h := h)
  case null => intro t; exact ⟨rfl, Or.inl rfl⟩
  case atom => intro b s hl; exact ⟨rfl, Or.inr ⟨⟨s, rfl⟩, rfl, rfl, hl⟩⟩
  case arr =>
    intro b m n xs ih
    simp only [filterR]
    split
    · simp only [evalRT, HasTyR, Nat.add_sub_cancel, filterRList_eq_map, evalRTList_eq_map, List.map_map,
        HasTyRList_iff, List.forall_mem_map]
      exact ⟨congrArg _ (List.map_congr_left fun x hx => (ih x hx).2.1), by simp, fun x hx => (ih x hx).2.2⟩
    · exact ⟨rfl, Nat.succ_ne_zero n, (HasTyRList_iff st _ xs).mpr fun x hx => (ih x hx).1⟩
  case map =>
    intro b k kvs ih
    have c1 : ((0 : Nat) == 0 && k + 1 == 0) = false := by simp
    simp only [filterR, c1, Bool.false_eq_true, if_false]
    split
    · have c2 : ((0 : Nat) == 0 && (k + 1 != 0)) = true := by simp
      simp only [evalRT, c2, if_true, HasTyR, Nat.add_sub_cancel, filterRFields_eq_map, evalRTFields_eq_map,
        List.map_map, HasTyRFields_iff, List.forall_mem_map]
      exact ⟨congrArg _ (List.map_congr_left fun kv hkv => by simp only [Function.comp_apply, (ih kv hkv).2.1]),
        Or.inl ⟨trivial, by simp, fun kv hkv => (ih kv hkv).2.2⟩⟩
    · exact ⟨rfl, Or.inl ⟨rfl, Nat.succ_ne_zero k, (HasTyRFields_iff st _ kvs).mpr fun kv hkv => (ih kv hkv).1⟩⟩
  case json =>
    intro b kvs hl hj
    have e : filterR st ⟨b, 0, 0⟩ (.map kvs) = .map kvs := by simp [filterR, hl]
    rw [e]
    exact ⟨rfl, Or.inr ⟨rfl, rfl, hl, hj⟩⟩
  case struct =>
    intro b ps kvs hl hmem hall ih
    simp only [filterR, beq_self_eq_true, Bool.and_self, if_true, hl]
    exact evalRT_filterStruct st hst nf ρ f (filterR st) ⟨b, 0, 0⟩ ps kvs _ rfl rfl hl hall
      (fun p hp => by rw [lookup_filterRMembers, memberTy_mem (hst _ _ hl) hp])
      (fun p hp e he => ih p.name e (mem_of_lookup kvs _ _ he) p (find_name_of_nodup ps (hst _ _ hl) p hp))
  case ref => intro t n sty path h; exact ⟨rfl, h⟩
  case splitArr => intro b m a c e h _; exact ⟨rfl, h⟩
  case splitMap => intro b a c e hnm h _; exact ⟨rfl, hnm, h⟩
  case mergeArr => intro b m n c e hns h _; exact ⟨rfl, Nat.succ_ne_zero n, hns, h⟩
  case mergeMap => intro b k c e hns h _; exact ⟨rfl, rfl, Nat.succ_ne_zero k, hns, h⟩
  case disabled =>
    intro t d v hd _ _ ih
    simp only [filterR, evalRT, HasTyR, ih.1]
    exact ⟨trivial, hd, ih.2⟩
  case fork => intro t c ix e h _; exact ⟨rfl, h⟩

theorem evalRT_filterRList :
    ∀ (rs : List RExp) (t : Ty), HasTyRList st t rs →
      evalRTList st nf ρ f t (filterRList st t rs) = evalRTList st nf ρ f t rs ∧
      HasTyRList st t (filterRList st t rs) := by
  intro rs t h
  have ih := fun r hr => evalRT_filterR st hst nf ρ f r t ((HasTyRList_iff st t rs).mp h r hr)
  rw [filterRList_eq_map, evalRTList_eq_map, evalRTList_eq_map, List.map_map, HasTyRList_iff, List.forall_mem_map]
  exact ⟨List.map_congr_left fun r hr => (ih r hr).1, fun r hr => (ih r hr).2⟩

theorem evalRT_filterRFields :
    ∀ (kvs : List (String × RExp)) (t : Ty), HasTyRFields st t kvs →
      evalRTFields st nf ρ f t (filterRFields st t kvs) = evalRTFields st nf ρ f t kvs ∧
      HasTyRFields st t (filterRFields st t kvs) := by
  intro kvs t h
  have ih := fun kv hkv => evalRT_filterR st hst nf ρ f kv.2 t ((HasTyRFields_iff st t kvs).mp h kv hkv)
  rw [filterRFields_eq_map, evalRTFields_eq_map, evalRTFields_eq_map, List.map_map, HasTyRFields_iff,
    List.forall_mem_map]
  exact ⟨List.map_congr_left fun kv hkv => by simp only [Function.comp_apply, (ih kv hkv).1],
    fun kv hkv => (ih kv hkv).2⟩

theorem evalRT_filterRMembers (ps : List Param) :
    ∀ (kvs : List (String × RExp)), HasTyRMembers st ps kvs →
      ∀ (k : String) (e : RExp) (p : Param), kvs.lookup k = some e →
        ps.find? (fun q => q.name == k) = some p →
        evalRT st nf ρ f p.ty (filterR st p.ty e) = evalRT st nf ρ f p.ty e ∧ HasTyR st p.ty (filterR st p.ty e) :=
  fun kvs hm k e p hl hf => evalRT_filterR st hst nf ρ f e p.ty (HasTyRMembers_lookup st ps kvs k e p hm hl hf)

end L0

end Proofs.ResolverStatic
