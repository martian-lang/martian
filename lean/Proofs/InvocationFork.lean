/-
C16 — the model of `Fork.writeInvocation` (Martian/InvocationFork.lean): split-free run-time values are plain
expressions (`plainE_ofExp`, `encodeI_of_plain`, `plainE_of_splitFree`); the structured cases of `convertToExp`
marshal like the raw case (`encode_convertMV`); one binding and the whole loop (`data_bindingOf`,
`dataOf_invocationOf`, `forkData_stage`, `plainBinds_of_topOk`); when the loop succeeds (`convertMV_isSome`,
`invocationOf_isSome`); the arguments C01's model delivers (`argsOfInputs_raw`, `marshalArgs_argsOfInputs`); the
text leg of a fork's call (`fork_text_leg`).
-/
import Martian.InvocationFork
import Proofs.Invocation
import Proofs.InvocationText

namespace Martian.InvocationFork
open Martian.Invocation Martian.InvocationText

mutual
theorem plainE_ofExp : ∀ e : Exp, plainE (ofExp e) = some e
  | .lit l => rfl
  | .arr xs => by simp [ofExp, plainE, plainL_ofEList xs]
  | .map k kvs => by simp [ofExp, plainE, plainK_ofEKvs kvs]
theorem plainL_ofEList : ∀ xs : EList, plainL (ofEList xs) = some xs
  | .nil => rfl
  | .cons e r => by simp [ofEList, plainL, plainE_ofExp e, plainL_ofEList r]
theorem plainK_ofEKvs : ∀ kvs : EKvs, plainK (ofEKvs kvs) = some kvs
  | .nil => rfl
  | .cons k e r => by simp [ofEKvs, plainK, plainE_ofExp e, plainK_ofEKvs r]
end

mutual
theorem encodeI_of_plain : ∀ (ie : IExp) (e : Exp), plainE ie = some e → encodeI ie = encode e
  | .lit l, e, h => by simp only [plainE, Option.some.injEq] at h; subst h; rfl
  | .arr xs, e, h => by
    simp only [plainE, Option.map_eq_some_iff] at h
    obtain ⟨es, hes, rfl⟩ := h
    simp [encodeI, encode, encodeIL_of_plain xs es hes]
  | .map k kvs, e, h => by
    simp only [plainE, Option.map_eq_some_iff] at h
    obtain ⟨es, hes, rfl⟩ := h
    simp [encodeI, encode, encodeIK_of_plain kvs es hes]
  | .split _, e, h => by simp [plainE] at h
theorem encodeIL_of_plain : ∀ (xs : IList) (es : EList), plainL xs = some es → encodeIL xs = encodeList es
  | .nil, es, h => by simp only [plainL, Option.some.injEq] at h; subst h; rfl
  | .cons e r, es, h => by
    simp only [plainL] at h
    split at h
    · rename_i e' r' he hr
      cases h
      simp [encodeIL, encodeList, encodeI_of_plain e e' he, encodeIL_of_plain r r' hr]
    · cases h
theorem encodeIK_of_plain : ∀ (kvs : IKvs) (es : EKvs), plainK kvs = some es → encodeIK kvs = encodeKvs es
  | .nil, es, h => by simp only [plainK, Option.some.injEq] at h; subst h; rfl
  | .cons k e r, es, h => by
    simp only [plainK] at h
    split at h
    · rename_i e' r' he hr
      cases h
      simp [encodeIK, encodeKvs, encodeI_of_plain e e' he, encodeIK_of_plain r r' hr]
    · cases h
end

mutual
theorem plainE_of_splitFree : ∀ ie : IExp, splitFreeI ie = true → ∃ e, plainE ie = some e
  | .lit l, _ => ⟨_, rfl⟩
  | .arr xs, h => by
    obtain ⟨es, hes⟩ := plainL_of_splitFree xs (by simpa [splitFreeI] using h)
    exact ⟨.arr es, by simp [plainE, hes]⟩
  | .map k kvs, h => by
    obtain ⟨es, hes⟩ := plainK_of_splitFree kvs (by simpa [splitFreeI] using h)
    exact ⟨.map k es, by simp [plainE, hes]⟩
  | .split _, h => by simp [splitFreeI] at h
theorem plainL_of_splitFree : ∀ xs : IList, splitFreeIL xs = true → ∃ es, plainL xs = some es
  | .nil, _ => ⟨_, rfl⟩
  | .cons e r, h => by
    simp only [splitFreeIL, Bool.and_eq_true] at h
    obtain ⟨e', he⟩ := plainE_of_splitFree e h.1
    obtain ⟨r', hr⟩ := plainL_of_splitFree r h.2
    exact ⟨.cons e' r', by simp [plainL, he, hr]⟩
theorem plainK_of_splitFree : ∀ kvs : IKvs, splitFreeIK kvs = true → ∃ es, plainK kvs = some es
  | .nil, _ => ⟨_, rfl⟩
  | .cons k e r, h => by
    simp only [splitFreeIK, Bool.and_eq_true] at h
    obtain ⟨e', he⟩ := plainE_of_splitFree e h.1
    obtain ⟨r', hr⟩ := plainK_of_splitFree r h.2
    exact ⟨.cons k e' r', by simp [plainK, he, hr]⟩
end

mutual
theorem splitFreeI_ofExp : ∀ e : Exp, splitFreeI (ofExp e) = true
  | .lit _ => rfl
  | .arr xs => by simp [ofExp, splitFreeI, splitFreeIL_ofEList xs]
  | .map _ kvs => by simp [ofExp, splitFreeI, splitFreeIK_ofEKvs kvs]
theorem splitFreeIL_ofEList : ∀ xs : EList, splitFreeIL (ofEList xs) = true
  | .nil => rfl
  | .cons e r => by simp [ofEList, splitFreeIL, splitFreeI_ofExp e, splitFreeIL_ofEList r]
theorem splitFreeIK_ofEKvs : ∀ kvs : EKvs, splitFreeIK (ofEKvs kvs) = true
  | .nil => rfl
  | .cons _ e r => by simp [ofEKvs, splitFreeIK, splitFreeI_ofExp e, splitFreeIK_ofEKvs r]
end

theorem encode_convertLazy (b : Base) (ad md : Nat) : ∀ (kvs : JKvs) (iks : IKvs) (es : EKvs),
    convertLazy b ad md kvs = some iks → plainK iks = some es → encodeKvs es = normJKvs kvs
  | .nil, iks, es, h, hp => by
    simp only [convertLazy, Option.some.injEq] at h; subst h
    simp only [plainK, Option.some.injEq] at hp; subst hp; rfl
  | .cons k j r, iks, es, h, hp => by
    simp only [convertLazy] at h
    split at h
    · rename_i e es' he hes
      cases h
      simp only [plainK, plainE_ofExp] at hp
      split at hp
      · rename_i e' r' he' hr'
        cases hp
        cases he'
        simp [encodeKvs, normJKvs, encode_convert' _ j _ he, encode_convertLazy b ad md r es' r' hes hr']
      · cases hp
    · cases h

mutual
theorem encode_convertMV : ∀ (v : MV) (b : Base) (ad md : Nat) (ie : IExp) (e : Exp),
    convertMV b ad md v = some ie → plainE ie = some e → encode e = normJ (marshal v)
  | .nil, b, ad, md, ie, e, h, hp => by
    simp only [convertMV, Option.some.injEq] at h; subst h
    simp only [plainE, Option.some.injEq] at hp; subst hp; rfl
  | .val x, b, ad, md, ie, e, h, hp => by
    simp only [convertMV, Option.some.injEq] at h; subst h
    rw [marshal, encodeI_of_plain x e hp, normJ_encode]
  | .raw j, b, ad, md, ie, e, h, hp => by
    simp only [convertMV, Option.map_eq_some_iff] at h
    obtain ⟨x, hx, rfl⟩ := h
    rw [plainE_ofExp] at hp; cases hp
    exact encode_convert' _ j _ hx
  | .lazy kvs, b, ad, md, ie, e, h, hp => by
    simp only [convertMV, Option.map_eq_some_iff] at h
    obtain ⟨iks, hi, rfl⟩ := h
    simp only [plainE, Option.map_eq_some_iff] at hp
    obtain ⟨es, hes, rfl⟩ := hp
    simp [encode, marshal, normJ, encode_convertLazy b ad md kvs iks es hi hes]
  | .mmap kvs, b, ad, md, ie, e, h, hp => by
    simp only [convertMV, Option.map_eq_some_iff] at h
    obtain ⟨iks, hi, rfl⟩ := h
    simp only [plainE, Option.map_eq_some_iff] at hp
    obtain ⟨es, hes, rfl⟩ := hp
    simp [encode, marshal, normJ, encode_convertMK kvs b ad md iks es hi hes]
  | .marr xs, b, ad, md, ie, e, h, hp => by
    simp only [convertMV, Option.map_eq_some_iff] at h
    obtain ⟨ixs, hi, rfl⟩ := h
    simp only [plainE, Option.map_eq_some_iff] at hp
    obtain ⟨es, hes, rfl⟩ := hp
    simp [encode, marshal, normJ, encode_convertML xs b (ad - 1) md ixs es hi hes]
theorem encode_convertML : ∀ (xs : MList) (b : Base) (ad md : Nat) (ixs : IList) (es : EList),
    convertML b ad md xs = some ixs → plainL ixs = some es → encodeList es = normJList (marshalL xs)
  | .nil, b, ad, md, ixs, es, h, hp => by
    simp only [convertML, Option.some.injEq] at h; subst h
    simp only [plainL, Option.some.injEq] at hp; subst hp; rfl
  | .cons v r, b, ad, md, ixs, es, h, hp => by
    simp only [convertML] at h
    split at h
    · rename_i ie ies hv hr
      cases h
      simp only [plainL] at hp
      split at hp
      · rename_i e' r' he' hr'
        cases hp
        simp [encodeList, marshalL, normJList, encode_convertMV v b ad md ie e' hv he',
          encode_convertML r b ad md ies r' hr hr']
      · cases hp
    · cases h
theorem encode_convertMK : ∀ (kvs : MKvs) (b : Base) (ad md : Nat) (iks : IKvs) (es : EKvs),
    convertMK b ad md kvs = some iks → plainK iks = some es → encodeKvs es = normJKvs (marshalK kvs)
  | .nil, b, ad, md, iks, es, h, hp => by
    simp only [convertMK, Option.some.injEq] at h; subst h
    simp only [plainK, Option.some.injEq] at hp; subst hp; rfl
  | .cons k v r, b, ad, md, iks, es, h, hp => by
    simp only [convertMK] at h
    split at h
    · rename_i ie ies hv hr
      cases h
      simp only [plainK] at hp
      split at hp
      · rename_i e' r' he' hr'
        cases hp
        simp [encodeKvs, marshalK, normJKvs, encode_convertMV v _ _ _ ie e' hv he',
          encode_convertMK r b ad md ies r' hr hr']
      · cases hp
    · cases h
end

theorem plainArg_ofArg (a : Arg) : plainArg (ofArg a) = some a := by
  cases a <;> simp [ofArg, plainArg, plainE_ofExp]

theorem convertMV_split (b : Base) (ad md : Nat) (v : MV) (op : IExp)
    (h : convertMV b ad md v = some (.split op)) : v = .val (.split op) := by
  cases v with
  | nil => simp [convertMV] at h
  | val e => simp only [convertMV, Option.some.injEq] at h; rw [h]
  | raw j =>
    simp only [convertMV, Option.map_eq_some_iff] at h
    obtain ⟨x, _, hx⟩ := h
    cases x <;> simp [ofExp] at hx
  | lazy kvs => simp only [convertMV, Option.map_eq_some_iff] at h; obtain ⟨_, _, hx⟩ := h; cases hx
  | mmap kvs => simp only [convertMV, Option.map_eq_some_iff] at h; obtain ⟨_, _, hx⟩ := h; cases hx
  | marr xs => simp only [convertMV, Option.map_eq_some_iff] at h; obtain ⟨_, _, hx⟩ := h; cases hx

/-! `bindingOf`, `wrapBinding`, `canonTop`, `isSplitTop` and `topOk` single out `nil`, a `RawMessage` and
a `SplitExp`; on every other value they do one thing. -/

theorem bindingOf_other {v : MV} (hn : v ≠ .nil) (hr : ∀ j, v ≠ .raw j) (s : Bool) (t : TypeId) :
    bindingOf s t v = (convertMV t.base t.arrayDim t.mapDim v).map (wrapBinding s) := by
  cases v with
  | nil => exact absurd rfl hn
  | raw j => exact absurd rfl (hr j)
  | _ => rfl

theorem wrapBinding_other {ie : IExp} (h : ∀ op, ie ≠ .split op) (s : Bool) :
    wrapBinding s ie = if s then .split ie else .plain ie := by
  cases ie with
  | split op => exact absurd rfl (h op)
  | _ => rfl

theorem canonTop_other {v : MV} (hn : v ≠ .nil) (hr : ∀ j, v ≠ .raw j) (hs : ∀ op, v ≠ .val (.split op))
    (s : Bool) :
    canonTop s v = (if s then .obj (.cons splitKey (normJ (marshal v)) .nil) else normJ (marshal v))
      ∧ isSplitTop s v = s := by
  cases v with
  | nil => exact absurd rfl hn
  | raw j => exact absurd rfl (hr j)
  | val e =>
    cases e with
    | split op => exact absurd rfl (hs op)
    | _ => exact ⟨rfl, rfl⟩
  | _ => exact ⟨rfl, rfl⟩

theorem topOk_other {v : MV} (hs : ∀ op, v ≠ .val (.split op)) : topOk v = splitFree v := by
  cases v with
  | val e =>
    cases e with
    | split op => exact absurd rfl (hs op)
    | _ => rfl
  | _ => rfl

/-- What `BuildDataForAst` reads off the binding `BuildCallAst` made of a value -/
theorem data_bindingOf (s : Bool) (t : TypeId) (v : MV) (ia : IArg) (a : Arg)
    (h : bindingOf s t v = some ia) (hp : plainArg ia = some a) :
    encodeArg a = canonTop s v ∧ a.isSplit = isSplitTop s v := by
  by_cases hn : v = .nil
  · subst hn
    simp only [bindingOf, Option.some.injEq] at h; subst h
    simp only [plainArg, plainE, Option.map_some, Option.some.injEq] at hp; subst hp
    simp [encodeArg, encode, encLit, canonTop, isSplitTop, Arg.isSplit]
  by_cases hr : ∃ j, v = .raw j
  · obtain ⟨j, rfl⟩ := hr
    simp only [bindingOf, Option.map_eq_some_iff] at h
    obtain ⟨a0, ha0, rfl⟩ := h
    rw [plainArg_ofArg] at hp; cases hp
    simpa [canonTop, isSplitTop] using dataOfBinding_buildBinding s t j a ha0
  have hr : ∀ j, v ≠ .raw j := fun j hj => hr ⟨j, hj⟩
  rw [bindingOf_other hn hr, Option.map_eq_some_iff] at h
  obtain ⟨ie, hie, rfl⟩ := h
  by_cases hs : ∃ op, ie = .split op
  · obtain ⟨op, rfl⟩ := hs
    obtain rfl := convertMV_split _ _ _ v op hie
    simp only [wrapBinding, plainArg, Option.map_eq_some_iff] at hp
    obtain ⟨x, hx, rfl⟩ := hp
    simp [canonTop, isSplitTop, encodeArg, Arg.isSplit, encodeI_of_plain op x hx, normJ_encode]
  · have hv : ∀ op, v ≠ .val (.split op) := by
      intro op hv; subst hv
      exact hs ⟨op, by simpa [convertMV] using hie.symm⟩
    obtain ⟨hc, hi⟩ := canonTop_other hn hr hv s
    rw [wrapBinding_other (fun op h => hs ⟨op, h⟩)] at hp
    rw [hc, hi]
    cases s <;> simp only [Bool.false_eq_true, if_false, if_true, plainArg, Option.map_eq_some_iff] at hp ⊢ <;>
      obtain ⟨x, hx, rfl⟩ := hp <;> simp [encodeArg, Arg.isSplit, encode_convertMV v _ _ _ ie x hie hx]

theorem forkData_cons (p : Str) (t : TypeId) (ps : Sig) (mapped : List Str) (args : List (Str × MV)) :
    forkData ((p, t) :: ps) mapped args =
      { args := (p, argData mapped args p) :: (forkData ps mapped args).args,
        splitargs := if argSplit mapped args p = true
                     then p :: (forkData ps mapped args).splitargs
                     else (forkData ps mapped args).splitargs } := by
  by_cases h : argSplit mapped args p = true
  · simp only [forkData, List.map_cons, List.filter_cons, h, if_true]
  · simp only [forkData, List.map_cons, List.filter_cons, h, if_false, Bool.false_eq_true]

/-- The data `BuildDataForAst` reads off the call `BuildCallAst` built from the fork's
resolved inputs is `forkData` -/
theorem dataOf_invocationOf : ∀ (sig : Sig) (mapped : List Str) (args : List (Str × MV))
    (ibs : List (Str × IArg)) (bs : List (Str × Arg)),
    invocationOf sig mapped args = some ibs → plainBinds ibs = some bs →
    dataOf bs = forkData sig mapped args
  | [], mapped, args, ibs, bs, h, hp => by
    simp only [invocationOf, Option.some.injEq] at h; subst h
    simp only [plainBinds, Option.some.injEq] at hp; subst hp
    simp [dataOf, forkData]
  | (p, t) :: ps, mapped, args, ibs, bs, h, hp => by
    simp only [invocationOf] at h
    split at h
    · rename_i ia ibs' hia hibs
      cases h
      simp only [plainBinds] at hp
      split at hp
      · rename_i a bs' ha hbs
        cases hp
        rw [dataOf_cons, forkData_cons, dataOf_invocationOf ps mapped args ibs' bs' hibs hbs]
        cases hl : lookupMV args p with
        | none =>
          simp only [hl, Option.some.injEq] at hia; subst hia
          simp only [plainArg, plainE, Option.map_some, Option.some.injEq] at ha; subst ha
          simp [encodeArg, encode, encLit, Arg.isSplit, argData, argSplit, hl]
        | some v =>
          simp only [hl] at hia
          have hb := data_bindingOf _ t v ia a hia ha
          simp only [hb.1, hb.2, argData, argSplit, hl]
      · cases hp
    · cases h

theorem lookupArg_marshalArgs (p : Str) : ∀ args : List (Str × MV),
    ((marshalArgs args).any (fun q => q.1 = p) = (lookupMV args p).isSome) ∧
    (∀ v, lookupMV args p = some v → lookupArg (marshalArgs args) p = marshal v)
  | [] => by simp [marshalArgs, lookupMV]
  | (k, v) :: r => by
    have ih := lookupArg_marshalArgs p r
    by_cases hk : k = p
    · subst hk
      simp [marshalArgs, lookupMV, lookupArg]
    · simp only [marshalArgs, lookupMV, lookupArg] at ih ⊢
      simp only [List.map_cons, List.any_cons, List.find?_cons, hk, decide_false, Bool.false_or]
      exact ih

theorem canonTop_false_of_splitFree (v : MV) (h : splitFree v = true) :
    canonTop false v = normJ (marshal v) ∧ isSplitTop false v = false := by
  by_cases hn : v = .nil
  · subst hn; exact ⟨rfl, rfl⟩
  by_cases hr : ∃ j, v = .raw j
  · obtain ⟨j, rfl⟩ := hr; exact ⟨rfl, rfl⟩
  · exact canonTop_other hn (fun j hj => hr ⟨j, hj⟩)
      (fun op hv => by subst hv; simp [splitFree, splitFreeI] at h) false

/-- a fork none of whose inputs is left split (mapped = [], no `SplitExp` in a value): the data is the
canonical form of the marshalled arguments – `canonData` of what `_args` has -/
theorem forkData_stage (args : List (Str × MV)) (hs : ∀ p v, lookupMV args p = some v → splitFree v = true) :
    ∀ sig : Sig, forkData sig [] args = canonData sig ⟨marshalArgs args, []⟩
  | [] => by simp [forkData, canonData]
  | (p, t) :: ps => by
    rw [forkData_cons, canonData_cons, forkData_stage args hs ps]
    have hl := lookupArg_marshalArgs p args
    cases hv : lookupMV args p with
    | none => simp [hl.1, hv, argData, argSplit]
    | some v =>
      have hc := canonTop_false_of_splitFree v (hs p v hv)
      simp [hl.1, hv, hl.2 v hv, hc.1, hc.2, canonArg, argData, argSplit]

theorem splitFreeIK_convertLazy (b : Base) (ad md : Nat) : ∀ (kvs : JKvs) (iks : IKvs),
    convertLazy b ad md kvs = some iks → splitFreeIK iks = true
  | .nil, iks, h => by simp only [convertLazy, Option.some.injEq] at h; subst h; rfl
  | .cons k j r, iks, h => by
    simp only [convertLazy] at h
    split at h
    · rename_i e es he hes
      cases h
      simp [splitFreeIK, splitFreeI_ofExp, splitFreeIK_convertLazy b ad md r es hes]
    · cases h

mutual
theorem splitFreeI_convertMV : ∀ (v : MV) (b : Base) (ad md : Nat) (ie : IExp), splitFree v = true →
    convertMV b ad md v = some ie → splitFreeI ie = true
  | .nil, b, ad, md, ie, _, h => by simp only [convertMV, Option.some.injEq] at h; subst h; rfl
  | .val e, b, ad, md, ie, hs, h => by
    simp only [convertMV, Option.some.injEq] at h; subst h
    simpa [splitFree] using hs
  | .raw j, b, ad, md, ie, _, h => by
    simp only [convertMV, Option.map_eq_some_iff] at h
    obtain ⟨x, _, rfl⟩ := h
    exact splitFreeI_ofExp x
  | .lazy kvs, b, ad, md, ie, _, h => by
    simp only [convertMV, Option.map_eq_some_iff] at h
    obtain ⟨iks, hi, rfl⟩ := h
    simpa [splitFreeI] using splitFreeIK_convertLazy b ad md kvs iks hi
  | .mmap kvs, b, ad, md, ie, hs, h => by
    simp only [convertMV, Option.map_eq_some_iff] at h
    obtain ⟨iks, hi, rfl⟩ := h
    simpa [splitFreeI] using splitFreeIK_convertMK kvs b ad md iks (by simpa [splitFree] using hs) hi
  | .marr xs, b, ad, md, ie, hs, h => by
    simp only [convertMV, Option.map_eq_some_iff] at h
    obtain ⟨ixs, hi, rfl⟩ := h
    simpa [splitFreeI] using splitFreeIL_convertML xs b (ad - 1) md ixs (by simpa [splitFree] using hs) hi
theorem splitFreeIL_convertML : ∀ (xs : MList) (b : Base) (ad md : Nat) (ies : IList), splitFreeL xs = true →
    convertML b ad md xs = some ies → splitFreeIL ies = true
  | .nil, b, ad, md, ies, _, h => by simp only [convertML, Option.some.injEq] at h; subst h; rfl
  | .cons v r, b, ad, md, ies, hs, h => by
    simp only [splitFreeL, Bool.and_eq_true] at hs
    simp only [convertML] at h
    split at h
    · rename_i e es he hes
      cases h
      simp [splitFreeIL, splitFreeI_convertMV v b ad md e hs.1 he, splitFreeIL_convertML r b ad md es hs.2 hes]
    · cases h
theorem splitFreeIK_convertMK : ∀ (kvs : MKvs) (b : Base) (ad md : Nat) (ies : IKvs), splitFreeK kvs = true →
    convertMK b ad md kvs = some ies → splitFreeIK ies = true
  | .nil, b, ad, md, ies, _, h => by simp only [convertMK, Option.some.injEq] at h; subst h; rfl
  | .cons k v r, b, ad, md, ies, hs, h => by
    simp only [splitFreeK, Bool.and_eq_true] at hs
    simp only [convertMK] at h
    split at h
    · rename_i e es he hes
      cases h
      simp [splitFreeIK, splitFreeI_convertMV v _ _ _ e hs.1 he, splitFreeIK_convertMK r b ad md es hs.2 hes]
    · cases h
end

theorem topOk_of_splitFree (v : MV) (h : splitFree v = true) : topOk v = true := by
  rw [topOk_other (fun op hv => by subst hv; simp [splitFree, splitFreeI] at h)]; exact h

theorem plainArg_bindingOf (t : TypeId) (v : MV) (ia : IArg) (hv : topOk v = true)
    (h : bindingOf false t v = some ia) : ∃ a, plainArg ia = some a := by
  by_cases hn : v = .nil
  · subst hn; cases h; exact ⟨_, rfl⟩
  by_cases hr : ∃ j, v = .raw j
  · obtain ⟨j, rfl⟩ := hr
    simp only [bindingOf, Option.map_eq_some_iff] at h
    obtain ⟨a0, _, rfl⟩ := h
    exact ⟨a0, plainArg_ofArg a0⟩
  rw [bindingOf_other hn (fun j hj => hr ⟨j, hj⟩), Option.map_eq_some_iff] at h
  obtain ⟨ie, hie, rfl⟩ := h
  by_cases hs : ∃ op, ie = .split op
  · obtain ⟨op, rfl⟩ := hs
    obtain rfl := convertMV_split _ _ _ v op hie
    obtain ⟨x, hx⟩ := plainE_of_splitFree op (by simpa [topOk] using hv)
    exact ⟨.split x, by simp [wrapBinding, plainArg, hx]⟩
  · have hsf : splitFree v = true := by
      rw [← topOk_other (fun op hv => hs ⟨op, by subst hv; simpa [convertMV] using hie.symm⟩)]; exact hv
    obtain ⟨x, hx⟩ := plainE_of_splitFree ie (splitFreeI_convertMV _ _ _ _ ie hsf hie)
    rw [wrapBinding_other (fun op h => hs ⟨op, h⟩)]
    exact ⟨.plain x, by simp [plainArg, hx]⟩

/-- nothing of the call built from such values has a split inside a value -/
theorem plainBinds_of_topOk (args : List (Str × MV))
    (hs : ∀ p v, lookupMV args p = some v → topOk v = true) :
    ∀ (sig : Sig) (ibs : List (Str × IArg)), invocationOf sig [] args = some ibs →
      ∃ bs, plainBinds ibs = some bs := by
  intro sig
  induction sig with
  | nil =>
    intro ibs h
    simp only [invocationOf, Option.some.injEq] at h; subst h
    exact ⟨[], rfl⟩
  | cons pt ps ih =>
    obtain ⟨p, t⟩ := pt
    intro ibs h
    simp only [invocationOf] at h
    split at h
    · rename_i ia ibs' hia hibs
      cases h
      obtain ⟨bs', hbs'⟩ := ih ibs' hibs
      obtain ⟨a, ha⟩ : ∃ a, plainArg ia = some a := by
        cases hl : lookupMV args p with
        | none =>
          simp only [hl, Option.some.injEq] at hia; subst hia
          exact ⟨_, rfl⟩
        | some v =>
          simp only [hl, List.contains_nil] at hia
          exact plainArg_bindingOf t v ia (hs p v hl) hia
      exact ⟨(p, a) :: bs', by simp [plainBinds, ha, hbs']⟩
    · cases h

theorem plainBinds_of_splitFree (args : List (Str × MV))
    (hs : ∀ p v, lookupMV args p = some v → splitFree v = true)
    (sig : Sig) (ibs : List (Str × IArg)) (h : invocationOf sig [] args = some ibs) :
    ∃ bs, plainBinds ibs = some bs :=
  plainBinds_of_topOk args (fun p v hv => topOk_of_splitFree v (hs p v hv)) sig ibs h

theorem convert_isSome (t : TypeId) (j : J) (h : jIntsOk j = true) : ∃ e, convert t j = some e := by
  obtain ⟨e, he⟩ := ofJ_isSome j h
  simp [convert, he]

theorem convertLazy_isSome (b : Base) (ad md : Nat) : ∀ kvs : JKvs, jIntsOkKvs kvs = true →
    ∃ iks, convertLazy b ad md kvs = some iks
  | .nil, _ => ⟨_, rfl⟩
  | .cons k j r, h => by
    simp only [jIntsOkKvs, Bool.and_eq_true] at h
    obtain ⟨e, he⟩ := convert_isSome (memberType b ad md k) j h.1
    obtain ⟨es, hes⟩ := convertLazy_isSome b ad md r h.2
    simp [convertLazy, he, hes]

mutual
theorem convertMV_isSome : ∀ (v : MV) (b : Base) (ad md : Nat), mvIntsOk v = true →
    ∃ ie, convertMV b ad md v = some ie
  | .nil, _, _, _, _ => ⟨_, rfl⟩
  | .val e, _, _, _, _ => ⟨_, rfl⟩
  | .raw j, b, ad, md, h => by
    obtain ⟨e, he⟩ := convert_isSome ⟨b, ad, md⟩ j (by simpa [mvIntsOk] using h)
    simp [convertMV, he]
  | .lazy kvs, b, ad, md, h => by
    obtain ⟨es, hes⟩ := convertLazy_isSome b ad md kvs (by simpa [mvIntsOk] using h)
    simp [convertMV, hes]
  | .mmap kvs, b, ad, md, h => by
    obtain ⟨es, hes⟩ := convertMK_isSome kvs b ad md (by simpa [mvIntsOk] using h)
    simp [convertMV, hes]
  | .marr xs, b, ad, md, h => by
    obtain ⟨es, hes⟩ := convertML_isSome xs b (ad - 1) md (by simpa [mvIntsOk] using h)
    simp [convertMV, hes]
theorem convertML_isSome : ∀ (xs : MList) (b : Base) (ad md : Nat), mvIntsOkL xs = true →
    ∃ ies, convertML b ad md xs = some ies
  | .nil, _, _, _, _ => ⟨_, rfl⟩
  | .cons v r, b, ad, md, h => by
    simp only [mvIntsOkL, Bool.and_eq_true] at h
    obtain ⟨e, he⟩ := convertMV_isSome v b ad md h.1
    obtain ⟨es, hes⟩ := convertML_isSome r b ad md h.2
    simp [convertML, he, hes]
theorem convertMK_isSome : ∀ (kvs : MKvs) (b : Base) (ad md : Nat), mvIntsOkK kvs = true →
    ∃ ies, convertMK b ad md kvs = some ies
  | .nil, _, _, _, _ => ⟨_, rfl⟩
  | .cons k v r, b, ad, md, h => by
    simp only [mvIntsOkK, Bool.and_eq_true] at h
    obtain ⟨e, he⟩ := convertMV_isSome v (memberType b ad md k).base (memberType b ad md k).arrayDim
      (memberType b ad md k).mapDim h.1
    obtain ⟨es, hes⟩ := convertMK_isSome r b ad md h.2
    simp [convertMK, he, hes]
end

/-- with every integer of the resolved values in range and nothing listed as left split,
`BuildCallAst` succeeds -/
theorem invocationOf_isSome (args : List (Str × MV))
    (hi : ∀ p v, lookupMV args p = some v → mvIntsOk v = true) :
    ∀ sig : Sig, ∃ ibs, invocationOf sig [] args = some ibs
  | [] => ⟨[], rfl⟩
  | (p, t) :: ps => by
    obtain ⟨ibs', h'⟩ := invocationOf_isSome args hi ps
    have hb : ∀ v, lookupMV args p = some v → ∃ ia, bindingOf false t v = some ia := by
      intro v hl
      have hv := hi p v hl
      by_cases hn : v = .nil
      · subst hn; exact ⟨_, rfl⟩
      by_cases hr : ∃ j, v = .raw j
      · obtain ⟨j, rfl⟩ := hr
        obtain ⟨e, he⟩ := convert_isSome t j (by simpa [mvIntsOk] using hv)
        simp [bindingOf, buildBinding, he]
      · obtain ⟨ie, hie⟩ := convertMV_isSome v t.base t.arrayDim t.mapDim hv
        simp [bindingOf_other hn (fun j hj => hr ⟨j, hj⟩), hie]
    simp only [invocationOf, h', List.contains_nil]
    cases hl : lookupMV args p with
    | none => simp
    | some v =>
      obtain ⟨ia, hia⟩ := hb v hl
      simp [hia]

theorem argsOfInputs_raw (st : Martian.Dataflow.StructTable) (nf : Nat) (ρ : Martian.ResolverForks.Store)
    (f : Martian.ResolverForks.ForkAssign) : ∀ (ins : Martian.ResolverStatic.RBMap) (args : List (Str × MV)),
    argsOfInputs st nf ρ f ins = some args → ∀ p v, lookupMV args p = some v → ∃ j, v = .raw j
  | [], args, h, p, v, hv => by
    simp only [argsOfInputs, Option.some.injEq] at h; subst h
    simp [lookupMV] at hv
  | kv :: r, args, h, p, v, hv => by
    simp only [argsOfInputs] at h
    split at h
    · rename_i j as hj has
      cases h
      by_cases hk : strBytes kv.1 = p
      · simp only [lookupMV, List.find?_cons, hk, decide_true, Option.map_some, Option.some.injEq] at hv
        exact ⟨j, hv.symm⟩
      · simp only [lookupMV, List.find?_cons, hk, decide_false] at hv
        exact argsOfInputs_raw st nf ρ f r as has p v hv
    · cases h

/-- the marshalled arguments of the node's fork ARE the argument record of the resolver model
(`ResolverStatic.runtimeArgs`, what C01 ties to the real `_args`), read as an invocation tree -/
theorem marshalArgs_argsOfInputs (st : Martian.Dataflow.StructTable) (nf : Nat) (ρ : Martian.ResolverForks.Store)
    (f : Martian.ResolverForks.ForkAssign) : ∀ (ins : Martian.ResolverStatic.RBMap) (args : List (Str × MV)),
    argsOfInputs st nf ρ f ins = some args →
    ofDJKvs (ins.map fun kv => (kv.1, Martian.ResolverStatic.evalRT st nf ρ f kv.2.ty kv.2.exp))
      = some (kvsOfList (marshalArgs args))
  | [], args, h => by
    simp only [argsOfInputs, Option.some.injEq] at h; subst h; rfl
  | kv :: r, args, h => by
    simp only [argsOfInputs] at h
    split at h
    · rename_i j as hj has
      cases h
      simp [ofDJKvs, hj, marshalArgs_argsOfInputs st nf ρ f r as has, marshalArgs, kvsOfList, marshal]
    · cases h

theorem fork_text_leg (g : G) (decId id : Str) (bs : List (Str × Arg)) (hw : wfForkText g decId id bs = true)
    (hf : floatsOkBinds g bs = true) :
    forkTextLeg g decId id bs = some (decId, id, bs.map fun b => (b.1, b.2.reparse)) := by
  unfold forkTextLeg printFork
  rw [Martian.FormatCall.parseCall_fmtCall (forkCall g decId id bs) hw]
  simp only [Option.map_some, Martian.FormatCall.normCall, forkCall, binds_norm g bs hf]

end Martian.InvocationFork
