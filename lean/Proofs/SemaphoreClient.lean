import Proofs.SemaphoreReqs

/-! The ResourceSemaphore with its clients (C12): the invariant `Good` of a semaphore
and its current holders, kept by every call of a client that releases what it was
granted (`gstep`/`grun`); drain rounds; `setupSemaphores`' calls on the process
semaphore; nested acquisition stated on a list of semaphores by itself (`Disciplined`,
`nested_queues_empty`; the local job manager's system is in Proofs/SemaphoreSys.lean). -/
namespace Martian.Semaphore

/-- what `round`/`drain` need of a (semaphore, holders) pair; every state a
well-behaved client population can reach satisfies it. -/
structure Good (p : Sem × List Waiter) : Prop where
  book : p.1.reserved = sumAmt p.2
  heldNN : AmtNonneg p.2
  waitNN : AmtNonneg p.1.waiters
  waitLe : WaitersLeMax p.1
  noLost : NoLost p.1

theorem good_idle (p : Sem × List Waiter) (g : Good p) (hidle : p.2 = []) (hfull : p.1.cur = p.1.max) :
    p.1.waiters = [] := by
  have hb := g.book
  rw [hidle] at hb; simp only [sumAmt] at hb
  have hn := g.noLost
  unfold NoLost at hn
  cases hw : p.1.waiters with
  | nil => rfl
  | cons w ws =>
    exfalso
    simp only [hw] at hn
    have hl := g.waitLe w (by rw [hw]; simp)
    omega

theorem good_fresh (m : Int) : Good (Sem.init m, []) :=
  ⟨rfl, by intro w hw; simp at hw, by intro w hw; simp [Sem.init] at hw,
   by intro w hw; simp [Sem.init] at hw, by simp [NoLost, Sem.init]⟩

theorem good_step (s : Sem) (H hd : List Waiter) (o : SemOp) (g : Good (s, H)) (ho : o.reqNonneg)
    (hhd : AmtNonneg hd) (hsum : sumAmt hd = sumAmt H - releasedBy o) :
    Good ((step s o).1, hd ++ grantsOf (step s o).2) ∧ hasPanic (step s o).2 = false := by
  have hnn := step_nonneg s o ho g.waitNN
  have hp := step_nopanic s o fun n hn => by
    have := g.book; have := sumAmt_nonneg hd hhd; subst hn; simp only [releasedBy] at *; omega
  refine ⟨⟨?_, ?_, hnn.1, step_waitersLeMax s o g.waitLe, step_noLost s o g.noLost hp⟩, hp⟩
  · simp only [sumAmt_append]; rw [step_reserved, hsum, g.book]
  · intro w hw
    rcases List.mem_append.mp hw with h1 | h1
    · exact hhd w h1
    · exact hnn.2 w h1

theorem acceptedRun_relOp (H : List Waiter) (s : Sem) : acceptedRun s (H.map relOp) = [] := by
  induction H generalizing s with
  | nil => rfl
  | cons h H ih => simp only [List.map_cons, acceptedRun, ih]; rfl

theorem good_release_all (H : List Waiter) : ∀ (s : Sem) (K : List Waiter), Good (s, H ++ K) →
    Good ((run s (H.map relOp)).1, K ++ grantsOf (run s (H.map relOp)).2) ∧
    (run s (H.map relOp)).1.cur = s.cur := by
  induction H with
  | nil => intro s K g; exact ⟨by simpa [run] using g, rfl⟩
  | cons h H ih =>
    intro s K g
    have hnn : AmtNonneg (H ++ K) := fun w hw => g.heldNN w (List.mem_cons_of_mem _ hw)
    have := (good_step s (h :: H ++ K) (H ++ K) (relOp h) g trivial hnn
      (by simp only [List.cons_append, sumAmt, relOp, releasedBy]; omega)).1
    rw [List.append_assoc] at this
    obtain ⟨ih1, ih2⟩ := ih _ _ this
    exact ⟨by simpa only [List.map_cons, run_cons, grantsOf_append, List.append_assoc] using ih1,
      ih2.trans (step_cur_acqrel s (relOp h) rfl)⟩

theorem round_facts (p : Sem × List Waiter) (g : Good p) :
    Good (round p) ∧ (round p).1.max = p.1.max ∧
    (round p).2 ++ (round p).1.waiters = p.1.waiters ∧
    ((round p).1.waiters = [] ∨ (round p).2 ≠ []) := by
  obtain ⟨s, H⟩ := p
  have g0 := (good_step s H H (.updSize s.max) g trivial g.heldNN (by simp [releasedBy])).1
  obtain ⟨g1, hcur⟩ := good_release_all H _ _ g0
  have g1 : Good (round (s, H)) := by simpa only [round, run_cons, grantsOf_append] using g1
  have hcur : (round (s, H)).1.cur = s.max := hcur.trans (setCur_cur s s.max).1
  have hmax : (round (s, H)).1.max = s.max := run_max s _
  have hfifo : (round (s, H)).2 ++ (round (s, H)).1.waiters = s.waiters := by
    have := run_fifo s (.updSize s.max :: H.map relOp)
    simpa only [round, acceptedRun, acceptedRun_relOp, acceptedOf, List.append_nil] using this
  refine ⟨g1, hmax, hfifo, ?_⟩
  by_cases hg : (round (s, H)).2 = []
  · exact Or.inl (good_idle _ g1 hg (hcur.trans hmax.symm))
  · exact Or.inr hg

theorem round_length (p : Sem × List Waiter) (g : Good p) :
    (round p).1.waiters.length ≤ p.1.waiters.length - 1 := by
  obtain ⟨_, _, hf, hd⟩ := round_facts p g
  have hl := congrArg List.length hf
  simp only [List.length_append] at hl
  rcases hd with h | h
  · rw [h]; simp
  · have : 0 < (round p).2.length := List.length_pos_iff.mpr h
    omega

theorem drain_empty (k : Nat) : ∀ (p : Sem × List Waiter), Good p → p.1.waiters.length ≤ k →
    (drain k p).1.waiters = [] := by
  induction k with
  | zero =>
    intro p _ hk
    simp only [drain]
    exact List.length_eq_zero_iff.mp (by omega)
  | succ k ih =>
    intro p g hk
    simp only [drain]
    apply ih (round p) (round_facts p g).1
    have := round_length p g
    omega

theorem sumAmt_eraseHeld (id : Nat) (l : List Waiter) (w : Waiter) (h : findHeld id l = some w) :
    sumAmt (eraseHeld id l) = sumAmt l - w.2 := by
  fun_induction findHeld id l with
  | case1 => cases h
  | case2 x xs hx => cases h; simp only [eraseHeld, hx, if_true, sumAmt]; omega
  | case3 x xs hx ih => simp only [eraseHeld, hx, if_false, sumAmt, ih h]; omega

theorem eraseHeld_sub (id : Nat) (l : List Waiter) : ∀ w ∈ eraseHeld id l, w ∈ l := by
  fun_induction eraseHeld id l with
  | case1 => exact fun _ h => h
  | case2 x xs hx => exact fun w h => List.mem_cons_of_mem _ h
  | case3 x xs hx ih =>
    intro w hw
    rcases List.mem_cons.mp hw with h | h
    · exact h ▸ List.mem_cons_self ..
    · exact List.mem_cons_of_mem _ (ih w h)

theorem findHeld_mem (id : Nat) (l : List Waiter) (w : Waiter) (h : findHeld id l = some w) : w ∈ l := by
  fun_induction findHeld id l with
  | case1 => cases h
  | case2 x xs hx => cases h; exact List.mem_cons_self ..
  | case3 x xs hx ih => exact List.mem_cons_of_mem _ (ih h)

def COp.reqNonneg : COp → Prop
  | .acquire _ n => 0 ≤ n
  | _ => True

def COp.sizeOK (max : Int) : COp → Prop
  | .updSize n => n ≤ max
  | _ => True

structure CInv (g : G) : Prop where
  good : Good (g.sem, g.held)

theorem grun_cons (g : G) (op : COp) (ops : List COp) :
    grun g (op :: ops) = ((grun (gstep g op).1 ops).1, (gstep g op).2 ++ (grun (gstep g op).1 ops).2) := rfl

theorem toSemOp_spec (g : G) (op : COp) (o : SemOp) (hd : List Waiter) (h : toSemOp g op = some (o, hd)) :
    sumAmt hd = sumAmt g.held - releasedBy o ∧
    (AmtNonneg g.held → op.reqNonneg →
      o.reqNonneg ∧ AmtNonneg hd ∧ ∀ m, op.sizeOK m → OpOK m o) := by
  cases op with
  | release id =>
    simp only [toSemOp] at h
    cases hf : findHeld id g.held with
    | none => rw [hf] at h; cases h
    | some w =>
      rw [hf] at h; cases h
      exact ⟨sumAmt_eraseHeld id g.held w hf, fun hH _ =>
        ⟨trivial, fun x hx => hH x (eraseHeld_sub id g.held x hx), fun _ _ => hH w (findHeld_mem id g.held w hf)⟩⟩
  | updSize n => cases h; exact ⟨by simp [releasedBy], fun hH hop => ⟨hop, hH, fun _ hs => hs⟩⟩
  | _ => cases h; exact ⟨by simp [releasedBy], fun hH hop => ⟨hop, hH, fun _ _ => trivial⟩⟩

theorem gstep_inv (g : G) (op : COp) (h : Good (g.sem, g.held)) (hop : op.reqNonneg) :
    Good ((gstep g op).1.sem, (gstep g op).1.held) ∧ hasPanic (gstep g op).2 = false ∧
    (gstep g op).1.sem.max = g.sem.max := by
  cases ht : toSemOp g op with
  | none => simp only [gstep, ht]; exact ⟨h, by trivial, by trivial⟩
  | some oh =>
    obtain ⟨hsum, hnn⟩ := toSemOp_spec g op oh.1 oh.2 ht
    obtain ⟨ho, hhd, _⟩ := hnn h.heldNN hop
    simp only [gstep, ht]
    exact ⟨(good_step g.sem g.held oh.2 oh.1 h ho hhd hsum).1, (good_step g.sem g.held oh.2 oh.1 h ho hhd hsum).2,
      step_max _ _⟩

theorem grun_inv (g : G) (ops : List COp) (h : Good (g.sem, g.held)) (hop : ∀ op ∈ ops, op.reqNonneg) :
    Good ((grun g ops).1.sem, (grun g ops).1.held) ∧ hasPanic (grun g ops).2 = false ∧
    (grun g ops).1.sem.max = g.sem.max := by
  induction ops generalizing g with
  | nil => exact ⟨h, rfl, rfl⟩
  | cons op ops ih =>
    rw [grun_cons]
    obtain ⟨h1, p1, m1⟩ := gstep_inv g op h (hop op (by simp))
    obtain ⟨h2, p2, m2⟩ := ih (gstep g op).1 h1 (fun o ho => hop o (by simp [ho]))
    exact ⟨h2, by simp [hasPanic_append, p1, p2], by rw [m2, m1]⟩

theorem gstep_bounded (g : G) (op : COp) (h : Good (g.sem, g.held)) (hb : Bounded g.sem)
    (hop : op.reqNonneg) (hs : op.sizeOK g.sem.max) : Bounded (gstep g op).1.sem := by
  cases ht : toSemOp g op with
  | none => simp only [gstep, ht]; exact hb
  | some oh =>
    simp only [gstep, ht]
    exact step_bounded _ _ hb (((toSemOp_spec g op oh.1 oh.2 ht).2 h.heldNN hop).2.2 _ hs)
theorem grun_bounded (g : G) (ops : List COp) (h : Good (g.sem, g.held)) (hb : Bounded g.sem)
    (hop : ∀ op ∈ ops, op.reqNonneg) (hs : ∀ op ∈ ops, op.sizeOK g.sem.max) :
    Bounded (grun g ops).1.sem := by
  induction ops generalizing g with
  | nil => exact hb
  | cons op ops ih =>
    rw [grun_cons]
    obtain ⟨h1, _, m1⟩ := gstep_inv g op h (hop op (by simp))
    apply ih (gstep g op).1 h1 (gstep_bounded g op h hb (hop op (by simp)) (hs op (by simp)))
    · intro o ho; exact hop o (by simp [ho])
    · intro o ho; rw [m1]; exact hs o (by simp [ho])

theorem sizeOK_of_not_updSize (m : Int) (op : COp) (h : op.isUpdSize = false) : op.sizeOK m := by
  cases op <;> simp [COp.isUpdSize] at h <;> simp [COp.sizeOK]

theorem procsSetup_ok (rcur rmax : Nat) (u : Option Int) (hcm : rcur ≤ rmax) (h64 : rmax < 2 ^ 64)
    (m : Int) (pre : List COp) (h : procsSetup rcur rmax u = some (m, pre)) :
    0 ≤ m ∧ (∀ op ∈ pre, op.reqNonneg) ∧ (∀ op ∈ pre, op.sizeOK m) := by
  unfold procsSetup at h
  split at h
  · rename_i hg
    simp only [Option.some.injEq, Prod.mk.injEq] at h
    obtain ⟨hm, hp⟩ := h
    subst hm; subst hp
    have hle := toInt64_le rcur rmax hcm h64 hg.1
    refine ⟨by unfold startingThreadCount at hg; omega, ?_, ?_⟩
    · intro op hop
      simp only [List.mem_cons, List.not_mem_nil, or_false] at hop
      rcases hop with h | h
      · subst h; simp [COp.reqNonneg, startingThreadCount]
      · subst h; cases u <;> simp [COp.reqNonneg]
    · intro op hop
      simp only [List.mem_cons, List.not_mem_nil, or_false] at hop
      rcases hop with h | h
      · subst h; simp [COp.sizeOK]
      · subst h; cases u <;> simp [COp.sizeOK, hle]
  · simp at h

theorem grun_held_le (size : Int) (hs : 0 ≤ size) (ops : List COp)
    (hop : ∀ op ∈ ops, op.reqNonneg) (hsz : ∀ op ∈ ops, op.sizeOK size) :
    sumAmt (grun (G.init size) ops).1.held ≤ size ∧
    (grun (G.init size) ops).1.sem.reserved ≤ size ∧ (grun (G.init size) ops).1.sem.cur ≤ size := by
  have hb := grun_bounded (G.init size) ops (good_fresh size)
    ⟨by simp [G.init, Sem.init], by simpa [G.init, Sem.init] using hs⟩ hop
    (by simpa [G.init, Sem.init] using hsz)
  obtain ⟨hg, _, hm⟩ := grun_inv (G.init size) ops (good_fresh size) hop
  have hbook := hg.book
  simp only at hbook
  have h1 := hb.1
  have h2 := hb.2
  rw [hm] at h1 h2
  simp only [G.init, Sem.init] at h1 h2
  refine ⟨?_, h2, h1⟩
  rw [← hbook]; exact h2

/-- ids of the current holders / of the queued callers of one semaphore -/
def hid (p : Sem × List Waiter) : List Nat := p.2.map Prod.fst
def wid (p : Sem × List Waiter) : List Nat := p.1.waiters.map Prod.fst

/-- The shape `Enqueue` gives to the holders of a list of semaphores taken in
list order, at an instant when no job is between two `Acquire` calls: whoever
holds a semaphore either holds all later ones too (it runs) or is queued on a
later one; and whoever holds a later one holds the earlier ones. -/
def Disciplined : List (Sem × List Waiter) → Prop
  | [] => True
  | p :: ps =>
    (∀ id ∈ hid p, (∀ q ∈ ps, id ∈ hid q) ∨ (∃ q ∈ ps, id ∈ wid q)) ∧
    (∀ q ∈ ps, ∀ id ∈ hid q, id ∈ hid p) ∧ Disciplined ps

theorem nested_queues_empty (ps : List (Sem × List Waiter))
    (hg : ∀ p ∈ ps, Good p ∧ p.1.cur = p.1.max) (hd : Disciplined ps)
    (hr : ∀ id, ¬ ∀ p ∈ ps, id ∈ hid p) : ∀ p ∈ ps, p.1.waiters = [] := by
  induction ps with
  | nil => intro p hp; simp at hp
  | cons p rest ih =>
    obtain ⟨d1, d2, d3⟩ := hd
    have hrest : ∀ q ∈ rest, q.1.waiters = [] := by
      cases hrest : rest with
      | nil => intro q hq; simp at hq
      | cons q0 qs =>
        rw [← hrest]
        apply ih (fun q hq => hg q (by simp [hq])) d3
        intro id hall
        apply hr id
        intro q hq
        rcases List.mem_cons.mp hq with h | h
        · subst h
          exact d2 q0 (by simp [hrest]) id (hall q0 (by simp [hrest]))
        · exact hall q h
    have hp : p.2 = [] := by
      cases hh : p.2 with
      | nil => rfl
      | cons w ws =>
        exfalso
        have hid_w : w.1 ∈ hid p := by simp [hid, hh]
        rcases d1 w.1 hid_w with hall | ⟨q, hq, hwq⟩
        · apply hr w.1
          intro q hq
          rcases List.mem_cons.mp hq with h | h
          · subst h; exact hid_w
          · exact hall q h
        · have := hrest q hq
          simp [wid, this] at hwq
    intro q hq
    rcases List.mem_cons.mp hq with h | h
    · subst h
      exact good_idle q (hg q (by simp)).1 hp (hg q (by simp)).2
    · exact hrest q h

instance (op : COp) : Decidable op.reqNonneg := by
  cases op <;> simp only [COp.reqNonneg] <;> infer_instance

instance (m : Int) (op : COp) : Decidable (op.sizeOK m) := by
  cases op <;> simp only [COp.sizeOK] <;> infer_instance

instance (c : LocalCfg) : Decidable (Sane c) := by
  unfold Sane; infer_instance

end Martian.Semaphore
