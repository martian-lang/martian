/-
C01 — soundness of the decidable checks (Martian/ResolverStaticCheck.lean) for the
hypotheses of the refinement theorem: `wellTypedB_sound`, `narrowFix_of_acyclicB`.
-/
import Martian.ResolverStaticCheck
import Proofs.ResolverStaticMain

namespace Proofs.ResolverStatic
open Martian.Dataflow Martian.Resolver Martian.ResolverForks Martian.ResolverStatic Proofs.Dataflow

theorem subB_sound (st : StructTable) : ∀ (n : Nat) (t t' : Ty), subB st n t t' = true → Sub st t t' := by
  intro n
  induction n with
  | zero =>
    intro t t' h
    simp only [subB, beq_iff_eq] at h
    subst h
    exact Sub.refl _
  | succ n ih =>
    intro t t' h
    simp only [subB, Bool.or_eq_true, beq_iff_eq, Bool.and_eq_true, Option.isNone_iff_eq_none] at h
    rcases h with (h | h) | h
    · subst h; exact Sub.refl _
    · exact Sub.scalar _ _ h.1.1.1 h.1.1.2 h.1.2 h.2
    · obtain ⟨⟨h1, h2⟩, h3⟩ := h
      cases hl : st.lookup t.base with
      | none => simp [hl] at h3
      | some ps =>
        cases hl' : st.lookup t'.base with
        | none => simp [hl, hl'] at h3
        | some ps' =>
          simp only [hl, hl', List.all_eq_true] at h3
          refine Sub.struct t t' ps ps' h1 h2 hl hl' ?_ ?_
          · intro p' hp'
            have := h3 p' hp'
            cases hf : fieldTy st t.base p'.name with
            | none => simp [hf] at this
            | some ft => rfl
          · intro p' hp'
            have := h3 p' hp'
            cases hf : fieldTy st t.base p'.name with
            | none => simp [hf] at this
            | some ft =>
              simp only [hf] at this
              exact ih _ _ this

theorem pathOkB_sound (st : StructTable) : ∀ (path : List String) (t : Ty),
    pathOkB st t path = true → PathOk st t path
  | [], _, _ => trivial
  | g :: r, t, h => by
    simp only [pathOkB, Bool.and_eq_true] at h
    refine ⟨?_, pathOkB_sound st r _ h.2⟩
    have h1 := h.1
    unfold fieldOkB at h1
    cases hf : fieldTy st t.base g with
    | none => simp [hf] at h1
    | some ft =>
      simp only [hf, Bool.or_eq_true, beq_iff_eq] at h1
      exact ⟨ft, hf, fun hne => by cases h1 with | inl h => exact absurd h hne | inr h => exact h⟩

theorem litOkB_sound (st : StructTable) (t : Ty) (j : J) (h : litOkB st t j = true) : LitOk st t j := by
  cases j with
  | null => exact Or.inl rfl
  | atom s =>
    simp only [litOkB, scalarB, Bool.and_eq_true, beq_iff_eq, Option.isNone_iff_eq_none] at h
    exact Or.inr ⟨⟨s, rfl⟩, h.1.1, h.1.2, h.2⟩
  | dnull => simp [litOkB] at h
  | arr xs => simp [litOkB] at h
  | obj kvs => simp [litOkB] at h

mutual
theorem hasTyB_sound (st : StructTable) (n : Nat) (sT cT : String → Ty) :
    ∀ (e : Exp) (t : Ty), hasTyB st n sT cT t e = true → HasTy st sT cT t e
  | .lit j, t, h => by
    simp only [hasTyB] at h
    simp only [HasTy]
    exact litOkB_sound st t j h
  | .arr xs, t, h => by
    simp only [hasTyB, Bool.and_eq_true, bne_iff_ne, ne_eq] at h
    simp only [HasTy]
    exact ⟨h.1, hasTyListB_sound st n sT cT xs _ h.2⟩
  | .map kvs, t, h => by
    simp only [hasTyB, Bool.or_eq_true, Bool.and_eq_true, bne_iff_ne, ne_eq, beq_iff_eq,
      Option.isNone_iff_eq_none] at h
    simp only [HasTy]
    rcases h with h | h
    · exact Or.inl ⟨h.1.1, h.1.2, hasTyFieldsB_sound st n sT cT kvs _ h.2⟩
    · exact Or.inr ⟨h.1.1.1, h.1.1.2, h.1.2, h.2⟩
  | .struct kvs, t, h => by
    simp only [hasTyB, Bool.and_eq_true, beq_iff_eq] at h
    simp only [HasTy]
    obtain ⟨⟨ha, hm⟩, h3⟩ := h
    cases hl : st.lookup t.base with
    | none => simp [hl] at h3
    | some ps =>
      simp only [hl, Bool.and_eq_true, List.all_eq_true] at h3
      exact ⟨ha, hm, ps, rfl, hasTyMembersB_sound st n sT cT ps kvs h3.1, h3.2⟩
  | .self p path, t, h => by
    simp only [hasTyB, Bool.and_eq_true] at h
    simp only [HasTy]
    exact ⟨pathOkB_sound st path _ h.1, subB_sound st n _ _ h.2⟩
  | .ref c path, t, h => by
    simp only [hasTyB, Bool.and_eq_true] at h
    simp only [HasTy]
    exact ⟨pathOkB_sound st path _ h.1, subB_sound st n _ _ h.2⟩
theorem hasTyListB_sound (st : StructTable) (n : Nat) (sT cT : String → Ty) :
    ∀ (es : List Exp) (t : Ty), hasTyListB st n sT cT t es = true → HasTyList st sT cT t es
  | [], _, _ => by simp [HasTyList]
  | e :: es, t, h => by
    simp only [hasTyListB, Bool.and_eq_true] at h
    simp only [HasTyList]
    exact ⟨hasTyB_sound st n sT cT e t h.1, hasTyListB_sound st n sT cT es t h.2⟩
theorem hasTyFieldsB_sound (st : StructTable) (n : Nat) (sT cT : String → Ty) :
    ∀ (kvs : List (String × Exp)) (t : Ty), hasTyFieldsB st n sT cT t kvs = true → HasTyFields st sT cT t kvs
  | [], _, _ => by simp [HasTyFields]
  | (k, e) :: es, t, h => by
    simp only [hasTyFieldsB, Bool.and_eq_true] at h
    simp only [HasTyFields]
    exact ⟨hasTyB_sound st n sT cT e t h.1, hasTyFieldsB_sound st n sT cT es t h.2⟩
theorem hasTyMembersB_sound (st : StructTable) (n : Nat) (sT cT : String → Ty) (ps : List Param) :
    ∀ (kvs : List (String × Exp)), hasTyMembersB st n sT cT ps kvs = true → HasTyMembers st sT cT ps kvs
  | [], _ => by simp [HasTyMembers]
  | (k, e) :: es, h => by
    simp only [hasTyMembersB, Bool.and_eq_true, Bool.or_eq_true, Bool.not_eq_true'] at h
    simp only [HasTyMembers]
    refine ⟨?_, hasTyMembersB_sound st n sT cT ps es h.2⟩
    intro hs
    cases h.1 with
    | inl h1 => rw [h1] at hs; cases hs
    | inr h1 => exact hasTyB_sound st n sT cT e _ h1
end

theorem selfTyOfB_eq : selfTyOfB = selfTyOf := rfl
theorem callTyOfB_eq : callTyOfB = callTyOf := rfl

theorem callOkB_sound (st : StructTable) (n : Nat) (insOf : String → List Param) (sT cT : String → Ty)
    (c : Call) (h : callOkB st n insOf sT cT c = true) : CallOk st insOf sT cT c := by
  simp only [callOkB, Bool.and_eq_true, Bool.not_eq_true', Option.isNone_iff_eq_none, List.all_eq_true] at h
  refine ⟨h.1.1, h.1.2, ?_⟩
  intro p hp b hb
  have := h.2 p hp
  simp only [hb] at this
  exact hasTyB_sound st n sT cT b.exp p.ty this

theorem callsOkB_sound (st : StructTable) (n : Nat) (insOf : String → List Param) (sT : String → Ty) :
    ∀ (cs : List Call) (L : List (String × Ty)), callsOkB st n insOf sT L cs = true → CallsOk st insOf sT L cs
  | [], _, _ => trivial
  | c :: cs, L, h => by
    simp only [callsOkB, Bool.and_eq_true] at h
    exact ⟨callOkB_sound st n insOf sT _ c (by rw [← callTyOfB_eq]; exact h.1),
      callsOkB_sound st n insOf sT cs _ h.2⟩

theorem structsOkB_sound (st : StructTable) (h : structsOkB st = true) : StructsOk st := by
  intro name ps hl
  simp only [structsOkB, List.all_eq_true, decide_eq_true_eq] at h
  exact h (name, ps) (mem_of_lookup st name ps hl)

theorem wellTypedB_sound (P : Program) (h : wellTypedB P = true) : WellTyped P := by
  simp only [wellTypedB, Bool.and_eq_true, List.all_eq_true, beq_iff_eq] at h
  obtain ⟨⟨⟨h1, h2⟩, h3⟩, h4⟩ := h
  refine ⟨structsOkB_sound _ h1, ?_, ?_, ?_⟩
  · intro name c hl
    exact h2 (name, c) (mem_of_lookup _ _ _ hl)
  · intro name pins outs calls ret hl
    have := h3 (name, _) (mem_of_lookup _ _ _ hl)
    simp only [pipelineOkB, Bool.and_eq_true, List.all_eq_true] at this
    refine ⟨callsOkB_sound _ _ _ _ calls [] (by rw [← selfTyOfB_eq]; exact this.1), ?_⟩
    intro p hp e he
    have h5 := this.2 p hp
    simp only [he] at h5
    exact hasTyB_sound _ _ _ _ e p.ty h5
  · exact callOkB_sound _ _ _ _ _ _ h4

theorem narrowFix_of_acyclicB (st : StructTable) (h : acyclicB st = true) : NarrowFix st (st.length + 2) := by
  simp only [acyclicB, List.all_eq_true, Bool.and_eq_true, decide_eq_true_eq, Bool.or_eq_true,
    Option.isNone_iff_eq_none] at h
  apply narrowFix_of_stable
  apply narrowStable_of_rank st (structDepth st st.length)
  · intro name ps hl p hp hs
    have := (h (name, ps) (mem_of_lookup st name ps hl)).2 p hp
    cases this with
    | inl h0 => rw [h0] at hs; cases hs
    | inr h0 => exact h0
  · intro name ps hl
    have := (h (name, ps) (mem_of_lookup st name ps hl)).1
    simp only at this
    omega
  · omega

end Proofs.ResolverStatic
