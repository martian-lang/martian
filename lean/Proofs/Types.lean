/-
The type/JSON model (Martian/Types.lean), proved once for both readings of numerals.

`Martian.Types` (exact decimals) and `Martian.TypesR` (float64 rounding, as Go reads a literal)
are the same recursion over `Ty` around two base cases: which literals `float` accepts, and which
integer `FilterJson` for `int` writes for a literal that is no `int64` literal.  `Reading` names
these two choices; `Reading.check` / `Reading.filter` are the model with the choices left open, and
every theorem about validation and filtering is proved for an arbitrary `Reading`.  This file
instantiates them for `Martian.Types` (`Reading.exact`), Proofs/TypesRound.lean for
`Martian.TypesR`.  Assignability, `noHole`, `pureNarrow` and `dims` do not look at values and are
treated directly.
-/
import Martian.Types
namespace Martian.Types
open Martian.Json

theorem Ty.induct' {P : Ty → Prop}
    (base : ∀ b, P (.base b)) (user : ∀ n, P (.user n))
    (arr : ∀ t, P t → P (.arr t)) (tmap : ∀ t, P t → P (.tmap t))
    (struct : ∀ n fs, (∀ k t, (k, t) ∈ fs.toList → P t) → P (.struct n fs)) : ∀ t, P t := by
  intro t
  refine Ty.rec (motive_1 := P) (motive_2 := fun fs => ∀ k t, (k, t) ∈ fs.toList → P t)
    base user (fun t ih => arr t ih) (fun t ih => tmap t ih) (fun n fs ih => struct n fs ih) ?_ ?_ t
  · intro k t h; cases h
  · intro id t rest iht ihr k t' h
    simp only [Fields.toList, List.mem_cons, Prod.mk.injEq] at h
    rcases h with ⟨rfl, rfl⟩ | h
    · exact iht
    · exact ihr k t' h

theorem Verdict.max_eq_ok {a b : Verdict} : a.max b = .ok ↔ a = .ok ∧ b = .ok := by
  cases a <;> cases b <;> simp [Verdict.max]

theorem worst_eq_ok {vs : List Verdict} : worst vs = .ok ↔ ∀ v ∈ vs, v = .ok := by
  induction vs with
  | nil => simp [worst]
  | cons a r ih =>
    simp only [worst, List.foldr_cons, List.mem_cons, forall_eq_or_imp] at *
    rw [Verdict.max_eq_ok, ih]

theorem FErr.max_ne_fatal {a b : FErr} : a.max b ≠ .fatal ↔ a ≠ .fatal ∧ b ≠ .fatal := by
  cases a <;> cases b <;> simp [FErr.max]

theorem worstF_ne_fatal {vs : List FErr} : worstF vs ≠ .fatal ↔ ∀ v ∈ vs, v ≠ .fatal := by
  induction vs with
  | nil => simp [worstF]
  | cons a r ih =>
    simp only [worstF, List.foldr_cons, List.mem_cons, forall_eq_or_imp] at *
    rw [FErr.max_ne_fatal, ih]

theorem FErr.max_eq_ok {a b : FErr} : a.max b = .ok ↔ a = .ok ∧ b = .ok := by
  cases a <;> cases b <;> simp [FErr.max]

theorem worstF_eq_ok {vs : List FErr} (h : ∀ v ∈ vs, v = .ok) : worstF vs = .ok := by
  induction vs with
  | nil => rfl
  | cons a r ih =>
    simp only [List.mem_cons, forall_eq_or_imp] at h
    simp only [worstF, List.foldr_cons]
    exact FErr.max_eq_ok.mpr ⟨h.1, ih h.2⟩

theorem Fields.get_mem : ∀ {fs : Fields} {k : Bytes} {t : Ty}, fs.get k = some t → (k, t) ∈ fs.toList
  | .nil, k, t, h => by simp [Fields.get] at h
  | .cons k' t' r, k, t, h => by
    simp only [Fields.get] at h
    by_cases hk : k' = k
    · simp [hk] at h; subst hk; subst h; simp [Fields.toList]
    · simp [hk] at h
      simp only [Fields.toList, List.mem_cons]
      exact Or.inr (Fields.get_mem h)

theorem Fields.wf_iff : ∀ {fs : Fields}, fs.wf = true ↔
    (fs.toList.map Prod.fst).Nodup ∧ ∀ k t, (k, t) ∈ fs.toList → t.wf = true
  | .nil => by simp [Fields.wf, Fields.toList]
  | .cons k t r => by
    have ih := @Fields.wf_iff r
    simp only [Fields.wf, Fields.toList, Bool.and_eq_true, ih, List.map_cons, List.nodup_cons,
      List.mem_cons, Prod.mk.injEq]
    constructor
    · rintro ⟨⟨h1, h2⟩, h3, h4⟩
      refine ⟨⟨?_, h3⟩, ?_⟩
      · simpa using h1
      · rintro k' t' (⟨rfl, rfl⟩ | h)
        · exact h2
        · exact h4 _ _ h
    · rintro ⟨⟨h1, h3⟩, h4⟩
      refine ⟨⟨?_, h4 _ _ (Or.inl ⟨rfl, rfl⟩)⟩, h3, fun k' t' h => h4 _ _ (Or.inr h)⟩
      simpa using h1

theorem Ty.induct_wf {P : Ty → Prop}
    (base : ∀ b, P (.base b)) (user : ∀ n, P (.user n))
    (arr : ∀ t, P t → P (.arr t)) (tmap : ∀ t, P t → P (.tmap t))
    (struct : ∀ n fs, (fs.toList.map Prod.fst).Nodup → (∀ k t, (k, t) ∈ fs.toList → P t) →
      P (.struct n fs)) : ∀ t, t.wf = true → P t := by
  intro t
  induction t using Ty.induct' with
  | base b => exact fun _ => base b
  | user n => exact fun _ => user n
  | arr t ih => exact fun h => arr t (ih (by simpa [Ty.wf] using h))
  | tmap t ih => exact fun h => tmap t (ih (by simpa [Ty.wf] using h))
  | struct n fs ih =>
    intro h
    have hwf := Fields.wf_iff.mp (by simpa [Ty.wf] using h)
    exact struct n fs hwf.1 fun k t hkt => ih k t hkt (hwf.2 k t hkt)

theorem Fields.get_of_mem : ∀ {fs : Fields} {k : Bytes} {t : Ty},
    (fs.toList.map Prod.fst).Nodup → (k, t) ∈ fs.toList → fs.get k = some t
  | .nil, k, t, _, h => by cases h
  | .cons k' t' r, k, t, hn, h => by
    simp only [Fields.toList, List.map_cons, List.nodup_cons, List.mem_cons, Prod.mk.injEq] at hn h
    simp only [Fields.get]
    rcases h with ⟨rfl, rfl⟩ | h
    · simp
    · have : k' ≠ k := by
        rintro rfl
        exact hn.1 (List.mem_map.mpr ⟨(k', t), h, rfl⟩)
      simp [this]
      exact Fields.get_of_mem hn.2 h

theorem getKey_of_mem_nodup : ∀ {kvs : List (Bytes × J)} {k : Bytes} {v : J},
    (kvs.map Prod.fst).Nodup → (k, v) ∈ kvs → getKey k kvs = some v :=
  fun hn h => mem_dedupLast_iff.mp (by rw [dedupLast_of_nodup hn]; exact h)

theorem keys_fields_out (fs : Fields) (f : Bytes × Ty → J) :
    (fs.toList.map (fun kt => (kt.1, f kt))).map Prod.fst = fs.toList.map Prod.fst := by
  simp [List.map_map, Function.comp_def]

theorem getKey_fields_out {fs : Fields} (f : Bytes × Ty → J) (hn : (fs.toList.map Prod.fst).Nodup)
    {k : Bytes} {t : Ty} (h : (k, t) ∈ fs.toList) :
    getKey k (fs.toList.map fun kt => (kt.1, f kt)) = some (f (k, t)) :=
  getKey_of_mem_nodup (by rw [keys_fields_out]; exact hn) (List.mem_map.mpr ⟨(k, t), h, rfl⟩)

/-! ## The model over an abstract reading of numerals -/

/-- an integer-syntax literal within `int64`: what `json.Unmarshal` into an `int64` accepts -/
def int64Lit : Num → Bool
  | .int v => Num.inInt64 v
  | .flt _ _ => false

/-- How the builtin types read a numeral: `fin` – the literals `float` accepts; `toInt?` – the
integer `FilterJson` for `int` writes in place of a literal that is no `int64` literal (none: a
fatal error).  What is written is an `int64`, and an `int64` literal is a float. -/
structure Reading where
  fin : Num → Bool
  toInt? : Num → Option Int
  toInt?_inInt64 : ∀ {n i}, toInt? n = some i → Num.inInt64 i = true
  fin_of_int64Lit : ∀ {n}, int64Lit n = true → fin n = true

namespace Reading
variable (R : Reading)

def checkBase : Base → J → Verdict
  | _, .null => .ok
  | .string, .str _ | .path, .str _ | .file, .str _ => .ok
  | .int, .num n => if int64Lit n then .ok else .error
  | .float, .num n => if R.fin n then .ok else .error
  | .bool, .bool _ => .ok
  | .map, .obj _ => .ok
  | _, _ => .error

mutual
  def check : Ty → J → Verdict
    | .base b, v => R.checkBase b v
    | .user _, v =>
      match v with
      | .null | .str _ => .ok
      | _ => .alarm
    | .arr t, v =>
      match v with
      | .null => .ok
      | .arr xs => worst (xs.map (fun x => check t x))
      | _ => .error
    | .tmap t, v =>
      match v with
      | .null => .ok
      | .obj kvs =>
        worst (kvs.map (fun kv =>
          (check t kv.2).max (if isDirMap t && !legalName kv.1 then .error else .ok)))
      | _ => .error
    | .struct _ fs, v =>
      match v with
      | .null => .ok
      | .obj kvs => checkFields fs kvs
      | _ => .error
  def checkFields : Fields → List (Bytes × J) → Verdict
    | .nil, _ => .ok
    | .cons k t r, kvs =>
      (match getKey k kvs with
        | none => Verdict.error
        | some v => check t v).max (checkFields r kvs)
end

def valid (t : Ty) (v : J) : Bool := R.check t v == .ok

def filterBase : Base → J → J × FErr
  | _, .null => (.null, .ok)
  | .string, .str s => (.str s, .ok)
  | .path, .str s => (.str s, .ok)
  | .file, .str s => (.str s, .ok)
  | .float, .num n => (.num n, if R.fin n then .ok else .fatal)
  | .bool, .bool b => (.bool b, .ok)
  | .map, .obj kvs => (.obj kvs, .ok)
  | .int, .num n =>
    if int64Lit n then (.num n, .ok) else
    match R.toInt? n with
    | some i => (.num (.int i), .soft)
    | none => (.num n, .fatal)
  | _, v => (v, .fatal)

mutual
  def filter : Ty → J → J × FErr
    | .base b, v => R.filterBase b v
    | .user _, v =>
      match v with
      | .null | .str _ => (v, .ok)
      | _ => (v, .soft)
    | .arr t, v =>
      if !canFilter t then (v, .ok) else
      match v with
      | .null => (v, .ok)
      | .arr xs =>
        (.arr (xs.map (fun x => (filter t x).1)), worstF (xs.map (fun x => (filter t x).2)))
      | _ => (v, .fatal)
    | .tmap t, v =>
      if !canFilter t then (v, .ok) else
      match v with
      | .null => (v, .ok)
      | .obj kvs =>
        (.obj (kvs.map (fun kv => (kv.1, (filter t kv.2).1))),
         worstF (kvs.map (fun kv => (filter t kv.2).2)))
      | _ => (v, .fatal)
    | .struct _ fs, v =>
      match v with
      | .null => (v, .ok)
      | .obj kvs => (.obj (filterFields fs kvs).1, (filterFields fs kvs).2)
      | _ => (v, .fatal)
  def filterFields : Fields → List (Bytes × J) → List (Bytes × J) × FErr
    | .nil, _ => ([], .ok)
    | .cons k t r, kvs =>
      let rest := filterFields r kvs
      match getKey k kvs with
      | none => ((k, .null) :: rest.1, .fatal)
      | some v =>
        if canFilter t then ((k, (filter t v).1) :: rest.1, (filter t v).2.max rest.2)
        else ((k, v) :: rest.1, rest.2)
end

/-- `Martian.Types.Shape` with the float case left to the reading -/
inductive Shape (R : Reading) : Ty → J → Prop where
  | null (t : Ty) : Shape R t .null
  | string (s : Bytes) : Shape R (.base .string) (.str s)
  | path (s : Bytes) : Shape R (.base .path) (.str s)
  | file (s : Bytes) : Shape R (.base .file) (.str s)
  | int (v : Int) : Num.inInt64 v = true → Shape R (.base .int) (.num (.int v))
  | float (n : Num) : R.fin n = true → Shape R (.base .float) (.num n)
  | bool (b : Bool) : Shape R (.base .bool) (.bool b)
  | map (kvs : List (Bytes × J)) : Shape R (.base .map) (.obj kvs)
  | user (n s : Bytes) : Shape R (.user n) (.str s)
  | arr (t : Ty) (xs : List J) : (∀ x, x ∈ xs → Shape R t x) → Shape R (.arr t) (.arr xs)
  | tmap (t : Ty) (kvs : List (Bytes × J)) :
      (∀ kv, kv ∈ kvs → Shape R t kv.2) →
      (isDirMap t = true → ∀ kv, kv ∈ kvs → legalName kv.1 = true) →
      Shape R (.tmap t) (.obj kvs)
  | struct (n : Bytes) (fs : Fields) (kvs : List (Bytes × J)) :
      (∀ k t, (k, t) ∈ fs.toList → (getKey k kvs).isSome = true) →
      (∀ k t v, (k, t) ∈ fs.toList → getKey k kvs = some v → Shape R t v) →
      Shape R (.struct n fs) (.obj kvs)


theorem checkFields_ok_iff : ∀ (fs : Fields) (kvs : List (Bytes × J)),
    R.checkFields fs kvs = .ok ↔
      ∀ k t, (k, t) ∈ fs.toList → ∃ v, getKey k kvs = some v ∧ R.check t v = .ok
  | .nil, kvs => by simp [checkFields, Fields.toList]
  | .cons k t r, kvs => by
    have ih := checkFields_ok_iff r kvs
    simp only [checkFields, Verdict.max_eq_ok, ih, Fields.toList, List.mem_cons, Prod.mk.injEq]
    constructor
    · rintro ⟨h1, h2⟩ k' t' (⟨rfl, rfl⟩ | h)
      · cases hg : getKey k' kvs with
        | none => simp [hg] at h1
        | some v => simp [hg] at h1; exact ⟨v, rfl, h1⟩
      · exact h2 _ _ h
    · intro h
      refine ⟨?_, fun k' t' h' => h _ _ (Or.inr h')⟩
      obtain ⟨v, hv, hc⟩ := h k t (Or.inl ⟨rfl, rfl⟩)
      simp [hv, hc]

theorem valid_null (t : Ty) : R.valid t .null = true := by
  cases t with
  | base b => cases b <;> rfl
  | _ => rfl

theorem shape_of_valid : ∀ (t : Ty) (v : J), R.valid t v = true → R.Shape t v := by
  intro t
  induction t using Ty.induct' with
  | base b =>
    intro v h
    cases b <;> cases v <;> simp [valid, check, checkBase] at h <;> try constructor
    case int.num n =>
      cases n with
      | int i => exact .int i h
      | flt m e => cases h
    case float.num n => exact h
  | user n =>
    intro v h
    cases v <;> simp [valid, check] at h <;> constructor
  | arr t ih =>
    intro v h
    cases v <;> simp [valid, check] at h <;> try constructor
    case arr xs =>
      rw [worst_eq_ok] at h
      intro x hx
      apply ih
      simp only [valid, beq_iff_eq]
      exact h _ (List.mem_map.mpr ⟨x, hx, rfl⟩)
  | tmap t ih =>
    intro v h
    cases v <;> simp [valid, check] at h
    case null => constructor
    case obj kvs =>
      rw [worst_eq_ok] at h
      refine .tmap _ _ ?_ ?_
      · intro kv hkv
        apply ih
        have := h _ (List.mem_map.mpr ⟨kv, hkv, rfl⟩)
        rw [Verdict.max_eq_ok] at this
        simp only [valid, beq_iff_eq]
        exact this.1
      · intro hd kv hkv
        have := h _ (List.mem_map.mpr ⟨kv, hkv, rfl⟩)
        rw [Verdict.max_eq_ok] at this
        have h2 := this.2
        simp [hd] at h2
        exact h2
  | struct n fs ih =>
    intro v h
    cases v <;> simp [valid, check] at h
    case null => constructor
    case obj kvs =>
      rw [checkFields_ok_iff] at h
      refine .struct _ _ _ ?_ ?_
      · intro k t hkt
        obtain ⟨v, hv, _⟩ := h k t hkt
        simp [hv]
      · intro k t v hkt hg
        obtain ⟨v', hv', hc⟩ := h k t hkt
        rw [hg] at hv'
        cases hv'
        apply ih k t hkt
        simp [valid, hc]

theorem valid_of_shape : ∀ (t : Ty) (v : J), R.Shape t v → R.valid t v = true := by
  intro t
  induction t using Ty.induct' with
  | base b =>
    intro v h
    cases h <;> simp [valid, check, checkBase, int64Lit, *]
  | user n =>
    intro v h
    cases h <;> simp [valid, check]
  | arr t ih =>
    intro v h
    cases h with
    | null => exact R.valid_null _
    | arr _ xs hx =>
      simp only [valid, check, beq_iff_eq, worst_eq_ok, List.mem_map]
      rintro _ ⟨x, hxm, rfl⟩
      have := ih x (hx x hxm)
      simpa [valid] using this
  | tmap t ih =>
    intro v h
    cases h with
    | null => exact R.valid_null _
    | tmap _ kvs h1 h2 =>
      simp only [valid, check, beq_iff_eq, worst_eq_ok, List.mem_map]
      rintro _ ⟨kv, hkv, rfl⟩
      rw [Verdict.max_eq_ok]
      refine ⟨by simpa [valid] using ih _ (h1 kv hkv), ?_⟩
      by_cases hd : isDirMap t = true
      · simp [hd, h2 hd kv hkv]
      · simp [hd]
  | struct n fs ih =>
    intro v h
    cases h with
    | null => exact R.valid_null _
    | struct _ _ kvs h1 h2 =>
      simp only [valid, check, beq_iff_eq, checkFields_ok_iff]
      intro k t hkt
      have := h1 k t hkt
      cases hg : getKey k kvs with
      | none => simp [hg] at this
      | some v =>
        refine ⟨v, rfl, ?_⟩
        simpa [valid] using ih k t hkt v (h2 k t v hkt hg)

theorem valid_iff_shape (t : Ty) (v : J) : R.valid t v = true ↔ R.Shape t v :=
  ⟨R.shape_of_valid t v, R.valid_of_shape t v⟩


theorem filter_null (t : Ty) : R.filter t .null = (.null, .ok) := by
  cases t with
  | base b => cases b <;> rfl
  | user n => rfl
  | arr t => simp [filter]
  | tmap t => simp [filter]
  | struct n fs => rfl

theorem filterBase_fst_of_ne_int (b : Base) (v : J) (h : b ≠ .int) : (R.filterBase b v).1 = v := by
  cases b <;> cases v <;> first | rfl | exact absurd rfl h

theorem filter_fst_of_not_canFilter (t : Ty) (v : J) (h : canFilter t = false) :
    (R.filter t v).1 = v := by
  cases t with
  | base b =>
    simp only [filter]
    apply filterBase_fst_of_ne_int
    rintro rfl
    simp [canFilter] at h
  | user n => cases v <;> rfl
  | arr t => simp [canFilter] at h; simp [filter, h]
  | tmap t => simp [canFilter] at h; simp [filter, h]
  | struct n fs => simp [canFilter] at h

theorem filter_arr_fst (t : Ty) (xs : List J) :
    (R.filter (.arr t) (.arr xs)).1 = .arr (xs.map (fun x => (R.filter t x).1)) := by
  by_cases h : canFilter t = true
  · simp [filter, h]
  · have h' : canFilter t = false := by simpa using h
    simp only [filter, h', Bool.not_false, ↓reduceIte]
    congr 1
    have : (fun x => (R.filter t x).1) = id := funext fun x => R.filter_fst_of_not_canFilter t x h'
    rw [this, List.map_id]

theorem filter_tmap_fst (t : Ty) (kvs : List (Bytes × J)) :
    (R.filter (.tmap t) (.obj kvs)).1 = .obj (kvs.map (fun kv => (kv.1, (R.filter t kv.2).1))) := by
  by_cases h : canFilter t = true
  · simp [filter, h]
  · have h' : canFilter t = false := by simpa using h
    simp only [filter, h', Bool.not_false, ↓reduceIte]
    congr 1
    have : (fun kv : Bytes × J => (kv.1, (R.filter t kv.2).1)) = id :=
      funext fun kv => by simp [R.filter_fst_of_not_canFilter t kv.2 h']
    rw [this, List.map_id]

/-- what `filterFields` writes for one declared member -/
def fieldOut (t : Ty) : Option J → J
  | none => .null
  | some v => (R.filter t v).1

theorem filterFields_fst : ∀ (fs : Fields) (kvs : List (Bytes × J)),
    (R.filterFields fs kvs).1 = fs.toList.map (fun kt => (kt.1, R.fieldOut kt.2 (getKey kt.1 kvs)))
  | .nil, kvs => by simp [filterFields, Fields.toList]
  | .cons k t r, kvs => by
    have ih := filterFields_fst r kvs
    simp only [filterFields, Fields.toList, List.map_cons]
    cases hg : getKey k kvs with
    | none => simp [fieldOut, ih]
    | some v =>
      by_cases hc : canFilter t = true
      · simp [hc, fieldOut, ih]
      · have h' : canFilter t = false := by simpa using hc
        simp [h', fieldOut, ih, R.filter_fst_of_not_canFilter t v h']

theorem filter_struct_fst (n : Bytes) (fs : Fields) (kvs : List (Bytes × J)) :
    (R.filter (.struct n fs) (.obj kvs)).1 =
      .obj (fs.toList.map (fun kt => (kt.1, R.fieldOut kt.2 (getKey kt.1 kvs)))) := by
  simp [filter, filterFields_fst]

theorem filterBase_int_num (n : Num) :
    R.filterBase .int (.num n) =
      if int64Lit n then (.num n, .ok) else
      match R.toInt? n with
      | some i => (.num (.int i), .soft)
      | none => (.num n, .fatal) := rfl

/-- the integer written for a numeral is an `int64` literal, which filtering leaves alone -/
theorem filterBase_idem (b : Base) (v : J) :
    (R.filterBase b (R.filterBase b v).1).1 = (R.filterBase b v).1 := by
  by_cases hb : b = .int
  · subst hb
    cases v with
    | num n =>
      rw [filterBase_int_num]
      by_cases hl : int64Lit n = true
      · simp [hl, filterBase_int_num]
      · cases hi : R.toInt? n with
        | none => simp [hl, hi, filterBase_int_num]
        | some j =>
          have hj : int64Lit (.int j) = true := R.toInt?_inInt64 hi
          simp [hl, hj, filterBase_int_num]
    | _ => rfl
  · rw [filterBase_fst_of_ne_int R b _ hb]

theorem filter_idem : ∀ t : Ty, t.wf = true →
    ∀ v, (R.filter t (R.filter t v).1).1 = (R.filter t v).1 := by
  apply Ty.induct_wf
  case base => intro b v; simp only [filter]; exact R.filterBase_idem b v
  case user => intro n v; cases v <;> rfl
  case arr =>
    intro t ih v
    cases v with
    | arr xs =>
      rw [filter_arr_fst, filter_arr_fst, List.map_map]
      congr 1
      exact List.map_congr_left fun x _ => ih x
    | _ => by_cases hc : canFilter t = true <;> simp [filter, hc]
  case tmap =>
    intro t ih v
    cases v with
    | obj kvs =>
      rw [filter_tmap_fst, filter_tmap_fst, List.map_map]
      congr 1
      exact List.map_congr_left fun kv _ => by simp [ih]
    | _ => by_cases hc : canFilter t = true <;> simp [filter, hc]
  case struct =>
    intro n fs hn ih v
    cases v with
    | obj kvs =>
      rw [filter_struct_fst, filter_struct_fst]
      congr 1
      apply List.map_congr_left
      rintro ⟨k, t⟩ hkt
      rw [getKey_fields_out (fun kt => R.fieldOut kt.2 (getKey kt.1 kvs)) hn hkt]
      cases getKey k kvs <;> simp [fieldOut, filter_null, ih k t hkt]
    | _ => rfl

end Reading

theorem assignableFields_iff : ∀ (fs fs' : Fields),
    assignableFields fs fs' = true ↔
      ∀ k t, (k, t) ∈ fs.toList →
        ∃ t', fs'.get k = some t' ∧ dims t = dims t' ∧ assignable t t' = true
  | .nil, fs' => by simp [assignableFields, Fields.toList]
  | .cons k t r, fs' => by
    have ih := assignableFields_iff r fs'
    simp only [assignableFields, Bool.and_eq_true, ih, Fields.toList, List.mem_cons, Prod.mk.injEq]
    constructor
    · rintro ⟨h1, h2⟩ k' t' (⟨rfl, rfl⟩ | h)
      · cases hg : fs'.get k' with
        | none => simp [hg] at h1
        | some t'' => simp [hg] at h1; exact ⟨t'', rfl, h1⟩
      · exact h2 _ _ h
    · intro h
      refine ⟨?_, fun k' t' h' => h _ _ (Or.inr h')⟩
      obtain ⟨t', hg, hd, ha⟩ := h k t (Or.inl ⟨rfl, rfl⟩)
      simp [hg, hd, ha]

theorem noHoleFields_iff : ∀ (fs fs' : Fields),
    noHoleFields fs fs' = true ↔
      ∀ k t t', (k, t) ∈ fs.toList → fs'.get k = some t' → noHole t t' = true
  | .nil, fs' => by simp [noHoleFields, Fields.toList]
  | .cons k t r, fs' => by
    have ih := noHoleFields_iff r fs'
    simp only [noHoleFields, Bool.and_eq_true, ih, Fields.toList, List.mem_cons, Prod.mk.injEq]
    constructor
    · rintro ⟨h1, h2⟩ k' t' t'' (⟨rfl, rfl⟩ | h) hg
      · simpa [hg] using h1
      · exact h2 _ _ _ h hg
    · intro h
      refine ⟨?_, fun k' t' t'' h' hg => h _ _ _ (Or.inr h') hg⟩
      cases hg : fs'.get k with
      | none => rfl
      | some t' => exact h k t t' (Or.inl ⟨rfl, rfl⟩) hg

theorem pureNarrowFields_iff : ∀ (fs fs' : Fields),
    pureNarrowFields fs fs' = true ↔
      ∀ k t t', (k, t) ∈ fs.toList → fs'.get k = some t' → pureNarrow t t' = true
  | .nil, fs' => by simp [pureNarrowFields, Fields.toList]
  | .cons k t r, fs' => by
    have ih := pureNarrowFields_iff r fs'
    simp only [pureNarrowFields, Bool.and_eq_true, ih, Fields.toList, List.mem_cons, Prod.mk.injEq]
    constructor
    · rintro ⟨h1, h2⟩ k' t' t'' (⟨rfl, rfl⟩ | h) hg
      · simpa [hg] using h1
      · exact h2 _ _ _ h hg
    · intro h
      refine ⟨?_, fun k' t' t'' h' hg => h _ _ _ (Or.inr h') hg⟩
      cases hg : fs'.get k with
      | none => rfl
      | some t' => exact h k t t' (Or.inl ⟨rfl, rfl⟩) hg

theorem assignable_refl (t : Ty) : t.wf = true → assignable t t = true := by
  revert t
  apply Ty.induct_wf
  case base => intro b; cases b <;> rfl
  case user => intro n; simp [assignable]
  case arr => intro t ih; simpa [assignable] using ih
  case tmap => intro t ih; simpa [assignable] using ih
  case struct =>
    intro n fs hn ih
    simp only [assignable, assignableFields_iff]
    exact fun k t hkt => ⟨t, Fields.get_of_mem hn hkt, rfl, ih k t hkt⟩

theorem noHole_refl (t : Ty) : t.wf = true → noHole t t = true := by
  revert t
  apply Ty.induct_wf
  case base => intro b; rfl
  case user => intro n; rfl
  case arr => intro t ih; simpa [noHole] using ih
  case tmap => intro t ih; cases hd : isDirMap t <;> simp [noHole, ih, hd]
  case struct =>
    intro n fs hn ih
    simp only [noHole, noHoleFields_iff]
    intro k t t' hkt hg
    rw [Fields.get_of_mem hn hkt] at hg
    cases hg
    exact ih k t hkt

theorem assignable_arr_left_false (a : Ty) (b : Ty) (hb : notArr b = true) :
    assignable (.arr a) b = false := by
  cases b <;> simp [assignable, notArr] at hb ⊢

theorem assignable_arr_right_false (a : Ty) (b : Ty) (ha : notArr a = true) :
    assignable a (.arr b) = false := by
  cases a <;> simp [assignable, notArr] at ha ⊢

theorem assignable_arrN (a b : Ty) (ha : notArr a = true) (hb : notArr b = true) :
    ∀ n m, assignable (arrN n a) (arrN m b) = true ↔ n = m ∧ assignable a b = true
  | 0, 0 => by simp [arrN]
  | 0, m + 1 => by simp [arrN, assignable_arr_right_false a _ ha]
  | n + 1, 0 => by simp [arrN, assignable_arr_left_false _ b hb]
  | n + 1, m + 1 => by
    have := assignable_arrN a b ha hb n m
    simp only [arrN, assignable, this, Nat.add_right_cancel_iff]

namespace Reading
variable (R : Reading)

/-! ### filtering to a type assignable from the type the value was valid for -/

theorem valid_base_of_assignable (d : Base) (s : Ty) (v : J) (hs : R.valid s v = true)
    (ha : assignable (.base d) s = true) : R.valid (.base d) v = true := by
  cases s with
  | base s' =>
    simp only [assignable, assignableBase, Bool.or_eq_true, Bool.and_eq_true, beq_iff_eq] at ha
    rcases ha with (rfl | ⟨rfl, rfl | rfl⟩) | ⟨rfl, rfl⟩
    · exact hs
    · cases v <;> exact hs
    · cases v <;> exact hs
    · -- `float ← int`: an `int64` literal is a float
      cases v with
      | num n =>
        have hl : int64Lit n = true := by simpa [valid, check, checkBase] using hs
        simp [valid, check, checkBase, R.fin_of_int64Lit hl]
      | _ => exact hs
  | user n =>
    simp only [assignable, Bool.or_eq_true, beq_iff_eq] at ha
    rcases ha with rfl | rfl <;> cases v <;> first | rfl | simp [valid, check] at hs
  | struct n fs =>
    simp only [assignable, beq_iff_eq] at ha; subst ha
    cases v <;> first | rfl | simp [valid, check] at hs
  | tmap t =>
    simp only [assignable, beq_iff_eq] at ha; subst ha
    cases v <;> first | rfl | simp [valid, check] at hs
  | arr t => simp [assignable] at ha

theorem filterBase_of_valid (b : Base) (v : J) (h : R.valid (.base b) v = true) :
    R.filterBase b v = (v, .ok) := by
  cases R.shape_of_valid _ _ h with
  | null => cases b <;> rfl
  | int i hi => simp [filterBase_int_num, int64Lit, hi]
  | float n hn => simp [filterBase, hn]
  | _ => rfl

/-- Outside the two holes assignability is subsumption: a value of the shape of the source type has
the shape of the destination type as it stands. -/
theorem shape_of_assignable (d : Ty) : ∀ (s : Ty) (v : J), R.Shape s v →
    assignable d s = true → noHole d s = true → R.Shape d v := by
  induction d using Ty.induct' with
  | base b =>
    intro s v hs ha _
    exact R.shape_of_valid _ _ (R.valid_base_of_assignable b s v (R.valid_of_shape s v hs) ha)
  | user n =>
    intro s v hs ha _
    cases s with
    | base s' =>
      simp [assignable] at ha
      rcases ha with rfl | rfl <;> cases hs <;> constructor
    | user m => cases hs <;> constructor
    | _ => simp [assignable] at ha
  | arr d ih =>
    intro s v hs ha hn
    cases s with
    | arr s' =>
      simp only [assignable] at ha
      simp only [noHole] at hn
      cases hs with
      | null => constructor
      | arr _ xs hx => exact .arr _ _ fun x hxm => ih s' x (hx x hxm) ha hn
    | _ => simp [assignable] at ha
  | tmap d ih =>
    intro s v hs ha hn
    cases s with
    | tmap s' =>
      simp only [assignable] at ha
      simp only [noHole, Bool.and_eq_true, Bool.or_eq_true, Bool.not_eq_true'] at hn
      cases hs with
      | null => constructor
      | tmap _ kvs h1 h2 =>
        refine .tmap _ _ (fun kv hkv => ih s' kv.2 (h1 kv hkv) ha hn.2) fun hd => h2 ?_
        rcases hn.1 with h | h
        · rw [hd] at h; cases h
        · exact h
    | struct n fs => simp [noHole] at hn
    | _ => simp [assignable] at ha
  | struct n fs ih =>
    intro s v hs ha hn
    cases s with
    | struct n' fs' =>
      simp only [assignable, assignableFields_iff] at ha
      simp only [noHole, noHoleFields_iff] at hn
      cases hs with
      | null => constructor
      | struct _ _ kvs h1 h2 =>
        refine .struct _ _ _ (fun k t hkt => ?_) fun k t w hkt hw => ?_
        · obtain ⟨t', hg, _⟩ := ha k t hkt
          exact h1 k t' (Fields.get_mem hg)
        · obtain ⟨t', hg, _, hat⟩ := ha k t hkt
          exact ih k t hkt t' w (h2 k t' w (Fields.get_mem hg) hw) hat (hn k t t' hkt hg)
    | _ => simp [assignable] at ha

theorem shape_filter : ∀ t : Ty, t.wf = true → ∀ v, R.Shape t v → R.Shape t (R.filter t v).1 := by
  apply Ty.induct_wf
  case base =>
    intro b v hs
    simp only [filter, R.filterBase_of_valid b v (R.valid_of_shape _ v hs)]
    exact hs
  case user =>
    intro n v hs
    cases hs <;> constructor
  case arr =>
    intro t ih v hs
    cases hs with
    | null => rw [filter_null]; constructor
    | arr _ xs hx =>
      rw [filter_arr_fst]
      refine .arr _ _ fun y hy => ?_
      obtain ⟨x, hxm, rfl⟩ := List.mem_map.mp hy
      exact ih x (hx x hxm)
  case tmap =>
    intro t ih v hs
    cases hs with
    | null => rw [filter_null]; constructor
    | tmap _ kvs h1 h2 =>
      rw [filter_tmap_fst]
      refine .tmap _ _ (fun y hy => ?_) fun hd y hy => ?_
      · obtain ⟨kv, hkv, rfl⟩ := List.mem_map.mp hy
        exact ih kv.2 (h1 kv hkv)
      · obtain ⟨kv, hkv, rfl⟩ := List.mem_map.mp hy
        exact h2 hd kv hkv
  case struct =>
    intro n fs hnd ih v hs
    cases hs with
    | null => rw [filter_null]; constructor
    | struct _ _ kvs h1 h2 =>
      rw [filter_struct_fst]
      have hget := fun k t (hkt : (k, t) ∈ fs.toList) =>
        getKey_fields_out (fun kt => R.fieldOut kt.2 (getKey kt.1 kvs)) hnd hkt
      refine .struct _ _ _ (fun k t hkt => by rw [hget k t hkt]; rfl) fun k t w hkt hw => ?_
      rw [hget k t hkt] at hw
      cases hw
      have hsome := h1 k t hkt
      cases hgk : getKey k kvs with
      | none => simp [hgk] at hsome
      | some x => exact ih k t hkt x (h2 k t x hkt hgk)

theorem shape_filter_of_assignable (d : Ty) (hwf : d.wf = true) (s : Ty) (v : J) (hs : R.Shape s v)
    (ha : assignable d s = true) (hn : noHole d s = true) : R.Shape d (R.filter d v).1 :=
  R.shape_filter d hwf v (R.shape_of_assignable d s v hs ha hn)

/-! ### composition: valid values filter without error; narrowing chains -/

theorem filterFields_ok : ∀ (fs : Fields) (kvs : List (Bytes × J)),
    (∀ k t, (k, t) ∈ fs.toList → ∃ v, getKey k kvs = some v ∧ (R.filter t v).2 = .ok) →
    (R.filterFields fs kvs).2 = .ok
  | .nil, kvs, _ => rfl
  | .cons k t r, kvs, h => by
    have ih := filterFields_ok r kvs (fun k' t' hm => h k' t' (by simp [Fields.toList, hm]))
    obtain ⟨v, hv, hok⟩ := h k t (by simp [Fields.toList])
    simp only [filterFields, hv]
    by_cases hc : canFilter t = true
    · simp [hc, hok, ih, FErr.max]
    · simp [hc, ih]

theorem filter_ok_of_valid (t : Ty) : ∀ v, R.valid t v = true → (R.filter t v).2 = .ok := by
  induction t using Ty.induct' with
  | base b => intro v h; simp [filter, R.filterBase_of_valid b v h]
  | user n => intro v h; cases v <;> simp [valid, check] at h <;> rfl
  | arr t ih =>
    intro v h
    by_cases hc : canFilter t = true
    · cases R.shape_of_valid _ _ h with
      | null => simp [filter]
      | arr _ xs hx =>
        simp only [filter, hc, Bool.not_true, Bool.false_eq_true, ↓reduceIte]
        apply worstF_eq_ok
        rintro _ hm
        obtain ⟨x, hxm, rfl⟩ := List.mem_map.mp hm
        exact ih x (R.valid_of_shape _ _ (hx x hxm))
    · simp [filter, hc]
  | tmap t ih =>
    intro v h
    by_cases hc : canFilter t = true
    · cases R.shape_of_valid _ _ h with
      | null => simp [filter]
      | tmap _ kvs h1 _ =>
        simp only [filter, hc, Bool.not_true, Bool.false_eq_true, ↓reduceIte]
        apply worstF_eq_ok
        rintro _ hm
        obtain ⟨kv, hxm, rfl⟩ := List.mem_map.mp hm
        exact ih kv.2 (R.valid_of_shape _ _ (h1 kv hxm))
    · simp [filter, hc]
  | struct n fs ih =>
    intro v h
    cases R.shape_of_valid _ _ h with
    | null => rfl
    | struct _ _ kvs h1 h2 =>
      simp only [filter]
      apply filterFields_ok
      intro k t hkt
      have := h1 k t hkt
      cases hg : getKey k kvs with
      | none => simp [hg] at this
      | some x => exact ⟨x, rfl, ih k t hkt x (R.valid_of_shape _ _ (h2 k t x hkt hg))⟩

theorem filter_fst_of_valid_scalar (s : Ty) (v : J) (hs : R.valid s v = true)
    (hsc : (∃ b, s = .base b) ∨ ∃ n, s = .user n) : (R.filter s v).1 = v := by
  rcases hsc with ⟨b, rfl⟩ | ⟨n, rfl⟩
  · simp [filter, R.filterBase_of_valid b v hs]
  · cases v <;> rfl

theorem filter_chain : ∀ d : Ty, d.wf = true → ∀ (s : Ty) (v : J), s.wf = true →
    R.valid s v = true → assignable d s = true → pureNarrow d s = true →
    (R.filter d (R.filter s v).1).1 = (R.filter d v).1 := by
  apply Ty.induct_wf
  case base =>
    intro b s v _ hs ha hp
    cases s with
    | base s' => rw [R.filter_fst_of_valid_scalar _ v hs (Or.inl ⟨s', rfl⟩)]
    | user m => rw [R.filter_fst_of_valid_scalar _ v hs (Or.inr ⟨m, rfl⟩)]
    | struct n fs => simp [assignable] at ha; simp [pureNarrow, ha] at hp
    | tmap t => simp [assignable] at ha; simp [pureNarrow, ha] at hp
    | arr t => simp [assignable] at ha
  case user =>
    intro n s v _ hs ha _
    cases s with
    | base s' => rw [R.filter_fst_of_valid_scalar _ v hs (Or.inl ⟨s', rfl⟩)]
    | user m => rw [R.filter_fst_of_valid_scalar _ v hs (Or.inr ⟨m, rfl⟩)]
    | _ => simp [assignable] at ha
  case arr =>
    intro d ih s v hswf hs ha hp
    cases s with
    | arr s' =>
      simp only [assignable] at ha
      simp only [pureNarrow] at hp
      have hswf' : s'.wf = true := by simpa [Ty.wf] using hswf
      cases R.shape_of_valid _ _ hs with
      | null => rw [filter_null]
      | arr _ xs hx =>
        rw [filter_arr_fst, filter_arr_fst, filter_arr_fst, List.map_map]
        congr 1
        apply List.map_congr_left
        intro x hxm
        exact ih s' x hswf' (R.valid_of_shape _ _ (hx x hxm)) ha hp
    | _ => simp [assignable] at ha
  case tmap =>
    intro d ih s v hswf hs ha hp
    cases s with
    | tmap s' =>
      simp only [assignable] at ha
      simp only [pureNarrow] at hp
      have hswf' : s'.wf = true := by simpa [Ty.wf] using hswf
      cases R.shape_of_valid _ _ hs with
      | null => rw [filter_null]
      | tmap _ kvs h1 _ =>
        rw [filter_tmap_fst, filter_tmap_fst, filter_tmap_fst, List.map_map]
        congr 1
        apply List.map_congr_left
        intro kv hm
        simp only [Function.comp, Prod.mk.injEq, true_and]
        exact ih s' kv.2 hswf' (R.valid_of_shape _ _ (h1 kv hm)) ha hp
    | struct n fs => simp [pureNarrow] at hp
    | _ => simp [assignable] at ha
  case struct =>
    intro n fs _ ih s v hswf hs ha hp
    cases s with
    | struct n' fs' =>
      have hswf' := Fields.wf_iff.mp (by simpa [Ty.wf] using hswf)
      simp only [assignable, assignableFields_iff] at ha
      simp only [pureNarrow, pureNarrowFields_iff] at hp
      cases R.shape_of_valid _ _ hs with
      | null => rw [filter_null]
      | struct _ _ kvs h1 h2 =>
        rw [filter_struct_fst R n' fs' kvs, filter_struct_fst, filter_struct_fst]
        congr 1
        apply List.map_congr_left
        rintro ⟨k, t⟩ hkt
        simp only [Prod.mk.injEq, true_and]
        obtain ⟨t', hg, _, hat⟩ := ha k t hkt
        have hkt' := Fields.get_mem hg
        have hsome := h1 k t' hkt'
        cases hgk : getKey k kvs with
        | none => simp [hgk] at hsome
        | some x =>
          rw [getKey_fields_out (fun kt => R.fieldOut kt.2 (getKey kt.1 kvs)) hswf'.1 hkt', hgk]
          exact ih k t hkt t' x (hswf'.2 k t' hkt')
            (R.valid_of_shape _ _ (h2 k t' x hkt' hgk)) hat (hp k t t' hkt hg)
    | _ => simp [assignable] at ha

end Reading

/-! ### `noHole` is exact: on every other assignable pair a counterexample exists -/

theorem getKey_append_last (k : Bytes) (v : J) : ∀ (l : List (Bytes × J)),
    getKey k (l ++ [(k, v)]) = some v
  | [] => by simp [getKey]
  | (k', v') :: r => by simp [getKey, getKey_append_last k v r]

theorem getKey_append_ne {k k' : Bytes} (v : J) (h : k' ≠ k) : ∀ (l : List (Bytes × J)),
    getKey k (l ++ [(k', v)]) = getKey k l
  | [] => by simp [getKey, h]
  | (k'', v'') :: r => by simp [getKey, getKey_append_ne v h r]

theorem exists_fresh (fs : Fields) : ∃ k : Bytes, k ∉ fs.toList.map Prod.fst := by
  let n := ((fs.toList.map Prod.fst).map List.length).sum
  refine ⟨List.replicate (n + 1) 0x78, ?_⟩
  intro hm
  have : ∀ (ls : List Bytes) (x : Bytes), x ∈ ls → x.length ≤ (ls.map List.length).sum := by
    intro ls
    induction ls with
    | nil => intro x hx; cases hx
    | cons a r ih =>
      intro x hx
      simp only [List.map_cons, List.sum_cons]
      rcases List.mem_cons.mp hx with rfl | hx
      · omega
      · have := ih x hx; omega
  have := this _ _ hm
  simp only [List.length_replicate] at this
  omega

theorem getKey_fields_map_none (fs : Fields) (g : Bytes → J) {k : Bytes}
    (h : k ∉ fs.toList.map Prod.fst) :
    getKey k (fs.toList.map fun kt => (kt.1, g kt.1)) = none := by
  rw [getKey_eq_none_iff, keys_fields_out fs (fun kt => g kt.1)]
  exact h

namespace Reading
variable (R : Reading)

theorem exists_bad (d : Ty) : ∃ w, ¬ R.Shape d (R.filter d w).1 := by
  cases d with
  | base b =>
    by_cases hb : b = .bool
    · subst hb; exact ⟨.str [], by simp [filter, filterBase]; intro h; cases h⟩
    · refine ⟨.bool true, ?_⟩
      cases b <;> simp [filter, filterBase] at hb ⊢ <;> intro h <;> cases h
  | user n => exact ⟨.bool true, by simp [filter]; intro h; cases h⟩
  | arr t =>
    refine ⟨.bool true, ?_⟩
    by_cases hc : canFilter t = true <;> simp [filter, hc] <;> intro h <;> cases h
  | tmap t =>
    refine ⟨.bool true, ?_⟩
    by_cases hc : canFilter t = true <;> simp [filter, hc] <;> intro h <;> cases h
  | struct n fs => exact ⟨.bool true, by simp [filter]; intro h; cases h⟩

theorem noHole_exact : ∀ d : Ty, d.wf = true → ∀ s : Ty, s.wf = true → assignable d s = true →
    noHole d s = false → ∃ v, R.Shape s v ∧ ¬ R.Shape d (R.filter d v).1 := by
  apply Ty.induct_wf
  case base => intro b s _ _ hn; simp [noHole] at hn
  case user => intro n s _ _ hn; simp [noHole] at hn
  case arr =>
    intro d ih s hswf ha hn
    cases s with
    | arr s' =>
      simp only [assignable] at ha
      simp only [noHole] at hn
      obtain ⟨w, hw1, hw2⟩ := ih s' (by simpa [Ty.wf] using hswf) ha hn
      refine ⟨.arr [w], .arr _ _ (by simpa using hw1), ?_⟩
      rw [filter_arr_fst]
      intro h
      cases h with
      | arr _ _ hx => exact hw2 (hx _ (by simp))
    | _ => simp [assignable] at ha
  case tmap =>
    intro d ih s hswf ha hn
    cases s with
    | tmap s' =>
      simp only [assignable] at ha
      simp only [noHole, Bool.and_eq_false_iff, Bool.or_eq_false_iff, Bool.not_eq_false'] at hn
      rcases hn with ⟨hd, hs'⟩ | hn
      · -- F9: directory-like destination, source is not
        refine ⟨.obj [([0x61, 0x2F, 0x62], .null)], .tmap _ _ ?_ ?_, ?_⟩
        · intro kv hkv
          simp only [List.mem_singleton] at hkv
          subst hkv; exact .null _
        · intro h; rw [hs'] at h; cases h
        · rw [filter_tmap_fst]
          intro h
          cases h with
          | tmap _ _ _ h2 =>
            have : legalName [0x61, 0x2F, 0x62] = true :=
              h2 hd ([0x61, 0x2F, 0x62], (R.filter d .null).1) (by simp)
            revert this; decide
      · obtain ⟨w, hw1, hw2⟩ := ih s' (by simpa [Ty.wf] using hswf) ha hn
        refine ⟨.obj [([0x6B], w)], .tmap _ _ ?_ ?_, ?_⟩
        · intro kv hkv
          simp only [List.mem_singleton] at hkv
          subst hkv; exact hw1
        · intro _ kv hkv
          simp only [List.mem_singleton] at hkv
          subst hkv; show legalName [0x6B] = true; decide
        · rw [filter_tmap_fst]
          intro h
          cases h with
          | tmap _ _ h1 _ => exact hw2 (h1 ([0x6B], (R.filter d w).1) (by simp))
    | struct n fs' =>
      -- F10: an undeclared member with a value the map's element type does not accept
      have hswf' := Fields.wf_iff.mp (by simpa [Ty.wf] using hswf)
      obtain ⟨fresh, hfresh⟩ := exists_fresh fs'
      obtain ⟨bad, hbad⟩ := R.exists_bad d
      have hb : ∀ k t, (k, t) ∈ fs'.toList →
          getKey k (fs'.toList.map fun kt => (kt.1, J.null)) = some .null :=
        fun k t h => getKey_fields_out (fun _ => J.null) hswf'.1 h
      have hne : ∀ k t, (k, t) ∈ fs'.toList → fresh ≠ k := by
        rintro k t hkt rfl; exact hfresh (List.mem_map.mpr ⟨(fresh, t), hkt, rfl⟩)
      refine ⟨.obj ((fs'.toList.map fun kt => (kt.1, J.null)) ++ [(fresh, bad)]), .struct _ _ _ ?_ ?_, ?_⟩
      · intro k t hkt
        rw [getKey_append_ne _ (hne k t hkt), hb k t hkt]; rfl
      · intro k t v hkt hg
        rw [getKey_append_ne _ (hne k t hkt), hb k t hkt] at hg
        cases hg; exact .null _
      · rw [filter_tmap_fst]
        intro h
        cases h with
        | tmap _ _ h1 _ =>
          exact hbad (h1 (fresh, (R.filter d bad).1) (by simp))
    | _ => simp [assignable] at ha
  case struct =>
    intro n fs hnd ih s hswf ha hn
    cases s with
    | struct n' fs' =>
      have hswf' := Fields.wf_iff.mp (by simpa [Ty.wf] using hswf)
      simp only [assignable, assignableFields_iff] at ha
      have hex : ∃ k t t', (k, t) ∈ fs.toList ∧ fs'.get k = some t' ∧ noHole t t' = false := by
        apply Classical.byContradiction
        intro hne
        have : noHoleFields fs fs' = true := by
          rw [noHoleFields_iff]
          intro k t t' hkt hg
          cases hh : noHole t t' with
          | true => rfl
          | false => exact absurd ⟨k, t, t', hkt, hg, hh⟩ hne
        simp [noHole, this] at hn
      obtain ⟨k, t, t', hkt, hg, hh⟩ := hex
      have hkt' := Fields.get_mem hg
      obtain ⟨_, hg', _, hat⟩ := ha k t hkt
      rw [hg] at hg'; cases hg'
      obtain ⟨w, hw1, hw2⟩ := ih k t hkt t' (hswf'.2 k t' hkt') hat hh
      -- every member of the source `null`, except `k`, which holds the counterexample
      let g : Bytes × Ty → J := fun kt => if kt.1 = k then w else .null
      refine ⟨.obj (fs'.toList.map fun kt => (kt.1, g kt)), .struct _ _ _ ?_ ?_, ?_⟩
      · intro k' t'' h; rw [getKey_fields_out g hswf'.1 h]; rfl
      · intro k' t'' v h hgv
        rw [getKey_fields_out g hswf'.1 h] at hgv
        cases hgv
        by_cases hk : k' = k
        · subst hk
          have : t'' = t' := by
            have := Fields.get_of_mem hswf'.1 h
            rw [hg] at this; cases this; rfl
          subst this
          simp [g, hw1]
        · simp [g, hk]; exact .null _
      · rw [filter_struct_fst]
        intro h
        cases h with
        | struct _ _ _ _ h2 =>
          have := h2 k t _ hkt (getKey_fields_out _ hnd hkt)
          rw [getKey_fields_out g hswf'.1 hkt'] at this
          simp only [fieldOut, g, ↓reduceIte] at this
          exact hw2 this
    | _ => simp [assignable] at ha

theorem filter_valid_of_assignable (d s : Ty) (v : J) (hwf : d.wf = true) (hs : R.valid s v = true)
    (ha : assignable d s = true) (hn : noHole d s = true) : R.valid d (R.filter d v).1 = true :=
  R.valid_of_shape _ _ (R.shape_filter_of_assignable d hwf s v (R.shape_of_valid s v hs) ha hn)

theorem filter_valid_of_assignable_iff (d s : Ty) (hd : d.wf = true) (hs : s.wf = true)
    (ha : assignable d s = true) :
    (∀ v, R.valid s v = true → R.valid d (R.filter d v).1 = true) ↔ noHole d s = true := by
  constructor
  · intro h
    cases hn : noHole d s with
    | true => rfl
    | false =>
      obtain ⟨v, hv1, hv2⟩ := R.noHole_exact d hd s hs ha hn
      exact absurd (R.shape_of_valid _ _ (h v (R.valid_of_shape _ _ hv1))) hv2
  · exact fun hn v hv => R.filter_valid_of_assignable d s v hd hv ha hn

theorem congrFields {R R' : Reading} {P : J → Prop} (kvs : List (Bytes × J)) (hk : ∀ kv, kv ∈ kvs → P kv.2) :
    ∀ (fs : Fields), (∀ k t, (k, t) ∈ fs.toList →
        ∀ v, P v → R.check t v = R'.check t v ∧ R.filter t v = R'.filter t v) →
      R.checkFields fs kvs = R'.checkFields fs kvs ∧ R.filterFields fs kvs = R'.filterFields fs kvs
  | .nil, _ => ⟨rfl, rfl⟩
  | .cons k t r, ih => by
    obtain ⟨hc, hf⟩ := congrFields kvs hk r fun k' t' hm => ih k' t' (by simp [Fields.toList, hm])
    simp only [checkFields, filterFields, hc, hf]
    cases hg : getKey k kvs with
    | none => exact ⟨rfl, rfl⟩
    | some v =>
      obtain ⟨h1, h2⟩ := ih k t (by simp [Fields.toList]) v (hk (k, v) (getKey_mem hg))
      simp only [h1, h2, and_self]

/-- Two readings that agree at the builtin types on every value of a class `P` closed under taking
elements and member values agree on `P` at every type: verdict, filtered value and error class. -/
theorem congr {R R' : Reading} {P : J → Prop}
    (hb : ∀ b v, P v → R.checkBase b v = R'.checkBase b v ∧ R.filterBase b v = R'.filterBase b v)
    (harr : ∀ xs, P (.arr xs) → ∀ x, x ∈ xs → P x)
    (hobj : ∀ kvs, P (.obj kvs) → ∀ kv, kv ∈ kvs → P kv.2) (t : Ty) :
    ∀ v, P v → R.check t v = R'.check t v ∧ R.filter t v = R'.filter t v := by
  induction t using Ty.induct' with
  | base b => intro v h; simp only [check, filter]; exact hb b v h
  | user n => intro v _; cases v <;> exact ⟨rfl, rfl⟩
  | arr t ih =>
    intro v h
    cases v with
    | arr xs =>
      have e := fun x hx => ih x (harr xs h x hx)
      have e1 : xs.map (fun x => R.check t x) = xs.map fun x => R'.check t x :=
        List.map_congr_left fun x hx => (e x hx).1
      have e2 : xs.map (fun x => R.filter t x) = xs.map fun x => R'.filter t x :=
        List.map_congr_left fun x hx => (e x hx).2
      have e3 := congrArg (List.map Prod.fst) e2
      have e4 := congrArg (List.map Prod.snd) e2
      simp only [List.map_map, Function.comp_def] at e3 e4
      simp only [check, filter, e1, e3, e4, and_self]
    | _ => exact ⟨rfl, rfl⟩
  | tmap t ih =>
    intro v h
    cases v with
    | obj kvs =>
      have e := fun kv hkv => ih kv.2 (hobj kvs h kv hkv)
      have e1 : kvs.map (fun kv => (R.check t kv.2).max (if isDirMap t && !legalName kv.1 then .error else .ok))
          = kvs.map fun kv => (R'.check t kv.2).max (if isDirMap t && !legalName kv.1 then .error else .ok) :=
        List.map_congr_left fun kv hkv => by rw [(e kv hkv).1]
      have e2 : kvs.map (fun kv => (kv.1, (R.filter t kv.2).1)) = kvs.map fun kv => (kv.1, (R'.filter t kv.2).1) :=
        List.map_congr_left fun kv hkv => by rw [(e kv hkv).2]
      have e3 : kvs.map (fun kv => (R.filter t kv.2).2) = kvs.map fun kv => (R'.filter t kv.2).2 :=
        List.map_congr_left fun kv hkv => by rw [(e kv hkv).2]
      simp only [check, filter, e1, e2, e3, and_self]
    | _ => exact ⟨rfl, rfl⟩
  | struct n fs ih =>
    intro v h
    cases v with
    | obj kvs =>
      obtain ⟨hc, hf⟩ := congrFields (R := R) (R' := R') kvs (hobj kvs h) fs ih
      simp only [check, filter, hc, hf, and_self]
    | _ => exact ⟨rfl, rfl⟩

theorem checkFields_dedupLast : ∀ (fs : Fields) (kvs : List (Bytes × J)),
    R.checkFields fs (dedupLast kvs) = R.checkFields fs kvs
  | .nil, _ => rfl
  | .cons k t r, kvs => by
    simp only [checkFields, getKey_dedupLast, checkFields_dedupLast r kvs]

theorem filterFields_dedupLast : ∀ (fs : Fields) (kvs : List (Bytes × J)),
    R.filterFields fs (dedupLast kvs) = R.filterFields fs kvs
  | .nil, _ => rfl
  | .cons k t r, kvs => by
    simp only [filterFields, getKey_dedupLast, filterFields_dedupLast r kvs]

end Reading

/-! ### filtering does EXACTLY this (typed, exact counterpart of `filter_drops`) -/

theorem dropsTL_map (Rel : Num → Int → Prop) (t : Ty) (f : J → J) : ∀ (xs : List J),
    (∀ x, x ∈ xs → DropsT Rel t (f x) x) → DropsTL Rel t (xs.map f) xs
  | [], _ => .nil t
  | x :: r, h => .cons (h x (by simp)) (dropsTL_map Rel t f r (fun y hy => h y (by simp [hy])))

theorem dropsTM_map (Rel : Num → Int → Prop) (t : Ty) (f : J → J) : ∀ (kvs : List (Bytes × J)),
    (∀ kv, kv ∈ kvs → DropsT Rel t (f kv.2) kv.2) → DropsTM Rel t (kvs.map fun kv => (kv.1, f kv.2)) kvs
  | [], _ => .nil t
  | (k, v) :: r, h => .cons (h (k, v) (by simp)) (dropsTM_map Rel t f r (fun y hy => h y (by simp [hy])))

namespace Reading
variable (R : Reading)

theorem filterFields_dropsTF (Rel : Num → Int → Prop) (kvs : List (Bytes × J)) : ∀ (fs : Fields),
    (∀ k t, (k, t) ∈ fs.toList → ∀ v, (R.filter t v).2 ≠ .fatal → DropsT Rel t (R.filter t v).1 v) →
    (R.filterFields fs kvs).2 ≠ .fatal → DropsTF Rel fs kvs (R.filterFields fs kvs).1
  | .nil, _, _ => by simp only [filterFields]; exact .nil kvs
  | .cons k t r, ih, h => by
    simp only [filterFields] at h ⊢
    cases hg : getKey k kvs with
    | none => simp [hg] at h
    | some v =>
      simp only [hg] at h ⊢
      by_cases hc : canFilter t = true
      · simp only [hc, ↓reduceIte] at h ⊢
        rw [FErr.max_ne_fatal] at h
        exact .filtered hg hc (ih k t (by simp [Fields.toList]) v h.1)
          (filterFields_dropsTF Rel kvs r (fun k' t' hm => ih k' t' (by simp [Fields.toList, hm])) h.2)
      · have hc' : canFilter t = false := by simpa using hc
        simp only [hc', Bool.false_eq_true, ↓reduceIte] at h ⊢
        exact .copied hg hc'
          (filterFields_dropsTF Rel kvs r (fun k' t' hm => ih k' t' (by simp [Fields.toList, hm])) h)

theorem filter_dropsT {Rel : Num → Int → Prop} (hrel : ∀ n i, R.toInt? n = some i → Rel n i)
    (t : Ty) : ∀ v, (R.filter t v).2 ≠ .fatal → DropsT Rel t (R.filter t v).1 v := by
  induction t using Ty.induct' with
  | base b =>
    intro v h
    simp only [filter] at h ⊢
    by_cases hb : b = .int
    · subst hb
      cases v with
      | null => exact .null _
      | num n =>
        rw [filterBase_int_num] at h ⊢
        by_cases hl : int64Lit n = true
        · simp only [hl, ↓reduceIte]
          cases n with
          | int i => exact .intLit i hl
          | flt m e => cases hl
        · cases hi : R.toInt? n with
          | none => simp [hl, hi] at h
          | some j => simp only [hl, Bool.false_eq_true, ↓reduceIte]; exact .intRewrite _ j (hrel n j hi)
      | _ => exact absurd rfl h
    · rw [filterBase_fst_of_ne_int R b _ hb]
      exact .keep _ _ (by cases b <;> first | rfl | exact absurd rfl hb)
  | user n =>
    intro v _
    have : (R.filter (.user n) v).1 = v := by cases v <;> rfl
    rw [this]; exact .keep _ _ rfl
  | arr t ih =>
    intro v
    generalize hT : Ty.arr t = T
    fun_cases Reading.filter R T v <;> cases hT <;> intro h
    · rename_i hc; exact .keep _ _ (show canFilter t = false by simpa using hc)
    · exact .null _
    · rename_i xs hc
      rw [worstF_ne_fatal] at h
      exact .arr t xs _ (by simpa using hc) (dropsTL_map _ t (fun x => (R.filter t x).1) xs
        (fun x hx => ih x (h _ (List.mem_map.mpr ⟨x, hx, rfl⟩))))
    · exact absurd rfl h
  | tmap t ih =>
    intro v
    generalize hT : Ty.tmap t = T
    fun_cases Reading.filter R T v <;> cases hT <;> intro h
    · rename_i hc; exact .keep _ _ (show canFilter t = false by simpa using hc)
    · exact .null _
    · rename_i kvs hc
      rw [worstF_ne_fatal] at h
      exact .tmap t kvs _ (by simpa using hc) (dropsTM_map _ t (fun x => (R.filter t x).1) kvs
        (fun kv hkv => ih kv.2 (h _ (List.mem_map.mpr ⟨kv, hkv, rfl⟩))))
    · exact absurd rfl h
  | struct n fs ih =>
    intro v
    generalize hT : Ty.struct n fs = T
    fun_cases Reading.filter R T v <;> cases hT <;> intro h
    · exact .null _
    · exact .struct n fs _ _ (R.filterFields_dropsTF _ _ fs ih h)
    · exact absurd rfl h

end Reading

/-- The rules of `Drops` (and of `TypesR.Drops`), for an untyped relation `D` with its list companions:
whatever is closed under them contains `DropsT` – the exact description of a filtered value implies
the upper bound. -/
structure DropsRules (Rel : Num → Int → Prop) (D : J → J → Prop) (DL : List J → List J → Prop)
    (DO : List (Bytes × J) → List (Bytes × J) → Prop) : Prop where
  refl : ∀ v, D v v
  int : ∀ n i, Rel n i → D (.num (.int i)) (.num n)
  arr : ∀ {ys xs}, DL ys xs → D (.arr ys) (.arr xs)
  obj : ∀ {out kvs}, DO out kvs → D (.obj out) (.obj kvs)
  nilL : DL [] []
  consL : ∀ {y x ys xs}, D y x → DL ys xs → DL (y :: ys) (x :: xs)
  nilO : ∀ kvs, DO [] kvs
  consO : ∀ {k y x rest kvs}, (k, x) ∈ kvs → D y x → DO rest kvs → DO ((k, y) :: rest) kvs

section
variable {Rel : Num → Int → Prop} {D : J → J → Prop} {DL : List J → List J → Prop}
  {DO : List (Bytes × J) → List (Bytes × J) → Prop}

mutual
theorem DropsT.rel (H : DropsRules Rel D DL DO) : ∀ {t r v}, DropsT Rel t r v → D r v
  | _, _, _, .keep _ v _ => H.refl v
  | _, _, _, .null _ => H.refl _
  | _, _, _, .intLit v _ => H.refl _
  | _, _, _, .intRewrite n i h => H.int n i h
  | _, _, _, .arr _ _ _ _ h => H.arr (DropsTL.rel H h)
  | _, _, _, .tmap _ kvs _ _ h => H.obj (DropsTM.rel H h kvs fun _ hm => hm)
  | _, _, _, .struct _ _ _ _ h => H.obj (DropsTF.rel H h)
theorem DropsTL.rel (H : DropsRules Rel D DL DO) : ∀ {t ys xs}, DropsTL Rel t ys xs → DL ys xs
  | _, _, _, .nil _ => H.nilL
  | _, _, _, .cons h hr => H.consL (DropsT.rel H h) (DropsTL.rel H hr)
theorem DropsTM.rel (H : DropsRules Rel D DL DO) : ∀ {t ys xs}, DropsTM Rel t ys xs →
    ∀ kvs, (∀ kv, kv ∈ xs → kv ∈ kvs) → DO ys kvs
  | _, _, _, .nil _, kvs, _ => H.nilO kvs
  | _, _, _, .cons h hr, kvs, hs =>
    H.consO (hs _ List.mem_cons_self) (DropsT.rel H h) (DropsTM.rel H hr kvs fun kv hm => hs kv (List.mem_cons_of_mem _ hm))
theorem DropsTF.rel (H : DropsRules Rel D DL DO) : ∀ {fs kvs out}, DropsTF Rel fs kvs out → DO out kvs
  | _, _, _, .nil kvs => H.nilO kvs
  | _, _, _, .filtered hg _ h hr => H.consO (getKey_mem hg) (DropsT.rel H h) (DropsTF.rel H hr)
  | _, _, _, .copied hg _ hr => H.consO (getKey_mem hg) (H.refl _) (DropsTF.rel H hr)
end
end

theorem arrayDim_eq_of_assignable (d : Ty) : ∀ s, assignable d s = true → (dims d).1 = (dims s).1 := by
  induction d using Ty.induct' with
  | arr d ih =>
    intro s h
    cases s <;> simp [assignable] at h
    case arr s' => simp [dims, ih s' h]
  | _ => intro s h; cases s <;> simp [assignable] at h <;> simp [dims]

theorem dims_eq_of_assignable (d : Ty) : ∀ s, assignable d s = true → mapCoercion d s = false →
    dims d = dims s := by
  induction d using Ty.induct' with
  | base b =>
    intro s h hm
    cases s <;> simp [assignable] at h <;> simp [dims]
    case tmap t => subst h; simp [mapCoercion] at hm
  | user n => intro s h _; cases s <;> simp [assignable] at h <;> simp [dims]
  | arr d ih =>
    intro s h hm
    cases s <;> simp [assignable] at h
    case arr s' =>
      simp only [mapCoercion] at hm
      simp [dims, ih s' h hm]
  | tmap d _ =>
    intro s h hm
    cases s <;> simp [assignable] at h
    case tmap s' => simp [dims, arrayDim_eq_of_assignable d s' h]
    case struct n fs => simp [mapCoercion] at hm
  | struct n fs _ => intro s h _; cases s <;> simp [assignable] at h <;> simp [dims]

/-! ## `Martian.Types` is the model under the exact reading -/

/-- the integer written for a numeral by the exact-decimal model: a float-syntax literal whose
value is an integer within `int64` is rewritten, nothing else -/
def exactInt? : Num → Option Int
  | .int _ => none
  | .flt m e =>
    match (Num.flt m e).intValue? with
    | some i => if Num.inInt64 i then some i else none
    | none => none

theorem exactInt?_eq_some {n : Num} {i : Int} (h : exactInt? n = some i) :
    ∃ m e, n = .flt m e ∧ (Num.flt m e).intValue? = some i ∧ Num.inInt64 i = true := by
  cases n with
  | int v => cases h
  | flt m e =>
    simp only [exactInt?] at h
    split at h
    · rename_i j hj
      split at h
      · rename_i hr; cases h; exact ⟨m, e, rfl, hj, hr⟩
      · cases h
    · cases h

def Reading.exact : Reading where
  fin _ := true
  toInt? := exactInt?
  toInt?_inInt64 h := by obtain ⟨_, _, _, _, hr⟩ := exactInt?_eq_some h; exact hr
  fin_of_int64Lit _ := rfl

theorem checkBase_eq (b : Base) (v : J) : checkBase b v = Reading.exact.checkBase b v := by
  cases v with
  | num n => cases b <;> cases n <;> rfl
  | _ => cases b <;> rfl

theorem filterBase_eq (b : Base) (v : J) : filterBase b v = Reading.exact.filterBase b v := by
  cases v with
  | num n =>
    cases b <;> try rfl
    rw [Reading.filterBase_int_num]
    cases n with
    | int i => cases hr : Num.inInt64 i <;> simp [filterBase, int64Lit, hr, Reading.exact, exactInt?]
    | flt m e =>
      simp only [filterBase, int64Lit, Reading.exact, exactInt?]
      cases (Num.flt m e).intValue? with
      | none => rfl
      | some i => cases hr : Num.inInt64 i <;> simp [hr]
  | _ => cases b <;> rfl

mutual
  theorem check_eq : ∀ (t : Ty) (v : J), check t v = Reading.exact.check t v
    | .base b, v => by simp only [check, Reading.check, checkBase_eq]
    | .user _, v => by cases v <;> rfl
    | .arr t, v => by cases v <;> simp only [check, Reading.check, check_eq t]
    | .tmap t, v => by cases v <;> simp only [check, Reading.check, check_eq t]
    | .struct _ fs, v => by cases v <;> simp only [check, Reading.check, checkFields_eq fs]
  theorem checkFields_eq : ∀ (fs : Fields) (kvs : List (Bytes × J)),
      checkFields fs kvs = Reading.exact.checkFields fs kvs
    | .nil, _ => rfl
    | .cons k t r, kvs => by
      simp only [checkFields, Reading.checkFields, check_eq t, checkFields_eq r]
      cases getKey k kvs <;> rfl
end

mutual
  theorem filter_eq : ∀ (t : Ty) (v : J), filter t v = Reading.exact.filter t v
    | .base b, v => by simp only [filter, Reading.filter, filterBase_eq]
    | .user _, v => by cases v <;> rfl
    | .arr t, v => by cases v <;> simp only [filter, Reading.filter, filter_eq t]
    | .tmap t, v => by cases v <;> simp only [filter, Reading.filter, filter_eq t]
    | .struct _ fs, v => by cases v <;> simp only [filter, Reading.filter, filterFields_eq fs]
  theorem filterFields_eq : ∀ (fs : Fields) (kvs : List (Bytes × J)),
      filterFields fs kvs = Reading.exact.filterFields fs kvs
    | .nil, _ => rfl
    | .cons k t r, kvs => by
      simp only [filterFields, Reading.filterFields, filter_eq t, filterFields_eq r]
      cases getKey k kvs <;> rfl
end

theorem valid_eq (t : Ty) (v : J) : valid t v = Reading.exact.valid t v := by
  simp only [valid, Reading.valid, check_eq]

theorem shape_iff {t : Ty} {v : J} : Shape t v ↔ Reading.exact.Shape t v := by
  constructor <;> intro h <;> induction h <;> constructor <;> first | assumption | rfl

theorem checkFields_ok_iff : ∀ (fs : Fields) (kvs : List (Bytes × J)),
    checkFields fs kvs = .ok ↔
      ∀ k t, (k, t) ∈ fs.toList → ∃ v, getKey k kvs = some v ∧ check t v = .ok := by
  simp only [checkFields_eq, check_eq]; exact Reading.exact.checkFields_ok_iff

theorem valid_null (t : Ty) : valid t .null = true := by
  rw [valid_eq]; exact Reading.exact.valid_null t

theorem shape_of_valid : ∀ (t : Ty) (v : J), valid t v = true → Shape t v := by
  intro t v h
  rw [valid_eq] at h; exact shape_iff.mpr (Reading.exact.shape_of_valid t v h)

theorem valid_of_shape : ∀ (t : Ty) (v : J), Shape t v → valid t v = true := by
  intro t v h
  rw [valid_eq]; exact Reading.exact.valid_of_shape t v (shape_iff.mp h)

theorem filter_null (t : Ty) : filter t .null = (.null, .ok) := by
  rw [filter_eq]; exact Reading.exact.filter_null t

theorem filterBase_fst_of_ne_int (b : Base) (v : J) (h : b ≠ .int) : (filterBase b v).1 = v := by
  rw [filterBase_eq]; exact Reading.exact.filterBase_fst_of_ne_int b v h

theorem filterBase_idem (b : Base) (v : J) :
    (filterBase b (filterBase b v).1).1 = (filterBase b v).1 := by
  simp only [filterBase_eq]; exact Reading.exact.filterBase_idem b v

theorem filterBase_of_valid (b : Base) (v : J) (h : valid (.base b) v = true) :
    filterBase b v = (v, .ok) := by
  rw [filterBase_eq]; exact Reading.exact.filterBase_of_valid b v (valid_eq _ v ▸ h)

theorem filter_fst_of_not_canFilter (t : Ty) (v : J) (h : canFilter t = false) :
    (filter t v).1 = v := by
  rw [filter_eq]; exact Reading.exact.filter_fst_of_not_canFilter t v h

theorem filter_arr_fst (t : Ty) (xs : List J) :
    (filter (.arr t) (.arr xs)).1 = .arr (xs.map (fun x => (filter t x).1)) := by
  simp only [filter_eq]; exact Reading.exact.filter_arr_fst t xs

theorem filter_tmap_fst (t : Ty) (kvs : List (Bytes × J)) :
    (filter (.tmap t) (.obj kvs)).1 = .obj (kvs.map (fun kv => (kv.1, (filter t kv.2).1))) := by
  simp only [filter_eq]; exact Reading.exact.filter_tmap_fst t kvs

def fieldOut (t : Ty) : Option J → J
  | none => .null
  | some v => (filter t v).1

theorem fieldOut_eq (t : Ty) (o : Option J) : fieldOut t o = Reading.exact.fieldOut t o := by
  cases o <;> simp only [fieldOut, Reading.fieldOut, filter_eq]

theorem filterFields_fst : ∀ (fs : Fields) (kvs : List (Bytes × J)),
    (filterFields fs kvs).1 = fs.toList.map (fun kt => (kt.1, fieldOut kt.2 (getKey kt.1 kvs))) := by
  simp only [filterFields_eq, fieldOut_eq]; exact Reading.exact.filterFields_fst

theorem filter_struct_fst (n : Bytes) (fs : Fields) (kvs : List (Bytes × J)) :
    (filter (.struct n fs) (.obj kvs)).1 =
      .obj (fs.toList.map (fun kt => (kt.1, fieldOut kt.2 (getKey kt.1 kvs)))) := by
  simp only [filter_eq, fieldOut_eq]; exact Reading.exact.filter_struct_fst n fs kvs

theorem filter_idem (t : Ty) : t.wf = true → ∀ v, (filter t (filter t v).1).1 = (filter t v).1 := by
  simp only [filter_eq]; exact Reading.exact.filter_idem t

theorem shape_filter_of_assignable (d : Ty) : d.wf = true → ∀ (s : Ty) (v : J), Shape s v →
    assignable d s = true → noHole d s = true → Shape d (filter d v).1 := by
  simp only [filter_eq, shape_iff]; exact Reading.exact.shape_filter_of_assignable d

theorem shape_of_assignable (d : Ty) : ∀ (s : Ty) (v : J), Shape s v →
    assignable d s = true → noHole d s = true → Shape d v := by
  simp only [shape_iff]; exact Reading.exact.shape_of_assignable d

theorem shape_filter (t : Ty) : t.wf = true → ∀ v, Shape t v → Shape t (filter t v).1 := by
  simp only [filter_eq, shape_iff]; exact Reading.exact.shape_filter t

theorem filterFields_ok : ∀ (fs : Fields) (kvs : List (Bytes × J)),
    (∀ k t, (k, t) ∈ fs.toList → ∃ v, getKey k kvs = some v ∧ (filter t v).2 = .ok) →
    (filterFields fs kvs).2 = .ok := by
  simp only [filter_eq, filterFields_eq]; exact Reading.exact.filterFields_ok

theorem filter_ok_of_valid (t : Ty) : ∀ v, valid t v = true → (filter t v).2 = .ok := by
  simp only [filter_eq, valid_eq]; exact Reading.exact.filter_ok_of_valid t

theorem filter_chain (d : Ty) : d.wf = true → ∀ (s : Ty) (v : J), s.wf = true → valid s v = true →
    assignable d s = true → pureNarrow d s = true →
    (filter d (filter s v).1).1 = (filter d v).1 := by
  simp only [filter_eq, valid_eq]; exact Reading.exact.filter_chain d

theorem filter_fst_of_valid_scalar (s : Ty) (v : J) (hs : valid s v = true)
    (hsc : (∃ b, s = .base b) ∨ ∃ n, s = .user n) : (filter s v).1 = v := by
  rw [filter_eq]; exact Reading.exact.filter_fst_of_valid_scalar s v (valid_eq s v ▸ hs) hsc

theorem noHole_exact (d : Ty) : d.wf = true → ∀ s : Ty, s.wf = true → assignable d s = true →
    noHole d s = false → ∃ v, Shape s v ∧ ¬ Shape d (filter d v).1 := by
  simp only [filter_eq, shape_iff]; exact Reading.exact.noHole_exact d

theorem checkFields_dedupLast : ∀ (fs : Fields) (kvs : List (Bytes × J)),
    checkFields fs (dedupLast kvs) = checkFields fs kvs := by
  simp only [checkFields_eq]; exact Reading.exact.checkFields_dedupLast

theorem filterFields_dedupLast : ∀ (fs : Fields) (kvs : List (Bytes × J)),
    filterFields fs (dedupLast kvs) = filterFields fs kvs := by
  simp only [filterFields_eq]; exact Reading.exact.filterFields_dedupLast

theorem filter_dropsT (t : Ty) : ∀ v, (filter t v).2 ≠ .fatal → DropsT exactRewrite t (filter t v).1 v := by
  simp only [filter_eq]
  refine Reading.exact.filter_dropsT ?_ t
  intro n i h
  obtain ⟨m, e, rfl, hi, hr⟩ := exactInt?_eq_some h
  exact ⟨hi, hr⟩

theorem filter_drops (t : Ty) : ∀ v, (filter t v).2 ≠ .fatal → Drops (filter t v).1 v := fun v h =>
  (filter_dropsT t v h).rel (DL := DropsL) (DO := DropsO)
    ⟨.refl, fun n i h => by
        cases n with
        | int v => obtain ⟨h1, _⟩ := h; cases h1; exact .refl _
        | flt m e => exact .int m e i h.1 h.2,
      .arr, .obj, .nil, .cons, .nil, .cons⟩

end Martian.Types
