/-
C01 — the refinement "two-phase resolver = den" with map calls of STAGES over collections
whose SIZE IS KNOWN AFTER RESOLUTION: array and typed-map literals, written at the call or
handed down through pipeline inputs (`split self.xs` where the enclosing call binds `xs`
to a literal).  Where Proofs/ResolverStaticMap.lean asks for array literals at the call, here
the static shape of every map call instance is a decidable condition on the static
phase itself (`staticProgramOk`), and den's index set is that of the narrowed value
(`indicesOf_narrow_lift`, from `narrow_arrTy_indices` / `narrow_mapTy_indices`).  The typing
`WellTypedG` is not implied by `WellTypedM` (`MappedOk` does not ask every split binding to name a declared
parameter, `MappedOkG` does).
`callMode_of_ty`; the mapped step is that of Proofs/ResolverStaticMap.lean, through `Flat.mappedFacts_G`; the
fragment's dispatch `Flat.callsStep_G` and the theorem `twoPhaseG_eq_den_F`.
-/
import Proofs.ResolverStaticMap

namespace Proofs.ResolverStatic
open Martian.Dataflow Martian.Resolver Martian.ResolverForks Martian.ResolverStatic Proofs.Dataflow
  Proofs.ResolverForks

theorem narrow_arr_inv {st : StructTable} {F : Nat} (hF : NarrowFix st F) (b : String) (m a : Nat)
    (v : J) (ys : List J) (h : narrow st F ⟨b, m, a + 1⟩ v = .arr ys) :
    ∃ xs, v = .arr xs ∧ xs.length = ys.length := by
  cases v with
  | arr xs =>
    rw [narrow_arr hF] at h
    simp only [J.arr.injEq] at h
    exact ⟨xs, rfl, by rw [← h]; simp⟩
  | null => rw [narrow_null hF] at h; cases h
  | dnull => rw [narrow_dnull hF] at h; cases h
  | atom s =>
    have : narrow st F ⟨b, m, a + 1⟩ (.atom s) = .null := by rw [hF]; simp [atBase, mapArr]
    rw [this] at h; cases h
  | obj kvs =>
    have : narrow st F ⟨b, m, a + 1⟩ (.obj kvs) = .null := by rw [hF]; simp [atBase, mapArr]
    rw [this] at h; cases h

theorem narrow_obj_inv {st : StructTable} {F : Nat} (hF : NarrowFix st F) (b : String) (k : Nat)
    (v : J) (L : List (String × J)) (h : narrow st F ⟨b, k + 1, 0⟩ v = .obj L) :
    ∃ kvs, v = .obj kvs ∧ kvs.map (·.1) = L.map (·.1) := by
  cases v with
  | obj kvs =>
    rw [narrow_obj hF] at h
    simp only [J.obj.injEq] at h
    exact ⟨kvs, rfl, by rw [← h]; simp [Function.comp_def]⟩
  | null => rw [narrow_null hF] at h; cases h
  | dnull => rw [narrow_dnull hF] at h; cases h
  | atom s =>
    have : narrow st F ⟨b, k + 1, 0⟩ (.atom s) = .null := by rw [hF]; simp [atBase, mapArr, mapObj]
    rw [this] at h; cases h
  | arr xs =>
    have : narrow st F ⟨b, k + 1, 0⟩ (.arr xs) = .null := by rw [hF]; simp [atBase, mapArr, mapObj]
    rw [this] at h; cases h

theorem evalRTList_length (st : StructTable) (F : Nat) (ρ : Store) (f : ForkAssign) (t : Ty) :
    ∀ (es : List RExp), (evalRTList st F ρ f t es).length = es.length
  | [] => by simp [evalRTList]
  | e :: es => by simp [evalRTList, evalRTList_length st F ρ f t es]

theorem evalRTFields_keys (st : StructTable) (F : Nat) (ρ : Store) (f : ForkAssign) (t : Ty) :
    ∀ (kvs : List (String × RExp)), (evalRTFields st F ρ f t kvs).map (·.1) = kvs.map (·.1)
  | [] => by simp [evalRTFields]
  | (k, e) :: es => by simp [evalRTFields, evalRTFields_keys st F ρ f t es]

theorem filterRFields_keys (st : StructTable) (t : Ty) :
    ∀ (kvs : List (String × RExp)), (filterRFields st t kvs).map (·.1) = kvs.map (·.1)
  | [] => by simp [filterRFields]
  | (k, e) :: es => by simp [filterRFields, filterRFields_keys st t es]

theorem narrow_arrTy_indices {st : StructTable} {F : Nat} (hF : NarrowFix st F) (b : String) (m a : Nat) (v : J)
    (h : indicesOf (narrow st F ⟨b, m, a + 1⟩ v) ≠ []) :
    ∃ xs, v = .arr xs ∧ indicesOf (narrow st F ⟨b, m, a + 1⟩ v) = (List.range xs.length).map .i := by
  cases v with
  | arr xs => exact ⟨xs, rfl, by rw [narrow_arr hF]; simp [indicesOf]⟩
  | null => rw [narrow_null hF] at h; simp [indicesOf] at h
  | dnull =>
    have : narrow st F ⟨b, m, a + 1⟩ .dnull = .dnull := by rw [hF]; simp [atBase, mapArr]
    rw [this] at h; simp [indicesOf] at h
  | atom s =>
    have : narrow st F ⟨b, m, a + 1⟩ (.atom s) = .null := by rw [hF]; simp [atBase, mapArr]
    rw [this] at h; simp [indicesOf] at h
  | obj kvs =>
    have : narrow st F ⟨b, m, a + 1⟩ (.obj kvs) = .null := by rw [hF]; simp [atBase, mapArr]
    rw [this] at h; simp [indicesOf] at h

theorem narrow_mapTy_indices {st : StructTable} {F : Nat} (hF : NarrowFix st F) (b : String) (a : Nat) (v : J)
    (h : indicesOf (narrow st F ⟨b, a + 1, 0⟩ v) ≠ []) :
    ∃ kvs, v = .obj kvs ∧ indicesOf (narrow st F ⟨b, a + 1, 0⟩ v) = kvs.map fun kv => .k kv.1 := by
  cases v with
  | obj kvs => exact ⟨kvs, rfl, by rw [narrow_obj hF]; simp [indicesOf]⟩
  | null => rw [narrow_null hF] at h; simp [indicesOf] at h
  | dnull => rw [narrow_dnull hF] at h; simp [indicesOf] at h
  | atom s => rw [narrow_mapTy_nonobj hF b a _ (by simp) (by simp)] at h; simp [indicesOf] at h
  | arr xs => rw [narrow_mapTy_nonobj hF b a _ (by simp) (by simp)] at h; simp [indicesOf] at h

theorem indicesOf_narrow_lift {st : StructTable} {F : Nat} (hF : NarrowFix st F) (m : Bool) (t : Ty)
    (hm0 : m = true → t.mapDim = 0) (v : J) (h : indicesOf (narrow st F (liftSplitTy m t) v) ≠ []) :
    indicesOf v = indicesOf (narrow st F (liftSplitTy m t) v) ∧ ∀ ix ∈ indicesOf v, IdxMode ix m := by
  obtain ⟨b, md, a⟩ := t
  cases m with
  | false =>
    simp only [liftSplitTy, Bool.false_eq_true, if_false] at h ⊢
    obtain ⟨xs, rfl, hi⟩ := narrow_arrTy_indices hF b md a v h
    refine ⟨by rw [hi]; rfl, ?_⟩
    intro ix hix
    simp only [indicesOf, List.mem_map] at hix
    obtain ⟨k, _, rfl⟩ := hix
    trivial
  | true =>
    have hz := hm0 rfl
    simp only at hz
    subst hz
    simp only [liftSplitTy, if_true] at h ⊢
    obtain ⟨kvs, rfl, hi⟩ := narrow_mapTy_indices hF b a v h
    refine ⟨by rw [hi]; rfl, ?_⟩
    intro ix hix
    simp only [indicesOf, List.mem_map] at hix
    obtain ⟨kv, _, rfl⟩ := hix
    trivial

theorem staticIndices_mode {r : RExp} {m : Bool} {ixs : List Idx} (h : staticIndices r = some (m, ixs)) :
    ∀ ix ∈ ixs, IdxMode ix m := by
  intro ix hix
  cases r with
  | arr xs =>
    simp only [staticIndices, Option.some.injEq, Prod.mk.injEq] at h
    obtain ⟨rfl, rfl⟩ := h
    simp only [List.mem_map] at hix
    obtain ⟨k, _, rfl⟩ := hix
    trivial
  | map kvs =>
    simp only [staticIndices, Option.some.injEq, Prod.mk.injEq] at h
    obtain ⟨rfl, rfl⟩ := h
    simp only [List.mem_map] at hix
    obtain ⟨kv, _, rfl⟩ := hix
    trivial
  | _ => simp [staticIndices] at h

theorem indicesOf_evalRT_static (st : StructTable) (F : Nat) (ρ : Store) (f : ForkAssign) (t : Ty)
    {r : RExp} {m : Bool} {ixs : List Idx} (h : staticIndices r = some (m, ixs)) :
    indicesOf (evalRT st F ρ f (liftSplitTy m t) r) = ixs := by
  cases r with
  | arr xs =>
    simp only [staticIndices, Option.some.injEq, Prod.mk.injEq] at h
    obtain ⟨rfl, rfl⟩ := h
    simp [evalRT, indicesOf, evalRTList_length]
  | map kvs =>
    simp only [staticIndices, Option.some.injEq, Prod.mk.injEq] at h
    obtain ⟨rfl, rfl⟩ := h
    have c1 : ((0 : Nat) == 0 && (t.arrDim + 1 != 0)) = true := by simp
    have e : ∀ {β : Type} (l : List (String × β)), (l.map fun kv => Idx.k kv.1) = (l.map (·.1)).map Idx.k := by
      intro β l; simp
    simp only [liftSplitTy, if_true, evalRT, c1, indicesOf]
    rw [e, e, evalRTFields_keys]
  | _ => simp [staticIndices] at h

/-- the shape of a resolved split source whose filtered form has a static index set, given its
typing at the collection type the call's mode `isMap` lifts the parameter type to -/
theorem split_shape (st : StructTable) (isMap : Bool) (pty : Ty) (r : RExp) (ixs : Bool × List Idx)
    (hty : HasTyR st (liftSplitTy isMap pty) r)
    (hs : staticIndices (filterR st (liftSplitTy (isMapLit r) pty) r) = some ixs) :
    (isMap = false ∧ ∃ es, r = .arr es ∧ ixs = (false, (List.range es.length).map .i)) ∨
    (isMap = true ∧ ∃ kvs, r = .map kvs ∧ ixs = (true, kvs.map fun kv => .k kv.1)) := by
  cases r with
  | arr es =>
    left
    have hm : isMap = false := by
      cases isMap with
      | false => rfl
      | true => simp [liftSplitTy, HasTyR] at hty
    refine ⟨hm, es, rfl, ?_⟩
    simp only [isMapLit, liftSplitTy, Bool.false_eq_true, if_false, filterR] at hs
    split at hs <;> simp [staticIndices, filterRList_length] at hs <;> exact hs.symm
  | map kvs =>
    right
    have hm : isMap = true := by
      cases isMap with
      | true => rfl
      | false => simp [liftSplitTy, HasTyR] at hty
    refine ⟨hm, kvs, rfl, ?_⟩
    simp only [isMapLit, liftSplitTy, if_true, filterR] at hs
    have c1 : (((0 : Nat) == 0) && (pty.arrDim + 1 == 0)) = false := by simp
    simp only [c1, Bool.false_eq_true, if_false] at hs
    split at hs
    · simp only [staticIndices, Option.some.injEq] at hs
      rw [← hs]
      have := filterRFields_keys st ⟨pty.base, 0, pty.arrDim + 1 - 1⟩ kvs
      simp only [Prod.mk.injEq, true_and]
      have e : ∀ (l : List (String × RExp)), (l.map fun kv => Idx.k kv.1) = (l.map (·.1)).map Idx.k := by
        intro l; simp
      rw [e, e, this]
    · simp only [staticIndices, Option.some.injEq] at hs
      exact hs.symm
  | lit j => simp [isMapLit, liftSplitTy, filterR, staticIndices] at hs
  | ref n sty p => simp [isMapLit, liftSplitTy, filterR, staticIndices] at hs
  | struct kvs =>
    exfalso
    simp only [isMapLit, liftSplitTy, Bool.false_eq_true, if_false, filterR] at hs
    have c1 : (pty.arrDim + 1 == 0 && pty.mapDim == 0) = false := by simp
    have c2 : (isStructBase st { pty with arrDim := pty.arrDim + 1 } && pty.arrDim + 1 == 0) = false := by simp
    simp [c1, c2, staticIndices] at hs
  | split c m e => simp [isMapLit, liftSplitTy, filterR, staticIndices] at hs
  | merge c m e => simp [isMapLit, liftSplitTy, filterR, staticIndices] at hs
  | disabled d v => simp [isMapLit, liftSplitTy, filterR, staticIndices] at hs
  | fork c ix e => simp [isMapLit, liftSplitTy, filterR, staticIndices] at hs

/-- a map call of a STAGE without `disabled`, in array (`isMap = false`) or typed-map mode: every
split binding is the binding of a declared parameter; every binding is assignable to its
parameter (a split binding: at the collection type of the parameter).  The SIZES are not
part of the typing: they are checked on the static phase (`staticProgramOk`). -/
def MappedOkG (st : StructTable) (P : Program) (sT cT : String → Ty) (c : Call) (isMap : Bool) : Prop :=
  c.mapped = true ∧ c.disabled = none ∧
  (∃ sins souts, P.callables.lookup c.callee = some (.stage sins souts)) ∧
  (∃ b ∈ c.binds, b.split = true) ∧
  (∀ b ∈ c.binds, b.split = true →
    ∃ p ∈ P.insOf c.callee, c.binds.find? (fun b' => b'.param == p.name) = some b) ∧
  (isMap = true → ∀ p ∈ P.insOf c.callee, ∀ b, c.binds.find? (fun b => b.param == p.name) = some b →
    b.split = true → p.ty.mapDim = 0) ∧
  ∀ p ∈ P.insOf c.callee, ∀ b, c.binds.find? (fun b => b.param == p.name) = some b →
    HasTy st sT cT (if b.split then liftSplitTy isMap p.ty else p.ty) b.exp

/-- the call is well typed and later bindings see `CALL` at type `ty` -/
def CallOkG (st : StructTable) (P : Program) (sT cT : String → Ty) (c : Call) (ty : Ty) : Prop :=
  (CallOk st P.insOf sT cT c ∧ (∀ b ∈ c.binds, b.split = false) ∧ ty = ⟨c.callee, 0, 0⟩) ∨
  (∃ isMap, MappedOkG st P sT cT c isMap ∧ ty = if isMap then ⟨c.callee, 1, 0⟩ else ⟨c.callee, 0, 1⟩)

/-- the calls of a body, typed in order; `L'` = the types of all calls afterwards -/
def CallsOkG (st : StructTable) (P : Program) (sT : String → Ty) :
    List (String × Ty) → List Call → List (String × Ty) → Prop
  | L, [], L' => L' = L
  | L, c :: cs, L' => ∃ ty, CallOkG st P sT (callTyOf L) c ty ∧ CallsOkG st P sT (L ++ [(c.id, ty)]) cs L'

def PipelineOkG (st : StructTable) (P : Program) (pins outs : List Param)
    (calls : List Call) (ret : List (String × Exp)) : Prop :=
  ∃ L, CallsOkG st P (selfTyOf pins) [] calls L ∧
    ∀ p ∈ outs, ∀ e, ret.lookup p.name = some e → HasTy st (selfTyOf pins) (callTyOf L) p.ty e

structure WellTypedG (P : Program) : Prop where
  structs : StructsOk P.table
  outsOf : ∀ name c, P.callables.lookup name = some c → P.table.lookup name = some c.outs
  pipelines : ∀ name pins outs calls ret,
    P.callables.lookup name = some (.pipeline pins outs calls ret) →
      PipelineOkG P.table P pins outs calls ret
  top : CallOk P.table P.insOf (selfTyOf []) (callTyOf []) P.top ∧ ∀ b ∈ P.top.binds, b.split = false

/-- den iterates a map call in the mode of the type of its split sources, unless one is a literal `null` -/
theorem callMode_of_ty (st : StructTable) (P : Program) (env : Env) (c : Call) (m : Bool) (hm : c.mapped = true)
    (hex : ∃ b ∈ c.binds, b.split = true)
    (hpar : ∀ b ∈ c.binds, b.split = true →
      ∃ p ∈ P.insOf c.callee, c.binds.find? (fun b' => b'.param == p.name) = some b)
    (hty : ∀ p ∈ P.insOf c.callee, ∀ b, c.binds.find? (fun b => b.param == p.name) = some b →
      HasTy st env.selfTy env.callTy (if b.split then liftSplitTy m p.ty else p.ty) b.exp)
    (hnl : ∀ b ∈ c.binds, b.split = true → ∀ j, b.exp ≠ .lit j) :
    callMode st env c = if m then .map else .arr := by
  obtain ⟨b0, hb0, hs0⟩ := hex
  unfold callMode firstSplit
  simp only [hm, if_true]
  cases hf : c.binds.find? (·.split) with
  | none =>
    have := List.find?_eq_none.mp hf b0 hb0
    simp [hs0] at this
  | some b =>
    have hbm := List.mem_of_find?_eq_some hf
    have hbs : b.split = true := by simpa using List.find?_some hf
    obtain ⟨p, hp, hfb⟩ := hpar b hbm hbs
    have h2 := hty p hp b hfb
    simp only [hbs, if_true] at h2
    simp only
    cases he : b.exp with
    | lit j => exact absurd he (hnl b hbm hbs j)
    | arr xs =>
      rw [he] at h2
      cases m with
      | false => simp [splitMode]
      | true => simp [liftSplitTy, HasTy] at h2
    | map kvs =>
      rw [he] at h2
      cases m with
      | true => simp [splitMode]
      | false => simp [liftSplitTy, HasTy] at h2
    | struct kvs =>
      rw [he] at h2
      cases m with
      | true => simp [splitMode]
      | false => simp [liftSplitTy, HasTy] at h2
    | self q path =>
      rw [he] at h2
      simp only [HasTy] at h2
      obtain ⟨d1, d2⟩ := h2.2.dims
      cases m with
      | false => simp only [liftSplitTy, Bool.false_eq_true, if_false] at d2; simp [splitMode, d2]
      | true => simp only [liftSplitTy, if_true] at d1 d2; simp [splitMode, d1, d2]
    | ref q path =>
      rw [he] at h2
      simp only [HasTy] at h2
      obtain ⟨d1, d2⟩ := h2.2.dims
      cases m with
      | false => simp only [liftSplitTy, Bool.false_eq_true, if_false] at d2; simp [splitMode, d2]
      | true => simp only [liftSplitTy, if_true] at d1 d2; simp [splitMode, d1, d2]

namespace Flat

section mapped
variable (st : StructTable) (hst : StructsOk st) (F : Nat) (hF : NarrowFix st F) (ρ : Store)
  (P : Program) (nm : List String → String) (O : Oracle) (run : Runner)
  (node : String → List String → RBMap → RB × List SNode) (path : List String) (self : RBMap)
include hst hF

/-- sizes known after resolution: the facts from the static shape check and the typing.  Every split source
resolves to a literal of the call's mode with the call's index set (`split_shape` on the typing half of
`eval_resolveRefs`); den's index set is that of the narrowed value, which the narrowing does not change
(`indicesOf_narrow_lift`); den's mode is that of the type (`callMode_of_ty`) -/
theorem mappedFacts_G {c : Call} {env : Env} {sib : RBMap} (hrel : EnvRel st F ρ FsT env self sib) {isMap : Bool}
    (hc : MappedOkG st P env.selfTy env.callTy c isMap)
    (hshape : mappedShapeOk st self sib (P.insOf c.callee) c = true) :
    ∃ ixs, MappedFacts st P env self sib c isMap ixs := by
  obtain ⟨hm, hd, _, ⟨b0, hb0, hs0⟩, hpar, hmd, hty⟩ := hc
  unfold mappedShapeOk at hshape
  cases hci : callIndicesR st self sib (P.insOf c.callee) c with
  | none => simp [hci] at hshape
  | some ixsP =>
    simp only [hci, Bool.and_eq_true, Bool.not_eq_true', splitsStaticB, List.all_eq_true] at hshape
    obtain ⟨hne, hall⟩ := hshape
    have per : ∀ p ∈ P.insOf c.callee, ∀ b, c.binds.find? (fun b => b.param == p.name) = some b →
        b.split = true → ixsP.1 = isMap ∧ staticIndices (resolveRefs self sib b.exp) = some ixsP := by
      intro p hp b hb hs
      have h1 := hall p hp
      simp only [hb, hs, Bool.not_true, Bool.false_or, beq_iff_eq] at h1
      have h2 := hty p hp b hb
      simp only [hs, if_true] at h2
      have h3 := (eval_resolveRefs st hst F hF ρ FsT env self sib hrel [] trivial b.exp _ h2).2
      rcases split_shape st isMap p.ty _ ixsP h3 h1 with ⟨hm, es, hr, hi⟩ | ⟨hm, kvs, hr, hi⟩
      · exact ⟨by rw [hi, hm], by rw [hr, hi]; rfl⟩
      · exact ⟨by rw [hi, hm], by rw [hr, hi]; rfl⟩
    obtain ⟨p0, hp0, hf0⟩ := hpar b0 hb0 hs0
    obtain ⟨m', ixs⟩ := ixsP
    have hm' := (per p0 hp0 b0 hf0 hs0).1
    simp only at hm' hne
    subst hm'
    have hne' : ixs ≠ [] := fun e => by rw [e] at hne; simp at hne
    have hfacts := fun p hp b hb hs => (per p hp b hb hs).2
    refine ⟨ixs, hm, hd, ⟨b0, hb0, hs0⟩, hne', hci, ?_, ?_, staticIndices_mode (hfacts p0 hp0 b0 hf0 hs0), hmd, hty,
      fun p hp b hb hs => isMapLit_of_static (hfacts p hp b hb hs)⟩
    · intro v hv
      simp only [splitVals, hd, List.append_nil, List.mem_map, List.mem_filter] at hv
      obtain ⟨b, ⟨hb, hs⟩, rfl⟩ := hv
      obtain ⟨p, hp, hfb⟩ := hpar b hb hs
      have h2 := hty p hp b hfb
      simp only [hs, if_true] at h2
      have hi := indicesOf_evalRT_static st F ρ [] p.ty (hfacts p hp b hfb hs)
      rw [← (eval_resolveRefs st hst F hF ρ FsT env self sib hrel [] trivial b.exp _ h2).1] at hi
      rw [(indicesOf_narrow_lift hF m' p.ty (fun e => hmd e p hp b hfb hs) _ (by rw [hi]; exact hne')).1, hi]
    · apply callMode_of_ty st P env c m' hm ⟨b0, hb0, hs0⟩ hpar hty
      intro b hb hs j hj
      obtain ⟨p, hp, hfb⟩ := hpar b hb hs
      have := hfacts p hp b hfb hs
      rw [hj] at this
      simp [resolveRefs, staticIndices] at this

theorem callsStep_G (ok : String → List String → RBMap → Bool) (sT : String → Ty)
    (hrun : RunsGood st F ρ FsT (List.flatMap (instsOf st F ρ)) P.insOf (StoreAtNode nm O ρ)
      (fun callee path cins => ok callee path cins = true) run node)
    (hrunM : ForksGood st F ρ P nm O run node) :
    CallsStep st F ρ FsT (List.flatMap (instsOf st F ρ)) P.insOf run node path self sT (StoreAtNode nm O ρ)
      fun L cs sib L' => CallsOkG st P sT L cs L' ∧ staticCallsOk st P.insOf node ok path self cs sib = true := by
  intro c cs env sib L' hrel hsT ⟨⟨ty, hc, hcs⟩, hshapes⟩ hstore
  rw [← hsT, ← callTy_typesOf] at hc
  cases hc with
  | inl hplain =>
    obtain ⟨hc, _, rfl⟩ := hplain
    have hm : c.mapped = false := hc.1
    simp only [staticCallsOk, hm, Bool.false_eq_true, if_false, Bool.and_eq_true] at hshapes
    have hs := staticCalls_plain st P.insOf node path self cs sib hm
    exact ⟨_, _, _, ⟨hs, step_plain st hst F hF ρ FsT _ [] trivial hrel hc fun _ h =>
      hrun _ _ _ _ h (store_of_step st P.insOf node path self hstore hs) hshapes.1⟩, hcs, hshapes.2⟩
  | inr hmapped =>
    obtain ⟨isMap, hmapped, rfl⟩ := hmapped
    have hm : c.mapped = true := hmapped.1
    simp only [staticCallsOk, hm, if_true, Bool.and_eq_true] at hshapes
    obtain ⟨ixs, hf⟩ := mappedFacts_G st hst F hF ρ P self hrel hmapped hshapes.1.1
    have hs := staticCalls_mapped st P.insOf node path self cs sib hm hf.static
    exact ⟨_, _, _, ⟨hs, step_mapped st hst F hF ρ P run node path self hrel hf fun ix _ args ha =>
      hrunM _ _ _ ix _ _ _ hmapped.2.2.1 ha fun n0 hn0 =>
        store_of_step st P.insOf node path self hstore hs _ (List.mem_map_of_mem hn0)⟩,
      hcs, by simpa [hf.static] using hshapes.2⟩

end mapped

end Flat

section graphG
variable (P : Program) (hw : WellTypedG P) (F : Nat) (hF : NarrowFix P.table F)
  (nm : List String → String) (O : Oracle) (ρ : Store)
include hw hF

/-- THE REFINEMENT with map calls of stages of statically known size (array / typed-map
literals, at the call or through pipeline inputs) -/
theorem twoPhaseG_eq_den_F (hstore : ∀ n ∈ (staticProgram P nm).2, StoreAtNode nm O ρ n)
    (hok : staticProgramOk P nm = true) :
    runCallable P O F P.fuel P.top.callee [P.top.id] []
        (mkArgs P.table F (argVals P.table ⟨[], .null, []⟩ (P.insOf P.top.callee) P.top) none)
      = ((evalRT P.table F ρ [] ⟨P.top.callee, 0, 0⟩ (staticProgram P nm).1.exp),
         (staticProgram P nm).2.flatMap (instsOf P.table F ρ)) :=
  Flat.twoPhase P F hF nm O ρ hw.structs hw.outsOf (Fs := FsT) (hFs := trivial)
    (I := List.flatMap (instsOf P.table F ρ)) (hI := fun _ _ => List.flatMap_append) (hI1 := fun _ _ _ => rfl)
    (SA := StoreAtNode nm O ρ) (hSA := fun _ _ _ h f _ => h f)
    (Q := fun fuel callee path cins => staticCallableOk P nm fuel callee path cins = true)
    (Inv := fun fuel pins path self L cs sib L' => CallsOkG P.table P (selfTyOf pins) L cs L' ∧
      staticCallsOk P.table P.insOf (staticCallable P nm fuel) (staticCallableOk P nm fuel) path self cs sib = true)
    (hnil := fun _ _ _ _ _ _ _ h => h.1)
    (hpipe := fun fuel callee path cins pins outs calls ret hl hq => by
      obtain ⟨L, hcalls, hret⟩ := hw.pipelines callee pins outs calls ret hl
      simp only [staticCallableOk, hl] at hq
      exact ⟨L, ⟨hcalls, hq⟩, hret⟩)
    (hstep := fun fuel ih pins path self =>
      Flat.callsStep_G P.table hw.structs F hF ρ P nm O _ _ path self (staticCallableOk P nm fuel) (selfTyOf pins) ih
        (refine_stage_fork P F nm O ρ fuel))
    hw.top.1 hstore hok

end graphG

end Proofs.ResolverStatic
