import Martian.ForkOrder
import Proofs.SortKeys

/-! The fork-id enumeration order (C10): the same sources with their keys handed over in another order
(`Elems.Equiv`, `Root.Equiv`, `RootsEquiv`) give the same enumeration (`sat_satRt_congr`, `bfs_congr`, `bfsRt_congr`,
`forkOrder_congr`); forks without an undetermined part are left as they are (`sat_determined`, `bfs_determined`);
`mem_product`, `parts_determined`. -/
namespace Martian.ForkOrder
open Martian.SortKeys

/-- the same source, its keys handed over in another order -/
inductive Elems.Equiv : Elems → Elems → Prop
  | unknown : Elems.Equiv .unknown .unknown
  | arr (n : Nat) : Elems.Equiv (.arr n) (.arr n)
  | keys {a b : List Key} (h : a.Perm b) : Elems.Equiv (.keys a) (.keys b)

theorem Elems.Equiv.parts_eq {e₁ e₂ : Elems} (h : Elems.Equiv e₁ e₂) : e₁.parts = e₂.parts := by
  cases h with
  | unknown => rfl
  | arr n => rfl
  | keys h => simp [Elems.parts, sortKeys_eq_of_perm h]

inductive Root.Equiv : Root → Root → Prop
  | dyn : Root.Equiv .dyn .dyn
  | static {e₁ e₂ : Elems} (h : Elems.Equiv e₁ e₂) : Root.Equiv (.static e₁) (.static e₂)

theorem Root.Equiv.initParts_eq {r₁ r₂ : Root} (h : Root.Equiv r₁ r₂) : r₁.initParts = r₂.initParts := by
  cases h with
  | dyn => rfl
  | static h => simp [Root.initParts, h.parts_eq]

/-- root lists that differ only in the order in which map keys were handed over -/
inductive RootsEquiv : List Root → List Root → Prop
  | nil : RootsEquiv [] []
  | cons {r₁ r₂ : Root} {l₁ l₂ : List Root} (h : Root.Equiv r₁ r₂) (t : RootsEquiv l₁ l₂) :
      RootsEquiv (r₁ :: l₁) (r₂ :: l₂)

theorem sat_satRt_congr {i₁ i₂ : Inner} (h : ∀ j pre, (i₁ j pre).parts = (i₂ j pre).parts) :
    ∀ (rest : List Part) (j : Nat) (pre : List Part),
      sat i₁ j pre rest = sat i₂ j pre rest ∧ satRt i₁ j pre rest = satRt i₂ j pre rest := by
  intro rest
  induction rest with
  | nil => intro j pre; exact ⟨rfl, rfl⟩
  | cons p rest ih =>
    intro j pre
    have ih1 := fun j pre => (ih j pre).1
    have ih2 := fun j pre => (ih j pre).2
    unfold sat satRt
    simp only [h j pre, ih1, ih2, and_self]

theorem bfs_congr {i₁ i₂ : Inner} (h : ∀ j pre, (i₁ j pre).parts = (i₂ j pre).parts) :
    ∀ (n : Nat) (g : List Fork), bfs i₁ n g = bfs i₂ n g := by
  have hs : satFork i₁ = satFork i₂ := by funext f; simp [satFork, (sat_satRt_congr h f 0 []).1]
  have hk : kids i₁ = kids i₂ := by funext f; simp [kids, (sat_satRt_congr h f 0 []).1]
  intro n
  induction n with
  | zero => intro g; simp [bfs, hs]
  | succ n ih => intro g; simp [bfs, hs, hk, ih]

theorem bfsRt_congr {i₁ i₂ : Inner} (h : ∀ j pre, (i₁ j pre).parts = (i₂ j pre).parts) :
    ∀ (n : Nat) (g : List Fork), bfsRt i₁ n g = bfsRt i₂ n g := by
  have hs : ∀ f, satRt i₁ 0 [] f = satRt i₂ 0 [] f := fun f => (sat_satRt_congr h f 0 []).2
  intro n
  induction n with
  | zero => intro g; simp [bfsRt, hs]
  | succ n ih => intro g; simp [bfsRt, hs, ih]

theorem forkOrder_congr {r₁ r₂ : List Root} {i₁ i₂ : Inner}
    (hr : RootsEquiv r₁ r₂) (hi : ∀ j pre, Elems.Equiv (i₁ j pre) (i₂ j pre)) :
    forkOrder r₁ i₁ = forkOrder r₂ i₂ := by
  have both : r₁.length = r₂.length ∧ r₁.map Root.initParts = r₂.map Root.initParts := by
    induction hr with
    | nil => exact ⟨rfl, rfl⟩
    | cons h _ ih => exact ⟨by simp [ih.1], by simp [h.initParts_eq, ih.2]⟩
  obtain ⟨hlen, hinit⟩ := both
  unfold forkOrder
  rw [hlen, hinit]
  exact bfs_congr (fun j pre => (hi j pre).parts_eq) _ _

theorem sat_determined (inner : Inner) : ∀ (rest : List Part) (j : Nat) (pre : List Part),
    Part.undet ∉ rest → sat inner j pre rest = (rest, []) := by
  intro rest
  induction rest with
  | nil => intro j pre _; rfl
  | cons p rest ih =>
    intro j pre h
    have hp : (p != Part.undet) = true := by
      simp only [bne_iff_ne, ne_eq]; intro e; exact h (by simp [e])
    unfold sat
    simp only [hp, if_true, ih (j + 1) (pre ++ [p]) (fun hr => h (List.mem_cons_of_mem _ hr))]

theorem bfs_nil (inner : Inner) : ∀ n, bfs inner n [] = [] := by
  intro n; induction n with
  | zero => rfl
  | succ n ih => simp [bfs, ih]

theorem bfs_determined (inner : Inner) (n : Nat) (g : List Fork)
    (h : ∀ f ∈ g, Part.undet ∉ f) : bfs inner n g = g := by
  have hs : g.map (satFork inner) = g :=
    Proofs.ListFacts.map_eq_self fun f hf => by simp [satFork, sat_determined inner f 0 [] (h f hf)]
  have hk : g.flatMap (kids inner) = [] := by
    rw [List.flatMap_eq_nil_iff]
    intro f hf; simp [kids, sat_determined inner f 0 [] (h f hf)]
  cases n with
  | zero => simp [bfs, hs]
  | succ n => simp [bfs, hs, hk, bfs_nil]

theorem mem_product {ls : List (List Part)} : ∀ {f : Fork}, f ∈ product ls →
    ∀ p ∈ f, ∃ l ∈ ls, p ∈ l := by
  induction ls with
  | nil => intro f hf p hp; simp [product] at hf; subst hf; cases hp
  | cons l rest ih =>
    intro f hf p hp
    simp only [product, List.mem_flatMap, List.mem_map] at hf
    obtain ⟨tail, ht, q, hq, rfl⟩ := hf
    rcases List.mem_cons.mp hp with rfl | hp
    · exact ⟨l, by simp, hq⟩
    · obtain ⟨l', hl', hpl⟩ := ih ht p hp
      exact ⟨l', List.mem_cons_of_mem _ hl', hpl⟩

theorem parts_determined {e : Elems} {l : List Part} (h : e.parts = some l) :
    Part.undet ∉ l ∧ Part.empty ∉ l := by
  cases e with
  | unknown => cases h
  | arr n =>
    simp only [Elems.parts, Option.some.injEq] at h; subst h
    simp
  | keys ks =>
    simp only [Elems.parts, Option.some.injEq] at h; subst h
    simp

end Martian.ForkOrder
