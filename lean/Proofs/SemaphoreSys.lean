import Martian.SemaphoreSys
import Proofs.SemaphoreClient
import Proofs.ListFacts

/-! The nested-semaphore system of the local job manager (`Sys`): what `Acquire` and
`Release` of a job do to one semaphore with its ghost holders, the invariant `SInv`, and what
one action of a job that can act achieves (`Progress`, `act_progress`): the invariant is kept,
the rank drops, sizes and job keys stay. -/
namespace Martian.Semaphore

theorem findHeld_of_mem (j : Nat) (l : List Waiter) (h : j ∈ l.map Prod.fst) :
    ∃ w, findHeld j l = some w ∧ w.1 = j := by
  fun_induction findHeld j l with
  | case1 => cases h
  | case2 x xs hx => exact ⟨x, rfl, hx⟩
  | case3 x xs hx ih =>
    rcases List.mem_cons.mp h with h | h
    · exact absurd h.symm hx
    · exact ih h

theorem hid_eraseHeld (j : Nat) (l : List Waiter) :
    (eraseHeld j l).map Prod.fst = (l.map Prod.fst).erase j := by
  fun_induction eraseHeld j l with
  | case1 => rfl
  | case2 x xs hx => simp [hx]
  | case3 x xs hx ih => rw [List.map_cons, ih, List.map_cons, List.erase_cons_tail (by simpa using hx)]
theorem decide_lt_succ {i s : Nat} (h : i ≠ s) : decide (i < s + 1) = decide (i < s) := by
  simp only [decide_eq_decide]; omega

theorem mem_append_opt {x j : Nat} {l : List Nat} {p : Prop} [Decidable p] :
    x ∈ l ++ (if p then [j] else []) ↔ x ∈ l ∨ (p ∧ x = j) := by
  by_cases hp : p <;> simp [hp]

theorem nodup_append_opt {j : Nat} {l : List Nat} {p : Prop} [Decidable p] (hl : l.Nodup) (hj : j ∉ l) :
    (l ++ if p then [j] else []).Nodup := by
  by_cases hp : p
  · rw [if_pos hp, List.nodup_append]
    exact ⟨hl, by simp, fun a ha b hb hab => hj (by rw [List.mem_singleton.mp hb] at hab; exact hab ▸ ha)⟩
  · rw [if_neg hp, List.append_nil]; exact hl

theorem gstep_acquire_cases (g : G) (j : Nat) (a : Int) :
    let q := gstep g (.acquire j a)
    (grantsOf q.2 = [(j, a)] ∧ hasReject q.2 = false ∧ q.1.held = g.held ++ [(j, a)] ∧
        q.1.sem.waiters = g.sem.waiters ∧ g.sem.waiters = []) ∨
    (grantsOf q.2 = [] ∧ hasReject q.2 = true ∧ q.1 = g ∧ g.sem.max < a) ∨
    (grantsOf q.2 = [] ∧ hasReject q.2 = false ∧ q.1.held = g.held ∧
        q.1.sem.waiters = g.sem.waiters ++ [(j, a)]) := by
  simp only [gstep, toSemOp, step]
  by_cases hf : a ≤ g.sem.cur - g.sem.reserved ∧ g.sem.waiters.isEmpty = true
  · left; rw [if_pos hf]; simpa [hasReject] using hf.2
  · by_cases hm : g.sem.max < a
    · right; left; rw [if_neg hf, if_pos hm]; simp [hasReject, hm]
    · right; right; rw [if_neg hf, if_neg hm]; simp [hasReject]

/-- The same as the system sees it (job `j`, semaphore number `s`): the phase the job moves
to says whether it joined the holders or the queue. Holders and waiters together gain `j` at the
end unless the call failed: a call is granted at once only when nobody waits. -/
theorem gstep_acquire_ids (g : G) (s j : Nat) (a : Int) :
    let q := gstep g (.acquire j a)
    (acqPhase s q.2 = .acq (s + 1) false ∨ acqPhase s q.2 = .rel s ∨ acqPhase s q.2 = .acq s true) ∧
    hidG q.1 = hidG g ++ (if acqPhase s q.2 = .acq (s + 1) false then [j] else []) ∧
    widG q.1 = widG g ++ (if acqPhase s q.2 = .acq s true then [j] else []) ∧
    hidG q.1 ++ widG q.1 = (hidG g ++ widG g) ++ (if acqPhase s q.2 ≠ .rel s then [j] else []) ∧
    (hasReject q.2 = true ↔ acqPhase s q.2 = .rel s) ∧ (hasReject q.2 = true → g.sem.max < a) := by
  rcases gstep_acquire_cases g j a with ⟨hg, hr, hh, hw, hw0⟩ | ⟨hg, hr, hq, hm⟩ | ⟨hg, hr, hh, hw⟩
  · simp [acqPhase, hg, hr, hidG, widG, hh, hw, hw0]
  · simp [acqPhase, hg, hr, hq, hm]
  · simp [acqPhase, hg, hr, hidG, widG, hh, hw]

theorem gstep_cur_acquire (g : G) (j : Nat) (a : Int) :
    (gstep g (.acquire j a)).1.sem.cur = g.sem.cur := step_cur_acqrel g.sem _ rfl

theorem gstep_cur_release (g : G) (j : Nat) : (gstep g (.release j)).1.sem.cur = g.sem.cur := by
  simp only [gstep, toSemOp]
  cases findHeld j g.held with
  | none => rfl
  | some w => exact step_cur_acqrel g.sem (.release w.2) rfl

theorem gstep_release_holder (g : G) (j : Nat) (hj : j ∈ hidG g) :
    let q := gstep g (.release j)
    hidG q.1 = (hidG g).erase j ++ (grantsOf q.2).map Prod.fst ∧
    (grantsOf q.2).map Prod.fst ++ widG q.1 = widG g := by
  obtain ⟨w, hw, _⟩ := findHeld_of_mem j g.held hj
  have := step_fifo g.sem (.release w.2)
  simp only [acceptedOf, List.append_nil] at this
  simp only [gstep, toSemOp, hw, hidG, widG, List.map_append, hid_eraseHeld, ← this, and_self]

def PhaseOK (k : Nat) : Phase → Prop
  | .acq s w => s ≤ k ∧ (w = true → s < k)
  | .rel r => r ≤ k

/-- The moves of a job's phase. Each happens at one semaphore number `s` of `k`: `Acquire` on `s` returns (at
once, or to a caller that waited), blocks, or the goroutine turns round (the call failed, or no semaphore is
left and the job process ran); `Release` of `s`. -/
inductive Move (k s : Nat) : Phase → Phase → Prop
  | grant (w : Bool) : s < k → Move k s (.acq s w) (.acq (s + 1) false)
  | block : s < k → Move k s (.acq s false) (.acq s true)
  | turn : Move k s (.acq s false) (.rel s)
  | release : Move k s (.rel (s + 1)) (.rel s)

theorem Move.ok {k s : Nat} {p p' : Phase} (h : Move k s p p') (hp : PhaseOK k p) :
    PhaseOK k p' ∧ phaseRank k p' < phaseRank k p := by
  cases h with
  | grant w hs => cases w <;> simp [PhaseOK, phaseRank] <;> omega
  | block hs => simp only [PhaseOK, phaseRank]; omega
  | turn => simp only [PhaseOK, phaseRank] at hp ⊢; omega
  | release => simp only [PhaseOK, phaseRank] at hp ⊢; omega

/-- A move at `s` is not seen at any other semaphore number. -/
theorem Move.other {k s i : Nat} {p p' : Phase} (h : Move k s p p') (hi : i ≠ s) :
    p'.holds i = p.holds i ∧ (p' = .acq i true ↔ p = .acq i true) := by
  cases h with
  | grant w _ => exact ⟨decide_lt_succ hi, by simp [Ne.symm hi]⟩
  | block _ => exact ⟨rfl, by simp [Ne.symm hi]⟩
  | turn => exact ⟨rfl, by simp⟩
  | release => exact ⟨(decide_lt_succ hi).symm, by simp⟩

/-- What the invariant says of semaphore number `i`, in state `g`, given the jobs. -/
structure SemOK (jobs : List LJob) (i : Nat) (g : G) : Prop where
  good : Good (g.sem, g.held)
  full : g.sem.cur = g.sem.max
  hnd : (hidG g ++ widG g).Nodup
  own : ∀ id ∈ hidG g ++ widG g, ∃ b ∈ jobs, b.id = id
  link : ∀ b ∈ jobs, (b.id ∈ hidG g ↔ b.ph.holds i = true) ∧ (b.id ∈ widG g ↔ b.ph = .acq i true)

structure SInv (y : Sys) : Prop where
  nd : (y.jobs.map LJob.id).Nodup
  sem : ∀ i g, y.gs[i]? = some g → SemOK y.jobs i g
  wf : ∀ b ∈ y.jobs, PhaseOK y.gs.length b.ph ∧ (∀ s, 0 ≤ b.amts.getD s 0)
  flags : ∀ b ∈ y.jobs, (b.failed = true → ¬ b.fits y.gs) ∧
      (∀ r, b.ph = .rel r → b.ran = true ∨ b.failed = true)

theorem gstep_max (g : G) (op : COp) : (gstep g op).1.sem.max = g.sem.max := by
  simp only [gstep]
  cases h : toSemOp g op with
  | none => rfl
  | some oh => exact step_max _ _

theorem map_set_same {α β : Type} (l : List α) (f : α → β) (s : Nat) (a x : α)
    (hs : l[s]? = some x) (h : f a = f x) : (l.set s a).map f = l.map f := by
  obtain ⟨hlt, hx⟩ := List.getElem?_eq_some_iff.mp hs
  rw [List.map_set, h, ← hx, ← List.getElem_map f (h := by simpa using hlt), List.set_getElem_self]

def jobKey (b : LJob) : Nat × List Int := (b.id, b.amts)

theorem map_key_congr {α β : Type} (l : List α) (F : α → α) (f : α → β) (h : ∀ c, f (F c) = f c) :
    (l.map F).map f = l.map f := by
  simp [List.map_map, Function.comp_def, h]

/-- What one action of a job that can act achieves: the invariant is kept, the rank drops, the
semaphores keep their sizes and the jobs their ids and amounts. -/
structure Progress (y y' : Sys) : Prop where
  inv : SInv y'
  rank : y'.rank < y.rank
  sizes : y'.gs.map (fun g => g.sem.max) = y.gs.map (fun g => g.sem.max)
  keys : y'.jobs.map jobKey = y.jobs.map jobKey

theorem fits_congr {b c : LJob} {gs gs' : List G} (hm : gs'.map (fun g => g.sem.max) = gs.map (fun g => g.sem.max))
    (ha : b.amts = c.amts) (h : b.fits gs') : c.fits gs := by
  intro i g0 hi
  have := congrArg (·[i]?) hm
  simp only [List.getElem?_map, hi, Option.map_some] at this
  obtain ⟨g1, h1, e1⟩ := Option.map_eq_some_iff.mp this
  rw [← e1, ← ha]; exact h i g1 h1

/-- The jobs change by `F`, which keeps the ids; `own` and `link` are asked for in terms of the old jobs. -/
theorem SemOK.map {jobs : List LJob} {i : Nat} {g : G} (F : LJob → LJob) (hid : ∀ c, (F c).id = c.id)
    (good : Good (g.sem, g.held)) (full : g.sem.cur = g.sem.max) (hnd : (hidG g ++ widG g).Nodup)
    (own : ∀ id ∈ hidG g ++ widG g, ∃ b ∈ jobs, b.id = id)
    (link : ∀ c ∈ jobs, (c.id ∈ hidG g ↔ (F c).ph.holds i = true) ∧ (c.id ∈ widG g ↔ (F c).ph = .acq i true)) :
    SemOK (jobs.map F) i g := by
  refine ⟨good, full, hnd, fun id h => ?_, fun b' hb' => ?_⟩
  · obtain ⟨b, hb, hbid⟩ := own id h
    exact ⟨F b, List.mem_map.mpr ⟨b, hb, rfl⟩, by rw [hid, hbid]⟩
  · obtain ⟨c, hc, rfl⟩ := List.mem_map.mp hb'
    rw [hid]; exact link c hc

/-- Semaphore number `s` (if there is one) becomes `g'` and the jobs change by `F`, which keeps ids and
amounts: every job stays as it is or makes a move at `s`, and some job moves; the rest is asked for in
terms of the old jobs. -/
theorem progress_update (y : Sys) (s : Nat) (g' : G) (F : LJob → LJob) (inv : SInv y)
    (hkey : ∀ c, jobKey (F c) = jobKey c)
    (hjob : ∀ c ∈ y.jobs, F c = c ∨ (Move y.gs.length s c.ph (F c).ph ∧
      ((F c).failed = true → ¬ c.fits y.gs) ∧ ∀ r, (F c).ph = .rel r → (F c).ran = true ∨ (F c).failed = true))
    (hact : ∃ b ∈ y.jobs, Move y.gs.length s b.ph (F b).ph)
    (hnew : ∀ g, y.gs[s]? = some g → g'.sem.max = g.sem.max ∧ Good (g'.sem, g'.held) ∧
      g'.sem.cur = g'.sem.max ∧ (hidG g' ++ widG g').Nodup ∧
      (∀ id ∈ hidG g' ++ widG g', ∃ b ∈ y.jobs, b.id = id) ∧
      ∀ c ∈ y.jobs, (c.id ∈ hidG g' ↔ (F c).ph.holds s = true) ∧ (c.id ∈ widG g' ↔ (F c).ph = .acq s true)) :
    Progress y { gs := y.gs.set s g', jobs := y.jobs.map F } := by
  have hid : ∀ c, (F c).id = c.id := fun c => congrArg Prod.fst (hkey c)
  have hamts : ∀ c, (F c).amts = c.amts := fun c => congrArg Prod.snd (hkey c)
  have hwf : ∀ c ∈ y.jobs, PhaseOK y.gs.length (F c).ph ∧
      phaseRank y.gs.length (F c).ph ≤ phaseRank y.gs.length c.ph := fun c hc => by
    rcases hjob c hc with h | ⟨hm, _⟩
    · rw [h]; exact ⟨(inv.wf c hc).1, Nat.le_refl _⟩
    · exact ⟨(hm.ok (inv.wf c hc).1).1, Nat.le_of_lt (hm.ok (inv.wf c hc).1).2⟩
  have hrank : (⟨y.gs.set s g', y.jobs.map F⟩ : Sys).rank < y.rank := by
    obtain ⟨b, hb, hm⟩ := hact
    simp only [Sys.rank, List.map_map, List.length_set]
    exact Proofs.ListFacts.sum_map_lt _ _ _ (fun c hc => (hwf c hc).2) ⟨b, hb, (hm.ok (inv.wf b hb).1).2⟩
  have hsizes : (y.gs.set s g').map (fun g => g.sem.max) = y.gs.map (fun g => g.sem.max) := by
    cases hs : y.gs[s]? with
    | some g => exact map_set_same _ _ s _ g hs (hnew g hs).1
    | none => rw [List.set_eq_of_length_le (List.getElem?_eq_none_iff.mp hs)]
  refine ⟨⟨?_, fun i g0 hi => ?_, fun b' hb' => ?_, fun b' hb' => ?_⟩, hrank, hsizes, map_key_congr _ _ _ hkey⟩
  · simp only; rw [map_key_congr _ _ _ hid]; exact inv.nd
  · by_cases his : i = s
    · subst his
      rw [List.getElem?_set_self'] at hi
      cases hs : y.gs[i]? with
      | none => rw [hs] at hi; cases hi
      | some g =>
        rw [hs] at hi; cases hi
        obtain ⟨_, good, full, hnd, own, link⟩ := hnew g hs
        exact .map F hid good full hnd own link
    · simp only [List.getElem?_set_ne (Ne.symm his)] at hi
      have ok := inv.sem i g0 hi
      exact .map F hid ok.good ok.full ok.hnd ok.own fun c hc => by
        rcases hjob c hc with h | ⟨hm, _⟩
        · rw [h]; exact ok.link c hc
        · rw [(hm.other his).1, (hm.other his).2]; exact ok.link c hc
  · obtain ⟨c, hc, rfl⟩ := List.mem_map.mp hb'
    simp only [List.length_set]
    refine ⟨(hwf c hc).1, ?_⟩
    rw [hamts]; exact (inv.wf c hc).2
  · obtain ⟨c, hc, rfl⟩ := List.mem_map.mp hb'
    rcases hjob c hc with h | ⟨_, hf, hr⟩
    · rw [h]; exact ⟨fun hf hfit => (inv.flags c hc).1 hf (fits_congr hsizes rfl hfit), (inv.flags c hc).2⟩
    · exact ⟨fun h hfit => hf h (fits_congr hsizes (hamts c) hfit), hr⟩

theorem holds_acq (s i : Nat) (w : Bool) : (Phase.acq s w).holds i = decide (i < s) := rfl
theorem holds_rel (r i : Nat) : (Phase.rel r).holds i = decide (i < r) := rfl

theorem act_acquire_progress (y : Sys) (inv : SInv y) (b : LJob) (hb : b ∈ y.jobs) (s : Nat)
    (hph : b.ph = .acq s false) (g : G) (hs : y.gs[s]? = some g) :
    Progress y ⟨y.gs.set s (gstep g (.acquire b.id (b.amts.getD s 0))).1,
           y.jobs.map fun c =>
             if c.id = b.id then
               { c with ph := acqPhase s (gstep g (.acquire b.id (b.amts.getD s 0))).2,
                        failed := c.failed || hasReject (gstep g (.acquire b.id (b.amts.getD s 0))).2 }
             else c⟩ := by
  have ok := inv.sem s g hs
  have hlt : s < y.gs.length := (List.getElem?_eq_some_iff.mp hs).1
  obtain ⟨hG, _, hM⟩ := gstep_inv g (.acquire b.id (b.amts.getD s 0)) ok.good ((inv.wf b hb).2 s)
  have hC := gstep_cur_acquire g b.id (b.amts.getD s 0)
  have hlb := ok.link b hb
  rw [hph, holds_acq] at hlb
  have hjh : b.id ∉ hidG g := fun h => by simpa using hlb.1.mp h
  have hjw : b.id ∉ widG g := fun h => by simpa using hlb.2.mp h
  have uniq : ∀ c ∈ y.jobs, c.id = b.id → c = b := fun c hc h => Proofs.ListFacts.nodup_map_inj inv.nd c hc b hb h
  obtain ⟨hshape, hH, hW, hcat, hrej, hmax⟩ := gstep_acquire_ids g s b.id (b.amts.getD s 0)
  generalize gstep g (.acquire b.id (b.amts.getD s 0)) = q at *
  generalize acqPhase s q.2 = ph at *
  -- from here on only the shape of the new phase matters
  have hmv : Move y.gs.length s (.acq s false) ph := by
    rcases hshape with h | h | h <;> rw [h]
    · exact .grant false hlt
    · exact .turn
    · exact .block hlt
  have hhold : ph.holds s = true ↔ ph = .acq (s + 1) false := by
    rcases hshape with h | h | h <;> simp [h, Phase.holds]
  apply progress_update y s q.1 _ inv
  · intro c; split <;> rfl
  · intro c hc
    by_cases h : c.id = b.id
    · have := uniq c hc h; subst this
      rw [if_pos rfl, hph]
      refine .inr ⟨hmv, fun hf hfit => ?_, fun r hr => Or.inr ?_⟩
      · rcases Bool.or_eq_true _ _ ▸ hf with hf | hf
        · exact (inv.flags c hc).1 hf hfit
        · have := hfit s g hs; have := hmax hf; omega
      · have : ph = .rel s := by rcases hshape with h | h | h <;> rw [h] at hr ⊢ <;> cases hr
        simp [hrej.mpr this]
    · exact .inl (if_neg h)
  · exact ⟨b, hb, by rw [if_pos rfl, hph]; exact hmv⟩
  · intro g0 hs0
    rw [hs] at hs0; cases hs0
    refine ⟨hM, hG, by rw [hC, hM]; exact ok.full, ?_, ?_, ?_⟩
    · rw [hcat]
      exact nodup_append_opt ok.hnd (by simp [hjh, hjw])
    · intro id hidm
      rw [hcat, mem_append_opt] at hidm
      rcases hidm with h | h
      · exact ok.own id h
      · exact ⟨b, hb, h.2.symm⟩
    · intro c hc
      rw [hH, hW, mem_append_opt, mem_append_opt]
      by_cases h : c.id = b.id
      · rw [uniq c hc h, if_pos rfl]
        simp [hjh, hjw, hhold]
      · simp only [h, if_false, and_false, or_false]
        exact ok.link c hc

theorem mem_contains {l : List Nat} {a : Nat} : l.contains a = true ↔ a ∈ l := by
  simp

theorem act_release_progress (y : Sys) (inv : SInv y) (b : LJob) (hb : b ∈ y.jobs) (r : Nat)
    (hph : b.ph = .rel (r + 1)) (g : G) (hs : y.gs[r]? = some g) :
    Progress y ⟨y.gs.set r (gstep g (.release b.id)).1,
           y.jobs.map fun c =>
             if c.id = b.id then { c with ph := .rel r }
             else if c.id ∈ (grantsOf (gstep g (.release b.id)).2).map Prod.fst then
               { c with ph := .acq (r + 1) false }
             else c⟩ := by
  have ok := inv.sem r g hs
  have hlt : r < y.gs.length := (List.getElem?_eq_some_iff.mp hs).1
  obtain ⟨hG, _, hM⟩ := gstep_inv g (.release b.id) ok.good (by simp [COp.reqNonneg])
  have hC := gstep_cur_release g b.id
  have hlb := ok.link b hb
  rw [hph] at hlb
  have hjh : b.id ∈ hidG g := hlb.1.mpr (by simp [Phase.holds])
  have hjw : b.id ∉ widG g := fun h => by simpa using hlb.2.mp h
  have uniq : ∀ c ∈ y.jobs, c.id = b.id → c = b := fun c hc h => Proofs.ListFacts.nodup_map_inj inv.nd c hc b hb h
  obtain ⟨hH, hWsplit⟩ := gstep_release_holder g b.id hjh
  generalize gstep g (.release b.id) = q at *
  generalize (grantsOf q.2).map Prod.fst = granted at *
  obtain ⟨hnd_h, hwnd, _⟩ := List.nodup_append.mp ok.hnd
  rw [← hWsplit] at hwnd
  have hdisj := (List.nodup_append.mp hwnd).2.2
  have hmH : ∀ x, x ∈ hidG q.1 ↔ (x ≠ b.id ∧ x ∈ hidG g) ∨ x ∈ granted := fun x => by
    rw [hH, List.mem_append, hnd_h.mem_erase_iff]
  have hmW : ∀ x, x ∈ widG g ↔ x ∈ granted ∨ x ∈ widG q.1 := fun x => by rw [← hWsplit, List.mem_append]
  have hjg : b.id ∉ granted := fun h => hjw ((hmW _).mpr (.inl h))
  have hjw' : b.id ∉ widG q.1 := fun h => hjw ((hmW _).mpr (.inr h))
  -- holders and waiters together only lose the job that releases
  have sub : (hidG q.1 ++ widG q.1).Sublist (hidG g ++ widG g) := by
    rw [hH, List.append_assoc, hWsplit]; exact List.erase_sublist.append_right _
  apply progress_update y r q.1 _ inv
  · intro c; split; rfl; split <;> rfl
  · intro c hc
    have hfl := inv.flags c hc
    by_cases h : c.id = b.id
    · have := uniq c hc h; subst this
      rw [if_pos rfl, hph]
      exact .inr ⟨.release, hfl.1, fun _ _ => hfl.2 (r + 1) hph⟩
    · rw [if_neg h]
      by_cases h2 : c.id ∈ granted
      · -- woken waiters of semaphore `r` go on to the next one
        rw [if_pos h2, (ok.link c hc).2.mp ((hmW _).mpr (.inl h2))]
        exact .inr ⟨.grant true hlt, hfl.1, fun _ h => by cases h⟩
      · exact .inl (if_neg h2)
  · exact ⟨b, hb, by rw [if_pos rfl, hph]; exact .release⟩
  · intro g0 hs0
    rw [hs] at hs0; cases hs0
    refine ⟨hM, hG, by rw [hC, hM]; exact ok.full, .sublist sub ok.hnd, fun id h => ok.own id (sub.subset h),
      fun c hc => ?_⟩
    rw [hmH]
    by_cases h : c.id = b.id
    · -- the job that released is in neither list any more
      have := uniq c hc h; subst this
      rw [if_pos rfl]
      simp [Phase.holds, hjg, hjw']
    · rw [if_neg h]
      by_cases h2 : c.id ∈ granted
      · -- a woken waiter is a holder now
        rw [if_pos h2]
        simpa [Phase.holds, h2] using fun h => hdisj _ h2 _ h rfl
      · -- anybody else is where it was
        rw [if_neg h2, ← (ok.link c hc).1, ← (ok.link c hc).2, hmW]
        simp [h, h2]

theorem enabledId_iff (y : Sys) (inv : SInv y) (j : Nat) :
    y.enabledId j = true ↔ ∃ b ∈ y.jobs, b.id = j ∧ b.enabled = true := by
  unfold Sys.enabledId
  constructor
  · intro h
    cases hf : y.jobs.find? (fun b => b.id == j) with
    | none => rw [hf] at h; simp at h
    | some b =>
      rw [hf] at h
      exact ⟨b, List.mem_of_find?_eq_some hf, by simpa using List.find?_some hf, h⟩
  · rintro ⟨b, hb, rfl, he⟩
    rw [Proofs.ListFacts.find?_key_of_nodup inv.nd hb]; exact he

theorem disabled_phase (b : LJob) (h : b.enabled = false) :
    (∃ s, b.ph = .acq s true) ∨ b.ph = .rel 0 := by
  unfold LJob.enabled at h
  cases hp : b.ph with
  | acq s w =>
    rw [hp] at h
    cases w with
    | true => exact Or.inl ⟨s, rfl⟩
    | false => simp at h
  | rel r =>
    rw [hp] at h
    right
    cases r with
    | zero => rfl
    | succ r => simp at h

theorem act_idle (y : Sys) (j : Nat) (h : y.enabledId j = false) : y.act j = y := by
  unfold Sys.enabledId at h
  unfold Sys.act
  cases hf : y.jobs.find? (fun b => b.id == j) with
  | none => rfl
  | some b =>
    rw [hf] at h
    simp only
    rcases disabled_phase b h with ⟨s, hs⟩ | hs <;> rw [hs]

theorem act_progress (y : Sys) (inv : SInv y) (b : LJob) (hb : b ∈ y.jobs) (he : b.enabled = true) :
    Progress y (y.act b.id) := by
  have uniq : ∀ c ∈ y.jobs, c.id = b.id → c = b := fun c hc h => Proofs.ListFacts.nodup_map_inj inv.nd c hc b hb h
  have hwf := (inv.wf b hb).1
  unfold Sys.act
  rw [Proofs.ListFacts.find?_key_of_nodup inv.nd hb]
  simp only
  cases hph : b.ph with
  | acq s w =>
    cases w with
    | true => simp [LJob.enabled, hph] at he
    | false =>
      simp only
      cases hs : y.gs[s]? with
      | some g => exact act_acquire_progress y inv b hb s hph g hs
      | none =>
        -- all semaphores held: the job process runs; there is no semaphore number `s` to change
        rw [← List.set_eq_of_length_le (a := G.init 0) (List.getElem?_eq_none_iff.mp hs)]
        apply progress_update y s _ _ inv
        · intro c; split <;> rfl
        · intro c hc
          by_cases h : c.id = b.id
          · have := uniq c hc h; subst this
            rw [if_pos rfl, hph]
            exact .inr ⟨.turn, (inv.flags c hc).1, fun _ _ => .inl rfl⟩
          · exact .inl (if_neg h)
        · exact ⟨b, hb, by rw [if_pos rfl, hph]; exact .turn⟩
        · intro g hg; rw [hs] at hg; cases hg
  | rel r =>
    cases r with
    | zero => simp [LJob.enabled, hph] at he
    | succ r =>
      simp only
      cases hs : y.gs[r]? with
      | some g => exact act_release_progress y inv b hb r hph g hs
      | none =>
        exfalso
        rw [hph] at hwf
        simp only [PhaseOK] at hwf
        have := List.getElem?_eq_none_iff.mp hs
        omega

theorem act_rank_lt (y : Sys) (inv : SInv y) (b : LJob) (hb : b ∈ y.jobs) (he : b.enabled = true) :
    (y.act b.id).rank < y.rank := (act_progress y inv b hb he).rank

theorem act_inv (y : Sys) (inv : SInv y) (j : Nat) : SInv (y.act j) := by
  cases he : y.enabledId j with
  | false => rw [act_idle y j he]; exact inv
  | true =>
    obtain ⟨b, hb, rfl, hen⟩ := (enabledId_iff y inv j).mp he
    exact (act_progress y inv b hb hen).inv

theorem act_static (y : Sys) (inv : SInv y) (j : Nat) :
    (y.act j).gs.map (fun g => g.sem.max) = y.gs.map (fun g => g.sem.max) ∧
    (y.act j).jobs.map jobKey = y.jobs.map jobKey := by
  cases he : y.enabledId j with
  | false => rw [act_idle y j he]; exact ⟨rfl, rfl⟩
  | true =>
    obtain ⟨b, hb, rfl, hen⟩ := (enabledId_iff y inv j).mp he
    exact ⟨(act_progress y inv b hb hen).sizes, (act_progress y inv b hb hen).keys⟩

theorem runSched_static (y : Sys) (inv : SInv y) (js : List Nat) :
    (y.runSched js).gs.map (fun g => g.sem.max) = y.gs.map (fun g => g.sem.max) ∧
    (y.runSched js).jobs.map jobKey = y.jobs.map jobKey := by
  induction js generalizing y with
  | nil => exact ⟨rfl, rfl⟩
  | cons j js ih =>
    have h1 := act_static y inv j
    have h2 := ih (y.act j) (act_inv y inv j)
    exact ⟨h2.1.trans h1.1, h2.2.trans h1.2⟩

theorem runSched_inv (y : Sys) (inv : SInv y) (js : List Nat) : SInv (y.runSched js) := by
  induction js generalizing y with
  | nil => exact inv
  | cons j js ih => exact ih _ (act_inv y inv j)

theorem init_inv (sizes : List Int) (jobs : List (Nat × List Int))
    (hnd : (jobs.map Prod.fst).Nodup) (hnn : ∀ p ∈ jobs, ∀ s, 0 ≤ p.2.getD s 0) :
    SInv (Sys.init sizes jobs) := by
  refine ⟨?_, fun i g hi => ?_, fun b hb => ?_, fun b hb => ?_⟩
  · simpa [Sys.init, List.map_map, Function.comp_def] using hnd
  · have hg : g ∈ (Sys.init sizes jobs).gs := List.mem_iff_getElem?.mpr ⟨i, hi⟩
    simp only [Sys.init, List.mem_map] at hg
    obtain ⟨m, _, rfl⟩ := hg
    refine ⟨good_fresh m, rfl, by simp [hidG, widG, G.init, Sem.init],
      fun id h => by simp [hidG, widG, G.init, Sem.init] at h, fun b hb => ?_⟩
    simp only [Sys.init, List.mem_map] at hb
    obtain ⟨p, _, rfl⟩ := hb
    simp [hidG, widG, G.init, Sem.init, Phase.holds]
  · simp only [Sys.init, List.mem_map] at hb
    obtain ⟨p, hp, rfl⟩ := hb
    exact ⟨by simp [PhaseOK], hnn p hp⟩
  · simp only [Sys.init, List.mem_map] at hb
    obtain ⟨p, hp, rfl⟩ := hb
    exact ⟨by simp, by intro r h; simp at h⟩

end Martian.Semaphore
