/-
C19 — `renameDec` (the definition of a callable and the callable name of every call of it are
renamed, call ids and references untouched) leaves the resolved call graph unchanged modulo the
renamed callable: `renameDec_graph`.  On the id-erased program `renameCallable` is `renameDec`
(`Props.C19.rename_callgraph_partial`).
-/
import Proofs.RefactorGraphLemmas

namespace Proofs.RefactorGraph
open Martian.Refactor

theorem pipeOKCall_parts {x : String} {c : Callable} (h : pipeOKCall x c = true) :
    Base c ∧ (c.name = x → ∀ k ∈ c.calls, k.decId ≠ x) := by
  simp only [pipeOKCall, Bool.and_eq_true, Bool.or_eq_true, List.all_eq_true, decide_eq_true_eq,
    bne_iff_ne, ne_eq, List.isEmpty_iff] at h
  obtain ⟨⟨⟨⟨h1, h2⟩, h3⟩, h4⟩, h5⟩ := h
  exact ⟨⟨h1, h2, h3, h4⟩, fun hn => h5.resolve_left (not_not_intro hn)⟩

theorem renName_beq {x y m n : String} (hm : m ≠ y) (hn : n ≠ y) :
    (renName x y m == renName x y n) = (m == n) := by
  unfold renName
  by_cases h1 : m = x
  · by_cases h2 : n = x
    · rw [if_pos h1, if_pos h2, h1, h2, beq_self_eq_true, beq_self_eq_true]
    · rw [if_pos h1, if_neg h2, h1, beq_false_of_ne (Ne.symm hn), beq_false_of_ne (Ne.symm h2)]
  · by_cases h2 : n = x
    · rw [if_neg h1, if_pos h2, h2, beq_false_of_ne hm, beq_false_of_ne h1]
    · rw [if_neg h1, if_neg h2]

theorem lookup_renTop_renName {α : Type} (x y n : String) (l : List (String × α)) (hy : y ∉ l.map (·.1))
    (hn : n ≠ y) : (renTop x y l).lookup (renName x y n) = l.lookup n := by
  unfold renName
  split
  · rename_i h
    rw [h, lookup_renTop_new x y l hy]
  · rename_i h
    rw [lookup_renTop_other x y n l h hn]

def FDec (x y : String) (c : Callable) : Callable :=
  if c.name = x then { c with name := y }
  else { c with calls := c.calls.map (fun k => if k.decId = x then { k with decId := y } else k) }

def GDec (x y : String) (pipe : Callable) (k : Call) : Call :=
  if pipe.name = x then k else (if k.decId = x then { k with decId := y } else k)

theorem FDec_fields (x y : String) (c : Callable) :
    (FDec x y c).isPipe = c.isPipe ∧ (FDec x y c).name = renName x y c.name ∧ (FDec x y c).outs = c.outs
    ∧ (FDec x y c).ret = c.ret ∧ (FDec x y c).retain = c.retain := by
  unfold FDec renName
  split <;> exact ⟨rfl, rfl, rfl, rfl, rfl⟩

theorem FDec_calls (x y : String) (c : Callable) : (FDec x y c).calls = c.calls.map (GDec x y c) := by
  unfold FDec GDec
  split
  · simp
  · rfl

theorem GDec_fields (x y : String) (pipe : Callable) (k : Call) :
    (GDec x y pipe k).id = k.id ∧ (GDec x y pipe k).binds = k.binds := by
  unfold GDec
  split
  · exact ⟨rfl, rfl⟩
  · split <;> exact ⟨rfl, rfl⟩

theorem GDec_decId (x y : String) (pipe : Callable) (k : Call) (h : pipe.name = x → k.decId ≠ x) :
    (GDec x y pipe k).decId = renName x y k.decId := by
  unfold GDec renName
  split
  · rename_i hn
    rw [if_neg (h hn)]
  · split <;> rfl

def renCallG (x y : String) (c : String) (path : List String) : String × List String := (renName x y c, path)

theorem renameDec_graph (x y : String) (ti : TypeInfo) (q : Program)
    (hok : RenCallOK x y ti q = true) :
    deepGraph (ti.renameCallable x y) (renameDec x y q)
      = (deepGraph ti q).map (renNodeCallable x y) := by
  simp only [RenCallOK, Bool.and_eq_true, bne_iff_ne, ne_eq, List.all_eq_true, Bool.not_eq_true',
    List.contains_eq_mem, decide_eq_false_iff_not, List.any_eq_false, beq_iff_eq] at hok
  obtain ⟨⟨⟨⟨⟨⟨⟨⟨⟨⟨⟨hx, hy⟩, hxy⟩, hfx⟩, hny⟩, hcy⟩, hall⟩, htopok⟩, hax⟩, hay⟩, hiy⟩, hoy⟩ := hok
  have htok : TypesOK (fun base => base ≠ x ∧ base ≠ y) ti := (typesAvoid_parts hax).2.and (typesAvoid_parts hay).2
  have hstable : PathStable (renCallG x y) := fun _ _ _ => rfl
  have hp' : renameDec x y q = Program.mk (q.callables.map (FDec x y))
      (q.top.map (fun k => if k.decId = x then { k with decId := y } else k)) := rfl
  have hmo : ∀ base, base ≠ x ∧ base ≠ y → membersOf (ti.renameCallable x y) base = membersOf ti base := by
    intro base hb
    simp only [membersOf, TypeInfo.renameCallable]
    rw [lookup_renTop_other x y base ti.outs hb.1 hb.2]
  have hins : ∀ n, n ≠ y → insOf (ti.renameCallable x y) (renName x y n) = insOf ti n :=
    fun n hn => congrArg (·.getD []) (lookup_renTop_renName x y n ti.ins hiy hn)
  have houts : ∀ n, n ≠ y → outsOf (ti.renameCallable x y) (renName x y n) = outsOf ti n :=
    fun n hn => congrArg (·.getD []) (lookup_renTop_renName x y n ti.outs hoy hn)
  have hFname : ∀ c, (FDec x y c).name = renName x y c.name := fun c => (FDec_fields x y c).2.1
  have hfind : ∀ n, n ≠ y → (renameDec x y q).find? (renName x y n) = (q.find? n).map (FDec x y) :=
    fun n hn => find_map_inj (FDec x y) n _ q.callables fun c hc => by rw [hFname, renName_beq (hny c hc) hn]
  have H : SimHyp ti (ti.renameCallable x y) q (renameDec x y q) (renName x y) (FDec x y) (GDec x y)
      (fun _ env => mapVals (mapSref (renCallG x y)) env) (fun _ _ v => (mapSref (renCallG x y)) v) (mapSref (renCallG x y))
      (fun c => pipeOKCall x c = true ∧ c.name ≠ y ∧ ∀ k ∈ c.calls, k.decId ≠ y)
      (fun _ _ => True) (fun _ _ => True) (fun n => n ≠ y) (fun _ _ => true) := by
    refine { hfind1 := ?_, hfind0 := ?_, hrel := ?_, hF := ?_, hcalls := ?_, hGid := ?_, hGdec := ?_, hfirst := ?_,
             hO0 := ?_, hOs := ?_, o0 := ?_, o0s := ?_, o1 := ?_, o2 := ?_, c5 := ?_, c6 := ?_, c7 := ?_ }
    · intro n d hd
      have hdm := find_mem q n d hd
      have hn : n ≠ y := (find_name q n d hd) ▸ hny d hdm
      refine ⟨?_, hall d hdm, hny d hdm, hcy d hdm⟩
      rw [hfind n hn, hd]; rfl
    · intro n hn hd
      rw [hfind n hn, hd]; rfl
    · intro pipe hg k hk
      exact hg.2.2 k hk
    · intro c _
      have h := FDec_fields x y c
      exact ⟨h.1, h.2.1, congrArg _ h.2.2.1, congrArg _ h.2.2.2.1⟩
    · intro pipe _
      rw [filter_true']
      exact FDec_calls x y pipe
    · exact fun pipe k => (GDec_fields x y pipe k).1
    · exact fun pipe hg k hk => GDec_decId x y pipe k fun hn => (pipeOKCall_parts hg.1).2 hn k hk
    · intro pipe hg
      exact (pipeOKCall_parts hg.1).1.first
    · intros; rfl
    · intro d fq _ _; rfl
    · intros; trivial
    · intros; trivial
    · intros; trivial
    · intros; trivial
    · intro pipe self sib sib' k d id hg _ _ hag _ hk hd
      obtain rfl := sibAgree_true hag
      have hns := (pipeOKCall_parts hg.1).1.binds k (call_mem pipe id k hk).1
      have hGb := (GDec_fields x y pipe k).2
      rw [callIns_noStar _ _ _ _ _ _ hns, callIns_noStar _ _ _ _ _ _ (hGb ▸ hns), hGb, hFname,
        hins _ (hny d (find_mem q _ d hd))]
      exact resolveBinds_post_ok htok _ _ hmo _ (htok.insOf d.name) _ _ _
        fun _ _ r _ => lookupRef_post _ hstable self sib r
    · intro d ins sib sib' hg hp _ _ hag
      obtain rfl := sibAgree_true hag
      have hns := (pipeOKCall_parts hg.1).1.ret
      have hret := (FDec_fields x y d).2.2.2.1
      rw [pipeOuts_noStar _ _ _ _ hns, pipeOuts_noStar _ _ _ _ (hret ▸ hns), hret, hFname, houts _ hg.2.1,
        mapSref_struct]
      exact congrArg (fun e => RExp.map true (envEntries e))
        (resolveBinds_post_ok htok _ _ hmo _ (htok.outsOf d.name) _ _ _
          fun _ _ r _ => lookupRef_post _ hstable ins sib r)
    · intro d ins sib sib' hg hp _ _ hag
      obtain rfl := sibAgree_true hag
      unfold pipeRetained
      rw [(FDec_fields x y d).2.2.2.2]
      exact pipeRetained_post _ hstable d ins sib
  have hmap : nodeMap (renName x y) (fun _ env => mapVals (mapSref (renCallG x y)) env)
      (fun _ _ v => (mapSref (renCallG x y)) v)
      (mapSref (renCallG x y)) = renNodeCallable x y := by
    funext n; rfl
  rw [← deepGraphKeep_true ti q, ← hmap]
  apply sim_graph H
  · intro t ht
    have htop : t.decId ≠ y ∧ pipeOKCall x (topPipe t) = true := by simpa [ht] using htopok
    refine ⟨?_, ?_, ⟨htop.2, ?_, ?_⟩, trivial, rfl⟩
    · rw [hp']; simp [ht, GDec, topPipe, Ne.symm hx]
    · simp [GDec, FDec, topPipe, Ne.symm hx]
    · simp [topPipe, Ne.symm hy]
    · intro k hk
      simp [topPipe] at hk
      rw [hk]; exact htop.1
  · intro ht; rw [hp']; simp [ht]
  · rfl
  · exact graphFuel_map (FDec x y) rfl fun c _ => by rw [FDec_calls, List.length_map]

end Proofs.RefactorGraph
