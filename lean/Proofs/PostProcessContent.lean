/-
C13 `content_preserved`, global: after the WHOLE traversal every moved leaf's
destination holds exactly what its source held, provided the sources are
pairwise non-nested and unrelated to the outs directory (`Clean`); the
rewritten record is the input with every file leaf replaced by `expectVal`.
Both are read off `block` (create a directory or not, then run a list of
leaves, with more leaves to come), of which a record is the one-block case and
a call mapped over a typed map a sequence (Proofs/PostProcessMappedContent.lean);
`cleanB` decides the side conditions (the driver evaluates it on every real
input of the direct stream).
-/
import Proofs.PostProcessDests

namespace Martian.PostProcess

theorem unrelated_below {p top x : Path} (h1 : ¬ p <+: top) (h2 : ¬ top <+: p) (hx : top <+: x) :
    ¬ p <+: x ∧ ¬ x <+: p := by
  constructor
  · intro h
    rcases List.prefix_or_prefix_of_prefix h hx with h' | h'
    · exact h1 h'
    · exact h2 h'
  · intro h
    exact h2 (hx.trans h)

theorem statExists_none (fs : FS) (n : Nat) (q : Path) (h : fs.get q = none) :
    statExists fs n q = false := by
  cases n with
  | zero => rfl
  | succ n => simp [statExists, h]

/-- a leaf that names no source, or a source that holds nothing (and whose destination is free), changes
nothing and returns what `expectVal` says -/
theorem moveOutFile_inert (ps : Path) (fs : FS) (l : Leaf)
    (h : l.src = none ∨ ∃ p, l.src = some p ∧ fs.get p = none ∧ fs.get l.dest = none) :
    moveOutFile ps l.outs l.name l.v fs = (expectVal fs l, fs) := by
  obtain ⟨v, o, n⟩ := l
  cases v with
  | str s =>
    by_cases hs : s = ""
    · simp [moveOutFile, expectVal, hs]
    · simp only [Leaf.src, hs, if_false] at h
      rcases h with h | ⟨p, hp, hg, hf⟩
      · simp [moveOutFile, expectVal, hs, h]
      · rw [moveOutFile_missing ps o n s p fs hs hp hg hf]
        simp [expectVal, hs, hp, hg]
  | _ => rfl

/-- `expectVal` looks at the file system at the leaf's source only -/
theorem expectVal_congr {fs fs0 : FS} {l : Leaf} (h : ∀ p, l.src = some p → fs.get p = fs0.get p) :
    expectVal fs l = expectVal fs0 l := by
  obtain ⟨v, o, n⟩ := l
  cases v with
  | str s =>
    by_cases hs : s = ""
    · simp [expectVal, hs]
    · cases hp : parsePath s with
      | none => simp [expectVal, hs, hp]
      | some p => simp [expectVal, hs, hp, h p (by simp [Leaf.src, hs, hp])]
  | _ => rfl

theorem runLeaf_movable (fs : FS) (l : Leaf) (p : Path)
    (hsrc : l.src = some p) (hfree : fs.get l.dest = none) :
    ∃ s, l.v = .str s ∧ s ≠ "" ∧ parsePath s = some p ∧
      statExists fs statFuel (l.outs ++ [l.name]) = false := by
  obtain ⟨v, o, n⟩ := l
  cases v with
  | str s =>
    by_cases hs : s = ""
    · simp [Leaf.src, hs] at hsrc
    · simp only [Leaf.src, hs, if_false] at hsrc
      exact ⟨s, rfl, hs, hsrc, statExists_none fs _ _ hfree⟩
  | _ => simp [Leaf.src] at hsrc

theorem dest_below {top : Path} {l : Leaf} (h : top <+: l.outs) : top <+: l.dest :=
  h.trans (List.prefix_append _ _)

theorem clean_sublist {ps top : Path} {fs : FS} {ls' ls : List Leaf} (hs : ls'.Sublist ls)
    (hc : Clean ps top fs ls) : Clean ps top fs ls' :=
  ⟨hc.dests.sublist hs, fun l hl => hc.below l (hs.subset hl), fun l hl => hc.apart l (hs.subset hl),
    hc.nonnest.sublist hs, fun l hl => hc.status l (hs.subset hl), fun l hl => hc.free l (hs.subset hl)⟩

theorem step_frame (ps top : Path) (fs : FS) (l : Leaf) (ls : List Leaf) (hc : Clean ps top fs (l :: ls))
    (q : Path) (h1 : ∀ p, l.src = some p → ¬ p <+: q) (h2 : ¬ l.dest <+: q) (h3 : ¬ q <+: l.outs) :
    (runLeaf ps fs l).get q = fs.get q := by
  cases hsrc : l.src with
  | none => rw [runLeaf, moveOutFile_inert ps fs l (Or.inl hsrc)]
  | some p =>
    rcases hc.status l (by simp) p hsrc with hn | ⟨e, he, hl, hin⟩
    · rw [runLeaf, moveOutFile_inert ps fs l (Or.inr ⟨p, hsrc, hn, hc.free l (by simp)⟩)]
    · obtain ⟨s, hv, hs, hp, hfree⟩ := runLeaf_movable fs l p hsrc (hc.free l (by simp))
      simp only [runLeaf, hv]
      exact moveOutFile_moved_frame ps l.outs l.name s p e fs hs hp he hl hin hfree q
        (isPrefix_false_iff.mpr (h1 p hsrc)) (isPrefix_false_iff.mpr h2) (isPrefix_false_iff.mpr h3)

theorem out_of_way {ps top : Path} {fs : FS} {ls : List Leaf} (hc : Clean ps top fs ls) {l : Leaf} (hl : l ∈ ls)
    {d q : Path} (hd : top <+: d) (hq : d <+: q) (hinc : Incomp l.dest d) :
    (∀ p, l.src = some p → ¬ p <+: q) ∧ ¬ l.dest <+: q ∧ ¬ q <+: l.outs := by
  obtain ⟨h1, h2⟩ := incomp_iff.mp hinc
  refine ⟨fun p hp => ?_, fun hh => ?_, fun hh => h2 ((hq.trans hh).trans (List.prefix_append _ _))⟩
  · have hap := hc.apart l hl p hp
    exact (unrelated_below hap.1 hap.2 (hd.trans hq)).1
  · exact (unrelated_below h1 h2 hq).1 hh

theorem step_frame_src {ps top : Path} {fs : FS} {l : Leaf} {ls : List Leaf} (hc : Clean ps top fs (l :: ls))
    {l' : Leaf} (hl' : l' ∈ ls) {p' : Path} (hp' : l'.src = some p') {q : Path} (hq : p' <+: q) :
    (runLeaf ps fs l).get q = fs.get q := by
  have hn := (List.pairwise_cons.mp hc.nonnest).1 l' hl'
  have hlb : top <+: l.outs := hc.below l (by simp)
  have hap := hc.apart l' (by simp [hl']) p' hp'
  apply step_frame ps top fs l ls hc
  · exact fun p hp => (unrelated_below (hn p p' hp hp').1 (hn p p' hp hp').2 hq).1
  · exact fun hh => (unrelated_below hap.2 hap.1 hq).1 ((dest_below hlb).trans hh)
  · exact fun hh => (unrelated_below hap.1 hap.2 hlb).1 (hq.trans hh)

theorem clean_tail (ps top : Path) (fs : FS) (l : Leaf) (ls : List Leaf) (hc : Clean ps top fs (l :: ls)) :
    Clean ps top (runLeaf ps fs l) ls := by
  have h0 := clean_sublist (List.sublist_cons_self l ls) hc
  refine ⟨h0.dests, h0.below, h0.apart, h0.nonnest, fun l' hl' p' hp' => ?_, fun l' hl' => ?_⟩
  · rw [step_frame_src hc hl' hp' List.prefix_rfl]
    exact h0.status l' hl' p' hp'
  · obtain ⟨h1, h2, h3⟩ := out_of_way hc (l := l) (by simp) (dest_below (h0.below l' hl')) List.prefix_rfl
      ((List.pairwise_cons.mp hc.dests).1 l' hl')
    rw [step_frame ps top fs l ls hc l'.dest h1 h2 h3]
    exact h0.free l' hl'

theorem clean_run_drop (ps top : Path) (A B : List Leaf) (fs : FS) (hc : Clean ps top fs (A ++ B)) :
    Clean ps top (runLeaves ps A fs) B := by
  induction A generalizing fs with
  | nil => exact hc
  | cons l A ih =>
    rw [runLeaves_cons]
    exact ih _ (clean_tail ps top fs l (A ++ B) hc)

theorem agree_run (ps top : Path) (A B : List Leaf) (fs : FS) (hc : Clean ps top fs (A ++ B))
    (l : Leaf) (hl : l ∈ B) (p : Path) (hsrc : l.src = some p) (suf : Path) :
    (runLeaves ps A fs).get (p ++ suf) = fs.get (p ++ suf) := by
  induction A generalizing fs with
  | nil => rfl
  | cons h A ih =>
    rw [runLeaves_cons, ih _ (clean_tail ps top fs h (A ++ B) hc)]
    exact step_frame_src hc (by simp [hl]) hsrc (List.prefix_append p suf)

theorem run_frame (ps top : Path) (ls : List Leaf) (fs : FS) (hc : Clean ps top fs ls) (q : Path)
    (h : ∀ l ∈ ls, (∀ p, l.src = some p → ¬ p <+: q) ∧ ¬ l.dest <+: q ∧ ¬ q <+: l.outs) :
    (runLeaves ps ls fs).get q = fs.get q := by
  induction ls generalizing fs with
  | nil => rfl
  | cons l ls ih =>
    rw [runLeaves_cons, ih _ (clean_tail ps top fs l ls hc) (fun l' hl' => h l' (by simp [hl']))]
    obtain ⟨h1, h2, h3⟩ := h l (by simp)
    exact step_frame ps top fs l ls hc q h1 h2 h3

theorem step_moved {ps top : Path} {fs : FS} {l : Leaf} {ls : List Leaf} (hc : Clean ps top fs (l :: ls))
    {p : Path} {e : Entry} (hsrc : l.src = some p) (he : fs.get p = some e) :
    (moveOutFile ps l.outs l.name l.v fs).1 = expectVal fs l ∧
    ∀ suf, (runLeaf ps fs l).get (l.dest ++ suf) = fs.get (p ++ suf) := by
  have hlb : top <+: l.outs := hc.below l (by simp)
  have hap := hc.apart l (by simp) p hsrc
  obtain ⟨s, hv, hs, hp, hfree⟩ := runLeaf_movable fs l p hsrc (hc.free l (by simp))
  rcases hc.status l (by simp) p hsrc with hnone | ⟨e', he', hlk, hin⟩
  · rw [hnone] at he; cases he
  · have hm := moveOutFile_moved ps l.outs l.name s p e' fs hs hp he' hlk hin hfree
      (isPrefix_false_iff.mpr (unrelated_below hap.1 hap.2 hlb).1)
      (isPrefix_false_iff.mpr (fun hh => hap.2 ((dest_below hlb).trans hh)))
    simp only [runLeaf, hv]
    exact ⟨by rw [hm.1]; simp [expectVal, hv, hs, hp, he', Leaf.dest], hm.2.1⟩

/-- the leaves before it leave the source tree alone, its own step moves the tree, the leaves after it
leave the destination alone -/
theorem content_preserved_run (ps top : Path) (ls : List Leaf) (fs : FS) (hc : Clean ps top fs ls)
    (l : Leaf) (hl : l ∈ ls) (p : Path) (e : Entry) (hsrc : l.src = some p) (he : fs.get p = some e) :
    ∀ suf, (runLeaves ps ls fs).get (l.dest ++ suf) = fs.get (p ++ suf) := by
  intro suf
  obtain ⟨A, B, rfl⟩ := List.append_of_mem hl
  have hA := agree_run ps top A (l :: B) fs hc l (by simp) p hsrc
  have hcl := clean_run_drop ps top A (l :: B) fs hc
  have he' : (runLeaves ps A fs).get p = some e := by
    have := hA []
    rwa [List.append_nil, he] at this
  rw [runLeaves_append, runLeaves_cons, ← hA suf, ← (step_moved hcl hsrc he').2 suf]
  refine run_frame ps top B _ (clean_tail ps top _ l B hcl) _ (fun l' hl' => ?_)
  exact out_of_way hcl (by simp [hl']) (dest_below (hcl.below l (by simp))) (List.prefix_append _ _)
    ((List.pairwise_cons.mp hcl.dests).1 l' hl').symm

theorem clean_mkdirAll_at (ps top d : Path) (fs : FS) (ls : List Leaf) (hc : Clean ps top fs ls)
    (hd : top <+: d) (hlen : ∀ l ∈ ls, d.length < l.dest.length) :
    Clean ps top (mkdirAll fs d) ls := by
  refine ⟨hc.dests, hc.below, hc.apart, hc.nonnest, fun l hl p hp => ?_, fun l hl => ?_⟩
  · have hap := hc.apart l hl p hp
    rw [mkdirAll_get_other _ _ _ (isPrefix_false_iff.mpr (unrelated_below hap.1 hap.2 hd).1)]
    exact hc.status l hl p hp
  · rw [mkdirAll_get_other _ _ _ (isPrefix_false_iff.mpr fun hh => by have := hh.length_le; have := hlen l hl; omega)]
    exact hc.free l hl

theorem clean_mkdirAll (ps top : Path) (fs : FS) (ls : List Leaf) (hc : Clean ps top fs ls) :
    Clean ps top (mkdirAll fs top) ls :=
  clean_mkdirAll_at ps top top fs ls hc List.prefix_rfl fun l hl => by
    have := (hc.below l hl).length_le
    simp [Leaf.dest]
    omega

theorem clean_good (ps top : Path) (fs0 : FS) (ls : List Leaf) (fs : FS) (hc : Clean ps top fs ls)
    (hag : ∀ l ∈ ls, ∀ p, l.src = some p → fs.get p = fs0.get p) :
    Good ps (expectVal fs0) ls fs := by
  induction ls generalizing fs with
  | nil => trivial
  | cons l ls ih =>
    refine ⟨?_, ih _ (clean_tail ps top fs l ls hc) fun l' hl' p' hp' => ?_⟩
    · -- the call returns what `expectVal` says in `fs`, which agrees with `fs0` at the source
      rw [← expectVal_congr (hag l (by simp))]
      cases hsrc : l.src with
      | none => rw [moveOutFile_inert ps fs l (Or.inl hsrc)]
      | some p =>
        cases he : fs.get p with
        | none => rw [moveOutFile_inert ps fs l (Or.inr ⟨p, hsrc, he, hc.free l (by simp)⟩)]
        | some e => exact (step_moved hc hsrc he).1
    · -- the sources of the later leaves are untouched by this step
      rw [step_frame_src hc hl' hp' List.prefix_rfl]
      exact hag l' (by simp [hl']) p' hp'

/-- what `processStructOuts` starts a record with: its directory, when the signature has a file-typed output -/
def mkdirIf (c : Bool) (fs : FS) (d : Path) : FS := if c then mkdirAll fs d else fs

theorem mkdirIf_get (c : Bool) (fs : FS) (d q : Path) (h : ¬ q <+: d) : (mkdirIf c fs d).get q = fs.get q := by
  unfold mkdirIf
  split
  · exact mkdirAll_get_other _ _ _ (isPrefix_false_iff.mpr h)
  · rfl

theorem processStructOuts_eq (ps : Path) (params : List (String × String × Ty)) (x : J) (d : Path) (fs : FS) :
    processStructOuts true ps params x d fs =
      (.obj (handleOuts true ps params (fieldsOf x) d (mkdirIf (hasFileMs params) fs d)).1,
        runLeaves ps (leavesRec params (fieldsOf x) d) (mkdirIf (hasFileMs params) fs d)) := by
  simp only [processStructOuts, mkdirIf, ← handleOuts_run]
  cases x <;> rfl

/-- One block of a run: the directory `d` is created (or not), then the leaves `A` run; `B` are the leaves
still to come and `fs0` is the file system in which the whole run started.  The block hands the invariant
(`Clean`, agreement with `fs0` on the sources) to what follows; its own leaves get the values and the
contents that `fs0` promises; paths away from `d` and from its leaves are untouched. -/
theorem block (ps top d : Path) (c : Bool) (fs0 fs : FS) (A B : List Leaf)
    (hc : Clean ps top fs (A ++ B)) (hd : top <+: d) (hlen : ∀ l ∈ A ++ B, d.length < l.dest.length)
    (hag : ∀ l ∈ A ++ B, ∀ p, l.src = some p → ∀ suf, fs.get (p ++ suf) = fs0.get (p ++ suf)) :
    Clean ps top (runLeaves ps A (mkdirIf c fs d)) B ∧
    (∀ l ∈ B, ∀ p, l.src = some p → ∀ suf, (runLeaves ps A (mkdirIf c fs d)).get (p ++ suf) = fs0.get (p ++ suf)) ∧
    Good ps (expectVal fs0) A (mkdirIf c fs d) ∧
    (∀ l ∈ A, ∀ p e, l.src = some p → fs0.get p = some e → ∀ suf,
      (runLeaves ps A (mkdirIf c fs d)).get (l.dest ++ suf) = fs0.get (p ++ suf)) ∧
    (∀ q, ¬ q <+: d → (∀ l ∈ A, (∀ p, l.src = some p → ¬ p <+: q) ∧ ¬ l.dest <+: q ∧ ¬ q <+: l.outs) →
      (runLeaves ps A (mkdirIf c fs d)).get q = fs.get q) := by
  have hc1 : Clean ps top (mkdirIf c fs d) (A ++ B) := by
    unfold mkdirIf
    split
    · exact clean_mkdirAll_at ps top d fs _ hc hd hlen
    · exact hc
  have hcA := clean_sublist (List.sublist_append_left A B) hc1
  -- the sources are apart from `top`, hence not above `d`
  have hag1 : ∀ l ∈ A ++ B, ∀ p, l.src = some p → ∀ suf, (mkdirIf c fs d).get (p ++ suf) = fs0.get (p ++ suf) := by
    intro l hl p hp suf
    have hap := hc.apart l hl p hp
    rw [mkdirIf_get c fs d _ fun hh => (unrelated_below hap.1 hap.2 hd).1 ((List.prefix_append p suf).trans hh)]
    exact hag l hl p hp suf
  refine ⟨clean_run_drop ps top A B _ hc1, fun l hl p hp suf => ?_, ?_, fun l hl p e hp he suf => ?_, fun q hq h => ?_⟩
  · rw [agree_run ps top A B _ hc1 l hl p hp suf]
    exact hag1 l (by simp [hl]) p hp suf
  · exact clean_good ps top fs0 A _ hcA fun l hl p hp => by simpa using hag1 l (by simp [hl]) p hp []
  · have he1 : (mkdirIf c fs d).get p = some e := by
      have := hag1 l (by simp [hl]) p hp []
      rwa [List.append_nil, he] at this
    rw [content_preserved_run ps top A _ hcA l hl p e hp he1 suf]
    exact hag1 l (by simp [hl]) p hp suf
  · rw [run_frame ps top A _ hcA q h, mkdirIf_get c fs d q hq]

theorem record_block (ps top : Path) (fs : FS) (c : Bool) (ls : List Leaf) (hc : Clean ps top fs ls) :
    Good ps (expectVal fs) ls (mkdirIf c fs top) ∧
    ∀ l ∈ ls, ∀ p e, l.src = some p → fs.get p = some e → ∀ suf,
      (runLeaves ps ls (mkdirIf c fs top)).get (l.dest ++ suf) = fs.get (p ++ suf) := by
  have h := block ps top top c fs fs ls [] (by simpa using hc) List.prefix_rfl
    (fun l hl => by have := (hc.below l (by simpa using hl)).length_le; simp [Leaf.dest]; omega)
    (fun _ _ _ _ _ => rfl)
  exact ⟨h.2.2.1, h.2.2.2.1⟩

/-- the situation of a whole record: the leaves are those of the signature
(so `dests` and `below` are theorems, not hypotheses) -/
theorem clean_record (ps top : Path) (fs : FS) (params : List (String × String × Ty))
    (outs : List (String × J)) (hwf : wfParams params = true)
    (apart : ∀ l ∈ leavesRec params outs top, ∀ p, l.src = some p → ¬ p <+: top ∧ ¬ top <+: p)
    (nonnest : (leavesRec params outs top).Pairwise (fun l1 l2 => ∀ p1 p2, l1.src = some p1 →
      l2.src = some p2 → ¬ p1 <+: p2 ∧ ¬ p2 <+: p1))
    (status : ∀ l ∈ leavesRec params outs top, ∀ p, l.src = some p →
      fs.get p = none ∨ ∃ e, fs.get p = some e ∧ e.isLink = false ∧ inside ps p = true)
    (free : ∀ l ∈ leavesRec params outs top, fs.get l.dest = none) :
    Clean ps top fs (leavesRec params outs top) :=
  ⟨leavesRec_pairwise params outs top hwf,
    fun l hl => under_iff_prefix.mp (leavesRec_under params outs top hwf l hl),
    apart, nonnest, status, free⟩

theorem content_preserved_record (ps top : Path) (fs : FS) (params : List (String × String × Ty))
    (outs : List (String × J)) (hc : Clean ps top fs (leavesRec params outs top))
    (l : Leaf) (hl : l ∈ leavesRec params outs top) (p : Path) (e : Entry)
    (hsrc : l.src = some p) (he : fs.get p = some e) (suf : Path) :
    (processStructOuts true ps params (.obj outs) top fs).2.get (l.dest ++ suf) = fs.get (p ++ suf) := by
  rw [processStructOuts_eq]
  exact (record_block ps top fs _ _ hc).2 l hl p e hsrc he suf

theorem record_values (ps top : Path) (fs : FS) (params : List (String × String × Ty))
    (outs : List (String × J)) (hc : Clean ps top fs (leavesRec params outs top)) :
    (processStructOuts true ps params (.obj outs) top fs).1 =
      .obj (pureOuts (expectVal fs) params outs top) := by
  rw [processStructOuts_eq]
  exact congrArg J.obj (handleOuts_val ps _ params outs top _ (record_block ps top fs _ _ hc).1)

theorem nonnestB_sound (ls : List Leaf) (h : nonnestB ls = true) :
    ls.Pairwise (fun l1 l2 => ∀ p1 p2, l1.src = some p1 → l2.src = some p2 → ¬ p1 <+: p2 ∧ ¬ p2 <+: p1) := by
  induction ls with
  | nil => exact List.Pairwise.nil
  | cons l ls ih =>
    simp only [nonnestB, Bool.and_eq_true, List.all_eq_true] at h
    refine List.pairwise_cons.mpr ⟨fun l' hl' p1 p2 h1 h2 => ?_, ih h.2⟩
    have := h.1 l' hl'
    simp only [srcApartB, h1, h2, Bool.and_eq_true, Bool.not_eq_true'] at this
    exact ⟨isPrefix_false_iff.mp this.1, isPrefix_false_iff.mp this.2⟩

theorem cleanB_fields (ps top : Path) (fs : FS) (ls : List Leaf) (h : cleanB ps top fs ls = true) :
    (∀ l ∈ ls, ∀ p, l.src = some p → ¬ p <+: top ∧ ¬ top <+: p) ∧
    ls.Pairwise (fun l1 l2 => ∀ p1 p2, l1.src = some p1 → l2.src = some p2 → ¬ p1 <+: p2 ∧ ¬ p2 <+: p1) ∧
    (∀ l ∈ ls, ∀ p, l.src = some p →
      fs.get p = none ∨ ∃ e, fs.get p = some e ∧ e.isLink = false ∧ inside ps p = true) ∧
    (∀ l ∈ ls, fs.get l.dest = none) := by
  simp only [cleanB, Bool.and_eq_true, List.all_eq_true] at h
  have hl : ∀ l ∈ ls, leafOkB ps top fs l = true := h.1
  refine ⟨?_, nonnestB_sound _ h.2, ?_, ?_⟩
  · intro l hm p hp
    have := hl l hm
    simp only [leafOkB, hp, Bool.and_eq_true, Bool.not_eq_true'] at this
    exact ⟨isPrefix_false_iff.mp this.1.1.1, isPrefix_false_iff.mp this.1.1.2⟩
  · intro l hm p hp
    have := hl l hm
    simp only [leafOkB, hp, Bool.and_eq_true, Bool.not_eq_true'] at this
    cases hg : fs.get p with
    | none => exact Or.inl rfl
    | some e =>
      rw [hg] at this
      simp only [Bool.and_eq_true, Bool.not_eq_true'] at this
      exact Or.inr ⟨e, rfl, this.1.2.1, this.1.2.2⟩
  · intro l hm
    have := hl l hm
    simp only [leafOkB, Bool.and_eq_true, Option.isNone_iff_eq_none] at this
    exact this.2

theorem cleanB_sound (ps top : Path) (fs : FS) (params : List (String × String × Ty))
    (outs : List (String × J)) (hwf : wfParams params = true)
    (h : cleanB ps top fs (leavesRec params outs top) = true) :
    Clean ps top fs (leavesRec params outs top) := by
  obtain ⟨apart, nonnest, status, free⟩ := cleanB_fields ps top fs _ h
  exact clean_record ps top fs params outs hwf apart nonnest status free

/-- the conclusion of `content_preserved` read at concrete paths: the destination path and what the
source held are evaluated apart from the file system of the run (the kernel would otherwise
evaluate that whole run to compare two spellings of the path) -/
theorem get_at_dest {fs' fs : FS} {l : Leaf} {p suf d : Path} {r : Option Entry}
    (h : fs'.get (l.dest ++ suf) = fs.get (p ++ suf)) (hd : l.dest ++ suf = d) (hr : fs.get (p ++ suf) = r) :
    fs'.get d = r := hd ▸ hr ▸ h

theorem exSig3_checked : wfParams exSig3 = true ∧
    cleanB ["ps"] ["ps", "outs"] exFS3 (leavesRec exSig3 exOuts3 ["ps", "outs"]) = true ∧
    (leavesRec exSig3 exOuts3 ["ps", "outs"]).length = 6 := by decide +kernel

theorem exSig3_clean : Clean ["ps"] ["ps", "outs"] exFS3 (leavesRec exSig3 exOuts3 ["ps", "outs"]) :=
  cleanB_sound _ _ _ _ _ exSig3_checked.1 exSig3_checked.2.1

end Martian.PostProcess
