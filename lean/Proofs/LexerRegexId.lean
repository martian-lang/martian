import Martian.LexerId
import Proofs.LexerRegex

/-! The identifier rule: `matchId` decides the denotational semantics of `idRe`, the AST of
`^_?[[:alpha:]]\w*\b`. -/
namespace Martian.LexerRegex
open Martian.Regex

def idRe : Re :=
  .cat .bot (.cat (.rep (.cls [(0x5F, 0x5F)]) 0 (some 1)) (.cat (.cls [(0x41, 0x5A), (0x61, 0x7A)])
    (.cat (.rep (.cls [(0x30, 0x39), (0x41, 0x5A), (0x61, 0x7A), (0x5F, 0x5F)]) 0 none) .wordb)))

theorem cok_alpha (c : UInt8) : cok [(0x41, 0x5A), (0x61, 0x7A)] c = true ↔ Lexer.isAlpha c = true := by
  rw [cok_eq_inR (by decide)]; simp [inR, Lexer.isAlpha]

theorem cok_word (c : UInt8) :
    cok [(0x30, 0x39), (0x41, 0x5A), (0x61, 0x7A), (0x5F, 0x5F)] c = true ↔ Lexer.isWord c = true := by
  rw [cok_eq_inR (by decide)]; simp [inR, Lexer.isWord, Lexer.isDigit, le_le_eq_beq, or_assoc]

theorem alpha_facts (c : UInt8) (h : Lexer.isAlpha c = true) : Lexer.isWord c = true ∧ (c == 0x5F) = false := by
  constructor
  · simp only [Lexer.isAlpha, Bool.or_eq_true] at h
    rcases h with h | h <;> simp [Lexer.isWord, h]
  · exact Bool.eq_false_iff.mpr fun e => by cases eq_of_beq e; revert h; decide

/-- an identifier token: optional `_`, a letter, word characters -/
def IdTok (w : Bytes) : Prop :=
  ∃ us a ws, w = us ++ (a :: ws) ∧ us.length ≤ 1 ∧ (∀ c ∈ us, c = 0x5F) ∧ Lexer.isAlpha a = true ∧
    ∀ c ∈ ws, Lexer.isWord c = true

/-- what the identifier rule admits: an identifier token before a word boundary -/
def IdShape (w post : Bytes) : Prop := IdTok w ∧ Lexer.boundary post = true

theorem id_shape (w post : Bytes) : Matches idRe [] w post ↔ IdShape w post := by
  have tail := fun (us : Bytes) a ws (ha : Lexer.isAlpha a = true) =>
    Matches_run_wordb (pre := [a].reverse ++ (us.reverse ++ ([].reverse ++ []))) cok_word (fun c h => word_eq c ▸ h) 0 none
      ws post (.inr (by simp [wordBefore, word_eq, (alpha_facts a ha).1]))
  constructor
  · rintro ⟨_, _, rfl, ⟨rfl, _⟩, us, _, rfl, hus, _, ws, rfl, hal, hws⟩
    obtain ⟨h1, h2⟩ := (Matches_opt_cls (cok_one 0x5F (by decide))).mp hus
    obtain ⟨a, rfl, ha⟩ := (Matches_cls_iff cok_alpha).mp hal
    obtain ⟨_, _, h3, hb⟩ := (tail us a ws ha).mp hws
    exact ⟨⟨us, a, ws, rfl, h1, h2, ha, h3⟩, hb⟩
  · rintro ⟨⟨us, a, ws, rfl, h1, h2, ha, h3⟩, hb⟩
    exact ⟨[], _, rfl, ⟨rfl, rfl⟩, us, _, rfl,
      (Matches_opt_cls (cok_one 0x5F (by decide))).mpr ⟨h1, h2⟩, [a], ws, rfl,
      (Matches_cls_iff cok_alpha).mpr ⟨a, rfl, ha⟩,
      (tail us a ws ha).mpr ⟨Nat.zero_le _, nofun, h3, hb⟩⟩

theorem matchId_eq_some_iff (s w : Bytes) : Lexer.matchId s = some w ↔ ∃ post, s = w ++ post ∧ IdShape w post := by
  constructor
  · have hsp := fun r : Bytes => Lexer.spanWord_eq_iff.mp (rfl : Lexer.spanWord r = _)
    fun_cases Lexer.matchId s with
    | case1 c hc c1 r1 ha =>
      rintro ⟨⟩
      exact ⟨_, by rw [List.cons_append, List.cons_append, ← (hsp r1).1], ⟨[c], c1, _, rfl, Nat.le_refl _,
        fun x hx => List.mem_singleton.mp hx ▸ eq_of_beq hc, ha, (hsp r1).2.1⟩, (Lexer.boundary_iff_stops _).mpr (hsp r1).2.2⟩
    | case4 c r _ ha =>
      rintro ⟨⟩
      exact ⟨_, by rw [List.cons_append, ← (hsp r).1], ⟨[], c, _, rfl, Nat.zero_le _, nofun, ha, (hsp r).2.1⟩,
        (Lexer.boundary_iff_stops _).mpr (hsp r).2.2⟩
    | case2 | case3 | case5 | case6 => intro h; cases h
  · rintro ⟨post, rfl, ⟨us, a, ws, rfl, h1, h2, ha, h3⟩, hb⟩
    have hsp : Lexer.spanWord (ws ++ post) = (ws, post) :=
      Lexer.spanWord_eq_iff.mpr ⟨rfl, h3, (Lexer.boundary_iff_stops post).mp hb⟩
    match us, h1, h2 with
    | [], _, _ => simp [Lexer.matchId, (alpha_facts a ha).2, ha, hsp]
    | [u], _, h2 => simp [Lexer.matchId, h2 u, ha, hsp]

theorem matchId_decides : Decides Lexer.matchId idRe := .of_shape id_shape matchId_eq_some_iff

theorem id_matches_iff (w post : Bytes) : Matches idRe [] w post ↔ Lexer.matchId (w ++ post) = some w :=
  matchId_decides.matches_iff w post

theorem pmatch_idRe (s : Bytes) : pmatch idRe s = Lexer.matchId s := matchId_decides.pmatch_eq s

end Martian.LexerRegex
