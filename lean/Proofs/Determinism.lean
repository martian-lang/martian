import Martian.Determinism
import Proofs.SortKeys
import Martian.DeterminismAccum
import Martian.DeterminismAccum2

/-! Three parts, one for each model file.  `Martian/Determinism.lean`: an object emits the same bytes whenever its entries
are permuted (`emit_eq_of_entries_perm`), and `JTree.Reorder` keeps well-formedness, object-ness, the bytes and the entries
up to permutation (`reorder_aux`).  `Martian/DeterminismAccum.lean`: with distinct keys `buildMap` is the entry-wise image
(`buildMap_eq_map`, `buildMap_perm`), and the accumulating loop in closed form (`accumulateIn_eq`, `accumulate_eq`).
`Martian/DeterminismAccum2.lean`: `walk t S` holds `S` and `free t` (`walk_mem`), `free` is invariant under `STree.Reorder`
(`free_reorder`), lookups in `insertKeyed` (`lookupL_foldl_insertKeyed`), deletes commute (`eraseKey_comm`), `callMode_eq_foldSorted`. -/
namespace Martian.Determinism
open Martian.SortKeys List

theorem maxKeyLen_perm (isStruct : Bool) {l₁ l₂ : List (Key × Rendered)} (h : l₁ ~ l₂) :
    maxKeyLen isStruct l₁ = maxKeyLen isStruct l₂ := by
  unfold maxKeyLen
  apply h.foldl_eq'
  intro x _ y _ z
  simp only [Nat.max_assoc]
  rw [Nat.max_comm (if (isStruct && x.2.single) = true then x.1.length else 0)]

theorem okeys_entries : ∀ t : JTree, (entries t).map Prod.fst = okeys t
  | .ocons k kj v r => by simp [entries, okeys, okeys_entries r]
  | .leaf _ | .onil => by simp [entries, okeys]

theorem emit_obj : ∀ t : JTree, t.isObj = true → t.emit = jsonObject (entries t)
  | .onil, _ => by simp [JTree.emit, entries]
  | .ocons k kj v r, _ => by simp [JTree.emit, entries]
  | .leaf _, h => by simp [JTree.isObj] at h

theorem wf_ocons (k : Key) (kj : Bytes) (v r : JTree) :
    (JTree.ocons k kj v r).wf = true ↔ v.wf = true ∧ r.wf = true ∧ r.isObj = true ∧ k ∉ okeys r := by
  simp [JTree.wf, and_assoc]

theorem nodup_okeys : ∀ t : JTree, t.wf = true → (okeys t).Nodup
  | .ocons k kj v r, h => by
    obtain ⟨_, hr, _, hk⟩ := (wf_ocons k kj v r).mp h
    simp only [okeys, nodup_cons]
    exact ⟨hk, nodup_okeys r hr⟩
  | .leaf _, _ | .onil, _ => by simp [okeys]

theorem emit_eq_of_entries_perm {a b : JTree} (ha : a.isObj = true) (hb : b.isObj = true)
    (hw : a.wf = true) (hp : entries a ~ entries b) : a.emit = b.emit := by
  rw [emit_obj _ ha, emit_obj _ hb]
  unfold jsonObject
  rw [sortK_eq_of_perm hp (by rw [okeys_entries]; exact nodup_okeys _ hw)]

theorem reorder_aux {a b : JTree} (h : JTree.Reorder a b) : a.wf = true →
    b.wf = true ∧ b.isObj = a.isObj ∧ a.emit = b.emit ∧ entries a ~ entries b := by
  induction h with
  | refl t => exact fun hw => ⟨hw, rfl, rfl, Perm.refl _⟩
  | swap k kj v k' kj' v' r =>
    intro hw
    obtain ⟨hv, hr1, _, hk⟩ := (wf_ocons _ _ _ _).mp hw
    obtain ⟨hv', hr, hro, hk'⟩ := (wf_ocons _ _ _ _).mp hr1
    simp only [okeys, mem_cons, not_or] at hk
    have hp : entries (.ocons k kj v (.ocons k' kj' v' r)) ~ entries (.ocons k' kj' v' (.ocons k kj v r)) := by
      simp only [entries]; exact Perm.swap _ _ _
    have hw2 : (JTree.ocons k' kj' v' (.ocons k kj v r)).wf = true := by
      rw [wf_ocons, wf_ocons]
      refine ⟨hv', ⟨hv, hr, hro, hk.2⟩, rfl, ?_⟩
      simp only [okeys, mem_cons, not_or]
      exact ⟨fun h => hk.1 h.symm, hk'⟩
    exact ⟨hw2, rfl, emit_eq_of_entries_perm rfl rfl hw hp, hp⟩
  | @congr k kj v v' r r' hv hr ihv ihr =>
    intro hw
    obtain ⟨hwv, hwr, hro, hk⟩ := (wf_ocons _ _ _ _).mp hw
    obtain ⟨wv', _, ev, _⟩ := ihv hwv
    obtain ⟨wr', or', _, pr⟩ := ihr hwr
    have hkeys : okeys r ~ okeys r' := by
      rw [← okeys_entries, ← okeys_entries]; exact pr.map Prod.fst
    have hp : entries (.ocons k kj v r) ~ entries (.ocons k kj v' r') := by
      simp only [entries, ev]; exact Perm.cons _ pr
    have hw2 : (JTree.ocons k kj v' r').wf = true :=
      (wf_ocons _ _ _ _).mpr ⟨wv', wr', or'.trans hro, fun h => hk (hkeys.symm.mem_iff.mp h)⟩
    exact ⟨hw2, rfl, emit_eq_of_entries_perm rfl rfl hw hp, hp⟩
  | trans _ _ ih1 ih2 =>
    intro hw
    obtain ⟨w1, o1, e1, p1⟩ := ih1 hw
    obtain ⟨w2, o2, e2, p2⟩ := ih2 w1
    exact ⟨w2, o2.trans o1, e1.trans e2, p1.trans p2⟩

/-! ## The accumulating loops of `Martian/DeterminismAccum.lean` -/

/-! ### inserting one value per entry into a fresh map -/

theorem insertKV_of_not_mem {V : Type} : ∀ (m : List (Key × V)) (k : Key) (v : V),
    k ∉ m.map Prod.fst → insertKV m k v = m ++ [(k, v)]
  | [], _, _, _ => rfl
  | (k', v') :: r, k, v, h => by
    simp only [map_cons, mem_cons, not_or] at h
    have hne : (k == k') = false := by simpa using h.1
    simp [insertKV, hne, insertKV_of_not_mem r k v h.2]

theorem foldl_insertKV_eq {V W : Type} (g : Key → V → W) : ∀ (l : List (Key × V)) (m : List (Key × W)),
    (l.map Prod.fst).Nodup → (∀ k ∈ l.map Prod.fst, k ∉ m.map Prod.fst) →
    l.foldl (fun m p => insertKV m p.1 (g p.1 p.2)) m = m ++ l.map (fun p => (p.1, g p.1 p.2))
  | [], m, _, _ => by simp
  | (k, v) :: r, m, hn, hd => by
    simp only [map_cons, nodup_cons] at hn
    have hk : k ∉ m.map Prod.fst := hd k (by simp)
    simp only [foldl_cons, map_cons]
    rw [insertKV_of_not_mem m k _ hk, foldl_insertKV_eq g r _ hn.2]
    · simp
    · intro k' hk'
      simp only [map_append, map_cons, map_nil, mem_append, mem_singleton, not_or]
      refine ⟨hd k' (by simp [hk']), ?_⟩
      rintro rfl
      exact hn.1 hk'

/-- with distinct keys (a Go map) no insert overwrites: the built map is the
entry-wise image, in the order walked -/
theorem buildMap_eq_map {V W : Type} (g : Key → V → W) (l : List (Key × V))
    (hn : (l.map Prod.fst).Nodup) : buildMap g l = l.map (fun p => (p.1, g p.1 p.2)) := by
  unfold buildMap
  rw [foldl_insertKV_eq g l [] hn (by simp)]
  simp

theorem buildMap_perm {V W : Type} (g : Key → V → W) {l₁ l₂ : List (Key × V)} (h : l₁ ~ l₂)
    (hn : (l₁.map Prod.fst).Nodup) : buildMap g l₁ ~ buildMap g l₂ := by
  have hn2 : (l₂.map Prod.fst).Nodup := (h.map Prod.fst).nodup_iff.mp hn
  rw [buildMap_eq_map g l₁ hn, buildMap_eq_map g l₂ hn2]
  exact h.map _

theorem buildMap_keys_nodup {V W : Type} (g : Key → V → W) (l : List (Key × V))
    (hn : (l.map Prod.fst).Nodup) : ((buildMap g l).map Prod.fst).Nodup := by
  rw [buildMap_eq_map g l hn]; simpa [Function.comp_def] using hn

theorem lookupL_perm {V : Type} {l₁ l₂ : List (Key × V)} (h : l₁ ~ l₂)
    (hn : (l₁.map Prod.fst).Nodup) (k : Key) : lookupL k l₁ = lookupL k l₂ := by
  have hn2 : (l₂.map Prod.fst).Nodup := (h.map Prod.fst).nodup_iff.mp hn
  cases h1 : lookupL k l₁ with
  | none =>
    have : k ∉ l₂.map Prod.fst := fun hm =>
      (lookupL_eq_none_iff.mp h1) ((h.map Prod.fst).mem_iff.mpr hm)
    exact (lookupL_eq_none_iff.mpr this).symm
  | some v =>
    have : (k, v) ∈ l₂ := h.mem_iff.mp ((lookupL_eq_some_iff hn).mp h1)
    exact ((lookupL_eq_some_iff hn2).mpr this).symm

theorem foldl_step : ∀ (l : List (Key × EntryRes)) (a : Accum),
    l.foldl Accum.step a =
      ⟨a.done && l.all (·.2.done), a.changed || l.any (·.2.changed), a.errs ++ l.filterMap (·.2.err),
        l.foldl (fun m p => insertKV m p.1 p.2.val) a.vals⟩
  | [], a => by cases a; simp
  | p :: r, a => by
    rw [foldl_cons, foldl_step r]
    cases h : p.2.err <;> simp [Accum.step, h, Bool.and_assoc, Bool.or_assoc]

theorem accumulateIn_eq (l : List (Key × EntryRes)) :
    accumulateIn l =
      ⟨l.all (·.2.done), l.any (·.2.changed), l.filterMap (·.2.err), buildMap (fun _ e => e.val) l⟩ := by
  simp [accumulateIn, foldl_step, Accum.init, buildMap]

theorem accumulate_eq (l : List (Key × EntryRes)) : accumulate l = accumulateIn (sortK l) := rfl

/-! ## The loops of `Martian/DeterminismAccum2.lean` -/

/-! ### findSplitCalls: the members of `walk t S` are those of `S` and of `free t` -/

theorem mem_setInsert (S : List Key) (c x : Key) : x ∈ setInsert S c ↔ x = c ∨ x ∈ S := by
  unfold setInsert
  by_cases h : c ∈ S <;> by_cases hx : x = c <;> simp [h, hx]

theorem mem_foldl_setInsert : ∀ (cs S : List Key) (x : Key),
    x ∈ cs.foldl setInsert S ↔ x ∈ S ∨ x ∈ cs
  | [], S, x => by simp
  | c :: cs, S, x => by
    simp only [foldl_cons, mem_foldl_setInsert cs, mem_setInsert, mem_cons, or_assoc, or_left_comm]

theorem walk_mem : ∀ (t : STree) (S : List Key) (x : Key), x ∈ t.walk S ↔ x ∈ S ∨ x ∈ t.free
  | .leaf cs, S, x => by simp [STree.walk, STree.free, mem_foldl_setInsert]
  | .split c ins inner, S, x => by
    simp only [STree.walk, STree.free, walk_mem inner]
    cases ins
    · simp
    · simp only [if_true, mem_setInsert, mem_append, mem_singleton, or_assoc, or_left_comm]
  | .merge c v, S, x => by
    -- the delete after a merge matters only for `x = c`, and then only if `c` was not in `S`
    by_cases hc : c ∈ S <;> by_cases hx : x = c <;>
      simp [STree.walk, STree.free, walk_mem v, hc, hx]
  | .nil, S, x => by simp [STree.walk, STree.free]
  | .cons h t, S, x => by
    simp only [STree.walk, STree.free, walk_mem t, walk_mem h, mem_append, or_assoc]

theorem free_reorder {a b : STree} (h : STree.Reorder a b) : ∀ x, x ∈ a.free ↔ x ∈ b.free := by
  induction h with
  | refl t => exact fun _ => Iff.rfl
  | swap a b r =>
    intro x
    simp only [STree.free, mem_append, or_left_comm]
  | cons _ _ ih1 ih2 => intro x; simp only [STree.free, mem_append, ih1 x, ih2 x]
  | split c ins _ ih => intro x; simp only [STree.free, mem_append, ih x]
  | merge c _ ih => intro x; simp only [STree.free, mem_filter, ih x]
  | trans _ _ ih1 ih2 => exact fun x => (ih1 x).trans (ih2 x)

theorem callMode_eq_foldSorted (l : List (Key × Option Mode)) :
    callMode l = (if l.isEmpty then Mode.null else
      (foldSorted (fun s (p : Key × Option Mode) => cmStep s p.2) CMState.start l).result) := by
  unfold callMode callModeIn foldSorted
  rw [(sortK_perm l).isEmpty_eq]

theorem lookupL_insertKV {V : Type} : ∀ (m : List (Key × V)) (k k' : Key) (v : V),
    lookupL k (insertKV m k' v) = if k == k' then some v else lookupL k m
  | [], k, k', v => by simp [insertKV, lookupL]
  | (k₀, v₀) :: r, k, k', v => by
    have ih := lookupL_insertKV r k k' v
    by_cases h : k' = k₀
    · subst h
      by_cases hk : k = k' <;> simp [insertKV, lookupL, hk]
    · by_cases hk : k = k₀
      · subst hk
        have : ¬ k = k' := fun e => h e.symm
        simp [insertKV, lookupL, h, this]
      · simp [insertKV, lookupL, h, hk, ih]

theorem lookupL_foldl_insertKeyed {α V : Type} (kf : α → Key) (vf : α → V) (k : Key) :
    ∀ (l : List α) (m : List (Key × V)),
    lookupL k (l.foldl (fun m p => insertKV m (kf p) (vf p)) m) =
      l.foldl (fun a p => if k == kf p then some (vf p) else a) (lookupL k m)
  | [], m => rfl
  | p :: r, m => by
    simp only [foldl_cons, lookupL_foldl_insertKeyed kf vf k r, lookupL_insertKV]

theorem eraseKey_comm {V : Type} (m : List (Key × V)) (a b : Key) :
    eraseKey (eraseKey m a) b = eraseKey (eraseKey m b) a := by
  unfold eraseKey
  simp only [filter_filter]
  congr 1
  funext p
  exact Bool.and_comm _ _

end Martian.Determinism
