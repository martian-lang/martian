/-
C01 — mapped pipelines and nested map calls of static size (array mode), no `disabled`: the refinement
theorem `twoPhaseT_eq_den_F`, the instance of `twoPhaseX` (Proofs/ResolverStaticRun.lean) at the identity
rendering: nothing is erased, so nothing is asked of the literals or of the recorded outputs.
-/
import Proofs.ResolverStaticRun
import Proofs.ResolverStaticMap

namespace Proofs.ResolverStatic
open Martian.Dataflow Martian.Resolver Martian.ResolverForks Martian.ResolverStatic Proofs.Dataflow
  Proofs.ResolverForks

section callsT
variable (st : StructTable) (hst : StructsOk st) (F : Nat) (hF : NarrowFix st F) (ρ : Store) (hρ : StoreExt ρ)
include hst hF hρ

theorem callsStep_T (P : Program) (nm : List String → String) (O : Oracle) (run : Runner)
    (node : String → List String → RBMap → RB × List STree) (path : List String)
    (forks : List (String × Idx)) (dims : List (String × List Idx)) (self : RBMap) (sT : String → Ty)
    (hal : dims.map (·.1) = forks.map (·.1))
    (hnodeTy : ∀ callee path cins, (node callee path cins).1.ty = ⟨callee, 0, 0⟩)
    (hrun : RunsGood id st F ρ P nm O run node) :
    CallsStep id st F ρ P nm O run node path forks dims self sT (CallsOkT st P sT) (fun _ cs => callTypesM cs) := by
  intro c cs env sib f0 hrel hsT hok htr hf0 hT
  simp only [CallsOkT] at hok
  obtain ⟨hc, hcs⟩ := hok
  have hclean : CleanX (fun _ => True) c := ⟨fun _ _ => trivial, fun _ _ => trivial⟩
  have key : ∃ ty, callTyM c = ty ∧ StepOf id st F ρ P run node path forks self c env sib ty := by
    rcases hc with hplain | hmapped
    · exact ⟨_, by simp [callTyM, hplain.1.1],
        step_plain Rendering.id hst hF hal hnodeTy hrun hrel hf0 hclean hplain.2 sT hsT hplain.1 hT⟩
    · exact ⟨_, by simp [callTyM, hmapped.1, liftTy],
        step_mapped Rendering.id hst hF hρ hal hrun hrel hf0 false hclean sT hsT hmapped.toX htr hT⟩
  obtain ⟨ty, hty, hS⟩ := key
  exact ⟨ty, hS, hty ▸ hcs, by simp only [callTypesM, List.map_cons, hty]⟩

end callsT

section graphC
variable (P : Program) (hw : WellTypedT P) (F : Nat) (hF : NarrowFix P.table F)
  (nm : List String → String) (O : Oracle) (ρ : Store) (hρ : StoreExt ρ)
include hw hF hρ

theorem twoPhaseT_eq_den_F
    (hstore : ∀ n ∈ flattenTList [] (staticProgramT P nm).2, StoreAtNode nm O ρ n)
    (hok : treeOkList [] (staticProgramT P nm).2 = true) :
    runCallable P O F P.fuel P.top.callee [P.top.id] []
        (mkArgs P.table F (argVals P.table ⟨[], .null, []⟩ (P.insOf P.top.callee) P.top) none)
      = ((evalRT P.table F ρ [] ⟨P.top.callee, 0, 0⟩ (staticProgramT P nm).1.exp),
         instsTList P.table F ρ [] [] (staticProgramT P nm).2) := by
  have := twoPhaseX Rendering.id P F hF nm O (fun _ _ _ => rfl) ρ hw.structs hw.outsOf (CallsOkT P.table P)
    (fun _ _ cs => callTypesM cs) (fun _ _ => rfl)
    (fun name pins outs calls ret hl => ⟨(hw.pipelines name pins outs calls ret hl).1,
      fun p hp e he => ⟨trivial, (hw.pipelines name pins outs calls ret hl).2 p hp e he⟩⟩)
    (fun run node path forks dims self sT hal hnodeTy hrun =>
      callsStep_T P.table hw.structs F hF ρ hρ P nm O run node path forks dims self sT hal hnodeTy hrun)
    ⟨hw.top.1, hw.top.2, fun _ _ => trivial⟩
    (.of_treeOk hstore hok)
  rw [mapInst_id, List.map_id] at this
  exact this

end graphC

end Proofs.ResolverStatic
