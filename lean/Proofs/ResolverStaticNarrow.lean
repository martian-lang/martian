/-
C01 — struct narrowing across boundaries: the lemmas the refinement
"two-phase resolver = den" rests on.

* `NarrowFix st F`: at fuel `F` `narrow` satisfies its fixed-point equation (the
  fuel is large enough for the struct table: `narrowFix_of_stable`,
  `narrowStable_of_rank` discharge it for every acyclic table);
* `Sub st t t'`: a value of type `t` may be bound where `t'` is expected (same
  shape, `t'`'s struct has a subset of the members, member-wise);
* `narrow_narrow`: narrowing to `t` and then to a `t'` with `Sub st t t'` (fewer members)
  is narrowing to `t'` (narrowing at a sub-pipeline boundary followed by
  narrowing at the stage parameter = narrowing at the stage parameter);
* `proj1_narrow`: projection commutes with narrowing.
-/
import Martian.Dataflow
import Proofs.Dataflow

namespace Proofs.ResolverStatic
open Martian.Dataflow Proofs.Dataflow

/-- one more unit of fuel changes nothing -/
def NarrowStable (st : StructTable) (k : Nat) : Prop :=
  ∀ t v, narrow st k t v = narrow st (k+1) t v

/-- `narrow st F` satisfies the recursion equation of `FilterJson` (no fuel) -/
def NarrowFix (st : StructTable) (F : Nat) : Prop :=
  ∀ t v, narrow st F t v = atBase t (narrowBase st F t) v

theorem narrowBase_congr (st : StructTable) (a b : Nat)
    (h : ∀ t v, narrow st a t v = narrow st b t v) (t : Ty) (s : J) :
    narrowBase st a t s = narrowBase st b t s := by
  unfold narrowBase
  cases st.lookup t.base with
  | none => rfl
  | some ps =>
    cases s <;> simp only
    simp only [h]

theorem atBase_congr (t : Ty) (f g : J → J) (h : ∀ v, f v = g v) (v : J) : atBase t f v = atBase t g v := by
  have : f = g := funext h
  rw [this]

theorem narrowFix_of_stable (st : StructTable) (k : Nat) (h : NarrowStable st k) :
    NarrowFix st (k+1) := by
  intro t v
  rw [narrow_succ]
  apply atBase_congr
  intro s
  exact narrowBase_congr st k (k+1) h t s

/-- a rank function for the struct table: members that are structs rank lower -/
def RankOk (st : StructTable) (rank : String → Nat) : Prop :=
  ∀ name ps, st.lookup name = some ps → ∀ p ∈ ps, (st.lookup p.ty.base).isSome → rank p.ty.base < rank name

theorem narrow_stable_aux (st : StructTable) (rank : String → Nat) (hr : RankOk st rank) :
    ∀ (k : Nat) (t : Ty) (v : J),
      ((st.lookup t.base).isSome → rank t.base + 1 < k) → 0 < k →
      narrow st k t v = narrow st (k+1) t v := by
  intro k
  induction k with
  | zero => intro t v _ h0; omega
  | succ k ih =>
    intro t v hk _
    rw [narrow_succ, narrow_succ]
    apply atBase_congr
    intro s
    unfold narrowBase
    cases hl : st.lookup t.base with
    | none => rfl
    | some ps =>
      cases s <;> simp only
      rename_i kvs
      simp only [J.obj.injEq]
      apply List.map_congr_left
      intro p hp
      simp only [Prod.mk.injEq, true_and]
      have hk' := hk (by simp [hl])
      apply ih
      · intro hs
        have := hr _ _ hl p hp hs
        omega
      · omega

/-- every acyclic struct table has a stable fuel: rank of every struct + 2 -/
theorem narrowStable_of_rank (st : StructTable) (rank : String → Nat) (hr : RankOk st rank)
    (k : Nat) (hk : ∀ name ps, st.lookup name = some ps → rank name + 1 < k) (h0 : 0 < k) :
    NarrowStable st k := by
  intro t v
  apply narrow_stable_aux st rank hr k t v _ h0
  intro hs
  cases hl : st.lookup t.base with
  | none => simp [hl] at hs
  | some ps => exact hk _ _ hl

theorem mapArr_add (a b : Nat) (f : J → J) (v : J) : mapArr (a + b) f v = mapArr a (mapArr b f) v := by
  induction a generalizing v with
  | zero => simp [mapArr]
  | succ a ih =>
    have e : a + 1 + b = (a + b) + 1 := by omega
    rw [e]
    cases v with
    | arr xs =>
      simp only [mapArr, J.arr.injEq]
      apply List.map_congr_left
      intro x _
      exact ih x
    | null => simp [mapArr]
    | dnull => simp [mapArr]
    | atom s => simp [mapArr]
    | obj kvs => simp [mapArr]

theorem mapArr_null (n : Nat) (f : J → J) (h : f .null = .null) : mapArr n f .null = .null := by
  cases n <;> simp [mapArr, h]

theorem mapArr_dnull (n : Nat) (f : J → J) (h : f .dnull = .dnull) : mapArr n f .dnull = .dnull := by
  cases n <;> simp [mapArr, h]

theorem atBase_null (t : Ty) (f : J → J) (h : f .null = .null) : atBase t f .null = .null := by
  unfold atBase
  apply mapArr_null
  cases t.mapDim with
  | zero => exact h
  | succ k => simp [mapObj]

theorem atBase_dnull (t : Ty) (f : J → J) (h : f .dnull = .dnull) : atBase t f .dnull = .dnull := by
  unfold atBase
  apply mapArr_dnull
  cases t.mapDim with
  | zero => exact h
  | succ k => simp [mapObj]

theorem narrowBase_null (st : StructTable) (F : Nat) (t : Ty) : narrowBase st F t .null = .null := by
  unfold narrowBase
  cases st.lookup t.base <;> rfl

theorem narrowBase_dnull (st : StructTable) (F : Nat) (t : Ty) : narrowBase st F t .dnull = .dnull := by
  unfold narrowBase
  cases st.lookup t.base <;> rfl

section fix
variable {st : StructTable} {F : Nat} (hF : NarrowFix st F)
include hF

theorem narrow_null (t : Ty) : narrow st F t .null = .null := by
  rw [hF]; exact atBase_null t _ (narrowBase_null st F t)

theorem narrow_dnull (t : Ty) : narrow st F t .dnull = .dnull := by
  rw [hF]; exact atBase_dnull t _ (narrowBase_dnull st F t)

theorem narrow_arr (b : String) (m n : Nat) (xs : List J) :
    narrow st F ⟨b, m, n+1⟩ (.arr xs) = .arr (xs.map (narrow st F ⟨b, m, n⟩)) := by
  rw [hF]
  simp only [atBase, mapArr, J.arr.injEq]
  apply List.map_congr_left
  intro x _
  rw [hF]
  rfl

theorem narrow_obj (b : String) (k : Nat) (kvs : List (String × J)) :
    narrow st F ⟨b, k+1, 0⟩ (.obj kvs) = .obj (kvs.map fun kv => (kv.1, narrow st F ⟨b, 0, k⟩ kv.2)) := by
  rw [hF]
  simp only [atBase, mapArr, mapObj, J.obj.injEq]
  apply List.map_congr_left
  intro x _
  rw [hF]
  rfl

theorem narrow_struct (s : String) (ps : List Param) (h : st.lookup s = some ps) (kvs : List (String × J)) :
    narrow st F ⟨s, 0, 0⟩ (.obj kvs)
      = .obj (ps.map fun p => (p.name, narrow st F p.ty ((J.obj kvs).field p.name))) := by
  rw [hF]
  simp [atBase, mapArr, narrowBase, h]

theorem narrow_scalar (b : String) (h : st.lookup b = none) (v : J) : narrow st F ⟨b, 0, 0⟩ v = v := by
  rw [hF]
  simp [atBase, mapArr, narrowBase, h]

theorem narrow_lift_arr (b : String) (m a n : Nat) (v : J) :
    narrow st F ⟨b, m, n + a⟩ v = mapArr n (narrow st F ⟨b, m, a⟩) v := by
  rw [hF]
  simp only [atBase]
  rw [mapArr_add]
  apply mapArr_congr
  intro x
  rw [hF]
  rfl

end fix

/-- `t` may be bound where `t'` is expected: the same type, or struct types of the
same shape where every member of `t'` is a member of `t` of an assignable type -/
inductive Sub (st : StructTable) : Ty → Ty → Prop
  | refl (t : Ty) : Sub st t t
  | struct (t t' : Ty) (ps ps' : List Param) :
      t.mapDim = t'.mapDim → t.arrDim = t'.arrDim →
      st.lookup t.base = some ps → st.lookup t'.base = some ps' →
      (∀ p' ∈ ps', (fieldTy st t.base p'.name).isSome) →
      (∀ p' ∈ ps', Sub st ((fieldTy st t.base p'.name).getD badTy) p'.ty) →
      Sub st t t'
  /-- two non-struct types of the same shape (int → float, string → file, …): narrowing is
  the identity at both -/
  | scalar (t t' : Ty) : t.mapDim = t'.mapDim → t.arrDim = t'.arrDim →
      st.lookup t.base = none → st.lookup t'.base = none → Sub st t t'

theorem Sub.dims {st : StructTable} {t t' : Ty} (h : Sub st t t') :
    t.mapDim = t'.mapDim ∧ t.arrDim = t'.arrDim := by
  cases h with
  | refl => exact ⟨rfl, rfl⟩
  | struct _ _ _ _ h1 h2 => exact ⟨h1, h2⟩
  | scalar _ _ h1 h2 => exact ⟨h1, h2⟩

theorem Sub.redim {st : StructTable} {t t' : Ty} (h : Sub st t t') (m a : Nat) :
    Sub st ⟨t.base, m, a⟩ ⟨t'.base, m, a⟩ := by
  cases h with
  | refl => exact Sub.refl _
  | struct _ _ ps ps' _ _ h3 h4 h5 h6 => exact Sub.struct _ _ ps ps' rfl rfl h3 h4 h5 h6
  | scalar _ _ _ _ h3 h4 => exact Sub.scalar _ _ rfl rfl h3 h4

theorem find_name_of_nodup (ps : List Param) (hn : (ps.map (·.name)).Nodup) (p : Param) (hp : p ∈ ps) :
    ps.find? (fun q => q.name == p.name) = some p :=
  Proofs.ListFacts.find?_key_of_nodup hn hp

theorem fieldTy_of_mem (st : StructTable) (hst : StructsOk st) (s : String) (ps : List Param)
    (h : st.lookup s = some ps) (p : Param) (hp : p ∈ ps) : fieldTy st s p.name = some p.ty := by
  unfold fieldTy
  rw [h]
  simp only
  rw [find_name_of_nodup ps (hst _ _ h) p hp]
  rfl

theorem fieldTy_mem (st : StructTable) (s f : String) (ft : Ty) (h : fieldTy st s f = some ft) :
    ∃ ps p, st.lookup s = some ps ∧ p ∈ ps ∧ p.name = f ∧ p.ty = ft ∧
      ps.find? (fun q => q.name == f) = some p := by
  unfold fieldTy at h
  cases hl : st.lookup s with
  | none => simp [hl] at h
  | some ps =>
    simp only [hl] at h
    cases hf : ps.find? (fun p => p.name == f) with
    | none => simp [hf] at h
    | some p =>
      simp only [hf, Option.map_some, Option.some.injEq] at h
      refine ⟨ps, p, rfl, List.mem_of_find?_eq_some hf, ?_, h, hf⟩
      have := List.find?_some hf
      simpa using this

/-- the members view of `Sub`, uniform over both constructors -/
theorem Sub.members {st : StructTable} (hst : StructsOk st) {t t' : Ty} (h : Sub st t t')
    (ps' : List Param) (hl' : st.lookup t'.base = some ps') :
    ∃ ps, st.lookup t.base = some ps ∧
      ∀ p' ∈ ps', ∃ p ∈ ps, p.name = p'.name ∧ ps.find? (fun q => q.name == p'.name) = some p ∧
        Sub st p.ty p'.ty := by
  cases h with
  | refl =>
    refine ⟨ps', hl', ?_⟩
    intro p' hp'
    exact ⟨p', hp', rfl, find_name_of_nodup ps' (hst _ _ hl') p' hp', Sub.refl _⟩
  | struct _ _ ps ps2 _ _ h3 h4 h5 h6 =>
    rw [hl'] at h4
    cases h4
    refine ⟨ps, h3, ?_⟩
    intro p' hp'
    have hs := h5 p' hp'
    have hsub := h6 p' hp'
    cases hf : fieldTy st t.base p'.name with
    | none => simp [hf] at hs
    | some ft =>
      obtain ⟨qs, p, hq, hpm, hpn, hpt, hfind⟩ := fieldTy_mem st _ _ _ hf
      rw [h3] at hq
      cases hq
      refine ⟨p, hpm, hpn, hfind, ?_⟩
      rw [hf] at hsub
      simpa [hpt] using hsub
  | scalar _ _ _ _ _ h4 => rw [hl'] at h4; cases h4

theorem field_map_find (ps : List Param) (g : Param → J) (k : String) (p : Param)
    (h : ps.find? (fun q => q.name == k) = some p) :
    (J.obj (ps.map fun q => (q.name, g q))).field k = g p := by
  simp only [J.field, lookup_map_key (·.name) g ps k, h]
  rfl

/-- for types of the same shape it is enough to compose the base-level steps -/
theorem narrow_narrow_of_base {st : StructTable} {F : Nat} (hF : NarrowFix st F) {t t' : Ty}
    (h1 : t.mapDim = t'.mapDim) (h2 : t.arrDim = t'.arrDim)
    (hb : ∀ s, narrowBase st F t' (narrowBase st F t s) = narrowBase st F t' s) (v : J) :
    narrow st F t' (narrow st F t v) = narrow st F t' v := by
  rw [hF t' (narrow st F t v), hF t v, hF t' v]
  have e : ∀ (g : J → J) (w : J), atBase t' g w = atBase t g w := by
    intro g w
    simp [atBase, h1, h2]
  rw [e, e, atBase_comp]
  exact atBase_congr t _ _ hb v

theorem narrow_narrow {st : StructTable} (hst : StructsOk st) {F : Nat} (hF : NarrowFix st F)
    {t t' : Ty} (h : Sub st t t') : ∀ v, narrow st F t' (narrow st F t v) = narrow st F t' v := by
  induction h with
  | refl t =>
    intro v
    exact narrow_idem st hst F t v
  | struct t t' ps ps' h1 h2 h3 h4 h5 _ ih =>
    refine narrow_narrow_of_base hF h1 h2 fun s => ?_
    unfold narrowBase
    rw [h3, h4]
    cases s with
    | obj kvs =>
      simp only [J.obj.injEq]
      apply List.map_congr_left
      intro p' hp'
      simp only [Prod.mk.injEq, true_and]
      have hs := h5 p' hp'
      cases hf : fieldTy st t.base p'.name with
      | none => simp [hf] at hs
      | some ft =>
        obtain ⟨qs, p, hq, _, hpn, hpt, hfind⟩ := fieldTy_mem st _ _ _ hf
        rw [h3] at hq
        cases hq
        rw [field_map_find ps _ p'.name p hfind]
        have := ih p' hp' ((J.obj kvs).field p'.name)
        rw [hf] at this
        simpa [hpt, hpn] using this
    | null => rfl
    | dnull => rfl
    | atom a => rfl
    | arr xs => rfl
  | scalar t t' h1 h2 h3 h4 =>
    refine narrow_narrow_of_base hF h1 h2 fun s => ?_
    unfold narrowBase
    rw [h3, h4]

theorem Sub.trans {st : StructTable} (hst : StructsOk st) {a b c : Ty} (h1 : Sub st a b) (h2 : Sub st b c) :
    Sub st a c := by
  induction h2 generalizing a with
  | refl => exact h1
  | struct t t' ps ps' d1 d2 l1 l2 s1 s2 ih =>
    obtain ⟨qs, hq, hm⟩ := Sub.members hst h1 ps l1
    have hd := h1.dims
    refine Sub.struct a t' qs ps' (hd.1.trans d1) (hd.2.trans d2) hq l2 ?_ ?_
    · intro p' hp'
      have hs := s1 p' hp'
      cases hf : fieldTy st t.base p'.name with
      | none => simp [hf] at hs
      | some ft =>
        obtain ⟨rs, p, hr, hpm, hpn, _, _⟩ := fieldTy_mem st _ _ _ hf
        rw [l1] at hr
        cases hr
        obtain ⟨q, hqm, hqn, _, _⟩ := hm p hpm
        have := fieldTy_of_mem st hst a.base qs hq q hqm
        rw [hqn, hpn] at this
        simp [this]
    · intro p' hp'
      have hs := s1 p' hp'
      cases hf : fieldTy st t.base p'.name with
      | none => simp [hf] at hs
      | some ft =>
        obtain ⟨rs, p, hr, hpm, hpn, hpt, _⟩ := fieldTy_mem st _ _ _ hf
        rw [l1] at hr
        cases hr
        obtain ⟨q, hqm, hqn, _, hsub⟩ := hm p hpm
        have hfa := fieldTy_of_mem st hst a.base qs hq q hqm
        rw [hqn, hpn] at hfa
        have := ih p' hp' (a := q.ty) (by rw [hf]; simpa [hpt] using hsub)
        simpa [hfa] using this
  | scalar t t' d1 d2 l1 l2 =>
    cases h1 with
    | refl => exact Sub.scalar _ _ d1 d2 l1 l2
    | struct _ _ ps ps' _ _ _ h4 => rw [l1] at h4; cases h4
    | scalar _ _ e1 e2 l0 _ => exact Sub.scalar _ _ (e1.trans d1) (e2.trans d2) l0 l2

theorem proj1_dims (t t' : Ty) (h1 : t.mapDim = t'.mapDim) (h2 : t.arrDim = t'.arrDim) (f : String) (v : J) :
    proj1 t f v = proj1 t' f v := by
  simp [proj1, atBase, h1, h2]

theorem field_narrowBase {st : StructTable} {F : Nat} (hF : NarrowFix st F) (t : Ty) (f : String) (ft : Ty)
    (h : fieldTy st t.base f = some ft) (s : J) :
    (narrowBase st F t s).field f = narrow st F ft (s.field f) := by
  obtain ⟨ps, p, hl, _, hpn, hpt, hfind⟩ := fieldTy_mem st _ _ _ h
  unfold narrowBase
  rw [hl]
  cases s with
  | obj kvs =>
    simp only
    rw [field_map_find ps _ f p hfind, hpt, hpn]
  | null => simp [J.field, narrow_null hF]
  | dnull => simp [J.field, narrow_dnull hF]
  | atom a => simp [J.field, narrow_null hF]
  | arr xs => simp [J.field, narrow_null hF]

/-- narrowing at the type of `e.f` = narrowing at the member type below the array / map
levels of `e`'s type (typed maps: the member is not itself a typed map, as the
compiler demands) -/
theorem narrow_projTy1 {st : StructTable} {F : Nat} (hF : NarrowFix st F) (t : Ty) (f : String) (ft : Ty)
    (h : fieldTy st t.base f = some ft) (hm : t.mapDim ≠ 0 → ft.mapDim = 0) (w : J) :
    narrow st F (projTy1 st t f) w = atBase t (narrow st F ft) w := by
  unfold projTy1
  rw [h]
  simp only
  by_cases hz : t.mapDim = 0
  · simp only [hz, if_true, atBase]
    have e : ft.arrDim + t.arrDim = t.arrDim + ft.arrDim := by omega
    rw [e, narrow_lift_arr hF]
  · simp only [hz, if_false]
    have hft := hm hz
    obtain ⟨k, hk⟩ : ∃ k, t.mapDim = k + 1 := ⟨t.mapDim - 1, by omega⟩
    rw [hF]
    simp only [atBase, hk]
    apply mapArr_congr
    intro x
    have e : k + 1 + ft.arrDim = (k + ft.arrDim) + 1 := by omega
    simp only [e]
    congr 1
    funext y
    rw [mapArr_add]
    apply mapArr_congr
    intro z
    rw [hF ft z]
    simp only [atBase, hft]
    rfl

theorem proj1_narrow {st : StructTable} {F : Nat} (hF : NarrowFix st F) (t : Ty) (f : String) (ft : Ty)
    (h : fieldTy st t.base f = some ft) (hm : t.mapDim ≠ 0 → ft.mapDim = 0) (v : J) :
    proj1 t f (narrow st F t v) = narrow st F (projTy1 st t f) (proj1 t f v) := by
  rw [narrow_projTy1 hF t f ft h hm, hF t v]
  unfold proj1
  rw [atBase_comp, atBase_comp]
  apply atBase_congr
  intro s
  simp only [Function.comp_apply]
  exact field_narrowBase hF t f ft h s

end Proofs.ResolverStatic
