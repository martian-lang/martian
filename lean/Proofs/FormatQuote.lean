import Martian.Format
import Proofs.EncFrom

/-! `unquoteBytes (quoteString s) = some s` for every valid UTF-8 string.  The text of `quoteString` unit by unit
is `encFrom_spells` of `Proofs/EncFrom.lean`, in namespace `Martian.InvocationStr`: the writer loop with the
ASCII escape as a parameter, `encFrom`, is defined in C16's model file `Martian/InvocationStr.lean`, and
`quoteFrom` is `encFrom escAscii` (`encFrom_escAscii`).  So this module and what builds on it import that model
file. -/
namespace Martian.Format
open Martian.Lexer (unqLoop unquoteBytes goEscape surrPair encodeRune hexByte hexVal isOct isDigit)
open Martian.ShellQuote (validUtf8 ge80_not_special rune_high)
open Martian.Escape
open Martian.InvocationStr (EUnit encFrom_spells encFrom_escAscii)

theorem unq_plain (g : Nat) (c : UInt8) (X : (List UInt8)) (h : (c == 0x5C) = false) :
    unqLoop (g + 1) (c :: X) = (unqLoop g X).map (c :: ·) := by
  have : (c != 0x5C) = true := by simp [bne, h]
  simp [unqLoop, this]

theorem unq_esc (g : Nat) (c2 : UInt8) (Y X out : (List UInt8)) (h : goEscape c2 Y = some (out, X)) :
    unqLoop (g + 1) (0x5C :: c2 :: Y) = (unqLoop g X).map (out ++ ·) := by
  simp [unqLoop, h]

theorem hex_roundtrip : ∀ n, n < 32 →
    hexByte (hexDigit (n / 16)) (hexDigit (n % 16)) = some n := by decide

theorem encodeRune_ascii (n : Nat) (h : n < 0x80) : encodeRune n = [UInt8.ofNat n] := by
  simp [encodeRune, h]

theorem surrPair_plain (r : Nat) (X : List UInt8) (h : ¬ (0xD800 ≤ r ∧ r < 0xE000)) :
    surrPair r X = some (encodeRune r, X) := by
  simp [surrPair, h]

theorem lt80_toNat {b : UInt8} (h : b < 0x80) : b.toNat < 128 := by
  have := UInt8.lt_iff_toNat_lt.mp h; simpa using this

theorem escAscii_cases (b : UInt8) :
    (escAscii b = [0x5C, b] ∧ (b = 0x5C ∨ b = 0x22)) ∨
    (escAscii b = [b] ∧ (b == 0x5C) = false ∧ (b == 0x22) = false) ∨
    (∃ c, escAscii b = [0x5C, c] ∧
      (b, c) ∈ [((0x08 : UInt8), (0x62 : UInt8)), (0x0C, 0x66), (0x0A, 0x6E), (0x0D, 0x72), (0x09, 0x74)]) ∨
    (escAscii b = [0x5C, 0x75, 0x30, 0x30, hexDigit (b.toNat / 16), hexDigit (b.toNat % 16)] ∧
      b.toNat < 32) := by
  let P : List UInt8 → Prop := fun e =>
    (e = [0x5C, b] ∧ (b = 0x5C ∨ b = 0x22)) ∨
    (e = [b] ∧ (b == 0x5C) = false ∧ (b == 0x22) = false) ∨
    (∃ c, e = [0x5C, c] ∧
      (b, c) ∈ [((0x08 : UInt8), (0x62 : UInt8)), (0x0C, 0x66), (0x0A, 0x6E), (0x0D, 0x72), (0x09, 0x74)]) ∨
    (e = [0x5C, 0x75, 0x30, 0x30, hexDigit (b.toNat / 16), hexDigit (b.toNat % 16)] ∧ b.toNat < 32)
  have ctl : ∀ x c : UInt8, (x, c) ∈ [((0x08 : UInt8), (0x62 : UInt8)), (0x0C, 0x66), (0x0A, 0x6E),
      (0x0D, 0x72), (0x09, 0x74)] → (b == x) = true → P [0x5C, c] :=
    fun x c hm h => .inr (.inr (.inl ⟨c, rfl, by rwa [eq_of_beq h]⟩))
  show P (escAscii b)
  unfold escAscii
  refine iteInduction (fun h => .inl ⟨rfl, by simpa using h⟩) fun h1 =>
    iteInduction (fun _ => .inr (.inl ⟨rfl, by simpa using h1⟩)) fun h2 =>
    iteInduction (ctl _ _ (by decide)) fun _ => iteInduction (ctl _ _ (by decide)) fun _ =>
    iteInduction (ctl _ _ (by decide)) fun _ => iteInduction (ctl _ _ (by decide)) fun _ =>
    iteInduction (ctl _ _ (by decide)) fun _ => .inr (.inr (.inr ⟨rfl, ?_⟩))
  have : ¬ 32 ≤ b.toNat := fun hh => h2 (UInt8.le_iff_toNat_le.mpr (by simpa using hh))
  omega

/-- the unquoter on `\uABCD` below the surrogates: `m`, `n` are the values of the two pairs of hex digits -/
theorem unq_escU (g : Nat) (a b c d : UInt8) (m n : Nat) (out X : List UInt8)
    (h1 : hexByte a b = some m) (h2 : hexByte c d = some n)
    (hlow : n + m * 256 < 0xD800) (he : encodeRune (n + m * 256) = out) :
    unqLoop (g + 1) (0x5C :: 0x75 :: a :: b :: c :: d :: X) = (unqLoop g X).map (out ++ ·) :=
  unq_esc g 0x75 _ X _ (by simp [goEscape, h1, h2, surrPair_plain (n + m * 256) X (by omega), he])

theorem unq_escAscii (g : Nat) (b : UInt8) (X : (List UInt8)) (hb : b < 0x80) :
    unqLoop (g + 1) (escAscii b ++ X) = (unqLoop g X).map (b :: ·) := by
  rcases escAscii_cases b with ⟨he, h⟩ | ⟨he, h5c, _⟩ | ⟨c, he, hm⟩ | ⟨he, hlt⟩ <;> rw [he]
  · rcases h with rfl | rfl
    · exact unq_esc g 0x5C X X [0x5C] (by simp [goEscape, isOct])
    · exact unq_esc g 0x22 X X [0x22] (by simp [goEscape, isOct])
  · exact unq_plain g b X h5c
  · refine unq_esc g c X X [b] ?_
    simp only [List.mem_cons, Prod.mk.injEq, List.not_mem_nil, or_false] at hm
    rcases hm with ⟨rfl, rfl⟩ | ⟨rfl, rfl⟩ | ⟨rfl, rfl⟩ | ⟨rfl, rfl⟩ | ⟨rfl, rfl⟩ <;> simp [goEscape]
  · exact unq_escU g _ _ _ _ 0 b.toNat [b] X (by decide) (hex_roundtrip b.toNat hlt) (by omega)
      (by rw [encodeRune_ascii _ (by omega)]; simp)

theorem escAscii_len (b : UInt8) : 1 ≤ (escAscii b).length := by
  rcases escAscii_cases b with ⟨he, _⟩ | ⟨he, _⟩ | ⟨c, he, _⟩ | ⟨he, _⟩ <;> rw [he] <;>
    exact Nat.le_add_left 1 _

/-- the unquoter on each unit of the writer's text; it copies the bytes of a literal rune one by one -/
theorem unq_unit {esc : UInt8 → List UInt8} (hesc : ∀ b, b < 0x80 → Step unqLoop (esc b) [b])
    {u out : List UInt8} (h : EUnit esc u out) : Step unqLoop u out := by
  cases h with
  | ascii b hb => exact hesc b hb
  | ls => exact .one (by decide) fun g X =>
      unq_escU g _ _ _ _ 0x20 0x28 _ X (by decide) (by decide) (by decide) (by decide)
  | ps => exact .one (by decide) fun g X =>
      unq_escU g _ _ _ _ 0x20 0x29 _ X (by decide) (by decide) (by decide) (by decide)
  | rune b r w hb hw =>
    exact .copies fun c hc g X => unq_plain g c X (ge80_not_special c (rune_high hb hw c hc)).2.2.2

/-- For every valid UTF-8 byte string, the lexer's `unquoteBytes` reads back
exactly what `quoteString` was given. -/
theorem unquote_quoteString (s : List UInt8) (h : validUtf8 s = true) :
    unquoteBytes (quoteString s) = some s := by
  have hs := encFrom_spells escAscii s h
  rw [encFrom_escAscii] at hs
  have := (hs.step (unq_unit fun b hb => .one (escAscii_len b) fun g X => unq_escAscii g b X hb)).read
    (tail := []) (fun _ => rfl) ((quoteBody s).length + 1) (by simp [quoteBody])
  simp [unquoteBytes, quoteString, quoteBody] at this ⊢
  exact this

end Martian.Format
