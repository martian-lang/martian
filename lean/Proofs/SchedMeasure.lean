import Proofs.ListFacts
import Proofs.SchedOnce

/-! The progress measure `mu`.  Every enabled quiet event lowers it or leaves it unchanged
(`mu_quiet`): chunk definition lowers its first component (`mu_mkchunks`), a node-state refresh
the number of stale nodes (`mu_nodestate`), the first `refresh` the loading bit (`mu_refresh`),
every other event the potential of the one object it touches, or nothing that mrp can see
(`obj_step`).  `LexLt` is well founded, so a run that is quiet from some point on lowers the
measure finitely often (`eventually_stutters`), and a fair one ends finished if unfinished states
can progress (`fair_run_finishes`).  Also the `progress_*` lemmas and `mu_reread`. -/
namespace Martian.Sched
open Proofs.ListFacts (sum_map_le sum_map_lt countP_lt_of_imp)

theorem missing_add (x : SSet) (y : Sentinel) :
    (x.add y).missing + (if y ≠ .queuedLocally ∧ x.has y = false then 1 else 0) = x.missing := by
  cases y <;> simp only [SSet.add, SSet.missing, SSet.has, ne_eq, reduceCtorEq, not_false_eq_true,
    not_true_eq_false, true_and, false_and, if_false, Bool.not_true, Bool.toNat_false]
  case errors => cases x.errors <;> simp <;> omega
  case assert => cases x.assert <;> simp <;> omega
  case complete => cases x.complete <;> simp <;> omega
  case disabled => cases x.disabled <;> simp <;> omega
  case log => cases x.log <;> simp <;> omega
  case jobinfo => cases x.jobinfo <;> simp <;> omega
  case queuedLocally => rfl

theorem missing_add_le (x : SSet) (y : Sentinel) : (x.add y).missing ≤ x.missing := by
  have := missing_add x y; omega

theorem missing_add_lt (x : SSet) (y : Sentinel) (hy : y ≠ .queuedLocally)
    (h : x.has y = false) : (x.add y).missing < x.missing := by
  have := missing_add x y
  simp only [hy, h, ne_eq, not_false_eq_true, and_self, if_true] at this
  omega

theorem missing_del_q (x : SSet) : (x.del .queuedLocally).missing = x.missing := rfl

theorem metaState_add_q (x : SSet) : metaState (x.add .queuedLocally) = metaState x := rfl

theorem metaState_del_q (x : SSet) : metaState (x.del .queuedLocally) = metaState x := rfl

theorem add_queued_ne (x : SSet) (y : Sentinel) (hy : y ≠ .queuedLocally) :
    (x.add y).queued = x.queued := by
  cases y <;> first | rfl | exact absurd rfl hy

theorem missing_add_q (x : SSet) : (x.add .queuedLocally).missing = x.missing := rfl

theorem potMeta_put_le (m : Meta) (x : Sentinel)
    (hd : x = .queuedLocally → m.disk.has x = true) : potMeta (put x m) ≤ potMeta m := by
  by_cases hx : x = .queuedLocally
  · subst hx
    have := hd rfl
    simp only [SSet.has] at this
    have hq : (m.disk.add .queuedLocally).queued = true := rfl
    simp only [potMeta, put, missing_add_q, hq, this]
    omega
  · have h1 := missing_add_le m.seen x
    have h2 := missing_add_le m.disk x
    simp only [potMeta, put, add_queued_ne _ _ hx]
    omega

theorem potMeta_put_lt (m : Meta) (x : Sentinel) (hx : x ≠ .queuedLocally)
    (h : m.seen.has x = false) : potMeta (put x m) < potMeta m := by
  have h1 := missing_add_lt m.seen x hx h
  have h2 := missing_add_le m.disk x
  simp only [potMeta, put, add_queued_ne _ _ hx]
  omega

theorem potMeta_see_le (m : Meta) (x : Sentinel) : potMeta (see x m) ≤ potMeta m := by
  have h1 := missing_add_le m.seen x
  simp only [potMeta, see]
  omega

theorem potMeta_see_lt (m : Meta) (x : Sentinel) (hx : x ≠ .queuedLocally)
    (h : m.seen.has x = false) : potMeta (see x m) < potMeta m := by
  have h1 := missing_add_lt m.seen x hx h
  simp only [potMeta, see]
  omega

theorem potMeta_unq_le (m : Meta) : potMeta (unq m) ≤ potMeta m := by
  simp only [potMeta, unq, missing_del_q]
  have : (m.disk.del .queuedLocally).queued = false := rfl
  rw [this]; simp only [Bool.toNat_false]; omega

theorem potMeta_launch_le (m : Meta) :
    potMeta (put .queuedLocally (put .jobinfo m)) ≤ potMeta m + 2 := by
  have h1 := missing_add_le m.seen .jobinfo
  have h2 := missing_add_le m.disk .jobinfo
  simp only [potMeta, put, missing_add_q]
  have : ((m.disk.add .jobinfo).add .queuedLocally).queued = true := rfl
  rw [this]
  simp only [Bool.toNat_true]
  omega

theorem potMeta_toDisk_le (m : Meta) (x : Sentinel) (hx : x ≠ .queuedLocally) :
    potMeta (toDisk x m) ≤ potMeta m := by
  have h2 := missing_add_le m.disk x
  simp only [potMeta, toDisk, add_queued_ne _ _ hx]
  omega

theorem potMeta_toDisk_lt (m : Meta) (x : Sentinel) (hx : x ≠ .queuedLocally)
    (h : m.disk.has x = false) : potMeta (toDisk x m) < potMeta m := by
  have h2 := missing_add_lt m.disk x hx h
  simp only [potMeta, toDisk, add_queued_ne _ _ hx]
  omega

theorem metaState_add_same (x : SSet) (y : Sentinel) (h : x.has y = true ∨ y = .queuedLocally) :
    metaState (x.add y) = metaState x := by
  rcases h with h | h
  · rw [add_of_has x y h]
  · subst h; rfl

/-- every quiet event, seen from one object: either the object's potential goes
down, or it does not go up and mrp's view of the object is unchanged -/
theorem obj_step {s : State} {e : Ev} (hen : enabled s e = true) (hq : e.quiet s = true)
    (o' : Obj) :
    (potObj (apply s e) o' < potObj s o' ∧ s.hasObj o' = true) ∨
    ((apply s e).st o' = s.st o' ∧ potObj (apply s e) o' ≤ potObj s o') := by
  -- the bonus for "submitted by this incarnation" is never lost
  have hL : (if (apply s e).launches.contains (o', (apply s e).inc) then 0 else 3) ≤
      (if s.launches.contains (o', s.inc) then 0 else 3) := by
    rw [ff_inc (quiet_ff hq), apply_launches]
    split
    · simp only [List.contains_cons]; split <;> simp_all
    · exact Nat.le_refl _
  unfold potObj State.st
  by_cases hl : e = .launch o'
  · -- the potential of the metadata goes up by at most 2, the bonus of 3 is cashed in
    subst hl
    obtain ⟨_, hh, _, hnew, _⟩ := launchOk_common (en_launch.mp hen)
    have h2 := potMeta_launch_le (s.m o')
    refine Or.inl ⟨?_, hh⟩
    simp [apply_m, apply_launches, apply_inc, hnew]
    omega
  generalize (if (apply s e).launches.contains (o', (apply s e).inc) then 0 else 3) = L' at hL ⊢
  generalize (if s.launches.contains (o', s.inc) then 0 else 3) = L at hL ⊢
  have hm := metaStep s e o'
  generalize (apply s e).m o' = m' at hm ⊢
  have down : potMeta m' < potMeta (s.m o') → s.hasObj o' = true →
      (potMeta m' + L' < potMeta (s.m o') + L ∧ s.hasObj o' = true) ∨
      (metaState m'.seen = metaState (s.m o').seen ∧ potMeta m' + L' ≤ potMeta (s.m o') + L) :=
    fun h hh => Or.inl ⟨by omega, hh⟩
  have keep : metaState m'.seen = metaState (s.m o').seen → potMeta m' ≤ potMeta (s.m o') →
      (potMeta m' + L' < potMeta (s.m o') + L ∧ s.hasObj o' = true) ∨
      (metaState m'.seen = metaState (s.m o').seen ∧ potMeta m' + L' ≤ potMeta (s.m o') + L) :=
    fun h1 h2 => Or.inr ⟨h1, by omega⟩
  cases hm with
  | W x =>
    by_cases hx : (s.m o').seen.has x = true ∨ x = .queuedLocally
    · refine keep (metaState_add_same _ _ hx) (potMeta_put_le _ _ ?_)
      rintro rfl
      exact (en_W.mp hen).2.2.resolve_right mrpWriteOk_iff.mp
    · exact down (potMeta_put_lt _ _ (fun h => hx (.inr h))
        (Bool.eq_false_iff.mpr fun h => hx (.inl h))) (en_W.mp hen).2.1
  | R x =>
    by_cases hx : (s.m o').seen.has x = true ∨ x = .queuedLocally
    · exact keep (metaState_add_same _ _ hx) (potMeta_see_le _ _)
    · exact down (potMeta_see_lt _ _ (fun h => hx (.inr h))
        (Bool.eq_false_iff.mpr fun h => hx (.inl h))) (en_R.mp hen).2.1
  | D x =>
    by_cases hx : (s.m o').seen.has x = true ∨ x = .queuedLocally
    · exact keep (metaState_add_same _ _ hx) (potMeta_see_le _ _)
    · exact down (potMeta_see_lt _ _ (fun h => hx (.inr h))
        (Bool.eq_false_iff.mpr fun h => hx (.inl h))) (en_D.mp hen).2.1
  | U x => exact keep (metaState_del_q _) (potMeta_unq_le _)
  | launch => exact absurd rfl hl
  | joblog => exact keep rfl (potMeta_toDisk_le _ _ (by simp))
  | jobend x =>
    have hx : x = .complete := by simpa [Ev.quiet, Ev.failing, Ev.structural] using hq
    exact keep rfl (potMeta_toDisk_le _ _ (by simp [hx]))
  | silentfail => simp [Ev.quiet, Ev.failing] at hq
  | reset => simp [Ev.quiet, Ev.structural] at hq
  | restart => simp [Ev.quiet, Ev.structural] at hq
  | same => exact keep rfl (Nat.le_refl _)

theorem quiet_forksOf {s : State} {e : Ev} (hq : e.quiet s = true) (n : Nat) :
    (apply s e).forksOf n = s.forksOf n := by
  rcases forksOf_step s e n with h | ⟨_, rfl, _⟩ | ⟨_, rfl, _⟩
  · exact h
  all_goals simp [Ev.quiet, Ev.structural] at hq

theorem quiet_nch {s : State} {e : Ev} (hm : ∀ n f k, e ≠ .mkchunks n f k) (n f : Nat) :
    (apply s e).nch n f = s.nch n f :=
  (nch_step s e n f).resolve_right (hm n f _)

theorem forkPairs_congr {s s' : State} (hn : s'.nodes = s.nodes)
    (hf : ∀ n, s'.forksOf n = s.forksOf n) : forkPairs s' = forkPairs s := by
  simp [forkPairs, hn, hf]

theorem objs_congr {s s' : State} (hn : s'.nodes = s.nodes)
    (hf : ∀ n, s'.forksOf n = s.forksOf n) (hc : ∀ n f, s'.nch n f = s.nch n f) :
    objs s' = objs s := by
  simp [objs, forkObjs, forkPairs_congr hn hf, hc]

theorem forkState_congr {s s' : State}
    (hc : ∀ n f, s'.nch n f = s.nch n f) (hst : ∀ o, s'.st o = s.st o) (n : Nat) :
    forkState s' n = forkState s n := by
  funext f
  have : chunkState s' n f = chunkState s n f := funext fun i => by simp [chunkState, hst]
  simp [forkState, chunkStates, this, hc, hst]

theorem nodeDone_congr {s s' : State} (hf : ∀ n, s'.forksOf n = s.forksOf n)
    (hc : ∀ n f, s'.nch n f = s.nch n f) (hst : ∀ o, s'.st o = s.st o) (n : Nat) :
    nodeDone s' n = nodeDone s n := by
  simp [nodeDone, forkStates, forkState_congr hc hst, hf]

theorem nodeState_congr {s s' : State} (hn : s'.nodes = s.nodes)
    (hf : ∀ n, s'.forksOf n = s.forksOf n)
    (hc : ∀ n f, s'.nch n f = s.nch n f) (hst : ∀ o, s'.st o = s.st o) (n : Nat) :
    nodeState s' n = nodeState s n := by
  have hd : nodeDone s' = nodeDone s := funext (nodeDone_congr hf hc hst)
  simp [nodeState, forkStates, forkState_congr hc hst, State.pre, hn, hf, hd]

theorem stale_congr {s s' : State} (hn : s'.nodes = s.nodes)
    (hcd : ∀ n, s'.cachedOf n = s.cachedOf n) (hns : ∀ n, nodeState s' n = nodeState s n) :
    stale s' = stale s := by
  simp [stale, hn, hcd, hns]

theorem stale_le (s : State) : stale s ≤ s.nodes.length := by
  unfold stale
  exact Nat.le_trans (List.length_filter_le _ _) (by simp)

theorem hasObj_mem_objs {s : State} {o : Obj} (h : s.hasObj o = true) : o ∈ objs s := by
  obtain ⟨n, f, r⟩ := o
  simp only [State.hasObj, Bool.and_eq_true, decide_eq_true_eq, List.contains_eq_mem] at h
  simp only [objs, forkPairs, List.mem_flatMap, List.mem_range, List.mem_map]
  refine ⟨(n, f), ⟨n, h.1.1, f, h.1.2, rfl⟩, ?_⟩
  cases r <;> simp [forkObjs]
  simpa using h.2

theorem noChunks_congr {s s' : State} (hn : s'.nodes = s.nodes)
    (hf : ∀ n, s'.forksOf n = s.forksOf n) (hc : ∀ n f, s'.nch n f = s.nch n f) :
    noChunks s' = noChunks s := by
  simp [noChunks, forkPairs_congr hn hf, hc]

theorem potB_le {s : State} {e : Ev} (hen : enabled s e = true) (hq : e.quiet s = true)
    (hm : ∀ n f k, e ≠ .mkchunks n f k) : potB (apply s e) ≤ potB s ∧
    ((∃ o ∈ objs s, potObj (apply s e) o < potObj s o) → potB (apply s e) < potB s) := by
  unfold potB
  rw [objs_congr (apply_nodes s e) (quiet_forksOf hq) (quiet_nch hm)]
  have hle : ∀ o ∈ objs s, potObj (apply s e) o ≤ potObj s o := fun o _ => by
    rcases obj_step hen hq o with h | h
    · exact Nat.le_of_lt h.1
    · exact h.2
  exact ⟨sum_map_le _ _ _ hle, sum_map_lt _ _ _ hle⟩

theorem mu_lt_of_potB {s s' : State} (hn : s'.nodes = s.nodes) (hnc : noChunks s' = noChunks s)
    (hph : s'.phase = s.phase) (h : potB s' < potB s) : LexLt (mu s') (mu s) := by
  right
  refine ⟨hnc, ?_⟩
  have h1 := stale_le s'
  have h2 : (potB s' + 1) * (s.nodes.length + 1) ≤ potB s * (s.nodes.length + 1) :=
    Nat.mul_le_mul_right _ h
  rw [Nat.add_mul] at h2
  simp only [mu, hn, hph] at h1 ⊢
  omega

theorem quiet_phase {s : State} {e : Ev} (hq : e.quiet s = true) (hr : e ≠ .refresh) :
    (apply s e).phase = s.phase := by
  rcases phase_step s e with h | ⟨rfl, _⟩ | ⟨rfl, _⟩ | ⟨h, _⟩
  · exact h
  · simp [Ev.quiet, Ev.structural] at hq
  · simp [Ev.quiet, Ev.structural] at hq
  · exact absurd h hr

theorem forkPairs_mem {s : State} {n f : Nat} (h : s.hasObj ⟨n, f, .fork⟩ = true) :
    (n, f) ∈ forkPairs s := by
  simp only [State.hasObj, Bool.and_eq_true, decide_eq_true_eq, List.contains_eq_mem,
    and_true] at h
  simp only [forkPairs, List.mem_flatMap, List.mem_range, List.mem_map]
  exact ⟨n, h.1, f, by simpa using h.2, rfl⟩

theorem mu_mkchunks {s : State} {n f k : Nat} (hen : enabled s (.mkchunks n f k) = true)
    (hq : (Ev.mkchunks n f k).quiet s = true) : LexLt (mu (apply s (.mkchunks n f k))) (mu s) := by
  left
  have hph : s.phase = .normal := by
    simpa [Ev.quiet, Ev.failing, Ev.structural] using hq
  obtain ⟨_, hobj, hg⟩ := en_mkchunks hen
  obtain ⟨_, hz, hk, _⟩ := hg.resolve_right fun h => h.1 hph
  simp only [mu, noChunks]
  rw [forkPairs_congr (apply_nodes s _) (quiet_forksOf hq), ← List.countP_eq_length_filter,
    ← List.countP_eq_length_filter]
  refine countP_lt_of_imp (fun p _ hp => ?_) (forkPairs_mem hobj) ?_ (by simpa using hz)
  · rw [apply_nch] at hp
    simp only [] at hp
    split at hp
    · simp only [beq_iff_eq] at hp; omega
    · exact hp
  · rw [apply_nch]; simp; omega

theorem mu_frame {s s' : State} (hn : s'.nodes = s.nodes) (hf : ∀ n, s'.forksOf n = s.forksOf n)
    (hc : ∀ n f, s'.nch n f = s.nch n f) (hm : ∀ o, s'.m o = s.m o)
    (hl : s'.launches = s.launches) (hi : s'.inc = s.inc) :
    noChunks s' = noChunks s ∧ potB s' = potB s ∧ ∀ n, nodeState s' n = nodeState s n := by
  have hst : ∀ o, s'.st o = s.st o := fun o => by simp [State.st, hm]
  refine ⟨noChunks_congr hn hf hc, ?_, nodeState_congr hn hf hc hst⟩
  unfold potB potObj
  rw [objs_congr hn hf hc]
  simp [hm, hl, hi]

theorem mu_congr {s s' : State} (hn : s'.nodes = s.nodes) (hf : ∀ n, s'.forksOf n = s.forksOf n)
    (hc : ∀ n f, s'.nch n f = s.nch n f) (hm : ∀ o, s'.m o = s.m o)
    (hl : s'.launches = s.launches) (hi : s'.inc = s.inc)
    (hcd : ∀ n, s'.cachedOf n = s.cachedOf n) (hp : s'.phase = s.phase) : mu s' = mu s := by
  obtain ⟨hnc, hpb, hns⟩ := mu_frame hn hf hc hm hl hi
  simp only [mu, hnc, hpb, hn, stale_congr hn hcd hns, hp]

theorem bookkeeping_frame {s : State} {e : Ev} (he : (∃ n st, e = .nodestate n st) ∨ e = .refresh) :
    noChunks (apply s e) = noChunks s ∧ potB (apply s e) = potB s ∧
    ∀ n, nodeState (apply s e) n = nodeState s n := by
  rcases he with ⟨n, st, rfl⟩ | rfl <;>
    exact mu_frame (apply_nodes _ _) (by simp [apply_forksOf]) (by simp [apply_nch])
      (by simp [apply_m]) (by simp [apply_launches]) (by simp [apply_inc])

theorem mu_nodestate {s : State} {n : Nat} {st : NState}
    (hen : enabled s (.nodestate n st) = true) :
    (s.cachedOf n = st → mu (apply s (.nodestate n st)) = mu s) ∧
    (s.cachedOf n ≠ st → LexLt (mu (apply s (.nodestate n st))) (mu s)) := by
  obtain ⟨hnc, hpb, hnst⟩ := bookkeeping_frame (s := s) (.inl ⟨n, st, rfl⟩)
  obtain ⟨_, hn, hstn⟩ := en_nodestate.mp hen
  have hnodes := apply_nodes s (.nodestate n st)
  have hph : (apply s (.nodestate n st)).phase = s.phase := by simp [apply_phase]
  constructor
  · intro hsame
    have hcd : ∀ n', (apply s (.nodestate n st)).cachedOf n' = s.cachedOf n' := by
      intro n'; rw [apply_cachedOf]; simp only []; split
      · rename_i h; subst h; exact hsame.symm
      · rfl
    simp only [mu, hnc, hpb, hnodes, hph, stale_congr hnodes hcd hnst]
  · intro hne
    refine .inr ⟨hnc, ?_⟩
    have hlt : stale (apply s (.nodestate n st)) < stale s := by
      unfold stale
      rw [hnodes, ← List.countP_eq_length_filter, ← List.countP_eq_length_filter]
      refine countP_lt_of_imp (y := n) (fun n' _ hp => ?_) (by simpa using hn) ?_ ?_
      · rw [hnst, apply_cachedOf] at hp
        simp only [] at hp
        split at hp
        · rename_i h; subst h; rw [hstn] at hp; simp at hp
        · exact hp
      · rw [hnst, apply_cachedOf]; simp [hstn]
      · rw [← hstn]; simpa using hne
    simp only [mu, hpb, hnodes, hph]
    omega

theorem mu_refresh (s : State) :
    (s.phase = .loading → LexLt (mu (apply s .refresh)) (mu s)) ∧
    (s.phase = .normal → mu (apply s .refresh) = mu s) := by
  obtain ⟨hnc, hpb, hnst⟩ := bookkeeping_frame (s := s) (e := .refresh) (.inr rfl)
  have hnodes := apply_nodes s .refresh
  have hsl := stale_congr hnodes (fun n => by simp [apply_cachedOf]) hnst
  have hph : (apply s .refresh).phase = .normal := by simp [apply_phase]
  constructor
  · intro hl
    exact .inr ⟨hnc, by simp [mu, hpb, hsl, hph, hl]⟩
  · intro hl
    simp [mu, hnc, hpb, hsl, hph, hl]

theorem mu_quiet {s : State} {e : Ev} (hen : enabled s e = true) (hq : e.quiet s = true) :
    LexLt (mu (apply s e)) (mu s) ∨ mu (apply s e) = mu s := by
  by_cases hmk : ∃ n f k, e = .mkchunks n f k
  · obtain ⟨n, f, k, rfl⟩ := hmk
    exact Or.inl (mu_mkchunks hen hq)
  have hm : ∀ n f k, e ≠ .mkchunks n f k := fun n f k h => hmk ⟨n, f, k, h⟩
  by_cases hns : ∃ n st, e = .nodestate n st
  · obtain ⟨n, st, rfl⟩ := hns
    by_cases hsame : s.cachedOf n = st
    · exact .inr ((mu_nodestate hen).1 hsame)
    · exact .inl ((mu_nodestate hen).2 hsame)
  by_cases hrf : e = .refresh
  · subst hrf
    cases hp : s.phase
    · exact .inl ((mu_refresh s).1 hp)
    · exact .inr ((mu_refresh s).2 hp)
    · exact absurd hp (en_refresh.mp hen).1
  have hnodes := apply_nodes s e
  have hf := quiet_forksOf hq
  have hc := quiet_nch (s := s) hm
  have hnc := noChunks_congr hnodes hf hc
  have hcd := fun n => (cachedOf_step s e n).resolve_right fun h => hns ⟨n, _, h⟩
  have hph := quiet_phase hq hrf
  rcases Nat.lt_or_eq_of_le (potB_le hen hq hm).1 with hlt | heq
  · exact Or.inl (mu_lt_of_potB hnodes hnc hph hlt)
  · -- no object's potential went down, so mrp sees every object as before
    have hst : ∀ o, (apply s e).st o = s.st o := by
      intro o
      rcases obj_step hen hq o with h | h
      · exact absurd ((potB_le hen hq hm).2 ⟨o, hasObj_mem_objs h.2, h.1⟩)
          (heq ▸ Nat.lt_irrefl _)
      · exact h.1
    right
    simp only [mu, hnc, heq, hnodes, stale_congr hnodes hcd (nodeState_congr hnodes hf hc hst), hph]

theorem progress_of_obj {s : State} {e : Ev} {o : Obj} (hen : enabled s e = true)
    (hs : e.sched s = true) (hm : ∀ n f k, e ≠ .mkchunks n f k) (hr : e ≠ .refresh)
    (hh : s.hasObj o = true) (hlt : potObj (apply s e) o < potObj s o) : Progress s e :=
  have hq := sched_quiet hs
  ⟨hs, hen, mu_lt_of_potB (apply_nodes s e)
    (noChunks_congr (apply_nodes s e) (quiet_forksOf hq) (quiet_nch hm)) (quiet_phase hq hr)
    ((potB_le hen hq hm).2 ⟨o, hasObj_mem_objs hh, hlt⟩)⟩

theorem progress_of_meta {s : State} {e : Ev} {o : Obj} (hen : enabled s e = true)
    (hs : e.sched s = true) (hm : ∀ n f k, e ≠ .mkchunks n f k) (hr : e ≠ .refresh)
    (hl : (apply s e).launches = s.launches) (hi : (apply s e).inc = s.inc)
    (hh : s.hasObj o = true) (hlt : potMeta ((apply s e).m o) < potMeta (s.m o)) : Progress s e :=
  progress_of_obj hen hs hm hr hh (by simp only [potObj, hl, hi]; omega)

theorem progress_W {s : State} {o : Obj} (hen : enabled s (.W o .complete) = true)
    (hs : (s.m o).seen.has .complete = false) : Progress s (.W o .complete) :=
  progress_of_meta hen rfl (by simp) (by simp) rfl rfl (en_W.mp hen).2.1
    (by rw [apply_m]; simp only [if_true]; exact potMeta_put_lt _ _ (by simp) hs)

theorem progress_R {s : State} {o : Obj} (hen : enabled s (.R o .complete) = true)
    (hs : (s.m o).seen.has .complete = false) : Progress s (.R o .complete) :=
  progress_of_meta hen rfl (by simp) (by simp) rfl rfl (en_R.mp hen).2.1
    (by rw [apply_m]; simp only [if_true]; exact potMeta_see_lt _ _ (by simp) hs)

theorem progress_launch {s : State} {o : Obj} (h : launchOk s o = true) :
    Progress s (.launch o) := by
  have hen := en_launch.mpr h
  have hq : (Ev.launch o).quiet s = true := by simp [Ev.quiet, Ev.failing, Ev.structural]
  refine progress_of_obj hen (by simp [Ev.sched]) (by simp) (by simp) (launchOk_common h).2.1 ?_
  rcases obj_step hen hq o with h' | h'
  · exact h'.1
  · -- the state of the object changes from none to queued
    exfalso
    have h0 := (launchOk_facts h).2.2
    have h1 := h'.1
    rw [h0] at h1
    have : ((apply s (.launch o)).m o).seen.has .jobinfo = true := by
      rw [apply_m]; simp [put, has_add]
    exact st_ne_none_of_seen (Or.inl rfl) this h1

theorem lexLt_wf : WellFounded LexLt := by
  apply Subrelation.wf (r := Prod.Lex (· < ·) (· < ·))
  · intro a b h
    obtain ⟨a1, a2⟩ := a
    obtain ⟨b1, b2⟩ := b
    rcases h with h | ⟨h1, h2⟩
    · exact Prod.Lex.left _ _ h
    · simp only at h1 h2; subst h1; exact Prod.Lex.right _ h2
  · exact (Prod.lex Nat.lt_wfRel Nat.lt_wfRel).wf

theorem lexLt_trans {a b c : Nat × Nat} (h1 : LexLt a b) (h2 : LexLt b c) : LexLt a c := by
  unfold LexLt at *
  omega

theorem lexLt_irrefl (a : Nat × Nat) : ¬ LexLt a a := by
  unfold LexLt; omega

theorem mu_chain {s0 : State} {σ : Nat → State} {es : Nat → Ev} (hrun : Run s0 σ es) {K : Nat}
    (hq : ∀ i, K ≤ i → (es i).quiet (σ i) = true) :
    ∀ d, LexLt (mu (σ (K + d))) (mu (σ K)) ∨ mu (σ (K + d)) = mu (σ K) := by
  intro d
  induction d with
  | zero => exact Or.inr rfl
  | succ d ih =>
    have hstep := mu_quiet (hrun.en (K + d)) (hq (K + d) (Nat.le_add_right ..))
    rw [← hrun.next] at hstep
    have : K + (d + 1) = K + d + 1 := by omega
    rw [this]
    rcases hstep with h | h <;> rcases ih with h' | h'
    · exact Or.inl (lexLt_trans h h')
    · exact Or.inl (h' ▸ h)
    · exact Or.inl (h ▸ h')
    · exact Or.inr (h.trans h')

/-- a run that is quiet from some point on lowers the measure only finitely often -/
theorem eventually_stutters {s0 : State} {σ : Nat → State} {es : Nat → Ev} (hrun : Run s0 σ es) :
    ∀ (m : Nat × Nat) (K : Nat), mu (σ K) = m → (∀ i, K ≤ i → (es i).quiet (σ i) = true) →
      ∃ M, K ≤ M ∧ ∀ j, M ≤ j → ¬ LexLt (mu (σ (j + 1))) (mu (σ j)) := by
  intro m
  induction m using lexLt_wf.induction with
  | _ m ih =>
    intro K hm hq
    by_cases hex : ∃ j, K ≤ j ∧ LexLt (mu (σ (j + 1))) (mu (σ j))
    · obtain ⟨j, hj, hlt⟩ := hex
      have hch := mu_chain hrun hq (j - K)
      have hjK : K + (j - K) = j := by omega
      rw [hjK] at hch
      have hlt' : LexLt (mu (σ (j + 1))) m := by
        rw [← hm]
        rcases hch with h | h
        · exact lexLt_trans hlt h
        · exact h ▸ hlt
      obtain ⟨M, hM, hrest⟩ := ih _ hlt' (j + 1) rfl (fun i hi => hq i (by omega))
      exact ⟨M, by omega, hrest⟩
    · refine ⟨K, Nat.le_refl _, fun j hj hlt => hex ⟨j, hj, hlt⟩⟩

theorem fair_run_finishes {s0 : State} {σ : Nat → State} {es : Nat → Ev} (hrun : Run s0 σ es)
    (hfair : Fair σ) {K : Nat} (hq : ∀ i, K ≤ i → (es i).quiet (σ i) = true)
    (hfp : ∀ i, K ≤ i → Finished (σ i) ∨ ∃ e, Progress (σ i) e) :
    ∃ M, K ≤ M ∧ ∀ j, M ≤ j → Finished (σ j) := by
  obtain ⟨M, hM, hrest⟩ := eventually_stutters hrun _ K rfl hq
  refine ⟨M, hM, fun j hj => ?_⟩
  rcases hfp j (by omega) with h | h
  · exact h
  · apply Classical.byContradiction
    intro hnf
    obtain ⟨j', hj', hlt⟩ := hfair j hnf h
    exact absurd hlt (hrest j' (by omega))

theorem mu_reread {s : State} {e : Ev} {o : Obj} {x : Sentinel} (hobj : ObjsInv s)
    (he : e = .W o x ∨ e = .R o x) (hx : (s.m o).seen.has x = true) : mu (apply s e) = mu s := by
  have hput : put x (s.m o) = s.m o := by
    simp [put, add_of_has _ _ hx, add_of_has _ _ ((hobj o).sub x hx)]
  have hsee : see x (s.m o) = s.m o := by simp [see, add_of_has _ _ hx]
  rcases he with rfl | rfl <;>
    refine mu_congr (apply_nodes _ _) (fun n' => by simp [apply_forksOf])
      (fun n' f => by simp [apply_nch]) (fun o' => ?_) (by simp [apply_launches])
      (by simp [apply_inc]) (fun n' => by simp [apply_cachedOf]) (by simp [apply_phase]) <;>
    rw [apply_m] <;> simp only [] <;> split <;> simp_all

end Martian.Sched
