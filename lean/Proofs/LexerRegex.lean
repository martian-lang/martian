import Martian.Lexer
import Martian.LexerId
import Martian.Regex
import Proofs.Lexer
import Proofs.RegexOrder

/-!
The hand-written recognisers `matchInt` and `matchFloat false` of Martian/Lexer.lean decide the rule regexes
(as ASTs: `intRe`, `floatRe`; Props/C08.lean shows by evaluation of the regex-syntax parser that these ASTs are
what the regenerated regex strings parse to).  `Decides f r`: `f` returns `w` exactly when `w` is a prefix of the
input that `r` matches; then `f` is the leftmost-first matcher of `r` on every input (`Decides.pmatch_eq`).
The rules that end in `\b` (int, float, and the identifier rule in Proofs/LexerRegexId.lean) are shown in two halves that
meet in a shape predicate: regex ⇔ shape, recogniser ⇔ shape.  The last section shows that what the two numeric rules
admit has the syntax of Go's `strconv` converters (`matchFloat_goSyntax`, `matchInt_goSyntax`).
-/
namespace Martian.LexerRegex
open Martian.Regex

/-! ## bytes -/

theorem forall_byte {P : UInt8 → Prop} (h : ∀ n : Fin 256, P (UInt8.ofNat n.val)) : ∀ c : UInt8, P c := by
  intro c
  have := h ⟨c.toNat, c.toNat_lt⟩
  simpa using this

/-- membership in an (ASCII) class as the matcher tests it -/
def cok (rs : Ranges) (c : UInt8) : Bool := decide (c < 0x80) && inR rs c

/-- for a class of ASCII bytes the matcher's test `c < 0x80` is implied -/
theorem cok_eq_inR {rs : Ranges} (h : rs.all (fun r => r.2 < 0x80) = true) (c : UInt8) : cok rs c = inR rs c := by
  unfold cok
  cases hc : inR rs c with
  | false => simp
  | true =>
    induction rs with
    | nil => cases hc
    | cons r t ih =>
      obtain ⟨lo, hi⟩ := r
      simp only [List.all_cons, Bool.and_eq_true, decide_eq_true_eq] at h
      simp only [inR, Bool.or_eq_true, Bool.and_eq_true, decide_eq_true_eq] at hc
      rcases hc with hc | hc
      · simp [UInt8.lt_of_le_of_lt hc.2 h.1]
      · exact ih h.2 hc

theorem le_le_eq_beq (a c : UInt8) : (decide (a ≤ c) && decide (c ≤ a)) = (c == a) := by
  rw [Bool.eq_iff_iff]; simp [UInt8.le_antisymm_iff, and_comm]

theorem word_eq (c : UInt8) : Regex.isWord c = Lexer.isWord c := by
  simp [Regex.isWord, Lexer.isWord, Lexer.isDigit]

/-- a class of one ASCII byte -/
theorem cok_one (a : UInt8) (h : a < 0x80) (c : UInt8) : cok [(a, a)] c = true ↔ c = a := by
  rw [cok_eq_inR (by simpa using h)]; simp [inR, le_le_eq_beq]

theorem cok_digit (c : UInt8) : cok [(0x30, 0x39)] c = true ↔ Lexer.isDigit c = true := by
  rw [cok_eq_inR (by decide)]; simp [inR, Lexer.isDigit]

theorem digit_word (c : UInt8) (h : Lexer.isDigit c = true) : Regex.isWord c = true :=
  word_eq c ▸ Lexer.isDigit_isWord h

/-! ## structural lemmas on `Matches` -/

theorem Matches_cat_iff (a b : Re) (pre w post : Bytes) :
    Matches (.cat a b) pre w post ↔
      ∃ w1 w2, w = w1 ++ w2 ∧ Matches a pre w1 (w2 ++ post) ∧ Matches b (w1.reverse ++ pre) w2 post :=
  Iff.rfl

theorem Matches_alt_iff (a b : Re) (pre w post : Bytes) :
    Matches (.alt a b) pre w post ↔ Matches a pre w post ∨ Matches b pre w post := Iff.rfl

theorem Matches_bot_iff (pre w post : Bytes) : Matches .bot pre w post ↔ w = [] ∧ pre = [] := Iff.rfl

theorem Matches_wordb_iff (pre w post : Bytes) :
    Matches .wordb pre w post ↔ w = [] ∧ wordBefore pre ≠ wordAfter post := Iff.rfl

/-- In the next three lemmas `hp` says which bytes the ranges `rs` are: the statements then speak of `P`. -/
theorem Matches_cls_iff {rs : Ranges} {P : UInt8 → Prop} (hp : ∀ c, cok rs c = true ↔ P c) {pre w post : Bytes} :
    Matches (.cls rs) pre w post ↔ ∃ c, w = [c] ∧ P c := by
  simp [Matches, ← hp, cok]

theorem Matches_rep_iff (a : Re) (mn : Nat) (mx : Option Nat) (pre w post : Bytes) :
    Matches (.rep a mn mx) pre w post ↔
      ∃ k, mn ≤ k ∧ (∀ M, mx = some M → k ≤ M) ∧ IterN (Matches a) k pre w post := Iff.rfl

theorem IterN_cls (rs : Ranges) : ∀ (k : Nat) (pre w post : Bytes),
    IterN (Matches (.cls rs)) k pre w post ↔ (w.length = k ∧ ∀ c ∈ w, cok rs c = true) := by
  intro k
  induction k with
  | zero =>
    intro pre w post
    simp only [IterN]
    constructor
    · rintro rfl; simp
    · rintro ⟨h, _⟩; exact List.length_eq_zero_iff.mp h
  | succ k ih =>
    intro pre w post
    simp only [IterN]
    constructor
    · rintro ⟨w1, w2, rfl, h1, h2⟩
      obtain ⟨c, rfl, hc⟩ := (Matches_cls_iff fun _ => Iff.rfl).mp h1
      obtain ⟨hl, hall⟩ := (ih _ _ _).mp h2
      refine ⟨by simp [hl], ?_⟩
      intro x hx
      simp only [List.cons_append, List.nil_append, List.mem_cons] at hx
      rcases hx with rfl | hx
      · exact hc
      · exact hall x hx
    · rintro ⟨hl, hall⟩
      cases w with
      | nil => simp at hl
      | cons c t =>
        refine ⟨[c], t, rfl, (Matches_cls_iff fun _ => Iff.rfl).mpr ⟨c, rfl, hall c (by simp)⟩, ?_⟩
        exact (ih _ _ _).mpr ⟨by simpa using hl, fun x hx => hall x (by simp [hx])⟩

/-- a repeated class: only the length and the members matter -/
theorem Matches_rep_cls {rs : Ranges} {P : UInt8 → Prop} (hp : ∀ c, cok rs c = true ↔ P c) {mn : Nat} {mx : Option Nat}
    {pre w post : Bytes} :
    Matches (.rep (.cls rs) mn mx) pre w post ↔ (mn ≤ w.length ∧ (∀ M, mx = some M → w.length ≤ M) ∧ ∀ c ∈ w, P c) := by
  simp only [← hp]
  constructor
  · rintro ⟨k, h1, h2, h3⟩
    obtain ⟨hl, hall⟩ := (IterN_cls rs k pre w post).mp h3
    subst hl
    exact ⟨h1, h2, hall⟩
  · rintro ⟨h1, h2, h3⟩
    exact ⟨w.length, h1, h2, (IterN_cls rs _ pre w post).mpr ⟨rfl, h3⟩⟩

theorem Matches_opt_cls {rs : Ranges} {P : UInt8 → Prop} (hp : ∀ c, cok rs c = true ↔ P c) {pre w post : Bytes} :
    Matches (.rep (.cls rs) 0 (some 1)) pre w post ↔ (w.length ≤ 1 ∧ ∀ c ∈ w, P c) := by
  rw [Matches_rep_cls hp]
  exact ⟨fun h => ⟨h.2.1 1 rfl, h.2.2⟩, fun h => ⟨Nat.zero_le _, fun M hM => Option.some.inj hM ▸ h.1, h.2⟩⟩

theorem Matches_opt (a : Re) (pre w post : Bytes) :
    Matches (.rep a 0 (some 1)) pre w post ↔ (w = [] ∨ Matches a pre w post) := by
  rw [Matches_rep_iff]
  constructor
  · rintro ⟨k, _, h2, h3⟩
    have hk := h2 1 rfl
    match k, hk, h3 with
    | 0, _, h3 => left; simpa [IterN] using h3
    | 1, _, h3 =>
      right
      obtain ⟨w1, w2, rfl, hm, hw2⟩ := h3
      simp only [IterN] at hw2
      subst hw2
      simpa using hm
  · rintro (rfl | h)
    · exact ⟨0, Nat.le_refl _, by intro M hM; injection hM with hM; omega, rfl⟩
    · exact ⟨1, by omega, by intro M hM; injection hM with hM; omega, ⟨w, [], by simp, by simpa using h, rfl⟩⟩

theorem wordBefore_run (d pre : Bytes) (hd : d ≠ []) (hall : ∀ c ∈ d, Regex.isWord c = true) :
    wordBefore (d.reverse ++ pre) = true := by
  have hne : d.reverse ≠ [] := by simpa using hd
  cases hr : d.reverse with
  | nil => exact absurd hr hne
  | cons c t =>
    have : c ∈ d := by
      have : c ∈ d.reverse := by rw [hr]; simp
      simpa using this
    simp [wordBefore, hall c this]

theorem boundary_iff (post : Bytes) : Lexer.boundary post = true ↔ wordAfter post = false := by
  cases post with
  | nil => simp [Lexer.boundary, wordAfter]
  | cons c t => simp [Lexer.boundary, wordAfter, word_eq]

/-- A run of a class of word characters followed by `\b`, where the position of the `\b` is after a word character
(the run is non-empty, or the text before it ends in one): the run, and a word boundary after it. -/
theorem Matches_run_wordb {rs : Ranges} {P : UInt8 → Prop} (hp : ∀ c, cok rs c = true ↔ P c)
    (hw : ∀ c, P c → Regex.isWord c = true) (mn : Nat) (mx : Option Nat) {pre : Bytes} (w post : Bytes)
    (hne : 0 < mn ∨ wordBefore pre = true) :
    Matches (.cat (.rep (.cls rs) mn mx) .wordb) pre w post ↔
      mn ≤ w.length ∧ (∀ M, mx = some M → w.length ≤ M) ∧ (∀ c ∈ w, P c) ∧ Lexer.boundary post = true := by
  have key : ∀ w : Bytes, mn ≤ w.length → (∀ c ∈ w, P c) →
      (wordBefore (w.reverse ++ pre) ≠ wordAfter post ↔ Lexer.boundary post = true) := by
    intro w h1 h3
    have hb : wordBefore (w.reverse ++ pre) = true := by
      cases w with
      | nil => exact hne.resolve_left (by simpa using h1)
      | cons c t => exact wordBefore_run (c :: t) pre (by simp) (fun a ha => hw a (h3 a ha))
    rw [hb, boundary_iff]; cases wordAfter post <;> decide
  simp only [Matches_cat_iff, Matches_rep_cls hp, Matches_wordb_iff]
  constructor
  · rintro ⟨w1, w2, rfl, ⟨h1, h2, h3⟩, rfl, hb⟩
    rw [List.append_nil]
    exact ⟨h1, h2, h3, (key w1 h1 h3).mp hb⟩
  · rintro ⟨h1, h2, h3, hb⟩
    exact ⟨w, [], (List.append_nil w).symm, ⟨h1, h2, h3⟩, rfl, (key w h1 h3).mpr hb⟩

/-! ## a recogniser decides a regex -/

/-- The recogniser `f` decides the anchored regex `r`: it returns `w` exactly when `w` is a prefix of the input
that `r` matches.  Since `f` is a function such a prefix is unique: the preference order has nothing to choose. -/
def Decides (f : Bytes → Option Bytes) (r : Re) : Prop :=
  ∀ s w, f s = some w ↔ ∃ post, s = w ++ post ∧ Matches r [] w post

section
variable {f : Bytes → Option Bytes} {r : Re}

/-- the two halves of a rule: what the regex matches and what the recogniser returns have the same shape `S` -/
theorem Decides.of_shape {S : Bytes → Bytes → Prop} (hr : ∀ w post, Matches r [] w post ↔ S w post)
    (hf : ∀ s w, f s = some w ↔ ∃ post, s = w ++ post ∧ S w post) : Decides f r := by
  intro s w; simp only [hf, hr]

theorem Decides.prefix (h : Decides f r) {s w : Bytes} (hs : f s = some w) : w <+: s :=
  let ⟨post, e, _⟩ := (h s w).mp hs; ⟨post, e.symm⟩

theorem Decides.matches_iff (h : Decides f r) (w post : Bytes) : Matches r [] w post ↔ f (w ++ post) = some w :=
  ⟨fun hm => (h _ _).mpr ⟨post, rfl, hm⟩, fun hf =>
    let ⟨_, e, hm⟩ := (h _ _).mp hf; List.append_cancel_left e ▸ hm⟩

/-- `regexp.Find` with the anchored regex returns what the recogniser returns -/
theorem Decides.pmatch_eq (h : Decides f r) (s : Bytes) : pmatch r s = f s := by
  cases hp : pmatch r s with
  | some w => exact ((h s w).mpr (pmatch_sound hp)).symm
  | none =>
    cases hf : f s with
    | none => rfl
    | some w =>
      obtain ⟨post, rfl, hm⟩ := (h s w).mp hf
      have := pmatch_complete hm
      rw [hp] at this
      cases this

/-- the priority-ordered enumeration of matches at position 0 has at most one element -/
theorem Decides.ends_unique (h : Decides f r) (s : Bytes) : ∀ x ∈ ends r [] s, ∀ y ∈ ends r [] s, x = y := by
  rintro ⟨p1, r1⟩ hx ⟨p2, r2⟩ hy
  obtain ⟨w1, hs1, rfl, hm1⟩ := (mem_ends_iff r [] s p1 r1).mp hx
  obtain ⟨w2, hs2, rfl, hm2⟩ := (mem_ends_iff r [] s p2 r2).mp hy
  cases ((h s w1).mpr ⟨r1, hs1, hm1⟩).symm.trans ((h s w2).mpr ⟨r2, hs2, hm2⟩)
  cases List.append_cancel_left (hs1.symm.trans hs2)
  rfl

end

theorem spanDigits_snd_head (b : Bytes) : ∀ c t, (Lexer.spanDigits b).2 = c :: t → Lexer.isDigit c = false := by
  intro c t h
  have := (Lexer.spanDigits_spec b).2.2
  rwa [h] at this

/-! ## the integer rule `^-?0*\d{1,19}\b` -/

def intRe : Re :=
  .cat .bot (.cat (.rep (.cls [(0x2D, 0x2D)]) 0 (some 1)) (.cat (.rep (.cls [(0x30, 0x30)]) 0 none)
    (.cat (.rep (.cls [(0x30, 0x39)]) 1 (some 19)) .wordb)))

theorem dropWhile_zeros_append (zs ds : Bytes) (hz : ∀ c ∈ zs, c = 0x30) :
    (zs ++ ds).dropWhile (· == 0x30) = ds.dropWhile (· == 0x30) := by
  induction zs with
  | nil => rfl
  | cons z r ih =>
    have : z = 0x30 := hz z (by simp)
    subst this
    simp only [List.cons_append, List.dropWhile_cons, beq_self_eq_true, if_true]
    exact ih (fun c hc => hz c (by simp [hc]))

/-- a digit run whose significant part has at most 19 digits splits as the
regex wants it: zeros, then 1 to 19 digits -/
theorem split_zeros (ds : Bytes) (hne : ds ≠ []) (hd : ∀ c ∈ ds, Lexer.isDigit c = true)
    (h19 : (ds.dropWhile (· == 0x30)).length ≤ 19) :
    ∃ zs dd, ds = zs ++ dd ∧ (∀ c ∈ zs, c = 0x30) ∧ 1 ≤ dd.length ∧ dd.length ≤ 19 ∧
      ∀ c ∈ dd, Lexer.isDigit c = true := by
  have hsplit := List.takeWhile_append_dropWhile (p := (· == (0x30 : UInt8))) (l := ds)
  have hz : ∀ c ∈ ds.takeWhile (· == 0x30), c = 0x30 := fun c hc => Lexer.mem_takeWhile_zero ds c hc
  by_cases hdw : ds.dropWhile (· == 0x30) = []
  · -- all zeros: the last zero is the `\d{1,19}` part
    rw [hdw, List.append_nil] at hsplit
    have hall : ∀ c ∈ ds, c = 0x30 := by rw [← hsplit]; exact hz
    refine ⟨ds.dropLast, [ds.getLast hne], (List.dropLast_concat_getLast hne).symm, ?_, by simp, by simp, ?_⟩
    · intro c hc; exact hall c (List.dropLast_subset _ hc)
    · intro c hc
      simp only [List.mem_singleton] at hc
      subst hc
      exact hd _ (List.getLast_mem hne)
  · refine ⟨_, _, hsplit.symm, hz, ?_, h19, ?_⟩
    · cases hx : ds.dropWhile (· == 0x30) with
      | nil => exact absurd hx hdw
      | cons a t => simp
    · intro c hc
      exact hd c ((List.dropWhile_sublist _).subset hc)

theorem int_shape (w post : Bytes) : Matches intRe [] w post ↔ Lexer.IntShape w post := by
  have tail := fun (ds : Bytes) {pre : Bytes} => Matches_run_wordb (pre := pre) cok_digit
    digit_word 1 (some 19) ds post (.inl Nat.one_pos)
  constructor
  · rintro ⟨_, _, rfl, ⟨rfl, _⟩, sg, _, rfl, hsg, zs, ds, rfl, hzs, hds⟩
    obtain ⟨hs1, hs2⟩ := (Matches_opt_cls (cok_one 0x2D (by decide))).mp hsg
    obtain ⟨_, _, hzs⟩ := (Matches_rep_cls (cok_one 0x30 (by decide))).mp hzs
    obtain ⟨h1, h19, hd, hb⟩ := (tail ds).mp hds
    refine ⟨⟨sg, zs ++ ds, rfl, hs1, hs2, by intro e; simp [(List.append_eq_nil_iff.mp e).2] at h1, ?_, ?_⟩, hb⟩
    · intro c hc
      rcases List.mem_append.mp hc with hc | hc
      · rw [hzs c hc]; decide
      · exact hd c hc
    · rw [dropWhile_zeros_append zs ds hzs]
      exact Nat.le_trans (List.dropWhile_sublist _).length_le (h19 19 rfl)
  · rintro ⟨⟨sg, ds, rfl, hs1, hs2, hne, hd, h19⟩, hb⟩
    obtain ⟨zs, dd, rfl, hzs, hdd1, hdd2, hdd⟩ := split_zeros ds hne hd h19
    exact ⟨[], _, rfl, ⟨rfl, rfl⟩, sg, _, rfl,
      (Matches_opt_cls (cok_one 0x2D (by decide))).mpr ⟨hs1, hs2⟩, zs, dd, rfl,
      (Matches_rep_cls (cok_one 0x30 (by decide))).mpr ⟨Nat.zero_le _, nofun, hzs⟩,
      (tail dd).mpr ⟨hdd1, fun M hM => Option.some.inj hM ▸ hdd2, hdd, hb⟩⟩

theorem matchInt_decides : Decides Lexer.matchInt intRe :=
  .of_shape int_shape fun _ _ => Lexer.matchInt_eq_some_iff

theorem int_matches_iff (w post : Bytes) : Matches intRe [] w post ↔ Lexer.matchInt (w ++ post) = some w :=
  matchInt_decides.matches_iff w post

theorem pmatch_intRe (s : Bytes) : pmatch intRe s = Lexer.matchInt s := matchInt_decides.pmatch_eq s

/-! ## the float rule `^-?\d+(?:(?:\.\d+)?[eE][+-]?|\.)\d+\b` -/

def floatRe : Re :=
  .cat .bot (.cat (.rep (.cls [(0x2D, 0x2D)]) 0 (some 1)) (.cat (.rep (.cls [(0x30, 0x39)]) 1 none)
    (.cat (.alt (.cat (.rep (.cat (.cls [(0x2E, 0x2E)]) (.rep (.cls [(0x30, 0x39)]) 1 none)) 0 (some 1))
                  (.cat (.cls [(0x65, 0x65), (0x45, 0x45)]) (.rep (.cls [(0x2B, 0x2B), (0x2D, 0x2D)]) 0 (some 1))))
                (.cls [(0x2E, 0x2E)]))
      (.cat (.rep (.cls [(0x30, 0x39)]) 1 none) .wordb))))

def isE (c : UInt8) : Bool := c == 0x65 || c == 0x45
def isSign (c : UInt8) : Bool := c == 0x2B || c == 0x2D

theorem cok_eE (c : UInt8) : cok [(0x65, 0x65), (0x45, 0x45)] c = true ↔ isE c = true := by
  rw [cok_eq_inR (by decide)]; simp [inR, isE, le_le_eq_beq]

theorem cok_sign (c : UInt8) : cok [(0x2B, 0x2B), (0x2D, 0x2D)] c = true ↔ isSign c = true := by
  rw [cok_eq_inR (by decide)]; simp [inR, isSign, le_le_eq_beq]

theorem digit_not_sign' (c : UInt8) (h : Lexer.isDigit c = true) : isSign c = false := by
  simp [isSign, Lexer.isDigit_not_sign h]

theorem isE_props (c : UInt8) (h : isE c = true) :
    Lexer.isDigit c = false ∧ (c == 0x2E) = false ∧ Regex.isWord c = true := by
  simp only [isE, Bool.or_eq_true, beq_iff_eq] at h
  rcases h with rfl | rfl <;> decide

theorem dot_not_digit : Lexer.isDigit 0x2E = false := by decide

theorem expPart_eq_some_iff {t x : Bytes} : Lexer.expPart t = some x ↔
    ∃ e esg d3 post, t = e :: (esg ++ (d3 ++ post)) ∧ x = e :: (esg ++ d3) ∧ isE e = true ∧ esg.length ≤ 1 ∧
      (∀ c ∈ esg, isSign c = true) ∧ d3 ≠ [] ∧ (∀ c ∈ d3, Lexer.isDigit c = true) ∧ Lexer.boundary post = true := by
  constructor
  · fun_cases Lexer.expPart t with
    | case1 c r hE sg t1 hs d t2 hsd hc =>
      rintro ⟨⟩
      simp only [Bool.and_eq_true, decide_eq_true_eq] at hc
      obtain ⟨rfl, h1, h2, _⟩ := Lexer.optSign_eq_iff.mp hs
      obtain ⟨rfl, hd, _⟩ := Lexer.spanDigits_eq_iff.mp hsd
      exact ⟨c, sg, d, t2, rfl, rfl, hE, h1, h2, hc.1, hd, hc.2⟩
    | case2 | case3 | case4 => intro h; cases h
  · rintro ⟨e, esg, d3, post, rfl, rfl, he, h1, h2, hne, hd, hb⟩
    have hs : Lexer.optSign (esg ++ (d3 ++ post)) = (esg, d3 ++ post) :=
      Lexer.optSign_eq_iff.mpr ⟨rfl, h1, h2, fun _ => Lexer.stops_run digit_not_sign' hne hd _⟩
    have hsd : Lexer.spanDigits (d3 ++ post) = (d3, post) :=
      Lexer.spanDigits_eq_iff.mpr ⟨rfl, hd, Lexer.boundary_stops_digit hb⟩
    have hE : (e == 0x65 || e == 0x45) = true := he
    simp [Lexer.expPart, hE, hs, hsd, hne, hb]

theorem boundary_not_E (post : Bytes) (hb : Lexer.boundary post = true) : Lexer.expPart post = none := by
  cases post with
  | nil => rfl
  | cons c t =>
    have : (c == 0x65 || c == 0x45) = false := Bool.eq_false_iff.mpr fun hE => by
      have := (isE_props c hE).2.2
      simp only [Lexer.boundary, Bool.not_eq_true'] at hb
      rw [word_eq, hb] at this
      cases this
    simp [Lexer.expPart, this]

/-- the shape of what follows the integer part in a float token -/
inductive Tail : Bytes → Prop
  | exp (e : UInt8) (esg d3 : Bytes) : isE e = true → esg.length ≤ 1 → (∀ c ∈ esg, isSign c = true) →
      d3 ≠ [] → (∀ c ∈ d3, Lexer.isDigit c = true) → Tail (e :: (esg ++ d3))
  | fracExp (d2 : Bytes) (e : UInt8) (esg d3 : Bytes) : d2 ≠ [] → (∀ c ∈ d2, Lexer.isDigit c = true) →
      isE e = true → esg.length ≤ 1 → (∀ c ∈ esg, isSign c = true) →
      d3 ≠ [] → (∀ c ∈ d3, Lexer.isDigit c = true) → Tail (0x2E :: (d2 ++ e :: (esg ++ d3)))
  | frac (d3 : Bytes) : d3 ≠ [] → (∀ c ∈ d3, Lexer.isDigit c = true) → Tail (0x2E :: d3)

/-- the two alternatives after the integer part, as `matchFloat false` tries them -/
def floatTail (r1 : Bytes) : Option Bytes :=
  match Lexer.fracExp r1 with
  | some t => some t
  | none => Lexer.fracOnly r1

theorem matchFloat_eq (b : Bytes) :
    Lexer.matchFloat false b =
      (if (Lexer.spanDigits (Lexer.optMinus b).2).1 = [] then none
       else (floatTail (Lexer.spanDigits (Lexer.optMinus b).2).2).map fun t =>
         (Lexer.optMinus b).1 ++ (Lexer.spanDigits (Lexer.optMinus b).2).1 ++ t) := by
  unfold Lexer.matchFloat floatTail
  simp only
  split
  · rfl
  · cases Lexer.fracExp (Lexer.spanDigits (Lexer.optMinus b).2).2 <;> rfl

/-- the two alternatives return `t` exactly when `t` is a `Tail` followed by a word boundary -/
theorem floatTail_eq_some_iff {r1 t : Bytes} :
    floatTail r1 = some t ↔ ∃ post, r1 = t ++ post ∧ Tail t ∧ Lexer.boundary post = true := by
  unfold floatTail
  constructor
  · fun_cases Lexer.fracExp r1 with
    | case1 r d2 t2 hsd hd2 =>
      obtain ⟨rfl, hdig, _⟩ := Lexer.spanDigits_eq_iff.mp hsd
      cases hx : Lexer.expPart t2 with
      | some x =>
        obtain ⟨e, esg, d3, post, rfl, rfl, hE, h1, h2, hne, hd, hb⟩ := expPart_eq_some_iff.mp hx
        rintro ⟨⟩
        exact ⟨post, by simp, .fracExp d2 e esg d3 hd2 hdig hE h1 h2 hne hd, hb⟩
      | none =>
        simp only [Option.map_none, Lexer.fracOnly, hsd]
        split
        · rename_i hc
          simp only [Bool.and_eq_true, decide_eq_true_eq] at hc
          rintro ⟨⟩
          exact ⟨t2, by simp, .frac d2 hc.1 hdig, hc.2⟩
        · intro h; cases h
    | case2 r d2 t2 hsd hd2 => simp [Lexer.fracOnly, hsd, hd2]
    | case3 _ hdot =>
      cases hx : Lexer.expPart r1 with
      | some x =>
        obtain ⟨e, esg, d3, post, rfl, rfl, hE, h1, h2, hne, hd, hb⟩ := expPart_eq_some_iff.mp hx
        rintro ⟨⟩
        exact ⟨post, by simp, .exp e esg d3 hE h1 h2 hne hd, hb⟩
      | none =>
        fun_cases Lexer.fracOnly r1 with
        | case1 r _ _ _ _ => exact absurd rfl (hdot r)
        | case2 r _ _ _ _ => exact absurd rfl (hdot r)
        | case3 => intro h; cases h
  · rintro ⟨post, rfl, ht, hb⟩
    have hexp := fun e esg d3 (he : isE e = true) h1 h2 hne hd =>
      (expPart_eq_some_iff (t := e :: (esg ++ (d3 ++ post)))).mpr ⟨e, esg, d3, post, rfl, rfl, he, h1, h2, hne, hd, hb⟩
    cases ht with
    | exp e esg d3 he h1 h2 hne hd =>
      have hfe : Lexer.fracExp (e :: (esg ++ (d3 ++ post))) = Lexer.expPart (e :: (esg ++ (d3 ++ post))) := by
        unfold Lexer.fracExp
        split
        · rename_i heq
          injection heq with h1 _
          have := (isE_props e he).2.1
          simp [h1] at this
        · rfl
      simp only [List.cons_append, List.append_assoc, hfe, hexp e esg d3 he h1 h2 hne hd]
    | fracExp d2 e esg d3 hne2 hd2 he h1 h2 hne hd =>
      have hsp : Lexer.spanDigits (d2 ++ (e :: (esg ++ (d3 ++ post)))) = (d2, e :: (esg ++ (d3 ++ post))) :=
        Lexer.spanDigits_eq_iff.mpr ⟨rfl, hd2, (isE_props e he).1⟩
      simp only [List.cons_append, List.append_assoc, Lexer.fracExp, hsp, hexp e esg d3 he h1 h2 hne hd]
      simp [hne2]
    | frac d3 hne hd =>
      have hsp : Lexer.spanDigits (d3 ++ post) = (d3, post) :=
        Lexer.spanDigits_eq_iff.mpr ⟨rfl, hd, Lexer.boundary_stops_digit hb⟩
      simp only [List.cons_append, Lexer.fracExp, Lexer.fracOnly, hsp, boundary_not_E post hb]
      simp [hne, hb]

theorem Tail_head {t : Bytes} (ht : Tail t) : ∃ c r, t = c :: r ∧ Lexer.isDigit c = false := by
  cases ht with
  | exp e esg d3 he _ _ _ _ => exact ⟨e, _, rfl, (isE_props e he).1⟩
  | fracExp d2 e esg d3 _ _ _ _ _ _ _ => exact ⟨0x2E, _, rfl, dot_not_digit⟩
  | frac d3 _ _ => exact ⟨0x2E, _, rfl, dot_not_digit⟩

/-- a float token: optional `-`, digits, a `Tail` -/
def FloatTok (w : Bytes) : Prop :=
  ∃ sg d1 t, w = sg ++ (d1 ++ t) ∧ sg.length ≤ 1 ∧ (∀ c ∈ sg, c = 0x2D) ∧ d1 ≠ [] ∧
    (∀ c ∈ d1, Lexer.isDigit c = true) ∧ Tail t

/-- what the float regex matches: a float token before a word boundary (all it asks of what follows) -/
def FloatShape (w post : Bytes) : Prop := FloatTok w ∧ Lexer.boundary post = true

theorem Matches_digits {pre w post : Bytes} :
    Matches (.rep (.cls [(0x30, 0x39)]) 1 none) pre w post ↔ w ≠ [] ∧ ∀ c ∈ w, Lexer.isDigit c = true := by
  rw [Matches_rep_cls cok_digit, ← List.length_pos_iff]
  exact ⟨fun h => ⟨h.1, h.2.2⟩, fun h => ⟨h.1, nofun, h.2⟩⟩

/-- the middle of `floatRe`: `(?:(?:\.\d+)?[eE][+-]?|\.)` -/
def floatMid : Re :=
  .alt (.cat (.rep (.cat (.cls [(0x2E, 0x2E)]) (.rep (.cls [(0x30, 0x39)]) 1 none)) 0 (some 1))
          (.cat (.cls [(0x65, 0x65), (0x45, 0x45)]) (.rep (.cls [(0x2B, 0x2B), (0x2D, 0x2D)]) 0 (some 1))))
    (.cls [(0x2E, 0x2E)])

/-- a `Tail` is what `floatMid` matches (in any context: it has no anchors), then digits -/
theorem Tail.mid {t : Bytes} (ht : Tail t) : ∃ mid d3, t = mid ++ d3 ∧ d3 ≠ [] ∧ (∀ c ∈ d3, Lexer.isDigit c = true) ∧
    ∀ pre rest, Matches floatMid pre mid rest := by
  have hdot : ∀ pre post, Matches (.cls [(0x2E, 0x2E)]) pre [0x2E] post :=
    fun _ _ => (Matches_cls_iff (cok_one 0x2E (by decide))).mpr ⟨0x2E, rfl, rfl⟩
  have hexp : ∀ (e : UInt8) (esg pre post : Bytes), isE e = true → esg.length ≤ 1 → (∀ c ∈ esg, isSign c = true) →
      Matches (.cat (.cls [(0x65, 0x65), (0x45, 0x45)]) (.rep (.cls [(0x2B, 0x2B), (0x2D, 0x2D)]) 0 (some 1)))
        pre (e :: esg) post :=
    fun e esg _ _ he h1 h2 => ⟨[e], esg, rfl, (Matches_cls_iff cok_eE).mpr ⟨e, rfl, he⟩,
      (Matches_opt_cls cok_sign).mpr ⟨h1, h2⟩⟩
  rcases ht with ⟨e, esg, d3, he, h1, h2, hne, hd⟩ | ⟨d2, e, esg, d3, hne2, hd2, he, h1, h2, hne, hd⟩ | ⟨d3, hne, hd⟩
  · exact ⟨e :: esg, d3, by simp, hne, hd, fun _ _ =>
      .inl ⟨[], _, rfl, (Matches_opt _ _ _ _).mpr (.inl rfl), hexp e esg _ _ he h1 h2⟩⟩
  · exact ⟨0x2E :: (d2 ++ e :: esg), d3, by simp, hne, hd, fun _ _ => .inl ⟨0x2E :: d2, e :: esg, by simp,
      (Matches_opt _ _ _ _).mpr (.inr ⟨[0x2E], d2, rfl, hdot _ _, Matches_digits.mpr ⟨hne2, hd2⟩⟩), hexp e esg _ _ he h1 h2⟩⟩
  · exact ⟨[0x2E], d3, rfl, hne, hd, fun _ _ => .inr (hdot _ _)⟩

theorem Tail_split {t : Bytes} (ht : Tail t) :
    ∃ y d3, t = y ++ d3 ∧ d3 ≠ [] ∧ ∀ c ∈ d3, Lexer.isDigit c = true :=
  let ⟨mid, d3, e, hne, hd, _⟩ := ht.mid; ⟨mid, d3, e, hne, hd⟩

theorem Tail.of_mid {pre mid rest d3 : Bytes} (hm : Matches floatMid pre mid rest) (hne : d3 ≠ [])
    (hd : ∀ c ∈ d3, Lexer.isDigit c = true) : Tail (mid ++ d3) := by
  rcases hm with ⟨fr, _, rfl, hfr, _, sg2, rfl, hee, hsg2⟩ | hB
  · obtain ⟨e, rfl, he⟩ := (Matches_cls_iff cok_eE).mp hee
    obtain ⟨hs1, hs2⟩ := (Matches_opt_cls cok_sign).mp hsg2
    rcases (Matches_opt _ _ _ _).mp hfr with rfl | ⟨_, d2, rfl, hdt, hd2⟩
    · simpa using Tail.exp e sg2 d3 he hs1 hs2 hne hd
    · obtain ⟨_, rfl, rfl⟩ := (Matches_cls_iff (cok_one 0x2E (by decide))).mp hdt
      obtain ⟨hd2ne, hd2d⟩ := Matches_digits.mp hd2
      simpa using Tail.fracExp d2 e sg2 d3 hd2ne hd2d he hs1 hs2 hne hd
  · obtain ⟨_, rfl, rfl⟩ := (Matches_cls_iff (cok_one 0x2E (by decide))).mp hB
    exact .frac d3 hne hd

theorem float_shape (w post : Bytes) : Matches floatRe [] w post ↔ FloatShape w post := by
  have tail := fun (d3 : Bytes) {pre : Bytes} =>
    Matches_run_wordb (pre := pre) cok_digit digit_word 1 none d3 post (.inl Nat.one_pos)
  constructor
  · rintro ⟨_, _, rfl, ⟨rfl, _⟩, sg, _, rfl, hsg, d1, _, rfl, hd1, mid, d3, rfl, hmid, hd3⟩
    obtain ⟨hsg1, hsg2⟩ := (Matches_opt_cls (cok_one 0x2D (by decide))).mp hsg
    obtain ⟨hd1ne, hd1d⟩ := Matches_digits.mp hd1
    obtain ⟨h1, _, hd3d, hb⟩ := (tail d3).mp hd3
    exact ⟨⟨sg, d1, mid ++ d3, by simp, hsg1, hsg2, hd1ne, hd1d, .of_mid hmid (by intro e; simp [e] at h1) hd3d⟩, hb⟩
  · rintro ⟨⟨sg, d1, t, rfl, hsg1, hsg2, hd1ne, hd1d, htail⟩, hb⟩
    obtain ⟨mid, d3, rfl, hne, hd, hmid⟩ := htail.mid
    exact ⟨[], _, rfl, ⟨rfl, rfl⟩, sg, _, rfl,
      (Matches_opt_cls (cok_one 0x2D (by decide))).mpr ⟨hsg1, hsg2⟩, d1, _, rfl,
      Matches_digits.mpr ⟨hd1ne, hd1d⟩, mid, d3, rfl, hmid _ _,
      (tail d3).mpr ⟨List.length_pos_iff.mpr hne, nofun, hd, hb⟩⟩

theorem matchFloat_eq_some_iff (s w : Bytes) :
    Lexer.matchFloat false s = some w ↔ ∃ post, s = w ++ post ∧ FloatShape w post := by
  rw [matchFloat_eq]
  constructor
  · intro h
    split at h
    · cases h
    · rename_i hd1ne
      obtain ⟨t, ht, rfl⟩ := Option.map_eq_some_iff.mp h
      obtain ⟨post, hp, htail, hbd⟩ := floatTail_eq_some_iff.mp ht
      obtain ⟨hm, hsg1, hsg2, _⟩ := Lexer.optMinus_spec s
      obtain ⟨hsd, hd1d, _⟩ := Lexer.spanDigits_spec (Lexer.optMinus s).2
      exact ⟨post, by rw [List.append_assoc, List.append_assoc, ← hp, ← hsd, ← hm], ⟨_, _, t,
        List.append_assoc _ _ _, hsg1, hsg2, hd1ne, hd1d, htail⟩, hbd⟩
  · rintro ⟨post, rfl, ⟨sg, d1, t, rfl, hsg1, hsg2, hd1ne, hd1d, htail⟩, hbd⟩
    obtain ⟨c0, r0, rfl, hc0⟩ := Tail_head htail
    have hopt : Lexer.optMinus (sg ++ (d1 ++ (c0 :: r0 ++ post))) = (sg, d1 ++ (c0 :: r0 ++ post)) :=
      Lexer.optMinus_eq_iff.mpr ⟨rfl, hsg1, hsg2, fun _ => Lexer.stops_run (fun _ h => (Lexer.isDigit_not_sign h).1) hd1ne hd1d _⟩
    have hsp : Lexer.spanDigits (d1 ++ (c0 :: r0 ++ post)) = (d1, c0 :: r0 ++ post) :=
      Lexer.spanDigits_eq_iff.mpr ⟨rfl, hd1d, hc0⟩
    simp only [List.append_assoc, hopt, hsp, floatTail_eq_some_iff.mpr ⟨post, rfl, htail, hbd⟩]
    simp [hd1ne]

theorem matchFloat_shape {s w : Bytes} (h : Lexer.matchFloat false s = some w) :
    ∃ post, s = w ++ post ∧ FloatShape w post := (matchFloat_eq_some_iff s w).mp h

theorem matchFloat_decides : Decides (Lexer.matchFloat false) floatRe := .of_shape float_shape matchFloat_eq_some_iff

theorem float_shape_iff (w post : Bytes) :
    FloatShape w post ↔ Lexer.matchFloat false (w ++ post) = some w :=
  (float_shape w post).symm.trans (matchFloat_decides.matches_iff w post)

theorem float_matches_iff (w post : Bytes) :
    Matches floatRe [] w post ↔ Lexer.matchFloat false (w ++ post) = some w :=
  matchFloat_decides.matches_iff w post

theorem pmatch_floatRe (s : Bytes) : pmatch floatRe s = Lexer.matchFloat false s := matchFloat_decides.pmatch_eq s

/-! ## what the rules admit is what the converters' syntax accepts -/

theorem spanDigits_all (d : Bytes) (hd : ∀ c ∈ d, Lexer.isDigit c = true) : Lexer.spanDigits d = (d, []) :=
  Lexer.spanDigits_eq_iff.mpr ⟨(List.append_nil d).symm, hd, trivial⟩

theorem optSign_digits (esg d3 : Bytes) (h1 : esg.length ≤ 1) (h2 : ∀ c ∈ esg, isSign c = true)
    (hne : d3 ≠ []) (hd : ∀ c ∈ d3, Lexer.isDigit c = true) : Lexer.optSign (esg ++ d3) = (esg, d3) :=
  Lexer.optSign_eq_iff.mpr ⟨rfl, h1, h2, fun _ => List.append_nil d3 ▸ Lexer.stops_run digit_not_sign' hne hd []⟩

/-- the exponent part of Go's float syntax accepts `e[+-]?\d+` at the end -/
theorem goFloat_exp_ok (neg : Bool) (mant : Nat) (k : Nat) (e : UInt8) (esg d3 : Bytes) (he : isE e = true)
    (h1 : esg.length ≤ 1) (h2 : ∀ c ∈ esg, isSign c = true) (hne : d3 ≠ [])
    (hd : ∀ c ∈ d3, Lexer.isDigit c = true) :
    (if (e == 0x65 || e == 0x45) = true then
        (let (esg', t1) := Lexer.optSign (esg ++ d3)
         let (d3', t2) := Lexer.spanDigits t1
         if (d3' = [] || t2 ≠ []) = true then (none : Option Lexer.FloatLit) else
         let ev : Int := Lexer.decValFrom 0 d3'
         some ⟨neg, mant, (if esg' == [0x2D] then -ev else ev) - (k : Int)⟩)
      else none).isSome = true := by
  have hE : (e == 0x65 || e == 0x45) = true := he
  simp only [hE, if_true, optSign_digits esg d3 h1 h2 hne hd, spanDigits_all d3 hd]
  simp [hne]

theorem goFloatSyntax_tok {w : Bytes} (h : FloatTok w) : (Lexer.goFloatSyntax w).isSome = true := by
  obtain ⟨sg, d1, t, rfl, hsg1, hsg2, hd1ne, hd1d, ht⟩ := h
  have hos : Lexer.optSign (sg ++ (d1 ++ t)) = (sg, d1 ++ t) := Lexer.optSign_eq_iff.mpr
    ⟨rfl, hsg1, fun c hc => by rw [hsg2 c hc]; rfl, fun _ => Lexer.stops_run digit_not_sign' hd1ne hd1d _⟩
  obtain ⟨c0, r0, ht0, hc0⟩ := Tail_head ht
  have hsp : Lexer.spanDigits (d1 ++ t) = (d1, t) := Lexer.spanDigits_eq_iff.mpr ⟨rfl, hd1d, by rw [ht0]; exact hc0⟩
  unfold Lexer.goFloatSyntax
  simp only [hos, hsp]
  cases ht with
  | exp e esg d3 he h1 h2 hne hd =>
    have hdot := (isE_props e he).2.1
    split
    · rename_i heq
      injection heq with h1' _
      rw [← h1'] at hdot
      simp at hdot
    · simp only [hd1ne, decide_false, Bool.false_and, Bool.false_eq_true, if_false]
      exact goFloat_exp_ok _ _ _ e esg d3 he h1 h2 hne hd
  | fracExp d2 e esg d3 hne2 hd2 he h1 h2 hne hd =>
    have hsp2 : Lexer.spanDigits (d2 ++ e :: (esg ++ d3)) = (d2, e :: (esg ++ d3)) :=
      Lexer.spanDigits_eq_iff.mpr ⟨rfl, hd2, (isE_props e he).1⟩
    simp only [hsp2, hd1ne, decide_false, Bool.false_and, Bool.false_eq_true, if_false]
    exact goFloat_exp_ok _ _ _ e esg d3 he h1 h2 hne hd
  | frac d3 hne hd =>
    simp only [spanDigits_all d3 hd, hd1ne, decide_false, Bool.false_and, Bool.false_eq_true, if_false]
    rfl

/-- The float rule admits only texts that Go's decimal float syntax
(`strconv.ParseFloat`, as modelled by `goFloatSyntax`) accepts: a float token
can only be refused by the converter for being out of range. -/
theorem matchFloat_goSyntax (b t : Bytes) (h : Lexer.matchFloat false b = some t) :
    (Lexer.goFloatSyntax t).isSome = true := by
  obtain ⟨_, _, htok, _⟩ := matchFloat_shape h
  exact goFloatSyntax_tok htok

theorem matchInt_goSyntax (b t : Bytes) (h : Lexer.matchInt b = some t) : Lexer.goIntSyntax t = true := by
  obtain ⟨_, _, ⟨sg, ds, rfl, h1, h2, hne, hd, _⟩, _⟩ := Lexer.matchInt_eq_some_iff.mp h
  unfold Lexer.goIntSyntax
  simp only [optSign_digits sg ds h1 (fun c hc => by rw [h2 c hc]; rfl) hne hd, spanDigits_all ds hd]
  simp [hne]

end Martian.LexerRegex
