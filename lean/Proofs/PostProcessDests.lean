/-
C13 `dest_injective`.  Sibling level: the names given to the children of one
directory under outs/ are pairwise distinct, and different names give disjoint
sub-trees.  Global: the destinations of all file leaves of one traversal are
pairwise incomparable (neither is a prefix of the other — in particular
pairwise distinct), for every well-formed type.
-/
import Proofs.PostProcessLeaves
import Proofs.ListFacts

namespace Martian.PostProcess

theorem lt_pow_widthAux (fuel n : Nat) (h : n ≤ fuel) : n < 10 ^ widthAux fuel n := by
  induction fuel generalizing n with
  | zero =>
    have : n = 0 := by omega
    subst this
    simp [widthAux]
  | succ fuel ih =>
    simp only [widthAux]
    split
    · simpa using ‹n < 10›
    · have h1 : n / 10 ≤ fuel := by omega
      have h2 := ih (n / 10) h1
      rw [Nat.add_comm, Nat.pow_succ]
      omega

theorem lt_pow_width (n : Nat) : n < 10 ^ width n := lt_pow_widthAux n n (Nat.le_refl n)

theorem valRev_digitsRev (w i : Nat) (h : i < 10 ^ w) : valRev (digitsRev w i) = i := by
  induction w generalizing i with
  | zero =>
    have : i = 0 := by simpa using h
    simp [digitsRev, valRev, this]
  | succ w ih =>
    have h1 : i / 10 < 10 ^ w := by
      rw [Nat.pow_succ] at h
      omega
    simp only [digitsRev, valRev, ih (i / 10) h1]
    omega

theorem digitsRev_lt (w i : Nat) : ∀ d ∈ digitsRev w i, d < 10 := by
  induction w generalizing i with
  | zero => simp [digitsRev]
  | succ w ih =>
    intro d hd
    simp only [digitsRev, List.mem_cons] at hd
    rcases hd with hd | hd
    · omega
    · exact ih _ d hd

theorem digitChar_toNat : ∀ d, d < 10 → (digitChar d).toNat = 48 + d := by decide

theorem map_digitChar_inj {xs ys : List Nat} (hx : ∀ d ∈ xs, d < 10) (hy : ∀ d ∈ ys, d < 10)
    (h : xs.map digitChar = ys.map digitChar) : xs = ys := by
  have key : ∀ zs : List Nat, (∀ d ∈ zs, d < 10) → (zs.map digitChar).map Char.toNat = zs.map (48 + ·) := by
    intro zs hz
    rw [List.map_map]
    exact List.map_congr_left fun d hd => digitChar_toNat d (hz d hd)
  have := congrArg (List.map Char.toNat) h
  rw [key xs hx, key ys hy] at this
  exact (List.map_inj_right fun _ _ => Nat.add_left_cancel).mp this

theorem pad_injective (w i j : Nat) (hi : i < 10 ^ w) (hj : j < 10 ^ w) (h : pad w i = pad w j) :
    i = j := by
  unfold pad at h
  have h1 : (digitsRev w i).reverse.map digitChar = (digitsRev w j).reverse.map digitChar := by
    have := congrArg String.toList h
    simpa using this
  have h2 : (digitsRev w i).reverse = (digitsRev w j).reverse :=
    map_digitChar_inj (fun d hd => digitsRev_lt w i d (by simpa using hd))
      (fun d hd => digitsRev_lt w j d (by simpa using hd)) h1
  have h3 : digitsRev w i = digitsRev w j := by
    have := congrArg List.reverse h2
    simpa using this
  rw [← valRev_digitsRev w i hi, ← valRev_digitsRev w j hj, h3]

/-- the names `moveOutArrayDir` gives to the elements of one array are pairwise distinct -/
theorem array_names_distinct (n i j : Nat) (hi : i < n) (hj : j < n)
    (h : pad (width n) i = pad (width n) j) : i = j :=
  pad_injective (width n) i j (Nat.lt_trans hi (lt_pow_width n)) (Nat.lt_trans hj (lt_pow_width n)) h

theorem sibling_subtrees_disjoint (outs : Path) (n1 n2 : String) (s1 s2 : Path)
    (h : (outs ++ [n1]) ++ s1 = (outs ++ [n2]) ++ s2) : n1 = n2 := by
  induction outs with
  | nil => simpa using (List.cons.inj h).1
  | cons a outs ih => exact ih (List.cons.inj h).2

theorem noDupNames_sound (ms : List (String × String × Ty)) (seen : List String)
    (h : noDupNames ms seen = true) :
    (memberNames ms).Nodup ∧ ∀ n ∈ memberNames ms, n ∉ seen := by
  induction ms generalizing seen with
  | nil => simp [memberNames]
  | cons m ms ih =>
    obtain ⟨id, on, t⟩ := m
    simp only [noDupNames] at h
    cases hf : hasFile t with
    | false =>
      simp only [hf] at h
      simpa [memberNames, hf] using ih seen h
    | true =>
      simp only [hf, if_true] at h
      split at h
      · cases h
      · next hc =>
        obtain ⟨h1, h2⟩ := ih _ h
        have hc' : outFilename t id on ∉ seen := by simpa using hc
        simp only [memberNames, hf, if_true, List.nodup_cons, List.mem_cons]
        refine ⟨⟨fun hm => ?_, h1⟩, ?_⟩
        · exact absurd (List.mem_cons_self) (h2 _ hm)
        · intro n hn
          rcases hn with hn | hn
          · rw [hn]; exact hc'
          · exact fun hs => h2 n hn (List.mem_cons_of_mem _ hs)

theorem isPrefix_iff {p q : Path} : isPrefix p q = true ↔ ∃ s, q = p ++ s := by
  constructor
  · intro h
    cases hq : stripPrefix p q with
    | none => simp [isPrefix, hq] at h
    | some s => exact ⟨s, stripPrefix_some hq⟩
  · rintro ⟨s, rfl⟩
    exact isPrefix_append p s

theorem under_iff_prefix {b d : Path} : Under b d ↔ b <+: d :=
  exists_congr fun _ => eq_comm

theorem isPrefix_false_iff {p q : Path} : isPrefix p q = false ↔ ¬ p <+: q := by
  rw [← isPrefix_iff.trans under_iff_prefix]
  cases isPrefix p q <;> simp

theorem incomp_iff {a b : Path} : Incomp a b ↔ ¬ a <+: b ∧ ¬ b <+: a := by
  simp [Incomp, isPrefix_false_iff]

theorem Under.trans_append {b c d : Path} (h : Under (b ++ c) d) : Under b d := by
  obtain ⟨s, rfl⟩ := h
  exact ⟨c ++ s, by simp⟩

theorem Under.refl (b : Path) : Under b b := ⟨[], by simp⟩

theorem under_outs_of_dest {b a : Path} {n m : String} (h : Under (b ++ [n]) (a ++ [m])) : Under b a := by
  rw [under_iff_prefix] at h ⊢
  rcases List.prefix_concat_iff.mp h with e | h'
  · exact (List.append_inj' e rfl).1 ▸ List.prefix_rfl
  · exact (List.prefix_append b [n]).trans h'

theorem Incomp.symm {a b : Path} (h : Incomp a b) : Incomp b a := ⟨h.2, h.1⟩

theorem Incomp.ne {a b : Path} (h : Incomp a b) : a ≠ b := by
  intro e; subst e
  have := h.1
  rw [isPrefix_self] at this
  cases this

theorem not_isPrefix_of_siblings {b : Path} {n1 n2 : String} {d1 d2 : Path} (hn : n1 ≠ n2)
    (h1 : Under (b ++ [n1]) d1) (h2 : Under (b ++ [n2]) d2) : isPrefix d1 d2 = false := by
  cases h : isPrefix d1 d2 with
  | false => rfl
  | true =>
    obtain ⟨s, hs⟩ := isPrefix_iff.mp h
    obtain ⟨s1, rfl⟩ := h1
    obtain ⟨s2, rfl⟩ := h2
    have : (b ++ [n2]) ++ s2 = (b ++ [n1]) ++ (s1 ++ s) := by rw [hs]; simp
    exact absurd (sibling_subtrees_disjoint b n2 n1 s2 (s1 ++ s) this).symm hn

theorem incomp_of_siblings {b : Path} {n1 n2 : String} {d1 d2 : Path} (hn : n1 ≠ n2)
    (h1 : Under (b ++ [n1]) d1) (h2 : Under (b ++ [n2]) d2) : Incomp d1 d2 :=
  ⟨not_isPrefix_of_siblings hn h1 h2, not_isPrefix_of_siblings (Ne.symm hn) h2 h1⟩

theorem leavesKeys_eq_flatMap (g : String → List Leaf) (ks : List String) : leavesKeys g ks = ks.flatMap g := by
  induction ks with
  | nil => rfl
  | cons k ks ih => simp [leavesKeys, ih]

theorem leavesIdx_eq_flatMap (g : Nat → J → List Leaf) (i : Nat) (xs : List J) :
    leavesIdx g i xs = (xs.zipIdx i).flatMap fun p => g p.2 p.1 := by
  induction xs generalizing i with
  | nil => rfl
  | cons x xs ih => simp [leavesIdx, ih, List.zipIdx_cons]

theorem perm_insertSorted (k : String) (l : List String) : (insertSorted k l).Perm (k :: l) := by
  induction l with
  | nil => exact .refl _
  | cons a r ih =>
    simp only [insertSorted]
    split
    · exact .refl _
    · exact (ih.cons a).trans (.swap k a r)

theorem perm_sortStrings (l : List String) : (sortStrings l).Perm l := by
  induction l with
  | nil => exact .refl _
  | cons a r ih => exact (perm_insertSorted a _).trans (ih.cons a)

theorem mem_dedup {x : String} {l : List String} : x ∈ dedup l ↔ x ∈ l := by
  induction l with
  | nil => simp [dedup]
  | cons a r ih =>
    simp only [dedup]
    split
    · next hc =>
      have : a ∈ r := by simpa using hc
      simp only [ih, List.mem_cons]
      constructor
      · exact Or.inr
      · rintro (e | e)
        · exact e ▸ this
        · exact e
    · simp [ih]

theorem nodup_dedup (l : List String) : (dedup l).Nodup := by
  induction l with
  | nil => simp [dedup]
  | cons a r ih =>
    simp only [dedup]
    split
    · exact ih
    · next hc =>
      have : a ∉ r := by simpa using hc
      exact List.nodup_cons.mpr ⟨fun hm => this (mem_dedup.mp hm), ih⟩

theorem outFilename_inj (e : Ty) (a b : String) (h : outFilename e a "" = outFilename e b "") : a = b := by
  cases e with
  | file ext =>
    simp only [outFilename, ne_eq, not_true_eq_false, if_false] at h
    split at h
    · exact h
    · exact (String.append_left_inj ext).mp h |> (String.append_left_inj ".").mp
  | scalar => simpa [outFilename] using h
  | arr e k => simpa [outFilename] using h
  | tmap e => simpa [outFilename] using h
  | struct ms => simpa [outFilename] using h

theorem memberNames_eq (ms : List (String × String × Ty)) :
    memberNames ms = (ms.filter fun m => hasFile m.2.2).map fun m => outFilename m.2.2 m.1 m.2.1 := by
  induction ms with
  | nil => rfl
  | cons m ms ih =>
    obtain ⟨id, on, t⟩ := m
    cases hf : hasFile t <;> simp [memberNames, hf, ih]

theorem wfMs_mem {ms : List (String × String × Ty)} (h : wfMs ms = true) {id on : String} {t : Ty}
    (hm : (id, on, t) ∈ ms) : wfTy t = true := by
  induction ms with
  | nil => cases hm
  | cons m ms ih =>
    obtain ⟨id', on', t'⟩ := m
    simp only [wfMs, Bool.and_eq_true] at h
    simp only [List.mem_cons] at hm
    rcases hm with e | hm
    · cases e; exact h.1
    · exact ih h.2 hm

theorem leaves_nofile (t : Ty) (id on : String) (v : J) (o : Path) (h : hasFile t = false) :
    leavesOf t id on v o = [] := by
  cases t with
  | scalar => simp [leavesOf]
  | file ext => simp [hasFile] at h
  | arr e k => simp [hasFile] at h; simp [leavesOf, h]
  | tmap e => simp [hasFile] at h; simp [leavesOf, h]
  | struct ms => simp [hasFile] at h; simp [leavesOf, h]

theorem hasFile_of_mem_leavesOf {t : Ty} {id on : String} {v : J} {o : Path} {l : Leaf}
    (hl : l ∈ leavesOf t id on v o) : hasFile t = true := by
  cases hf : hasFile t with
  | true => rfl
  | false => rw [leaves_nofile t id on v o hf] at hl; cases hl

/-- Children of one directory `o`: child `i` puts its leaves below `o/<n>` for names `n` it may use
(`N i n`), its own leaves are pairwise incomparable, and different children never use the same name.
Then all leaves lie below `o` and are pairwise incomparable. -/
theorem children_good {ι : Type} (o : Path) (is : List ι) (g : ι → List Leaf) (N : ι → String → Prop)
    (hN : is.Pairwise fun i j => ∀ n m, N i n → N j m → n ≠ m)
    (hg : ∀ i ∈ is, (∀ l ∈ g i, ∃ n, N i n ∧ Under (o ++ [n]) l.dest) ∧ (g i).Pairwise LeafIncomp) :
    (∀ l ∈ is.flatMap g, Under o l.dest) ∧ (is.flatMap g).Pairwise LeafIncomp := by
  refine ⟨fun l hl => ?_, List.pairwise_flatMap.mpr ⟨fun i hi => (hg i hi).2, ?_⟩⟩
  · obtain ⟨i, hi, h⟩ := List.mem_flatMap.mp hl
    obtain ⟨n, _, hu⟩ := (hg i hi).1 l h
    exact hu.trans_append
  · refine hN.imp_of_mem fun {i j} hi hj hne l1 h1 l2 h2 => ?_
    obtain ⟨n, hn, u1⟩ := (hg i hi).1 l1 h1
    obtain ⟨m, hm, u2⟩ := (hg j hj).1 l2 h2
    exact incomp_of_siblings (hne n m hn hm) u1 u2

/-- The members of a struct (or the parameters of a record) as children of its directory: distinct ids and
the compiler's check on the output file names of the file-typed members give distinct names. -/
theorem members_good {ι : Type} (o : Path) (ms : List (String × String × Ty)) (hnames : noDupNames ms [] = true)
    (is : List ι) (key : ι → String) (hkeys : (is.map key).Nodup) (g : ι → List Leaf)
    (hg : ∀ i ∈ is, (g i).Pairwise LeafIncomp ∧ ∀ l ∈ g i, ∃ on t, (key i, on, t) ∈ ms ∧ hasFile t = true ∧
      Under (o ++ [outFilename t (key i) on]) l.dest) :
    (∀ l ∈ is.flatMap g, Under o l.dest) ∧ (is.flatMap g).Pairwise LeafIncomp := by
  refine children_good o is g
    (fun i n => ∃ on t, (key i, on, t) ∈ ms ∧ hasFile t = true ∧ n = outFilename t (key i) on) ?_
    fun i hi => ⟨fun l hl => ?_, (hg i hi).1⟩
  · have hnd := (noDupNames_sound ms [] hnames).1
    rw [memberNames_eq] at hnd
    refine (List.pairwise_map.mp hkeys).imp fun hne n m ⟨on1, t1, m1, f1, e1⟩ ⟨on2, t2, m2, f2, e2⟩ e => ?_
    rw [e1, e2] at e
    exact hne (congrArg Prod.fst (Proofs.ListFacts.nodup_map_inj hnd _ (List.mem_filter.mpr ⟨m1, f1⟩)
      _ (List.mem_filter.mpr ⟨m2, f2⟩) e))
  · obtain ⟨on, t, hm, hf, hu⟩ := (hg i hi).2 l hl
    exact ⟨_, ⟨on, t, hm, hf, rfl⟩, hu⟩

theorem idx_children_good (o : Path) (name : String → String) (hname : ∀ a b, name a = name b → a = b)
    (xs : List J) (g : Nat → J → List Leaf)
    (hg : ∀ i x, (∀ l ∈ g i x, Under (o ++ [name (pad (width xs.length) i)]) l.dest) ∧
      (g i x).Pairwise LeafIncomp) :
    (∀ l ∈ leavesIdx g 0 xs, Under o l.dest) ∧ (leavesIdx g 0 xs).Pairwise LeafIncomp := by
  rw [leavesIdx_eq_flatMap]
  refine children_good o _ _ (fun p n => p.2 < xs.length ∧ n = name (pad (width xs.length) p.2)) ?_
    fun p hp => ⟨fun l hl => ⟨_, ⟨by simpa using (List.mem_zipIdx hp).2.1, rfl⟩, (hg p.2 p.1).1 l hl⟩, (hg p.2 p.1).2⟩
  -- the indices along `zipIdx` increase strictly and `pad (width n)` is injective below `n`: the names differ
  have hlt : (xs.zipIdx 0).Pairwise fun a b => a.2 < b.2 :=
    List.pairwise_map.mp (by rw [List.zipIdx_map_snd]; exact List.pairwise_lt_range' 1)
  refine hlt.imp fun {a b} hab n m hn hm e => ?_
  rw [hn.2, hm.2] at e
  have := array_names_distinct xs.length a.2 b.2 hn.1 hm.1 (hname _ _ e)
  omega

theorem arrLeaves_good (e : Ty) (g : LeafFn) (hg : GoodFn e g) (k : Nat) (v : J) (o : Path) :
    (∀ l ∈ arrLeaves g k v o, Under o l.dest) ∧ (arrLeaves g k v o).Pairwise LeafIncomp := by
  induction k generalizing v o with
  | zero =>
    cases v with
    | arr xs => exact idx_children_good o (outFilename e · "") (outFilename_inj e) xs _ fun i x => hg _ _ _ _
    | _ => simp [arrLeaves]
  | succ k ih =>
    cases v with
    | arr xs =>
      refine idx_children_good o id (fun _ _ h => h) xs _ fun i x => ?_
      cases x with
      | null => simp [arrElemLeaves]
      | _ => exact ih _ _
    | _ => simp [arrLeaves]

mutual
theorem leavesOf_good (ty : Ty) (h : wfTy ty = true) : GoodFn ty (leavesOf ty) := by
  intro id on v outs
  cases ty with
  | scalar => simp [leavesOf]
  | file ext =>
    cases v <;> simp [leavesOf, Leaf.dest, Under.refl]
  | arr e k =>
    rw [leavesOf_arr]
    cases hasFile e with
    | false => simp
    | true => exact arrLeaves_good e _ (leavesOf_good e h) k v _
  | tmap e =>
    rw [leavesOf_tmap]
    cases hasFile e with
    | false => simp
    | true =>
      have hg := leavesOf_good e h
      cases v with
      | obj kvs =>
        simp only [if_true, mapLeaves, leavesKeys_eq_flatMap]
        refine children_good _ _ _ (fun k n => n = outFilename e k "") ?_
          fun k _ => ⟨fun l hl => ⟨_, rfl, (hg _ _ _ _).1 l hl⟩, (hg _ _ _ _).2⟩
        refine ((perm_sortStrings _).nodup_iff.mpr (nodup_dedup _)).imp fun hne n m hn hm h => ?_
        rw [hn, hm] at h
        exact hne (outFilename_inj e _ _ h)
      | _ => simp [mapLeaves]
  | struct ms =>
    rw [leavesOf_struct]
    simp only [wfTy, Bool.and_eq_true, decide_eq_true_eq] at h
    cases hasFileMs ms with
    | false => simp
    | true =>
      have hg := leavesMs_good ms ms h.2 (fun _ hm => hm)
      cases v with
      | obj kvs =>
        cases kvs with
        | nil => simp [structLeaves]
        | cons kv kvs =>
          simp only [if_true, structLeaves, leavesKeys_eq_flatMap]
          refine members_good _ ms h.1.1 _ (fun k => k) ?_ _ fun k _ => hg _ _ _
          rw [List.map_id', leavesMs_keys]
          exact (perm_sortStrings _).nodup_iff.mpr h.1.2
      | _ => simp [structLeaves]
theorem leavesMs_good (all ms : List (String × String × Ty)) (h : wfMs ms = true)
    (hsub : ∀ m, m ∈ ms → m ∈ all) : GoodMs all (leavesMs ms) := by
  intro k v o
  cases ms with
  | nil => simp [leavesMs, memberLeaves]
  | cons m ms =>
    obtain ⟨id, on, t⟩ := m
    simp only [wfMs, Bool.and_eq_true] at h
    simp only [leavesMs, memberLeaves]
    by_cases hk : id = k
    · simp only [hk, if_true]
      have hg := leavesOf_good t h.1 k on v o
      exact ⟨hg.2, fun l hl => ⟨on, t, hk ▸ hsub _ (by simp), hasFile_of_mem_leavesOf hl, hg.1 l hl⟩⟩
    · simp only [hk, if_false]
      exact leavesMs_good all ms h.2 (fun m hm => hsub m (by simp [hm])) k v o
end

theorem leavesRec_eq_flatMap (params : List (String × String × Ty)) (outs : List (String × J)) (o : Path) :
    leavesRec params outs o =
      params.flatMap fun m => (lookupLast outs m.1).elim [] fun v => leavesOf m.2.2 m.1 m.2.1 v o := by
  induction params with
  | nil => rfl
  | cons m rest ih =>
    obtain ⟨id, on, ty⟩ := m
    cases hv : lookupLast outs id <;> simp [leavesRec, hv, ih]

theorem mem_leavesRec {params : List (String × String × Ty)} {outs : List (String × J)} {o : Path}
    {l : Leaf} (h : l ∈ leavesRec params outs o) :
    ∃ id on ty v, (id, on, ty) ∈ params ∧ l ∈ leavesOf ty id on v o := by
  rw [leavesRec_eq_flatMap, List.mem_flatMap] at h
  obtain ⟨⟨id, on, ty⟩, hm, hl⟩ := h
  cases hv : lookupLast outs id with
  | none => rw [hv] at hl; cases hl
  | some v => rw [hv] at hl; exact ⟨id, on, ty, v, hm, hl⟩

theorem leavesRec_pairwise (params : List (String × String × Ty)) (outs : List (String × J)) (o : Path)
    (h : wfParams params = true) : (leavesRec params outs o).Pairwise LeafIncomp := by
  simp only [wfParams, Bool.and_eq_true, decide_eq_true_eq] at h
  rw [leavesRec_eq_flatMap]
  refine (members_good o params h.1.1 params (·.1) h.1.2 _ fun m hm => ?_).2
  cases lookupLast outs m.1 with
  | none => exact ⟨List.Pairwise.nil, fun _ hl => nomatch hl⟩
  | some v =>
    have hg := leavesOf_good m.2.2 (wfMs_mem h.2 hm) m.1 m.2.1 v o
    exact ⟨hg.2, fun l hl => ⟨_, _, hm, hasFile_of_mem_leavesOf hl, hg.1 l hl⟩⟩

theorem pairwise_incomp_nodup {ls : List Leaf} (h : ls.Pairwise LeafIncomp) :
    (ls.map Leaf.dest).Nodup :=
  List.pairwise_map.mpr (h.imp fun hi => hi.ne)

theorem leavesRec_under (params : List (String × String × Ty)) (outs : List (String × J)) (o : Path)
    (h : wfParams params = true) : ∀ l ∈ leavesRec params outs o, Under o l.outs := by
  intro l hl
  simp only [wfParams, Bool.and_eq_true, decide_eq_true_eq] at h
  obtain ⟨id, on, ty, v, hm, hx⟩ := mem_leavesRec hl
  exact under_outs_of_dest ((leavesOf_good ty (wfMs_mem h.2 hm) id on v o).1 l hx)

end Martian.PostProcess
