import Proofs.VdrPath
import Proofs.VdrPass

/-! The safety invariant of the VDR bookkeeping model, preserved by every event (`Inv`, `Inv.own`, `Inv.run`;
`Inv.sweep`, `Inv.kept`, `Inv.init`).  `CfgOK` is the hypothesis on the configuration that every later module uses;
`Fresh`, `refs_mono`. -/
namespace Martian.Vdr

theorem refs_nonempty {c : Cfg} {a : Arg} {p : Path} (h : refs c a p = true) : (c.filesOf a).isEmpty = false := by
  obtain ⟨_, _, f, hf, _⟩ := (anyOverlap_iff_exists _ _).mp h
  exact List.isEmpty_eq_false_iff_exists_mem.mpr ⟨f, hf⟩

theorem refs_of_mem {c : Cfg} {a : Arg} {p : Path} (h : p ∈ c.filesOf a) : refs c a p = true :=
  (anyOverlap_iff_exists _ _).mpr ⟨p, List.mem_singleton_self p, p, h, Or.inl rfl⟩

def Unref (c : Cfg) (disk : List DiskEnt) (a : Arg) : Prop :=
  ∀ d ∈ disk, isTmp d.kind = false → refs c a d.path = false

def DoneH (s : St) (h : Holder) : Prop := ∃ n, h = some n ∧ n ∈ s.doneNodes

structure Inv (c : Cfg) (s0 s : St) : Prop where
  held : ∀ a h, Holds s0 a h → DoneH s h ∨ Holds s a h ∨ Unref c s.disk a
  cache : ∀ es, s.cache = some es → ∀ e ∈ es,
    (∃ d ∈ s0.disk, d.path = e.path) ∧ ∀ a, InDom s a → refs c a e.path = true → a ∈ e.args
  safe : ∀ d ∈ s.removed, isTmp d.kind = false → ∀ a h, Holds s0 a h → refs c a d.path = true → DoneH s h
  sub : ∀ d ∈ s.disk, d ∈ s0.disk
  split : ∀ d ∈ s0.disk, d ∈ s.disk ∨ d ∈ s.removed
  rsub : ∀ d ∈ s.removed, d ∈ s0.disk

theorem unref_of_nofiles (c : Cfg) (disk : List DiskEnt) (a : Arg) (h : (c.filesOf a).isEmpty = true) :
    Unref c disk a := by
  intro d _ _
  cases hr : refs c a d.path with
  | false => rfl
  | true => rw [refs_nonempty hr] at h; cases h

theorem Inv.frame {c : Cfg} {s0 s s' : St} {P : Arg → Holder → Prop} (i : Inv c s0 s)
    (f : Frame s s') (k : Keeps P s s')
    (hp : ∀ a h, Holds s a h → P a h → DoneH s h ∨ Unref c s.disk a) : Inv c s0 s' := by
  have hd : ∀ h, DoneH s h → DoneH s' h := by
    rintro h ⟨n, e, m⟩; exact ⟨n, e, f.done ▸ m⟩
  refine ⟨?_, ?_, ?_, ?_, ?_, ?_⟩
  · intro a h hh
    rcases i.held a h hh with h1 | h1 | h1
    · exact Or.inl (hd h h1)
    · rcases k a h h1 with h2 | h2
      · exact Or.inr (Or.inl h2)
      · rcases hp a h h1 h2 with h3 | h3
        · exact Or.inl (hd h h3)
        · exact Or.inr (Or.inr (f.disk ▸ h3))
    · exact Or.inr (Or.inr (f.disk ▸ h1))
  · intro es he e hm
    rw [f.cache] at he
    obtain ⟨h1, h2⟩ := i.cache es he e hm
    exact ⟨h1, fun a ha => h2 a (f.dom a ha)⟩
  · intro d hm ht a h hh hr
    rw [f.removed] at hm
    exact hd h (i.safe d hm ht a h hh hr)
  · intro d hm; rw [f.disk] at hm; exact i.sub d hm
  · intro d hm
    rw [f.disk, f.removed]; exact i.split d hm
  · intro d hm; rw [f.removed] at hm; exact i.rsub d hm


/-- the assumptions about the static data: names come before files, paths are clean -/
structure CfgOK (c : Cfg) (s0 : St) : Prop where
  names : ∀ a, (c.namesOf a).isEmpty = true → (c.filesOf a).isEmpty = true
  /-- the names an argument refers to do not end in a separator, except that the raw spelling
  `g/` of an output may stand next to its cleaned form `g` (what `getLogicalFileNames` returns) -/
  cleanF : ∀ a, FilesWF (c.filesOf a)
  cleanD : ∀ d ∈ s0.disk, NoTrailingSlash d.path
  /-- walked paths have no doubled separator -/
  noDbl : ∀ d ∈ s0.disk, NoDbl d.path
  /-- a restart rebuilds the tables the fork started with -/
  init : c.initArgs = s0.fileArgs ∧ c.initPost = s0.postNodes

theorem refs_mono {c : Cfg} {a : Arg} {d k : Path} (hd : NoTrailingSlash d) (hk : NoTrailingSlash k)
    (hdd : NoDbl d) (hkd : NoDbl k)
    (hf : FilesWF (c.filesOf a)) (hin : pathIsInside d k = true)
    (hr : refs c a d = true) : refs c a k = true := by
  unfold refs at *
  rw [refsWF_iff hd hdd hf] at hr
  rw [refsWF_iff hk hkd hf]
  obtain ⟨f, hfm, hc, hrel⟩ := hr
  exact ⟨f, hfm, hc, related_mono hin hrel⟩

theorem Inv.nodeDone {c : Cfg} {s0 s : St} (i : Inv c s0 s) (n : Node) :
    Inv c s0 { s with doneNodes := n :: s.doneNodes } := by
  have hd : ∀ h, DoneH s h → DoneH { s with doneNodes := n :: s.doneNodes } h := by
    rintro h ⟨m, e, hm⟩; exact ⟨m, e, List.mem_cons_of_mem _ hm⟩
  refine ⟨?_, i.cache, ?_, i.sub, i.split, i.rsub⟩
  · intro a h hh
    rcases i.held a h hh with h1 | h1 | h1
    · exact Or.inl (hd h h1)
    · exact Or.inr (Or.inl h1)
    · exact Or.inr (Or.inr h1)
  · intro d hm ht a h hh hr
    exact hd h (i.safe d hm ht a h hh hr)

theorem Inv.removeEmpty {c : Cfg} {s0 s : St} (ok : CfgOK c s0) (i : Inv c s0 s) : Inv c s0 (removeEmpty c s) := by
  refine i.frame (removeEmpty_frame c s)
    (dropArgs_keeps (fun a => (c.namesOf a).isEmpty) _ s) ?_
  intro a h _ hp
  exact Or.inr (unref_of_nofiles c _ a (ok.names a hp))

theorem Inv.setCache {c : Cfg} {s0 s : St} (i : Inv c s0 s) (es : List Entry)
    (h : ∀ e ∈ es, (∃ d ∈ s0.disk, d.path = e.path) ∧ ∀ a, InDom s a → refs c a e.path = true → a ∈ e.args) :
    Inv c s0 { s with cache := some es } := by
  refine ⟨i.held, ?_, i.safe, i.sub, i.split, i.rsub⟩
  intro es' he e hm
  simp at he
  subst he
  exact h e hm

theorem Inv.cacheMap {c : Cfg} {s0 s : St} (i : Inv c s0 s) : Inv c s0 (cacheMap c s) := by
  unfold Martian.Vdr.cacheMap
  have f1 : Frame s (dropNoFiles c s) := dropArgs_frame (fun a => (c.filesOf a).isEmpty) s.dom s
  have k1 := dropArgs_keeps (fun a => (c.filesOf a).isEmpty) s.dom s
  have i1 : Inv c s0 (dropNoFiles c s) :=
    i.frame f1 k1 (fun a h _ hp => Or.inr (unref_of_nofiles c _ a hp))
  have f2 : Frame (dropNoFiles c s) (dropUnused (cacheEntries c s) (dropNoFiles c s)) :=
    dropArgs_frame (fun a => !((cacheEntries c s).any (fun e => e.args.contains a))) _ _
  have k2 := dropArgs_keeps (fun a => !((cacheEntries c s).any (fun e => e.args.contains a)))
    (dropNoFiles c s).dom (dropNoFiles c s)
  have i2 : Inv c s0 (dropUnused (cacheEntries c s) (dropNoFiles c s)) := by
    refine i1.frame f2 k2 ?_
    intro a h hh hp
    right
    intro d hd ht
    rw [f1.disk] at hd
    -- the entry of d does not list a
    cases hr : refs c a d.path with
    | false => rfl
    | true =>
      exfalso
      have hdom : a ∈ s.dom := (mem_dom_iff s a).mpr (f1.dom a hh.inDom)
      have hne := refs_nonempty hr
      simp only [Bool.not_eq_true', List.any_eq_false] at hp
      have := hp { path := d.path
                   args := (s.dom.filter fun a => !(c.filesOf a).isEmpty).filter (fun a => refsN c a (d.path :: d.alts))
                   size := d.size, count := 1, names := d.path :: d.alts } (by
        unfold cacheEntries
        simp only [List.mem_map, List.mem_filter]
        exact ⟨d, ⟨hd, by simp [ht]⟩, rfl⟩)
      apply this
      simp only [List.contains_iff_mem, List.mem_filter]
      exact ⟨⟨hdom, by simp [hne]⟩, anyOverlap_cons_mono _ _ _ hr⟩
  refine i2.setCache _ ?_
  intro e he
  unfold cacheEntries at he
  simp only [List.mem_map, List.mem_filter] at he
  obtain ⟨d, ⟨hd, _⟩, rfl⟩ := he
  refine ⟨⟨d, i.sub d hd, rfl⟩, ?_⟩
  intro a ha hr
  have hdom : a ∈ s.dom := (mem_dom_iff s a).mpr (f1.dom a (f2.dom a ha))
  simp only [List.mem_filter]
  exact ⟨⟨hdom, by simp [refs_nonempty hr]⟩, anyOverlap_cons_mono _ _ _ hr⟩


/-- the entries with `p` move from the disk to the log of what was removed; none of them is referenced by an
argument with a holder that is not done -/
theorem Inv.sweep {c : Cfg} {s0 s s' : St} (i : Inv c s0 s) (p : DiskEnt → Bool)
    (hd : s'.disk = s.disk.filter (fun d => !p d)) (hr : s'.removed = s.removed ++ s.disk.filter p)
    (ha : s'.fileArgs = s.fileArgs) (hn : s'.doneNodes = s.doneNodes)
    (hc : ∀ es', s'.cache = some es' → ∃ es, s.cache = some es ∧ ∀ e ∈ es', e ∈ es)
    (safe : ∀ d ∈ s.disk, p d = true → isTmp d.kind = false → ∀ a h, Holds s0 a h → refs c a d.path = true → DoneH s h) :
    Inv c s0 s' := by
  have hdone : ∀ h, DoneH s h → DoneH s' h := fun h ⟨n, e, m⟩ => ⟨n, e, hn ▸ m⟩
  have hholds : ∀ a h, Holds s a h → Holds s' a h := fun a h ⟨hs, hm, hh⟩ => ⟨hs, ha ▸ hm, hh⟩
  have hsub : ∀ d ∈ s'.disk, d ∈ s.disk := fun d h => (List.mem_filter.mp (hd ▸ h)).1
  refine ⟨?_, ?_, ?_, fun d h => i.sub d (hsub d h), ?_, ?_⟩
  · intro a h hh
    rcases i.held a h hh with h1 | h1 | h1
    · exact Or.inl (hdone h h1)
    · exact Or.inr (Or.inl (hholds a h h1))
    · exact Or.inr (Or.inr fun d hm => h1 d (hsub d hm))
  · intro es' he' e hm
    obtain ⟨es, he, hs⟩ := hc es' he'
    obtain ⟨h1, h2⟩ := i.cache es he e (hs e hm)
    exact ⟨h1, fun a ⟨hs, hm⟩ => h2 a ⟨hs, ha ▸ hm⟩⟩
  · intro d hm ht a h hh hrf
    rw [hr, List.mem_append, List.mem_filter] at hm
    rcases hm with hm | ⟨hm, hp⟩
    · exact hdone h (i.safe d hm ht a h hh hrf)
    · exact hdone h (safe d hm hp ht a h hh hrf)
  · intro d hd0
    rw [hd, hr, List.mem_append, List.mem_filter, List.mem_filter]
    rcases i.split d hd0 with h1 | h1
    · by_cases hp : p d = true
      · exact Or.inr (Or.inr ⟨h1, hp⟩)
      · exact Or.inl ⟨h1, by simpa using hp⟩
    · exact Or.inr (Or.inl h1)
  · intro d hm
    rw [hr, List.mem_append, List.mem_filter] at hm
    rcases hm with hm | ⟨hm, _⟩
    · exact i.rsub d hm
    · exact i.sub d hm

theorem Inv.cleanPhase {c : Cfg} {s0 s : St} (i : Inv c s0 s) (ph : Nat) : Inv c s0 (cleanPhase c s ph) := by
  unfold Martian.Vdr.cleanPhase
  split
  · exact i
  · refine i.sweep (fun d => d.kind == .tmp ph) rfl rfl rfl rfl (fun es he => ⟨es, he, fun _ h => h⟩) ?_
    intro d _ hk ht
    rw [show d.kind = .tmp ph by simpa using hk] at ht
    cases ht

theorem Inv.updateCache {c : Cfg} {s0 s : St} (i : Inv c s0 s) {es : List Entry} (he : s.cache = some es) :
    Inv c s0 { s with cache := some (updateCache s es) } := by
  refine i.setCache _ ?_
  intro e hm
  unfold Martian.Vdr.updateCache at hm
  simp only [List.mem_map] at hm
  obtain ⟨e0, he0, rfl⟩ := hm
  obtain ⟨h1, h2⟩ := i.cache es he e0 he0
  refine ⟨h1, ?_⟩
  intro a ha hr
  simp only [List.mem_filter, List.contains_iff_mem]
  exact ⟨h2 a ha hr, (mem_dom_iff s a).mpr ha⟩

theorem Inv.normCache {c : Cfg} {s0 s : St} (i : Inv c s0 s) : Inv c s0 (normCache c s) := by
  unfold Martian.Vdr.normCache
  split
  · exact i.cacheMap
  · rename_i es he; exact i.updateCache he

theorem Inv.killCore {c : Cfg} {s0 s : St} (ok : CfgOK c s0) (i : Inv c s0 s) (es : List Entry)
    (he : s.cache = some es) : Inv c s0 (killCore s es) := by
  refine i.sweep (killed es) rfl rfl rfl rfl ?_ ?_
  · intro es' he'
    cases (show some (es.filter (fun e => !e.args.isEmpty)) = some es' from he')
    exact ⟨es, he, fun e h => (List.mem_filter.mp h).1⟩
  · intro d hd hk ht a h hh hr
    -- whoever references `d` references the kill path above it
    obtain ⟨e, hes, hempty, hin⟩ := killed_iff.mp hk
    obtain ⟨⟨d', hd', hp'⟩, hargs⟩ := i.cache es he e hes
    have hrk : refs c a e.path = true :=
      refs_mono (ok.cleanD d (i.sub d hd)) (hp' ▸ ok.cleanD d' hd') (ok.noDbl d (i.sub d hd)) (hp' ▸ ok.noDbl d' hd') (ok.cleanF a) hin hr
    have hnd : ¬ InDom s a := by
      intro hdm
      have := hargs a hdm hrk
      rw [List.isEmpty_iff.mp hempty] at this
      cases this
    rcases i.held a h hh with h1 | h1 | h1
    · exact h1
    · exact absurd h1.inDom hnd
    · have := h1 d hd ht
      rw [hr] at this
      cases this

theorem Inv.vdrKillSome {c : Cfg} {s0 s : St} (ok : CfgOK c s0) (i : Inv c s0 s) (done : Bool) :
    Inv c s0 (vdrKillSome c s done) :=
  vdrKillSome_induct (fun _ i => i.normCache) (fun _ es he _ i => i.killCore ok es he) (fun _ i => i)
    (fun _ _ _ _ _ _ i => ⟨i.held, i.cache, i.safe, i.sub, i.split, i.rsub⟩) i

theorem Inv.vdrKill {c : Cfg} {s0 s : St} (ok : CfgOK c s0) (hv : c.volatile = true) (i : Inv c s0 s) :
    Inv c s0 (vdrKill c s) := by
  rw [vdrKill_eq, if_pos hv]
  split
  · exact i
  · exact i.vdrKillSome ok true

theorem Inv.dropDone {c : Cfg} {s0 s : St} (i : Inv c s0 s) : Inv c s0 (dropDone s) := by
  refine i.frame (dropDone_frame s) (removePostNodes_keeps _ s) ?_
  rintro a h _ ⟨n, hn, rfl⟩
  left
  exact ⟨n, rfl, by simpa using (List.mem_filter.mp hn).2⟩

theorem Inv.own {c : Cfg} {s0 s s' : St} (ok : CfgOK c s0) (hv : c.volatile = true) (t : Own c s s')
    (i : Inv c s0 s) : Inv c s0 s' := by
  cases t with
  | removeEmpty => exact i.removeEmpty ok
  | cacheMap => exact i.cacheMap
  | cleanPhase ph _ => exact i.cleanPhase ph
  | dropDone _ => exact i.dropDone
  | vdrKillSome done _ _ _ _ => exact i.vdrKillSome ok done
  | vdrKill _ _ _ _ => exact i.vdrKill ok hv

theorem Inv.restart {c : Cfg} {s0 s : St} (ok : CfgOK c s0) (i : Inv c s0 s) :
    Inv c s0 { s with fileArgs := c.initArgs, postNodes := c.initPost, cache := none } := by
  refine ⟨?_, ?_, i.safe, i.sub, i.split, i.rsub⟩
  · intro a h hh
    refine Or.inr (Or.inl ?_)
    obtain ⟨hs, hm, hin⟩ := hh
    exact ⟨hs, by show (a, hs) ∈ c.initArgs; rw [ok.init.1]; exact hm, hin⟩
  · intro es he; cases he

theorem Inv.run {c : Cfg} {s0 s : St} (ok : CfgOK c s0) (hv : c.volatile = true) (i : Inv c s0 s) (evs : List Ev) :
    Inv c s0 (run c s evs) :=
  run_induct (fun _ n i => i.nodeDone n) (fun _ i => i.restart ok) (fun _ _ t i => i.own ok hv t) i evs

theorem Inv.kept {c : Cfg} {s0 s : St} (i : Inv c s0 s) {a : Arg} {h : Holder} (hh : Holds s0 a h)
    (hn : ∀ n, h = some n → n ∉ s.doneNodes) :
    ∀ d ∈ s0.disk, isTmp d.kind = false → refs c a d.path = true → d ∈ s.disk := by
  intro d hd ht hr
  rcases i.split d hd with h1 | h1
  · exact h1
  · obtain ⟨m, e, hm⟩ := i.safe d h1 ht a h hh hr
    exact absurd hm (hn m e)

/-- a fresh fork: nothing removed yet, no cache -/
structure Fresh (s0 : St) : Prop where
  removed : s0.removed = []
  cache : s0.cache = none

theorem Inv.init (c : Cfg) (s0 : St) (f : Fresh s0) : Inv c s0 s0 := by
  refine ⟨fun a h hh => Or.inr (Or.inl hh), ?_, ?_, fun d h => h, fun d h => Or.inl h, ?_⟩
  · intro es he; rw [f.cache] at he; cases he
  · intro d hm; rw [f.removed] at hm; cases hm
  · intro d hm; rw [f.removed] at hm; cases hm

end Martian.Vdr
