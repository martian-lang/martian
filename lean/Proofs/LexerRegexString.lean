import Proofs.LexerRegex
import Proofs.Escape

/-!
The string rule: the hand-written `matchString` decides the denotational
semantics of `stringRe`, the AST of the regex of `tokStringRule` (so the totality
theorem for `unquoteBytes` applies to what Go's regexp returns).
-/
namespace Martian.LexerRegex
open Martian.Regex Martian.Escape

def hexR : Ranges := [(0x30, 0x39), (0x41, 0x46), (0x61, 0x66)]

def simpleEscR : Ranges :=
  [(97, 97), (98, 98), (102, 102), (110, 110), (114, 114), (116, 116), (118, 118), (92, 92), (34, 34), (47, 47)]

def escRe : Re :=
  .alt (.cls simpleEscR)
  (.alt (.rep (.cls [(48, 55)]) 3 (some 3))
  (.alt (.cat (.cls [(120, 120)]) (.rep (.cls hexR) 2 (some 2)))
  (.alt (.cat (.cls [(117, 117)]) (.rep (.cls hexR) 4 (some 4)))
        (.cat (.cls [(85, 85)]) (.rep (.cls hexR) 8 (some 8))))))

def itemRe : Re := .alt (.ncls [(92, 92), (34, 34)]) (.cat (.cls [(92, 92)]) escRe)

def stringRe : Re := .cat .bot (.cat (.cls [(34, 34)]) (.cat (.rep itemRe 0 none) (.cls [(34, 34)])))

/-- a byte the string body loop copies: not `"` and not `\` -/
def plain (b : UInt8) : Bool := !(b == 0x22) && !(b == 0x5C)

/-! ### `scanBody`, one item at a time -/

theorem scanBody_quote (f : Nat) (r : Bytes) : Lexer.scanBody (f + 1) (0x22 :: r) = some [] := by
  simp [Lexer.scanBody]

theorem scanBody_plain (f : Nat) (c : UInt8) (r : Bytes) (hc : plain c = true) :
    Lexer.scanBody (f + 1) (c :: r) = (Lexer.scanBody f r).map (c :: ·) := by
  simp only [plain, Bool.and_eq_true, Bool.not_eq_true'] at hc
  simp [Lexer.scanBody, hc.1, hc.2]

theorem scanBody_run : ∀ (l : Bytes) (f : Nat) (tl : Bytes), (∀ c ∈ l, plain c = true) →
    Lexer.scanBody (f + l.length) (l ++ tl) = (Lexer.scanBody f tl).map (l ++ ·) := by
  intro l
  induction l with
  | nil => intro f tl _; simp
  | cons c r ih =>
    intro f tl h
    have e : f + (c :: r).length = (f + r.length) + 1 := by simp; omega
    rw [e, List.cons_append, scanBody_plain _ c _ (h c (by simp)), ih f tl (fun x hx => h x (by simp [hx]))]
    cases Lexer.scanBody f tl <;> simp

theorem scanBody_esc (f : Nat) (c2 : UInt8) (k : Nat) (hex : Bool) (args tl : Bytes)
    (hr : Lexer.ruleEsc c2 = some (k, hex)) (hl : args.length = k) (hd : Lexer.digitsOK hex args = true) :
    Lexer.scanBody (f + 1) (0x5C :: c2 :: (args ++ tl)) =
      (Lexer.scanBody f tl).map (fun body => 0x5C :: c2 :: (args ++ body)) := by
  have ht : (args ++ tl).take k = args := by rw [← hl]; simp
  have hdr : (args ++ tl).drop k = tl := by rw [← hl]; simp
  simp [Lexer.scanBody, hr, ht, hdr, hl, hd]

theorem scanBody_mono : ∀ (f g : Nat) (s b : Bytes), f ≤ g → Lexer.scanBody f s = some b →
    Lexer.scanBody g s = some b
  | 0, _, _, _, _, h => by simp [Lexer.scanBody] at h
  | _ + 1, 0, _, _, hg, _ => by omega
  | _ + 1, _ + 1, [], _, _, h => by simp [Lexer.scanBody] at h
  | f + 1, g + 1, c :: r, b, hg, h => by
    rcases Lexer.scanBody_cons h with
      ⟨rfl, rfl⟩ | ⟨hq, hb, b', hs, rfl⟩ | ⟨rfl, c2, r2, k, hex, b', rfl, hr, hl, hd, hs, rfl⟩
    · exact scanBody_quote g r
    · rw [scanBody_plain g c r (by simp [plain, hq, hb]), scanBody_mono f g r b' (by omega) hs]; rfl
    · have e := scanBody_esc g c2 k hex (r2.take k) (r2.drop k) hr hl hd
      rw [List.take_append_drop] at e
      rw [e, scanBody_mono f g _ b' (by omega) hs]; rfl

/-- one item of a string body -/
inductive Item : Bytes → Prop
  | run (l : Bytes) : l ≠ [] → (∀ c ∈ l, plain c = true) → Item l
  | esc (c2 : UInt8) (k : Nat) (hex : Bool) (args : Bytes) : Lexer.ruleEsc c2 = some (k, hex) →
      args.length = k → Lexer.digitsOK hex args = true → Item (0x5C :: c2 :: args)

theorem Item.step {w : Bytes} (hi : Item w) : Step Lexer.scanBody w w := by
  cases hi with
  | run _ _ hp => exact .copies fun c hc f X => scanBody_plain f c X (hp c hc)
  | esc c2 k hex args hr hl hd =>
    exact .one (Nat.le_add_left 1 _) fun f X => scanBody_esc f c2 k hex args X hr hl hd

theorem ge80_plain (b : UInt8) (h : 0x80 ≤ b) : plain b = true := by
  simp only [plain, Bool.and_eq_true, Bool.not_eq_true', beq_eq_false_iff_ne]
  constructor <;> (rintro rfl; exact absurd h (by decide))

theorem cont_ge80 {b : UInt8} (h : isCont b = true) : 0x80 ≤ b := by
  simp only [isCont, Bool.and_eq_true, decide_eq_true_eq] at h; exact h.1

theorem ite_ge80 {p : Prop} [Decidable p] {a b x : UInt8} (ha : 0x80 ≤ a) (hb : 0x80 ≤ b)
    (h : (if p then a else b) ≤ x) : 0x80 ≤ x :=
  UInt8.le_trans (by split <;> assumption) h

/-- the bytes of a non-ASCII rune as `utf8.DecodeRune` delimits it (an invalid byte alone, or a lead byte with its
continuation bytes): there is at least one, and all are ≥ 0x80 -/
theorem rune_ge80 (c : UInt8) (r : Bytes) (hc : 0x80 ≤ c) :
    runeLen (c :: r) ≠ 0 ∧ ∀ b ∈ (c :: r).take (runeLen (c :: r)), 0x80 ≤ b := by
  let P : Nat × Nat → Prop := fun x => x.2 ≠ 0 ∧ ∀ b ∈ (c :: r).take x.2, 0x80 ≤ b
  have I : ∀ {q : Prop} [Decidable q] {x y : Nat × Nat}, (q → P x) → P y → P (if q then x else y) :=
    fun hx hy => iteInduction hx (fun _ => hy)
  have one : P (0xFFFD, 1) := by simp [P, hc]
  show P (decodeRune (c :: r))
  unfold decodeRune
  refine I (fun _ => by simp [P, hc]) (I (fun _ => one) (I (fun _ => ?two) (I (fun _ => ?three) (I (fun _ => ?four) one))))
  case two =>
    cases r with
    | nil => exact one
    | cons b1 t => exact I (fun h1 => by simp [P, hc, cont_ge80 h1]) one
  case three =>
    cases r with
    | nil => exact one
    | cons b1 t =>
      cases t with
      | nil => exact one
      | cons b2 t =>
        refine I (fun h => ?_) one
        simp only [Bool.and_eq_true, decide_eq_true_eq] at h
        simp [P, hc, ite_ge80 (by decide) (by decide) h.1.1, cont_ge80 h.2]
  case four =>
    cases r with
    | nil => exact one
    | cons b1 t =>
      cases t with
      | nil => exact one
      | cons b2 t =>
        cases t with
        | nil => exact one
        | cons b3 t =>
          refine I (fun h => ?_) one
          simp only [Bool.and_eq_true, decide_eq_true_eq] at h
          simp [P, hc, ite_ge80 (by decide) (by decide) h.1.1.1, cont_ge80 h.1.2, cont_ge80 h.2]

theorem rune_plain (c : UInt8) (r : Bytes) (hc : ¬ c < 0x80) :
    (c :: r).take (runeLen (c :: r)) ≠ [] ∧ ∀ b ∈ (c :: r).take (runeLen (c :: r)), plain b = true := by
  obtain ⟨h0, hall⟩ := rune_ge80 c r (UInt8.not_lt.mp hc)
  refine ⟨?_, fun b hb => ge80_plain b (hall b hb)⟩
  cases hn : runeLen (c :: r) with
  | zero => exact absurd hn h0
  | succ n => simp

/-! ### from the regex to items -/

theorem inR_special (c : UInt8) : inR [(92, 92), (34, 34)] c = !plain c := by
  simp [inR, plain, le_le_eq_beq, Bool.or_comm]

theorem esc_simple : ∀ c : UInt8, cok simpleEscR c = true → Lexer.ruleEsc c = some (0, true) := by
  apply forall_byte; decide +kernel

theorem esc_oct : ∀ c : UInt8, Lexer.isOct c = true → Lexer.ruleEsc c = some (2, false) := by
  apply forall_byte; decide +kernel

theorem esc_x : ∀ c : UInt8, cok [(120, 120)] c = true → Lexer.ruleEsc c = some (2, true) := by
  apply forall_byte; decide +kernel

theorem esc_u : ∀ c : UInt8, cok [(117, 117)] c = true → Lexer.ruleEsc c = some (4, true) := by
  apply forall_byte; decide +kernel

theorem esc_U : ∀ c : UInt8, cok [(85, 85)] c = true → Lexer.ruleEsc c = some (8, true) := by
  apply forall_byte; decide +kernel

theorem cok_hexR (c : UInt8) : cok hexR c = true ↔ Lexer.isHex c = true := by
  rw [cok_eq_inR (by decide)]; simp [hexR, inR, Lexer.isHex, Lexer.isDigit, or_assoc]

theorem cok_oct (c : UInt8) : cok [(48, 55)] c = true ↔ Lexer.isOct c = true := by
  rw [cok_eq_inR (by decide)]; simp [inR, Lexer.isOct]

/-- `c hex{n}` with `ruleEsc c = (n, hex)` is an escape item -/
theorem hexEsc_item {pre w post : Bytes} {lr : Ranges} {n : Nat}
    (hlr : ∀ c, cok lr c = true → Lexer.ruleEsc c = some (n, true))
    (h : Matches (.cat (.cls lr) (.rep (.cls hexR) n (some n))) pre w post) : Item (0x5C :: w) := by
  obtain ⟨l, args, rfl, hl, hargs⟩ := h
  obtain ⟨c, rfl, hc⟩ := (Matches_cls_iff fun _ => Iff.rfl).mp hl
  obtain ⟨h1, h2, h3⟩ := (Matches_rep_cls cok_hexR).mp hargs
  have h2 := h2 n rfl
  exact Item.esc c n true args (hlr c hc) (by omega) (List.all_eq_true.mpr h3)

theorem item_of_matches {pre w post : Bytes} (h : Matches itemRe pre w post) : Item w := by
  rcases h with h | h
  · obtain ⟨c, r, hwp, h | h⟩ := h
    · obtain ⟨_, hin, rfl⟩ := h
      exact Item.run [c] (by simp) (by intro x hx; simp only [List.mem_singleton] at hx; rw [hx]; simpa [inR_special] using hin)
    · obtain ⟨hge, rfl⟩ := h
      exact Item.run _ (rune_plain c r hge).1 (rune_plain c r hge).2
  · obtain ⟨bs, e, rfl, hbs, he⟩ := h
    obtain ⟨_, rfl, rfl⟩ := (Matches_cls_iff (cok_one 0x5C (by decide))).mp hbs
    rcases he with he | he | he | he | he
    · obtain ⟨c2, rfl, hc2⟩ := (Matches_cls_iff fun _ => Iff.rfl).mp he
      exact Item.esc c2 0 true [] (esc_simple c2 hc2) rfl rfl
    · obtain ⟨h1, h2, h3⟩ := (Matches_rep_cls cok_oct).mp he
      have h2 := h2 3 rfl
      match e, h1, h2, h3 with
      | [o0, o1, o2], _, _, h3 =>
        refine Item.esc o0 2 false [o1, o2] (esc_oct o0 (h3 o0 (by simp))) rfl ?_
        simp [Lexer.digitsOK, h3 o1, h3 o2]
    · exact hexEsc_item esc_x he
    · exact hexEsc_item esc_u he
    · exact hexEsc_item esc_U he

theorem items_step : ∀ (k : Nat) (pre body rest : Bytes), IterN (Matches itemRe) k pre body rest →
    Step Lexer.scanBody body body
  | 0, _, _, _, h => by simp only [IterN] at h; subst h; exact .nil
  | k + 1, _, _, _, ⟨_, _, e, hm, hit⟩ => e ▸ (item_of_matches hm).step.append (items_step k _ _ _ hit)

theorem string_matches_sound (w post : Bytes) (h : Matches stringRe [] w post) :
    Lexer.matchString (w ++ post) = some w := by
  unfold stringRe at h
  obtain ⟨w0, w1, rfl, ⟨rfl, _⟩, q1, w2, rfl, hq1, body, q2, rfl, hbody, hq2⟩ := h
  obtain ⟨_, rfl, rfl⟩ := (Matches_cls_iff (cok_one 0x22 (by decide))).mp hq1
  obtain ⟨_, rfl, rfl⟩ := (Matches_cls_iff (cok_one 0x22 (by decide))).mp hq2
  obtain ⟨k, _, _, hit⟩ := hbody
  have hs' := (items_step k _ _ _ hit).read (tail := 0x22 :: post) (fun f => scanBody_quote f post)
    ((body ++ 0x22 :: post).length + 1) (by simp only [List.length_append]; omega)
  simp only [List.nil_append, List.cons_append, List.append_assoc, Lexer.matchString, hs']
  rfl

theorem pmatch_stringRe_sound (s w : Bytes) (h : pmatch stringRe s = some w) :
    Lexer.matchString s = some w := by
  obtain ⟨post, rfl, hm⟩ := pmatch_sound h
  exact string_matches_sound w post hm

/-! ### the converse: what `matchString` returns is matched by the regex -/

theorem ruleEsc_cases : ∀ c : UInt8, ∀ kh, Lexer.ruleEsc c = some kh →
    (kh = (0, true) ∧ cok simpleEscR c = true) ∨ (kh = (2, false) ∧ cok [(48, 55)] c = true) ∨
    (kh = (2, true) ∧ cok [(120, 120)] c = true) ∨ (kh = (4, true) ∧ cok [(117, 117)] c = true) ∨
    (kh = (8, true) ∧ cok [(85, 85)] c = true) := by
  apply forall_byte; decide +kernel

theorem rep_cls_exact {rs : Ranges} {P : UInt8 → Prop} (hp : ∀ c, cok rs c = true ↔ P c) {n : Nat} {pre w post : Bytes}
    (hl : w.length = n) (h : ∀ c ∈ w, P c) : Matches (.rep (.cls rs) n (some n)) pre w post :=
  (Matches_rep_cls hp).mpr ⟨by omega, (by intro M hM; injection hM with hM; omega), h⟩

/-- an escape `\c2 args` that `scanBody` accepts is matched by the escape
alternatives of the regex -/
theorem esc_matches (c2 : UInt8) (k : Nat) (hex : Bool) (args pre post : Bytes)
    (hr : Lexer.ruleEsc c2 = some (k, hex)) (hl : args.length = k) (hd : Lexer.digitsOK hex args = true) :
    Matches itemRe pre (0x5C :: c2 :: args) post := by
  have hbs : Matches (.cls [(92, 92)]) pre [0x5C] ((c2 :: args) ++ post) :=
    (Matches_cls_iff (cok_one 0x5C (by decide))).mpr ⟨0x5C, rfl, rfl⟩
  refine Or.inr ⟨[0x5C], c2 :: args, rfl, hbs, ?_⟩
  have hcls : ∀ (rs : Ranges) (p q : Bytes), cok rs c2 = true → Matches (.cls rs) p [c2] q :=
    fun rs p q h => (Matches_cls_iff fun _ => Iff.rfl).mpr ⟨c2, rfl, h⟩
  rcases ruleEsc_cases c2 (k, hex) hr with ⟨e, hc⟩ | ⟨e, hc⟩ | ⟨e, hc⟩ | ⟨e, hc⟩ | ⟨e, hc⟩ <;>
    (injection e with e1 e2; subst e1; subst e2)
  · have : args = [] := List.length_eq_zero_iff.mp hl
    subst this
    exact Or.inl (hcls _ _ _ hc)
  · refine Or.inr (Or.inl ?_)
    have hd := List.all_eq_true.mp hd
    exact rep_cls_exact cok_oct (by simp [hl]) fun c hcm => (List.mem_cons.mp hcm).elim (· ▸ (cok_oct c2).mp hc) (hd c)
  · exact Or.inr (Or.inr (Or.inl ⟨[c2], args, rfl, hcls _ _ _ hc, rep_cls_exact cok_hexR hl (List.all_eq_true.mp hd)⟩))
  · exact Or.inr (Or.inr (Or.inr (Or.inl ⟨[c2], args, rfl, hcls _ _ _ hc, rep_cls_exact cok_hexR hl (List.all_eq_true.mp hd)⟩)))
  · exact Or.inr (Or.inr (Or.inr (Or.inr ⟨[c2], args, rfl, hcls _ _ _ hc, rep_cls_exact cok_hexR hl (List.all_eq_true.mp hd)⟩)))

theorem scanBody_run_inv (l : Bytes) (f : Nat) (tl body : Bytes) (hp : ∀ c ∈ l, plain c = true)
    (h : Lexer.scanBody (f + l.length) (l ++ tl) = some body) :
    ∃ b, Lexer.scanBody f tl = some b ∧ body = l ++ b := by
  rw [scanBody_run l f tl hp] at h
  cases hs : Lexer.scanBody f tl with
  | none => rw [hs] at h; cases h
  | some b =>
    rw [hs] at h
    simp only [Option.map_some, Option.some.injEq] at h
    exact ⟨b, rfl, h.symm⟩

/-- the body `scanBody` returns is a sequence of items of the regex (a rune of
several bytes is ONE item: its bytes are all plain, so the byte-wise scan steps
over them one by one), followed by the closing quote -/
theorem scanBody_items_conv : ∀ (f : Nat) (s body : Bytes), Lexer.scanBody f s = some body →
    ∃ rest, s = body ++ 0x22 :: rest ∧
      ∀ pre, ∃ k, IterN (Matches itemRe) k pre body (0x22 :: rest) := by
  intro f
  induction f with
  | zero => intro s body h; simp [Lexer.scanBody] at h
  | succ f ih =>
    intro s body h
    cases s with
    | nil => simp [Lexer.scanBody] at h
    | cons c r =>
      rcases Lexer.scanBody_cons h with
        ⟨rfl, rfl⟩ | ⟨hq, hb, b', hs, hbody⟩ | ⟨rfl, c2, r2, k, hex, b', rfl, hr, hl, hd, hs, rfl⟩
      · exact ⟨r, rfl, fun pre => ⟨0, rfl⟩⟩
      · have hpl : plain c = true := by simp [plain, hq, hb]
        by_cases hlt : c < 0x80
        · subst hbody
          obtain ⟨rest, hrest, hit⟩ := ih _ _ hs
          refine ⟨rest, by rw [hrest]; rfl, ?_⟩
          intro pre
          obtain ⟨j, hj⟩ := hit ([c].reverse ++ pre)
          exact ⟨j + 1, [c], b', rfl, Or.inl ⟨c, b' ++ 0x22 :: rest, rfl, Or.inl ⟨hlt, by simp [inR_special, hpl], rfl⟩⟩, hj⟩
        · clear hs hbody b'
          obtain ⟨hne, hall⟩ := rune_plain c r hlt
          have hsplit := (List.take_append_drop (runeLen (c :: r)) (c :: r)).symm
          have hlen := List.length_pos_iff.mpr hne
          have hm := scanBody_mono _ (f + ((c :: r).take (runeLen (c :: r))).length) _ _ (by omega) h
          obtain ⟨b', hs, hbody⟩ := scanBody_run_inv _ f ((c :: r).drop (runeLen (c :: r))) body hall
            (by rw [List.take_append_drop]; exact hm)
          obtain ⟨rest, hrest, hit⟩ := ih _ _ hs
          refine ⟨rest, ?_, ?_⟩
          · rw [hbody, List.append_assoc, ← hrest]; exact hsplit
          · intro pre
            obtain ⟨j, hj⟩ := hit (((c :: r).take (runeLen (c :: r))).reverse ++ pre)
            refine ⟨j + 1, (c :: r).take (runeLen (c :: r)), b', hbody, Or.inl ⟨c, r, ?_, Or.inr ⟨hlt, rfl⟩⟩, hj⟩
            rw [← hrest]; exact hsplit.symm
      · obtain ⟨rest, hrest, hit⟩ := ih _ _ hs
        refine ⟨rest, ?_, ?_⟩
        · have := List.take_append_drop k r2
          rw [hrest] at this
          simp only [List.cons_append, List.append_assoc, List.cons.injEq, true_and]
          exact this.symm
        · intro pre
          obtain ⟨j, hj⟩ := hit ((0x5C :: c2 :: r2.take k).reverse ++ pre)
          exact ⟨j + 1, 0x5C :: c2 :: r2.take k, b', by simp, esc_matches c2 k hex _ _ _ hr hl hd, hj⟩

theorem matchString_matches {s w : Bytes} (h : Lexer.matchString s = some w) :
    ∃ post, s = w ++ post ∧ Matches stringRe [] w post := by
  unfold Lexer.matchString at h
  split at h
  · rename_i r
    cases hs : Lexer.scanBody (r.length + 1) r with
    | none => simp [hs] at h
    | some body =>
      simp only [hs, Option.map_some, Option.some.injEq] at h
      obtain ⟨rest, rfl, hit⟩ := scanBody_items_conv _ _ _ hs
      obtain ⟨k, hk⟩ := hit ([0x22].reverse ++ ([].reverse ++ []))
      subst h
      refine ⟨rest, by simp, [], _, rfl, ⟨rfl, rfl⟩, [0x22], body ++ [0x22], rfl,
        (Matches_cls_iff (cok_one 0x22 (by decide))).mpr ⟨0x22, rfl, rfl⟩,
        body, [0x22], rfl, ⟨k, Nat.zero_le _, nofun, by simpa using hk⟩,
        (Matches_cls_iff (cok_one 0x22 (by decide))).mpr ⟨0x22, rfl, rfl⟩⟩
  · cases h

theorem matchString_decides : Decides Lexer.matchString stringRe := fun _ w =>
  ⟨matchString_matches, fun ⟨post, e, hm⟩ => e ▸ string_matches_sound w post hm⟩

theorem string_matches_iff (w post : Bytes) :
    Matches stringRe [] w post ↔ Lexer.matchString (w ++ post) = some w :=
  matchString_decides.matches_iff w post

theorem pmatch_stringRe (s : Bytes) : pmatch stringRe s = Lexer.matchString s := matchString_decides.pmatch_eq s

end Martian.LexerRegex
