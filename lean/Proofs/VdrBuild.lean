import Martian.VdrBuild
import Proofs.VdrReclaim
import Proofs.ListFacts

/-! Lemmas about the construction of the VDR bookkeeping (Martian/VdrBuild.lean):
the tables built by attachToFileParents / setupRetains satisfy the
bookkeeping invariant `BK` of Proofs/VdrReclaim.lean (`TabBK`, `build_bk`), every registered reference is held, and both
survive the rest of the construction and `cloneFork`.  The second part is the pipestance tree: `HasStage`, `HasTop`, `HasRetain`, `scoped_wf`, `wfOps_of_scoped`,
`scopedB_sound` (the operations of a scoped tree are well formed), and the sample `exTree`. -/
namespace Martian.Vdr

/-- holder `h` is registered for output `a` in the table -/
def HoldsT (t : Tab) (a : Arg) (h : Holder) : Prop := ∃ hs, (a, hs) ∈ t.fileArgs ∧ h ∈ hs

theorem HoldsT.st {t : Tab} {a : Arg} {h : Holder} (x : HoldsT t a h) (d : List DiskEnt) :
    Holds (t.st d) a h := x

structure TabBK (t : Tab) : Prop where
  cons : ∀ a hs, (a, hs) ∈ t.fileArgs → ∀ n, some n ∈ hs → ∃ as, t.postNodes.lookup n = some as ∧ a ∈ as
  ne : ∀ a hs, (a, hs) ∈ t.fileArgs → hs ≠ []

theorem TabBK.st {t : Tab} (k : TabBK t) (d : List DiskEnt) : BK (t.st d) := ⟨k.cons, k.ne⟩

/-- node `n` occurs in the table (as a holder or as a post node) -/
def Mentions (t : Tab) (n : Node) : Prop := (∃ a, HoldsT t a (some n)) ∨ (∃ as, (n, as) ∈ t.postNodes)

theorem hold_postNodes (t : Tab) (a : Arg) (h : Holder) : (t.hold a h).postNodes = t.postNodes := by
  unfold Tab.hold
  split
  · rfl
  · split <;> rfl

theorem hold_cases {t : Tab} {a : Arg} {h : Holder} {a' : Arg} {hs' : List Holder}
    (hm : (a', hs') ∈ (t.hold a h).fileArgs) :
    (a', hs') ∈ t.fileArgs ∨ (a' = a ∧ hs' = [h]) ∨ (a' = a ∧ ∃ hs, (a, hs) ∈ t.fileArgs ∧ hs' = hs ++ [h]) := by
  unfold Tab.hold at hm
  split at hm
  · simp only [List.mem_append, List.mem_singleton] at hm
    rcases hm with hm | hm
    · exact Or.inl hm
    · cases hm; exact Or.inr (Or.inl ⟨rfl, rfl⟩)
  · split at hm
    · exact Or.inl hm
    · simp only [List.mem_map] at hm
      obtain ⟨p, hp, e⟩ := hm
      split at e
      · rename_i hk
        have hk' : p.1 = a := by simpa using hk
        cases e
        refine Or.inr (Or.inr ⟨hk', p.2, ?_, rfl⟩)
        rw [← hk']; exact hp
      · cases e; exact Or.inl hp

theorem hold_holds (t : Tab) (a : Arg) (h : Holder) : HoldsT (t.hold a h) a h := by
  unfold Tab.hold
  split
  · exact ⟨[h], by simp, by simp⟩
  · rename_i hs hl
    split
    · rename_i hc
      exact ⟨hs, Proofs.ListFacts.mem_of_lookup hl, by simpa using hc⟩
    · refine ⟨hs ++ [h], ?_, by simp⟩
      simp only [List.mem_map]
      exact ⟨(a, hs), Proofs.ListFacts.mem_of_lookup hl, by simp⟩

theorem hold_mono {t : Tab} {a : Arg} {h : Holder} {a' : Arg} {h' : Holder} (x : HoldsT t a' h') :
    HoldsT (t.hold a h) a' h' := by
  obtain ⟨hs, hm, hh⟩ := x
  unfold Tab.hold
  split
  · exact ⟨hs, by simp [hm], hh⟩
  · split
    · exact ⟨hs, hm, hh⟩
    · by_cases e : a' = a
      · refine ⟨hs ++ [h], ?_, by simp [hh]⟩
        simp only [List.mem_map]
        exact ⟨(a', hs), hm, by simp [e]⟩
      · refine ⟨hs, ?_, hh⟩
        simp only [List.mem_map]
        refine ⟨(a', hs), hm, ?_⟩
        have : (a' == a) = false := by simpa using e
        simp [this]

theorem hold_inv {t : Tab} {a : Arg} {h : Holder} {a' : Arg} {h' : Holder} (x : HoldsT (t.hold a h) a' h') :
    HoldsT t a' h' ∨ (a' = a ∧ h' = h) := by
  obtain ⟨hs, hm, hh⟩ := x
  rcases hold_cases hm with h1 | ⟨e, rfl⟩ | ⟨e, hs0, h0, rfl⟩
  · exact Or.inl ⟨hs, h1, hh⟩
  · simp at hh; exact Or.inr ⟨e, hh⟩
  · simp only [List.mem_append, List.mem_singleton] at hh
    rcases hh with hh | hh
    · subst e; exact Or.inl ⟨hs0, h0, hh⟩
    · exact Or.inr ⟨e, hh⟩

theorem hold_bk {t : Tab} {a : Arg} {h : Holder} (k : TabBK t)
    (hp : ∀ n, h = some n → ∃ as, t.postNodes.lookup n = some as ∧ a ∈ as) : TabBK (t.hold a h) := by
  refine ⟨?_, ?_⟩
  · intro a' hs' hm n hn
    rw [hold_postNodes]
    rcases hold_inv (t := t) (a := a) (h := h) ⟨hs', hm, hn⟩ with ⟨hs, h1, h2⟩ | ⟨e1, e2⟩
    · exact k.cons a' hs h1 n h2
    · subst e1; exact hp n e2.symm
  · intro a' hs' hm
    rcases hold_cases hm with h1 | ⟨_, rfl⟩ | ⟨_, hs0, _, rfl⟩
    · exact k.ne a' hs' h1
    · simp
    · simp

theorem post_fileArgs (t : Tab) (n : Node) (as : List Arg) : (t.post n as).fileArgs = t.fileArgs := rfl

theorem post_lookup_self (t : Tab) (n : Node) (as : List Arg) : (t.post n as).postNodes.lookup n = some as := by
  simp [Tab.post]

theorem post_lookup_ne (t : Tab) {n m : Node} (as : List Arg) (hne : m ≠ n) :
    (t.post n as).postNodes.lookup m = t.postNodes.lookup m := by
  have : (m == n) = false := by simpa using hne
  simp only [Tab.post, List.lookup, this]
  exact Proofs.ListFacts.lookup_filter_ne hne

theorem post_bk {t : Tab} {n : Node} {as : List Arg} (k : TabBK t) (hn : ¬ Mentions t n) : TabBK (t.post n as) := by
  refine ⟨?_, k.ne⟩
  intro a hs hm m hh
  have hne : m ≠ n := by
    rintro rfl
    exact hn (Or.inl ⟨a, hs, hm, hh⟩)
  rw [post_lookup_ne t as hne]
  exact k.cons a hs hm m hh

theorem foldHold_postNodes (as : List Arg) (h : Holder) (t : Tab) :
    (as.foldl (fun t a => t.hold a h) t).postNodes = t.postNodes := by
  induction as generalizing t with
  | nil => rfl
  | cons a r ih => simp only [List.foldl]; rw [ih, hold_postNodes]

theorem foldHold_iff (as : List Arg) (h : Holder) (t : Tab) {a' : Arg} {h' : Holder} :
    HoldsT (as.foldl (fun t a => t.hold a h) t) a' h' ↔ HoldsT t a' h' ∨ (a' ∈ as ∧ h' = h) := by
  induction as generalizing t with
  | nil => simp
  | cons b r ih =>
    rw [List.foldl_cons, ih, List.mem_cons]
    constructor
    · rintro (x | ⟨hm, e⟩)
      · exact (hold_inv x).imp_right fun ⟨e1, e2⟩ => ⟨Or.inl e1, e2⟩
      · exact Or.inr ⟨Or.inr hm, e⟩
    · rintro (x | ⟨rfl | hm, rfl⟩)
      · exact Or.inl (hold_mono x)
      · exact Or.inl (hold_holds t a' h')
      · exact Or.inr ⟨hm, rfl⟩

theorem foldHold_bk (as all : List Arg) (h : Holder) (t : Tab) (k : TabBK t) (hsub : ∀ a ∈ as, a ∈ all)
    (hp : ∀ n, h = some n → t.postNodes.lookup n = some all) :
    TabBK (as.foldl (fun t a => t.hold a h) t) := by
  induction as generalizing t with
  | nil => exact k
  | cons a r ih =>
    simp only [List.foldl]
    apply ih
    · apply hold_bk k
      intro n e
      exact ⟨all, hp n e, hsub a List.mem_cons_self⟩
    · intro b hb; exact hsub b (List.mem_cons_of_mem _ hb)
    · intro n e; rw [hold_postNodes]; exact hp n e

theorem attach_bk {t : Tab} {h : Holder} {as : List Arg} (k : TabBK t) (hn : ∀ n, h = some n → ¬ Mentions t n) :
    TabBK (t.attach h as) := by
  unfold Tab.attach
  split
  · exact k
  · cases h with
    | none =>
      exact foldHold_bk as as none t k (fun _ x => x) (fun n e => by cases e)
    | some n =>
      apply foldHold_bk as as (some n) _ (post_bk k (hn n rfl)) (fun _ x => x)
      intro m e
      cases e
      exact post_lookup_self t n as

theorem attach_iff {t : Tab} {h : Holder} {as : List Arg} {a' : Arg} {h' : Holder} :
    HoldsT (t.attach h as) a' h' ↔ HoldsT t a' h' ∨ (a' ∈ as ∧ h' = h) := by
  unfold Tab.attach
  split
  · rename_i he
    simp [List.isEmpty_iff.mp he]
  · cases h with
    | none => exact foldHold_iff as none t
    | some n => exact foldHold_iff as (some n) (t.post n as)

/-- the consuming stage becomes a post node listing exactly the outputs it is bound to -/
theorem attach_post {t : Tab} {n : Node} {as : List Arg} (hne : as ≠ []) :
    (t.attach (some n) as).postNodes.lookup n = some as := by
  unfold Tab.attach
  have : as.isEmpty = false := by simpa using hne
  simp only [this, Bool.false_eq_true, if_false]
  rw [foldHold_postNodes]
  exact post_lookup_self t n as

theorem attach_mentions {t : Tab} {h : Holder} {as : List Arg} {m : Node} (x : Mentions (t.attach h as) m) :
    Mentions t m ∨ h = some m := by
  rcases x with ⟨a, ha⟩ | ⟨bs, hb⟩
  · rcases attach_iff.mp ha with h1 | ⟨_, h2⟩
    · exact Or.inl (Or.inl ⟨a, h1⟩)
    · exact Or.inr h2.symm
  · unfold Tab.attach at hb
    split at hb
    · exact Or.inl (Or.inr ⟨bs, hb⟩)
    · rw [foldHold_postNodes] at hb
      cases h with
      | none => exact Or.inl (Or.inr ⟨bs, hb⟩)
      | some n =>
        simp only [Tab.post, List.mem_cons, List.mem_filter] at hb
        rcases hb with hb | ⟨hb, _⟩
        · cases hb; exact Or.inr rfl
        · exact Or.inl (Or.inr ⟨bs, hb⟩)

theorem mem_argsOf {refs : List (Node × Arg)} {p : Node} {a : Arg} : a ∈ argsOf refs p ↔ (p, a) ∈ refs := by
  unfold argsOf
  rw [List.mem_eraseDups]
  simp only [List.mem_map, List.mem_filter]
  constructor
  · rintro ⟨x, ⟨hx, hk⟩, e⟩
    have hk' : x.1 = p := by simpa using hk
    obtain ⟨x1, x2⟩ := x
    simp at hk' e; subst hk' e; exact hx
  · intro h
    exact ⟨(p, a), ⟨h, by simp⟩, rfl⟩

theorem wfOps_forks {b s : List Node} {p : Node} {r : List BOp} :
    wfOps b s (.forks p :: r) = true ↔ p ∉ b ∧ wfOps (p :: b) s r = true := by
  simp [wfOps]

theorem wfOps_attach_none {b s : List Node} {refs : List (Node × Arg)} {r : List BOp} :
    wfOps b s (.attach none refs :: r) = true ↔ (∀ x ∈ refs, x.1 ∈ b) ∧ wfOps b s r = true := by
  simp [wfOps]

theorem wfOps_attach_some {b s : List Node} {n : Node} {refs : List (Node × Arg)} {r : List BOp} :
    wfOps b s (.attach (some n) refs :: r) = true ↔ n ∉ s ∧ (∀ x ∈ refs, x.1 ∈ b) ∧ wfOps b (n :: s) r = true := by
  simp [wfOps, and_assoc]

theorem wfOps_retain {b s : List Node} {p : Node} {a : Arg} {r : List BOp} :
    wfOps b s (.retain p a :: r) = true ↔ p ∈ b ∧ wfOps b s r = true := by
  simp [wfOps]

theorem updTab_eq (ts : Tabs) (p : Node) (f : Tab → Tab) :
    updTab ts p f = ts.map fun x => (x.1, if x.1 == p then f x.2 else x.2) := by
  unfold updTab
  apply List.map_congr_left
  intro x _
  split <;> rfl

/-- the invariant of the construction: the built nodes, in order, are the keys of the table list, each once;
the tables are consistent, and only consumers seen so far occur in them -/
structure Good (built seen : List Node) (ts : Tabs) : Prop where
  keys : ts.map (·.1) = built
  nodup : built.Nodup
  bk : ∀ x ∈ ts, TabBK x.2
  seen : ∀ x ∈ ts, ∀ n, Mentions x.2 n → n ∈ seen

theorem Good.init : Good [] [] [] := ⟨rfl, List.nodup_nil, fun _ h => (nomatch h), fun _ h => (nomatch h)⟩

theorem Good.tab {built seen : List Node} {ts : Tabs} (g : Good built seen ts) {p : Node} (hp : p ∈ built) :
    ∃ t, (p, t) ∈ ts := by
  obtain ⟨x, hx, rfl⟩ := List.mem_map.mp (g.keys ▸ hp)
  exact ⟨x.2, hx⟩

theorem Good.map {built seen seen' : List Node} {ts : Tabs} (g : Good built seen ts) (f : Node → Tab → Tab)
    (hbk : ∀ x ∈ ts, TabBK (f x.1 x.2))
    (hseen : ∀ x ∈ ts, ∀ n, Mentions (f x.1 x.2) n → n ∈ seen') :
    Good built seen' (ts.map fun x => (x.1, f x.1 x.2)) := by
  refine ⟨by rw [List.map_map]; exact g.keys, g.nodup, ?_, ?_⟩
  · intro y hy
    obtain ⟨x, hx, rfl⟩ := List.mem_map.mp hy
    exact hbk x hx
  · intro y hy
    obtain ⟨x, hx, rfl⟩ := List.mem_map.mp hy
    exact hseen x hx

theorem Good.step {built seen : List Node} {ts : Tabs} (g : Good built seen ts) (op : BOp) (r : List BOp)
    (w : wfOps built seen (op :: r) = true) :
    ∃ built' seen', Good built' seen' (stepB ts op) ∧ wfOps built' seen' r = true := by
  cases op with
  | forks p =>
    have w := wfOps_forks.mp w
    refine ⟨p :: built, seen, ⟨congrArg (p :: ·) g.keys, List.nodup_cons.mpr ⟨w.1, g.nodup⟩, ?_, ?_⟩, w.2⟩
    · intro x hx
      rcases List.mem_cons.mp hx with rfl | hx
      · exact ⟨fun a hs hm => (nomatch hm), fun a hs hm => (nomatch hm)⟩
      · exact g.bk x hx
    · intro x hx n hm
      rcases List.mem_cons.mp hx with rfl | hx
      · rcases hm with ⟨a, hs, hm, _⟩ | ⟨as, hm⟩ <;> cases hm
      · exact g.seen x hx n hm
  | attach h refs =>
    cases h with
    | none =>
      refine ⟨built, seen, g.map (fun q t => t.attach none (argsOf refs q)) ?_ ?_, (wfOps_attach_none.mp w).2⟩
      · exact fun x hx => attach_bk (g.bk x hx) (fun n e => nomatch e)
      · intro x hx n hm
        rcases attach_mentions hm with h2 | h2
        · exact g.seen x hx n h2
        · cases h2
    | some n =>
      have w := wfOps_attach_some.mp w
      refine ⟨built, n :: seen, g.map (fun q t => t.attach (some n) (argsOf refs q)) ?_ ?_, w.2.2⟩
      · intro x hx
        apply attach_bk (g.bk x hx)
        intro m e hm
        cases e
        exact w.1 (g.seen x hx n hm)
      · intro x hx m hm
        rcases attach_mentions hm with h2 | h2
        · exact List.mem_cons_of_mem _ (g.seen x hx m h2)
        · cases h2; exact List.mem_cons_self
  | retain p a =>
    refine ⟨built, seen, ?_, (wfOps_retain.mp w).2⟩
    simp only [stepB, updTab_eq]
    refine g.map (fun q t => if q == p then t.hold a none else t) ?_ ?_
    · intro x hx
      split
      · exact hold_bk (g.bk x hx) (fun n e => nomatch e)
      · exact g.bk x hx
    · intro x hx n hm
      apply g.seen x hx n
      split at hm
      · rcases hm with ⟨b, hb⟩ | ⟨bs, hb⟩
        · rcases hold_inv hb with h2 | ⟨_, h2⟩
          · exact Or.inl ⟨b, h2⟩
          · cases h2
        · rw [hold_postNodes] at hb
          exact Or.inr ⟨bs, hb⟩
      · exact hm

theorem Good.run {built seen : List Node} {ts : Tabs} (g : Good built seen ts) (pre rest : List BOp)
    (w : wfOps built seen (pre ++ rest) = true) :
    ∃ built' seen', Good built' seen' (buildFrom ts pre) ∧ wfOps built' seen' rest = true := by
  induction pre generalizing built seen ts with
  | nil => exact ⟨built, seen, g, w⟩
  | cons op r ih =>
    obtain ⟨b', s', g', w'⟩ := g.step op (r ++ rest) w
    exact ih g' w'

theorem holds_run {ts : Tabs} {p : Node} {t : Tab} {a : Arg} {h : Holder} (hm : (p, t) ∈ ts) (x : HoldsT t a h)
    (ops : List BOp) : ∃ t', (p, t') ∈ buildFrom ts ops ∧ HoldsT t' a h := by
  induction ops generalizing ts t with
  | nil => exact ⟨t, hm, x⟩
  | cons op r ih =>
    cases op with
    | forks q => exact ih (List.mem_cons_of_mem _ hm) x
    | attach h' refs => exact ih (List.mem_map.mpr ⟨(p, t), hm, rfl⟩) (attach_iff.mpr (Or.inl x))
    | retain q b =>
      refine ih (t := if p == q then t.hold b none else t) ?_ ?_
      · simp only [stepB, updTab_eq]
        exact List.mem_map.mpr ⟨(p, t), hm, rfl⟩
      · split
        · exact hold_mono x
        · exact x

theorem build_good {ops : List BOp} (w : wfOps [] [] ops = true) : ∃ built seen, Good built seen (build ops) := by
  obtain ⟨b, s, g, _⟩ := Good.init.run ops [] (by simpa using w)
  exact ⟨b, s, g⟩

theorem build_unique {ops : List BOp} (w : wfOps [] [] ops = true) {p : Node} {t t' : Tab}
    (h : (p, t) ∈ build ops) (h' : (p, t') ∈ build ops) : t = t' := by
  obtain ⟨_, _, g⟩ := build_good w
  exact congrArg Prod.snd (Proofs.ListFacts.nodup_map_inj (f := (·.1)) (g.keys ▸ g.nodup) _ h _ h' rfl)

theorem build_bk {ops : List BOp} (w : wfOps [] [] ops = true) {p : Node} {t : Tab}
    (h : (p, t) ∈ build ops) : TabBK t := by
  obtain ⟨_, _, g⟩ := build_good w
  exact g.bk _ h

/-- In a well-ordered construction,
after `attachToFileParents` ran for a consumer with holder `h` and the file
references `refs`, every producer output among them carries that holder in
the final tables. -/
theorem build_holds_mem {ops : List BOp} (w : wfOps [] [] ops = true) {h : Holder} {refs : List (Node × Arg)}
    (hm : BOp.attach h refs ∈ ops) {p : Node} {a : Arg} (hr : (p, a) ∈ refs) :
    ∃ t, (p, t) ∈ build ops ∧ HoldsT t a h := by
  obtain ⟨pre, post, rfl⟩ := List.append_of_mem hm
  obtain ⟨built, seen, g, w'⟩ := Good.init.run pre _ w
  have hb : p ∈ built := by
    cases h with
    | none => exact (wfOps_attach_none.mp w').1 (p, a) hr
    | some n => exact (wfOps_attach_some.mp w').2.1 (p, a) hr
  obtain ⟨t, ht⟩ := g.tab hb
  have h1 : (p, t.attach h (argsOf refs p)) ∈ stepB (buildFrom [] pre) (.attach h refs) :=
    List.mem_map.mpr ⟨(p, t), ht, rfl⟩
  simp only [build, buildFrom, List.foldl_append, List.foldl_cons]
  exact holds_run h1 (attach_iff.mpr (Or.inr ⟨mem_argsOf.mpr hr, rfl⟩)) post

theorem build_retained_mem {ops : List BOp} (w : wfOps [] [] ops = true) {p : Node} {a : Arg}
    (hm : BOp.retain p a ∈ ops) : ∃ t, (p, t) ∈ build ops ∧ HoldsT t a none := by
  obtain ⟨pre, post, rfl⟩ := List.append_of_mem hm
  obtain ⟨built, seen, g, w'⟩ := Good.init.run pre _ w
  obtain ⟨t, ht⟩ := g.tab (wfOps_retain.mp w').1
  have h1 : (p, t.hold a none) ∈ stepB (buildFrom [] pre) (.retain p a) := by
    simp only [stepB, updTab_eq]
    exact List.mem_map.mpr ⟨(p, t), ht, by simp⟩
  simp only [build, buildFrom, List.foldl_append, List.foldl_cons]
  exact holds_run h1 (hold_holds t a none) post

/-- the tree has a stage node `n` with the resolved inputs `ins` -/
inductive HasStage : PTree → Node → List Binding → Prop
  | here {id ins ret rest} : HasStage (.stage id ins ret rest) id ins
  | next {id ins ret rest n i} : HasStage rest n i → HasStage (.stage id ins ret rest) n i
  | child {id top ins ch ret rd rest n i} : HasStage ch n i → HasStage (.pipe id top ins ch ret rd rest) n i
  | after {id top ins ch ret rd rest n i} : HasStage rest n i → HasStage (.pipe id top ins ch ret rd rest) n i

/-- the tree has the top-level pipeline with the resolved return binding `ret` -/
inductive HasTop : PTree → List Binding → Prop
  | here {id ins ch ret rd rest} : HasTop (.pipe id true ins ch ret rd rest) ret
  | next {id ins ret rest r} : HasTop rest r → HasTop (.stage id ins ret rest) r
  | child {id top ins ch ret rd rest r} : HasTop ch r → HasTop (.pipe id top ins ch ret rd rest) r
  | after {id top ins ch ret rd rest r} : HasTop rest r → HasTop (.pipe id top ins ch ret rd rest) r

/-- some stage or pipeline of the tree retains output `a` of node `p` -/
inductive HasRetain : PTree → Node → Arg → Prop
  | stage {id ins ret rest p a} : (p, a) ∈ ret → HasRetain (.stage id ins ret rest) p a
  | pipe {id top ins ch ret rd rest p a} : (p, a) ∈ rd → HasRetain (.pipe id top ins ch ret rd rest) p a
  | next {id ins ret rest p a} : HasRetain rest p a → HasRetain (.stage id ins ret rest) p a
  | child {id top ins ch ret rd rest p a} : HasRetain ch p a → HasRetain (.pipe id top ins ch ret rd rest) p a
  | after {id top ins ch ret rd rest p a} : HasRetain rest p a → HasRetain (.pipe id top ins ch ret rd rest) p a

theorem HasStage.mem {tr : PTree} {n : Node} {ins : List Binding} (h : HasStage tr n ins) :
    BOp.attach (some n) (fileRefs ins) ∈ opsOf tr := by
  induction h with
  | here => simp [opsOf]
  | next _ ih | child _ ih | after _ ih => simp [opsOf, ih]

theorem HasTop.mem {tr : PTree} {ret : List Binding} (h : HasTop tr ret) :
    BOp.attach none (fileRefs ret) ∈ opsOf tr := by
  induction h with
  | here => simp [opsOf]
  | next _ ih | child _ ih | after _ ih => simp [opsOf, ih]

theorem HasRetain.mem {tr : PTree} {p : Node} {a : Arg} (h : HasRetain tr p a) :
    BOp.retain p a ∈ opsOf tr := by
  induction h with
  | stage hm =>
    simp only [opsOf]
    apply List.mem_cons_of_mem
    apply List.mem_cons_of_mem
    apply List.mem_append_left
    exact List.mem_map.mpr ⟨_, hm, rfl⟩
  | pipe hm =>
    simp only [opsOf]
    apply List.mem_append_left
    apply List.mem_append_right
    exact List.mem_map.mpr ⟨_, hm, rfl⟩
  | next _ ih | child _ ih | after _ ih => simp [opsOf, ih]

theorem mem_fileRefs {bs : List Binding} {b : Binding} {p : Node} {a : Arg} (hb : b ∈ bs)
    (hr : (p, a, true) ∈ typedRefs b.1 b.2) : (p, a) ∈ fileRefs bs := by
  unfold fileRefs
  simp only [List.mem_filterMap, List.mem_flatMap]
  exact ⟨(p, a, true), ⟨b, hb, hr⟩, by simp⟩

theorem wfOps_retains (b s : List Node) (rs : List (Node × Arg)) (k : List BOp)
    (h : ∀ r ∈ rs, r.1 ∈ b) (hk : wfOps b s k = true) :
    wfOps b s ((rs.map fun r => BOp.retain r.1 r.2) ++ k) = true := by
  induction rs with
  | nil => exact hk
  | cons r rest ih =>
    exact wfOps_retain.mpr ⟨h r List.mem_cons_self, ih (fun x hx => h x (List.mem_cons_of_mem _ hx))⟩

theorem all_built {b : List Node} {refs : List (Node × Arg)} (h : ∀ r ∈ refs, r.1 ∈ b) :
    (refs.all fun x => b.contains x.1) = true := by
  rw [List.all_eq_true]
  intro x hx
  simpa using h x hx

theorem allIn_iff {b : List Node} {refs : List (Node × Arg)} : allIn b refs = true ↔ ∀ r ∈ refs, r.1 ∈ b := by
  simp [allIn]

/-- a scoped tree is constructed in a well-ordered way, whatever well-ordered steps follow -/
theorem scoped_wf {b a : List Node} {tr : PTree} (sc : Scoped b tr a) :
    ∀ (s : List Node) (k : List BOp), (∀ x ∈ s, x ∈ b) →
      (∀ s', (∀ x ∈ s', x ∈ a) → wfOps a s' k = true) → wfOps b s (opsOf tr ++ k) = true := by
  induction sc with
  | nil => intro s k hs hk; exact hk s hs
  | @stage b a id ins ret rest hid hrefs hret _ ih =>
    intro s k hs hk
    have h3 : wfOps (id :: b) (id :: s) ((ret.map fun r => BOp.retain r.1 r.2) ++ (opsOf rest ++ k)) = true := by
      apply wfOps_retains _ _ _ _ hret
      apply ih (id :: s) k _ hk
      intro x hx
      rcases List.mem_cons.mp hx with rfl | hx
      · exact List.mem_cons_self
      · exact List.mem_cons_of_mem _ (hs x hx)
    have e : opsOf (.stage id ins ret rest) ++ k =
        .attach (some id) (fileRefs ins) :: .forks id ::
          ((ret.map fun r => BOp.retain r.1 r.2) ++ (opsOf rest ++ k)) := by
      simp [opsOf, List.append_assoc]
    rw [e]
    exact wfOps_attach_some.mpr ⟨fun h => hid (hs id h), hrefs, wfOps_forks.mpr ⟨hid, h3⟩⟩
  | @pipe b b1 a id top ins ch ret rd rest hins _ hretb hid hrd _ ihc ihr =>
    intro s k hs hk
    have tail : ∀ s1, (∀ x ∈ s1, x ∈ b1) →
        wfOps b1 s1 ((if top then [BOp.attach none (fileRefs ret)] else []) ++
          (.forks id :: ((rd.map fun r => BOp.retain r.1 r.2) ++ (opsOf rest ++ k)))) = true := by
      intro s1 hs1
      have h2 : wfOps b1 s1 (.forks id :: ((rd.map fun r => BOp.retain r.1 r.2) ++ (opsOf rest ++ k))) = true :=
        wfOps_forks.mpr ⟨hid, wfOps_retains _ _ _ _ hrd
          (ihr s1 k (fun x hx => List.mem_cons_of_mem _ (hs1 x hx)) hk)⟩
      cases top with
      | false => exact h2
      | true => exact wfOps_attach_none.mpr ⟨hretb rfl, h2⟩
    have body := ihc s _ hs tail
    have e : opsOf (.pipe id top ins ch ret rd rest) ++ k =
        (if top then [BOp.attach none (fileRefs ins)] else []) ++ (opsOf ch ++
          ((if top then [BOp.attach none (fileRefs ret)] else []) ++
            (.forks id :: ((rd.map fun r => BOp.retain r.1 r.2) ++ (opsOf rest ++ k))))) := by
      simp [opsOf, List.append_assoc]
    rw [e]
    cases top with
    | false => exact body
    | true => exact wfOps_attach_none.mpr ⟨hins rfl, body⟩

theorem wfOps_of_scoped {tr : PTree} {a : List Node} (sc : Scoped [] tr a) : wfOps [] [] (opsOf tr) = true := by
  have := scoped_wf sc [] [] (fun x hx => by cases hx) (fun _ _ => rfl)
  simpa using this

theorem scopedB_sound : ∀ (tr : PTree) (b a : List Node), scopedB b tr = some a → Scoped b tr a := by
  intro tr
  induction tr with
  | nil => intro b a h; simp [scopedB] at h; subst h; exact .nil
  | stage id ins ret rest ih =>
    intro b a h
    simp only [scopedB] at h
    split at h
    · rename_i hc
      simp only [Bool.and_eq_true, Bool.not_eq_true', List.contains_eq_mem, decide_eq_false_iff_not] at hc
      exact .stage hc.1.1 (allIn_iff.mp hc.1.2) (allIn_iff.mp hc.2) (ih _ _ h)
    · cases h
  | pipe id top ins ch ret rd rest ihc ihr =>
    intro b a h
    simp only [scopedB] at h
    split at h
    · rename_i h1
      split at h
      · cases h
      · rename_i b1 hb1
        split at h
        · rename_i h2
          simp only [Bool.and_eq_true, Bool.not_eq_true', List.contains_eq_mem, decide_eq_false_iff_not] at h2
          refine .pipe ?_ (ihc _ _ hb1) ?_ h2.1.2 (allIn_iff.mp h2.2) (ihr _ _ h)
          · intro ht; subst ht; exact allIn_iff.mp (by simpa using h1)
          · intro ht; subst ht; exact allIn_iff.mp (by simpa using h2.1.1)
        · cases h
    · cases h

theorem map_id' {α : Type} (l : List α) : l.map id = l := by simp

theorem cloneFork_fileArgs (s : St) (d : List DiskEnt) : (cloneFork s d).fileArgs = s.fileArgs := by
  unfold cloneFork
  simp

theorem cloneFork_postNodes (s : St) (d : List DiskEnt) : (cloneFork s d).postNodes = s.postNodes := by
  unfold cloneFork
  simp

theorem cloneFork_bk {s : St} (k : BK s) (d : List DiskEnt) : BK (cloneFork s d) := by
  refine ⟨?_, ?_⟩
  · rw [cloneFork_fileArgs, cloneFork_postNodes]; exact k.cons
  · rw [cloneFork_fileArgs]; exact k.ne

theorem cloneFork_holds (s : St) (d : List DiskEnt) (a : Arg) (h : Holder) :
    Holds (cloneFork s d) a h ↔ Holds s a h := by
  unfold Holds
  rw [cloneFork_fileArgs]

/-- a small pipestance: `TOP` (top level) calls `A`, then `B(x = A.o, n = A.n)`,
returns `B.o`; stage `A` retains its output `r` -/
def exTree : PTree :=
  .pipe "TOP" true []
    (.stage "A" [] [("A", "r")]
      (.stage "B" [(.ref "A" "o", .prim true), (.ref "A" "n", .prim false)] [] .nil))
    [(.map (.cons "o" (.ref "B" "o") .nil), .struct (.mcons "o" (.prim true) .mnil))] [] .nil

end Martian.Vdr
