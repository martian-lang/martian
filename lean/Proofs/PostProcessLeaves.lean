/-
C13: the dimension-aware recursion as a traversal.  Its only effect on the file
system is the left fold of `moveOutFile` over the flat list of its file leaves
(`leavesOf`), and its value is the traversal without a file system
(`pureHandler E`) for every oracle `E` that answers the leaf calls as the file
system does (`Good`).  Both are proved together, level by level (`Performs`).
Basis of the global `dest_injective` and `content_preserved`.
-/
import Proofs.PostProcess

namespace Martian.PostProcess

theorem runLeaves_append (ps : Path) (a b : List Leaf) (fs : FS) :
    runLeaves ps (a ++ b) fs = runLeaves ps b (runLeaves ps a fs) := by
  simp [runLeaves, List.foldl_append]

theorem runLeaves_nil (ps : Path) (fs : FS) : runLeaves ps [] fs = fs := rfl

theorem runLeaves_cons (ps : Path) (l : Leaf) (ls : List Leaf) (fs : FS) :
    runLeaves ps (l :: ls) fs = runLeaves ps ls (runLeaf ps fs l) := rfl

theorem good_append {ps : Path} {E : Leaf → J} (a b : List Leaf) (fs : FS) :
    Good ps E (a ++ b) fs ↔ Good ps E a fs ∧ Good ps E b (runLeaves ps a fs) := by
  induction a generalizing fs with
  | nil => simp [Good, runLeaves_nil]
  | cons l a ih => simp [Good, ih, runLeaves_cons, and_assoc]

/-! ## the leaves and the pure traversal, per type constructor (the null test is redundant, as for `handler`) -/

theorem leavesOf_arr (e : Ty) (k : Nat) (id on : String) (v : J) (outs : Path) :
    leavesOf (.arr e k) id on v outs =
      if hasFile e then arrLeaves (leavesOf e) k v (outs ++ [outFilename (.arr e k) id on]) else [] := by
  cases he : hasFile e <;> cases v <;> cases k <;> simp [leavesOf, he, arrLeaves]

theorem leavesOf_tmap (e : Ty) (id on : String) (v : J) (outs : Path) :
    leavesOf (.tmap e) id on v outs =
      if hasFile e then mapLeaves (leavesOf e) v (outs ++ [outFilename (.tmap e) id on]) else [] := by
  cases he : hasFile e <;> cases v <;> simp [leavesOf, he, mapLeaves]

theorem leavesOf_struct (ms : List (String × String × Ty)) (id on : String) (v : J) (outs : Path) :
    leavesOf (.struct ms) id on v outs =
      if hasFileMs ms then structLeaves (leavesMs ms) v (outs ++ [outFilename (.struct ms) id on]) else [] := by
  cases he : hasFileMs ms <;> cases v <;> simp [leavesOf, he, structLeaves]

theorem pureHandler_arr (E : Leaf → J) (e : Ty) (k : Nat) (id on : String) (v : J) (outs : Path) :
    pureHandler E (.arr e k) id on v outs =
      if hasFile e then pureArr (pureHandler E e) k v (outs ++ [outFilename (.arr e k) id on]) else v := by
  cases he : hasFile e <;> cases v <;> cases k <;> simp [pureHandler, he, pureArr]

theorem pureHandler_tmap (E : Leaf → J) (e : Ty) (id on : String) (v : J) (outs : Path) :
    pureHandler E (.tmap e) id on v outs =
      if hasFile e then pureMap (pureHandler E e) v (outs ++ [outFilename (.tmap e) id on]) else v := by
  cases he : hasFile e <;> cases v <;> simp [pureHandler, he, pureMap]

theorem pureHandler_struct (E : Leaf → J) (ms : List (String × String × Ty)) (id on : String) (v : J)
    (outs : Path) :
    pureHandler E (.struct ms) id on v outs =
      if hasFileMs ms then pureStruct (pureMs E ms) v (outs ++ [outFilename (.struct ms) id on]) else v := by
  cases he : hasFileMs ms <;> cases v <;> simp [pureHandler, he, pureStruct]

theorem leavesMs_keys (ms : List (String × String × Ty)) :
    (leavesMs ms).map Prod.fst = ms.map (·.1) := by
  induction ms with
  | nil => simp [leavesMs]
  | cons m ms ih =>
    obtain ⟨id, on, t⟩ := m
    simp [leavesMs, ih]

theorem pureMs_keys (E : Leaf → J) (ms : List (String × String × Ty)) :
    (pureMs E ms).map Prod.fst = ms.map (·.1) := by
  induction ms with
  | nil => simp [pureMs]
  | cons m ms ih =>
    obtain ⟨id, on, t⟩ := m
    simp [pureMs, ih]

/-- `res` is the outcome, from `fs`, of a computation that makes exactly the
`moveOutFile` calls `ls`, in order, and whose value is `pv E` for every oracle
`E` that answers those calls as the file system does -/
def Performs (ps : Path) (fs : FS) (ls : List Leaf) {α : Type} (pv : (Leaf → J) → α) (res : α × FS) : Prop :=
  res.2 = runLeaves ps ls fs ∧ ∀ E, Good ps E ls fs → res.1 = pv E

theorem Performs.append {ps : Path} {fs : FS} {α β γ : Type} {la lb : List Leaf} {pa : (Leaf → J) → α}
    {pb : (Leaf → J) → β} {r1 : α × FS} {r2 : β × FS} (c : α → β → γ)
    (h1 : Performs ps fs la pa r1) (h2 : Performs ps r1.2 lb pb r2) :
    Performs ps fs (la ++ lb) (fun E => c (pa E) (pb E)) (c r1.1 r2.1, r2.2) := by
  rw [h1.1] at h2
  refine ⟨by rw [runLeaves_append]; exact h2.1, fun E hg => ?_⟩
  obtain ⟨ga, gb⟩ := (good_append la lb fs).mp hg
  show c r1.1 r2.1 = _
  rw [h1.2 E ga, h2.2 E gb]

theorem Performs.map {ps : Path} {fs : FS} {α β : Type} {ls : List Leaf} {pv : (Leaf → J) → α}
    {res : α × FS} (c : α → β) (h : Performs ps fs ls pv res) :
    Performs ps fs ls (fun E => c (pv E)) (c res.1, res.2) :=
  ⟨h.1, fun E hg => congrArg c (h.2 E hg)⟩

/-- the handler `h` makes the leaf calls `g` and has the value `ph`, whatever it is applied to -/
def Refines (ps : Path) (h : Handler) (g : LeafFn) (ph : (Leaf → J) → PureH) : Prop :=
  ∀ id on v o fs, Performs ps fs (g id on v o) (fun E => ph E id on v o) (h id on v o fs)

theorem mapIdx_performs (ps : Path) (f : Nat → J → FS → J × FS) (g : Nat → J → List Leaf)
    (pf : (Leaf → J) → Nat → J → J)
    (h : ∀ i x fs, Performs ps fs (g i x) (fun E => pf E i x) (f i x fs)) (i : Nat) (xs : List J) (fs : FS) :
    Performs ps fs (leavesIdx g i xs) (fun E => pureIdx (pf E) i xs) (mapIdx f i xs fs) := by
  induction xs generalizing i fs with
  | nil => exact ⟨rfl, fun _ _ => rfl⟩
  | cons x xs ih => exact (h i x fs).append List.cons (ih _ _)

theorem mapKeys_performs (ps : Path) (f : String → FS → J × FS) (g : String → List Leaf)
    (pf : (Leaf → J) → String → J)
    (h : ∀ k fs, Performs ps fs (g k) (fun E => pf E k) (f k fs)) (ks : List String) (fs : FS) :
    Performs ps fs (leavesKeys g ks) (fun E => pureKeys (pf E) ks) (mapKeys f ks fs) := by
  induction ks generalizing fs with
  | nil => exact ⟨rfl, fun _ _ => rfl⟩
  | cons k ks ih => exact (h k fs).append (fun v r => (k, v) :: r) (ih _)

theorem arrLevel_performs (ps : Path) (h : Handler) (g : LeafFn) (ph : (Leaf → J) → PureH)
    (hh : Refines ps h g ph)
    (k : Nat) (v : J) (o : Path) (fs : FS) :
    Performs ps fs (arrLeaves g k v o) (fun E => pureArr (ph E) k v o) (arrLevel true h k v o fs) := by
  induction k generalizing v o fs with
  | zero =>
    cases v with
    | arr xs => exact (mapIdx_performs ps _ _ (fun E i x => ph E _ "" x o) (fun i x fs => hh _ _ _ _ fs) 0 xs fs).map J.arr
    | _ => exact ⟨rfl, fun _ _ => rfl⟩
  | succ k ih =>
    cases v with
    | arr xs =>
      refine (mapIdx_performs ps _ (arrElemLeaves (arrLeaves g k) o (width xs.length)) _ (fun i x fs => ?_)
        0 xs fs).map J.arr
      cases x with
      | null => exact ⟨rfl, fun _ _ => rfl⟩
      | _ => exact ih _ _ fs
    | _ => exact ⟨rfl, fun _ _ => rfl⟩

mutual
theorem handler_performs (ps : Path) (ty : Ty) :
    Refines ps (handler true ps ty) (leavesOf ty) (fun E => pureHandler E ty) := by
  intro id on v outs fs
  cases ty with
  | scalar => exact ⟨rfl, fun _ _ => rfl⟩
  | file ext =>
    cases v with
    | null => exact ⟨rfl, fun _ _ => rfl⟩
    | _ => exact ⟨rfl, fun E hg => hg.1⟩
  | arr e k =>
    rw [handler_arr, leavesOf_arr]
    simp only [pureHandler_arr]
    cases hasFile e with
    | false => exact ⟨rfl, fun _ _ => rfl⟩
    | true => exact arrLevel_performs ps _ _ _ (handler_performs ps e) k v _ fs
  | tmap e =>
    rw [handler_tmap, leavesOf_tmap]
    simp only [pureHandler_tmap]
    cases hasFile e with
    | false => exact ⟨rfl, fun _ _ => rfl⟩
    | true =>
      cases v with
      | obj kvs =>
        exact (mapKeys_performs ps _ _ (fun E k => pureHandler E e k "" _ _)
          (fun k fs => handler_performs ps e _ _ _ _ fs) _ fs).map J.obj
      | _ => exact ⟨rfl, fun _ _ => rfl⟩
  | struct ms =>
    rw [handler_struct, leavesOf_struct]
    simp only [pureHandler_struct]
    cases hasFileMs ms with
    | false => exact ⟨rfl, fun _ _ => rfl⟩
    | true =>
      cases v with
      | obj kvs =>
        cases kvs with
        | nil => exact ⟨rfl, fun _ _ => rfl⟩
        | cons kv kvs =>
          simp only [if_true, structLeaves, pureStruct, leavesMs_keys, pureMs_keys, ← handlersMs_keys true ps ms]
          exact (mapKeys_performs ps _ _ (fun E k => pureMember (pureMs E ms) k _ _)
            (fun k fs => handlersMs_performs ps ms k _ _ fs) _ fs).map J.obj
      | _ => exact ⟨rfl, fun _ _ => rfl⟩
theorem handlersMs_performs (ps : Path) (ms : List (String × String × Ty)) (k : String) (v : J) (o : Path)
    (fs : FS) :
    Performs ps fs (memberLeaves (leavesMs ms) k v o) (fun E => pureMember (pureMs E ms) k v o)
      (memberHandler (handlersMs true ps ms) k v o fs) := by
  cases ms with
  | nil => exact ⟨rfl, fun _ _ => rfl⟩
  | cons m ms =>
    obtain ⟨id, on, t⟩ := m
    simp only [handlersMs, memberHandler, leavesMs, memberLeaves, pureMs, pureMember]
    by_cases hk : id = k
    · simp only [hk, if_true]
      exact handler_performs ps t k on v o fs
    · simp only [hk, if_false]
      exact handlersMs_performs ps ms k v o fs
end

theorem handleOuts_performs (ps : Path) (params : List (String × String × Ty)) (outs : List (String × J))
    (top : Path) (fs : FS) :
    Performs ps fs (leavesRec params outs top) (fun E => pureOuts E params outs top)
      (handleOuts true ps params outs top fs) := by
  induction params generalizing fs with
  | nil => exact ⟨rfl, fun _ _ => rfl⟩
  | cons m rest ih =>
    obtain ⟨id, on, ty⟩ := m
    simp only [handleOuts, leavesRec, pureOuts]
    cases lookupLast outs id with
    | none => exact ih fs
    | some v => exact (handler_performs ps ty id on v top fs).append (fun x r => (id, x) :: r) (ih _)

theorem mapIdx_run (ps : Path) (f : Nat → J → FS → J × FS) (g : Nat → J → List Leaf)
    (h : ∀ i x fs, (f i x fs).2 = runLeaves ps (g i x) fs) (i : Nat) (xs : List J) (fs : FS) :
    (mapIdx f i xs fs).2 = runLeaves ps (leavesIdx g i xs) fs := by
  induction xs generalizing i fs with
  | nil => rfl
  | cons x xs ih => simp [mapIdx, leavesIdx, runLeaves_append, ih, h]

/-- the effect alone, for a handler of which nothing is known about its values -/
theorem arrLevel_run (ps : Path) (h : Handler) (g : LeafFn)
    (hg : ∀ id on v o fs, (h id on v o fs).2 = runLeaves ps (g id on v o) fs)
    (k : Nat) (v : J) (o : Path) (fs : FS) :
    (arrLevel true h k v o fs).2 = runLeaves ps (arrLeaves g k v o) fs := by
  induction k generalizing v o fs with
  | zero =>
    cases v with
    | arr xs => exact mapIdx_run ps _ (fun i x => g (pad (width xs.length) i) "" x o) (fun i x fs => hg _ _ _ _ _) 0 xs fs
    | _ => rfl
  | succ k ih =>
    cases v with
    | arr xs =>
      refine mapIdx_run ps _ (arrElemLeaves (arrLeaves g k) o (width xs.length)) (fun i x fs => ?_) 0 xs fs
      cases x with
      | null => rfl
      | _ => exact ih _ _ _
    | _ => rfl

theorem handler_run (ps : Path) (ty : Ty) (id on : String) (v : J) (outs : Path) (fs : FS) :
    (handler true ps ty id on v outs fs).2 = runLeaves ps (leavesOf ty id on v outs) fs :=
  (handler_performs ps ty id on v outs fs).1

theorem handlersMs_run (ps : Path) (ms : List (String × String × Ty)) (k : String) (v : J) (o : Path)
    (fs : FS) :
    (memberHandler (handlersMs true ps ms) k v o fs).2 =
      runLeaves ps (memberLeaves (leavesMs ms) k v o) fs :=
  (handlersMs_performs ps ms k v o fs).1

theorem handleOuts_run (ps : Path) (params : List (String × String × Ty)) (outs : List (String × J))
    (outsPath : Path) (fs : FS) :
    (handleOuts true ps params outs outsPath fs).2 =
      runLeaves ps (leavesRec params outs outsPath) fs :=
  (handleOuts_performs ps params outs outsPath fs).1

theorem handler_val (ps : Path) (E : Leaf → J) (ty : Ty) (id on : String) (v : J) (outs : Path) (fs : FS)
    (hg : Good ps E (leavesOf ty id on v outs) fs) :
    (handler true ps ty id on v outs fs).1 = pureHandler E ty id on v outs :=
  (handler_performs ps ty id on v outs fs).2 E hg

theorem handlersMs_val (ps : Path) (E : Leaf → J) (ms : List (String × String × Ty)) (k : String) (v : J)
    (o : Path) (fs : FS) (hg : Good ps E (memberLeaves (leavesMs ms) k v o) fs) :
    (memberHandler (handlersMs true ps ms) k v o fs).1 = pureMember (pureMs E ms) k v o :=
  (handlersMs_performs ps ms k v o fs).2 E hg

theorem handleOuts_val (ps : Path) (E : Leaf → J) (params : List (String × String × Ty))
    (outs : List (String × J)) (top : Path) (fs : FS) (hg : Good ps E (leavesRec params outs top) fs) :
    (handleOuts true ps params outs top fs).1 = pureOuts E params outs top :=
  (handleOuts_performs ps params outs top fs).2 E hg

end Martian.PostProcess
