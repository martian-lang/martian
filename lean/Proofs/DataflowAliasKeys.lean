/-
C01 — `den_alias` UP TO THE RENAMING OF INSTANCE KEYS.

Renaming (swapping) two call ids inside one pipeline body moves the stage instances below the
renamed calls: den's own callee denotation `runCallable` puts the call path (and, for a mapped
call, the call id of its fork entry) into every instance key.  So the callee denotations of the
renamed body are related to the original ones up to `renKey` — the renaming of the path
component at the body's depth and of the fork entry of the renamed call — and the recorded
stage outputs are looked up under the renamed keys (`O ∘ renKey`).

* `CallView`     — what `evalCall` reads from the call statement and the environment; `evalCall` is
  `CallView.run` at the call site, and `CallView.run_map` is the simulation lemma for one call (callee
  denotations that agree up to a re-keying of the instances give the same call up to that re-keying),
  `evalCalls_sim` the one for the calls of a body;
* `RunnerRelK`   — the relation between callee denotations (values equal, instances re-keyed);
* `evalCalls_swapK` — the renamed body under related denotations: same environment up to the
  renaming of its keys, same instances up to `renKey`;
* `runCallable_ren` — den's own callee denotation satisfies the relation with the re-keyed oracle;
* `den_alias_top`  — whole-program: swapping two call ids in the body of the top-level pipeline
  and re-keying the oracle changes nothing but the instance keys.
* `noCallToTopB_sound` — soundness of the Bool check `noCallToTopB`.
-/
import Proofs.DataflowAlias
import Proofs.Dataflow

namespace Proofs.DataflowAlias
open Martian.Dataflow

def modAt {α : Type} (f : α → α) : Nat → List α → List α
  | _, [] => []
  | 0, x :: xs => f x :: xs
  | n+1, x :: xs => x :: modAt f n xs

theorem modAt_append_left {α : Type} (f : α → α) : ∀ (n : Nat) (l r : List α), n < l.length →
    modAt f n (l ++ r) = modAt f n l ++ r
  | _, [], _, h => by simp at h
  | 0, x :: xs, r, _ => by simp [modAt]
  | n+1, x :: xs, r, h => by
    simp only [List.cons_append, modAt, List.cons.injEq, true_and]
    exact modAt_append_left f n xs r (by simpa using h)

theorem modAt_length_append {α : Type} (f : α → α) : ∀ (l : List α) (x : α) (r : List α),
    modAt f l.length (l ++ x :: r) = l ++ f x :: r
  | [], x, r => by simp [modAt]
  | y :: l, x, r => by simp [modAt, modAt_length_append f l x r]

theorem modAt_ge {α : Type} (f : α → α) : ∀ (n : Nat) (l : List α), l.length ≤ n → modAt f n l = l
  | _, [], _ => by simp [modAt]
  | 0, x :: xs, h => by simp at h
  | n+1, x :: xs, h => by simp [modAt, modAt_ge f n xs (by simpa using h)]

theorem modAt_invol {α : Type} (f : α → α) (hf : ∀ x, f (f x) = x) : ∀ (n : Nat) (l : List α),
    modAt f n (modAt f n l) = l
  | _, [] => by simp [modAt]
  | 0, x :: xs => by simp [modAt, hf]
  | n+1, x :: xs => by simp [modAt, modAt_invol f hf n xs]

theorem getD_append_left (l r : List String) (n : Nat) (h : n < l.length) : (l ++ r).getD n "" = l.getD n "" := by
  simp [List.getD_eq_getElem?_getD, List.getElem?_append_left h]

theorem getD_length_append (l : List String) (x : String) (r : List String) :
    (l ++ x :: r).getD l.length "" = x := by
  simp [List.getD_eq_getElem?_getD]

theorem getD_modAt (f : String → String) : ∀ (n : Nat) (l : List String), n < l.length →
    (modAt f n l).getD n "" = f (l.getD n "")
  | _, [], h => by simp at h
  | 0, x :: xs, _ => by simp [modAt]
  | n+1, x :: xs, h => by
    simp only [modAt, List.getD_cons_succ]
    exact getD_modAt f n xs (by simpa using h)

/-- rename the component of an instance key that belongs to the call at depth `n` of the call path,
and, when that call is mapped (`mf`), the call id of its fork entry (position `m`) -/
def renKey (a b : String) (n m : Nat) (mf : String → Bool) (k : InstKey) : InstKey :=
  ⟨modAt (swapId a b) n k.path,
   if mf (k.path.getD n "") then modAt (fun e => (swapId a b e.1, e.2)) m k.forks else k.forks⟩

def renInst (a b : String) (n m : Nat) (mf : String → Bool) (i : Inst) : Inst :=
  { i with key := renKey a b n m mf i.key }

def renRes (a b : String) (n m : Nat) (mf : String → Bool) (r : J × List Inst) : J × List Inst :=
  (r.1, r.2.map (renInst a b n m mf))

/-- the renaming of keys is an involution (with the mapped-flag read through the renaming) -/
theorem renKey_invol (a b : String) (n m : Nat) (mf : String → Bool) (k : InstKey) (hn : n < k.path.length) :
    renKey a b n m (fun y => mf (swapId a b y)) (renKey a b n m mf k) = k := by
  obtain ⟨p, f⟩ := k
  simp only [renKey] at hn ⊢
  rw [getD_modAt _ n p hn, swapId_invol, modAt_invol _ (swapId_invol a b)]
  cases mf (p.getD n "") with
  | false => simp
  | true =>
    simp only [if_true]
    rw [modAt_invol]
    intro e
    simp [swapId_invol]

/-- what `evalCall` reads from the call statement and the environment -/
structure CallView where
  ty : Ty
  mode : Mode
  wholeDisabled : Bool
  mapped : Bool
  agree : Bool
  ixs : List Idx
  dis : J
  args : Option Idx → J

def callView (st : StructTable) (nf : Nat) (insOf : String → List Param) (env : Env) (c : Call) : CallView where
  ty := liftTy c.callee (callMode st env c)
  mode := callMode st env c
  wholeDisabled :=
    match c.disabled with
    | some (false, e) => isTrue (eval st env e)
    | _ => false
  mapped := c.mapped
  agree := splitsAgree st env c
  ixs := callIndices st env c
  dis :=
    match c.disabled with
    | some (true, e) => eval st env e
    | _ => .null
  args := mkArgs st nf (argVals st env (insOf c.callee) c)

/-- `evalCall` on a view of the call: `go none` is the callee's denotation at the unmapped call,
`go (some ix)` at fork `ix` of the mapped call, `sent` the sentinel instance of a call whose split
collections disagree -/
def CallView.run (v : CallView) (go : Option Idx → J → J × List Inst) (sent : Inst) : Ty × J × List Inst :=
  if v.wholeDisabled then (v.ty, .dnull, [])
  else if !v.mapped then (v.ty, (go none (v.args none)).1, (go none (v.args none)).2)
  else if !v.agree then (v.ty, .dnull, [sent])
  else if v.ixs.isEmpty then
    (v.ty, .dnull, (go (some .none) (v.args (some .none))).2.map fun i => { i with optional := true })
  else
    let rs := v.ixs.map fun ix =>
      if isTrue (elemAt v.dis ix) then ((.dnull : J), ([] : List Inst)) else go (some ix) (v.args (some ix))
    (v.ty, collect v.mode v.ixs (rs.map (·.1)), rs.flatMap (·.2))

theorem evalCall_eq_run (st : StructTable) (nf : Nat) (insOf : String → List Param) (run : Runner)
    (path : List String) (forks : List (String × Idx)) (env : Env) (c : Call) :
    evalCall st nf insOf run path forks env c
      = (callView st nf insOf env c).run
          (fun fk => run c.callee (path ++ [c.id])
            (match fk with
             | none => forks
             | some ix => forks ++ [(c.id, ix)]))
          ⟨⟨path ++ [c.id], forks⟩, .null, true, true⟩ := rfl

theorem CallView.run_map (v : CallView) (go go' : Option Idx → J → J × List Inst) (sent sent' : Inst)
    (ren : Inst → Inst)
    (hopt : ∀ i : Inst, ren { i with optional := true } = { ren i with optional := true })
    (hsent : sent' = ren sent)
    (hU : v.mapped = false → ∀ a, go' none a = ((go none a).1, (go none a).2.map ren))
    (hM : v.mapped = true → ∀ ix a, go' (some ix) a = ((go (some ix) a).1, (go (some ix) a).2.map ren)) :
    v.run go' sent' = ((v.run go sent).1, (v.run go sent).2.1, (v.run go sent).2.2.map ren) := by
  unfold CallView.run
  cases hm : v.mapped with
  | false =>
    simp only [hU hm, Bool.not_false, if_true]
    split <;> rfl
  | true =>
    have h (ix : Idx) :
        (if isTrue (elemAt v.dis ix) then ((.dnull : J), ([] : List Inst))
          else ((go (some ix) (v.args (some ix))).1, (go (some ix) (v.args (some ix))).2.map ren))
        = ((if isTrue (elemAt v.dis ix) then ((.dnull : J), ([] : List Inst))
              else go (some ix) (v.args (some ix))).1,
           (if isTrue (elemAt v.dis ix) then ((.dnull : J), ([] : List Inst))
              else go (some ix) (v.args (some ix))).2.map ren) := by
      split <;> rfl
    simp only [hM hm, hsent, Bool.not_true, Bool.false_eq_true, if_false, h]
    split
    · rfl
    · split
      · rfl
      · split
        · simp [hopt]
        · simp only [List.map_map, List.flatMap_map, List.map_flatMap, Function.comp_def]

theorem callView_swap (st : StructTable) (nf : Nat) (insOf : String → List Param) (a b : String) (env : Env)
    (c : Call) : callView st nf insOf (swapEnv a b env) (swapCall a b c) = callView st nf insOf env c := by
  unfold callView
  simp only [callMode_swap, argVals_swap, callIndices_swap, splitsAgree_swap]
  have hdis : (swapCall a b c).disabled = c.disabled.map fun d => (d.1, swapExp a b d.2) := rfl
  rw [hdis]
  rcases c.disabled with _ | ⟨_ | _, e⟩ <;> simp [eval_swap, swapCall]

/-- the callee denotations of the renamed body: on the renamed path / fork entry they answer what
the original ones answer on the original path / fork entry, with every instance re-keyed -/
def RunnerRelK (a b : String) (path : List String) (forks : List (String × Idx)) (mf : String → Bool)
    (run run' : Runner) : Prop :=
  ∀ (callee x : String) (args : J),
    (mf x = false →
      run' callee (path ++ [swapId a b x]) forks args
        = renRes a b path.length forks.length mf (run callee (path ++ [x]) forks args)) ∧
    (mf x = true → ∀ ix,
      run' callee (path ++ [swapId a b x]) (forks ++ [(swapId a b x, ix)]) args
        = renRes a b path.length forks.length mf (run callee (path ++ [x]) (forks ++ [(x, ix)]) args))

theorem renInst_opt (a b : String) (n m : Nat) (mf : String → Bool) (i : Inst) :
    renInst a b n m mf { i with optional := true } = { renInst a b n m mf i with optional := true } := rfl

/-- ONE simulation for the calls of a body: the call statements are rewritten by `τ` and the
environment by `σ` in a way the view of a call does not see, and the callee denotations agree up to
a re-keying `ren` of the instances wherever the call consults them -/
theorem evalCalls_sim (st : StructTable) (nf : Nat) (insOf : String → List Param) (run run' : Runner)
    (p p' : List String) (f f' : List (String × Idx)) (ren : Inst → Inst)
    (hopt : ∀ i : Inst, ren { i with optional := true } = { ren i with optional := true })
    (σ : Env → Env) (τ : Call → Call)
    (hview : ∀ env c, callView st nf insOf (σ env) (τ c) = callView st nf insOf env c)
    (hcallee : ∀ c, (τ c).callee = c.callee)
    (hσ : ∀ env c ty v, ({ σ env with calls := (σ env).calls ++ [((τ c).id, ty, v)] } : Env)
        = σ { env with calls := env.calls ++ [(c.id, ty, v)] }) :
    ∀ (cs : List Call) (env : Env) (acc : List Inst),
      (∀ c ∈ cs, ren ⟨⟨p ++ [c.id], f⟩, .null, true, true⟩ = ⟨⟨p' ++ [(τ c).id], f'⟩, .null, true, true⟩ ∧
        (c.mapped = false → ∀ args, run' c.callee (p' ++ [(τ c).id]) f' args
          = ((run c.callee (p ++ [c.id]) f args).1, (run c.callee (p ++ [c.id]) f args).2.map ren)) ∧
        (c.mapped = true → ∀ ix args, run' c.callee (p' ++ [(τ c).id]) (f' ++ [((τ c).id, ix)]) args
          = ((run c.callee (p ++ [c.id]) (f ++ [(c.id, ix)]) args).1,
             (run c.callee (p ++ [c.id]) (f ++ [(c.id, ix)]) args).2.map ren))) →
      evalCalls st nf insOf run' p' f' (cs.map τ) (σ env) (acc.map ren)
        = (σ (evalCalls st nf insOf run p f cs env acc).1, (evalCalls st nf insOf run p f cs env acc).2.map ren)
  | [], env, acc, _ => by simp [evalCalls]
  | c :: cs, env, acc, h => by
    obtain ⟨h1, h2, h3⟩ := h c (by simp)
    have hc : evalCall st nf insOf run' p' f' (σ env) (τ c)
        = ((evalCall st nf insOf run p f env c).1, (evalCall st nf insOf run p f env c).2.1,
           (evalCall st nf insOf run p f env c).2.2.map ren) := by
      rw [evalCall_eq_run, evalCall_eq_run, hview, hcallee]
      exact CallView.run_map _ _ _ _ _ ren hopt h1.symm h2 h3
    simp only [List.map_cons, evalCalls, hc, hσ]
    rw [← List.map_append]
    exact evalCalls_sim st nf insOf run run' p p' f f' ren hopt σ τ hview hcallee hσ cs _ _
      fun c' hc' => h c' (by simp [hc'])

theorem evalCalls_swapK (st : StructTable) (nf : Nat) (insOf : String → List Param)
    (a b : String) (run run' : Runner) (path : List String) (forks : List (String × Idx))
    (mf : String → Bool) (hrel : RunnerRelK a b path forks mf run run') :
    ∀ (cs : List Call) (env : Env) (acc : List Inst), (∀ c ∈ cs, mf c.id = c.mapped) →
      evalCalls st nf insOf run' path forks (cs.map (swapCall a b)) (swapEnv a b env)
          (acc.map (renInst a b path.length forks.length mf))
        = (swapEnv a b (evalCalls st nf insOf run path forks cs env acc).1,
           (evalCalls st nf insOf run path forks cs env acc).2.map (renInst a b path.length forks.length mf)) := by
  intro cs env acc hmc
  refine evalCalls_sim st nf insOf run run' path path forks forks _ (renInst_opt a b _ _ mf) (swapEnv a b)
    (swapCall a b) (callView_swap st nf insOf a b) (fun _ => rfl) (fun env c ty v => by simp [swapEnv, swapCall])
    cs env acc fun c hc => ⟨?_, fun hm args => (hrel c.callee c.id args).1 ((hmc c hc).trans hm),
      fun hm ix args => (hrel c.callee c.id args).2 ((hmc c hc).trans hm) ix⟩
  show _ = (⟨⟨path ++ [swapId a b c.id], forks⟩, .null, true, true⟩ : Inst)
  simp only [renInst, renKey, modAt_length_append, getD_length_append]
  cases mf c.id <;> simp [modAt_ge]

theorem runCallable_ren (P : Program) (O : Oracle) (nf : Nat) (a b : String) (n m : Nat) (mf : String → Bool) :
    ∀ (fuel : Nat) (callee : String) (p : List String) (f : List (String × Idx)) (args : J),
      n < p.length → (mf (p.getD n "") = true → m < f.length) →
      runCallable P (fun k => O (renKey a b n m (fun y => mf (swapId a b y)) k)) nf fuel callee
          (modAt (swapId a b) n p)
          (if mf (p.getD n "") then modAt (fun e => (swapId a b e.1, e.2)) m f else f) args
        = renRes a b n m mf (runCallable P O nf fuel callee p f args) := by
  intro fuel
  induction fuel with
  | zero => intro callee p f args _ _; simp [runCallable, renRes]
  | succ fuel ih =>
    intro callee p f args hn hm
    simp only [runCallable]
    cases hl : P.callables.lookup callee with
    | none => simp [renRes]
    | some cb =>
      cases cb with
      | stage sins souts =>
        have hk : renKey a b n m mf ⟨p, f⟩
            = ⟨modAt (swapId a b) n p, if mf (p.getD n "") then modAt (fun e => (swapId a b e.1, e.2)) m f else f⟩ := rfl
        have hinv := renKey_invol a b n m mf ⟨p, f⟩ hn
        rw [hk] at hinv
        simp only [renRes, List.map_cons, List.map_nil, renInst, hk, hinv]
      | pipeline pins outs calls ret =>
        have hrel := evalCalls_sim P.table nf P.insOf (runCallable P O nf fuel)
          (runCallable P (fun k => O (renKey a b n m (fun y => mf (swapId a b y)) k)) nf fuel)
          p (modAt (swapId a b) n p) f
          (if mf (p.getD n "") then modAt (fun e => (swapId a b e.1, e.2)) m f else f)
          (renInst a b n m mf) (renInst_opt a b n m mf) id id (fun _ _ => rfl) (fun _ => rfl)
          (fun _ _ _ _ => rfl) calls ⟨pins, args, []⟩ [] (by
            intro c _
            have hp : modAt (swapId a b) n (p ++ [c.id]) = modAt (swapId a b) n p ++ [c.id] :=
              modAt_append_left _ n p [c.id] hn
            have hg : (p ++ [c.id]).getD n "" = p.getD n "" := getD_append_left p [c.id] n hn
            refine ⟨?_, ?_, ?_⟩
            · simp only [renInst, renKey, hp, hg, id]
            · intro _ args'
              have := ih c.callee (p ++ [c.id]) f args' (by simp; omega) (by rw [hg]; exact hm)
              rw [hp, hg] at this
              exact this
            · intro _ ix args'
              have := ih c.callee (p ++ [c.id]) (f ++ [(c.id, ix)]) args' (by simp; omega)
                (by rw [hg]; intro h; have := hm h; simp; omega)
              rw [hp, hg] at this
              cases hflag : mf (p.getD n "") with
              | false =>
                rw [hflag] at this
                simp only [Bool.false_eq_true, if_false] at this ⊢
                exact this
              | true =>
                rw [hflag] at this
                simp only [if_true] at this ⊢
                rw [modAt_append_left _ m f [(c.id, ix)] (hm hflag)] at this
                exact this)
        simp only [List.map_nil, List.map_id, id] at hrel
        simp only [hrel, renRes]

theorem runnerRelK_runCallable (P : Program) (O : Oracle) (nf fuel : Nat) (a b : String)
    (path : List String) (forks : List (String × Idx)) (mf : String → Bool) :
    RunnerRelK a b path forks mf (runCallable P O nf fuel)
      (runCallable P (fun k => O (renKey a b path.length forks.length (fun y => mf (swapId a b y)) k)) nf fuel) := by
  intro callee x args
  constructor
  · intro hx
    have := runCallable_ren P O nf a b path.length forks.length mf fuel callee (path ++ [x]) forks args
      (by simp) (by rw [getD_length_append]; intro h; rw [hx] at h; cases h)
    rw [modAt_length_append, getD_length_append, hx] at this
    simpa using this
  · intro hx ix
    have := runCallable_ren P O nf a b path.length forks.length mf fuel callee (path ++ [x])
      (forks ++ [(x, ix)]) args (by simp) (by intro _; simp)
    rw [modAt_length_append, getD_length_append, hx] at this
    simp only [if_true, modAt_length_append] at this
    exact this

def swapBody (a b : String) : Callable → Callable
  | .stage i o => .stage i o
  | .pipeline i o calls ret => .pipeline i o (calls.map (swapCall a b)) (ret.map fun r => (r.1, swapExp a b r.2))

/-- the program with call ids `a` and `b` swapped inside the body of the top-level pipeline -/
def swapTop (a b : String) (P : Program) : Program :=
  { P with callables := P.callables.map fun e => if e.1 == P.top.callee then (e.1, swapBody a b e.2) else e }

theorem swapBody_ins (a b : String) (c : Callable) : (swapBody a b c).ins = c.ins := by cases c <;> rfl
theorem swapBody_outs (a b : String) (c : Callable) : (swapBody a b c).outs = c.outs := by cases c <;> rfl

theorem lookup_swapTop (a b : String) (P : Program) (name : String) :
    (swapTop a b P).callables.lookup name
      = (P.callables.lookup name).map fun c => if name == P.top.callee then swapBody a b c else c := by
  have e : (fun e : String × Callable => if e.1 == P.top.callee then (e.1, swapBody a b e.2) else e)
      = fun e => (e.1, if e.1 == P.top.callee then swapBody a b e.2 else e.2) := by
    funext e; split <;> rfl
  simp only [swapTop, e]
  exact Proofs.Dataflow.lookup_map_val (fun k c => if k == P.top.callee then swapBody a b c else c) P.callables name

theorem runCallable_pipeline (P : Program) (O : Oracle) (nf fuel : Nat) (callee : String) (p : List String)
    (f : List (String × Idx)) (args : J) (ins outs : List Param) (calls : List Call) (ret : List (String × Exp))
    (h : P.callables.lookup callee = some (.pipeline ins outs calls ret)) :
    runCallable P O nf (fuel+1) callee p f args
      = (.obj (outs.map fun q =>
          (q.name, narrow P.table nf q.ty
            (match ret.lookup q.name with
             | some e => eval P.table
                 (evalCalls P.table nf P.insOf (runCallable P O nf fuel) p f calls ⟨ins, args, []⟩ []).1 e
             | none => .null))),
         (evalCalls P.table nf P.insOf (runCallable P O nf fuel) p f calls ⟨ins, args, []⟩ []).2) := by
  simp only [runCallable, h]
  rfl

theorem table_swapTop (a b : String) (P : Program) : (swapTop a b P).table = P.table := by
  simp only [Program.table, swapTop, List.map_map]
  congr 1
  apply List.map_congr_left
  intro e _
  simp only [Function.comp_apply]
  split <;> simp [swapBody_outs]

theorem insOf_swapTop (a b : String) (P : Program) : (swapTop a b P).insOf = P.insOf := by
  funext callee
  simp only [Program.insOf, lookup_swapTop]
  cases P.callables.lookup callee with
  | none => rfl
  | some c => simp only [Option.map_some]; split <;> simp [swapBody_ins]

theorem evalCalls_congr_run (st : StructTable) (nf : Nat) (insOf : String → List Param) (run run' : Runner)
    (p : List String) (f : List (String × Idx)) :
    ∀ (cs : List Call) (env : Env) (acc : List Inst),
      (∀ c ∈ cs, ∀ q g x, run' c.callee q g x = run c.callee q g x) →
      evalCalls st nf insOf run' p f cs env acc = evalCalls st nf insOf run p f cs env acc := by
  intro cs env acc h
  have := evalCalls_sim st nf insOf run run' p p f f id (fun _ => rfl) id id (fun _ _ => rfl) (fun _ => rfl)
    (fun _ _ _ _ => rfl) cs env acc fun c hc => ⟨rfl, fun _ a => by simp [h c hc], fun _ ix a => by simp [h c hc]⟩
  simpa using this

def Callable.calls : Callable → List Call
  | .stage _ _ => []
  | .pipeline _ _ cs _ => cs

/-- below callees that are not the top-level pipeline (and never call it) the two programs agree -/
theorem runCallable_swapTop (a b : String) (P : Program) (O : Oracle) (nf : Nat)
    (hnocall : ∀ name c, P.callables.lookup name = some c → ∀ call ∈ Callable.calls c, call.callee ≠ P.top.callee) :
    ∀ (fuel : Nat) (callee : String) (p : List String) (f : List (String × Idx)) (args : J),
      callee ≠ P.top.callee →
      runCallable (swapTop a b P) O nf fuel callee p f args = runCallable P O nf fuel callee p f args := by
  intro fuel
  induction fuel with
  | zero => intro callee p f args _; simp [runCallable]
  | succ fuel ih =>
    intro callee p f args hne
    have hb : (callee == P.top.callee) = false := by simpa using hne
    simp only [runCallable, lookup_swapTop, table_swapTop, insOf_swapTop, hb]
    cases hl : P.callables.lookup callee with
    | none => simp
    | some cb =>
      simp only [Option.map_some, Bool.false_eq_true, if_false]
      cases cb with
      | stage i o => rfl
      | pipeline i o calls ret =>
        simp only
        rw [evalCalls_congr_run P.table nf P.insOf (runCallable P O nf fuel) (runCallable (swapTop a b P) O nf fuel)
          p f calls _ _ (fun c hc q g x => ih c.callee q g x (hnocall callee _ hl c hc))]

/-- which call ids of a body are map calls -/
def mappedOf (cs : List Call) (x : String) : Bool := ((cs.find? fun c => c.id == x).map (·.mapped)).getD false

theorem mappedOf_mem (cs : List Call) (hn : (cs.map (·.id)).Nodup) (c : Call) (hc : c ∈ cs) :
    mappedOf cs c.id = c.mapped := by
  unfold mappedOf
  rw [Proofs.ListFacts.find?_key_of_nodup hn hc]
  rfl

theorem lookup_ret_swap (a b : String) (ret : List (String × Exp)) (k : String) :
    (ret.map fun r => (r.1, swapExp a b r.2)).lookup k = (ret.lookup k).map (swapExp a b) :=
  Proofs.Dataflow.lookup_map_val (fun _ => swapExp a b) ret k

/-- WHOLE-PROGRAM `den_alias` for the body of the top-level pipeline: swapping the call ids `a`
and `b` there (call statements, every reference in bindings / `disabled` / return values) and
looking the recorded stage outputs up under the renamed keys yields the same top-level outputs and
the same stage instances with the same argument records, each under its renamed key. -/
theorem den_alias_top (a b : String) (P : Program) (O : Oracle)
    (pins outs : List Param) (calls : List Call) (ret : List (String × Exp))
    (htop : P.callables.lookup P.top.callee = some (.pipeline pins outs calls ret))
    (hids : (calls.map (·.id)).Nodup)
    (hnocall : ∀ name c, P.callables.lookup name = some c → ∀ call ∈ Callable.calls c, call.callee ≠ P.top.callee) :
    den (swapTop a b P) (fun k => O (renKey a b 1 0 (fun y => mappedOf calls (swapId a b y)) k))
      = renRes a b 1 0 (mappedOf calls) (den P O) := by
  have hfuel : (swapTop a b P).fuel = P.fuel := by simp [Program.fuel, swapTop]
  have hnfuel : (swapTop a b P).nfuel = P.nfuel := by simp [Program.nfuel, table_swapTop]
  have htopc : (swapTop a b P).top = P.top := rfl
  have hargs : (swapTop a b P).topArgs = P.topArgs := by
    simp [Program.topArgs, table_swapTop, insOf_swapTop, hnfuel, htopc]
  simp only [den, hfuel, hnfuel, htopc, hargs]
  generalize hO' : (fun k => O (renKey a b 1 0 (fun y => mappedOf calls (swapId a b y)) k)) = O'
  have hf : P.fuel = (P.callables.length + 1) + 1 := rfl
  rw [hf]
  have htop' : (swapTop a b P).callables.lookup P.top.callee
      = some (.pipeline pins outs (calls.map (swapCall a b)) (ret.map fun r => (r.1, swapExp a b r.2))) := by
    rw [lookup_swapTop, htop]
    simp [swapBody]
  rw [runCallable_pipeline (swapTop a b P) O' P.nfuel _ _ _ _ _ _ _ _ _ htop',
    runCallable_pipeline P O P.nfuel _ _ _ _ _ _ _ _ _ htop]
  simp only [table_swapTop, insOf_swapTop]
  have hrun : ∀ c ∈ calls.map (swapCall a b), ∀ q g x,
      runCallable (swapTop a b P) O' P.nfuel (P.callables.length + 1) c.callee q g x
        = runCallable P O' P.nfuel (P.callables.length + 1) c.callee q g x := by
    intro c hc q g x
    simp only [List.mem_map] at hc
    obtain ⟨c0, hc0, rfl⟩ := hc
    exact runCallable_swapTop a b P O' P.nfuel hnocall _ c0.callee q g x (hnocall _ _ htop c0 hc0)
  rw [evalCalls_congr_run P.table P.nfuel P.insOf _ _ [P.top.id] [] _ _ _ hrun]
  have hrel := runnerRelK_runCallable P O P.nfuel (P.callables.length + 1) a b [P.top.id] [] (mappedOf calls)
  simp only [List.length_singleton, List.length_nil] at hrel
  rw [hO'] at hrel
  have hsw := evalCalls_swapK P.table P.nfuel P.insOf a b _ _ [P.top.id] [] (mappedOf calls) hrel calls
    ⟨pins, P.topArgs, []⟩ [] (fun c hc => mappedOf_mem calls hids c hc)
  simp only [List.map_nil, List.length_singleton, List.length_nil] at hsw
  have henv : swapEnv a b ⟨pins, P.topArgs, []⟩ = ⟨pins, P.topArgs, []⟩ := rfl
  rw [henv] at hsw
  rw [hsw]
  simp only [renRes, lookup_ret_swap]
  congr 2
  apply List.map_congr_left
  intro p _
  cases ret.lookup p.name with
  | none => rfl
  | some e => simp [eval_swap]

/-- decidable form of "no callable calls the top-level pipeline" -/
def noCallToTopB (P : Program) : Bool :=
  P.callables.all fun e => (Callable.calls e.2).all fun c => c.callee != P.top.callee

theorem noCallToTopB_sound (P : Program) (h : noCallToTopB P = true) :
    ∀ name c, P.callables.lookup name = some c → ∀ call ∈ Callable.calls c, call.callee ≠ P.top.callee := by
  intro name c hl call hc
  simp only [noCallToTopB, List.all_eq_true, bne_iff_ne, ne_eq] at h
  obtain ⟨l₁, l₂, hl', _⟩ := List.lookup_eq_some_iff.mp hl
  exact h (name, c) (by simp [hl']) call hc

end Proofs.DataflowAlias
