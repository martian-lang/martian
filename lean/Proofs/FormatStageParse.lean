import Martian.FormatDeclText
import Proofs.FormatDeclParse
import Proofs.FormatResParse

/-!
C09: the token layer of the round trip of whole `stage` declarations: the token
sequence `toksStage s` of the printed declaration, and `pStage` reads it back as
`s`, leaving whatever token list follows (which must not begin with `split`,
`using` or `retain`: `stageEnd`).  Proved for the readers with the reading `rd` of `mem_gb` /
`vmem_gb` a parameter (`pStageR_toks`, `pStageAllR_toks`); the readers of Martian/FormatStage.lean are
the instances at `readGBTok` (`pStageBodyR_exact`, `pStageR_exact`, `pStageAllR_exact`, `parseStage_eq`).
At the end the two sample stages of the examples of Props/C09.lean (`exampleStage`, `exampleStage30`).
-/

namespace Martian.FormatStage
open Martian.Lexer (Bytes)
open Martian.FormatExp
open Martian.FormatCall (tLP tRP)
open Martian.FormatDecl (Param toksParams toksParam pInParams pOutParams wfParam headKw sIn sOut
  pInParams_toks pOutParams_toks headKw_in_outs headKw_toksParam mode)
open Martian.FormatRes (Lang Res toksSrc toksTail toksRes toksRetain pSrc pSrc_toks pTailR_toks NotId
  sStage sSrc sUsing sRetain wfSrc wfRes wfRetain ReadsBack readGBTok)

/-- the tokens of `fmtSplit s`: `) split (` and the chunk parameters -/
def toksSplit (s : Stage) : List Tok :=
  if s.split then tRP :: .id sSplit :: tLP :: (toksParams s.chunkIns ++ toksParams s.chunkOuts) else []

def toksStage (s : Stage) : List Tok :=
  .reserved sStage :: .id s.id :: tLP ::
    (toksParams s.ins ++ toksParams s.outs ++ toksSrc s.lang s.path s.args ++ toksSplit s ++
      toksTail s.res s.retain)

/-- what may follow a stage declaration: not `split`, `using` or `retain`
(with which the declaration would go on) -/
def stageEnd : List Tok → Bool
  | .id w :: _ => w != sSplit && w != sUsing && w != sRetain
  | _ => true

theorem stageEnd_notId {rest : List Tok} (h : stageEnd rest = true) :
    NotId sSplit rest ∧ NotId sUsing rest ∧ NotId sRetain rest := by
  cases rest with
  | nil => exact ⟨trivial, trivial, trivial⟩
  | cons t r =>
    cases t <;> try exact ⟨trivial, trivial, trivial⟩
    simp only [stageEnd, Bool.and_eq_true, bne_iff_ne, ne_eq] at h
    exact ⟨h.1.1, h.1.2, h.2⟩

theorem stageEnd_nil : stageEnd [] = true := rfl

theorem toksTail_cons (res : Option Res) (ret : Option (List Bytes)) (rest : List Tok) :
    ∃ r, toksTail res ret ++ rest = tRP :: r := by
  cases res <;> cases ret <;> simp [toksTail, toksRes, toksRetain]

theorem toksTail_second (res : Option Res) (ret : Option (List Bytes)) (rest : List Tok)
    (h : NotId sSplit rest) : ∃ r, toksTail res ret ++ rest = tRP :: r ∧ NotId sSplit r := by
  have h1 : sUsing ≠ sSplit := by decide
  have h2 : sRetain ≠ sSplit := by decide
  cases res with
  | none =>
    cases ret with
    | none => exact ⟨rest, by simp [toksTail], h⟩
    | some ids =>
      refine ⟨(toksTail none (some ids) ++ rest).tail, ?_, ?_⟩ <;>
        simp [toksTail, toksRetain, NotId, h2]
  | some r =>
    cases ret with
    | none =>
      refine ⟨(toksTail (some r) none ++ rest).tail, ?_, ?_⟩ <;>
        simp [toksTail, toksRes, NotId, h1]
    | some ids =>
      refine ⟨(toksTail (some r) (some ids) ++ rest).tail, ?_, ?_⟩ <;>
        simp [toksTail, toksRes, NotId, h1]

theorem headKw_src (w : Bytes) (hw : w ≠ sSrc) (lang : Lang) (path : Bytes) (args : List Bytes)
    (rest : List Tok) : headKw w (toksSrc lang path args ++ rest) = false := by
  simp only [toksSrc, List.cons_append, headKw, beq_eq_false_iff_ne, ne_eq]
  exact fun e => hw e.symm

theorem headKw_rp (w : Bytes) (r : List Tok) : headKw w (tRP :: r) = false := rfl

theorem pSplit_none (f : Nat) (r : List Tok) (h : NotId sSplit r) :
    pSplit f (tRP :: r) = some ((false, [], []), tRP :: r) := by
  cases r with
  | nil => rfl
  | cons t r' =>
    cases t <;> try rfl
    rename_i w
    simp only [NotId] at h
    simp [pSplit, h]

theorem pSplit_some (f : Nat) (ci co : List Param) (r : List Tok)
    (hwi : ci.all wfParam = true) (hwo : co.all wfParam = true)
    (hi : ci.all isIn = true) (ho : co.all isOut = true)
    (hf : (toksParams ci).length + (toksParams co).length < f) :
    pSplit f (tRP :: .id sSplit :: tLP :: (toksParams ci ++ toksParams co ++ tRP :: r)) =
      some ((true, ci, co), tRP :: r) := by
  have h1 := pInParams_toks ci f (toksParams co ++ tRP :: r) hwi hi (by omega)
    (headKw_in_outs co (tRP :: r) ho rfl)
  have h2 := pOutParams_toks co f (tRP :: r) hwo ho (by omega) rfl
  simp only [pSplit, and_self, ↓reduceIte, skipUsing, pChunk, List.append_assoc, h1, h2]

theorem wfStage_parts {s : Stage} (h : wfStage s = true) :
    isIdent s.id = true ∧
    s.ins.all wfParam = true ∧ s.ins.all isIn = true ∧ s.outs.all wfParam = true ∧ s.outs.all isOut = true ∧
    s.chunkIns.all wfParam = true ∧ s.chunkIns.all isIn = true ∧ s.chunkOuts.all wfParam = true ∧
    s.chunkOuts.all isOut = true ∧ (s.split = false → s.chunkIns = [] ∧ s.chunkOuts = []) ∧
    wfSrc s.path s.args = true ∧ (match s.res with | some r => wfRes r | none => true) = true ∧
    (match s.retain with | some ids => wfRetain ids | none => true) = true := by
  simp only [wfStage, Bool.and_eq_true, Bool.or_eq_true, List.isEmpty_iff] at h
  obtain ⟨⟨⟨⟨⟨⟨⟨⟨⟨⟨⟨⟨a, b⟩, c⟩, d⟩, e⟩, f⟩, g⟩, i⟩, j⟩, k⟩, l⟩, m⟩, n⟩ := h
  refine ⟨a, b, c, d, e, f, g, i, j, ?_, l, m, n⟩
  intro hs
  rcases k with k | k
  · rw [hs] at k; exact absurd k (by decide)
  · exact k

theorem pSplit_toks (s : Stage) (hw : wfStage s = true) (f : Nat) (rest : List Tok)
    (hf : (toksParams s.chunkIns).length + (toksParams s.chunkOuts).length < f)
    (hr : NotId sSplit rest) :
    ∃ r, toksTail s.res s.retain ++ rest = tRP :: r ∧
      pSplit f (toksSplit s ++ (toksTail s.res s.retain ++ rest)) =
        some ((s.split, s.chunkIns, s.chunkOuts), tRP :: r) := by
  obtain ⟨_, _, _, _, _, h6, h7, h8, h9, h10, _, _, _⟩ := wfStage_parts hw
  obtain ⟨r, e, hn⟩ := toksTail_second s.res s.retain rest hr
  refine ⟨r, e, ?_⟩
  rw [e]
  cases hs : s.split with
  | false =>
    obtain ⟨e1, e2⟩ := h10 hs
    simp only [toksSplit, hs, Bool.false_eq_true, ↓reduceIte, List.nil_append, e1, e2]
    exact pSplit_none f r hn
  | true =>
    simp only [toksSplit, hs, ↓reduceIte, List.cons_append, List.append_assoc]
    have := pSplit_some f s.chunkIns s.chunkOuts r h6 h8 h7 h9 hf
    simpa only [List.append_assoc] using this

theorem pStageBodyR_exact (f : Nat) (name : Bytes) (ts : List Tok) :
    pStageBodyR readGBTok f name ts = pStageBody f name ts := by
  unfold pStageBodyR pStageBody
  simp only [Martian.FormatRes.pTailR_exact]
  rfl

theorem pStageR_exact (ts : List Tok) : pStageR readGBTok ts = pStage ts := by
  unfold pStageR pStage
  simp only [pStageBodyR_exact]
  rfl

theorem pStageAllR_exact (ts : List Tok) : pStageAllR readGBTok ts = pStageAll ts := by
  unfold pStageAllR pStageAll
  rw [pStageR_exact]
  rfl

/-- the model reader of section StageDeclarations is the parameterised reader with the exact
reading of `mem_gb` / `vmem_gb` -/
theorem parseStage_eq (src : Bytes) : parseStage src = (lexAll src).bind (pStageAllR readGBTok) := by
  unfold parseStage
  congr 1
  funext ts
  exact (pStageAllR_exact ts).symm

theorem pStageBodyR_toks (rd : Tok → Option Int) (s : Stage) (hw : wfStage s = true)
    (hrd : ∀ r, s.res = some r → ReadsBack rd r) (f : Nat) (rest : List Tok)
    (hf : (toksParams s.ins).length + (toksParams s.outs).length + (toksParams s.chunkIns).length +
      (toksParams s.chunkOuts).length < f)
    (hr : stageEnd rest = true) :
    pStageBodyR rd f s.id (toksParams s.ins ++ toksParams s.outs ++ toksSrc s.lang s.path s.args ++
      toksSplit s ++ toksTail s.res s.retain ++ rest) = some (s, rest) := by
  obtain ⟨hr1, hr2, hr3⟩ := stageEnd_notId hr
  obtain ⟨_, h2, h3, h4, h5, _, _, _, _, _, h11, h12, _⟩ := wfStage_parts hw
  have hin : sIn ≠ sSrc := by decide
  have hout : sOut ≠ sSrc := by decide
  have e0 : toksParams s.ins ++ toksParams s.outs ++ toksSrc s.lang s.path s.args ++
      toksSplit s ++ toksTail s.res s.retain ++ rest =
      toksParams s.ins ++ (toksParams s.outs ++ (toksSrc s.lang s.path s.args ++
        (toksSplit s ++ (toksTail s.res s.retain ++ rest)))) := by
    simp only [List.append_assoc]
  have a1 := pInParams_toks s.ins f (toksParams s.outs ++ (toksSrc s.lang s.path s.args ++
      (toksSplit s ++ (toksTail s.res s.retain ++ rest)))) h2 h3 (by omega)
    (headKw_in_outs s.outs _ h5 (headKw_src sIn hin _ _ _ _))
  have a2 := pOutParams_toks s.outs f (toksSrc s.lang s.path s.args ++
      (toksSplit s ++ (toksTail s.res s.retain ++ rest))) h4 h5 (by omega) (headKw_src sOut hout _ _ _ _)
  have a3 := pSrc_toks s.lang s.path s.args h11 (toksSplit s ++ (toksTail s.res s.retain ++ rest))
  obtain ⟨r, er, a4⟩ := pSplit_toks s hw f rest (by omega) hr1
  have a5 := pTailR_toks rd s.res s.retain h12 hrd rest hr2 hr3
  rw [er] at a5
  rw [e0]
  simp only [pStageBodyR, a1, a2, a3, a4, a5]

theorem pStageR_toks (rd : Tok → Option Int) (s : Stage) (hw : wfStage s = true)
    (hrd : ∀ r, s.res = some r → ReadsBack rd r) (rest : List Tok) (hr : stageEnd rest = true) :
    pStageR rd (toksStage s ++ rest) = some (s, rest) := by
  have e : toksStage s ++ rest = .reserved sStage :: .id s.id :: tLP ::
      (toksParams s.ins ++ toksParams s.outs ++ toksSrc s.lang s.path s.args ++ toksSplit s ++
        toksTail s.res s.retain ++ rest) := by
    simp only [toksStage, List.cons_append, List.append_assoc]
  rw [e]
  have hlen : (toksParams s.ins).length + (toksParams s.outs).length + (toksParams s.chunkIns).length +
      (toksParams s.chunkOuts).length < (Tok.reserved sStage :: .id s.id :: tLP ::
        (toksParams s.ins ++ toksParams s.outs ++ toksSrc s.lang s.path s.args ++ toksSplit s ++
          toksTail s.res s.retain ++ rest)).length + 1 := by
    obtain ⟨_, _, _, _, _, _, _, _, _, h10, _, _, _⟩ := wfStage_parts hw
    cases hs : s.split with
    | false =>
      obtain ⟨e1, e2⟩ := h10 hs
      simp only [List.length_cons, List.length_append, e1, e2, toksParams, List.length_nil]
      omega
    | true =>
      simp only [List.length_cons, List.length_append, toksSplit, hs, ↓reduceIte]
      omega
  have h := pStageBodyR_toks rd s hw hrd _ rest hlen hr
  simp only [pStageR, tLP, and_self, ↓reduceIte]
  exact h

theorem pStageAllR_toks (rd : Tok → Option Int) (s : Stage) (hw : wfStage s = true)
    (hrd : ∀ r, s.res = some r → ReadsBack rd r) : pStageAllR rd (toksStage s) = some s := by
  have h := pStageR_toks rd s hw hrd [] rfl
  rw [List.append_nil] at h
  simp only [pStageAllR, h]

theorem readsBack_exact {s : Stage} (hw : wfStage s = true) : ∀ r, s.res = some r → ReadsBack readGBTok r := by
  intro r hr
  obtain ⟨_, _, _, _, _, _, _, _, _, _, _, h12, _⟩ := wfStage_parts hw
  rw [hr] at h12
  exact Martian.FormatRes.readsBack_exact h12

theorem pStageBody_toks (s : Stage) (hw : wfStage s = true) (f : Nat) (rest : List Tok)
    (hf : (toksParams s.ins).length + (toksParams s.outs).length + (toksParams s.chunkIns).length +
      (toksParams s.chunkOuts).length < f)
    (hr : stageEnd rest = true) :
    pStageBody f s.id (toksParams s.ins ++ toksParams s.outs ++ toksSrc s.lang s.path s.args ++
      toksSplit s ++ toksTail s.res s.retain ++ rest) = some (s, rest) := by
  rw [← pStageBodyR_exact]
  exact pStageBodyR_toks _ s hw (readsBack_exact hw) f rest hf hr

theorem pStageAll_toks (s : Stage) (hw : wfStage s = true) : pStageAll (toksStage s) = some s := by
  rw [← pStageAllR_exact]
  exact pStageAllR_toks _ s hw (readsBack_exact hw)

open Martian.FormatDecl (sInt sPath sFloat sBool) in
/-- the example of the non-vacuity statements: `stage S(in int a "h", in path[] b…(31 bytes),
out float, out map<json.gz[]>[] x "h…(21 bytes)" "o", src comp "bin/x -a b",) split (in int chunk
"c", out bool "" "on",) using (mem_gb = -0.5, special = "hi", threads = 1e+06, vmem_gb = 1.5,
volatile = strict,) retain (x, retain,)` -/
def exampleStage : Stage :=
  { id := [0x53],
    ins := [⟨⟨⟨[sInt], 0, 0⟩, [0x61], [0x68], []⟩, false⟩,
            ⟨⟨⟨[sPath], 1, 0⟩, List.replicate 31 0x62, [], []⟩, false⟩],
    outs := [⟨⟨⟨[sFloat], 0, 0⟩, sDefault, [], []⟩, true⟩,
             ⟨⟨⟨[[0x6A, 0x73, 0x6F, 0x6E], [0x67, 0x7A]], 1, 2⟩, [0x78], List.replicate 21 0x68, [0x6F]⟩, true⟩],
    lang := .comp, path := [0x62, 0x69, 0x6E, 0x2F, 0x78], args := [[0x2D, 0x61], [0x62]],
    split := true,
    chunkIns := [⟨⟨⟨[sInt], 0, 0⟩, [0x63, 0x68, 0x75, 0x6E, 0x6B], [0x63], []⟩, false⟩],
    chunkOuts := [⟨⟨⟨[sBool], 0, 0⟩, sDefault, [], [0x6F, 0x6E]⟩, true⟩],
    res := some ⟨some (-512), some [0x68, 0x69], some [0x31, 0x65, 0x2B, 0x30, 0x36], some 1536, some true⟩,
    retain := some [[0x78], sRetain] }

open Martian.FormatDecl (sPath sFloat) in
/-- the same stage with an id of 30 and a help text of 20 bytes: at the thresholds, not over them -/
def exampleStage30 : Stage :=
  { exampleStage with
    ins := [⟨⟨⟨[sPath], 1, 0⟩, List.replicate 30 0x62, [], []⟩, false⟩],
    outs := [⟨⟨⟨[sFloat], 0, 0⟩, [0x78], List.replicate 20 0x68, [0x6F]⟩, true⟩] }

end Martian.FormatStage
