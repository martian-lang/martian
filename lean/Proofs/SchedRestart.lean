import Proofs.SchedProgress
import Proofs.SchedRun

/-! The completion chain across interruptions (default reset mode): what a finished
pipestance looks like after any number of crash / restart / partial resets — the
same as after an uninterrupted run (C05 `restart_completes_same_completion_set_partial`). -/
namespace Martian.Sched

theorem run_cleanReach {g : List NodeInfo} {σ : Nat → State} {es : Nat → Ev}
    (hrun : Run (init g) σ es) (hnf : ∀ i, (es i).failing = false) : ∀ i, CleanReach g (σ i) :=
  hrun.inv (cleanReach_init g) fun i => cleanReach_step (hrun.en i) (hnf i)

theorem dst_none_of {s : State} (hobj : ObjsInv s) (hrole : RoleInv s) {o : Obj}
    (hr : o.r ≠ .fork)
    (hc : (s.m o).disk.has .errors = false ∧ (s.m o).disk.has .assert = false)
    (hj : (s.m o).disk.has .jobinfo = false) (hcomp : (s.m o).disk.has .complete = false) :
    s.dst o = none := by
  have hlog : (s.m o).disk.has .log = false := by
    cases hjo : jobObj (s.kind o.n) o.r
    · exact ((hrole o).nj hjo).1
    · exact Bool.eq_false_iff.mpr fun hl => by simp [(hobj o).kk hjo (.inl hl)] at hj
  unfold State.dst
  rw [metaState_clean hc.1 hc.2, hcomp, (hrole o).dis hr, hlog, hj]
  rfl

/-- the per-job outcome a finished pipestance shows, as a function of the environment's
choices only (was the fork run or disabled; how many chunks did the split define) -/
def expectedOutcome (forkComplete : Bool) (nch : Nat) : Role → Option MState
  | .chunk i => if forkComplete && decide (i < nch) then some .complete else none
  | _ => if forkComplete then some .complete else none

theorem finished_disabled {s : State} (hobj : ObjsInv s) {n f : Nat} (hdone : fmDone s n f = true)
    (hfc : (s.m ⟨n, f, .fork⟩).disk.has .complete = false) :
    (s.m ⟨n, f, .fork⟩).disk.has .disabled = true :=
  (hobj ⟨n, f, .fork⟩).sub _ ((fmDone_iff.mp hdone).2.2.resolve_left fun h' => by
    simp [(hobj ⟨n, f, .fork⟩).sub _ h'] at hfc)

/-- what the directories of a finished stage fork contain: everything complete (split,
each defined chunk, join; nothing beyond) if the fork ran, nothing at all if it was disabled -/
theorem finished_fork_outcome {g : List NodeInfo} {s : State} (h : CleanReach g s) {n f : Nat}
    (hk : s.kind n ≠ .pipeline) (hdone : fmDone s n f = true) (r : Role) (hr : r ≠ .fork) :
    s.dst ⟨n, f, r⟩ = expectedOutcome ((s.m ⟨n, f, .fork⟩).disk.has .complete) (s.nch n f) r := by
  have hobj := reach_objsInv h.reach
  have hrole := reach_roleInv h.reach
  have hF := (reach_inv h.reach).chainF
  have hcl := h.clean n f
  cases hfc : (s.m ⟨n, f, .fork⟩).disk.has .complete
  · obtain ⟨a, b⟩ := h.chain.dis n f hk (finished_disabled hobj hdone hfc) r hr
    have := dst_none_of hobj hrole (o := ⟨n, f, r⟩) hr (hcl r) a b
    cases r <;> simp [expectedOutcome, this]
  · have hjc := h.chain.c1 n f hk hfc
    have hje : ¬ joinEmpty s n f := fun h => by simp [h.2] at hjc
    cases r with
    | split => simp [expectedOutcome, dst_complete_of (hcl .split) (hF.k2 n f (.inl hje)).1]
    | chunk i =>
      by_cases hi : i < s.nch n f
      · simp [expectedOutcome, hi, dst_complete_of (hcl (.chunk i)) (hF.k1 n f hje i hi).1]
      · have empty : ∀ y, (s.m ⟨n, f, .chunk i⟩).disk.has y = false := fun y =>
          Bool.eq_false_iff.mpr fun hx => hi (hF.k0 n f i y hx)
        simp [expectedOutcome, hi,
          dst_none_of hobj hrole (o := ⟨n, f, .chunk i⟩) (by simp) (hcl _) (empty _) (empty _)]
    | join => simp [expectedOutcome, dst_complete_of (hcl .join) hjc]
    | fork => exact absurd rfl hr

/-- the environment's choices two runs may differ in: fork sets, chunk counts, and which
forks were disabled -/
def SameChoices (s s' : State) : Prop :=
  ∀ n, n < s.nodes.length → s.forksOf n = s'.forksOf n ∧
    ∀ f, f ∈ s.forksOf n → s.nch n f = s'.nch n f ∧
      (s.m ⟨n, f, .fork⟩).disk.has .complete = (s'.m ⟨n, f, .fork⟩).disk.has .complete

instance (s s' : State) : Decidable (SameChoices s s') := by unfold SameChoices; exact inferInstance

theorem finished_fork_dst {s : State} (hobj : ObjsInv s) (hclean : CleanInv s) {n f : Nat}
    (hdone : fmDone s n f = true) :
    s.dst ⟨n, f, .fork⟩ =
      if (s.m ⟨n, f, .fork⟩).disk.has .complete then some .complete else some .disabled := by
  have hcl := hclean n f .fork
  cases hfc : (s.m ⟨n, f, .fork⟩).disk.has .complete
  · unfold State.dst
    rw [metaState_clean hcl.1 hcl.2, hfc, finished_disabled hobj hdone hfc]; rfl
  · simp [dst_complete_of hcl hfc]

/-- two finished states reached without failure events that agree on the environment's choices
agree on the directory state of every object of every stage fork -/
theorem same_outcomes {g : List NodeInfo} {s s' : State} (h : CleanReach g s)
    (h' : CleanReach g s') (hfin : Finished s) (hfin' : Finished s') (hsame : SameChoices s s')
    (n f : Nat) (r : Role) (hnl : n < s.nodes.length) (hf : f ∈ s.forksOf n)
    (hk : s.kind n ≠ .pipeline) : s.dst ⟨n, f, r⟩ = s'.dst ⟨n, f, r⟩ := by
  have hn : s.nodes = s'.nodes := (reach_nodes h.reach).trans (reach_nodes h'.reach).symm
  obtain ⟨hfo, hrest⟩ := hsame n hnl
  obtain ⟨hnc, hcomp⟩ := hrest f hf
  have hd : fmDone s n f = true := nodeDone_iff.mp (hfin.2 n hnl).1 f hf
  have hd' : fmDone s' n f = true :=
    nodeDone_iff.mp (hfin'.2 n (by rw [← hn]; exact hnl)).1 f (by rw [← hfo]; exact hf)
  have hk' : s'.kind n ≠ .pipeline := by simpa [State.kind, ← hn] using hk
  by_cases hr : r = .fork
  · subst hr
    rw [finished_fork_dst (reach_objsInv h.reach) h.clean hd,
      finished_fork_dst (reach_objsInv h'.reach) h'.clean hd', hcomp]
  · rw [finished_fork_outcome h hk hd r hr, finished_fork_outcome h' hk' hd' r hr, hnc, hcomp]

/-- Two fair runs of the same acyclic graph from its initial state, both without failure events,
both with finitely many interruptions and fork-structure events, mrp up and every dead job reset
after the last one: both finish, and from then on, whenever they agree on the environment's
choices, the directory state of every object of every stage fork is the same in both. -/
theorem runs_complete_same {g : List NodeInfo} (hac : Acyclic g)
    {σ : Nat → State} {es : Nat → Ev} (hrun : Run (init g) σ es)
    (hnf : ∀ i, (es i).failing = false) {K : Nat}
    (hK : ∀ i, K ≤ i → (es i).structural (σ i) = false) (hup : (σ K).phase ≠ .crashed)
    (halive : AliveInv (σ K)) (hfair : Fair σ)
    {σ' : Nat → State} {es' : Nat → Ev} (hrun' : Run (init g) σ' es')
    (hnf' : ∀ i, (es' i).failing = false) {K' : Nat}
    (hK' : ∀ i, K' ≤ i → (es' i).structural (σ' i) = false) (hup' : (σ' K').phase ≠ .crashed)
    (halive' : AliveInv (σ' K')) (hfair' : Fair σ') :
    ∃ M, ∀ j, M ≤ j → Finished (σ j) ∧ Finished (σ' j) ∧
      (SameChoices (σ j) (σ' j) →
        ∀ n f r, n < g.length → f ∈ (σ j).forksOf n → (σ j).kind n ≠ .pipeline →
          (σ j).dst ⟨n, f, r⟩ = (σ' j).dst ⟨n, f, r⟩) := by
  obtain ⟨M, _, hM⟩ := interrupted_run_finishes hrun (liveInv_init g) hac hnf hK hup halive hfair
  obtain ⟨M', _, hM'⟩ :=
    interrupted_run_finishes hrun' (liveInv_init g) hac hnf' hK' hup' halive' hfair'
  refine ⟨max M M', fun j hj => ⟨hM j (by omega), hM' j (by omega), ?_⟩⟩
  intro hsame n f r hn hf hk
  exact same_outcomes (run_cleanReach hrun hnf j) (run_cleanReach hrun' hnf' j)
    (hM j (by omega)) (hM' j (by omega)) hsame n f r (by rw [run_nodes hrun j]; exact hn) hf hk

end Martian.Sched
