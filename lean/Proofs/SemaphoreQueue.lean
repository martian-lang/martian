/-
C12, queue-query reconciliation (model: Martian/SemaphoreQueue.lean).  `JobStep` lists what an event
can do to one job (`stepJob_spec`); the facts about one event (`stepJob_notQueued`, `stepJob_since`,
`stepJob_lost`) are read off it, those about a run (`jobRun_reported`, `jobRun_lost`) follow by
induction, and `lost_job_failed` puts them together: a job that vanished is failed after the grace period.
-/
import Martian.SemaphoreQueue

namespace Martian.SemaphoreQueue

theorem step_jobs (s : Q) (ev : Ev) : (step s ev).jobs = s.jobs.map (stepJob s ev) := rfl
theorem step_grace (s : Q) (ev : Ev) : (step s ev).grace = s.grace := rfl

theorem run_grace (s : Q) (evs : List Ev) : (run s evs).grace = s.grace := by
  fun_induction run s evs with
  | case1 => rfl
  | case2 s ev evs ih => exact ih
theorem run_jobs (s : Q) (evs : List Ev) : (run s evs).jobs = s.jobs.map (jobRun s evs) := by
  induction evs generalizing s with
  | nil => simp [run, jobRun]
  | cons ev evs ih =>
    simp only [run, ih, step_jobs, List.map_map]
    rfl

theorem run_append (s : Q) (a b : List Ev) : run s (a ++ b) = run (run s a) b := by
  induction a generalizing s with
  | nil => rfl
  | cons ev a ih => simp [run, ih]

theorem jobRun_append (s : Q) (a b : List Ev) (j : Job) :
    jobRun s (a ++ b) j = jobRun (run s a) b (jobRun s a j) := by
  induction a generalizing s j with
  | nil => rfl
  | cons ev a ih => simp [run, jobRun, ih]

theorem alive_ne_notQueued {st : JSt} (h : st.alive = true) : st ≠ .notQueued := by
  cases st <;> simp [JSt.alive] at h ⊢

theorem sync_alive (j : Job) (h : j.st.alive = true) : j.sync = { j with st := j.disk } := if_pos h

theorem sync_not_alive (j : Job) (h : j.st.alive = false) : j.sync = j :=
  if_neg (by rw [h]; exact Bool.false_ne_true)

theorem endRefresh_none (g t : Nat) (j : Job) (h : j.since = none) : endRefresh g t j = j := by
  simp [endRefresh, h]

theorem endRefresh_lt (g t s0 : Nat) (j : Job) (h : j.since = some s0) (hlt : s0 + g < t) :
    endRefresh g t j =
      if j.st.alive then { j with since := none, st := .notQueued } else { j with since := none } := by
  simp [endRefresh, h, hlt]

theorem endRefresh_ge (g t s0 : Nat) (j : Job) (h : j.since = some s0) (hge : ¬ s0 + g < t) :
    endRefresh g t j = j := by
  simp [endRefresh, h, hge]

/-- Everything an event can do to one job: nothing; mrp looks at the job's files (`sync` in a
refresh, `poll()` in `failNotRunning`); an answer that omits the job marks it; a refresh after the
grace period fails it when it still looks alive both ways and otherwise only clears the mark; the
job writes a file.  The facts about `stepJob` below are read off this list. -/
inductive JobStep (s : Q) (j : Job) : Ev → Job → Prop
  | same (ev : Ev) : JobStep s j ev j
  | poll (ev : Ev) : j.st.alive = true → JobStep s j ev { j with st := j.disk }
  | mark (t : Nat) (o : List String) : j.jobid ∉ o → j.st.alive = true → j.disk.alive = true →
      j.since = none → JobStep s j (.answer t (some o)) { j with st := j.disk, since := some t }
  | fail (t s0 : Nat) : j.since = some s0 → s0 + s.grace < t → j.st.alive = true → j.disk.alive = true →
      JobStep s j (.refresh t) { j with since := none, st := .notQueued }
  | clear (t : Nat) : j.st.alive = false → JobStep s j (.refresh t) { j with since := none }
  | clearDone (t : Nat) : j.st.alive = true → j.disk.alive = false →
      JobStep s j (.refresh t) { j with st := j.disk, since := none }
  | wrote (id : String) (d : JSt) : j.jobid = id → j.disk.alive = true → d ≠ .notQueued →
      JobStep s j (.progress id d) { j with disk := d }

theorem failNotRunning_step (s : Q) (t : Nat) (o : List String) (j : Job) (h : j.jobid ∉ o) :
    JobStep s j (.answer t (some o)) (failNotRunning t j) := by
  unfold failNotRunning
  by_cases h1 : (!j.hasId) = true
  · rw [if_pos h1]; exact .same _
  · by_cases h2 : (!j.st.alive) = true
    · rw [if_neg h1, if_pos h2]; exact .same _
    · have ha : j.st.alive = true := by simpa using h2
      rw [if_neg h1, if_neg h2]
      simp only
      by_cases h3 : (!j.disk.alive) = true
      · rw [if_pos h3]; exact .poll _ ha
      · rw [if_neg h3]
        by_cases h4 : j.since.isSome = true
        · rw [if_pos h4]; exact .poll _ ha
        · rw [if_neg h4]
          exact .mark t o h ha (by simpa using h3) (by simpa using h4)

theorem stepJob_spec (s : Q) (ev : Ev) (j : Job) : JobStep s j ev (stepJob s ev j) := by
  cases ev with
  | issue t => exact .same _
  | answer t out =>
    simp only [stepJob]
    cases s.active with
    | none => exact .same _
    | some ids =>
      simp only
      split
      · rename_i hc
        cases out with
        | none => simp [Option.getD] at hc
        | some o =>
          simp [Option.getD] at hc
          exact failNotRunning_step s t o j hc.2
      · exact .same _
  | refresh t =>
    simp only [stepJob]
    by_cases ha : j.st.alive = true
    · rw [sync_alive j ha]
      rcases Option.eq_none_or_eq_some j.since with hs | ⟨s0, hs⟩
      · rw [endRefresh_none _ _ { j with st := j.disk } hs]; exact .poll _ ha
      · by_cases hlt : s0 + s.grace < t
        · rw [endRefresh_lt _ _ s0 { j with st := j.disk } hs hlt]
          by_cases hd : j.disk.alive = true
          · rw [if_pos hd]; exact .fail t s0 hs hlt ha hd
          · rw [if_neg hd]; exact .clearDone t ha (by simpa using hd)
        · rw [endRefresh_ge _ _ s0 { j with st := j.disk } hs hlt]; exact .poll _ ha
    · have ha' : j.st.alive = false := by simpa using ha
      rw [sync_not_alive j ha']
      rcases Option.eq_none_or_eq_some j.since with hs | ⟨s0, hs⟩
      · rw [endRefresh_none _ _ _ hs]; exact .same _
      · by_cases hlt : s0 + s.grace < t
        · rw [endRefresh_lt _ _ s0 _ hs hlt, if_neg ha]; exact .clear t ha'
        · rw [endRefresh_ge _ _ s0 _ hs hlt]; exact .same _
  | progress id d =>
    simp only [stepJob]
    split
    · rename_i hc
      simp only [Bool.and_eq_true, bne_iff_ne, ne_eq] at hc
      exact .wrote id d (by simpa using hc.1.1) hc.1.2 hc.2
    · exact .same _

/-- the form in which the relation is used: a statement about every possible outcome -/
theorem stepJob_ind (s : Q) (ev : Ev) (j : Job) (P : Job → Prop)
    (h : ∀ j', JobStep s j ev j' → P j') : P (stepJob s ev j) := h _ (stepJob_spec s ev j)

theorem stepJob_jobid (s : Q) (ev : Ev) (j : Job) : (stepJob s ev j).jobid = j.jobid := by
  refine stepJob_ind s ev j (·.jobid = j.jobid) fun j' h => ?_
  cases h <;> rfl

theorem stepJob_disk_ne (s : Q) (ev : Ev) (j : Job) (h : j.disk ≠ .notQueued) :
    (stepJob s ev j).disk ≠ .notQueued := by
  refine stepJob_ind s ev j (·.disk ≠ .notQueued) fun j' hs => ?_
  cases hs with
  | wrote id d _ _ hd => exact hd
  | _ => exact h

theorem stepJob_notQueued (s : Q) (ev : Ev) (j : Job)
    (h : (stepJob s ev j).st = .notQueued) (h0 : j.st ≠ .notQueued) (hd : j.disk ≠ .notQueued) :
    ∃ t s0, ev = .refresh t ∧ j.since = some s0 ∧ s0 + s.grace < t ∧
      j.st.alive = true ∧ j.disk.alive = true := by
  revert h
  refine stepJob_ind s ev j (fun j' => j'.st = .notQueued → _) fun j' hs h => ?_
  cases hs with
  | fail t s0 h1 h2 h3 h4 => exact ⟨t, s0, rfl, h1, h2, h3, h4⟩
  | same | clear | wrote => exact absurd h h0
  | poll | mark | clearDone => exact absurd h hd

theorem stepJob_since (s : Q) (ev : Ev) (j : Job) (s0 : Nat)
    (h : (stepJob s ev j).since = some s0) :
    j.since = some s0 ∨ ∃ out, ev = .answer s0 (some out) ∧ j.jobid ∉ out := by
  revert h
  refine stepJob_ind s ev j (fun j' => j'.since = some s0 → _) fun j' hs h => ?_
  cases hs with
  | mark t o hno => cases h; exact Or.inr ⟨o, rfl, hno⟩
  | same | poll | wrote => exact Or.inl h
  | fail | clear | clearDone => cases h

theorem stepJob_since_none (s : Q) (ev : Ev) (j : Job) (hr : ev.reports j.jobid)
    (hs : j.since = none) : (stepJob s ev j).since = none := by
  cases hq : (stepJob s ev j).since with
  | none => rfl
  | some s0 =>
    exfalso
    rcases stepJob_since s ev j s0 hq with h | ⟨out, rfl, hno⟩
    · rw [hs] at h; cases h
    · exact hno hr

theorem stepJob_keeps_notQueued (s : Q) (ev : Ev) (j : Job) (h : j.st = .notQueued) :
    (stepJob s ev j).st = .notQueued := by
  have hna : j.st.alive = false := by rw [h]; rfl
  refine stepJob_ind s ev j (·.st = .notQueued) fun j' hs => ?_
  cases hs with
  | same | clear | wrote => exact h
  | fail => rfl
  | poll _ ha | mark _ _ _ ha | clearDone _ ha => rw [hna] at ha; cases ha

theorem failNotRunning_inFlight (t : Nat) (j : Job) (hok : j.inFlight) :
    failNotRunning t j = { j with st := j.disk, since := some (j.since.getD t) } := by
  obtain ⟨h1, h2, h3, _⟩ := hok
  simp only [failNotRunning, h3, h1, h2, Bool.not_true, Bool.false_eq_true, if_false]
  cases j.since <;> rfl

theorem stepJob_lost (s : Q) (ev : Ev) (j : Job) (hl : ev.lostFor j.jobid) (hok : j.inFlight) :
    (stepJob s ev j).st = .notQueued ∨
    ((stepJob s ev j).inFlight ∧ ∀ s0, j.since = some s0 → (stepJob s ev j).since = some s0) := by
  have hok' : Job.inFlight { j with st := j.disk } := ⟨hok.2.1, hok.2⟩
  refine stepJob_ind s ev j (fun j' => j'.st = .notQueued ∨ (j'.inFlight ∧ ∀ s0, j.since = some s0 → j'.since = some s0))
    fun j' hs => ?_
  cases hs with
  | same => exact Or.inr ⟨hok, fun _ h => h⟩
  | poll => exact Or.inr ⟨hok', fun _ h => h⟩
  | mark t o _ _ _ hn => exact Or.inr ⟨hok', fun s0 h => by rw [hn] at h; cases h⟩
  | fail => exact Or.inl rfl
  | clear _ ha => rw [hok.1] at ha; cases ha
  | clearDone _ _ hd => rw [hok.2.1] at hd; cases hd
  | wrote id d hid => exact absurd hid.symm hl

theorem stepJob_answer_marks (s : Q) (ids out : List String) (t : Nat) (j : Job)
    (hact : s.active = some ids) (hin : j.jobid ∈ ids) (hout : j.jobid ∉ out) (hok : j.inFlight) :
    ∃ s0, (stepJob s (.answer t (some out)) j).since = some s0 ∧ (s0 = t ∨ j.since = some s0) := by
  have hc : (ids.contains j.jobid && !(out.contains j.jobid)) = true := by
    simp [hin, hout]
  simp only [stepJob, hact, Option.getD, hc, if_true, failNotRunning_inFlight t j hok]
  cases j.since with
  | none => exact ⟨t, rfl, Or.inl rfl⟩
  | some s0 => exact ⟨s0, rfl, Or.inr rfl⟩

theorem stepJob_refresh_fails (s : Q) (t s0 : Nat) (j : Job) (hok : j.inFlight)
    (hm : j.since = some s0) (hlt : s0 + s.grace < t) :
    (stepJob s (.refresh t) j).st = .notQueued := by
  simp only [stepJob, sync_alive j hok.1]
  rw [endRefresh_lt _ _ s0 { j with st := j.disk } hm hlt, if_pos hok.2.1]

theorem stepActive_notAnswer (s : Q) (ev : Ev) (ids : List String) (h : s.active = some ids)
    (hn : ev.notAnswer) : (step s ev).active = some ids := by
  cases ev with
  | issue t => simp [step, stepActive, h]
  | answer t out => exact absurd hn (by simp [Ev.notAnswer])
  | refresh t => exact h
  | progress id d => exact h

theorem run_active_noAnswer (s : Q) (evs : List Ev) (ids : List String) (h : s.active = some ids)
    (hn : noAnswer evs) : (run s evs).active = some ids := by
  induction evs generalizing s with
  | nil => exact h
  | cons ev evs ih =>
    simp only [run]
    exact ih (step s ev) (stepActive_notAnswer s ev ids h (hn ev (by simp)))
      (fun e he => hn e (by simp [he]))

theorem mem_queryIds (jobs : List Job) (j : Job) (hj : j ∈ jobs) (hok : j.inFlight) :
    j.jobid ∈ queryIds jobs := by
  obtain ⟨h1, _, h3, h4⟩ := hok
  simp only [queryIds, List.mem_map, List.mem_filter]
  exact ⟨j, ⟨hj, by simp [h1, h3, h4]⟩, rfl⟩

theorem issue_effective (s : Q) (t : Nat) (j : Job) (hj : j ∈ s.jobs) (hok : j.inFlight)
    (hact : s.active = none) (hrate : rateLimited s t = false) :
    ∃ ids, (step s (.issue t)).active = some ids ∧ j.jobid ∈ ids := by
  have hm := mem_queryIds s.jobs j hj hok
  have hne : (queryIds s.jobs).isEmpty = false := by
    cases hq : queryIds s.jobs with
    | nil => rw [hq] at hm; cases hm
    | cons a l => rfl
  exact ⟨queryIds s.jobs, by simp [step, stepActive, hact, hrate, hne], hm⟩

theorem jobRun_jobid (s : Q) (evs : List Ev) (j : Job) : (jobRun s evs j).jobid = j.jobid := by
  fun_induction jobRun s evs j with
  | case1 => rfl
  | case2 s ev evs j ih => rw [ih, stepJob_jobid]

theorem jobRun_keeps_notQueued (s : Q) (evs : List Ev) (j : Job) (h : j.st = .notQueued) :
    (jobRun s evs j).st = .notQueued := by
  fun_induction jobRun s evs j with
  | case1 => exact h
  | case2 s ev evs j ih => exact ih (stepJob_keeps_notQueued s ev j h)

theorem jobRun_lost (s : Q) (evs : List Ev) (j : Job) (hl : Lost j.jobid evs) (hok : j.inFlight) :
    (jobRun s evs j).st = .notQueued ∨
    ((jobRun s evs j).inFlight ∧ ∀ s0, j.since = some s0 → (jobRun s evs j).since = some s0) := by
  induction evs generalizing s j with
  | nil => exact Or.inr ⟨hok, fun _ h => h⟩
  | cons ev evs ih =>
    simp only [jobRun]
    rcases stepJob_lost s ev j (hl ev (by simp)) hok with h | ⟨h, hm⟩
    · exact Or.inl (jobRun_keeps_notQueued _ _ _ h)
    · rcases ih _ _ (by rw [stepJob_jobid]; exact fun e he => hl e (by simp [he])) h with h' | ⟨h', hm'⟩
      · exact Or.inl h'
      · exact Or.inr ⟨h', fun s0 hs => hm' s0 (hm s0 hs)⟩

theorem jobRun_marks_by (s : Q) (evs : List Ev) (j : Job) (t : Nat) (hby : answersBy t evs)
    (h0 : ∀ s0, j.since = some s0 → s0 ≤ t) :
    ∀ s0, (jobRun s evs j).since = some s0 → s0 ≤ t := by
  induction evs generalizing s j with
  | nil => exact h0
  | cons ev evs ih =>
    simp only [jobRun]
    apply ih _ _ (fun e he => hby e (by simp [he]))
    intro s0 hs
    rcases stepJob_since s ev j s0 hs with h | ⟨out, rfl, _⟩
    · exact h0 s0 h
    · have := hby (.answer s0 (some out)) (by simp)
      exact this

theorem noAnswer_answersBy (t : Nat) (evs : List Ev) (h : noAnswer evs) : answersBy t evs := by
  intro ev he
  have := h ev he
  cases ev <;> simp_all [Ev.notAnswer, Ev.answerBy]

theorem jobRun_reported (s : Q) (evs : List Ev) (j : Job) (hr : Reported j.jobid evs)
    (hs : j.since = none) (hd : j.disk ≠ .notQueued) (h0 : j.st ≠ .notQueued) :
    (jobRun s evs j).since = none ∧ (jobRun s evs j).st ≠ .notQueued := by
  induction evs generalizing s j with
  | nil => exact ⟨hs, h0⟩
  | cons ev evs ih =>
    simp only [jobRun]
    apply ih
    · rw [stepJob_jobid]; exact fun e he => hr e (by simp [he])
    · exact stepJob_since_none s ev j (hr ev (by simp)) hs
    · exact stepJob_disk_ne s ev j hd
    · intro hq
      obtain ⟨t, s0, _, hsome, _⟩ := stepJob_notQueued s ev j hq h0 hd
      rw [hs] at hsome; cases hsome

theorem lost_job_failed (s : Q) (j : Job) (pre mid1 mid2 : List Ev) (t1 t2 t3 : Nat)
    (out : List String) (hj : j ∈ s.jobs) (hok : j.inFlight)
    (hl : Lost j.jobid (pre ++ (Ev.issue t1 :: (mid1 ++ (Ev.answer t2 (some out) :: mid2)))))
    (hact : (run s pre).active = none) (hrate : rateLimited (run s pre) t1 = false)
    (hmid : noAnswer mid1) (hby : answersBy t2 pre) (h0 : ∀ s0, j.since = some s0 → s0 ≤ t2)
    (ht : t2 + s.grace < t3) :
    (jobRun s (pre ++ (Ev.issue t1 :: (mid1 ++ (Ev.answer t2 (some out) :: (mid2 ++ [Ev.refresh t3]))))) j).st
      = .notQueued := by
  obtain ⟨hlpre, hl2⟩ := List.forall_mem_append.mp hl
  obtain ⟨hlmid1, hl3⟩ := List.forall_mem_append.mp (List.forall_mem_cons.mp hl2).2
  obtain ⟨hlans, hlmid2⟩ := List.forall_mem_cons.mp hl3
  rw [jobRun_append]
  have hid1 : (jobRun s pre j).jobid = j.jobid := jobRun_jobid s pre j
  rcases jobRun_lost s pre j hlpre hok with h | ⟨hok1, _⟩
  · exact jobRun_keeps_notQueued _ _ _ h
  have hm1 := jobRun_marks_by s pre j t2 hby h0
  obtain ⟨ids, hids, hin⟩ := issue_effective (run s pre) t1 _ (run_jobs s pre ▸ List.mem_map_of_mem hj) hok1 hact hrate
  simp only [jobRun, stepJob]
  rw [jobRun_append]
  have hact3 := run_active_noAnswer _ mid1 ids hids hmid
  have hid3 : (jobRun (step (run s pre) (.issue t1)) mid1 (jobRun s pre j)).jobid = j.jobid := by
    rw [jobRun_jobid, hid1]
  rcases jobRun_lost (step (run s pre) (.issue t1)) mid1 _ (by rw [hid1]; exact hlmid1) hok1 with h | ⟨hok3, _⟩
  · exact jobRun_keeps_notQueued _ _ _ h
  have hm3 := jobRun_marks_by (step (run s pre) (.issue t1)) mid1 _ t2
    (noAnswer_answersBy t2 mid1 hmid) hm1
  simp only [jobRun]
  rw [jobRun_append]
  have hout : (jobRun (step (run s pre) (.issue t1)) mid1 (jobRun s pre j)).jobid ∉ out := by
    rw [hid3]; exact hlans
  obtain ⟨s0, hmark, hs0⟩ := stepJob_answer_marks _ ids out t2 _ hact3 (by rw [hid3, ← hid1]; exact hin) hout hok3
  have hs0le : s0 ≤ t2 := by
    rcases hs0 with rfl | h
    · exact Nat.le_refl _
    · exact hm3 s0 h
  rcases stepJob_lost _ (.answer t2 (some out)) _ (by rw [hid3]; exact hlans) hok3 with h | ⟨hok4, _⟩
  · exact jobRun_keeps_notQueued _ _ _ (jobRun_keeps_notQueued _ _ _ h)
  rcases jobRun_lost _ mid2 _ (by rw [stepJob_jobid, hid3]; exact hlmid2) hok4 with h | ⟨hok5, hm5⟩
  · exact jobRun_keeps_notQueued _ _ _ h
  simp only [jobRun]
  apply stepJob_refresh_fails _ t3 s0 _ hok5 (hm5 s0 hmark)
  simp only [run_grace, step_grace]
  omega

end Martian.SemaphoreQueue
