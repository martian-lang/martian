import Proofs.ShellQuote

/-! Word-splitting lemmas for `formatArgs` (C18). -/
namespace Martian.ShellQuote

theorem sw_nil (cur : Bytes) (w : Bool) (acc : List Bytes) :
    shWordsAux [] cur w acc = some (if w then acc ++ [cur] else acc) := by
  rw [shWordsAux.eq_def]

theorem sw_blank (b : UInt8) (r cur : Bytes) (w : Bool) (acc : List Bytes) (hb : isBlank b = true) :
    shWordsAux (b :: r) cur w acc = shWordsAux r [] false (if w then acc ++ [cur] else acc) := by
  rw [shWordsAux.eq_def]; simp [hb]

theorem sw_cont (r cur : Bytes) (w : Bool) (acc : List Bytes) :
    shWordsAux (0x5C :: 0x0A :: r) cur w acc = shWordsAux r cur w acc := by
  rw [shWordsAux.eq_def]; simp [isBlank]

theorem sw_plain (b : UInt8) (r cur : Bytes) (w : Bool) (acc : List Bytes) (hp : isPlain b = true) :
    shWordsAux (b :: r) cur w acc = shWordsAux r (cur ++ [b]) true acc := by
  -- a plain byte is none of the bytes the splitter tests for first
  have hne : ∀ c, isPlain c = false → (b == c) = false := fun c hc =>
    Bool.eq_false_iff.mpr fun h => by rw [eq_of_beq h, hc] at hp; cases hp
  rw [shWordsAux.eq_def]
  simp [isBlank, hne 0x20 (by decide), hne 0x09 (by decide), hne 0x5C (by decide),
    hne 0x22 (by decide), hp]

/-- A double-quoted segment produced by `quote` is consumed as one step and
appends exactly the original bytes to the current word. -/
theorem sw_quote {tbl : EscTable} (ht : TableOK tbl = true) (s rest cur : Bytes) (w : Bool)
    (acc : List Bytes) (hv : validUtf8 s = true) (h0 : (0 : UInt8) ∉ s) :
    shWordsAux (quote tbl s ++ rest) cur w acc = shWordsAux rest (cur ++ s) true acc := by
  have hq : quote tbl s ++ rest = 0x22 :: (quoteBody tbl s ++ 0x22 :: rest) := by
    simp [quote]
  have hd : dqEvalBody (quoteBody tbl s ++ 0x22 :: rest) = some (s, rest) :=
    dqEvalBody_quoteFrom ht s 0 rest hv (by simp) h0
  rw [hq, shWordsAux.eq_def]
  simp only [isBlank]
  have hlen : rest.length < (quoteBody tbl s ++ 0x22 :: rest).length + 1 := by
    simp; omega
  have e1 : ((34 : UInt8) == 32 || (34 : UInt8) == 9) = false := by decide
  have e2 : ((34 : UInt8) == 92) = false := by decide
  have e3 : ((34 : UInt8) == 34) = true := by decide
  simp only [e1, e2, e3, Bool.false_eq_true, if_false, if_true]
  split
  · rename_i v rest' heq
    rw [hd] at heq
    injection heq with heq
    injection heq with hv' hr'
    subst hv'; subst hr'
    rw [dif_pos hlen]
  · rename_i heq; rw [hd] at heq; cases heq

theorem sw_sep (rest cur : Bytes) (acc : List Bytes) :
    shWordsAux (sep ++ rest) cur true acc = shWordsAux rest [] false (acc ++ [cur]) := by
  show shWordsAux (0x20 :: 0x5C :: 0x0A :: 0x20 :: 0x20 :: rest) cur true acc = _
  rw [sw_blank _ _ _ _ _ (by decide), sw_cont, sw_blank _ _ _ _ _ (by decide),
    sw_blank _ _ _ _ _ (by decide)]
  simp

theorem sw_plains (k rest cur : Bytes) (w : Bool) (acc : List Bytes)
    (hk : ∀ b ∈ k, isPlain b = true) (hne : k ≠ []) :
    shWordsAux (k ++ rest) cur w acc = shWordsAux rest (cur ++ k) true acc := by
  induction k generalizing cur w with
  | nil => exact absurd rfl hne
  | cons b k ih =>
    rw [List.cons_append, sw_plain b _ _ _ _ (hk b (by simp))]
    by_cases hk' : k = []
    · subst hk'; simp
    · rw [ih (cur ++ [b]) true (fun x hx => hk x (by simp [hx])) hk']
      simp

/-- One `KEY="value" \⏎  ` group. -/
theorem sw_env {tbl : EscTable} (ht : TableOK tbl = true) (k v rest : Bytes) (acc : List Bytes)
    (hk : ∀ b ∈ k, isPlain b = true) (hv : validUtf8 v = true) (h0 : (0 : UInt8) ∉ v) :
    shWordsAux (envStr tbl (k, v) ++ sep ++ rest) [] false acc
      = shWordsAux rest [] false (acc ++ [assignWord (k, v)]) := by
  have hk' : ∀ b ∈ k ++ [0x3D], isPlain b = true := by
    intro b hb
    rcases List.mem_append.mp hb with h | h
    · exact hk b h
    · simp at h; subst h; decide
  have : envStr tbl (k, v) ++ sep ++ rest = (k ++ [0x3D]) ++ (quote tbl v ++ (sep ++ rest)) := by
    simp [envStr]
  rw [this, sw_plains (k ++ [0x3D]) _ [] false acc hk' (by simp),
    sw_quote ht v (sep ++ rest) _ true acc hv h0, sw_sep]
  simp [assignWord]

theorem sw_args {tbl : EscTable} (ht : TableOK tbl = true) (argv : List Bytes) (cur : Bytes)
    (acc : List Bytes) (hv : ∀ a ∈ argv, validUtf8 a = true ∧ (0 : UInt8) ∉ a) :
    shWordsAux ((argv.map fun a => sep ++ quote tbl a).flatten) cur true acc
      = some (acc ++ [cur] ++ argv) := by
  induction argv generalizing cur acc with
  | nil => simp [sw_nil]
  | cons a as ih =>
    have ha := hv a (by simp)
    simp only [List.map_cons, List.flatten_cons, List.append_assoc]
    rw [sw_sep, sw_quote ht a _ [] false _ ha.1 ha.2]
    rw [ih ([] ++ a) (acc ++ [cur]) (fun x hx => hv x (by simp [hx]))]
    simp

theorem sw_envs {tbl : EscTable} (ht : TableOK tbl = true) (envs : List (Bytes × Bytes))
    (tail : Bytes) (acc : List Bytes)
    (hk : ∀ kv ∈ envs, (∀ b ∈ kv.1, isPlain b = true) ∧ validUtf8 kv.2 = true ∧ (0 : UInt8) ∉ kv.2) :
    shWordsAux ((envs.map fun kv => envStr tbl kv ++ sep).flatten ++ tail) [] false acc
      = shWordsAux tail [] false (acc ++ envs.map assignWord) := by
  induction envs generalizing acc with
  | nil => simp
  | cons kv es ih =>
    obtain ⟨k, v⟩ := kv
    have h := hk (k, v) (by simp)
    simp only [List.map_cons, List.flatten_cons, List.append_assoc]
    have := sw_env ht k v ((es.map fun kv => envStr tbl kv ++ sep).flatten ++ tail) acc h.1 h.2.1 h.2.2
    simp only [List.append_assoc] at this
    rw [this, ih (acc ++ [assignWord (k, v)]) (fun x hx => hk x (by simp [hx]))]
    simp

end Martian.ShellQuote
