import Proofs.SchedOnce

/-! Runs of the `Sched` transition system: `Run.inv`, the induction along a run; runs given by a
finite history followed by `stepend` for ever (`prefixState`, `run_of_list`) and what is checked
on the history alone (`getD_all`, `listRun_all`, `listRun_fair`).  Also `Run.inv_from`, `run_reach`, `run_ffInv`. -/
namespace Martian.Sched

theorem Run.inv {P : State → Prop} {s0 : State} {σ : Nat → State} {es : Nat → Ev}
    (hrun : Run s0 σ es) (h0 : P s0) (hstep : ∀ i, P (σ i) → P (apply (σ i) (es i))) :
    ∀ i, P (σ i) := by
  intro i
  induction i with
  | zero => rw [hrun.start]; exact h0
  | succ i ih => rw [hrun.next]; exact hstep i ih

theorem Run.inv_from {P : State → Prop} {s0 : State} {σ : Nat → State} {es : Nat → Ev}
    (hrun : Run s0 σ es) {K : Nat} (h0 : P (σ K))
    (hstep : ∀ i, K ≤ i → P (σ i) → P (apply (σ i) (es i))) : ∀ i, K ≤ i → P (σ i) := by
  intro i hi
  induction i with
  | zero => exact (Nat.le_zero.mp hi) ▸ h0
  | succ i ih =>
    by_cases h : K = i + 1
    · exact h ▸ h0
    · rw [hrun.next]; exact hstep i (by omega) (ih (by omega))

theorem run_reach {g : List NodeInfo} {σ : Nat → State} {es : Nat → Ev}
    (hrun : Run (init g) σ es) : ∀ i, Reach g (σ i) :=
  hrun.inv .init fun i h => .step h (hrun.en i)

theorem run_ffInv {g : List NodeInfo} {σ : Nat → State} {es : Nat → Ev}
    (hrun : Run (init g) σ es) (hff : ∀ i, (es i).failureFree = true) : ∀ i, FFInv (σ i) :=
  fun i => (hrun.inv (ffReach_init g) (fun i => ffReach_step (hrun.en i) (hff i)) i).ffInv

/-- the state after the first `i` events of a list (for concrete runs) -/
def prefixState (s0 : State) (evs : List Ev) (i : Nat) : State := (evs.take i).foldl apply s0

theorem prefixState_succ (s0 : State) (evs : List Ev) (i : Nat) :
    prefixState s0 evs (i + 1) = apply (prefixState s0 evs i) (evs.getD i .stepend) := by
  unfold prefixState
  by_cases h : i < evs.length
  · rw [List.take_add_one, List.foldl_append]
    simp [List.getD, h]
  · have h1 : evs.take (i + 1) = evs := List.take_of_length_le (by omega)
    have h2 : evs.take i = evs := List.take_of_length_le (by omega)
    have h3 : evs.getD i .stepend = .stepend := by
      have : evs[i]? = none := by simp; omega
      simp [List.getD, this]
    rw [h1, h2, h3]; rfl

/-- a finite history followed by `stepend` for ever is a run, if the history is accepted -/
theorem run_of_list (s0 : State) (evs : List Ev)
    (h : ∀ i, i < evs.length → enabled (prefixState s0 evs i) (evs.getD i .stepend) = true) :
    Run s0 (prefixState s0 evs) (fun i => evs.getD i .stepend) := by
  refine ⟨rfl, fun i => ?_, prefixState_succ s0 evs⟩
  by_cases hi : i < evs.length
  · exact h i hi
  · have : evs.getD i .stepend = .stepend := by
      have : evs[i]? = none := by simp; omega
      simp [List.getD, this]
    rw [this]; rfl

theorem prefixState_ge (s0 : State) (evs : List Ev) {i : Nat} (h : evs.length ≤ i) :
    prefixState s0 evs i = prefixState s0 evs evs.length := by
  simp [prefixState, List.take_of_length_le h]

/-- a property of the events of a finite history followed by `stepend` for ever -/
theorem getD_all {p : Ev → Prop} (evs : List Ev) (h : ∀ e ∈ evs, p e) (hd : p .stepend) (i : Nat) :
    p (evs.getD i .stepend) := by
  rw [List.getD_eq_getElem?_getD]
  cases hi : evs[i]? with
  | none => exact hd
  | some e => exact h e (List.mem_of_getElem? hi)

/-- … of events and states from index `K` on: checked along the history, and for `stepend` in
its end state -/
theorem listRun_all {p : State → Ev → Prop} (s0 : State) (evs : List Ev) (K : Nat)
    (h : ∀ i, i < evs.length → K ≤ i → p (prefixState s0 evs i) (evs.getD i .stepend))
    (hd : p (prefixState s0 evs evs.length) .stepend) (i : Nat) (hK : K ≤ i) :
    p (prefixState s0 evs i) (evs.getD i .stepend) := by
  by_cases hi : i < evs.length
  · exact h i hi hK
  · have : evs[i]? = none := by simp; omega
    rw [prefixState_ge s0 evs (by omega), List.getD_eq_getElem?_getD, this]; exact hd

/-- a finite history that ends finished, its last event lowering the measure, is a fair run -/
theorem listRun_fair (s0 : State) (evs : List Ev) (k : Nat) (hk : k + 1 = evs.length)
    (hfin : Finished (prefixState s0 evs evs.length))
    (hlt : LexLt (mu (prefixState s0 evs (k + 1))) (mu (prefixState s0 evs k))) :
    Fair (prefixState s0 evs) := by
  intro i hnf _
  refine ⟨k, ?_, hlt⟩
  apply Classical.byContradiction; intro h
  exact hnf (prefixState_ge s0 evs (i := i) (by omega) ▸ hfin)

theorem run_nodes {s0 : State} {σ : Nat → State} {es : Nat → Ev} (hrun : Run s0 σ es) :
    ∀ i, (σ i).nodes = s0.nodes :=
  hrun.inv (P := fun s => s.nodes = s0.nodes) rfl fun i h => by rw [apply_nodes]; exact h

end Martian.Sched
