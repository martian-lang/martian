/-
ERROR-CLASS AGREEMENT of the byte-level filters with the tree-level model: on a
document none of whose objects has a duplicated key, `filterA` and `TypesR.filter` return the same
error class (ok / soft / fatal).  With a shadowed duplicate under a typed map they can differ: the
tree-level model filters every list member, the code (and `filterA`) only the members of the
decoded Go map (`tmap_shadowed_member`).  At the end, splice correctness, tree agreement and the
soundness of `parseTopA` are put together into statements about `filterBytes` on bytes alone.
-/
import Proofs.JsonBytesAgree
import Proofs.JsonBytesLocal
namespace Martian.JsonBytes
open Martian.Json (J Num getKey)
open Martian.Lexer (Bytes)
open Martian.Types (Ty Fields Base FErr canFilter worstF)

theorem worstF_eq (l : List FErr) :
    worstF l = if FErr.fatal ∈ l then .fatal else if FErr.soft ∈ l then .soft else .ok := by
  induction l with
  | nil => simp [worstF]
  | cons a r ih =>
    have : worstF (a :: r) = a.max (worstF r) := rfl
    rw [this, ih]
    cases a <;> by_cases h1 : FErr.fatal ∈ r <;> by_cases h2 : FErr.soft ∈ r <;> simp [FErr.max, h1, h2]

theorem worstF_congr_mem {l1 l2 : List FErr} (h : ∀ e, e ∈ l1 ↔ e ∈ l2) : worstF l1 = worstF l2 := by
  simp only [worstF_eq, h]

theorem getKeyG_of_mem_nodup {α : Type} {k : Bytes} {v : α} : ∀ {l : List (Bytes × α)},
    (l.map Prod.fst).Nodup → (k, v) ∈ l → getKeyG k l = some v
  | [], _, h => by simp at h
  | (k', v') :: r, hn, h => by
    simp only [List.map_cons, List.nodup_cons] at hn
    simp only [List.mem_cons, Prod.mk.injEq] at h
    simp only [getKeyG]
    rcases h with ⟨rfl, rfl⟩ | h
    · have : getKeyG k r = none := getKeyG_none_iff.mpr hn.1
      simp [this]
    · rw [getKeyG_of_mem_nodup hn.2 h]

theorem noDupKvs_mem : ∀ {kvs : List (Bytes × A)} {kv : Bytes × A}, noDupKvs kvs = true → kv ∈ kvs → noDupA kv.2 = true
  | [], _, _, h => by simp at h
  | (k, v) :: r, kv, hn, h => by
    simp only [noDupKvs, Bool.and_eq_true] at hn
    simp only [List.mem_cons] at h
    rcases h with rfl | h
    · exact hn.1
    · exact noDupKvs_mem hn.2 h

theorem noDupAs_mem : ∀ {xs : List A} {x : A}, noDupAs xs = true → x ∈ xs → noDupA x = true
  | [], _, _, h => by simp at h
  | y :: r, x, hn, h => by
    simp only [noDupAs, Bool.and_eq_true] at hn
    simp only [List.mem_cons] at h
    rcases h with rfl | h
    · exact hn.1
    · exact noDupAs_mem hn.2 h

theorem filterBaseA_err (b : Base) (a : A) : (filterBaseA b a).err = (Martian.TypesR.filterBase b a.toJ).2 := by
  unfold filterBaseA
  split
  · rename_i i heq; rw [heq]
  · rename_i heq; rw [heq]

/-- the member loops agree on the error class (lookups are last-wins on both sides) -/
theorem filterFieldsA_err (kvs : List (Bytes × A)) :
    ∀ (fs : Fields), (∀ k t v, (k, t) ∈ fs.toList → getKeyG k kvs = some v → canFilter t = true →
        (filterA t v).err = (Martian.TypesR.filter t v.toJ).2) →
      (filterFieldsA fs (dedupLastG kvs)).2.2 = (Martian.TypesR.filterFields fs (toJKvs kvs)).2
  | .nil, _ => by simp [filterFieldsA, Martian.TypesR.filterFields]
  | .cons k t r, h => by
    have ih := filterFieldsA_err kvs r (fun k' t' v hm => h k' t' v (by simp [Fields.toList, hm]))
    simp only [filterFieldsA, Martian.TypesR.filterFields, getKeyG_dedupLastG, getKey_toJKvs]
    cases hg : getKeyG k kvs with
    | none => simp
    | some v =>
      by_cases hc : canFilter t = true
      · simp [hc, ih, h k t v (by simp [Fields.toList]) hg hc]
      · have hc' : canFilter t = false := by simpa using hc
        simp [hc', ih]

theorem filterA_err_agrees (t : Ty) : t.wf = true → ∀ a, noDupA a = true →
    (filterA t a).err = (Martian.TypesR.filter t a.toJ).2 := by
  induction t using Martian.Types.Ty.induct' with
  | base b => intro _ a _; simp only [filterA, Martian.TypesR.filter]; exact filterBaseA_err b a
  | user n =>
    intro _ a _
    simp only [filterA, Martian.TypesR.filter]
    split <;> simp_all
  | arr t ih =>
    intro hwf a hn
    simp only [Ty.wf] at hwf
    by_cases hcf : canFilter t = true
    · cases a with
      | arr raw xs =>
        rw [(filterA_arr t raw xs hcf).2]
        simp only [Martian.TypesR.filter, hcf, Bool.not_true, Bool.false_eq_true, ↓reduceIte, A.toJ, toJs_eq_map,
          List.map_map]
        exact congrArg worstF (List.map_congr_left fun x hx => ih hwf x (noDupAs_mem (by simpa [noDupA] using hn) hx))
      | lit raw j =>
        cases j with
        | null => simp [filterA, A.isNull, A.toJ, Martian.TypesR.filter, hcf]
        | arr xs => simp [noDupA] at hn
        | obj kvs => simp [noDupA] at hn
        | _ => simp [filterA, A.isNull, A.toJ, Martian.TypesR.filter, hcf]
      | obj raw kvs => simp [filterA, A.isNull, A.toJ, Martian.TypesR.filter, hcf]
    · have hcf' : canFilter t = false := by simpa using hcf
      simp [filterA, hcf', Martian.TypesR.filter]
  | tmap t ih =>
    intro hwf a hn
    simp only [Ty.wf] at hwf
    by_cases hcf : canFilter t = true
    · cases a with
      | obj raw kvs =>
        simp only [noDupA, Bool.and_eq_true, decide_eq_true_eq] at hn
        obtain ⟨hnd, hkv⟩ := hn
        rw [(filterA_tmap t raw kvs hcf).2]
        simp only [Martian.TypesR.filter, hcf, Bool.not_true, Bool.false_eq_true, ↓reduceIte, A.toJ, toJKvs_eq_map,
          List.map_map]
        -- without duplicated keys the map's members are the list's members
        refine worstF_congr_mem fun e => ?_
        simp only [List.mem_map, Function.comp]
        constructor
        · rintro ⟨kv, hm, rfl⟩
          have hm' := mem_dedupLastG (mem_sortByKey hm)
          exact ⟨kv, hm', (ih hwf kv.2 (noDupKvs_mem hkv hm')).symm⟩
        · rintro ⟨kv, hm, rfl⟩
          have hg : getKeyG kv.1 kvs = some kv.2 := getKeyG_of_mem_nodup hnd hm
          rw [← getKeyG_sorted_dedup kv.1 kvs] at hg
          exact ⟨kv, getKeyG_mem hg, ih hwf kv.2 (noDupKvs_mem hkv hm)⟩
      | lit raw j =>
        cases j with
        | null => simp [filterA, A.isNull, A.toJ, Martian.TypesR.filter, hcf]
        | arr xs => simp [noDupA] at hn
        | obj kvs => simp [noDupA] at hn
        | _ => simp [filterA, A.isNull, A.toJ, Martian.TypesR.filter, hcf]
      | arr raw xs => simp [filterA, A.isNull, A.toJ, Martian.TypesR.filter, hcf]
    · have hcf' : canFilter t = false := by simpa using hcf
      simp [filterA, hcf', Martian.TypesR.filter]
  | struct n fs ih =>
    intro hwf a hn
    simp only [Ty.wf] at hwf
    obtain ⟨_, hwfm⟩ := Martian.Types.Fields.wf_iff.mp hwf
    cases a with
    | obj raw kvs =>
      simp only [noDupA, Bool.and_eq_true, decide_eq_true_eq] at hn
      have herr := filterFieldsA_err kvs fs (fun k t v hkt hg _ =>
        ih k t hkt (hwfm k t hkt) v (noDupKvs_mem hn.2 (getKeyG_mem hg)))
      simp only [filterA, A.isNull, Bool.false_eq_true, ↓reduceIte, Martian.TypesR.filter, A.toJ]
      split <;> exact herr
    | lit raw j =>
      cases j with
      | null => simp [filterA, A.isNull, A.toJ, Martian.TypesR.filter]
      | arr xs => simp [noDupA] at hn
      | obj kvs => simp [noDupA] at hn
      | _ => simp [filterA, A.isNull, A.toJ, Martian.TypesR.filter]
    | arr raw xs => simp [filterA, A.isNull, A.toJ, Martian.TypesR.filter]

/-! ### on bytes: `filterBytes` -/

theorem filterBytes_eq_some {t : Martian.Types.Ty} {data out : Bytes} {e : Martian.Types.FErr}
    (h : filterBytes t data = some (out, e)) :
    ∃ a, parseTopA data = some a ∧ (filterA t a).out.raw = out ∧ (filterA t a).err = e := by
  unfold filterBytes at h
  cases hp : parseTopA data with
  | none => simp [hp] at h
  | some a =>
    simp only [hp, Option.map_some, Option.some.injEq, Prod.mk.injEq] at h
    exact ⟨a, rfl, h.1, h.2⟩

/-- no soundness hypothesis on the input: `parseTopA_good` supplies it -/
theorem filterBytes_parses (t : Martian.Types.Ty) (hk : tyKeysOk t = true) (data out : Bytes)
    (e : Martian.Types.FErr) (h : filterBytes t data = some (out, e)) :
    ∃ a, parseTopA data = some a ∧ out = (filterA t a).out.raw ∧ parseTop out = some (filterA t a).out.toJ := by
  obtain ⟨a, ha, rfl, _⟩ := filterBytes_eq_some h
  exact ⟨a, ha, rfl, parseTop_of_den (sound_filterA t hk a ((parseTopA_good ha).2)).den⟩

theorem filterBytes_tree (t : Martian.Types.Ty) (hwf : t.wf = true) (hk : tyKeysOk t = true) (data out : Bytes)
    (e : Martian.Types.FErr) (h : filterBytes t data = some (out, e)) (hne : e ≠ .fatal) :
    ∃ j0 j, parseTop data = some j0 ∧ parseTop out = some j ∧ EqL j (Martian.TypesR.filter t j0).1 := by
  obtain ⟨a, ha, rfl, rfl⟩ := filterBytes_eq_some h
  exact ⟨a.toJ, (filterA t a).out.toJ, (parseTopA_good ha).1,
    parseTop_of_den (sound_filterA t hk a ((parseTopA_good ha).2)).den, filterA_agrees t hwf a hne⟩

end Martian.JsonBytes
