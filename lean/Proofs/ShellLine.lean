import Martian.JobTemplate
import Proofs.ShellQuote

/-! The shell lexer `run`: `run_dq_quoteBody`, `run_env`, `run_args`; `lineRes_script` joins lines. -/
namespace Martian.JobTemplate
open Martian.ShellQuote

theorem run_nil (s : St) : run s [] = some ([], s) := rfl

theorem run_cons (s : St) (b : UInt8) (r : Bytes) :
    run s (b :: r) = (step s b).bind fun p => (run p.2 r).map fun q => (p.1 ++ q.1, q.2) := by
  rw [run]
  cases step s b with
  | none => rfl
  | some p =>
    obtain ⟨t1, s1⟩ := p
    simp only [Option.bind_some]
    cases run s1 r with
    | none => rfl
    | some q => rfl

theorem run_append (s : St) (a b : Bytes) :
    run s (a ++ b) = (run s a).bind fun p => (run p.2 b).map fun q => (p.1 ++ q.1, q.2) := by
  induction a generalizing s with
  | nil => simp [run_nil]
  | cons x a ih =>
    rw [List.cons_append, run_cons, run_cons]
    cases step s x with
    | none => rfl
    | some p =>
      obtain ⟨t1, s1⟩ := p
      simp only [Option.bind_some]
      rw [ih]
      cases run s1 a with
      | none => rfl
      | some q =>
        obtain ⟨t2, s2⟩ := q
        simp only [Option.bind_some, Option.map_some]
        cases run s2 b with
        | none => rfl
        | some u => simp [List.append_assoc]

theorem run_silent_append {s s' : St} {a : Bytes} (h : run s a = some ([], s')) (b : Bytes) :
    run s (a ++ b) = run s' b := by
  rw [run_append, h]
  simp only [Option.bind_some, List.nil_append]
  cases run s' b <;> simp

theorem run_emit_append {s s' : St} {a : Bytes} {t : List Tok} (h : run s a = some (t, s')) (b : Bytes) :
    run s (a ++ b) = (run s' b).map fun q => (t ++ q.1, q.2) := by
  rw [run_append, h]; rfl

theorem run_dq_quoteByte {tbl : EscTable} (ht : TableOK tbl = true) {b : UInt8} (hb0 : b ≠ 0)
    (cur : Bytes) (ws : WS) (a e : Bool) :
    run ⟨.dq, cur, ws, a, e⟩ (quoteByte tbl b) = some ([], ⟨.dq, cur ++ [b], ws, a, e⟩) := by
  rcases quoteByte_cases ht hb0 with ⟨he, hs⟩ | ⟨he, hs⟩ <;> rw [he]
  · simp only [dqSpecial, Bool.or_eq_false_iff] at hs
    simp [run, step, hs]
  · simp [run, step, hs]

theorem run_dq_quoteBody {tbl : EscTable} (ht : TableOK tbl = true) (s cur : Bytes) (ws : WS)
    (a e : Bool) (hv : validUtf8 s = true) (h0 : (0 : UInt8) ∉ s) :
    run ⟨.dq, cur, ws, a, e⟩ (quoteBody tbl s) = some ([], ⟨.dq, cur ++ s, ws, a, e⟩) := by
  rw [quoteBody_valid tbl s hv]
  clear hv
  induction s generalizing cur with
  | nil => simp [run_nil]
  | cons b r ih =>
    rw [List.flatMap_cons, run_silent_append (run_dq_quoteByte ht (fun e => h0 (by simp [e])) ..),
      ih _ (fun h => h0 (List.mem_cons_of_mem _ h))]
    simp

/-- a word part produced by the Go quoter, met outside quotes: no token is
completed, the original bytes are appended to the current word -/
theorem run_quote {tbl : EscTable} (ht : TableOK tbl = true) (s cur : Bytes) (ws : WS) (a e : Bool)
    (hv : validUtf8 s = true) (h0 : (0 : UInt8) ∉ s) :
    run ⟨.normal, cur, ws, a, e⟩ (quote tbl s) = some ([], ⟨.normal, cur ++ s, .quoted, a, e⟩) := by
  have h1 : run ⟨.normal, cur, ws, a, e⟩ [0x22] = some ([], ⟨.dq, cur, .quoted, a, e⟩) := rfl
  have h2 := run_dq_quoteBody ht s cur .quoted a e hv h0
  have h3 : run ⟨.dq, cur ++ s, .quoted, a, e⟩ [0x22]
      = some ([], ⟨.normal, cur ++ s, .quoted, a, e⟩) := rfl
  rw [quote, ← List.singleton_append, run_silent_append h1, run_silent_append h2, h3]

theorem bareWS_bareWS (ws : WS) : bareWS (bareWS ws) = bareWS ws := by cases ws <;> rfl

theorem step_nameCh (cur : Bytes) (ws : WS) (a e : Bool) (b : UInt8) (hb : isNameCh b = true) :
    step ⟨.normal, cur, ws, a, e⟩ b = some ([], ⟨.normal, cur ++ [b], bareWS ws, a, e⟩) := by
  -- a name character is none of the bytes `stepNormal` tests for first
  have hne : ∀ c, isNameCh c = false → (b == c) = false := fun c hc =>
    Bool.eq_false_iff.mpr fun h => by rw [eq_of_beq h, hc] at hb; cases hb
  simp [step, stepNormal, hb, hne 0x20 (by decide), hne 0x09 (by decide), hne 0x0A (by decide),
    hne 0x5C (by decide), hne 0x22 (by decide), hne 0x27 (by decide), hne 0x23 (by decide),
    hne 0x3E (by decide), hne 0x26 (by decide), hne 0x24 (by decide), hne 0x3D (by decide)]

theorem run_nameChs (k : Bytes) (hk : ∀ b ∈ k, isNameCh b = true) (hne : k ≠ []) :
    ∀ (cur : Bytes) (ws : WS) (a e : Bool),
      run ⟨.normal, cur, ws, a, e⟩ k = some ([], ⟨.normal, cur ++ k, bareWS ws, a, e⟩) := by
  induction k with
  | nil => exact absurd rfl hne
  | cons b k ih =>
    intro cur ws a e
    rw [run_cons, step_nameCh cur ws a e b (hk b (by simp))]
    simp only [Option.bind_some]
    by_cases hk' : k = []
    · subst hk'; simp [run_nil]
    · rw [ih (fun x hx => hk x (by simp [hx])) hk' _ _ a e, bareWS_bareWS]
      simp

theorem isName_chars {k : Bytes} (h : isName k = true) : k ≠ [] ∧ ∀ b ∈ k, isNameCh b = true := by
  cases k with
  | nil => simp [isName] at h
  | cons b r =>
    simp only [isName, Bool.and_eq_true, List.all_eq_true] at h
    exact ⟨by simp, List.forall_mem_cons.mpr ⟨by simp [isNameCh, h.1], h.2⟩⟩

/-- `NAME=` at the start of a word: the word is marked as an assignment -/
theorem run_name_eq (k : Bytes) (hk : isName k = true) :
    run clean (k ++ [0x3D]) = some ([], ⟨.normal, k ++ [0x3D], .bare, true, false⟩) := by
  obtain ⟨hne, hch⟩ := isName_chars hk
  have h1 := run_nameChs k hch hne [] .none false false
  rw [clean, run_silent_append h1]
  simp [run, step, stepNormal, bareWS, hk]

theorem run_sep (cur : Bytes) (a : Bool) :
    run ⟨.normal, cur, .quoted, a, false⟩ sep = some ([Tok.word cur a], clean) := rfl

/-- one `KEY="value" \⏎  ` group of `formatArgs` -/
theorem run_env {tbl : EscTable} (ht : TableOK tbl = true) (k v : Bytes)
    (hk : isName k = true) (hv : validUtf8 v = true) (h0 : (0 : UInt8) ∉ v) :
    run clean (envStr tbl (k, v) ++ sep) = some ([Tok.word (assignWord (k, v)) true], clean) := by
  have e : envStr tbl (k, v) ++ sep = (k ++ [0x3D]) ++ (quote tbl v ++ sep) := by simp [envStr]
  rw [e, run_silent_append (run_name_eq k hk),
    run_silent_append (run_quote ht v _ _ _ _ hv h0), run_sep]
  simp [assignWord]

theorem run_envs {tbl : EscTable} (ht : TableOK tbl = true) (envs : List (Bytes × Bytes))
    (hk : ∀ kv ∈ envs, isName kv.1 = true ∧ validUtf8 kv.2 = true ∧ (0 : UInt8) ∉ kv.2) :
    run clean ((envs.map fun kv => envStr tbl kv ++ sep).flatten)
      = some (envs.map (fun kv => Tok.word (assignWord kv) true), clean) := by
  induction envs with
  | nil => simp [run_nil]
  | cons kv es ih =>
    obtain ⟨k, v⟩ := kv
    have h := hk (k, v) (by simp)
    simp only [List.map_cons, List.flatten_cons]
    rw [run_emit_append (run_env ht k v h.1 h.2.1 h.2.2), ih (fun x hx => hk x (by simp [hx]))]
    simp

/-- all but the last of `x :: ys`, and the last -/
def initOf : Bytes → List Bytes → List Bytes
  | _, [] => []
  | x, y :: ys => x :: initOf y ys

def lastOf : Bytes → List Bytes → Bytes
  | x, [] => x
  | _, y :: ys => lastOf y ys

theorem initOf_lastOf (x : Bytes) (ys : List Bytes) : initOf x ys ++ [lastOf x ys] = x :: ys := by
  induction ys generalizing x with
  | nil => rfl
  | cons y ys ih => simp [initOf, lastOf, ih]

theorem run_args {tbl : EscTable} (ht : TableOK tbl = true) (argv : List Bytes)
    (hv : ∀ a ∈ argv, validUtf8 a = true ∧ (0 : UInt8) ∉ a) :
    ∀ cur : Bytes,
      run ⟨.normal, cur, .quoted, false, false⟩ ((argv.map fun a => sep ++ quote tbl a).flatten)
        = some ((initOf cur argv).map w, ⟨.normal, lastOf cur argv, .quoted, false, false⟩) := by
  induction argv with
  | nil => intro cur; simp [run_nil, initOf, lastOf]
  | cons a as ih =>
    intro cur
    have ha := hv a (by simp)
    simp only [List.map_cons, List.flatten_cons, List.append_assoc]
    rw [run_emit_append (run_sep cur false), clean,
      run_silent_append (run_quote ht a _ _ _ _ ha.1 ha.2)]
    simp only [List.nil_append]
    rw [ih (fun x hx => hv x (by simp [hx])) a]
    simp [initOf, lastOf, w]

/-- `formatArgs` from a clean state: every word but the last is complete, the
last one is pending (it is completed by whatever ends the word) -/
theorem run_formatArgsOrdered {tbl : EscTable} (ht : TableOK tbl = true)
    (envs : List (Bytes × Bytes)) (cmd : Bytes) (argv : List Bytes)
    (hk : ∀ kv ∈ envs, isName kv.1 = true ∧ validUtf8 kv.2 = true ∧ (0 : UInt8) ∉ kv.2)
    (hc : validUtf8 cmd = true ∧ (0 : UInt8) ∉ cmd)
    (ha : ∀ a ∈ argv, validUtf8 a = true ∧ (0 : UInt8) ∉ a) :
    run clean (formatArgsOrdered tbl envs cmd argv)
      = some (envs.map (fun kv => Tok.word (assignWord kv) true) ++ (initOf cmd argv).map w,
          ⟨.normal, lastOf cmd argv, .quoted, false, false⟩) := by
  unfold formatArgsOrdered
  rw [List.append_assoc, run_emit_append (run_envs ht envs hk), clean,
    run_silent_append (run_quote ht cmd _ _ _ _ hc.1 hc.2)]
  simp only [List.nil_append]
  rw [run_args ht argv ha cmd]
  simp

theorem run_comment (X : Bytes) (h : (0x0A : UInt8) ∉ X) (cur : Bytes) (ws : WS) (a e : Bool) :
    run ⟨.comment, cur, ws, a, e⟩ X = some ([], ⟨.comment, cur, ws, a, e⟩) := by
  induction X with
  | nil => rfl
  | cons b r ih =>
    have hb : (b == 0x0A) = false := by
      apply Bool.eq_false_iff.mpr; intro e; exact h (by simp [eq_of_beq e])
    rw [run_cons]
    simp only [step, hb, Bool.false_eq_true, if_false, Option.bind_some]
    rw [ih (fun hr => h (List.mem_cons_of_mem _ hr))]
    rfl

/-- a line starting with `#` and holding no newline: nothing but the comment state -/
theorem run_hash_line (X : Bytes) (h : (0x0A : UInt8) ∉ X) :
    run clean (0x23 :: X) = some ([], ⟨.comment, [], .none, false, false⟩) :=
  (run_silent_append (s := clean) (a := [0x23]) rfl X).trans (run_comment X h [] .none false false)

/-- states in which a line may end -/
def LineEnd (st : St) : Prop := st.mode = .normal ∨ (st.mode = .comment ∧ st.ws = .none)

theorem step_nl {st : St} (h : LineEnd st) : step st 0x0A = some (flush st ++ [Tok.nl], clean) := by
  obtain ⟨m, cur, ws, a, e⟩ := st
  rcases h with h | ⟨h, hw⟩
  · simp only at h; subst h; simp [step, stepNormal]
  · simp only at h hw; subst h; subst hw; simp [step, flush]

theorem finish_lineEnd {st : St} (h : LineEnd st) : finish st = some (flush st) := by
  obtain ⟨m, cur, ws, a, e⟩ := st
  rcases h with h | ⟨h, _⟩ <;> simp only at h <;> subst h <;> rfl

/-- the text of one line read from a clean state: it may end there, and its tokens are `toks` -/
def LineRes (text : Bytes) (toks : List Tok) : Prop :=
  ∃ pre st, run clean text = some (pre, st) ∧ LineEnd st ∧ pre ++ flush st = toks

theorem lineRes_nil : LineRes [] [] := ⟨[], clean, rfl, Or.inl rfl, rfl⟩

theorem lineRes_script (f : SegLine → Bytes) (t : SegLine → List Tok) :
    ∀ (ls : List SegLine), (∀ l ∈ ls, LineRes (f l) (t l)) →
      LineRes (joinNl (ls.map f)) (joinToks (ls.map t))
  | [], _ => lineRes_nil
  | [l], hl => by simpa [joinNl, joinToks] using hl l (by simp)
  | l :: l' :: ls, hl => by
    obtain ⟨pre1, st1, h1, h2, h3⟩ := hl l (by simp)
    obtain ⟨pre2, st2, k1, k2, k3⟩ :=
      lineRes_script f t (l' :: ls) (fun x hx => hl x (List.mem_cons_of_mem _ hx))
    refine ⟨pre1 ++ (flush st1 ++ [Tok.nl] ++ pre2), st2, ?_, k2, ?_⟩
    · simp only [List.map_cons, joinNl]
      rw [run_emit_append h1, run_cons, step_nl h2]
      simp only [Option.bind_some]
      simp only [List.map_cons] at k1
      rw [k1]
      simp
    · simp only [List.map_cons, joinToks] at k3 ⊢
      rw [← h3, ← k3]
      simp

theorem shToks_of_lineRes {text : Bytes} {toks : List Tok} (h : LineRes text toks) :
    shToks text = some toks := by
  obtain ⟨pre, st, h1, h2, h3⟩ := h
  unfold shToks
  rw [h1]
  simp only [finish_lineEnd h2, h3]

end Martian.JobTemplate
