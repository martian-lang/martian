/-
C15, two parts.  The second pass of `Ast.EquivalentCall` (`structComparer`: struct definitions) decides equality of the
unfolded type trees: `structTreeEq_iff`, `typesCallable_iff`, `typesCall_iff`.  Fuel adequacy: a successful unfolding with
explicit fuel exhaustion (`semCallO`) is the meaning `semCall` at that and every larger fuel: `semCallO_sound`,
`semCallO_mono`, `semCall_stable`.
-/
import Martian.EquivMeaning
import Proofs.Equiv

namespace Martian.Equiv
open Martian.SortKeys List

theorem structTreeEq_iff (SA SB : Structs) (hA : structsWf SA = true) (hB : structsWf SB = true) :
    ∀ (n : Nat) (t u : Key), structTreeEq SA SB n t u = true ↔ tyTree SA n t = tyTree SB n u
  | 0, _, _ => by simp [structTreeEq, tyTree]
  | n + 1, t, u => by
    have ih := structTreeEq_iff SA SB hA hB n
    simp only [structTreeEq, tyTree]
    cases ha : lookupL t SA with
    | none =>
      cases hb : lookupL u SB with
      | none => simp
      | some fb => simp
    | some fa =>
      cases hb : lookupL u SB with
      | none => simp
      | some fb =>
        simp only [TyTree.node.injEq]
        exact keyed_iff (fun x y => inParamEq x y && structTreeEq SA SB n x.tname y.tname)
          (fun x => (semIn x, tyTree SA n x.tname)) (fun x => (semIn x, tyTree SB n x.tname))
          (fun p q => by simp only [Bool.and_eq_true, Prod.mk.injEq, inParamEq_iff, ih]) fa fb
          (lookupL_all (fun fs => nodupKeys fs) SA t fa hA ha)
          (lookupL_all (fun fs => nodupKeys fs) SB u fb hB hb)

theorem tyParams_iff (SA SB : Structs) (hA : structsWf SA = true) (hB : structsWf SB = true) (fs : Nat)
    (a b : List (Key × Param)) (ha : nodupKeys a = true) (hb : nodupKeys b = true) :
    matchAll (tyEq SA SB fs) a b = true ↔
      sortK (a.map fun p => (p.1, tyTree SA fs p.2.tname)) = sortK (b.map fun p => (p.1, tyTree SB fs p.2.tname)) :=
  keyed_iff (tyEq SA SB fs) (fun x => tyTree SA fs x.tname) (fun x => tyTree SB fs x.tname)
    (fun x y => structTreeEq_iff SA SB hA hB fs x.tname y.tname) a b ha hb

theorem typesSemCallable_ne_missing (S : Structs) (fs : Nat) (r : Call → TSem) (x : Callable) :
    typesSemCallable S fs r x ≠ .missing := by
  cases x <;> simp [typesSemCallable]

theorem typesCallable_iff (SA SB : Structs) (hA : structsWf SA = true) (hB : structsWf SB = true) (fs : Nat)
    (T U : Tab) (rec : Call → Call → Bool) (sA sB : Call → TSem) (x y : Callable)
    (hx : x.wfIn T = true) (hy : y.wfIn U = true)
    (h : ∀ c d : Call, (rec c d = true ↔ sA c = sB d)) :
    typesCallable SA SB fs rec x y = true ↔ typesSemCallable SA fs sA x = typesSemCallable SB fs sB y := by
  cases x with
  | stage s i o =>
    cases y with
    | stage s' i' o' =>
      simp only [Callable.wfIn, Bool.and_eq_true] at hx hy
      simp only [typesCallable, typesSemCallable, Bool.and_eq_true, TSem.stage.injEq,
        tyParams_iff SA SB hA hB fs i i' hx.1 hy.1, tyParams_iff SA SB hA hB fs o o' hx.2 hy.2]
    | pipeline i' o' cs' r' => simp [typesCallable, typesSemCallable]
  | pipeline i o cs r =>
    cases y with
    | stage s' i' o' => simp [typesCallable, typesSemCallable]
    | pipeline i' o' cs' r' =>
      simp only [Callable.wfIn, Bool.and_eq_true, all_eq_true, beq_iff_eq] at hx hy
      obtain ⟨⟨⟨⟨⟨⟨hi, ho⟩, hk⟩, _⟩, _⟩, _⟩, _⟩ := hx
      obtain ⟨⟨⟨⟨⟨⟨hi', ho'⟩, hk'⟩, _⟩, _⟩, _⟩, _⟩ := hy
      have hcalls : matchAll rec (keyed cs) (keyed cs') = true ↔
          sortK ((keyed cs).map fun p => (p.1, sA p.2)) = sortK ((keyed cs').map fun p => (p.1, sB p.2)) :=
        keyed_iff rec sA sB h _ _ hk hk'
      simp only [typesCallable, typesSemCallable, Bool.and_eq_true, TSem.pipeline.injEq,
        tyParams_iff SA SB hA hB fs i i' hi hi', tyParams_iff SA SB hA hB fs o o' ho ho', hcalls, and_assoc]

/-- `structComparer.call` decides equality of the unfolded struct definitions, at every depth. -/
theorem typesCall_iff (SA SB : Structs) (hA : structsWf SA = true) (hB : structsWf SB = true) (fs : Nat) :
    ∀ (n : Nat) (T U : Tab), T.wf = true → U.wf = true → ∀ c d : Call,
      (typesCall SA SB fs n T U c d = true ↔ typesSem SA fs n T c = typesSem SB fs n U d)
  | 0, _, _, _, _, _, _ => by simp [typesCall, typesSem]
  | n + 1, T, U, hT, hU, c, d => by
    have ih := typesCall_iff SA SB hA hB fs n T U hT hU
    simp only [typesCall, typesSem]
    exact optPair_iff _ _ _ TSem.missing (typesSemCallable_ne_missing _ _ _)
      (typesSemCallable_ne_missing _ _ _) _ _ fun x y hx hy =>
        typesCallable_iff SA SB hA hB fs T U _ _ _ x y (lookup_wf T hT hx) (lookup_wf U hU hy) ih

/-! ## Fuel adequacy -/

theorem seqO_map_some {α β : Type} (f : α → β) :
    ∀ l : List α, seqO (l.map fun a => some (f a)) = some (l.map f)
  | [] => rfl
  | a :: t => by simp [seqO, seqO_map_some f t]

theorem seqO_map_mono {α β : Type} (fO fO' : α → Option β) :
    ∀ (l : List α) (r : List β), (∀ a ∈ l, ∀ v, fO a = some v → fO' a = some v) →
      seqO (l.map fO) = some r → seqO (l.map fO') = some r := by
  intro l
  induction l with
  | nil => intro r _ h; simpa using h
  | cons a t ih =>
    intro r hf h
    simp only [map_cons] at h ⊢
    cases ha : fO a with
    | none => simp [seqO, ha] at h
    | some v =>
      simp only [ha, seqO, Option.map_eq_some_iff] at h
      obtain ⟨rest, hrest, rfl⟩ := h
      simp only [hf a (mem_cons_self ..) v ha, seqO, Option.map_eq_some_iff]
      exact ⟨rest, ih rest (fun b hb => hf b (mem_cons_of_mem _ hb)) hrest, rfl⟩

theorem semCallableO_mono (recO recO' : Call → Option Sem)
    (h : ∀ c s, recO c = some s → recO' c = some s) (x : Callable) (s : Sem)
    (hs : semCallableO recO x = some s) : semCallableO recO' x = some s := by
  cases x with
  | stage sp i o => simpa [semCallableO] using hs
  | pipeline i o cs r =>
    simp only [semCallableO, Option.map_eq_some_iff] at hs ⊢
    obtain ⟨l, hl, rfl⟩ := hs
    refine ⟨l, ?_, rfl⟩
    apply seqO_map_mono _ _ (keyed cs) l _ hl
    intro a _ v hv
    simp only [Option.map_eq_some_iff] at hv ⊢
    obtain ⟨s, hs, rfl⟩ := hv
    exact ⟨s, h a.2 s hs, rfl⟩

theorem semCallableO_some (rec : Call → Sem) (x : Callable) :
    semCallableO (fun c => some (rec c)) x = some (semCallable rec x) := by
  cases x with
  | stage sp i o => rfl
  | pipeline i o cs r =>
    simp only [semCallableO, semCallable, Option.map_some]
    rw [seqO_map_some (fun p : Key × Call => (p.1, rec p.2))]
    rfl

theorem semCallableO_sound (recO : Call → Option Sem) (rec : Call → Sem)
    (h : ∀ c s, recO c = some s → rec c = s) (x : Callable) (s : Sem)
    (hs : semCallableO recO x = some s) : semCallable rec x = s := by
  have := semCallableO_mono recO (fun c => some (rec c)) (fun c s hs => congrArg some (h c s hs)) x s hs
  rw [semCallableO_some] at this
  exact Option.some.inj this

theorem semCallO_sound : ∀ (n : Nat) (T : Tab) (c : Call) (s : Sem), semCallO n T c = some s → semCall n T c = s
  | 0, _, _, _, h => by simp [semCallO] at h
  | n + 1, T, c, s, h => by
    simp only [semCallO, Option.map_eq_some_iff] at h
    obtain ⟨callee, hc, rfl⟩ := h
    simp only [semCall]
    congr 1
    cases hl : lookupL c.decId T with
    | none => simp only [hl, Option.some.injEq] at hc; simpa using hc
    | some x =>
      simp only [hl] at hc ⊢
      exact semCallableO_sound _ _ (fun c' s' hs' => semCallO_sound n T c' s' hs') x callee hc

theorem semCallO_mono : ∀ (n : Nat) (T : Tab) (c : Call) (s : Sem), semCallO n T c = some s → semCallO (n + 1) T c = some s
  | 0, _, _, _, h => by simp [semCallO] at h
  | n + 1, T, c, s, h => by
    rw [semCallO] at h ⊢
    simp only [Option.map_eq_some_iff] at h ⊢
    obtain ⟨callee, hc, rfl⟩ := h
    refine ⟨callee, ?_, rfl⟩
    cases hl : lookupL c.decId T with
    | none => simpa [hl] using hc
    | some x =>
      simp only [hl] at hc ⊢
      exact semCallableO_mono _ _ (fun c' s' hs' => semCallO_mono n T c' s' hs') x callee hc

theorem semCall_stable (n k : Nat) (T : Tab) (c : Call) (s : Sem) (h : semCallO n T c = some s) :
    semCall (n + k) T c = s := by
  have : semCallO (n + k) T c = some s := by
    induction k with
    | zero => exact h
    | succ k ih => exact semCallO_mono (n + k) T c s ih
  exact semCallO_sound (n + k) T c s this

end Martian.Equiv
