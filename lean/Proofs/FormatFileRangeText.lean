import Proofs.FormatFileLex
import Proofs.FormatStageRangeText
import Martian.FormatFileText
import Proofs.FormatPipeRangeText
import Proofs.FormatFileParse
import Proofs.FormatStageRangeRead

/-!
C09, accepted texts of whole files: the RANGE of the file reader.

On tokens in the range of the tokenizer (`tokOK`), whatever `pIncludes`, `pFiletypeDecl`,
`pStructDecl`, `pDeclsR rd`, `pFileR rd` return is in the raw range of its part (`declRaw`,
`fileRaw`), whatever the reader `rd` of `mem_gb` / `vmem_gb` (`pFileR_range`); `pFileR readGBTok` is
`pFile` (`pFileR_exact`, Proofs/FormatFileParse.lean).  Hence `parseFile_range`, `parseFile32_range`: NO
exception hypothesis.  The second part of the file (with its own comment) goes from this range to the
text-side statements.
-/

namespace Martian.FormatFile
open Martian.Lexer (Bytes unquoteBytes)
open Martian.FormatExp Martian.FormatDecl Martian.FormatCall2
open Martian.FormatStage (Stage pStage pStageR pStageBodyR pStageBody stageRaw pStageR_range)
open Martian.FormatPipe (Pipeline pPipeline)
open Martian.FormatCallText (wfCall2Raw wfPipelineRaw pPipeline_range' pCall2_range')
open Martian.FormatRes (readGBTok readGB32Tok)

theorem pIncludes_range : ∀ (f : Nat) (ts : List Tok) (incs : List Bytes) (r : List Tok), AllOK ts →
    pIncludes f ts = some (incs, r) → AllOK r
  | 0, _, _, _, _, h => by simp [pIncludes] at h
  | f + 1, ts, incs, r, hts, h => by
    cases ts with
    | nil =>
      simp only [pIncludes, Option.some.injEq, Prod.mk.injEq] at h
      obtain ⟨_, rfl⟩ := h; exact hts
    | cons t ts' =>
      cases t with
      | reserved k =>
        simp only [pIncludes] at h
        split at h
        · split at h
          · rename_i s r'
            cases hu : unquoteBytes s with
            | none => simp [hu] at h
            | some p =>
              cases hi : pIncludes f r' with
              | none => simp [hu, hi] at h
              | some q =>
                obtain ⟨ps, r''⟩ := q
                simp only [hu, hi, Option.some.injEq, Prod.mk.injEq] at h
                obtain ⟨_, rfl⟩ := h
                exact pIncludes_range f r' ps r'' (allOK_tail (allOK_tail hts)) hi
          · cases h
        · simp only [Option.some.injEq, Prod.mk.injEq] at h
          obtain ⟨_, rfl⟩ := h
          exact hts
      | _ =>
        simp only [pIncludes, Option.some.injEq, Prod.mk.injEq] at h
        obtain ⟨_, rfl⟩ := h; exact hts
theorem pFiletypeDecl_range (ts : List Tok) (t : Filetype) (rest : List Tok) (hts : AllOK ts)
    (h : pFiletypeDecl ts = some (t, rest)) : wfFiletype t = true ∧ AllOK rest := by
  unfold pFiletypeDecl at h
  split at h
  · rename_i k x r
    split at h
    · split at h
      · rename_i xs c r' hd
        split at h
        · simp only [Option.some.injEq, Prod.mk.injEq] at h
          obtain ⟨rfl, rfl⟩ := h
          have ⟨_, h2⟩ := allOK_cons hts
          have ⟨hx, hr⟩ := allOK_cons h2
          have ih := pDots_range _ r xs _ hr hd
          have hx' : isIdent x = true := by simpa [tokOK] using hx
          exact ⟨by simp [wfFiletype, hx', ih.1], allOK_tail ih.2⟩
        · cases h
      · cases h
    · cases h
  · cases h

theorem pStructDecl_range (ts : List Tok) (s : Struct) (rest : List Tok) (hts : AllOK ts)
    (h : pStructDecl ts = some (s, rest)) : structRaw s = true ∧ AllOK rest := by
  unfold pStructDecl at h
  split at h
  · rename_i k x c r
    split at h
    · split at h
      · rename_i ms d r' hp
        split at h
        · simp only [Option.some.injEq, Prod.mk.injEq] at h
          obtain ⟨rfl, rfl⟩ := h
          have ⟨_, h2⟩ := allOK_cons hts
          have ⟨hx, h3⟩ := allOK_cons h2
          have ih := pMembers_range _ r ms _ (allOK_tail h3) hp
          have hx' : isIdent x = true := by simpa [tokOK] using hx
          have hne : ms.isEmpty = false := by
            cases ms with
            | nil => exact absurd rfl ih.2.1
            | cons _ _ => rfl
          exact ⟨by simp only [structRaw, hx', hne, ih.1, Bool.not_false, Bool.and_self],
            allOK_tail ih.2.2⟩
        · cases h
      · cases h
    · cases h
  · cases h

theorem pDeclsR_range (rd : Tok → Option Int) : ∀ (f : Nat) (ts : List Tok) (ds : List Decl)
    (rest : List Tok), AllOK ts → pDeclsR rd f ts = some (ds, rest) →
    ds.all declRaw = true ∧ AllOK rest
  | 0, _, _, _, _, h => by simp [pDeclsR] at h
  | f + 1, ts, ds, rest, hts, h => by
    -- every arm reads one declaration `d` with its own reader and goes on with the tokens `r` after it
    have step : ∀ (d : Decl) (r : List Tok), declRaw d = true → AllOK r →
        (pDeclsR rd f r).map (fun x => (d :: x.1, x.2)) = some (ds, rest) →
        ds.all declRaw = true ∧ AllOK rest := by
      intro d r h1 hr h
      obtain ⟨⟨ds', r'⟩, hq, e⟩ := Option.map_eq_some_iff.mp h
      cases e
      have ih := pDeclsR_range rd f r ds' r' hr hq
      exact ⟨by simp only [List.all_cons, h1, ih.1, Bool.and_self], ih.2⟩
    unfold pDeclsR at h
    split at h
    · split at h
      · rename_i t r hp
        have ⟨h1, hr⟩ := pFiletypeDecl_range ts t r hts hp
        exact step (.filetype t) r h1 hr h
      · cases h
    · split at h
      · rename_i s r hp
        have ⟨h1, hr⟩ := pStructDecl_range ts s r hts hp
        exact step (.struct s) r h1 hr h
      · cases h
    · split at h
      · rename_i s r hp
        have ⟨h1, hr⟩ := pStageR_range rd ts s r hts hp
        exact step (.stage s) r h1 hr h
      · cases h
    · split at h
      · rename_i p r hp
        have ⟨h1, hr⟩ := pPipeline_range' ts p r hts hp
        exact step (.pipeline p) r h1 hr h
      · cases h
    · simp only [Option.some.injEq, Prod.mk.injEq] at h
      obtain ⟨rfl, rfl⟩ := h
      exact ⟨rfl, hts⟩

theorem fileRaw_distribute (incs : List Bytes) (ds : List Decl) (call : Option Call2)
    (hd : ds.all declRaw = true) (hc : callOptRaw call = true)
    (hne : ds ≠ [] ∨ call.isSome = true) : fileRaw (distribute incs ds call) = true := by
  obtain ⟨h1, h2, h3⟩ := all_byKind (pc := callableRaw) (fun _ => rfl) (fun _ => rfl) (fun c => by cases c <;> rfl) hd
  simp only [fileRaw, distribute, Bool.and_eq_true]
  refine ⟨⟨⟨⟨h1, h2⟩, h3⟩, hc⟩, ?_⟩
  cases ds with
  | nil =>
    rcases hne with h | h
    · exact absurd rfl h
    · simp [h]
  | cons d ds => cases d <;> simp [filetypesOf, structsOf, callablesOf]

theorem pFileR_range (rd : Tok → Option Int) (ts : List Tok) (f : File) (hts : AllOK ts)
    (h : pFileR rd ts = some f) : fileRaw f = true := by
  unfold pFileR at h
  split at h
  · rename_i incs r0 hi
    have hr0 := pIncludes_range _ ts incs r0 hts hi
    split at h
    · rename_i ds hd
      have ⟨h1, _⟩ := pDeclsR_range rd _ r0 ds [] hr0 hd
      split at h
      · cases h
      · rename_i hne
        simp only [Option.some.injEq] at h
        subst h
        refine fileRaw_distribute incs ds none h1 rfl (Or.inl ?_)
        intro e; subst e; exact hne rfl
    · rename_i ds r1 _ hd
      have ⟨h1, hr1⟩ := pDeclsR_range rd _ r0 ds r1 hr0 hd
      split at h
      · rename_i c hc
        simp only [Option.some.injEq] at h
        subst h
        exact fileRaw_distribute incs ds (some c) h1 (pCall2_range' r1 c [] hr1 hc).1 (Or.inr rfl)
      · cases h
    · cases h
  · cases h

theorem parseFileR_range (rd : Tok → Option Int) (src : Bytes) (f : File)
    (h : parseFileR rd src = some f) : fileRaw f = true := by
  obtain ⟨ts, hts, h⟩ := lexAll_bind_some h
  exact pFileR_range rd ts f hts h

theorem parseFile_range (src : Bytes) (f : File) (h : parseFile src = some f) : fileRaw f = true := by
  rw [parseFile_eq] at h
  exact parseFileR_range readGBTok src f h

theorem parseFile32_range (src : Bytes) (f : File) (h : parseFile32 src = some f) : fileRaw f = true :=
  parseFileR_range readGB32Tok src f h

end Martian.FormatFile


/-!
C09, accepted texts of whole files: from the range of the file reader to the text-side
statements.

* `wfFile_canon`: `GOK g`, `HOK h`, `fileRaw f` and the exception hypotheses `fileHyps` give
  `wfFile (canonFile g h f)`;
* `canonFile_norm_fixed`: the canonicalisers change nothing in the normal form of a file Go holds;
* `accepted_of_reader`: the text-side theorems for any reader of source texts with range `fileRaw`
  that inverts the printer on well-formed files; `format_accepted_file` is its instance for the exact
  reading of `mem_gb` / `vmem_gb`;
* `fileMB32Valid_of_wf`, `readsBack32_file`, `parseFile32_fmtFile`: the round trip with the REAL float32
  reading (`parseFileR_fmtFile` with `readGB32Tok`, which reads the printed values back on `wfMB` =
  `gbRoundTrips`, the resource conjunct of `wfFile`).
-/

namespace Martian.FormatFile
open Martian.Lexer (Bytes unquoteBytes)
open Martian.FormatExp Martian.FormatDecl Martian.FormatCall2
open Martian.FormatStage (Stage pStage pStageR stageRaw wfStage HOK canonStage wfStage_canon canonStage_fixed
  stageMB32Valid stageMBValid stageMBValid_of_32 stageMB32Valid_canon readsBack32 pStageR_toks toksStage
  stageEnd)
open Martian.FormatPipe (Pipeline pPipeline normPipeline wfPipeline toksPipeline toksPipelineRaw
  pPipeline_toks pPipeline_toks_gen wfPipeline_parts)
open Martian.FormatCallText (canonCall2 canonPipeline wfCall2Raw wfPipelineRaw wfPipeline_canon
  canonPipeline_norm_fixed wfCall2_canon fixCall_canon FixCall)
open Martian.FormatRes (readGBTok readGB32Tok ReadsBack)

theorem wfStruct_of_raw (s : Struct) (hr : structRaw s = true) (hs : declStrsValid s = true) :
    wfStruct s = true := by
  simp only [structRaw, Bool.and_eq_true] at hr
  simp only [wfStruct, Bool.and_eq_true]
  exact ⟨⟨hr.1.1, hr.1.2⟩, all_of_all₂ (fun _ => wfMember_of_raw) hr.2 hs⟩

theorem wfCallable_canon (g h : Bytes → Bytes) (hg : GOK g) (hh : HOK h) (c : Callable)
    (hr : callableRaw c = true) (hs : callableStrsValid (canonCallable g h c) = true)
    (hz : callableNoNegZero (canonCallable g h c) = true)
    (hm : callableMB32Valid (canonCallable g h c) = true)
    (hd : callableModsDistinct (canonCallable g h c) = true)
    (hc : callableCallsDistinct (canonCallable g h c) = true) :
    wfCallable (canonCallable g h c) = true := by
  cases c with
  | stage s => exact wfStage_canon h hh s hr hs hm
  | pipeline p => exact wfPipeline_canon g hg p hr hs hz hd hc

/-- from the range of the reader to `wfFile`, for the file as Go holds it -/
theorem wfFile_canon (g h : Bytes → Bytes) (hg : GOK g) (hh : HOK h) (f : File) (hr : fileRaw f = true)
    (hy : fileHyps (canonFile g h f) = true) : wfFile (canonFile g h f) = true := by
  obtain ⟨incs, fts, sts, cs, call⟩ := f
  simp only [fileRaw, Bool.and_eq_true] at hr
  obtain ⟨⟨⟨⟨r1, r2⟩, r3⟩, r4⟩, r5⟩ := hr
  simp only [fileHyps, fileStrsValid, fileNoNegZero, fileMB32Valid, fileModsDistinct, fileCallsDistinct,
    canonFile, Bool.and_eq_true] at hy
  obtain ⟨⟨⟨⟨⟨⟨⟨s1, s2⟩, s3⟩, s4⟩, z1, z2⟩, m1⟩, d1, d2⟩, c1⟩ := hy
  simp only [wfFile, canonFile, Bool.and_eq_true]
  refine ⟨⟨⟨⟨⟨s1, r1⟩, all_of_all₂ wfStruct_of_raw r2 s2⟩, ?_⟩, ?_⟩, ?_⟩
  · simp only [List.all_map, List.all_eq_true, Function.comp_apply] at s3 z1 m1 d1 c1 ⊢
    exact fun c hc => wfCallable_canon g h hg hh c (List.all_eq_true.mp r3 c hc) (s3 c hc) (z1 c hc) (m1 c hc)
      (d1 c hc) (c1 c hc)
  · cases call with
    | none => rfl
    | some c => exact wfCall2_canon g hg c r4 s4 z2 d2
  · rw [List.isEmpty_map]
    cases call <;> exact r5

theorem canonCallable_norm_fixed (g h : Bytes → Bytes) (hg : GOK g) (hh : HOK h) (c : Callable)
    (hr : callableRaw c = true) (hw : wfCallable (canonCallable g h c) = true) :
    canonCallable g h (normCallable (canonCallable g h c)) = normCallable (canonCallable g h c) := by
  cases c with
  | stage s =>
    simp only [canonCallable, normCallable]
    rw [canonStage_fixed h hh s hr]
  | pipeline p =>
    simp only [canonCallable, normCallable]
    rw [canonPipeline_norm_fixed g hg p hr hw]

theorem canonFile_norm_fixed (g h : Bytes → Bytes) (hg : GOK g) (hh : HOK h) (f : File)
    (hr : fileRaw f = true) (hw : wfFile (canonFile g h f) = true) :
    canonFile g h (normFile (canonFile g h f)) = normFile (canonFile g h f) := by
  obtain ⟨incs, fts, sts, cs, call⟩ := f
  simp only [fileRaw, Bool.and_eq_true] at hr
  obtain ⟨⟨⟨⟨_, _⟩, r3⟩, r4⟩, _⟩ := hr
  obtain ⟨_, _, _, w4, w5, _⟩ := wfFile_parts hw
  simp only [canonFile] at w4 w5
  have hcall : ((call.map (canonCall2 g)).map normCall2).map (canonCall2 g) =
      (call.map (canonCall2 g)).map normCall2 := by
    cases call with
    | none => rfl
    | some c =>
      have : FixCall g (canonCall2 g c) := fixCall_canon g hg c r4 w5
      simp only [Option.map_some]
      rw [this]
  have hcs : ((cs.map (canonCallable g h)).map normCallable).map (canonCallable g h) =
      (cs.map (canonCallable g h)).map normCallable := by
    simp only [List.map_map, List.all_map] at w4 ⊢
    exact List.map_congr_left fun c hc =>
      canonCallable_norm_fixed g h hg hh c (List.all_eq_true.mp r3 c hc) (List.all_eq_true.mp w4 c hc)
  simp only [canonFile, normFile, hcs, hcall]

/-- For any reader `P` of source texts whose results are in `fileRaw` and which reads the printed
form of a well-formed file back as its normal form: what Go holds of an accepted text (`canonFile`
of what `P` returns) is well formed under the exception hypotheses, and formatting preserves it. -/
theorem accepted_of_reader (P : Bytes → Option File)
    (hrange : ∀ src f, P src = some f → fileRaw f = true)
    (hround : ∀ f, wfFile f = true → P (fmtFile f) = some (normFile f))
    (g h : Bytes → Bytes) (hg : GOK g) (hh : HOK h) (src : Bytes) (f : File)
    (hp : (P src).map (canonFile g h) = some f) (hy : fileHyps f = true) :
    wfFile f = true ∧ (P (fmtFile f)).map (canonFile g h) = some (normFile f) ∧
      fmtFile (normFile f) = fmtFile f ∧
      (P (fmtFile (normFile f))).map (canonFile g h) = some (normFile f) := by
  obtain ⟨f0, h0, rfl⟩ := Option.map_eq_some_iff.mp hp
  have hr := hrange src f0 h0
  have hw := wfFile_canon g h hg hh f0 hr hy
  have h1 : (P (fmtFile (canonFile g h f0))).map (canonFile g h) = some (normFile (canonFile g h f0)) := by
    rw [hround _ hw, Option.map_some, canonFile_norm_fixed g h hg hh f0 hr hw]
  refine ⟨hw, h1, fmtFile_norm _ hw, ?_⟩
  rw [fmtFile_norm _ hw]
  exact h1

/-- formatting preserves every accepted file text, up to the exceptions `fileHyps` (F6b, F26, F29, F40, F34) -/
theorem format_accepted_file (g h : Bytes → Bytes) (hg : GOK g) (hh : HOK h) (src : Bytes) (f : File)
    (hp : parseFileGH g h src = some f) (hy : fileHyps f = true) :
    parseFileGH g h (fmtFile f) = some (normFile f) ∧ fmtFile (normFile f) = fmtFile f ∧
      parseFileGH g h (fmtFile (normFile f)) = some (normFile f) :=
  (accepted_of_reader parseFile parseFile_range parseFile_fmtFile g h hg hh src f hp hy).2

theorem mem_declsOf_stage {f : File} {s : Stage} (h : Decl.stage s ∈ declsOf f) :
    Callable.stage s ∈ f.callables := by
  simp only [declsOf, List.mem_append, List.mem_map] at h
  rcases h with ⟨_, _, e⟩ | ⟨_, _, e⟩ | ⟨c, hc, e⟩
  · cases e
  · cases e
  · cases c with
    | stage s' =>
      simp only [Callable.toDecl, Decl.stage.injEq] at e
      subst e; exact hc
    | pipeline p => cases e

theorem readsBack32_file (f : File) (hm : fileMB32Valid f = true) :
    DeclsReadBack readGB32Tok (declsOf f) := by
  intro s hs
  have hc := mem_declsOf_stage hs
  have := List.all_eq_true.mp hm _ hc
  exact readsBack32 s this

/-- the resource conjunct of `wfFile` IS `fileMB32Valid` (`wfMB` on both values of every stage) -/
theorem fileMB32Valid_of_wf (f : File) (hw : wfFile f = true) : fileMB32Valid f = true := by
  obtain ⟨_, _, _, h4, _, _⟩ := wfFile_parts hw
  refine all_of_all (fun c hc => ?_) h4
  cases c with
  | stage s => exact Martian.FormatStage.stageMB32Valid_of_wf s hc
  | pipeline p => rfl

/-- round trip with the REAL reading of `mem_gb` / `vmem_gb`, on the domain `wfMB` of `wfFile` -/
theorem parseFile32_fmtFile (f : File) (hw : wfFile f = true) :
    parseFile32 (fmtFile f) = some (normFile f) :=
  parseFileR_fmtFile readGB32Tok f hw (readsBack32_file f (fileMB32Valid_of_wf f hw))

theorem fileHyps32_eq (f : File) : fileHyps32 f = fileHyps f := rfl

theorem fileMB32Valid_norm (f : File) : fileMB32Valid (normFile f) = fileMB32Valid f := by
  simp only [fileMB32Valid, normFile, List.all_map]
  congr 1
  funext c
  cases c <;> rfl

end Martian.FormatFile
