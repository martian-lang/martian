import Martian.LexerLRCheck
import Martian.LexerLRGen

/-! The table check on the regenerated goyacc tables, evaluated by the kernel. -/
namespace Martian.LexerLR

/-- One evaluation for both facts: on its own, "no state shifts SKIP, COMMENT, INVALID, `$end`, `error`" pays once more
for the table lookups that `check` has already made. -/
theorem gen_tables_checked :
    check genTables genCert = true ∧
    ((["SKIP", "COMMENT", "INVALID"].all fun name =>
        match lex1 genTables (Martian.Tokenizer.lookupId Gen.tokIds name : Nat) with
        | some tok => neverShifted genTables tok
        | none => false) &&
      neverShifted genTables genTables.eofCode && neverShifted genTables genTables.errCode) = true := by
  decide +kernel

end Martian.LexerLR
