import Martian.Vdr
import Martian.VdrFs

/-! `filepath.Clean` delivers the cleanliness the overlap theorems assume;
`getLogicalFileNames` contains the target of a link.  `parentsReal_acts_in_place`: with real parents a removal acts in place. -/
namespace Martian.Vdr

def GoodComp (c : Path) : Prop := c ≠ [] ∧ '/' ∉ c

theorem splitSlash_noSlash (p : Path) : ∀ c ∈ splitSlash p, '/' ∉ c := by
  induction p with
  | nil => intro c hc; simp [splitSlash] at hc; subst hc; simp
  | cons ch r ih =>
    intro c hc
    unfold splitSlash at hc
    split at hc
    · rcases List.mem_cons.mp hc with rfl | hc
      · simp
      · exact ih c hc
    · rename_i hne
      have hne' : ch ≠ '/' := by simpa using hne
      split at hc
      · simp at hc; subst hc; simp; exact fun e => hne' e.symm
      · rename_i h t heq
        rcases List.mem_cons.mp hc with rfl | hc
        · have : '/' ∉ h := ih h (by rw [heq]; exact List.mem_cons_self)
          simp only [List.mem_cons, not_or]
          exact ⟨fun e => hne' e.symm, this⟩
        · exact ih c (by rw [heq]; exact List.mem_cons_of_mem _ hc)

theorem cleanComps_good (acc rest : List Path) (ha : ∀ c ∈ acc, GoodComp c) (hr : ∀ c ∈ rest, '/' ∉ c) :
    ∀ c ∈ cleanComps acc rest, GoodComp c := by
  induction rest generalizing acc with
  | nil => intro c hc; simp [cleanComps] at hc; exact ha c hc
  | cons x r ih =>
    unfold cleanComps
    have hr' : ∀ c ∈ r, '/' ∉ c := fun c hc => hr c (List.mem_cons_of_mem _ hc)
    split
    · exact ih acc ha hr'
    · rename_i h1
      split
      · exact ih (acc.drop 1) (fun c hc => ha c (List.mem_of_mem_drop hc)) hr'
      · apply ih (x :: acc) _ hr'
        intro c hc
        rcases List.mem_cons.mp hc with rfl | hc
        · refine ⟨?_, hr c List.mem_cons_self⟩
          intro e; subst e; simp at h1
        · exact ha c hc

theorem joinComps_noTrailing (cs : List Path) (h : ∀ c ∈ cs, GoodComp c) (hne : cs ≠ []) :
    NoTrailingSlash (joinComps cs) := by
  intro q e
  -- the last character is the last character of the last component
  rcases List.eq_nil_or_concat cs with rfl | ⟨init, c, rfl⟩
  · exact hne rfl
  · obtain ⟨hc, hs⟩ := h c (by simp)
    have e' : joinComps init ++ '/' :: c.dropLast ++ [c.getLast hc] = q ++ ['/'] := by
      rw [← e, List.append_assoc, List.cons_append, List.dropLast_concat_getLast hc]
      simp [joinComps]
    have hl : c.getLast hc = '/' := List.singleton_inj.mp (List.append_inj' e' rfl).2
    exact hs (hl ▸ List.getLast_mem hc)

theorem cleanAbs_clean' (p : Path) : cleanAbs p = ['/'] ∨ NoTrailingSlash (cleanAbs p) := by
  unfold cleanAbs
  dsimp only
  split
  · exact Or.inl rfl
  · rename_i hne
    right
    apply joinComps_noTrailing
    · exact cleanComps_good [] _ (fun c hc => by cases hc) (splitSlash_noSlash p)
    · intro e; rw [e] at hne; simp at hne

theorem addClean_mono (names : List Path) (raw : Path) : ∀ x ∈ names, x ∈ addClean names raw := by
  intro x hx
  unfold addClean
  split
  · exact List.mem_append_left _ hx
  · exact hx

theorem chase_mono (fs : List FsEnt) (fuel : Nat) (name : Path) (names : List Path) :
    ∀ x ∈ names, x ∈ chase fs fuel name names := by
  induction fuel generalizing name names with
  | zero => intro x hx; exact hx
  | succ n ih =>
    intro x hx
    unfold chase
    split
    · exact hx
    · split
      · exact hx
      · rename_i raw _
        have hx2 := addClean_mono names raw x hx
        split
        · exact hx2
        · split
          · exact List.mem_append_left _ hx2
          · exact ih _ _ x (List.mem_append_left _ hx2)

theorem chase_target (fs : List FsEnt) (fuel : Nat) (name t : Path) (e : FsEnt) (names : List Path)
    (hf : lfind fs name = some e) (hl : e.link = some t) (habs : isAbs t = true) :
    t ∈ chase fs (fuel + 1) name names := by
  unfold chase
  rw [hf]
  dsimp only
  rw [hl]
  dsimp only
  have hd : linkDest name t = t := by unfold linkDest; simp [habs]
  rw [hd]
  split
  · rename_i hc
    simpa using hc
  · have : t ∈ addClean names t ++ [t] := by simp
    split
    · exact this
    · exact chase_mono fs fuel _ _ t this

/-- the fully resolved location of a name (all linked parent components
followed) is among its logical names -/
theorem logicalNames_resolved' (fs : List FsEnt) (name r : Path) (e : FsEnt)
    (hf : lfind fs (cleanAbs name) = some e) (hr : evalSymlinks fs (cleanAbs name) = some r) :
    r ∈ logicalNames fs name := by
  unfold logicalNames
  rw [hf]
  dsimp only
  rw [hr]
  apply chase_mono
  by_cases hne : (r != cleanAbs name) = true
  · simp [hne]
  · have : r = cleanAbs name := by simpa using hne
    subst this
    by_cases hc : (cleanAbs name != name) = true
    · simp [hc]
    · have : cleanAbs name = name := by simpa using hc
      simp [this]

/-- with only real directories above it a path is acted on where it is written -/
theorem parentsReal_acts_in_place (fs : List FsEnt) (p : Path) (h : ParentsReal fs p) :
    ∀ e ∈ fs, throughLink e p = p := by
  intro e he
  unfold throughLink
  cases hl : e.link with
  | none => rfl
  | some t =>
    have := h e he (by rw [hl]; simp)
    have hp : (e.path ++ ['/']).isPrefixOf p = false := by
      cases hb : (e.path ++ ['/']).isPrefixOf p with
      | false => rfl
      | true => exact absurd (List.isPrefixOf_iff_prefix.mp hb) this
    simp [hp]

end Martian.Vdr
