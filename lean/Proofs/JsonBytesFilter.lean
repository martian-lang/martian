/-
Splice correctness of the byte-level filters (`filterA`, Martian/JsonBytes.lean): the bytes a
filter returns denote the tree it returns, at every node, whichever path (input slice returned /
container re-encoded from member slices) was taken (`sound_filterA`, for types whose member names are
valid UTF-8: `tyKeysOk`).  At the end the sorted-key writer of martian/core
(`den_encodeRawMap`, used by C16) as an application of the same splice lemmas; the array writer is
`invocation_array_bytes` in Props/C16.lean, from `den_spliceArr`.
-/
import Martian.JsonBytes
import Proofs.JsonBytes
import Proofs.Types

namespace Martian.JsonBytes
open Martian.Json (J Num)
open Martian.Lexer (Bytes)
open Martian.Types (Ty Fields Base FErr canFilter worstF)
open Martian.InvocationStr (jsonEncodeString)
open Martian.ShellQuote (validUtf8)

theorem All2.map {α β γ : Type} {R : β → γ → Prop} (f : α → β) (g : α → γ) : ∀ (l : List α),
    (∀ x, x ∈ l → R (f x) (g x)) → All2 R (l.map f) (l.map g)
  | [], _ => .nil
  | x :: r, h => .cons (h x (by simp)) (All2.map f g r fun y hy => h y (by simp [hy]))

theorem toJs_eq_map : ∀ xs : List A, toJs xs = xs.map A.toJ
  | [] => rfl
  | x :: r => by simp [toJs, toJs_eq_map r]

theorem toJKvs_eq_map : ∀ kvs : List (Bytes × A), toJKvs kvs = kvs.map fun kv => (kv.1, kv.2.toJ)
  | [] => rfl
  | (k, v) :: r => by simp [toJKvs, toJKvs_eq_map r]

theorem all2_den_of_sound (xs : List A) (h : ∀ x, x ∈ xs → ASound x) : All2 Den (xs.map A.raw) (toJs xs) := by
  rw [toJs_eq_map]; exact All2.map _ _ xs fun x hx => (h x hx).den

theorem all2_denM_of_sound (kvs : List (Bytes × A))
    (h : ∀ kv, kv ∈ kvs → ASound kv.2 ∧ validUtf8 kv.1 = true) :
    All2 DenM (kvs.map fun kv => (jsonEncodeString true kv.1, kv.2.raw)) (toJKvs kvs) := by
  rw [toJKvs_eq_map]
  exact All2.map _ _ kvs fun kv hkv => ⟨strTok_encode true kv.1 (h kv hkv).2, (h kv hkv).1.den⟩

theorem sound_spliceArr (xs : List A) (h : ∀ x, x ∈ xs → ASound x) :
    ASound (.arr (spliceArr (xs.map A.raw)) xs) :=
  .arr _ _ (den_spliceArr _ _ (all2_den_of_sound xs h)) h

theorem sound_spliceObj (kvs : List (Bytes × A)) (h : ∀ kv, kv ∈ kvs → ASound kv.2 ∧ validUtf8 kv.1 = true) :
    ASound (.obj (spliceObj (kvs.map fun kv => (jsonEncodeString true kv.1, kv.2.raw))) kvs) :=
  .obj _ _ (den_spliceObj _ _ (all2_denM_of_sound kvs h)) (fun kv hkv => (h kv hkv).1) (fun kv hkv => (h kv hkv).2)

theorem mem_dedupLastG {α : Type} {kv : Bytes × α} : ∀ {l : List (Bytes × α)}, kv ∈ dedupLastG l → kv ∈ l
  | [], h => by simp [dedupLastG] at h
  | x :: r, h => by
    simp only [dedupLastG] at h
    split at h
    · exact List.mem_cons_of_mem _ (mem_dedupLastG h)
    · rcases List.mem_cons.mp h with h | h
      · subst h; exact List.mem_cons_self
      · exact List.mem_cons_of_mem _ (mem_dedupLastG h)

theorem mem_insertByKey {α : Type} {kv x : Bytes × α} : ∀ {l : List (Bytes × α)},
    kv ∈ insertByKey x l → kv = x ∨ kv ∈ l
  | [], h => by simp [insertByKey] at h; exact Or.inl h
  | y :: r, h => by
    simp only [insertByKey] at h
    split at h
    · rcases List.mem_cons.mp h with h | h
      · exact Or.inl h
      · exact Or.inr h
    · rcases List.mem_cons.mp h with h | h
      · exact Or.inr (by simp [h])
      · rcases mem_insertByKey h with h | h
        · exact Or.inl h
        · exact Or.inr (List.mem_cons_of_mem _ h)

theorem mem_sortByKey {α : Type} {kv : Bytes × α} : ∀ {l : List (Bytes × α)}, kv ∈ sortByKey l → kv ∈ l
  | [], h => by simp [sortByKey] at h
  | x :: r, h => by
    simp only [sortByKey, List.foldr_cons] at h
    rcases mem_insertByKey h with h | h
    · simp [h]
    · exact List.mem_cons_of_mem _ (mem_sortByKey (l := r) h)

theorem getKeyG_mem {α : Type} {k : Bytes} {v : α} : ∀ {l : List (Bytes × α)}, getKeyG k l = some v → (k, v) ∈ l
  | [], h => by simp [getKeyG] at h
  | (k', v') :: r, h => by
    simp only [getKeyG] at h
    cases hr : getKeyG k r with
    | some w =>
      rw [hr] at h; cases h
      exact List.mem_cons_of_mem _ (getKeyG_mem hr)
    | none =>
      rw [hr] at h
      by_cases hk : k' = k
      · simp [hk] at h; subst hk; subst h; exact List.mem_cons_self
      · simp [hk] at h

mutual
/-- struct member names are valid UTF-8 (identifiers) -/
def tyKeysOk : Ty → Bool
  | .base _ => true
  | .user _ => true
  | .arr t => tyKeysOk t
  | .tmap t => tyKeysOk t
  | .struct _ fs => fieldsKeysOk fs
def fieldsKeysOk : Fields → Bool
  | .nil => true
  | .cons k t r => validUtf8 k && tyKeysOk t && fieldsKeysOk r
end

theorem sound_nullA : ASound nullA := .lit _ _ den_null

theorem sound_filterBaseA (b : Base) (a : A) (h : ASound a) : ASound (filterBaseA b a).out := by
  unfold filterBaseA
  split
  · exact .lit _ _ (den_num (.int _))
  · exact h

theorem sound_filterFieldsA (m : List (Bytes × A)) (hm : ∀ kv, kv ∈ m → ASound kv.2 ∧ validUtf8 kv.1 = true) :
    ∀ (fs : Fields), fieldsKeysOk fs = true →
    (∀ k t, (k, t) ∈ fs.toList → tyKeysOk t = true → ∀ a, ASound a → ASound (filterA t a).out) →
    ∀ y, y ∈ (filterFieldsA fs m).1 → ASound y.2 ∧ validUtf8 y.1 = true
  | .nil, _, _, y, hy => by simp [filterFieldsA] at hy
  | .cons k t r, hkk, ihf, y, hy => by
    simp only [fieldsKeysOk, Bool.and_eq_true] at hkk
    have ihr' := sound_filterFieldsA m hm r hkk.2 (fun k' t' hm' => ihf k' t' (by simp [Fields.toList, hm']))
    simp only [filterFieldsA] at hy
    cases hg : getKeyG k m with
    | none =>
      simp only [hg, List.mem_cons] at hy
      rcases hy with rfl | hy
      · exact ⟨sound_nullA, hkk.1.1⟩
      · exact ihr' y hy
    | some v =>
      have hv := hm (k, v) (getKeyG_mem hg)
      simp only [hg] at hy
      split at hy
      · simp only [List.mem_cons] at hy
        rcases hy with rfl | hy
        · exact ⟨ihf k t (by simp [Fields.toList]) hkk.1.2 v hv.1, hkk.1.1⟩
        · exact ihr' y hy
      · simp only [List.mem_cons] at hy
        rcases hy with rfl | hy
        · exact ⟨hv.1, hkk.1.1⟩
        · exact ihr' y hy

theorem sound_filterA (t : Ty) : tyKeysOk t = true → ∀ a, ASound a → ASound (filterA t a).out := by
  -- in every case of `filterA` at a container type the input is returned, except the re-encoding one
  induction t using Martian.Types.Ty.induct' with
  | base b => intro _ a h; simp only [filterA]; exact sound_filterBaseA b a h
  | user n =>
    intro _ a h
    simp only [filterA]
    split <;> exact h
  | arr t ih =>
    intro hk a h
    generalize hT : Ty.arr t = T
    fun_cases filterA T a <;> first | exact h | cases hT
    rename_i raw xs hne rs hns hc _
    have hx : ∀ x, x ∈ xs → ASound x := by cases h with | arr _ _ _ hx => exact hx
    have := sound_spliceArr ((xs.map fun x => filterA t x).map (·.out)) fun y hy => by
      simp only [List.mem_map] at hy
      obtain ⟨r, ⟨x, hxm, rfl⟩, rfl⟩ := hy
      exact ih hk x (hx x hxm)
    simpa [rs, List.map_map, Function.comp_def] using this
  | tmap t ih =>
    intro hk a h
    generalize hT : Ty.tmap t = T
    fun_cases filterA T a <;> first | exact h | cases hT
    rename_i raw kvs m hne rs hns hc _
    have hx : ∀ kv, kv ∈ kvs → ASound kv.2 ∧ validUtf8 kv.1 = true := by
      cases h with | obj _ _ _ h1 h2 => exact fun kv hkv => ⟨h1 kv hkv, h2 kv hkv⟩
    have := sound_spliceObj (((sortByKey (dedupLastG kvs)).map fun kv => (kv.1, filterA t kv.2)).map
      fun r => (r.1, r.2.out)) fun y hy => by
        simp only [List.mem_map] at hy
        obtain ⟨r, ⟨kv, hkm, rfl⟩, rfl⟩ := hy
        have hm := mem_dedupLastG (mem_sortByKey hkm)
        exact ⟨ih hk kv.2 (hx kv hm).1, (hx kv hm).2⟩
    simpa [rs, m, List.map_map, Function.comp_def] using this
  | struct n fs ih =>
    intro hk a h
    generalize hT : Ty.struct n fs = T
    fun_cases filterA T a <;> first | exact h | cases hT
    rename_i raw kvs m r hd hnull
    have hx : ∀ kv, kv ∈ kvs → ASound kv.2 ∧ validUtf8 kv.1 = true := by
      cases h with | obj _ _ _ h1 h2 => exact fun kv hkv => ⟨h1 kv hkv, h2 kv hkv⟩
    exact sound_spliceObj _ (sound_filterFieldsA (dedupLastG kvs) (fun kv hkv => hx kv (mem_dedupLastG hkv)) fs hk ih)

/-! ### the sorted-key writers -/

/-- `LazyArgumentMap` / `MarshalerMap` / `MapExp` / `ResolvedBindingMap` `encodeJSON`: a map of raw
messages, each of which denotes a tree, written with sorted keys, denotes the object of those trees. -/
theorem den_encodeRawMap (html : Bool) (m : List (Bytes × Bytes)) (tree : Bytes × Bytes → J)
    (h : ∀ kv, kv ∈ m → validUtf8 kv.1 = true ∧ Den kv.2 (tree kv)) :
    Den (encodeRawMap html m) (.obj ((sortByKey m).map fun kv => (kv.1, tree kv))) :=
  den_spliceObj _ _ (All2.map _ _ (sortByKey m) fun kv hkv =>
    ⟨strTok_encode html kv.1 (h kv (mem_sortByKey hkv)).1, (h kv (mem_sortByKey hkv)).2⟩)

end Martian.JsonBytes
