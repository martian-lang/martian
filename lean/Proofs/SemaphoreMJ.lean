import Martian.SemaphoreMJP

/-! MaxJobsSemaphore for C12: the bound on the holders (`MJ`), re-attaching after
a restart, and the wake-ups of the callers parked in `cond.Wait()` (`MJP`). -/
namespace Martian.Semaphore

theorem MJ.attempt_room (s : MJ) (id : Nat) (st : MdState) (nb : Bool)
    (hc : st.cancelled nb = false) (hroom : (s.running.length : Int) < s.limit) :
    s.attempt id st nb =
      (if s.running.contains id then s else { s with running := s.running ++ [id] }, some true) := by
  unfold MJ.attempt
  rw [if_neg (by simp [hc]), if_neg (by omega)]

theorem MJ.attempt_noroom (s : MJ) (id : Nat) (st : MdState) (nb : Bool)
    (h : st.cancelled nb = true ∨ s.limit ≤ (s.running.length : Int)) : (s.attempt id st nb).1 = s := by
  unfold MJ.attempt
  by_cases hc : st.cancelled nb = true
  · rw [if_pos hc]
  · rw [if_neg hc, if_pos (h.resolve_left hc)]
    simp only [apply_ite Prod.fst, ite_self]

theorem MJ.attempt_state (s : MJ) (id : Nat) (st : MdState) (nb : Bool) :
    (s.attempt id st nb).1 = s ∨
    ((s.attempt id st nb).1 = { s with running := s.running ++ [id] } ∧ id ∉ s.running ∧
      (s.running.length : Int) < s.limit) := by
  by_cases h : st.cancelled nb = true ∨ s.limit ≤ (s.running.length : Int)
  · exact Or.inl (MJ.attempt_noroom s id st nb h)
  · have hc : st.cancelled nb = false := by simpa using fun hc => h (Or.inl hc)
    have hroom : (s.running.length : Int) < s.limit := by omega
    rw [MJ.attempt_room s id st nb hc hroom]
    by_cases hin : s.running.contains id = true
    · left; rw [if_pos hin]
    · right; rw [if_neg hin]; exact ⟨rfl, by simpa using hin, hroom⟩

theorem MJ.attempt_none (s : MJ) (id : Nat) (st : MdState) (nb : Bool)
    (h : (s.attempt id st nb).2 = none) :
    (s.attempt id st nb).1 = s ∧ s.limit ≤ (s.running.length : Int) := by
  have hfull : s.limit ≤ (s.running.length : Int) := by
    apply Classical.byContradiction
    intro hroom
    unfold MJ.attempt at h
    rw [if_neg hroom] at h
    split at h <;> cases h
  exact ⟨MJ.attempt_noroom s id st nb (Or.inr hfull), hfull⟩

theorem MJ.attempt_limit (s : MJ) (id : Nat) (st : MdState) (nb : Bool) :
    (s.attempt id st nb).1.limit = s.limit := by
  rcases MJ.attempt_state s id st nb with h | ⟨h, _⟩ <;> rw [h]

/-- invariant of the MaxJobs semaphore created with limit `L` -/
structure MJInv (L : Int) (s : MJ) : Prop where
  nodup : s.running.Nodup
  le : (s.running.length : Int) ≤ L
  lim : s.limit = L ∨ s.limit = 0

theorem MJ.attempt_inv (L : Int) (s : MJ) (id : Nat) (st : MdState) (nb : Bool) (h : MJInv L s) :
    MJInv L (s.attempt id st nb).1 := by
  rcases MJ.attempt_state s id st nb with e | ⟨e, hnot, hroom⟩ <;> rw [e]
  · exact h
  · refine ⟨List.nodup_append.mpr ⟨h.nodup, by simp, ?_⟩, ?_, h.lim⟩
    · intro a ha b hb hab
      rw [List.mem_singleton] at hb
      exact hnot (hb ▸ hab ▸ ha)
    · have := h.le
      rcases h.lim with hl | hl <;> rw [hl] at hroom <;> simp only [List.length_append, List.length_singleton] <;> omega

theorem MJ.step_inv (L : Int) (s : MJ) (op : MJOp) (h : MJInv L s) : MJInv L (s.step op).1 := by
  -- `Release` and `FindDone` leave a sublist of the holders
  have sub : ∀ l : List Nat, l.Sublist s.running → MJInv L ⟨s.limit, l⟩ := fun l hs =>
    ⟨h.nodup.sublist hs, by have := hs.length_le; have := h.le; simp only; omega, h.lim⟩
  cases op with
  | attempt id st nb => exact MJ.attempt_inv L s id st nb h
  | release id => exact sub _ List.erase_sublist
  | findDone fin => exact sub _ List.filter_sublist
  | clear => exact ⟨h.nodup, h.le, Or.inr rfl⟩

theorem MJ.run_inv (L : Int) (ops : List MJOp) (s : MJ) (h : MJInv L s) : MJInv L (s.run ops) := by
  induction ops generalizing s with
  | nil => exact h
  | cons op ops ih => exact ih _ (MJ.step_inv L s op h)

theorem MJ.init_inv (L : Int) (hL : 0 ≤ L) : MJInv L (MJ.init L) :=
  ⟨List.nodup_nil, hL, Or.inl rfl⟩

/-- what `Node.reattachJobs` does on the fresh semaphore: one non-blocking
`Acquire` per in-flight job, with the state the restarted mrp reads from disk
(`Metadata.reattachJob` calls `reattach` for Queued and Running jobs) -/
def reattachOps (ids : List (Nat × MdState)) : List MJOp :=
  ids.map fun p => MJOp.attempt p.1 p.2 true

/-- the states for which `reattachJob` calls `reattach` -/
def MdState.inFlight : MdState → Prop
  | .queued => True
  | .running => True
  | _ => False

theorem MdState.inFlight_not_cancelled (st : MdState) (h : st.inFlight) : st.cancelled true = false := by
  cases st <;> first | rfl | exact h.elim

theorem MJ.run_reattach (L : Int) (ids : List (Nat × MdState)) : ∀ (s : MJ), s.limit = L →
    (∀ p ∈ ids, p.2.inFlight) →
    (s.running ++ ids.map (·.1)).Nodup → ((s.running.length + ids.length : Nat) : Int) ≤ L →
    (s.run (reattachOps ids)).running = s.running ++ ids.map (·.1) ∧ (s.run (reattachOps ids)).limit = L := by
  induction ids with
  | nil => intro s hl _ _ _; exact ⟨(List.append_nil _).symm, hl⟩
  | cons p ids ih =>
    intro s hl hst hnd hlen
    have hnot : ¬ s.running.contains p.1 = true := by
      rw [List.contains_iff_mem]
      exact fun h => (List.nodup_append.mp hnd).2.2 p.1 h p.1 (List.mem_cons_self ..) rfl
    have hstep : (s.step (.attempt p.1 p.2 true)).1 = { s with running := s.running ++ [p.1] } := by
      simp only [MJ.step]
      rw [MJ.attempt_room s p.1 p.2 true (MdState.inFlight_not_cancelled p.2 (hst p (List.mem_cons_self ..)))
        (by rw [hl]; simp only [List.length_cons] at hlen; omega), if_neg hnot]
    have := ih { s with running := s.running ++ [p.1] } hl
      (fun q hq => hst q (List.mem_cons_of_mem _ hq))
      (by simpa [List.append_assoc] using hnd)
      (by simp only [List.length_append, List.length_cons, List.length_nil] at hlen ⊢; omega)
    simpa [reattachOps, MJ.run, hstep, List.append_assoc] using this

theorem MJP.signal_ok (s : MJP) : s.signal.parked = [] ∨ s.signal.woken ≠ [] := by
  unfold MJP.signal
  cases h : s.parked with
  | nil => left; simp [h]
  | cons p ps => right; simp

theorem MJP.signal_mj (s : MJP) : s.signal.mj = s.mj := by
  unfold MJP.signal; split <;> rfl

theorem MJP.pass_some (s : MJP) (w id : Nat) (st : MdState) (nb : Bool) (b : Bool)
    (h : (s.mj.attempt id st nb).2 = some b) :
    s.pass w id st nb = (({ s with running := (s.mj.attempt id st nb).1.running }).signal, some b) := by
  simp only [MJP.pass, h]

theorem MJP.pass_none (s : MJP) (w id : Nat) (st : MdState) (nb : Bool)
    (h : (s.mj.attempt id st nb).2 = none) :
    s.pass w id st nb =
      ({ s with running := (s.mj.attempt id st nb).1.running, parked := s.parked ++ [(w, id)] }, none) := by
  simp only [MJP.pass, h]

/-- a pass leaves `NoLostWakeup`: a return signals, and a caller parks only when there is no room -/
theorem MJP.pass_noLost (s : MJP) (w id : Nat) (st : MdState) (nb : Bool) :
    (s.pass w id st nb).1.NoLostWakeup := by
  cases h : (s.mj.attempt id st nb).2 with
  | some b => rw [MJP.pass_some s w id st nb b h]; exact fun _ => MJP.signal_ok _
  | none =>
    rw [MJP.pass_none s w id st nb h]
    obtain ⟨h1, h2⟩ := MJ.attempt_none s.mj id st nb h
    intro hroom
    have hr : (s.mj.attempt id st nb).1.running = s.running := by rw [h1]; rfl
    simp only [MJP.room, hr] at hroom
    simp only [MJP.mj] at h2
    omega

theorem MJP.pass_mj (s : MJP) (w id : Nat) (st : MdState) (nb : Bool) :
    (s.pass w id st nb).1.mj = (s.mj.attempt id st nb).1 := by
  have hl : (⟨s.limit, (s.mj.attempt id st nb).1.running⟩ : MJ) = (s.mj.attempt id st nb).1 := by
    rw [← show (s.mj.attempt id st nb).1.limit = s.limit from MJ.attempt_limit s.mj id st nb]
  cases h : (s.mj.attempt id st nb).2 with
  | some b => rw [MJP.pass_some s w id st nb b h, MJP.signal_mj]; exact hl
  | none => rw [MJP.pass_none s w id st nb h]; exact hl

theorem MJP.step_noLost (s : MJP) (op : MJPOp) (h : s.NoLostWakeup) : (s.step op).st.NoLostWakeup := by
  cases op with
  | enter w id st nb =>
    simp only [MJP.step]
    split
    · exact h
    · exact MJP.pass_noLost s w id st nb
  | resume w st =>
    simp only [MJP.step]
    split
    · exact MJP.pass_noLost _ w _ st false
    · split
      · exact MJP.pass_noLost _ w _ st false
      · exact h
  | release id =>
    simp only [MJP.step]
    split
    · exact fun _ => MJP.signal_ok _
    · exact h
  | findDone fin =>
    simp only [MJP.step]
    split
    · exact h
    · split
      · exact fun _ => Or.inl rfl
      · split
        · exact fun _ => MJP.signal_ok _
        · -- spare ≤ 0: no room
          intro hroom
          simp only [MJP.room] at hroom
          omega
  | clear => exact fun _ => Or.inl rfl

theorem MJP.step_inv (L : Int) (s : MJP) (op : MJPOp) (h : MJInv L s.mj) :
    MJInv L (s.step op).st.mj := by
  cases op with
  | enter w id st nb =>
    simp only [MJP.step]
    split
    · exact h
    · rw [MJP.pass_mj]; exact MJ.attempt_inv L s.mj id st nb h
  | resume w st =>
    simp only [MJP.step]
    split
    · rw [MJP.pass_mj]; exact MJ.attempt_inv L _ _ st false h
    · split
      · rw [MJP.pass_mj]; exact MJ.attempt_inv L _ _ st false h
      · exact h
  | release id =>
    simp only [MJP.step]
    split
    · rw [MJP.signal_mj]; exact MJ.step_inv L s.mj (.release id) h
    · exact h
  | findDone fin =>
    simp only [MJP.step]
    have hf := MJ.step_inv L s.mj (.findDone fin) h
    split
    · exact h
    · split
      · exact hf
      · split
        · rw [MJP.signal_mj]; exact hf
        · exact hf
  | clear => exact MJ.step_inv L s.mj .clear h

theorem MJP.run_inv (L : Int) (ops : List MJPOp) (s : MJP) (h : MJInv L s.mj) :
    MJInv L (s.run ops).mj := by
  induction ops generalizing s with
  | nil => exact h
  | cons op ops ih => exact ih _ (MJP.step_inv L s op h)

theorem MJP.run_noLost (s : MJP) (ops : List MJPOp) (h : s.NoLostWakeup) : (s.run ops).NoLostWakeup := by
  induction ops generalizing s with
  | nil => exact h
  | cons op ops ih => exact ih _ (MJP.step_noLost s op h)

end Martian.Semaphore
