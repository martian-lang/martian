import Martian.InvocationStr
import Proofs.Escape
import Proofs.Utf8

/-! The text of `quoteString` and of `encoding/json`'s `appendString` (`encFrom esc`), unit by unit.  `encFrom` is
defined in C16's model file `Martian/InvocationStr.lean`, so this module imports it and its lemmas are in
namespace `Martian.InvocationStr`; C09's `quoteFrom` is the same loop at `escAscii` (`encFrom_escAscii`). -/

namespace Martian.InvocationStr
open Martian.Escape
open Martian.Lexer (Bytes)
open Martian.Format (Pend escAscii esc2028 esc2029 quoteFrom take2_eq runeWidth_E2)
open Martian.ShellQuote (runeWidth validFrom)

theorem encFrom_escAscii (s : Bytes) (p : Pend) : encFrom escAscii s p = quoteFrom s p := by
  fun_induction encFrom escAscii s p <;> simp [quoteFrom, *]

theorem encFrom_copy (esc : UInt8 → Bytes) : ∀ (k : Nat) (r : Bytes), k ≤ r.length →
    encFrom esc r (if k = 0 then .none else .copy k) = r.take k ++ encFrom esc (r.drop k) .none
  | 0, _, _ => rfl
  | k + 1, c :: r, h => by
    simp only [Nat.add_one_ne_zero, if_false, encFrom, List.take_succ_cons, List.drop_succ_cons, List.cons_append]
    rw [encFrom_copy esc k r (by simpa using h)]

/-- what `encFrom esc` writes for one rune of a valid string, and the bytes it stands for -/
inductive EUnit (esc : UInt8 → Bytes) : Bytes → Bytes → Prop
  | ascii (b : UInt8) (hb : b < 0x80) : EUnit esc (esc b) [b]
  | ls : EUnit esc esc2028 [0xE2, 0x80, 0xA8]
  | ps : EUnit esc esc2029 [0xE2, 0x80, 0xA9]
  | rune (b : UInt8) (r : Bytes) (w : Nat) (hb : ¬ b < 0x80) (hw : runeWidth (b :: r) = some w) :
      EUnit esc (b :: r.take (w - 1)) (b :: r.take (w - 1))

/-- On valid UTF-8 the writer's text is a sequence of units that stand, in order, for the runes of the string:
at a rune boundary the writer writes one unit and is at a rune boundary again. -/
theorem encFrom_spells (esc : UInt8 → Bytes) :
    ∀ s, validFrom s 0 = true → Spells (EUnit esc) (encFrom esc s .none) s := by
  refine valid_induction .nil fun b r w hw ih => ?_
  by_cases hb : b < 0x80
  · obtain rfl : 1 = w := by simpa [runeWidth, hb] using hw
    simp only [encFrom, hb, if_true]
    exact .cons (.ascii b hb) ih
  simp only [encFrom, hb, if_false, hw]
  -- the line and paragraph separators: written as an escape, continuation bytes dropped
  have sep : ∀ x e, x = 0xA8 ∨ x = 0xA9 → EUnit esc e [0xE2, 0x80, x] →
      (b == 0xE2 && r.take 2 == [0x80, x]) = true →
      Spells (EUnit esc) (e ++ encFrom esc r (.drop 2)) (b :: r) := by
    intro x e hx he h
    rw [Bool.and_eq_true] at h
    obtain rfl := eq_of_beq h.1
    obtain ⟨t, rfl⟩ := take2_eq h.2
    obtain rfl : 3 = w := Option.some.inj ((runeWidth_E2 t x hx).symm.trans hw)
    exact .cons he ih
  split
  · exact sep _ _ (.inl rfl) .ls ‹_›
  split
  · exact sep _ _ (.inr rfl) .ps ‹_›
  rw [show (if w ≤ 1 then Pend.none else Pend.copy (w - 1)) = (if w - 1 = 0 then .none else .copy (w - 1)) by
    simp only [Nat.sub_eq_zero_iff_le], encFrom_copy esc _ r (runeWidth_le b r w hw)]
  have := Spells.cons (.rune b r w hb hw) ih
  rwa [List.cons_append, List.cons_append, List.take_append_drop] at this

end Martian.InvocationStr
