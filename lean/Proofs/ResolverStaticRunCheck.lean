/-
C01 — soundness of the decidable type check `wellTypedRB` (the fragment of `wellTypedEB` plus map
calls in typed-map mode; sizes static or run-time), with the soundness of `noMapBelowB`
(`noMapBelowB_sound`; `pathTy_arr_indep`: below a type without typed map, what a path reaches does not depend
on the array nesting).
-/
import Proofs.ResolverStaticDisCheck
import Proofs.ResolverStaticRun
import Proofs.ResolverStaticMap

namespace Proofs.ResolverStatic
open Martian.Dataflow Martian.Resolver Martian.ResolverForks Martian.ResolverStatic Proofs.Dataflow

/-- the typed-map-free part of a projection does not depend on the array nesting -/
theorem pathTy_arr_indep (st : StructTable) : ∀ (path : List String) (b : String) (a a' : Nat),
    (pathTy st ⟨b, 0, a⟩ path).mapDim = (pathTy st ⟨b, 0, a'⟩ path).mapDim ∧
    (pathTy st ⟨b, 0, a⟩ path).base = (pathTy st ⟨b, 0, a'⟩ path).base ∧
    (FieldsExist st ⟨b, 0, a⟩ path ↔ FieldsExist st ⟨b, 0, a'⟩ path)
  | [], _, _, _ => ⟨rfl, rfl, Iff.rfl⟩
  | f :: r, b, a, a' => by
    simp only [pathTy, FieldsExist]
    cases hf : fieldTy st b f with
    | none =>
      simp only [Martian.Dataflow.projTy1, hf]
      have := pathTy_arr_indep st r "?" a a'
      exact ⟨this.1, this.2.1, by simp⟩
    | some ft =>
      simp only [Martian.Dataflow.projTy1, hf, if_true, Option.isSome_some, true_and]
      cases hm : ft.mapDim with
      | zero =>
        exact pathTy_arr_indep st r ft.base (ft.arrDim + a) (ft.arrDim + a')
      | succ k =>
        -- a typed-map field: the rest of the path does not see the array nesting at all
        exact pathTy_map_arr_indep st r ft.base (k + 1) (ft.arrDim + a) (ft.arrDim + a')
where
  pathTy_map_arr_indep (st : StructTable) : ∀ (path : List String) (b : String) (m a a' : Nat),
      (pathTy st ⟨b, m, a⟩ path).mapDim = (pathTy st ⟨b, m, a'⟩ path).mapDim ∧
      (pathTy st ⟨b, m, a⟩ path).base = (pathTy st ⟨b, m, a'⟩ path).base ∧
      (FieldsExist st ⟨b, m, a⟩ path ↔ FieldsExist st ⟨b, m, a'⟩ path)
    | [], _, _, _, _ => ⟨rfl, rfl, Iff.rfl⟩
    | f :: r, b, m, a, a' => by
      simp only [pathTy, FieldsExist]
      cases hf : fieldTy st b f with
      | none =>
        simp only [Martian.Dataflow.projTy1, hf]
        have := pathTy_map_arr_indep st r "?" m a a'
        exact ⟨this.1, this.2.1, by simp⟩
      | some ft =>
        simp only [Martian.Dataflow.projTy1, hf, Option.isSome_some, true_and]
        by_cases hm : m = 0
        · simp only [hm, if_true]
          have h1 := pathTy_map_arr_indep st r ft.base ft.mapDim (ft.arrDim + a) (ft.arrDim + a')
          exact h1
        · simp only [hm, if_false]
          exact pathTy_map_arr_indep st r ft.base (m + ft.arrDim) a a'

theorem NoMapBelow.arr_shift {st : StructTable} {b : String} {a : Nat} (h : NoMapBelow st ⟨b, 0, a⟩) (a' : Nat) :
    NoMapBelow st ⟨b, 0, a'⟩ := by
  intro path hp
  obtain ⟨h1, _, h3⟩ := pathTy_arr_indep st path b a' a
  rw [h1]
  exact h path (h3.mp hp)

theorem noMapBelowB_sound (st : StructTable) (hst : StructsOk st) :
    ∀ (n : Nat) (t : Ty), noMapBelowB st n t = true → NoMapBelow st t
  | 0, _, h => by simp [noMapBelowB] at h
  | n+1, t, h => by
    simp only [noMapBelowB, Bool.and_eq_true, beq_iff_eq] at h
    obtain ⟨hm, hrest⟩ := h
    intro path hp
    cases path with
    | nil => exact hm
    | cons f r =>
      simp only [FieldsExist] at hp
      simp only [pathTy]
      cases hf : fieldTy st t.base f with
      | none => simp [hf] at hp
      | some ft =>
        obtain ⟨ps, p, hl, hpm, hpn, hpt, _⟩ := fieldTy_mem st _ _ _ hf
        rw [hl] at hrest
        simp only [List.all_eq_true] at hrest
        have ih := noMapBelowB_sound st hst n p.ty (hrest p hpm)
        rw [hpt] at ih
        have hft0 : ft.mapDim = 0 := ih.mapDim
        have e : Martian.Dataflow.projTy1 st t f = ⟨ft.base, 0, ft.arrDim + t.arrDim⟩ := by
          simp only [Martian.Dataflow.projTy1, hf, hm, if_true]
          cases ft; simp_all
        rw [e] at hp ⊢
        have ih' : NoMapBelow st ⟨ft.base, 0, ft.arrDim⟩ := by
          have : ft = ⟨ft.base, 0, ft.arrDim⟩ := by cases ft; simp_all
          rw [← this]; exact ih
        exact (ih'.arr_shift (ft.arrDim + t.arrDim)) r hp.2

theorem mappedOkKB_sound (st : StructTable) (hst : StructsOk st) (n : Nat) (P : Program) (sT cT : String → Ty)
    (c : Call) (h : mappedOkKB st n P sT cT c = true) : MappedOkK st P sT cT c := by
  simp only [mappedOkKB, Bool.and_eq_true, Option.isNone_iff_eq_none, List.any_eq_true, List.all_eq_true,
    decide_eq_true_eq, Bool.or_eq_true, Bool.not_eq_true', beq_iff_eq] at h
  obtain ⟨⟨⟨⟨⟨hm, hd⟩, hex⟩, hnd⟩, hpar⟩, hty⟩ := h
  refine ⟨hm, hd, ?_, ?_, ?_, ?_⟩
  · obtain ⟨b, hb, hs⟩ := hex
    exact ⟨b, hb, hs⟩
  · intro b hb hs
    cases hpar b hb with
    | inl h0 => rw [h0] at hs; cases hs
    | inr h0 =>
      obtain ⟨p, hp, hpn⟩ := h0
      refine ⟨p, hp, ?_⟩
      rw [hpn]
      exact find_key_of_nodup c.binds (·.param) hnd b hb
  · intro p hp b hb
    have := hty p hp
    simp only [hb, Bool.and_eq_true] at this
    exact hasTyB_sound st n sT cT b.exp _ this.1
  · intro p hp b hb hs
    have := hty p hp
    simp only [hb, Bool.and_eq_true, Bool.or_eq_true, Bool.not_eq_true'] at this
    cases this.2 with
    | inl h0 => rw [h0] at hs; cases hs
    | inr h0 => exact noMapBelowB_sound st hst _ _ h0

theorem callsOkRB_sound (st : StructTable) (hst : StructsOk st) (n : Nat) (P : Program) (sT : String → Ty) :
    ∀ (cs : List Call) (L : List (String × Ty)), callsOkRB st n P sT L cs = true → CallsOkR st P sT L cs
  | [], _, _ => trivial
  | c :: cs, L, h => by
    simp only [callsOkRB, Bool.and_eq_true, callOkRB, callOkTB, Bool.or_eq_true, List.all_eq_true,
      Bool.not_eq_true'] at h
    refine ⟨⟨callCleanB_sound c h.1.1, ?_⟩, callsOkRB_sound st hst n P sT cs _ h.2⟩
    rcases h.1.2 with ((h1 | h1) | h1) | h1
    · exact Or.inl ⟨callOkB_sound st n P.insOf sT _ c (by rw [← callTyOfB_eq]; exact h1.1), h1.2⟩
    · exact Or.inr (Or.inl (mappedOkTB_sound st n P sT _ c (by rw [← callTyOfB_eq]; exact h1)))
    · exact Or.inr (Or.inr (Or.inl (disabledOkEB_sound st n P sT _ c (by rw [← callTyOfB_eq]; exact h1))))
    · exact Or.inr (Or.inr (Or.inr (mappedOkKB_sound st hst n P sT _ c (by rw [← callTyOfB_eq]; exact h1))))

theorem wellTypedRB_sound (P : Program) (h : wellTypedRB P = true) : WellTypedR P := by
  simp only [wellTypedRB, Bool.and_eq_true, List.all_eq_true, beq_iff_eq, Bool.not_eq_true'] at h
  obtain ⟨⟨⟨⟨⟨h1, h2⟩, h3⟩, h4⟩, h5⟩, h6⟩ := h
  have hst := structsOkB_sound _ h1
  refine ⟨hst, ?_, ?_, ?_⟩
  · intro name c hl
    exact h2 (name, c) (mem_of_lookup _ _ _ hl)
  · intro name pins outs calls ret hl
    have := h3 (name, _) (mem_of_lookup _ _ _ hl)
    simp only [pipelineOkRB, Bool.and_eq_true, List.all_eq_true] at this
    refine ⟨callsOkRB_sound _ hst _ _ _ calls [] (by rw [← selfTyOfB_eq]; exact this.1), ?_⟩
    intro p hp e he
    have h7 := this.2 p hp
    simp only [he, Bool.and_eq_true] at h7
    exact ⟨h7.1, hasTyB_sound _ _ _ _ e p.ty h7.2⟩
  · exact ⟨callOkB_sound _ _ _ _ _ _ h4, h5, h6⟩

end Proofs.ResolverStatic
