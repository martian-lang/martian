/-
Lemmas for Martian/TypingPipeline.lean: wildcard bindings, what the bindings of
an accepted call deliver (value-level model), modifiers, return statements, the
empty environment of a top-level call.
-/
import Martian.TypingPipeline
import Proofs.Typing

namespace Martian.Typing
open Martian.Json Martian.Types

theorem mem_expandWild (Γ : Env) (params : List (Bytes × Ty)) (w : Wild) (ex : List (Bytes × Bind))
    (h : expandWild Γ params w = some ex) (x : Bytes) (b : Bind) :
    (x, b) ∈ ex ↔ ∃ ms e, wildMembers Γ w = some ms ∧ (x, e) ∈ ms ∧
      (params.lookup x).isSome = true ∧ b = .plain e := by
  simp only [expandWild] at h
  cases hm : wildMembers Γ w with
  | none => simp [hm] at h
  | some ms =>
    simp only [hm, Option.some.injEq] at h
    subst h
    simp only [List.mem_map, List.mem_filter, Prod.mk.injEq, Prod.exists]
    constructor
    · rintro ⟨k, e, ⟨hke, hp⟩, rfl, rfl⟩
      exact ⟨ms, e, rfl, hke, hp, rfl⟩
    · rintro ⟨ms', e, hms, hke, hp, rfl⟩
      cases hms
      exact ⟨x, e, ⟨hke, hp⟩, rfl, rfl⟩

theorem Exp.wf_call (id : Bytes) (p : List Bytes) : (Exp.call id p).wf = true := by simp [Exp.wf]

/-- How a plain binding is accepted, and which expression is then evaluated
(`bindExp`): the written one, valid as it stands; or, for `x = CALL` only, the
reference `CALL.default`, whose type is assignable. -/
theorem validBind_plain_cases {Γ : Env} {t : Ty} {e : Exp} (hv : validBind Γ t (.plain e) = true) :
    (bindExp Γ t e = e ∧ validExp Γ t e = true) ∨
    ∃ id s, bindExp Γ t e = .call id [defaultName] ∧
      refType Γ (.call id [defaultName]) = some s ∧ assignable t s = true := by
  by_cases hve : validExp Γ t e = true
  · refine Or.inl ⟨?_, hve⟩
    cases e with
    | call id p => cases p <;> simp [bindExp, hve]
    | _ => simp [bindExp]
  · simp only [validBind, hve, Bool.false_or] at hv
    cases e with
    | call id p =>
      cases p with
      | nil =>
        simp only [defaultRewrite, Bool.and_eq_true] at hv
        cases hr : refType Γ (.call id [defaultName]) with
        | none => simp [hr] at hv
        | some s =>
          simp only [hr, Bool.and_eq_true] at hv
          exact Or.inr ⟨id, s, by simp [bindExp, hve], hr, hv.2.2⟩
      | cons o p => simp [defaultRewrite] at hv
    | _ => simp [defaultRewrite] at hv

theorem ref_filter_sound (Γ : Env) (ρ : Store) (hρ : StoreOk Γ ρ) (t : Ty) (ht : t.wf = true) (e : Exp)
    (s : Ty) (hr : refType Γ e = some s) (ha : assignable t s = true) (hn : noHole t s = true) :
    ∃ v, eval Γ ρ e = some v ∧ valid t (filter t v).1 = true := by
  obtain ⟨v, hev, hs⟩ := ref_shape Γ ρ hρ e s hr
  exact ⟨v, hev, valid_of_shape _ _ (shape_filter_of_assignable t ht s v hs ha hn)⟩

theorem plain_sound (Γ : Env) (ρ : Store) (hρ : StoreOk Γ ρ) (t : Ty) (ht : t.wf = true) (e : Exp)
    (he : e.wf = true) (hv : validBind Γ t (.plain e) = true)
    (hh : holeFree Γ t (bindExp Γ t e) = true) :
    ∃ v, eval Γ ρ (bindExp Γ t e) = some v ∧ valid t (filter t v).1 = true := by
  rcases validBind_plain_cases hv with ⟨hb, hve⟩ | ⟨id, s, hb, hr, ha⟩
  · rw [hb] at hh ⊢
    exact validExp_sound Γ ρ hρ t ht e he hve hh
  · rw [hb] at hh ⊢
    simp only [holeFree_call, refHoleFree, hr] at hh
    exact ref_filter_sound Γ ρ hρ t ht _ s hr ha hh

theorem validBind_split_ref (Γ : Env) (t : Ty) (e : Exp) (he : ∃ id p, e = .self id p ∨ e = .call id p) :
    validBind Γ t (.split e) =
      match refType Γ e with
      | some s => (match peel s with | some s' => assignable t s' | none => false)
      | none => false := by
  obtain ⟨id, p, rfl | rfl⟩ := he <;> rfl

theorem bindHoleFree_split_ref (Γ : Env) (t : Ty) (e : Exp) (he : ∃ id p, e = .self id p ∨ e = .call id p) :
    bindHoleFree Γ t (.split e) =
      match refType Γ e with
      | some s => (match peel s with | some s' => noHole t s' | none => true)
      | none => true := by
  obtain ⟨id, p, rfl | rfl⟩ := he <;> rfl

theorem elems_of_shape {s s' : Ty} {v : J} (hp : peel s = some s') (hs : Shape s v) :
    ∃ xs, elems v = some xs ∧ ∀ x ∈ xs, Shape s' x := by
  cases hs with
  | null => exact ⟨[], rfl, by simp⟩
  | arr _ xs hx => cases hp; exact ⟨xs, rfl, hx⟩
  | tmap _ kvs h1 _ =>
    cases hp
    refine ⟨kvs.map Prod.snd, rfl, fun x hxm => ?_⟩
    obtain ⟨kv, hkv, rfl⟩ := List.mem_map.mp hxm
    exact h1 kv hkv
  | _ => cases hp

theorem split_ref_sound (Γ : Env) (ρ : Store) (hρ : StoreOk Γ ρ) (t : Ty) (ht : t.wf = true) (e : Exp)
    (s s' : Ty) (hr : refType Γ e = some s) (hp : peel s = some s')
    (ha : assignable t s' = true) (hn : noHole t s' = true) :
    ∃ v xs, eval Γ ρ e = some v ∧ elems v = some xs ∧ ∀ x ∈ xs, valid t (filter t x).1 = true := by
  obtain ⟨v, hev, hs⟩ := ref_shape Γ ρ hρ e s hr
  obtain ⟨xs, hxs, hall⟩ := elems_of_shape hp hs
  exact ⟨v, xs, hev, hxs, fun x hx =>
    valid_of_shape _ _ (shape_filter_of_assignable t ht s' x (hall x hx) ha hn)⟩

theorem bind_split_ref_sound (Γ : Env) (ρ : Store) (hρ : StoreOk Γ ρ) (t : Ty) (ht : t.wf = true) (e : Exp)
    (he : ∃ id p, e = .self id p ∨ e = .call id p)
    (hv : validBind Γ t (.split e) = true) (hh : bindHoleFree Γ t (.split e) = true) :
    ∃ vs, delivered Γ ρ t (.split e) = some vs ∧ ∀ v ∈ vs, valid t (filter t v).1 = true := by
  rw [validBind_split_ref Γ t e he] at hv
  rw [bindHoleFree_split_ref Γ t e he] at hh
  cases hr : refType Γ e with
  | none => simp [hr] at hv
  | some s =>
    cases hp : peel s with
    | none => simp [hr, hp] at hv
    | some s' =>
      simp only [hr, hp] at hv hh
      obtain ⟨v, xs, hev, hxs, hall⟩ := split_ref_sound Γ ρ hρ t ht e s s' hr hp hv hh
      exact ⟨xs, by simp [delivered, hev, hxs], hall⟩

theorem bind_sound (Γ : Env) (ρ : Store) (hρ : StoreOk Γ ρ) (t : Ty) (ht : t.wf = true) (b : Bind)
    (hb : b.wf = true) (hv : validBind Γ t b = true) (hh : bindHoleFree Γ t b = true) :
    ∃ vs, delivered Γ ρ t b = some vs ∧ ∀ v ∈ vs, valid t (filter t v).1 = true := by
  cases b with
  | plain e =>
    obtain ⟨v, hev, hval⟩ := plain_sound Γ ρ hρ t ht e hb hv hh
    exact ⟨[v], by simp [delivered, hev], by simpa using hval⟩
  | split e =>
    cases e with
    | arr xs =>
      simp only [validBind, Bool.and_eq_true, List.all_eq_true] at hv
      simp only [bindHoleFree, List.all_eq_true] at hh
      simp only [Bind.wf, Exp.wf, Exps.wf_eq, List.all_eq_true] at hb
      obtain ⟨vs, hvs, hall⟩ := allSome_all (eval Γ ρ) (fun v => valid t (filter t v).1 = true) xs.toList
        (fun x hx => validExp_sound Γ ρ hρ t ht x (hb x hx) (hv.2 x hx) (hh x hx))
      exact ⟨vs, by simp [delivered, eval, evalL_eq, hvs, elems], hall⟩
    | map isStruct kvs =>
      cases isStruct with
      | true => simp [validBind] at hv
      | false =>
        simp only [validBind, Bool.and_eq_true, List.all_eq_true] at hv
        simp only [bindHoleFree, List.all_eq_true] at hh
        simp only [Bind.wf, Exp.wf, KVs.wf_eq, Bool.and_eq_true, List.all_eq_true] at hb
        obtain ⟨vs, hvs, hall⟩ := allSome_keyed (eval Γ ρ)
          (fun _ v => valid t (filter t v).1 = true) kvs.toList
          (fun kv hkv => validExp_sound Γ ρ hρ t ht kv.2 (hb.1 kv hkv) (hv.2 kv hkv) (hh kv hkv))
        refine ⟨vs.map Prod.snd, by simp [delivered, eval, evalKV_eq, hvs, elems], fun v hvm => ?_⟩
        obtain ⟨kv, hkv, rfl⟩ := List.mem_map.mp hvm
        exact hall kv hkv
    | self id p | call id p => exact bind_split_ref_sound Γ ρ hρ t ht _ ⟨id, p, by simp⟩ hv hh
    | _ => simp [validBind] at hv

theorem ite_nil_iff {α : Type} (c : Bool) (x : α) : (if c = true then [x] else []) = [] ↔ c = false := by
  cases c <;> simp

theorem modErrs_nil_iff (Γ : Env) (callee : Callee) (binds : List (Bytes × Bind)) (w : Option Wild)
    (m : Mods) :
    modErrs Γ callee binds w m = [] ↔
      ((m.usings.map ModItem.tag).eraseDups.length = (m.usings.map ModItem.tag).length ∧
       (∀ e, usingDisabled m.usings = some e → validBind Γ (.base .bool) (.plain e) = true) ∧
       (m.kwVolatile && (usingVal 2 m.usings).isSome) = false ∧
       (m.kwLocal && (usingVal 0 m.usings).isSome) = false ∧
       (m.kwPreflight && (usingVal 1 m.usings).isSome) = false ∧
       (!callee.isStage && (effective m.kwLocal (usingVal 0 m.usings) ||
          effective m.kwPreflight (usingVal 1 m.usings) ||
          effective m.kwVolatile (usingVal 2 m.usings))) = false ∧
       (effective m.kwPreflight (usingVal 1 m.usings) &&
          (binds.any (fun ib => bindIsCallRef ib.2) || wildIsCallRef w ||
            (match usingDisabled m.usings with | some e => isCallRef e | none => false))) = false ∧
       (effective m.kwPreflight (usingVal 1 m.usings) && !callee.outs.toList.isEmpty) = false) := by
  simp only [modErrs]
  by_cases h1 : ((m.usings.map ModItem.tag).eraseDups.length != (m.usings.map ModItem.tag).length) = true
  · simp only [h1, if_true]
    simp only [bne_iff_ne, ne_eq] at h1
    constructor
    · intro h; cases h
    · rintro ⟨h, _⟩; exact absurd h h1
  · simp only [h1]
    have h1' : (m.usings.map ModItem.tag).eraseDups.length = (m.usings.map ModItem.tag).length := by
      simpa using h1
    cases hd : usingDisabled m.usings with
    | none =>
      simp only [Bool.false_eq_true, if_false, List.append_eq_nil_iff, ite_nil_iff, h1', true_and,
        reduceCtorEq, false_implies, implies_true]
      simp [and_assoc]
    | some e =>
      by_cases h2 : validBind Γ (.base .bool) (.plain e) = true
      · simp only [h2, Bool.not_true, Bool.false_eq_true, if_false, List.append_eq_nil_iff, ite_nil_iff,
          h1', true_and, Option.some.injEq, forall_eq']
        simp [and_assoc]
      · have h2' : validBind Γ (.base .bool) (.plain e) = false := by simpa using h2
        simp [h2']

theorem retainable_opt_iff (o : Option Ty) :
    (match o with | some t => retainable t | none => false) = true ↔
      ∃ t, o = some t ∧ fileKind t ≠ .notFile := by
  cases o <;> simp [retainable]

theorem retValue_sound (Γ : Env) (ρ : Store) (hρ : StoreOk Γ ρ) (bs : List (Bytes × Bind)) :
    ∀ (fs : Fields),
      (∀ k t, (k, t) ∈ fs.toList → t.wf = true ∧ ∃ e, bs.lookup k = some (.plain e) ∧ e.wf = true ∧
          validBind Γ t (.plain e) = true ∧ holeFree Γ t (bindExp Γ t e) = true) →
      ∃ vs, retValue Γ ρ bs fs = some vs ∧ vs.map Prod.fst = fs.toList.map Prod.fst ∧
        ∀ k t, (k, t) ∈ fs.toList → ∃ v, (k, v) ∈ vs ∧ valid t v = true :=
  fields_members (F := retValue Γ ρ bs) rfl fun k t r vs ⟨htw, e, hl, hew, hvb, hhf⟩ hvs => by
    obtain ⟨v, hev, hval⟩ := plain_sound Γ ρ hρ t htw e hew hvb hhf
    exact ⟨(filter t v).1, by simp [retValue, hl, hev, hvs], hval⟩

theorem refType_emptyEnv (e : Exp) : refType emptyEnv e = none := by
  cases e <;> simp [refType, emptyEnv]

theorem refHoleFree_emptyEnv (t : Ty) (e : Exp) : refHoleFree emptyEnv t e = true := by
  simp [refHoleFree, refType_emptyEnv]

theorem holeFree_emptyEnv (t : Ty) : ∀ (e : Exp), holeFree emptyEnv t e = true := by
  induction t using Ty.induct' with
  | base b => intro e; simp [holeFree, refHoleFree_emptyEnv]
  | user n => intro e; simp [holeFree, refHoleFree_emptyEnv]
  | arr t ih =>
    intro e
    cases e <;> simp [holeFree, refHoleFree_emptyEnv, List.all_eq_true]
    intro x _; exact ih x
  | tmap t ih =>
    intro e
    cases e <;> simp [holeFree, refHoleFree_emptyEnv, List.all_eq_true]
    intro a b _; exact ih b
  | struct n fs ih =>
    intro e
    cases e <;> simp [holeFree, refHoleFree_emptyEnv]
    rw [holeFreeFields_iff]
    intro k t hkt e' _
    exact ih k t hkt e'

theorem bindHoleFree_emptyEnv (t : Ty) (b : Bind) : bindHoleFree emptyEnv t b = true := by
  cases b with
  | plain e => simp [bindHoleFree, holeFree_emptyEnv]
  | split e =>
    cases e <;> simp [bindHoleFree, refType_emptyEnv, List.all_eq_true, holeFree_emptyEnv]

theorem storeOk_emptyEnv (ρ : Store) : StoreOk emptyEnv ρ :=
  ⟨fun id t h => by simp [emptyEnv] at h, fun id s h => by simp [emptyEnv] at h⟩

end Martian.Typing
