import Martian.FormatPipe
import Proofs.FormatClosure
import Proofs.FormatCall2Norm
import Proofs.FormatExpRound

/-! The dependency edges between the calls of a pipeline (`callEdges`, the model of
`directDepsMap`): membership; invariance under the normal form of calls; the edges of a
rearranged list of calls with distinct ids are the relabelled edges; `sortCalls` is a
permutation, respects dependencies, commutes with the normal form and is idempotent. -/
namespace Martian.FormatPipe
open Martian.Lexer (Bytes parseInt)
open Martian.Format Martian.FormatExp Martian.FormatCall Martian.FormatCall2

mutual
theorem refIds_norm : ∀ e : Exp, refIds (norm e) = refIds e
  | .null => rfl
  | .nilArr => rfl
  | .bool _ => rfl
  | .int _ => rfl
  | .str _ => rfl
  | .ref .. => rfl
  | .float t => by rcases norm_float t with h | ⟨i, _, _, h⟩ <;> rw [h] <;> rfl
  | .arr xs => by simp only [norm, refIds, refIdsL_norm xs]
  | .map kvs => by simp only [norm, refIds, refIdsKV_norm kvs]
  | .struct [] => rfl
  | .struct ((k, v) :: r) => by
    have := refIdsKV_norm ((k, v) :: r)
    simp only [normKV] at this
    simp only [norm, normKV, refIds, this]
theorem refIdsL_norm : ∀ xs : List Exp, refIdsL (normL xs) = refIdsL xs
  | [] => rfl
  | x :: r => by simp only [normL, refIdsL, refIds_norm x, refIdsL_norm r]
theorem refIdsKV_norm : ∀ kvs : List (Bytes × Exp), refIdsKV (normKV kvs) = refIdsKV kvs
  | [] => rfl
  | (k, v) :: r => by simp only [normKV, refIdsKV, refIds_norm v, refIdsKV_norm r]
end

theorem bindRefs_norm : ∀ bs : List Bind, bindRefs (bs.map normBind) = bindRefs bs
  | [] => rfl
  | b :: r => by simp only [List.map_cons, bindRefs, normBind, refIds_norm, bindRefs_norm r]

theorem mem_modRefs (x : Bytes) : ∀ l : List (Bytes × Exp),
    x ∈ modRefs l ↔ ∃ kv ∈ l, x ∈ refIds kv.2
  | [] => by simp [modRefs]
  | kv :: r => by simp [modRefs, mem_modRefs x r]

theorem refs_addKw (x : Bytes) (on : Bool) (k : Bytes) (orig l : List (Bytes × Exp)) :
    x ∈ modRefs (addKw on k orig l) ↔ x ∈ modRefs l := by
  unfold addKw
  split
  · simp only [mem_modRefs, List.mem_append, List.mem_singleton]
    constructor
    · rintro ⟨kv, h | h, hx⟩
      · exact ⟨kv, h, hx⟩
      · subst h; simp [refIds] at hx
    · rintro ⟨kv, h, hx⟩
      exact ⟨kv, Or.inl h, hx⟩
  · rfl

/-- the `using` block of the normal form holds the same references -/
theorem mem_modRefs_modList (x : Bytes) (m : Mods) : x ∈ modRefs (modList m) ↔ x ∈ modRefs m.binds := by
  unfold modList
  rw [mem_modRefs]
  simp only [(perm_sortMods _).mem_iff]
  rw [← mem_modRefs]
  unfold convMods
  rw [refs_addKw, refs_addKw, refs_addKw]

theorem mem_callRefs_norm (x : Bytes) (c : Call2) : x ∈ callRefs (normCall2 c) ↔ x ∈ callRefs c := by
  simp only [callRefs, normCall2, normMods, List.mem_append, bindRefs_norm, mem_modRefs_modList]

theorem lastPos_none (x : Bytes) (cs : List Call2) : lastPos x cs = none ↔ ∀ c ∈ cs, c.id ≠ x := by
  fun_induction lastPos x cs with
  | case1 => simp
  | case2 d r k hr ih =>
    simp only [reduceCtorEq, List.mem_cons, forall_eq_or_imp, false_iff, not_and]
    intro _ hall
    rw [ih.mpr hall] at hr
    cases hr
  | case3 d r hr hd => simp [hd]
  | case4 d r hr hd ih =>
    simp only [List.mem_cons, forall_eq_or_imp, true_iff]
    exact ⟨hd, ih.mp hr⟩

theorem lastPos_some (x : Bytes) (cs : List Call2) (j : Nat) (h : lastPos x cs = some j) :
    ∃ c, cs[j]? = some c ∧ c.id = x := by
  fun_induction lastPos x cs generalizing j with
  | case1 => cases h
  | case2 d r k hr ih =>
    cases h
    obtain ⟨c, hc, hx⟩ := ih k hr
    exact ⟨c, by simpa using hc, hx⟩
  | case3 d r _ hd =>
    cases h
    exact ⟨d, rfl, hd⟩
  | case4 => cases h

theorem distinct_iff_nodup : ∀ cs : List Call2, distinctCallIds cs = true ↔ (cs.map (·.id)).Nodup
  | [] => by simp [distinctCallIds]
  | c :: r => by
    simp [distinctCallIds, distinct_iff_nodup r]

theorem distinct_perm {a b : List Call2} (h : a.Perm b) (hd : distinctCallIds b = true) :
    distinctCallIds a = true := by
  rw [distinct_iff_nodup] at hd ⊢
  exact ((h.map _).nodup_iff).mpr hd

/-- with distinct ids, `callMap[c.Id]` is the call itself -/
theorem lastPos_of_distinct : ∀ (cs : List Call2) (j : Nat) (c : Call2), distinctCallIds cs = true →
    cs[j]? = some c → lastPos c.id cs = some j
  | [], j, c, _, h => by simp at h
  | d :: r, 0, c, hd, h => by
    simp only [List.getElem?_cons_zero, Option.some.injEq] at h
    subst h
    simp only [distinctCallIds, Bool.and_eq_true, Bool.not_eq_true'] at hd
    have hn : lastPos d.id r = none := by
      rw [lastPos_none]
      intro c hc he
      have : r.any (fun e => e.id == d.id) = true := List.any_eq_true.mpr ⟨c, hc, by simp [he]⟩
      rw [hd.1] at this; cases this
    unfold lastPos
    simp [hn]
  | d :: r, j + 1, c, hd, h => by
    simp only [List.getElem?_cons_succ] at h
    simp only [distinctCallIds, Bool.and_eq_true] at hd
    have ih := lastPos_of_distinct r j c hd.2 h
    unfold lastPos
    simp [ih]

theorem lastPos_map_norm (x : Bytes) : ∀ cs : List Call2, lastPos x (cs.map normCall2) = lastPos x cs
  | [] => rfl
  | c :: r => by
    simp only [List.map_cons, lastPos, lastPos_map_norm x r, normCall2]

theorem mem_edgesFrom (all : List Call2) (i : Nat) (c : Call2) (a b : Nat) :
    (a, b) ∈ edgesFrom all i c ↔ a = i ∧ ∃ x ∈ callRefs c, lastPos x all = some b := by
  unfold edgesFrom
  simp only [List.mem_filterMap, Option.map_eq_some_iff, Prod.mk.injEq]
  constructor
  · rintro ⟨x, hx, j, hj, rfl, rfl⟩
    exact ⟨rfl, x, hx, hj⟩
  · rintro ⟨rfl, x, hx, hj⟩
    exact ⟨x, hx, b, hj, rfl, rfl⟩

theorem mem_callEdgesAux (all : List Call2) (a b : Nat) : ∀ (cs : List Call2) (i : Nat),
    (a, b) ∈ callEdgesAux all i cs ↔
      ∃ k c, cs[k]? = some c ∧ a = i + k ∧ ∃ x ∈ callRefs c, lastPos x all = some b
  | [], i => by simp [callEdgesAux]
  | d :: r, i => by
    simp only [callEdgesAux, List.mem_append, mem_edgesFrom, mem_callEdgesAux all a b r (i + 1)]
    constructor
    · rintro (⟨rfl, h⟩ | ⟨k, c, hc, rfl, h⟩)
      · exact ⟨0, d, by simp, rfl, h⟩
      · exact ⟨k + 1, c, by simpa using hc, by omega, h⟩
    · rintro ⟨k, c, hc, rfl, h⟩
      cases k with
      | zero =>
        simp only [List.getElem?_cons_zero, Option.some.injEq] at hc
        subst hc
        exact Or.inl ⟨rfl, h⟩
      | succ k =>
        simp only [List.getElem?_cons_succ] at hc
        exact Or.inr ⟨k, c, hc, by omega, h⟩

/-- `directDepsMap` on positions: call `a` depends on call `b` iff `a` holds a reference to
an id which `callMap` resolves to `b` -/
theorem mem_callEdges (cs : List Call2) (a b : Nat) :
    (a, b) ∈ callEdges cs ↔ ∃ c, cs[a]? = some c ∧ ∃ x ∈ callRefs c, lastPos x cs = some b := by
  unfold callEdges
  rw [mem_callEdgesAux]
  constructor
  · rintro ⟨k, c, hc, rfl, h⟩
    exact ⟨c, by simpa using hc, h⟩
  · rintro ⟨c, hc, h⟩
    exact ⟨a, c, hc, by omega, h⟩

theorem callEdges_lt (cs : List Call2) (a b : Nat) (h : (a, b) ∈ callEdges cs) :
    a < cs.length ∧ b < cs.length := by
  obtain ⟨c, hc, x, _, hx⟩ := (mem_callEdges cs a b).mp h
  obtain ⟨c', hc', _⟩ := lastPos_some x cs b hx
  exact ⟨(List.getElem?_eq_some_iff.mp hc).1, (List.getElem?_eq_some_iff.mp hc').1⟩

theorem callEdges_norm (cs : List Call2) (a b : Nat) :
    (a, b) ∈ callEdges (cs.map normCall2) ↔ (a, b) ∈ callEdges cs := by
  simp only [mem_callEdges, lastPos_map_norm, List.getElem?_map, Option.map_eq_some_iff]
  constructor
  · rintro ⟨c, ⟨c0, hc0, rfl⟩, x, hx, hl⟩
    exact ⟨c0, hc0, x, (mem_callRefs_norm x c0).mp hx, hl⟩
  · rintro ⟨c, hc, x, hx, hl⟩
    exact ⟨normCall2 c, ⟨c, hc, rfl⟩, x, (mem_callRefs_norm x c).mpr hx, hl⟩

theorem depsError_norm (pid : Bytes) (cs : List Call2) :
    depsError pid (cs.map normCall2) = depsError pid cs := by
  unfold depsError
  congr 1
  · simp only [List.any_map]
    rfl
  · rw [Bool.eq_iff_iff]
    simp only [List.any_eq_true, Prod.exists, callEdges_norm]

theorem pick_nil (cs : List Call2) : pick cs [] = [] := rfl

theorem pick_cons_of_lt (cs : List Call2) (i : Nat) (l : List Nat) (h : i < cs.length) :
    pick cs (i :: l) = cs[i] :: pick cs l := by
  simp [pick, List.getElem?_eq_getElem h]

theorem pick_range : ∀ cs : List Call2, pick cs (List.range cs.length) = cs
  | [] => rfl
  | c :: r => by
    have ih := pick_range r
    simp only [List.length_cons, List.range_succ_eq_map, pick, List.filterMap_cons,
      List.getElem?_cons_zero, List.filterMap_map] at ih ⊢
    congr 1

theorem pick_map (f : Call2 → Call2) (cs : List Call2) : ∀ l : List Nat,
    pick (cs.map f) l = (pick cs l).map f
  | [] => rfl
  | i :: l => by
    have ih := pick_map f cs l
    simp only [pick, List.filterMap_cons, List.getElem?_map] at ih ⊢
    cases h : cs[i]? with
    | none => simpa using ih
    | some c => simpa using ih

theorem pick_perm (cs : List Call2) (l : List Nat) (h : l.Perm (List.range cs.length)) :
    (pick cs l).Perm cs := by
  have := h.filterMap (fun i => cs[i]?)
  rw [show List.filterMap (fun i => cs[i]?) (List.range cs.length) = cs from pick_range cs] at this
  exact this

theorem pick_getElem? (cs : List Call2) : ∀ (l : List Nat), (∀ x ∈ l, x < cs.length) →
    ∀ i : Nat, (pick cs l)[i]? = (l[i]?).bind (fun k => cs[k]?)
  | [], _, i => by simp [pick]
  | x :: l, h, i => by
    have hx : x < cs.length := h x (by simp)
    rw [pick_cons_of_lt cs x l hx]
    cases i with
    | zero => simp [List.getElem?_eq_getElem hx]
    | succ i =>
      simp only [List.getElem?_cons_succ]
      exact pick_getElem? cs l (fun y hy => h y (by simp [hy])) i

/-- the dependencies of rearranged calls are the relabelled dependencies: when the ids are
distinct, a dependency between positions `i`, `j` of the rearranged list is a dependency between
the calls `L[i]`, `L[j]` of the original list. -/
theorem callEdges_pick (cs : List Call2) (L : List Nat) (hd : distinctCallIds cs = true)
    (hL : ∀ x ∈ L, x < cs.length) (i j : Nat) (h : (i, j) ∈ callEdges (pick cs L)) :
    (L.getD i 0, L.getD j 0) ∈ callEdges cs := by
  obtain ⟨c, hc, x, hx, hl⟩ := (mem_callEdges _ i j).mp h
  obtain ⟨c', hc', hid⟩ := lastPos_some x _ j hl
  rw [pick_getElem? cs L hL] at hc hc'
  cases hi : L[i]? with
  | none => rw [hi] at hc; cases hc
  | some a =>
    cases hj : L[j]? with
    | none => rw [hj] at hc'; cases hc'
    | some b =>
      rw [hi] at hc; rw [hj] at hc'
      simp only [Option.bind_some] at hc hc'
      simp only [List.getD_eq_getElem?_getD, hi, hj, Option.getD_some, mem_callEdges]
      refine ⟨c, hc, x, hx, ?_⟩
      rw [← hid]
      exact lastPos_of_distinct cs b c' hd hc'

theorem sortCalls_perm' (pid : Bytes) (cs : List Call2) : (sortCalls pid cs).Perm cs := by
  unfold sortCalls
  split
  · exact List.Perm.refl _
  · exact pick_perm cs _ (topoSort_perm' _ _)

theorem sortCalls_length (pid : Bytes) (cs : List Call2) : (sortCalls pid cs).length = cs.length :=
  (sortCalls_perm' pid cs).length_eq

theorem sortCalls_norm (pid : Bytes) (cs : List Call2) :
    sortCalls pid (cs.map normCall2) = (sortCalls pid cs).map normCall2 := by
  unfold sortCalls
  rw [depsError_norm, List.length_map, topoSort_congr cs.length _ _ (callEdges_norm cs), pick_map]
  split <;> rfl

theorem sortCalls_of_cycle (pid : Bytes) (cs : List Call2) (h : callCycle cs = true) :
    sortCalls pid cs = cs := by
  unfold sortCalls
  split
  · rfl
  · unfold callCycle closedDeps at h
    unfold topoSort
    simp only [h, ↓reduceIte]
    exact pick_range cs

theorem sortCalls_idem (pid : Bytes) (cs : List Call2) (hd : distinctCallIds cs = true) :
    sortCalls pid (sortCalls pid cs) = sortCalls pid cs := by
  by_cases herr : depsError pid cs = true
  · have : sortCalls pid cs = cs := by simp [sortCalls, herr]
    rw [this, this]
  · by_cases hcyc : callCycle cs = true
    · rw [sortCalls_of_cycle pid cs hcyc, sortCalls_of_cycle pid cs hcyc]
    · have herr' : depsError pid cs = false := by simpa using herr
      have hcyc' : hasCycle cs.length (closedDeps cs.length (callEdges cs)) = false := by
        simpa [callCycle] using hcyc
      have hs : sortCalls pid cs = pick cs (topoSort cs.length (callEdges cs)) := by
        simp [sortCalls, herr']
      have hperm := topoSort_perm' cs.length (callEdges cs)
      have hlt : ∀ x ∈ topoSort cs.length (callEdges cs), x < cs.length :=
        fun x hx => by simpa using hperm.subset hx
      have hlen : (pick cs (topoSort cs.length (callEdges cs))).length = cs.length :=
        (pick_perm cs _ hperm).length_eq
      have hrel := fun i j => callEdges_pick cs (topoSort cs.length (callEdges cs)) hd hlt i j
      -- no error in the second run either
      have herr2 : depsError pid (pick cs (topoSort cs.length (callEdges cs))) = false := by
        unfold depsError at herr' ⊢
        simp only [Bool.or_eq_false_iff] at herr' ⊢
        refine ⟨?_, ?_⟩
        · rw [← herr'.1]
          exact (pick_perm cs _ hperm).any_eq
        · cases ha : (callEdges (pick cs (topoSort cs.length (callEdges cs)))).any (fun e => e.1 == e.2) with
          | false => rfl
          | true =>
            obtain ⟨⟨i, j⟩, he, hij⟩ := List.any_eq_true.mp ha
            simp only [beq_iff_eq] at hij
            subst hij
            have hmem := hrel i i he
            have : (callEdges cs).any (fun e => e.1 == e.2) = true :=
              List.any_eq_true.mpr ⟨_, hmem, by simp⟩
            rw [herr'.2] at this; cases this
      have htopo : topoSort cs.length (callEdges (pick cs (topoSort cs.length (callEdges cs)))) =
          List.range cs.length :=
        topoSort_relabel cs.length (callEdges cs) _ (topoSort cs.length (callEdges cs)) hperm
          (topoSort_sorted' cs.length (callEdges cs) hcyc') (fun i j _ _ h => hrel i j h)
      rw [hs]
      unfold sortCalls
      rw [herr2, hlen, htopo]
      simp only [Bool.false_eq_true, ↓reduceIte]
      have := pick_range (pick cs (topoSort cs.length (callEdges cs)))
      rw [hlen] at this
      exact this

theorem sortCalls_respects_deps' (pid : Bytes) (cs : List Call2) (hd : distinctCallIds cs = true)
    (herr : depsError pid cs = false) (hcyc : callCycle cs = false)
    (A B : List Call2) (c : Call2) (hl : sortCalls pid cs = A ++ c :: B) :
    ∀ c' ∈ B, c'.id ∉ callRefs c := by
  have hs : sortCalls pid cs = pick cs (topoSort cs.length (callEdges cs)) := by
    simp [sortCalls, herr]
  have hsorted := topoSort_sorted' cs.length (callEdges cs) (by simpa [callCycle] using hcyc)
  -- the order of the positions carries over to the calls picked at them
  have hS : (pick cs (topoSort cs.length (callEdges cs))).Pairwise fun c c' => c'.id ∉ callRefs c := by
    refine ((sortedFrom_pairwise _ _).mp hsorted).filterMap _ ?_
    intro a b hab c h1 c' h2 href
    have hedge : (a, b) ∈ callEdges cs :=
      (mem_callEdges cs a b).mpr ⟨c, h1, c'.id, href, lastPos_of_distinct cs b c' hd h2⟩
    rw [closedDeps_contains_edges' cs.length (callEdges cs) a b
      (callEdges_lt cs a b hedge).1 (callEdges_lt cs a b hedge).2 hedge] at hab
    cases hab
  rw [← hs, hl] at hS
  exact (List.pairwise_cons.mp (List.pairwise_append.mp hS).2.1).1

end Martian.FormatPipe
