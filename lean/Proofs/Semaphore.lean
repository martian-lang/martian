import Martian.Semaphore

/-! The ResourceSemaphore model of C12: event lists, `runJobs`, what one call (`step`) and any
sequence of calls (`run`) preserve, the over-commitment between two availability updates, and the
standing reservation (`Sem.shift`, `run_shift`). -/
namespace Martian.Semaphore

@[simp] theorem grantsOf_nil : grantsOf [] = [] := rfl

theorem grantsOf_append (a b : List Ev) : grantsOf (a ++ b) = grantsOf a ++ grantsOf b := by
  induction a with
  | nil => rfl
  | cons e es ih => cases e <;> simp [grantsOf, ih]

@[simp] theorem grantsOf_map_grantEv (l : List Waiter) : grantsOf (l.map grantEv) = l := by
  induction l with
  | nil => rfl
  | cons w ws ih => simp [grantEv, grantsOf, ih]

@[simp] theorem grantsOf_ret (v : Int) : grantsOf [Ev.ret v] = [] := rfl
@[simp] theorem grantsOf_panic : grantsOf [Ev.panic] = [] := rfl
@[simp] theorem grantsOf_reject (i : Nat) (n : Int) : grantsOf [Ev.reject i n] = [] := rfl
@[simp] theorem grantsOf_grant (i : Nat) (n : Int) : grantsOf [Ev.grant i n] = [(i, n)] := rfl

theorem hasPanic_append (a b : List Ev) : hasPanic (a ++ b) = (hasPanic a || hasPanic b) := by
  induction a with
  | nil => rfl
  | cons e es ih => cases e <;> simp [hasPanic, ih]

@[simp] theorem hasPanic_map_grantEv (l : List Waiter) : hasPanic (l.map grantEv) = false := by
  induction l with
  | nil => rfl
  | cons w ws ih => simp [grantEv, hasPanic, ih]

theorem sumAmt_append (a b : List Waiter) : sumAmt (a ++ b) = sumAmt a + sumAmt b := by
  induction a with
  | nil => simp [sumAmt]
  | cons w ws ih => simp [sumAmt, ih]; omega

theorem sumAmt_nonneg (l : List Waiter) (h : ∀ w ∈ l, 0 ≤ w.2) : 0 ≤ sumAmt l := by
  induction l with
  | nil => simp [sumAmt]
  | cons w ws ih =>
    have h1 := h w (by simp)
    have h2 := ih (fun x hx => h x (by simp [hx]))
    simp [sumAmt]; omega

theorem runJobs_cons_lt {cur res : Int} {w : Waiter} (ws : List Waiter) (h : cur - res < w.2) :
    runJobs cur res (w :: ws) = (res, w :: ws, []) := by
  simp [runJobs, h]

theorem runJobs_cons_ge {cur res : Int} {w : Waiter} (ws : List Waiter) (h : ¬ cur - res < w.2) :
    runJobs cur res (w :: ws) =
      ((runJobs cur (res + w.2) ws).1, (runJobs cur (res + w.2) ws).2.1,
        w :: (runJobs cur (res + w.2) ws).2.2) := by
  simp [runJobs, h]

theorem runJobs_split (cur : Int) (ws : List Waiter) (res : Int) :
    (runJobs cur res ws).2.2 ++ (runJobs cur res ws).2.1 = ws := by
  fun_induction runJobs cur res ws with
  | case1 res => rfl
  | case2 res w ws h => rfl
  | case3 res w ws h r ih => simp [r, ih]

theorem runJobs_reserved (cur : Int) (ws : List Waiter) (res : Int) :
    (runJobs cur res ws).1 = res + sumAmt (runJobs cur res ws).2.2 := by
  fun_induction runJobs cur res ws with
  | case1 res => simp [sumAmt]
  | case2 res w ws h => simp [sumAmt]
  | case3 res w ws h r ih => simp only [r, sumAmt, ih]; omega

theorem runJobs_head (cur : Int) (ws : List Waiter) (res : Int) :
    match (runJobs cur res ws).2.1 with
    | [] => True
    | w :: _ => cur - (runJobs cur res ws).1 < w.2 := by
  fun_induction runJobs cur res ws with
  | case1 res => trivial
  | case2 res w ws h => exact h
  | case3 res w ws h r ih => exact ih

theorem runJobs_fits (cur : Int) (ws : List Waiter) (res : Int)
    (h : (runJobs cur res ws).2.2 ≠ []) : (runJobs cur res ws).1 ≤ cur := by
  fun_induction runJobs cur res ws with
  | case1 res => exact absurd rfl h
  | case2 res w ws hlt => exact absurd rfl h
  | case3 res w ws hlt r ih =>
    by_cases hg : r.2.2 = []
    · have := runJobs_reserved cur ws (res + w.2)
      simp only [r] at hg ⊢
      rw [hg] at this; simp only [sumAmt] at this
      omega
    · exact ih hg

theorem runJobs_first (cur : Int) (w : Waiter) (ws : List Waiter) (res : Int) :
    (w.2 ≤ cur - res → ∃ g, (runJobs cur res (w :: ws)).2.2 = w :: g) ∧
    (cur - res < w.2 → (runJobs cur res (w :: ws)) = (res, w :: ws, [])) := by
  constructor
  · intro h
    have : ¬ (cur - res < w.2) := by omega
    rw [runJobs_cons_ge ws this]; exact ⟨_, rfl⟩
  · intro h
    exact runJobs_cons_lt ws h

theorem runJobs_sub (cur : Int) (ws : List Waiter) (res : Int) :
    (∀ w ∈ (runJobs cur res ws).2.2, w ∈ ws) ∧ (∀ w ∈ (runJobs cur res ws).2.1, w ∈ ws) := by
  have h := runJobs_split cur ws res
  constructor
  · intro w hw; rw [← h]; simp [hw]
  · intro w hw; rw [← h]; simp [hw]

/-- no lost wake-up: the queue is empty or its head does not fit -/
def NoLost (s : Sem) : Prop :=
  match s.waiters with
  | [] => True
  | w :: _ => s.cur - s.reserved < w.2

theorem wake_noLost (s : Sem) : NoLost s.wake.1 := by
  have := runJobs_head s.cur s.waiters s.reserved
  simpa [NoLost, Sem.wake] using this

theorem wake_cur (s : Sem) : s.wake.1.cur = s.cur ∧ s.wake.1.max = s.max := by
  simp [Sem.wake]

theorem wake_hasPanic (s : Sem) : hasPanic s.wake.2 = false := by
  simp [Sem.wake]

theorem setCur_noLost (s : Sem) (c : Int) (h : NoLost s) : NoLost (s.setCur c).1 := by
  unfold Sem.setCur
  split
  · exact wake_noLost _
  · rename_i hc
    unfold NoLost at h ⊢
    simp only
    cases hw : s.waiters with
    | nil => simp
    | cons w ws => rw [hw] at h; simp at h ⊢; omega

theorem setCur_hasPanic (s : Sem) (c : Int) : hasPanic (s.setCur c).2 = false := by
  unfold Sem.setCur; split
  · exact wake_hasPanic _
  · rfl

theorem setCur_cur (s : Sem) (c : Int) : (s.setCur c).1.cur = c ∧ (s.setCur c).1.max = s.max := by
  unfold Sem.setCur; split <;> simp [Sem.wake]

/-- **no lost wake-up** is re-established by every call that does not panic; the state
before matters only where the call does not run the queue (an Acquire that is refused or
queued, an update that does not raise the size). -/
theorem step_noLost (s : Sem) (op : SemOp) (h : NoLost s)
    (hp : hasPanic (step s op).2 = false) : NoLost (step s op).1 := by
  cases op with
  | acquire id n =>
    simp only [step]
    split
    · rename_i hf
      have he : s.waiters = [] := by simpa using hf.2
      simp [NoLost, he]
    · split
      · exact h
      · rename_i hnf _
        unfold NoLost at h ⊢
        cases hw : s.waiters with
        | nil =>
          simp [hw] at hnf ⊢
          omega
        | cons w ws => rw [hw] at h; simpa using h
  | release n =>
    simp only [step] at hp ⊢
    split
    · rename_i hneg; simp [hneg, hasPanic] at hp
    · exact wake_noLost _
  | _ => exact setCur_noLost _ _ h

theorem setCur_fifo (s : Sem) (c : Int) :
    grantsOf (s.setCur c).2 ++ (s.setCur c).1.waiters = s.waiters := by
  unfold Sem.setCur; split
  · simp [Sem.wake, runJobs_split]
  · simp

theorem step_fifo (s : Sem) (op : SemOp) :
    grantsOf (step s op).2 ++ (step s op).1.waiters = s.waiters ++ acceptedOf s op := by
  cases op with
  | acquire id n =>
    simp only [step, acceptedOf]
    split
    · rename_i hf
      have he : s.waiters = [] := by simpa using hf.2
      simp [he]
    · split <;> simp
  | release n =>
    simp only [step, acceptedOf]
    split
    · simp
    · simp [Sem.wake, runJobs_split]
  | _ => simp [step, acceptedOf, grantsOf_append, setCur_fifo]

theorem wake_reserved (s : Sem) :
    s.wake.1.reserved = s.reserved + sumAmt (grantsOf s.wake.2) := by
  simp [Sem.wake, runJobs_reserved s.cur s.waiters s.reserved]

theorem setCur_reserved (s : Sem) (c : Int) :
    (s.setCur c).1.reserved = s.reserved + sumAmt (grantsOf (s.setCur c).2) := by
  unfold Sem.setCur; split
  · exact wake_reserved _
  · simp [sumAmt]

/-- amount a call hands back -/
def releasedBy : SemOp → Int
  | .release n => n
  | _ => 0

theorem step_reserved (s : Sem) (op : SemOp) :
    (step s op).1.reserved = s.reserved - releasedBy op + sumAmt (grantsOf (step s op).2) := by
  cases op with
  | acquire id n =>
    simp only [step, releasedBy]
    split
    · simp [sumAmt]
    · split <;> simp [sumAmt]
  | release n =>
    simp only [step, releasedBy]
    split
    · simp [sumAmt]
    · rw [wake_reserved]
  | _ => simp [step, releasedBy, grantsOf_append, setCur_reserved s]

theorem step_max (s : Sem) (op : SemOp) : (step s op).1.max = s.max := by
  cases op with
  | acquire id n => simp only [step]; split; rfl; split <;> rfl
  | release n => simp only [step]; split; rfl; simp [Sem.wake]
  | _ => exact (setCur_cur s _).2

theorem step_release_ok (s : Sem) (n : Int) (h : n ≤ s.reserved) :
    step s (.release n) = ({ s with reserved := s.reserved - n } : Sem).wake := by
  simp only [step]
  have : ¬ (s.reserved - n < 0) := by omega
  simp [this]

theorem step_nopanic (s : Sem) (o : SemOp) (h : ∀ n, o = .release n → n ≤ s.reserved) :
    hasPanic (step s o).2 = false := by
  cases o with
  | acquire id n => simp only [step]; split; rfl; split <;> rfl
  | release n => rw [step_release_ok s n (h n rfl)]; exact wake_hasPanic _
  | updSize n => exact setCur_hasPanic _ _
  | _ => simp only [step, hasPanic_append, setCur_hasPanic]; rfl

theorem step_cur (s : Sem) (op : SemOp) : (step s op).1.cur = (observedSize s op).getD s.cur := by
  cases op with
  | acquire id n => simp only [step]; split; rfl; split <;> rfl
  | release n => simp only [step]; split; rfl; exact (wake_cur _).1
  | _ => exact (setCur_cur s _).1

theorem wake_fits (s : Sem) (h : grantsOf s.wake.2 ≠ []) : s.wake.1.reserved ≤ s.wake.1.cur := by
  have := runJobs_fits s.cur s.waiters s.reserved
  simp [Sem.wake] at h ⊢
  exact this h

theorem setCur_fits (s : Sem) (c : Int) (h : grantsOf (s.setCur c).2 ≠ []) :
    (s.setCur c).1.reserved ≤ (s.setCur c).1.cur := by
  unfold Sem.setCur at h ⊢; split
  · rename_i hc; simp [hc] at h; exact wake_fits _ h
  · rename_i hc; simp [hc] at h

theorem step_fits (s : Sem) (op : SemOp) (h : grantsOf (step s op).2 ≠ []) :
    (step s op).1.reserved ≤ (step s op).1.cur := by
  cases op with
  | acquire id n =>
    simp only [step] at h ⊢
    split
    · rename_i hf; simp; omega
    · rename_i hf; rw [if_neg hf] at h; split at h <;> simp at h
  | release n =>
    simp only [step] at h ⊢
    split
    · rename_i hneg; simp [hneg] at h
    · rename_i hneg; simp [hneg] at h; exact wake_fits _ h
  | _ =>
    simp only [step, grantsOf_append, grantsOf_ret, List.append_nil] at h
    exact setCur_fits _ _ h

/-- every waiter's amount is at most `max`: a request is enqueued only when `n ≤ max` -/
def WaitersLeMax (s : Sem) : Prop := ∀ w ∈ s.waiters, w.2 ≤ s.max

theorem setCur_waiters_sub (s : Sem) (c : Int) : ∀ w ∈ (s.setCur c).1.waiters, w ∈ s.waiters := by
  intro w hw
  have := setCur_fifo s c
  rw [← this]; simp [hw]

theorem step_waiters_sub (s : Sem) (op : SemOp) :
    ∀ w ∈ (step s op).1.waiters, w ∈ s.waiters ++ acceptedOf s op := by
  intro w hw
  rw [← step_fifo]; simp [hw]

theorem mem_acceptedOf {s : Sem} {op : SemOp} {w : Waiter} (h : w ∈ acceptedOf s op) :
    op = .acquire w.1 w.2 ∧ ((w.2 ≤ s.cur - s.reserved ∧ s.waiters.isEmpty = true) ∨ w.2 ≤ s.max) := by
  cases op with
  | acquire id n =>
    simp only [acceptedOf] at h
    split at h
    · rename_i hf; cases List.mem_singleton.mp h; exact ⟨rfl, Or.inl hf⟩
    · split at h
      · cases h
      · cases List.mem_singleton.mp h; exact ⟨rfl, Or.inr (by omega)⟩
  | _ => cases h

theorem accepted_le_max (s : Sem) (op : SemOp) (hc : s.cur ≤ s.max) (hr : 0 ≤ s.reserved) :
    ∀ w ∈ acceptedOf s op, w.2 ≤ s.max := by
  intro w hw
  rcases (mem_acceptedOf hw).2 with h | h
  · omega
  · exact h

theorem freeUsedCur_le_max (s : Sem) (f u : Int) : freeUsedCur s f u ≤ s.max := by
  simp only [freeUsedCur]
  split
  · split <;> omega
  · split <;> omega

/-- admissible calls for the upper bound: releases hand back a non-negative
amount and `UpdateSize` is not called with more than the maximum. -/
def OpOK (max : Int) : SemOp → Prop
  | .release n => 0 ≤ n
  | .updSize n => n ≤ max
  | _ => True

def Bounded (s : Sem) : Prop := s.cur ≤ s.max ∧ s.reserved ≤ s.max

theorem step_waitersLeMax (s : Sem) (op : SemOp) (h : WaitersLeMax s) :
    WaitersLeMax (step s op).1 := by
  intro w hw
  rw [step_max]
  rcases List.mem_append.mp (step_waiters_sub s op w hw) with h1 | h1
  · exact h w h1
  · obtain ⟨rfl, hf | hm⟩ := mem_acceptedOf h1
    · -- granted at once: nothing was enqueued
      simp only [step, if_pos hf] at hw
      exact h w hw
    · exact hm

def AmtNonneg (l : List Waiter) : Prop := ∀ w ∈ l, 0 ≤ w.2

def SemOp.reqNonneg : SemOp → Prop
  | .acquire _ n => 0 ≤ n
  | _ => True

theorem accepted_nonneg (s : Sem) (op : SemOp) (h : op.reqNonneg) : AmtNonneg (acceptedOf s op) := by
  intro w hw
  obtain ⟨rfl, _⟩ := mem_acceptedOf hw
  exact h

theorem step_nonneg (s : Sem) (op : SemOp) (h : op.reqNonneg) (hw : AmtNonneg s.waiters) :
    AmtNonneg (step s op).1.waiters ∧ AmtNonneg (grantsOf (step s op).2) := by
  -- granted and still waiting together are the old queue and what the call added to it
  have key : AmtNonneg (grantsOf (step s op).2 ++ (step s op).1.waiters) := by
    rw [step_fifo]
    intro w hm
    rcases List.mem_append.mp hm with h1 | h1
    · exact hw w h1
    · exact accepted_nonneg s op h w h1
  exact ⟨fun w hm => key w (List.mem_append_right _ hm), fun w hm => key w (List.mem_append_left _ hm)⟩

theorem run_cons (s : Sem) (op : SemOp) (ops : List SemOp) :
    run s (op :: ops) = ((run (step s op).1 ops).1, (step s op).2 ++ (run (step s op).1 ops).2) := rfl

theorem run_induction (P : Sem → Prop) (ok : SemOp → Prop)
    (hstep : ∀ s op, P s → ok op → P (step s op).1)
    (s : Sem) (ops : List SemOp) (h : P s) (hok : ∀ op ∈ ops, ok op) : P (run s ops).1 := by
  induction ops generalizing s with
  | nil => exact h
  | cons op ops ih =>
    exact ih _ (hstep s op h (hok op (List.mem_cons_self ..))) fun o ho => hok o (List.mem_cons_of_mem _ ho)

theorem run_max (s : Sem) (ops : List SemOp) : (run s ops).1.max = s.max :=
  run_induction (·.max = s.max) (fun _ => True) (fun s' op h _ => (step_max s' op).trans h) s ops rfl
    fun _ _ => trivial

theorem run_fifo (s : Sem) (ops : List SemOp) :
    grantsOf (run s ops).2 ++ (run s ops).1.waiters = s.waiters ++ acceptedRun s ops := by
  induction ops generalizing s with
  | nil => simp [run, acceptedRun]
  | cons op ops ih =>
    rw [run_cons]
    simp only [grantsOf_append, acceptedRun, List.append_assoc]
    rw [ih, ← List.append_assoc, step_fifo, List.append_assoc]

theorem run_noLost (s : Sem) (ops : List SemOp) (h : NoLost s)
    (hp : hasPanic (run s ops).2 = false) : NoLost (run s ops).1 := by
  induction ops generalizing s with
  | nil => exact h
  | cons op ops ih =>
    rw [run_cons] at hp ⊢
    simp only [hasPanic_append, Bool.or_eq_false_iff] at hp
    exact ih _ (step_noLost s op h hp.1) hp.2

theorem run_waitersLeMax (s : Sem) (ops : List SemOp) (h : WaitersLeMax s) :
    WaitersLeMax (run s ops).1 :=
  run_induction WaitersLeMax (fun _ => True) (fun s' op h _ => step_waitersLeMax s' op h) s ops h
    fun _ _ => trivial

def SemOp.relNonneg : SemOp → Prop
  | .release n => 0 ≤ n
  | _ => True

theorem step_reserved_le (s : Sem) (op : SemOp) (h : op.relNonneg) :
    (step s op).1.reserved ≤ s.reserved ∨ (step s op).1.reserved ≤ (step s op).1.cur := by
  by_cases hg : grantsOf (step s op).2 = []
  · left
    have := step_reserved s op
    rw [hg] at this; simp only [sumAmt] at this
    cases op with
    | release n =>
      have hn : 0 ≤ n := h
      simp [releasedBy] at this; omega
    | _ => simp [releasedBy] at this; omega
  · right; exact step_fits s op hg

theorem observedSize_le_max (s : Sem) (op : SemOp) (hc : s.cur ≤ s.max) (hop : OpOK s.max op) :
    (observedSize s op).getD s.cur ≤ s.max := by
  cases op with
  | updSize n => exact hop
  | updActual n => simp only [observedSize, Option.getD]; split <;> omega
  | updFreeUsed f u => exact freeUsedCur_le_max s f u
  | _ => exact hc

theorem step_bounded (s : Sem) (op : SemOp) (h : Bounded s) (hop : OpOK s.max op) :
    Bounded (step s op).1 := by
  have hc : (step s op).1.cur ≤ s.max := step_cur s op ▸ observedSize_le_max s op h.1 hop
  have hn : op.relNonneg := by
    cases op with
    | release n => exact hop
    | _ => trivial
  unfold Bounded
  rw [step_max]
  -- the reservation did not grow, or something was granted and then it fits the current size
  rcases step_reserved_le s op hn with hr | hr
  · exact ⟨hc, Int.le_trans hr h.2⟩
  · exact ⟨hc, Int.le_trans hr hc⟩

theorem run_bounded (s : Sem) (ops : List SemOp) (h : Bounded s)
    (hop : ∀ op ∈ ops, OpOK s.max op) : Bounded (run s ops).1 :=
  (run_induction (fun s' => s'.max = s.max ∧ Bounded s') (OpOK s.max)
    (fun s' op h hop => ⟨(step_max s' op).trans h.1, step_bounded s' op h.2 (h.1 ▸ hop)⟩) s ops ⟨rfl, h⟩ hop).2

def SemOp.isAcqRel : SemOp → Bool
  | .acquire .. => true
  | .release _ => true
  | _ => false

theorem step_cur_acqrel (s : Sem) (op : SemOp) (h : op.isAcqRel = true) : (step s op).1.cur = s.cur := by
  rw [step_cur]
  cases op <;> first | rfl | cases h

theorem run_overcommit_transient (s : Sem) (ops : List SemOp)
    (h1 : ∀ op ∈ ops, op.isAcqRel = true) (h2 : ∀ op ∈ ops, op.relNonneg) :
    (run s ops).1.cur = s.cur ∧
    ((run s ops).1.reserved ≤ s.reserved ∨ (run s ops).1.reserved ≤ s.cur) := by
  refine run_induction (fun s' => s'.cur = s.cur ∧ (s'.reserved ≤ s.reserved ∨ s'.reserved ≤ s.cur))
    (fun op => op.isAcqRel = true ∧ op.relNonneg) ?_ s ops ⟨rfl, Or.inl (Int.le_refl _)⟩
    fun op h => ⟨h1 op h, h2 op h⟩
  intro s' op ⟨hc, hr⟩ ⟨ha, hn⟩
  have hc' := step_cur_acqrel s' op ha
  refine ⟨hc'.trans hc, ?_⟩
  rcases step_reserved_le s' op hn with h | h
  · rcases hr with hr | hr
    · exact Or.inl (Int.le_trans h hr)
    · exact Or.inr (Int.le_trans h hr)
  · exact Or.inr (by rw [hc', hc] at h; exact h)

/-- the same semaphore with `d` more of everything: `d` reserved by somebody who never releases -/
def Sem.shift (s : Sem) (d : Int) : Sem :=
  { s with max := s.max + d, cur := s.cur + d, reserved := s.reserved + d }

theorem runJobs_shift (c d : Int) (ws : List Waiter) (r : Int) :
    runJobs (c + d) (r + d) ws = ((runJobs c r ws).1 + d, (runJobs c r ws).2.1, (runJobs c r ws).2.2) := by
  fun_induction runJobs c r ws with
  | case1 r => rfl
  | case2 r w ws h => simp only [runJobs]; rw [if_pos (by omega)]
  | case3 r w ws h q ih =>
    simp only [runJobs]
    rw [if_neg (by omega), show r + d + w.2 = r + w.2 + d by omega, ih]

/-- Acquire of an amount that is within the smaller size or above the real
maximum (both refuse), or a Release: the calls of the client protocol. -/
def SemOp.plain (m d : Int) : SemOp → Prop
  | .acquire _ n => n ≤ m ∨ m + d < n
  | .release _ => True
  | _ => False

theorem step_shift (s : Sem) (d : Int) (hd : 0 ≤ d) (op : SemOp) (hop : op.plain s.max d)
    (hp : hasPanic (step s op).2 = false) :
    step (s.shift d) op = ((step s op).1.shift d, (step s op).2) := by
  cases op with
  | acquire id n =>
    simp only [SemOp.plain] at hop
    by_cases hfit : n ≤ s.cur - s.reserved ∧ s.waiters.isEmpty = true
    · have hfit' : n ≤ s.cur + d - (s.reserved + d) ∧ s.waiters.isEmpty = true := ⟨by omega, hfit.2⟩
      simp only [step, Sem.shift, hfit, hfit', and_self, if_true, Prod.mk.injEq, and_true]
      congr 1; omega
    · have hfit' : ¬ (n ≤ s.cur + d - (s.reserved + d) ∧ s.waiters.isEmpty = true) := by
        intro h; exact hfit ⟨by omega, h.2⟩
      by_cases hrej : s.max < n
      · have hrej' : s.max + d < n := by omega
        simp only [step, Sem.shift, hfit, hfit', hrej, hrej', if_true, if_false]
      · have hrej' : ¬ s.max + d < n := by omega
        simp only [step, Sem.shift, hfit, hfit', hrej, hrej', if_false]
  | release n =>
    have hnp : ¬ (s.reserved - n < 0) := by
      intro h
      simp only [step, h, if_true, hasPanic] at hp
      exact absurd hp (by simp)
    have hnp' : ¬ (s.reserved + d - n < 0) := by omega
    simp only [step, Sem.shift, hnp, hnp', if_false, Sem.wake]
    rw [show s.reserved + d - n = s.reserved - n + d by omega, runJobs_shift]
  | _ => exact hop.elim

theorem run_shift (d : Int) (hd : 0 ≤ d) (ops : List SemOp) : ∀ (s : Sem),
    (∀ op ∈ ops, op.plain s.max d) → hasPanic (run s ops).2 = false →
    run (s.shift d) ops = ((run s ops).1.shift d, (run s ops).2) := by
  induction ops with
  | nil => intro s _ _; rfl
  | cons op ops ih =>
    intro s hops hp
    simp only [run] at hp ⊢
    rw [hasPanic_append, Bool.or_eq_false_iff] at hp
    rw [step_shift s d hd op (hops op (by simp)) hp.1]
    simp only
    rw [ih (step s op).1 (by rw [step_max]; exact fun o ho => hops o (by simp [ho])) hp.2]

instance (m : Int) (op : SemOp) : Decidable (OpOK m op) := by
  cases op <;> simp only [OpOK] <;> infer_instance

instance (s : Sem) : Decidable (NoLost s) := by
  unfold NoLost
  cases s.waiters <;> simp only <;> infer_instance

end Martian.Semaphore
