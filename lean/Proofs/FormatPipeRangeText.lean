import Proofs.FormatDeclRangeRead
import Proofs.FormatCallRangeText
import Proofs.FormatPipeParse

/-!
C09, accepted texts of pipelines: the RANGE of `pPipeline` / `parsePipeline`
(`wfPipelineRaw`; the parameter lists are read by `pInParams` / `pOutParams` of
`Martian.FormatDecl`, whose range `Martian.FormatDecl.paramRaw` is `pipeParamRaw`), from there to
`wfPipeline` of what Go holds, the normal form (calls in `topoSort` order, each in normal form) is
fixed by the canonicaliser (the text-side theorems are
`Props.C09.parse_produces_wf_pipeline_partial`, `format_preserves_accepted_pipeline_partial`).
-/

namespace Martian.FormatCallText
open Martian.Lexer (Bytes)
open Martian.FormatExp Martian.FormatCall2 Martian.FormatDecl Martian.FormatPipe

theorem pInParams_range (f : Nat) (ts : List Tok) (ps : List Param) (rest : List Tok)
    (hts : ts.all tokOK = true) (h : pInParams f ts = some (ps, rest)) :
    ps.all pipeParamRaw = true ∧ ps.all (fun q => !q.out) = true ∧ rest.all tokOK = true :=
  Martian.FormatDecl.pInParams_range f ts ps rest hts h

theorem pOutParams_range (f : Nat) (ts : List Tok) (ps : List Param) (rest : List Tok)
    (hts : ts.all tokOK = true) (h : pOutParams f ts = some (ps, rest)) :
    ps.all pipeParamRaw = true ∧ ps.all (fun q => q.out) = true ∧ rest.all tokOK = true :=
  Martian.FormatDecl.pOutParams_range f ts ps rest hts h

theorem pPipeline_range' (ts : List Tok) (p : Pipeline) (rest : List Tok) (hts : ts.all tokOK = true)
    (h : pPipeline ts = some (p, rest)) : wfPipelineRaw p = true ∧ rest.all tokOK = true := by
  unfold pPipeline at h
  generalize ts.length = n at h
  split at h
  · rename_i k x r
    have hx := isIdent_of_tokOK (all_tokOK_tail hts)
    have hr := all_tokOK_tail (all_tokOK_tail (all_tokOK_tail hts))
    split at h
    · split at h
      · rename_i ins r1 hi
        have ⟨hi1, hi2, hr1⟩ := pInParams_range _ r ins r1 hr hi
        split at h
        · rename_i outs r2 ho
          have ⟨ho1, ho2, hr2⟩ := pOutParams_range _ r1 outs _ hr1 ho
          split at h
          · rename_i b r3 hb
            have ⟨hwb, hr3⟩ := pBody_range r2 b r3 (all_tokOK_tail (all_tokOK_tail hr2)) hb
            cases h
            exact ⟨by simp only [wfPipelineRaw, hx, hi1, hi2, ho1, ho2, hwb, Bool.and_self], hr3⟩
          · cases h
        · cases h
      · cases h
    · cases h
  · cases h

theorem pPipeline_range (ts : List Tok) (p : Pipeline) (rest : List Tok)
    (hts : ∀ tok ∈ ts, tokOK tok = true) (h : pPipeline ts = some (p, rest)) : wfPipelineRaw p = true :=
  (pPipeline_range' ts p rest (List.all_eq_true.mpr hts) h).1

theorem parsePipeline_range (src : Bytes) (p : Pipeline) (h : parsePipeline src = some p) :
    wfPipelineRaw p = true := by
  unfold parsePipeline at h
  obtain ⟨ts, hl, h⟩ := Option.bind_eq_some_iff.mp h
  split at h
  · rename_i p' hp
    cases h
    exact pPipeline_range ts _ [] (range_lexAll src ts hl) hp
  · cases h

theorem all_wfParam_of_raw (ps : List Param) (hr : ps.all pipeParamRaw = true)
    (hs : paramsStrsValid ps = true) : ps.all Martian.FormatDecl.wfParam = true :=
  Martian.FormatDecl.all_wfParam_of_raw ps hr hs

theorem wfPipeline_canon (g : Bytes → Bytes) (hg : GOK g) (p : Pipeline) (hr : wfPipelineRaw p = true)
    (hs : pipeStrsValid (canonPipeline g p) = true) (hz : pipeNoNegZero (canonPipeline g p) = true)
    (hd : pipeModsDistinct (canonPipeline g p) = true)
    (hc : pipeCallsDistinct (canonPipeline g p) = true) : wfPipeline (canonPipeline g p) = true := by
  simp only [wfPipelineRaw, Bool.and_eq_true] at hr
  simp only [pipeStrsValid, canonPipeline, Bool.and_eq_true] at hs
  simp only [pipeNoNegZero, pipeModsDistinct, pipeCallsDistinct, canonPipeline] at hz hd hc
  simp only [wfPipeline, canonPipeline, Bool.and_eq_true]
  exact ⟨⟨⟨⟨⟨⟨hr.1.1.1.1.1, all_wfParam_of_raw _ hr.1.1.1.1.2 hs.1.1⟩, hr.1.1.1.2⟩,
    all_wfParam_of_raw _ hr.1.1.2 hs.1.2⟩, hr.1.2⟩, wfBody_canon g hg p.body hr.2 hs.2 hz hd⟩, hc⟩

theorem map_norm_fixed (g : Bytes → Bytes) (L : List Call2) (h : ∀ c ∈ L, FixCall g c) :
    (L.map normCall2).map (canonCall2 g) = L.map normCall2 := by
  rw [List.map_map]
  apply List.map_congr_left
  intro c hc
  exact h c hc

theorem canonPipeline_norm_fixed (g : Bytes → Bytes) (hg : GOK g) (p : Pipeline)
    (hr : wfPipelineRaw p = true) (hw : wfPipeline (canonPipeline g p) = true) :
    canonPipeline g (normPipeline (canonPipeline g p)) = normPipeline (canonPipeline g p) := by
  simp only [wfPipelineRaw, Bool.and_eq_true] at hr
  obtain ⟨_, _, _, _, _, hb, _⟩ := wfPipeline_parts hw
  have hbr := hr.2
  have hfc := fixCall_body g hg p.body hbr hb
  simp only [wfBodyRaw, Bool.and_eq_true] at hbr
  have hb' := hb
  simp only [canonPipeline, wfBody, canonBody, Bool.and_eq_true] at hb'
  have hcalls : ∀ c ∈ sortCalls p.id (p.body.calls.map (canonCall2 g)), FixCall g c := by
    intro c hc
    exact hfc c ((sortCalls_perm' p.id _).mem_iff.mp hc)
  simp only [canonPipeline, normPipeline, canonBody, normBody, sortBody,
    map_norm_fixed g _ hcalls, canonRet_norm_fixed g hg p.body.ret hbr.1.2 hb'.1.2,
    canonRetain_raw g p.body.retain hbr.2]

end Martian.FormatCallText
