import Proofs.SchedFail

/-! In every reachable state (default reset mode) a failed chunk of a stage fork means the
join directory is still empty, a failed split means the join directory is empty and no chunk has
been submitted — the side conditions of `FailedBlock` (Proofs/SchedFail.lean) are consequences
of the completion chain under failures (`ChainF`, Proofs/SchedOnce.lean).  Hence a failed job
object blocks its fork for as long as it is not reset (`failedBlock_step`; C06
`failed_job_never_reports_success`, `failed_block_never_reports_success`). -/
namespace Martian.Sched

/-- the precondition of `failed_job_never_reports_success` holds in every reachable state: a job
object of an unfinished stage fork that is seen failed — the join, a chunk, the split —
satisfies `FailedBlock` -/
theorem failedBlock_of_reach {g : List NodeInfo} {s : State} (hr : Reach g s) {n f : Nat} {r : Role}
    (hk : s.kind n ≠ .pipeline) (hrole : r ≠ .fork)
    (hfail : s.st ⟨n, f, r⟩ = some .failed) (hopen : fmDone s n f = false) :
    FailedBlock s n f ⟨n, f, r⟩ := by
  have hobj := reach_objsInv hr
  have hch := (reach_inv hr).chainF
  -- a failure marker that mrp has seen is on disk
  obtain ⟨y, hy, hdisk⟩ : ∃ y, (y = .errors ∨ y = .assert) ∧
      (s.m ⟨n, f, r⟩).disk.has y = true := by
    rcases metaState_failed.mp hfail with h' | h'
    · exact ⟨_, .inl rfl, (hobj _).sub _ h'⟩
    · exact ⟨_, .inr rfl, (hobj _).sub _ h'⟩
  have hbad : ¬ ObjOK s ⟨n, f, r⟩ := fun hok => by
    rcases hy with rfl | rfl
    · simp [hok.2.1] at hdisk
    · simp [hok.2.2] at hdisk
  refine ⟨hk, hfail, hopen, ?_⟩
  cases r with
  | fork => exact absurd rfl hrole
  | join => exact .join
  | chunk i =>
    have hi : i < s.nch n f := hch.k0 n f i y hdisk
    exact .chunk i hi (Classical.byContradiction fun hje => hbad (hch.k1 n f hje i hi))
  | split =>
    exact .split (Classical.byContradiction fun hje => hbad (hch.k2 n f (.inl hje)))
      fun i => Bool.eq_false_iff.mpr fun hx => hbad (hch.k2 n f (.inr ⟨i, hx⟩))

theorem failedBlock_step {g : List NodeInfo} {s : State} {e : Ev} {n f : Nat} {o : Obj}
    (hr : Reach g s) (hen : enabled s e = true) (hne : e ≠ .reset o)
    (h : FailedBlock s n f o) : FailedBlock (apply s e) n f o := by
  have hobj := reach_objsInv hr
  obtain ⟨hk, hfail, hopen, hsite⟩ := h
  have hfail' := st_failed_mono hobj hne hfail
  have hk' : (apply s e).kind n ≠ .pipeline := by rw [apply_kind]; exact hk
  -- the fork stays unfinished if mrp can neither complete nor disable it
  have stays : s.st ⟨n, f, .join⟩ ≠ some .complete → forkState s n f ≠ .ready →
      fmDone (apply s e) n f = false := by
    intro h1 h2
    refine Bool.eq_false_iff.mpr fun hx => ?_
    rcases fmDone_origin hobj hen hopen hx with ⟨_, hw⟩ | ⟨_, hw⟩
    · exact h1 ((mrpWriteOk_iff.mp hw).2.2.2.resolve_left hk)
    · exact h2 ((mrpWriteOk_iff.mp hw).resolve_left hk)
  have st_join_of_empty : joinEmpty s n f → s.st ⟨n, f, .join⟩ ≠ some .complete :=
    fun hje hc => by have := hje.2; simp [disk_complete_of_st hobj hc] at this
  -- the object stays failed and the fork unfinished; where the object sits follows in every
  -- reachable state
  have fin := fun {r} (hrole : r ≠ Role.fork) =>
    failedBlock_of_reach (.step hr hen) (f := f) (r := r) hk' hrole
  cases hsite with
  | join =>
    refine fin (by simp) hfail' (stays (by simp [hfail]) fun hready => ?_)
    have := (forkState_ready hready).1; simp [hfail] at this
  | chunk i hi hje =>
    refine fin (by simp) hfail' (stays (st_join_of_empty hje) fun hready => ?_)
    simp [failed_chunk_fails_fork hi hfail hopen (forkState_ready hready).1] at hready
  | split hje hnc =>
    refine fin (by simp) hfail' (stays (st_join_of_empty hje) fun hready => ?_)
    have := (forkState_ready hready).2; simp [hfail] at this

end Martian.Sched
