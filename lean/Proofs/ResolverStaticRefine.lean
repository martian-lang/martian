/-
C01 — the refinement "two-phase resolver = den" on one source expression: the typing `HasTy`,
the environment relation `EnvRel` (for any set `Fs` of fork assignments) and E (`eval_resolveRefs`,
`eval_resolveExp`): under `EnvRel`, narrowing den's value of a well-typed expression = evaluating
the statically resolved expression at run time.
-/
import Proofs.ResolverStaticExp2

namespace Proofs.ResolverStatic
open Martian.Dataflow Martian.Resolver Martian.ResolverForks Martian.ResolverStatic Proofs.Dataflow
  Proofs.ResolverForks

def selfTyOf (pins : List Param) (p : String) : Ty :=
  ((pins.find? (fun q => q.name == p)).map (·.ty)).getD badTy

def callTyOf (L : List (String × Ty)) (c : String) : Ty := (L.lookup c).getD badTy

mutual
/-- the source expression `e` may be bound where `t` is expected (`sT` / `cT`: types
of the enclosing pipeline's inputs / of the earlier calls' output structs) -/
def HasTy (st : StructTable) (sT cT : String → Ty) : Ty → Exp → Prop
  | t, .lit j => LitOk st t j
  | t, .arr xs => t.arrDim ≠ 0 ∧ HasTyList st sT cT { t with arrDim := t.arrDim - 1 } xs
  | t, .map kvs =>
    (t.arrDim = 0 ∧ t.mapDim ≠ 0 ∧ HasTyFields st sT cT ⟨t.base, 0, t.mapDim - 1⟩ kvs) ∨
    -- a reference-free literal where an untyped `map` is expected
    (t.arrDim = 0 ∧ t.mapDim = 0 ∧ st.lookup t.base = none ∧ Exp.isJsonFields kvs = true)
  | t, .struct kvs => t.arrDim = 0 ∧ t.mapDim = 0 ∧
      ∃ ps, st.lookup t.base = some ps ∧ HasTyMembers st sT cT ps kvs ∧ ∀ p ∈ ps, (kvs.lookup p.name).isSome
  | t, .self p path => PathOk st (sT p) path ∧ Sub st (pathTy st (sT p) path) t
  | t, .ref c path => PathOk st (cT c) path ∧ Sub st (pathTy st (cT c) path) t
def HasTyList (st : StructTable) (sT cT : String → Ty) : Ty → List Exp → Prop
  | _, [] => True
  | t, e :: es => HasTy st sT cT t e ∧ HasTyList st sT cT t es
def HasTyFields (st : StructTable) (sT cT : String → Ty) : Ty → List (String × Exp) → Prop
  | _, [] => True
  | t, (_, e) :: es => HasTy st sT cT t e ∧ HasTyFields st sT cT t es
def HasTyMembers (st : StructTable) (sT cT : String → Ty) : List Param → List (String × Exp) → Prop
  | _, [] => True
  | ps, (k, e) :: es =>
    ((ps.find? fun p => p.name == k).isSome → HasTy st sT cT (memberTy ps k) e) ∧ HasTyMembers st sT cT ps es
end

def σexp (m : RBMap) (k : String) : RExp :=
  match m.lookup k with
  | some rb => rb.exp
  | none => .lit .null

/-- den's environment (values) against the static environment (resolved expressions):
every value is the run-time evaluation of the resolved expression at its declared type, in
every fork assignment of the set `Fs` (plain programs: only the empty one; with map calls:
all — the resolved expressions of an environment are closed: every reference to a forked
node stands below the `fork` annotation that selects its fork) -/
structure EnvRel (st : StructTable) (F : Nat) (ρ : Store) (Fs : ForkAssign → Prop) (env : Env)
    (sf sb : RBMap) : Prop where
  hself : ∀ p, HasTyR st (env.selfTy p) (σexp sf p) ∧
    ∀ f, Fs f → env.selfVal.field p = evalRT st F ρ f (env.selfTy p) (σexp sf p)
  hcall : ∀ c, HasTyR st (env.callTy c) (σexp sb c) ∧
    ∀ f, Fs f → env.callVal c = evalRT st F ρ f (env.callTy c) (σexp sb c)
  hdom : ∀ c, (env.calls.lookup c).isSome = (sb.lookup c).isSome

theorem bpR_lit_null (fld : String) (j : J) : bpR fld (.lit j) = .lit .null := by simp [bpR]

theorem bpPath_lit_null : ∀ (path : List String), bpPath path (.lit .null) = .lit .null
  | [] => rfl
  | g :: r => by simp [bpPath, bpR, bpPath_lit_null r]

theorem resolveRefs_self (self sib : RBMap) (p : String) (path : List String) :
    resolveRefs self sib (.self p path) = bpPath path (σexp self p) := by
  simp only [resolveRefs, σexp]
  cases self.lookup p <;> simp [bpPath_lit_null]

theorem resolveRefs_ref (self sib : RBMap) (c : String) (path : List String) :
    resolveRefs self sib (.ref c path) = bpPath path (σexp sib c) := by
  simp only [resolveRefs, σexp]
  cases sib.lookup c <;> simp [bpPath_lit_null]

theorem mem_resolveRefsFields (self sib : RBMap) :
    ∀ (kvs : List (String × Exp)) (k : String) (e' : RExp), (k, e') ∈ resolveRefsFields self sib kvs →
      ∃ e, (k, e) ∈ kvs ∧ e' = resolveRefs self sib e
  | [], _, _, h => by simp [resolveRefsFields] at h
  | (k', e0) :: es, k, e', h => by
    simp only [resolveRefsFields, List.mem_cons, Prod.mk.injEq] at h
    cases h with
    | inl h => exact ⟨e0, by simp [h.1], h.2⟩
    | inr h =>
      obtain ⟨e, he, hr⟩ := mem_resolveRefsFields self sib es k e' h
      exact ⟨e, by simp [he], hr⟩

mutual
theorem resolveRefs_json (st : StructTable) (env : Env) (ρ : Store) (f : ForkAssign) (self sib : RBMap) :
    ∀ e : Exp, Exp.isJson e = true →
      jsonR (resolveRefs self sib e) = true ∧ evalR st ρ f (resolveRefs self sib e) = eval st env e
  | .lit j, _ => by simp [resolveRefs, jsonR, evalR, eval]
  | .arr xs, h => by
    simp only [Exp.isJson] at h
    have := resolveRefs_jsonList st env ρ f self sib xs h
    simp only [resolveRefs, jsonR, evalR, eval, this.1, this.2, and_self]
  | .map kvs, h => by
    simp only [Exp.isJson] at h
    have := resolveRefs_jsonFields st env ρ f self sib kvs h
    simp only [resolveRefs, jsonR, evalR, eval, this.1, this.2, and_self]
  | .struct _, h => by simp [Exp.isJson] at h
  | .self _ _, h => by simp [Exp.isJson] at h
  | .ref _ _, h => by simp [Exp.isJson] at h
theorem resolveRefs_jsonList (st : StructTable) (env : Env) (ρ : Store) (f : ForkAssign) (self sib : RBMap) :
    ∀ es : List Exp, Exp.isJsonList es = true →
      jsonRList (resolveRefsList self sib es) = true ∧
      evalRList st ρ f (resolveRefsList self sib es) = evalList st env es
  | [], _ => by simp [resolveRefsList, jsonRList, evalRList, evalList]
  | e :: es, h => by
    simp only [Exp.isJsonList, Bool.and_eq_true] at h
    have h1 := resolveRefs_json st env ρ f self sib e h.1
    have h2 := resolveRefs_jsonList st env ρ f self sib es h.2
    simp only [resolveRefsList, jsonRList, evalRList, evalList, h1.1, h1.2, h2.1, h2.2, Bool.and_self, and_self]
theorem resolveRefs_jsonFields (st : StructTable) (env : Env) (ρ : Store) (f : ForkAssign) (self sib : RBMap) :
    ∀ es : List (String × Exp), Exp.isJsonFields es = true →
      jsonRFields (resolveRefsFields self sib es) = true ∧
      evalRFields st ρ f (resolveRefsFields self sib es) = evalFields st env es
  | [], _ => by simp [resolveRefsFields, jsonRFields, evalRFields, evalFields]
  | (k, e) :: es, h => by
    simp only [Exp.isJsonFields, Bool.and_eq_true] at h
    have h1 := resolveRefs_json st env ρ f self sib e h.1
    have h2 := resolveRefs_jsonFields st env ρ f self sib es h.2
    simp only [resolveRefsFields, jsonRFields, evalRFields, evalFields, h1.1, h1.2, h2.1, h2.2, Bool.and_self,
      and_self]
end

section E
variable (st : StructTable) (hst : StructsOk st) (F : Nat) (hF : NarrowFix st F) (ρ : Store)
  (Fs : ForkAssign → Prop) (env : Env) (self sib : RBMap) (hrel : EnvRel st F ρ Fs env self sib)
  (f : ForkAssign) (hf : Fs f)
include hst hF hrel hf

mutual
theorem eval_resolveRefs :
    ∀ (e : Exp) (t : Ty), HasTy st env.selfTy env.callTy t e →
      narrow st F t (eval st env e) = evalRT st F ρ f t (resolveRefs self sib e) ∧
      HasTyR st t (resolveRefs self sib e)
  | .lit j, t, h => by
    simp only [HasTy] at h
    simp only [eval, resolveRefs]
    have := narrow_evalRT st hst F hF ρ (.lit j) t t f (by simpa [HasTyR] using h) (Sub.refl t)
    simpa [evalRT] using this
  | .arr xs, t, h => by
    obtain ⟨b, m, a⟩ := t
    simp only [HasTy] at h
    cases a with
    | zero => exact absurd rfl h.1
    | succ n =>
      have ih := eval_resolveRefsList xs ⟨b, m, n⟩ h.2
      simp only [eval, resolveRefs, evalRT, Nat.add_sub_cancel, narrow_arr hF, ih.1, HasTyR]
      exact ⟨trivial, by simp, ih.2⟩
  | .map kvs, t, h => by
    obtain ⟨b, m, a⟩ := t
    simp only [HasTy] at h
    rcases h with ⟨ha, hm, hk⟩ | ⟨ha, hm, hl, hj⟩
    · subst ha
      cases m with
      | zero => exact absurd rfl hm
      | succ k =>
        have ih := eval_resolveRefsFields kvs ⟨b, 0, k⟩ hk
        have c : ((0 : Nat) == 0 && (k + 1 != 0)) = true := by simp
        simp only [eval, resolveRefs, evalRT, c, if_true, Nat.add_sub_cancel, narrow_obj hF, ih.1, HasTyR]
        exact ⟨trivial, Or.inl ⟨trivial, by simp, ih.2⟩⟩
    · -- a reference-free literal where an untyped `map` is expected: it is delivered as it stands
      subst ha; subst hm
      have hj' : Exp.isJson (.map kvs) = true := by simpa [Exp.isJson] using hj
      obtain ⟨j1, j2⟩ := resolveRefs_json st env ρ f self sib (.map kvs) hj'
      refine ⟨?_, ?_⟩
      · rw [narrow_scalar hF b hl, evalRT_json st F ρ _ ⟨b, 0, 0⟩ f j1 rfl hl, j2]
      · simp only [resolveRefs, jsonR] at j1
        simp only [resolveRefs, HasTyR]
        exact Or.inr ⟨trivial, trivial, hl, j1⟩
  | .struct kvs, t, h => by
    obtain ⟨b, m, a⟩ := t
    simp only [HasTy] at h
    obtain ⟨ha, hm, ps, hl, hmem, hall⟩ := h
    subst ha; subst hm
    have hn := hst _ _ hl
    constructor
    · simp only [eval, resolveRefs]
      rw [narrow_struct hF b ps hl, evalRT_struct st hst F ρ f ⟨b, 0, 0⟩ ps _ rfl rfl hl]
      simp only [J.obj.injEq]
      apply List.map_congr_left
      intro p hp
      simp only [Prod.mk.injEq, true_and]
      have hfind := find_name_of_nodup ps hn p hp
      rw [lookup_resolveRefsFields]
      simp only [J.field, lookup_evalFields]
      have hsome := hall p hp
      cases he : kvs.lookup p.name with
      | none => simp [he] at hsome
      | some e =>
        simp only [Option.map_some, Option.getD_some]
        exact (eval_resolveRefsMembers ps kvs hmem p.name e (mem_of_lookup kvs _ _ he) p hfind).1
    · simp only [resolveRefs, HasTyR]
      refine ⟨trivial, trivial, ps, hl, ?_, ?_⟩
      · apply HasTyRMembers_of_mem
        intro k e' hke hsome
        obtain ⟨e, he, hr⟩ := mem_resolveRefsFields self sib kvs k e' hke
        subst hr
        cases hf' : ps.find? (fun q => q.name == k) with
        | none => simp [hf'] at hsome
        | some p =>
          rw [memberTy_find ps k p hf']
          exact (eval_resolveRefsMembers ps kvs hmem k e he p hf').2
      · intro p hp
        rw [lookup_resolveRefsFields]
        have := hall p hp
        cases he : kvs.lookup p.name with
        | none => simp [he] at this
        | some e => simp
  | .self p path, t, h => by
    simp only [HasTy] at h
    obtain ⟨hp, hs⟩ := h
    obtain ⟨hty, hval⟩ := hrel.hself p
    have h1 := projPath_evalRT st hst F hF ρ f path (σexp self p) (env.selfTy p) hty hp
    have h2 := narrow_evalRT st hst F hF ρ _ _ t f h1.2 hs
    rw [resolveRefs_self]
    simp only [eval, hval f hf, h1.1]
    exact h2
  | .ref c path, t, h => by
    simp only [HasTy] at h
    obtain ⟨hp, hs⟩ := h
    obtain ⟨hty, hval⟩ := hrel.hcall c
    have h1 := projPath_evalRT st hst F hF ρ f path (σexp sib c) (env.callTy c) hty hp
    have h2 := narrow_evalRT st hst F hF ρ _ _ t f h1.2 hs
    rw [resolveRefs_ref]
    simp only [eval, hval f hf, h1.1]
    exact h2
theorem eval_resolveRefsList :
    ∀ (es : List Exp) (t : Ty), HasTyList st env.selfTy env.callTy t es →
      (evalList st env es).map (narrow st F t) = evalRTList st F ρ f t (resolveRefsList self sib es) ∧
      HasTyRList st t (resolveRefsList self sib es)
  | [], _, _ => by simp [evalList, resolveRefsList, evalRTList, HasTyRList]
  | e :: es, t, h => by
    simp only [HasTyList] at h
    have h1 := eval_resolveRefs e t h.1
    have h2 := eval_resolveRefsList es t h.2
    simp only [evalList, resolveRefsList, evalRTList, List.map_cons, h1.1, h2.1, HasTyRList]
    exact ⟨trivial, h1.2, h2.2⟩
theorem eval_resolveRefsFields :
    ∀ (kvs : List (String × Exp)) (t : Ty), HasTyFields st env.selfTy env.callTy t kvs →
      (evalFields st env kvs).map (fun kv => (kv.1, narrow st F t kv.2))
        = evalRTFields st F ρ f t (resolveRefsFields self sib kvs) ∧
      HasTyRFields st t (resolveRefsFields self sib kvs)
  | [], _, _ => by simp [evalFields, resolveRefsFields, evalRTFields, HasTyRFields]
  | (k, e) :: es, t, h => by
    simp only [HasTyFields] at h
    have h1 := eval_resolveRefs e t h.1
    have h2 := eval_resolveRefsFields es t h.2
    simp only [evalFields, resolveRefsFields, evalRTFields, List.map_cons, h1.1, h2.1, HasTyRFields]
    exact ⟨trivial, h1.2, h2.2⟩
theorem eval_resolveRefsMembers (ps : List Param) :
    ∀ (kvs : List (String × Exp)), HasTyMembers st env.selfTy env.callTy ps kvs →
      ∀ (k : String) (e : Exp), (k, e) ∈ kvs → ∀ (p : Param), ps.find? (fun q => q.name == k) = some p →
        narrow st F p.ty (eval st env e) = evalRT st F ρ f p.ty (resolveRefs self sib e) ∧
        HasTyR st p.ty (resolveRefs self sib e)
  | [], _, _, _, h, _, _ => by simp at h
  | (k', e') :: es, hm, k, e, h, p, hf => by
    simp only [HasTyMembers] at hm
    simp only [List.mem_cons, Prod.mk.injEq] at h
    cases h with
    | inl h =>
      -- the recursive call stays on the pattern variable `e'` (structural recursion)
      rw [h.1] at hf
      have hty := hm.1 (by simp [hf])
      rw [memberTy_find ps k' p hf] at hty
      rw [h.2]
      exact eval_resolveRefs e' p.ty hty
    | inr h => exact eval_resolveRefsMembers ps es hm.2 k e h p hf
end

/-- E followed by L0: what `resolveExp` (resolveRefs, then filter) produces -/
theorem eval_resolveExp (e : Exp) (t : Ty) (h : HasTy st env.selfTy env.callTy t e) :
    narrow st F t (eval st env e) = evalRT st F ρ f t (filterR st t (resolveRefs self sib e)) ∧
    HasTyR st t (filterR st t (resolveRefs self sib e)) := by
  have h1 := eval_resolveRefs st hst F hF ρ Fs env self sib hrel f hf e t h
  have h2 := evalRT_filterR st hst F ρ f (resolveRefs self sib e) t h1.2
  exact ⟨h1.1.trans h2.1.symm, h2.2⟩

end E

end Proofs.ResolverStatic
