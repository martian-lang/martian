import Martian.Format

/-!
The shift loop of `topoSort`, in two parts.

* `topoSort` is a permutation of `range n` (`topoSort_perm'`); on a list whose tail is already in
  dependency order the loop changes nothing (`loop_sorted`).
* The loop sorts: under a relation that is transitive and irreflexive on the calls, started with
  fuel above `2·length`, it ends with every call after the calls it depends on
  (`loop_sorted_of_closed`, from `loop2_sorted` for the loop written on a prefix and a suffix,
  `loop_eq_loop2`); hence `topoSort_sorted`.  Sortedness is `List.Pairwise` (`sortedFrom_pairwise`).
-/
namespace Martian.Format

theorem step_perm (d : Dep) (l : List Nat) (i : Nat) : (step d l i).1.Perm l := by
  unfold step
  split
  · exact List.Perm.refl _
  · rename_i c rest hdrop
    split
    · exact List.Perm.refl _
    · rename_i m _
      have hl : l = l.take i ++ c :: rest := by
        rw [← hdrop]; exact (List.take_append_drop i l).symm
      have hrest : rest = rest.take (m + 1) ++ rest.drop (m + 1) := (List.take_append_drop _ _).symm
      simp only
      conv => rhs; rw [hl]
      apply List.Perm.append_left
      conv => rhs; rw [hrest]
      exact List.perm_middle

theorem loop_perm (d : Dep) : ∀ (f : Nat) (l : List Nat) (i : Nat), (loop d f l i).Perm l := by
  intro f
  induction f with
  | zero => intro l i; exact List.Perm.refl _
  | succ f ih =>
    intro l i
    unfold loop
    split
    · exact (ih _ _).trans (step_perm d l i)
    · exact List.Perm.refl _

theorem topoSort_perm' (n : Nat) (edges : List (Nat × Nat)) : (topoSort n edges).Perm (List.range n) := by
  unfold topoSort
  simp only
  split
  · exact List.Perm.refl _
  · exact loop_perm _ _ _ _

theorem lastDepIdx_none (d : Dep) (c : Nat) : ∀ (rest : List Nat) (i : Nat) (acc : Option Nat),
    (rest.all fun x => !d c x) = true → lastDepIdx d c rest i acc = acc := by
  intro rest
  induction rest with
  | nil => intro i acc _; rfl
  | cons x r ih =>
    intro i acc h
    simp only [List.all_cons, Bool.and_eq_true, Bool.not_eq_true'] at h
    unfold lastDepIdx
    simp only [h.1, Bool.false_eq_true, ↓reduceIte]
    exact ih (i + 1) acc (by simpa using h.2)

/-- on a list whose tail from `i` on is already in dependency order the loop
changes nothing -/
theorem loop_sorted (d : Dep) : ∀ (f : Nat) (l : List Nat) (i : Nat),
    sortedFrom d (l.drop i) = true → loop d f l i = l := by
  intro f
  induction f with
  | zero => intro l i _; rfl
  | succ f ih =>
    intro l i hs
    unfold loop
    split
    · have hstep : step d l i = (l, i + 1) := by
        unfold step
        split
        · rfl
        · rename_i c rest hdrop
          rw [hdrop] at hs
          simp only [sortedFrom, Bool.and_eq_true] at hs
          rw [lastDepIdx_none d c rest 0 none hs.1]
      rw [hstep]
      apply ih
      have : l.drop (i + 1) = (l.drop i).drop 1 := by simp [List.drop_drop]
      rw [this]
      cases hd : l.drop i with
      | nil => simp [sortedFrom]
      | cons c rest =>
        rw [hd] at hs
        simp only [sortedFrom, Bool.and_eq_true] at hs
        simpa using hs.2
    · rfl

end Martian.Format


namespace Martian.Format

def lastIdx (d : Dep) (c : Nat) : List Nat → Option Nat
  | [] => none
  | x :: r =>
    match lastIdx d c r with
    | some m => some (m + 1)
    | none => if d c x then some 0 else none

theorem lastDepIdx_eq (d : Dep) (c : Nat) : ∀ (rest : List Nat) (i : Nat) (acc : Option Nat),
    lastDepIdx d c rest i acc =
      match lastIdx d c rest with
      | some m => some (i + m)
      | none => acc := by
  intro rest
  induction rest with
  | nil => intro i acc; rfl
  | cons x r ih =>
    intro i acc
    unfold lastDepIdx lastIdx
    rw [ih]
    cases h : lastIdx d c r with
    | some m => simp; omega
    | none =>
      by_cases hx : d c x = true
      · simp [hx]
      · simp [hx]

theorem lastIdx_none (d : Dep) (c : Nat) (rest : List Nat) (h : lastIdx d c rest = none) :
    (rest.all fun x => !d c x) = true := by
  fun_induction lastIdx d c rest with
  | case1 => rfl
  | case2 => cases h
  | case3 => cases h
  | case4 x r hr hx ih =>
    simp only [List.all_cons, Bool.and_eq_true, Bool.not_eq_true']
    exact ⟨by simpa using hx, ih hr⟩

theorem lastIdx_some (d : Dep) (c : Nat) (rest : List Nat) (m : Nat) (h : lastIdx d c rest = some m) :
    ∃ B x post, rest = B ++ x :: post ∧ B.length = m ∧ d c x = true ∧
      (post.all fun y => !d c y) = true := by
  fun_induction lastIdx d c rest generalizing m with
  | case1 => cases h
  | case2 x r m' hr ih =>
    cases h
    obtain ⟨B, y, post, h1, h2, h3, h4⟩ := ih m' hr
    exact ⟨x :: B, y, post, by rw [h1]; rfl, by simp [h2], h3, h4⟩
  | case3 x r hr hx =>
    cases h
    exact ⟨[], x, r, rfl, rfl, hx, lastIdx_none d c r hr⟩
  | case4 => cases h

def loop2 (d : Dep) : Nat → List Nat → List Nat → List Nat
  | 0, pre, suf => pre ++ suf
  | _ + 1, pre, [] => pre
  | _ + 1, pre, [c] => pre ++ [c]
  | f + 1, pre, c :: r0 :: rs =>
    match lastIdx d c (r0 :: rs) with
    | none => loop2 d f (pre ++ [c]) (r0 :: rs)
    | some m => loop2 d f pre ((r0 :: rs).take (m + 1) ++ c :: (r0 :: rs).drop (m + 1))

theorem loop_eq_loop2 (d : Dep) : ∀ (f : Nat) (pre suf : List Nat),
    loop d f (pre ++ suf) pre.length = loop2 d f pre suf := by
  intro f
  induction f with
  | zero => intro pre suf; rfl
  | succ f ih =>
    intro pre suf
    unfold loop
    match suf with
    | [] =>
      have : ¬ (pre.length + 1 < pre.length) := by omega
      simp only [List.append_nil, this, ↓reduceIte, loop2]
    | [c] =>
      have : ¬ (pre.length + 1 < (pre ++ [c]).length) := by simp
      simp only [this, ↓reduceIte, loop2]
    | c :: r0 :: rs =>
      have hlt : pre.length + 1 < (pre ++ c :: r0 :: rs).length := by simp
      simp only [hlt, ↓reduceIte]
      have hdrop : (pre ++ c :: r0 :: rs).drop pre.length = c :: r0 :: rs := by simp
      have htake : (pre ++ c :: r0 :: rs).take pre.length = pre := by simp
      unfold step
      simp only [hdrop, htake]
      rw [lastDepIdx_eq]
      unfold loop2
      cases h : lastIdx d c (r0 :: rs) with
      | none =>
        simp only
        have := ih (pre ++ [c]) (r0 :: rs)
        simp only [List.length_append, List.length_cons, List.length_nil, List.append_assoc,
          List.cons_append, List.nil_append] at this
        exact this
      | some m =>
        simp only [Nat.zero_add]
        exact ih pre _

def countBad (d : Dep) : List Nat → Nat
  | [] => 0
  | c :: r => (if (r.all fun x => !d c x) then 0 else 1) + countBad d r

theorem sortedFrom_pairwise (d : Dep) : ∀ l : List Nat,
    sortedFrom d l = true ↔ l.Pairwise fun a b => d a b = false
  | [] => by simp [sortedFrom]
  | c :: r => by simp [sortedFrom, sortedFrom_pairwise d r]

/-- no element of `pre` has a dependency later in `pre ++ suf` -/
def PrefGood (d : Dep) (pre suf : List Nat) : Prop :=
  pre.Pairwise (fun a b => d a b = false) ∧ ∀ a ∈ pre, ∀ b ∈ suf, d a b = false

theorem sorted_append (d : Dep) (pre suf : List Nat) :
    sortedFrom d (pre ++ suf) = true ↔ PrefGood d pre suf ∧ sortedFrom d suf = true := by
  simp only [sortedFrom_pairwise, List.pairwise_append, PrefGood]
  exact ⟨fun h => ⟨⟨h.1, h.2.2⟩, h.2.1⟩, fun h => ⟨h.1.1, h.2, h.1.2⟩⟩

theorem sorted_of_countBad (d : Dep) : ∀ l, countBad d l = 0 → sortedFrom d l = true := by
  intro l
  induction l with
  | nil => intro _; rfl
  | cons c r ih =>
    intro h
    unfold countBad at h
    by_cases hc : (r.all fun x => !d c x) = true
    · simp only [hc, ↓reduceIte, Nat.zero_add] at h
      simp [sortedFrom, hc, ih h]
    · simp [hc] at h

theorem PrefGood.snoc {d : Dep} {c : Nat} {pre rest : List Nat} (h : PrefGood d pre (c :: rest))
    (hc : (rest.all fun x => !d c x) = true) : PrefGood d (pre ++ [c]) rest := by
  simp only [List.all_eq_true, Bool.not_eq_true'] at hc
  refine ⟨List.pairwise_append.mpr ⟨h.1, List.pairwise_singleton _ _, fun a ha b hb => ?_⟩,
    fun a ha b hb => ?_⟩
  · rw [List.mem_singleton.mp hb]; exact h.2 a ha c List.mem_cons_self
  · rcases List.mem_append.mp ha with ha | ha
    · exact h.2 a ha b (List.mem_cons_of_mem _ hb)
    · rw [List.mem_singleton.mp ha]; exact hc b hb

/-- moving `c` from in front of `B ++ x :: post` to just after `x` (its last
dependency) does not make any other element bad, and makes `c` good -/
theorem countBad_move (d : Dep) (L : List Nat) (c x : Nat) (post : List Nat)
    (htr : ∀ a b e, a ∈ L → b ∈ L → e ∈ L → d a b = true → d b e = true → d a e = true)
    (hirr : ∀ a, a ∈ L → d a a = false)
    (hc : c ∈ L) (hx : x ∈ L) (hdx : d c x = true)
    (hpost : (post.all fun y => !d c y) = true) :
    ∀ (B : List Nat), (∀ y ∈ B, y ∈ L) →
      countBad d (B ++ x :: c :: post) ≤ countBad d (B ++ x :: post) := by
  intro B
  induction B with
  | nil =>
    intro _
    simp only [List.nil_append, countBad, hpost, ↓reduceIte, Nat.zero_add]
    have hxc : d x c = false := by
      cases h : d x c with
      | false => rfl
      | true => have := htr c x c hc hx hc hdx h; rw [hirr c hc] at this; cases this
    by_cases hp : (post.all fun y => !d x y) = true
    · simp [List.all_cons, hxc, hp]
    · simp only [hp, Bool.false_eq_true, ↓reduceIte]
      split <;> omega
  | cons y B ih =>
    intro hB
    have hy : y ∈ L := hB y (by simp)
    have ih' := ih (fun z hz => hB z (by simp [hz]))
    simp only [List.cons_append, countBad]
    have hmono : (if ((B ++ x :: c :: post).all fun z => !d y z) = true then 0 else 1) ≤
        (if ((B ++ x :: post).all fun z => !d y z) = true then 0 else 1) := by
      by_cases hg : ((B ++ x :: post).all fun z => !d y z) = true
      · -- y was good: it does not depend on x, hence not on c
        have hyx : d y x = false := by
          simp only [List.all_append, List.all_cons, Bool.and_eq_true, Bool.not_eq_true'] at hg
          exact hg.2.1
        have hyc : d y c = false := by
          cases h : d y c with
          | false => rfl
          | true => have := htr y c x hy hc hx h hdx; rw [hyx] at this; cases this
        have : ((B ++ x :: c :: post).all fun z => !d y z) = true := by
          simp only [List.all_append, List.all_cons, Bool.and_eq_true, Bool.not_eq_true'] at hg ⊢
          exact ⟨hg.1, hg.2.1, hyc, hg.2.2⟩
        simp [hg, this]
      · simp only [hg, Bool.false_eq_true, ↓reduceIte]
        split <;> omega
    omega

/-- The measure is `suf.length + countBad d suf` (`countBad`: the calls with a dependency later in
the list).  An advance keeps `countBad` and shortens the suffix; a shift keeps the length, makes
`c` good and no other call bad (`countBad_move`). -/
theorem loop2_sorted (d : Dep) (L : List Nat)
    (htr : ∀ a b e, a ∈ L → b ∈ L → e ∈ L → d a b = true → d b e = true → d a e = true)
    (hirr : ∀ a, a ∈ L → d a a = false) :
    ∀ (f : Nat) (pre suf : List Nat), (∀ x ∈ suf, x ∈ L) →
      PrefGood d pre suf → suf.length + countBad d suf < f →
      sortedFrom d (loop2 d f pre suf) = true := by
  intro f
  induction f with
  | zero => intro pre suf _ _ h; omega
  | succ f ih =>
    intro pre suf hmem hpg hfuel
    match suf, hmem, hpg, hfuel with
    | [], _, hpg, _ =>
      simp only [loop2]
      simpa using (sorted_append d pre []).mpr ⟨hpg, rfl⟩
    | [c], _, hpg, _ =>
      simp only [loop2]
      exact (sorted_append d pre [c]).mpr ⟨hpg, rfl⟩
    | c :: r0 :: rs, hmem, hpg, hfuel =>
      simp only [loop2]
      cases h : lastIdx d c (r0 :: rs) with
      | none =>
        simp only
        have hgood := lastIdx_none d c _ h
        apply ih
        · intro x hx; exact hmem x (by simp at hx ⊢; right; exact hx)
        · exact hpg.snoc hgood
        · have : countBad d (c :: r0 :: rs) = countBad d (r0 :: rs) := by
            conv => lhs; unfold countBad
            simp [hgood]
          rw [this] at hfuel
          simp only [List.length_cons] at hfuel ⊢
          omega
      | some m =>
        simp only
        -- `c` moves to just after its last dependency `x`: the suffix is rearranged
        have hperm : ((r0 :: rs).take (m + 1) ++ c :: (r0 :: rs).drop (m + 1)).Perm (c :: r0 :: rs) := by
          refine List.perm_middle.trans ?_
          rw [List.take_append_drop]
        apply ih
        · exact fun z hz => hmem z (hperm.subset hz)
        · exact ⟨hpg.1, fun a ha b hb => hpg.2 a ha b (hperm.subset hb)⟩
        · rw [hperm.length_eq]
          obtain ⟨B, x, post, hrest, hlen, hdx, hpost⟩ := lastIdx_some d c _ m h
          have hB : (B ++ [x]).length = m + 1 := by rw [List.length_append, hlen]; rfl
          rw [hrest, List.append_cons, List.take_left' hB, List.drop_left' hB]
          simp only [List.append_assoc, List.singleton_append]
          rw [hrest] at hmem hfuel
          have hmove := countBad_move d L c x post htr hirr (hmem c (by simp)) (hmem x (by simp)) hdx hpost
            B (fun y hy => hmem y (by simp [hy]))
          -- `c` had a dependency after it
          have hbad : ((B ++ x :: post).all fun y => !d c y) = false := by
            rw [List.all_append, List.all_cons, hdx]; simp
          rw [countBad, hbad] at hfuel
          simp only [Bool.false_eq_true, ↓reduceIte] at hfuel
          omega

theorem countBad_le (d : Dep) : ∀ l, countBad d l ≤ l.length := by
  intro l
  induction l with
  | nil => simp [countBad]
  | cons c r ih =>
    unfold countBad
    simp only [List.length_cons]
    split <;> omega

/-- Under a relation that is transitive and irreflexive on the calls, the shift
loop started at index 0 with fuel `> 2·length` ends in dependency order. -/
theorem loop_sorted_of_closed (d : Dep) (l : List Nat) (f : Nat)
    (htr : transOn l d = true) (hirr : irreflOn l d = true) (hf : 2 * l.length < f) :
    sortedFrom d (loop d f l 0) = true := by
  have h := loop_eq_loop2 d f [] l
  simp only [List.nil_append, List.length_nil] at h
  rw [h]
  apply loop2_sorted d l
  · intro a b e ha hb he hab hbe
    unfold transOn at htr
    simp only [List.all_eq_true] at htr
    have := htr a ha b hb e he
    simp only [hab, hbe, Bool.and_self, Bool.not_true, Bool.false_or] at this
    exact this
  · intro a ha
    unfold irreflOn at hirr
    simp only [List.all_eq_true] at hirr
    simpa using hirr a ha
  · intro x hx; exact hx
  · exact ⟨.nil, fun _ h => nomatch h⟩
  · have := countBad_le d l; omega

theorem hasCycle_false_irrefl (n : Nat) (d : Dep) (h : hasCycle n d = false) :
    irreflOn (List.range n) d = true := by
  unfold hasCycle at h
  unfold irreflOn
  simp only [List.all_eq_true]
  intro a ha
  have : ¬ (List.range n).any (fun a => d a a) = true := by simp [h]
  simp only [List.any_eq_true, not_exists, not_and] at this
  simpa using this a ha

theorem topoSort_sorted (n : Nat) (edges : List (Nat × Nat))
    (hcyc : hasCycle n (closedDeps n edges) = false)
    (htr : transOn (List.range n) (closedDeps n edges) = true) :
    sortedFrom (closedDeps n edges) (topoSort n edges) = true := by
  unfold topoSort
  have hc : hasCycle n (ofTable (closedTable n edges)) = false := hcyc
  simp only [hc, Bool.false_eq_true, ↓reduceIte]
  apply loop_sorted_of_closed _ _ _ htr (hasCycle_false_irrefl n _ hcyc)
  simp only [List.length_range]
  have := Nat.le_mul_self n
  omega

theorem ofTable_tabulate (n : Nat) (f : Dep) (a b : Nat) (ha : a < n) (hb : b < n) :
    ofTable (tabulate n f) a b = f a b := by
  simp [ofTable, tabulate, List.getD_eq_getElem?_getD, ha, hb]

theorem closeTab_mono (n : Nat) : ∀ (k : Nat) (t : List (List Bool)) (a b : Nat), a < n → b < n →
    ofTable t a b = true → ofTable (closeTab n k t) a b = true := by
  intro k
  induction k with
  | zero => intro t a b _ _ h; exact h
  | succ k ih =>
    intro t a b ha hb h
    unfold closeTab
    apply ih _ a b ha hb
    rw [ofTable_tabulate n _ a b ha hb]
    simp [closeOnce, h]

theorem sorted_no_later_dep (d : Dep) (l A B : List Nat) (a b : Nat)
    (hs : sortedFrom d l = true) (hl : l = A ++ a :: B) (hd : d a b = true) : b ∉ B := by
  subst hl
  have hp := (List.pairwise_append.mp ((sortedFrom_pairwise d _).mp hs)).2.1
  intro hb
  have := (List.pairwise_cons.mp hp).1 b hb
  rw [hd] at this
  cases this

end Martian.Format
