import Martian.VdrHyp
import Proofs.VdrExact
import Proofs.ListFacts
import Proofs.VdrPath
import Proofs.VdrPass

/-! Two parts.  First `PathKinds` and `LInv`: every path listed in a kill report is gone, for every configuration
and every interleaving, at the event that lists it and ever after (`LInv.run`; C14 `listed_paths_gone`).  Then the
executable checks of Martian/VdrHyp.lean imply the hypotheses they stand for (`cfgOKB_sound`, `pathKindsB_sound`,
`diskWFB_sound`). -/
namespace Martian.Vdr

/-- entries with the same path are of the same kind (a path is one entry) -/
def PathKinds (disk : List DiskEnt) : Prop :=
  ∀ d ∈ disk, ∀ d' ∈ disk, d.path = d'.path → d.kind = d'.kind

structure LInv (s : St) : Prop where
  gone : ∀ p ∈ s.report.paths, ∀ d ∈ s.disk, d.path ≠ p
  uniq : PathKinds s.disk

theorem PathKinds.sub {a b : List DiskEnt} (u : PathKinds a) (h : ∀ d ∈ b, d ∈ a) : PathKinds b :=
  fun d hd d' hd' e => u d (h d hd) d' (h d' hd') e

theorem LInv.same {s s' : St} (l : LInv s) (hd : ∀ d ∈ s'.disk, d ∈ s.disk) (hp : s'.report.paths = s.report.paths) :
    LInv s' := by
  refine ⟨?_, l.uniq.sub hd⟩
  intro p hp' d hd'
  exact l.gone p (hp ▸ hp') d (hd d hd')

theorem LInv.ofFrame {s s' : St} (l : LInv s) (f : Frame s s') : LInv s' :=
  l.same (fun d h => f.disk ▸ h) (by rw [f.report])

theorem mem_topLevel {l : List Path} {p : Path} (h : p ∈ topLevel l) : p ∈ l := (List.mem_filter.mp h).1

theorem collapse_sub (acc l : List Path) : ∀ x ∈ collapse acc l, x ∈ acc ∨ x ∈ l := by
  induction l generalizing acc with
  | nil =>
    intro x hx
    simp only [collapse] at hx
    exact Or.inl (List.mem_reverse.mp hx)
  | cons p r ih =>
    intro x hx
    cases acc with
    | nil =>
      simp only [collapse] at hx
      rcases ih [p] x hx with h | h
      · simp at h; subst h; exact Or.inr List.mem_cons_self
      · exact Or.inr (List.mem_cons_of_mem _ h)
    | cons k acc =>
      simp only [collapse] at hx
      split at hx
      · rcases ih (k :: acc) x hx with h | h
        · exact Or.inl h
        · exact Or.inr (List.mem_cons_of_mem _ h)
      · rcases ih (p :: k :: acc) x hx with h | h
        · rcases List.mem_cons.mp h with rfl | h
          · exact Or.inr List.mem_cons_self
          · exact Or.inl h
        · exact Or.inr (List.mem_cons_of_mem _ h)

theorem LInv.cleanPhase {c : Cfg} {s : St} (l : LInv s) (ph : Nat) : LInv (cleanPhase c s ph) := by
  unfold Martian.Vdr.cleanPhase
  split
  · exact l
  · refine ⟨?_, l.uniq.sub (fun d h => (List.mem_filter.mp h).1)⟩
    intro p hp d hd
    simp only [List.mem_filter] at hd
    have old : p ∈ s.report.paths → d.path ≠ p := fun h => l.gone p h d hd.1
    dsimp only at hp
    split at hp
    · exact old hp
    · rcases List.mem_append.mp hp with h | h
      · exact old h
      · have hm := mem_topLevel h
        simp only [List.mem_map, List.mem_filter] at hm
        obtain ⟨g, ⟨hg, hk⟩, rfl⟩ := hm
        intro e
        have := l.uniq d hd.1 g hg e
        rw [this] at hd
        simp [hk] at hd

theorem mem_collapse_sorted {l : List Path} {p : Path} (h : p ∈ collapse [] (l.mergeSort pathLe)) : p ∈ l := by
  rcases collapse_sub [] _ p h with h | h
  · cases h
  · exact List.mem_mergeSort.mp h

theorem LInv.killCore {s : St} (l : LInv s) (es : List Entry) : LInv (killCore s es) := by
  refine ⟨?_, l.uniq.sub (fun d h => (killCore_disk h).1)⟩
  intro p hp d hd e
  obtain ⟨hd1, hd2⟩ := killCore_disk hd
  rcases List.mem_append.mp hp with h | h
  · exact l.gone p h d hd1 e
  · obtain ⟨k, hk, rfl⟩ := List.mem_map.mp (mem_collapse_sorted h)
    have hk := List.mem_filter.mp hk
    rw [killed_iff.mpr ⟨k, hk.1, hk.2, e ▸ pathIsInside_self _⟩] at hd2
    cases hd2

theorem LInv.killChunks {c : Cfg} {s : St} (l : LInv s) : LInv (killChunks c s) := by
  refine ⟨?_, l.uniq.sub (fun d h => (List.mem_filter.mp h).1)⟩
  intro p hp d hd
  have hd := List.mem_filter.mp hd
  rcases List.mem_append.mp hp with h | h
  · exact l.gone p h d hd.1
  · have hm := mem_topLevel h
    split at hm
    · rename_i hsp
      simp only [List.mem_map, List.mem_filter] at hm
      obtain ⟨g, ⟨hg, hk⟩, rfl⟩ := hm
      intro e
      have := hd.2
      rw [l.uniq d hd.1 g hg e] at this
      simp [hsp, hk] at this
    · simp at hm

theorem LInv.normCache {c : Cfg} {s : St} (l : LInv s) : LInv (normCache c s) :=
  have l' := l.ofFrame (normCache_frame c s)
  ⟨l'.gone, l'.uniq⟩

theorem LInv.vdrKillSome {c : Cfg} {s : St} (l : LInv s) (done : Bool) : LInv (vdrKillSome c s done) :=
  vdrKillSome_induct (fun _ l => l.normCache) (fun _ es _ _ l => l.killCore es) (fun _ l => l)
    (fun _ _ _ _ _ _ l => l.same (fun _ h => h) rfl) l

theorem LInv.vdrKill {c : Cfg} {s : St} (l : LInv s) : LInv (vdrKill c s) := by
  rw [vdrKill_eq]
  split
  · exact l
  · split
    · exact l.vdrKillSome true
    · exact l.killChunks

theorem LInv.own {c : Cfg} {s s' : St} (o : Own c s s') (l : LInv s) : LInv s' := by
  cases o with
  | removeEmpty => exact l.ofFrame (removeEmpty_frame c s)
  | cacheMap => have l' := l.ofFrame (cacheMap_frame c s); exact ⟨l'.gone, l'.uniq⟩
  | cleanPhase ph _ => exact l.cleanPhase ph
  | dropDone _ => exact l.ofFrame (dropDone_frame s)
  | vdrKillSome done _ _ _ _ => exact l.vdrKillSome done
  | vdrKill _ _ _ _ => exact l.vdrKill

theorem LInv.run {c : Cfg} {s : St} (l : LInv s) (evs : List Ev) : LInv (run c s evs) :=
  run_induct (fun _ _ l => l.same (fun _ h => h) rfl) (fun _ l => l.same (fun _ h => h) rfl) (fun _ _ o l => l.own o) l evs

end Martian.Vdr


/-! The executable checks imply the hypotheses they stand for. -/
namespace Martian.Vdr

theorem noTrailing_of_endsSlash {p : Path} (h : endsSlash p = false) : NoTrailingSlash p := by
  intro q e
  subst e
  simp [endsSlash] at h

theorem endsSlash_eq {p : Path} (h : endsSlash p = true) : p = p.dropLast ++ ['/'] := by
  have hne : p ≠ [] := by intro e; subst e; simp [endsSlash] at h
  have hl : p.getLast hne = '/' := by
    simp only [endsSlash, beq_iff_eq] at h
    rw [List.getLast?_eq_some_getLast hne] at h
    exact Option.some.inj h
  rw [← hl]
  exact (List.dropLast_concat_getLast hne).symm

theorem stripN_spec : ∀ (n : Nat) (p : Path), ∃ k, p = stripN n p ++ List.replicate k '/' := by
  intro n
  induction n with
  | zero => intro p; exact ⟨0, by simp [stripN]⟩
  | succ n ih =>
    intro p
    simp only [stripN]
    split
    · rename_i he
      obtain ⟨k, hk⟩ := ih p.dropLast
      refine ⟨k + 1, ?_⟩
      rw [List.replicate_succ', ← List.append_assoc, ← hk]
      exact endsSlash_eq he
    · exact ⟨0, by simp⟩

theorem noDbl_of_hasDbl {p : Path} (h : hasDbl p = false) : NoDbl p := by
  rintro ⟨s, t, e⟩
  induction s generalizing p with
  | nil =>
    simp at e
    subst e
    simp [hasDbl] at h
  | cons a r ih =>
    cases p with
    | nil => simp at e
    | cons b q =>
      simp only [List.cons_append, List.cons.injEq] at e
      simp only [hasDbl, Bool.or_eq_false_iff] at h
      exact ih h.2 e.2

theorem cfgOKB_sound {c : Cfg} {s : St} (h : cfgOKB c s = true) : CfgOK c s := by
  simp only [cfgOKB, Bool.and_eq_true, List.all_eq_true, Bool.or_eq_true, Bool.not_eq_true',
    decide_eq_true_eq] at h
  obtain ⟨⟨⟨⟨h1, h2⟩, h3⟩, h4⟩, h5⟩ := h
  refine ⟨?_, ?_, ?_, ?_, ⟨h4, h5⟩⟩
  · intro a ha
    unfold Cfg.filesOf
    cases hl : c.argFiles.lookup a with
    | none => rfl
    | some fs =>
      have hm := Proofs.ListFacts.mem_of_lookup hl
      rcases h1 (a, fs) hm with h | h
      · rw [ha] at h; cases h
      · simpa using h
  · intro a f hf
    unfold Cfg.filesOf at hf ⊢
    cases hl : c.argFiles.lookup a with
    | none => rw [hl] at hf; cases hf
    | some fs =>
      rw [hl] at hf
      simp only [Option.getD_some] at hf ⊢
      have hm := Proofs.ListFacts.mem_of_lookup hl
      rcases h2 (a, fs) hm f hf with hc | hc
      · exact Or.inl (noTrailing_of_endsSlash hc)
      · cases he : endsSlash f with
        | false => exact Or.inl (noTrailing_of_endsSlash he)
        | true =>
          obtain ⟨k, hk⟩ := stripN_spec f.length f
          refine Or.inr ⟨stripSlashes f, by simpa using hc.1, noTrailing_of_endsSlash hc.2, k, ?_, hk⟩
          cases k with
          | zero =>
            exfalso
            have h0 : f = stripSlashes f := by simpa [stripSlashes] using hk
            rw [← h0, he] at hc
            exact absurd hc.2 (by decide)
          | succ k => omega
  · intro d hd
    exact noTrailing_of_endsSlash (h3 d hd).1
  · intro d hd
    exact noDbl_of_hasDbl (h3 d hd).2

theorem pathKindsB_sound {disk : List DiskEnt} (h : pathKindsB disk = true) : PathKinds disk := by
  simp only [pathKindsB, List.all_eq_true, Bool.or_eq_true, decide_eq_true_eq, bne_iff_ne, ne_eq] at h
  intro d hd d' hd' e
  rcases h d hd d' hd' with h1 | h1
  · exact absurd e h1
  · exact h1

theorem diskWFB_sound {disk : List DiskEnt} (h1 : sepB disk = true) (h2 : linksTopB disk = true) : DiskWF disk := by
  refine ⟨?_, ?_⟩
  · simp only [sepB, List.all_eq_true, Bool.or_eq_true, Bool.not_eq_true'] at h1
    intro d hd ht d' hd' ht'
    rcases h1 d hd with h | h
    · rw [ht] at h; cases h
    · rcases h d' hd' with h | h
      · rw [ht'] at h; cases h
      · exact h
  · simp only [linksTopB, List.all_eq_true, Bool.or_eq_true, Bool.not_eq_true', decide_eq_true_eq,
      List.isEmpty_iff] at h2
    intro d hd ha d' hd' ht' hin
    rcases h2 d hd with h | h
    · exact absurd h ha
    · rcases h d' hd' with (h | h) | h
      · rw [ht'] at h; cases h
      · rw [hin] at h; cases h
      · exact h

end Martian.Vdr
