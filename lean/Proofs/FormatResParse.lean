import Martian.FormatDeclText
import Proofs.FormatResGB
import Proofs.FormatCallParse
import Proofs.FormatExpNum
import Proofs.FormatQuote

/-!
C09: the token layer of the round trip of the trailing clauses of a stage
declaration: the token sequences `toksRes`, `toksRetain`, `toksSrc`,
`toksTail` of the printed clauses, and the readers give back the clause from
them, whatever token sequence follows.
The readers take the reading `rd` of `mem_gb` / `vmem_gb` as a parameter: `pResListR_entry`, `pResListR_toks` for every
`rd` with `ReadsBack rd`; the `*_exact` lemmas specialise to the exact reading; also `fieldsU_joinSp` and
`toksStage0` / `pStage0_toks`.
-/

namespace Martian.FormatRes
open Martian.Lexer (Bytes parseInt parseFloat unquoteBytes isSpaceAscii)
open Martian.Format (quoteString)
open Martian.FormatExp
open Martian.FormatCall (tLP tRP tEq)

def tokThreads (t : Bytes) : Tok := if isFloatTok t then .float t else .int t

def toksMem : Option Int → List Tok
  | some mb => [.id sMemGb, tEq, tokGB mb, tComma]
  | none => []

def toksSpecial : Option Bytes → List Tok
  | some s => [.id sSpecial, tEq, .str (quoteString s), tComma]
  | none => []

def toksThreads : Option Bytes → List Tok
  | some t => [.id sThreads, tEq, tokThreads t, tComma]
  | none => []

def toksVmem : Option Int → List Tok
  | some mb => [.id sVmemGb, tEq, tokGB mb, tComma]
  | none => []

def toksVolatile : Option Bool → List Tok
  | some b => [.id sVolatile, tEq, if b then .id sStrict else .kFalse, tComma]
  | none => []

/-- the entries of the `using` block -/
def toksResBody (r : Res) : List Tok :=
  toksMem r.mem ++ toksSpecial r.special ++ toksThreads r.threads ++ toksVmem r.vmem ++
    toksVolatile r.volatile

/-- `) using (` and the entries: the tokens of `fmtRes r` -/
def toksRes (r : Res) : List Tok := tRP :: .id sUsing :: tLP :: toksResBody r

def toksRetainBody : List Bytes → List Tok
  | [] => []
  | x :: r => .id x :: tComma :: toksRetainBody r

/-- `) retain (` and the entries: the tokens of `fmtRetain ids` -/
def toksRetain (ids : List Bytes) : List Tok := tRP :: .id sRetain :: tLP :: toksRetainBody ids

/-- the tokens of `fmtSrc mw tw lang path args` -/
def toksSrc (lang : Lang) (path : Bytes) (args : List Bytes) : List Tok :=
  [.reserved sSrc, langTok lang, .str (quoteString (joinSp (path :: args))), tComma]

def toksTail (res : Option Res) (ret : Option (List Bytes)) : List Tok :=
  (match res with | some r => toksRes r | none => []) ++
    (match ret with | some ids => toksRetain ids | none => []) ++ [tRP]

def toksStage0 (s : Stage0) : List Tok :=
  .reserved sStage :: .id s.id :: tLP :: (toksSrc s.lang s.path s.args ++ toksTail s.res s.retain)

/-! ## resource entries

Stated for `pResListR rd`, the reader with the reading of `mem_gb` / `vmem_gb` a parameter
(Martian/FormatDeclText.lean): `pResList` is the instance `rd = readGBTok`, the real parser's
reading is `rd = readGB32Tok`. -/

theorem pResListR_end (rd : Tok → Option Int) (rest : List Tok) (acc : Res) :
    pResListR rd (tRP :: rest) acc = some (acc, rest) := rfl

/-- the equation of `pResListR` on an entry `key = value,` (proofs use it in place of the
definition, whose sixteen match alternatives are dear to unfold) -/
theorem pResListR_entry (rd : Tok → Option Int) (k : Bytes) (v : Tok) (r : List Tok) (acc : Res) :
    pResListR rd (.id k :: tEq :: v :: tComma :: r) acc =
    if k = sThreads then
      match readF32 v with
      | some t => pResListR rd r { acc with threads := some t }
      | none => none
    else if k = sMemGb ∨ k = sMemgb then
      match rd v with
      | some mb => pResListR rd r { acc with mem := some mb }
      | none => none
    else if k = sVmemGb ∨ k = sVmemgb then
      match rd v with
      | some mb => pResListR rd r { acc with vmem := some mb }
      | none => none
    else if k = sSpecial then
      match v with
      | .str raw =>
        match unquoteBytes raw with
        | some s => pResListR rd r { acc with special := some s }
        | none => none
      | _ => none
    else if k = sVolatile then
      match v with
      | .id w => if w = sStrict then pResListR rd r { acc with volatile := some true } else none
      | .kFalse => pResListR rd r { acc with volatile := some false }
      | _ => none
    else none := rfl

theorem pResListR_exact (ts : List Tok) (acc : Res) : pResListR readGBTok ts acc = pResList ts acc := by
  fun_induction pResList ts acc
  case case1 => rfl
  case case16 => unfold pResListR; simp_all
  all_goals (rw [pResListR_entry]; simp_all)

theorem pResourcesR_exact (ts : List Tok) : pResourcesR readGBTok ts = pResources ts := by
  unfold pResourcesR pResources
  simp only [pResListR_exact]
  rfl

theorem pTailR_exact (ts : List Tok) : pTailR readGBTok ts = pTail ts := by
  unfold pTailR pTail
  simp only [pResourcesR_exact]
  rfl

theorem readF32_threads (t : Bytes) (h : wfThreads t = true) : readF32 (tokThreads t) = some t := by
  unfold tokThreads
  cases hf : isFloatTok t with
  | true =>
    simp only [↓reduceIte, readF32]
    simp only [wfThreads, hf, Bool.true_and, Bool.or_eq_true] at h
    rcases h with h | h
    · simp [h]
    · have h1 := isCanonInt_lex h
      simp only [isFloatTok, beq_iff_eq] at hf
      rw [h1] at hf
      exact Martian.Lexer.NumTok.noConfusion hf
  | false =>
    simp only [Bool.false_eq_true, ↓reduceIte, readF32]
    simp only [wfThreads, hf, Bool.false_and, Bool.false_or] at h
    unfold isCanonInt at h
    split at h
    · rename_i i hi; simp [hi]
    · exact absurd h (by simp)

/-- what an entry list does to the accumulated `Resources` -/
def setMem (a : Option Int) (acc : Res) : Res :=
  match a with | some mb => { acc with mem := some mb } | none => acc
def setSpecial (a : Option Bytes) (acc : Res) : Res :=
  match a with | some s => { acc with special := some s } | none => acc
def setThreads (a : Option Bytes) (acc : Res) : Res :=
  match a with | some s => { acc with threads := some s } | none => acc
def setVmem (a : Option Int) (acc : Res) : Res :=
  match a with | some mb => { acc with vmem := some mb } | none => acc
def setVolatile (a : Option Bool) (acc : Res) : Res :=
  match a with | some b => { acc with volatile := some b } | none => acc

/-! One lemma per key.  Each key is tested after the keys before it in `pResListR`, hence the
inequalities. -/

theorem stepR_mem (rd : Tok → Option Int) (a : Option Int) (hr : ∀ mb, a = some mb → rd (tokGB mb) = some mb)
    (ts : List Tok) (acc : Res) : pResListR rd (toksMem a ++ ts) acc = pResListR rd ts (setMem a acc) := by
  cases a with
  | none => rfl
  | some mb =>
    have h1 : sMemGb ≠ sThreads := by decide
    simp [toksMem, setMem, pResListR_entry, h1, hr mb rfl]

theorem stepR_vmem (rd : Tok → Option Int) (a : Option Int) (hr : ∀ mb, a = some mb → rd (tokGB mb) = some mb)
    (ts : List Tok) (acc : Res) : pResListR rd (toksVmem a ++ ts) acc = pResListR rd ts (setVmem a acc) := by
  cases a with
  | none => rfl
  | some mb =>
    have h1 : sVmemGb ≠ sThreads := by decide
    have h2 : sVmemGb ≠ sMemGb := by decide
    have h3 : sVmemGb ≠ sMemgb := by decide
    simp [toksVmem, setVmem, pResListR_entry, h1, h2, h3, hr mb rfl]

theorem stepR_special (rd : Tok → Option Int) (a : Option Bytes)
    (hs : ∀ s, a = some s → Martian.ShellQuote.validUtf8 s = true) (ts : List Tok) (acc : Res) :
    pResListR rd (toksSpecial a ++ ts) acc = pResListR rd ts (setSpecial a acc) := by
  cases a with
  | none => rfl
  | some s =>
    have h1 : sSpecial ≠ sThreads := by decide
    have h2 : sSpecial ≠ sMemGb := by decide
    have h3 : sSpecial ≠ sMemgb := by decide
    have h4 : sSpecial ≠ sVmemGb := by decide
    have h5 : sSpecial ≠ sVmemgb := by decide
    simp [toksSpecial, setSpecial, pResListR_entry, h1, h2, h3, h4, h5,
      Martian.Format.unquote_quoteString s (hs s rfl)]

theorem stepR_threads (rd : Tok → Option Int) (a : Option Bytes) (ht : ∀ t, a = some t → wfThreads t = true)
    (ts : List Tok) (acc : Res) : pResListR rd (toksThreads a ++ ts) acc = pResListR rd ts (setThreads a acc) := by
  cases a with
  | none => rfl
  | some t => simp [toksThreads, setThreads, pResListR_entry, readF32_threads t (ht t rfl)]

theorem stepR_volatile (rd : Tok → Option Int) (a : Option Bool) (ts : List Tok) (acc : Res) :
    pResListR rd (toksVolatile a ++ ts) acc = pResListR rd ts (setVolatile a acc) := by
  cases a with
  | none => rfl
  | some b =>
    have h1 : sVolatile ≠ sThreads := by decide
    have h2 : sVolatile ≠ sMemGb := by decide
    have h3 : sVolatile ≠ sMemgb := by decide
    have h4 : sVolatile ≠ sVmemGb := by decide
    have h5 : sVolatile ≠ sVmemgb := by decide
    have h6 : sVolatile ≠ sSpecial := by decide
    cases b <;> simp [toksVolatile, setVolatile, pResListR_entry, h1, h2, h3, h4, h5, h6]

theorem wfRes_parts {r : Res} (h : wfRes r = true) :
    (∀ mb, r.mem = some mb → mb.natAbs < 2 ^ 63) ∧ (∀ mb, r.vmem = some mb → mb.natAbs < 2 ^ 63) ∧
    (∀ s, r.special = some s → Martian.ShellQuote.validUtf8 s = true) ∧
    (∀ t, r.threads = some t → wfThreads t = true) := by
  obtain ⟨a, b, c, d, e⟩ := r
  simp only [wfRes, Bool.and_eq_true] at h
  obtain ⟨⟨⟨h1, h2⟩, h3⟩, h4⟩ := h
  refine ⟨?_, ?_, ?_, ?_⟩
  · intro mb hm; simp only at hm; subst hm
    exact gbRoundTrips_lt63 h1
  · intro mb hm; simp only at hm; subst hm
    exact gbRoundTrips_lt63 h2
  · intro s hs; simp only at hs; subst hs; simpa using h3
  · intro t ht; simp only at ht; subst ht; simpa using h4

/-- `rd` reads the printed `mem_gb` / `vmem_gb` of `r` back -/
def ReadsBack (rd : Tok → Option Int) (r : Res) : Prop :=
  (∀ mb, r.mem = some mb → rd (tokGB mb) = some mb) ∧ (∀ mb, r.vmem = some mb → rd (tokGB mb) = some mb)

theorem readsBack_exact {r : Res} (hw : wfRes r = true) : ReadsBack readGBTok r :=
  ⟨fun mb h => readGBTok_fmtGB mb ((wfRes_parts hw).1 mb h),
   fun mb h => readGBTok_fmtGB mb ((wfRes_parts hw).2.1 mb h)⟩

theorem pResListR_toks (rd : Tok → Option Int) (r : Res) (hw : wfRes r = true) (hrd : ReadsBack rd r)
    (rest : List Tok) : pResListR rd (toksResBody r ++ tRP :: rest) {} = some (r, rest) := by
  obtain ⟨_, _, h3, h4⟩ := wfRes_parts hw
  simp only [toksResBody, List.append_assoc]
  rw [stepR_mem rd _ hrd.1, stepR_special rd _ h3, stepR_threads rd _ h4, stepR_vmem rd _ hrd.2,
    stepR_volatile, pResListR_end]
  obtain ⟨a, b, c, d, e⟩ := r
  cases a <;> cases b <;> cases c <;> cases d <;> cases e <;> rfl

theorem pResList_toks (r : Res) (hw : wfRes r = true) (rest : List Tok) :
    pResList (toksResBody r ++ tRP :: rest) {} = some (r, rest) := by
  rw [← pResListR_exact]
  exact pResListR_toks _ r hw (readsBack_exact hw) rest

theorem pResList_end (rest : List Tok) (acc : Res) : pResList (tRP :: rest) acc = some (acc, rest) := by
  rw [← pResListR_exact, pResListR_end]

theorem step_mem (mb : Int) (hb : mb.natAbs < 2 ^ 63) (ts : List Tok) (acc : Res) :
    pResList (toksMem (some mb) ++ ts) acc = pResList ts { acc with mem := some mb } := by
  simp only [← pResListR_exact]
  exact stepR_mem _ _ (fun _ h => by cases h; exact readGBTok_fmtGB mb hb) ts acc

theorem step_vmem (mb : Int) (hb : mb.natAbs < 2 ^ 63) (ts : List Tok) (acc : Res) :
    pResList (toksVmem (some mb) ++ ts) acc = pResList ts { acc with vmem := some mb } := by
  simp only [← pResListR_exact]
  exact stepR_vmem _ _ (fun _ h => by cases h; exact readGBTok_fmtGB mb hb) ts acc

theorem step_special (s : Bytes) (hs : Martian.ShellQuote.validUtf8 s = true) (ts : List Tok)
    (acc : Res) :
    pResList (toksSpecial (some s) ++ ts) acc = pResList ts { acc with special := some s } := by
  simp only [← pResListR_exact]
  exact stepR_special _ _ (fun _ h => by cases h; exact hs) ts acc

theorem step_threads (t : Bytes) (ht : wfThreads t = true) (ts : List Tok) (acc : Res) :
    pResList (toksThreads (some t) ++ ts) acc = pResList ts { acc with threads := some t } := by
  simp only [← pResListR_exact]
  exact stepR_threads _ _ (fun _ h => by cases h; exact ht) ts acc

theorem step_volatile (b : Bool) (ts : List Tok) (acc : Res) :
    pResList (toksVolatile (some b) ++ ts) acc = pResList ts { acc with volatile := some b } := by
  simp only [← pResListR_exact]
  exact stepR_volatile _ _ ts acc

theorem pResourcesR_toks (rd : Tok → Option Int) (r : Res) (hw : wfRes r = true) (hrd : ReadsBack rd r)
    (rest : List Tok) :
    pResourcesR rd (.id sUsing :: tLP :: (toksResBody r ++ tRP :: rest)) = some (some r, rest) := by
  simp [pResourcesR, tLP, pResListR_toks rd r hw hrd rest]

theorem pResources_toks (r : Res) (hw : wfRes r = true) (rest : List Tok) :
    pResources (.id sUsing :: tLP :: (toksResBody r ++ tRP :: rest)) = some (some r, rest) := by
  rw [← pResourcesR_exact]
  exact pResourcesR_toks _ r hw (readsBack_exact hw) rest

/-- the list does not begin with the identifier `w` -/
def NotId (w : Bytes) : List Tok → Prop
  | .id x :: _ => x ≠ w
  | _ => True

/-- no `using` clause: nothing is consumed -/
theorem pResourcesR_none (rd : Tok → Option Int) (ts : List Tok) (h : NotId sUsing ts) :
    pResourcesR rd ts = some (none, ts) := by
  cases ts with
  | nil => rfl
  | cons t r =>
    cases t <;> try rfl
    rename_i w
    simp only [NotId] at h
    simp [pResourcesR, h]

theorem pResources_none (ts : List Tok) (h : NotId sUsing ts) : pResources ts = some (none, ts) := by
  rw [← pResourcesR_exact, pResourcesR_none _ ts h]

theorem pRetainList_toks : ∀ (ids : List Bytes) (rest : List Tok),
    pRetainList (toksRetainBody ids ++ tRP :: rest) = some (ids, rest)
  | [], rest => by simp [toksRetainBody, pRetainList]
  | x :: ids, rest => by
    simp [toksRetainBody, pRetainList, pRetainList_toks ids rest]

theorem pRetain_toks (ids : List Bytes) (rest : List Tok) :
    pRetain (.id sRetain :: tLP :: (toksRetainBody ids ++ tRP :: rest)) = some (some ids, rest) := by
  simp [pRetain, pRetainList_toks ids rest]

theorem pRetain_none (ts : List Tok) (h : NotId sRetain ts) : pRetain ts = some (none, ts) := by
  unfold pRetain
  split
  · rename_i w r
    simp only [NotId] at h
    simp [h]
  · rfl

theorem uSp2_sp (c : UInt8) : uSp2 c 0x20 = false := by simp [uSp2]
theorem uSp3_sp1 (c y : UInt8) : uSp3 c 0x20 y = false := by simp [uSp3]
theorem uSp3_sp2 (c x : UInt8) : uSp3 c x 0x20 = false := by
  have h : ((0x80 : UInt8) ≤ 0x20) = False := by decide
  simp [uSp3, h]

/-- the separator (or the end) after a field never completes a white-space rune -/
theorem uSpaceLen_sep (c : UInt8) (f t : Bytes) :
    uSpaceLen (c :: (f ++ 0x20 :: t)) = uSpaceLen (c :: f) := by
  match f with
  | [] =>
    cases t with
    | nil => simp [uSpaceLen, uSp2_sp]
    | cons y t => simp [uSpaceLen, uSp2_sp, uSp3_sp1]
  | [x] => simp [uSpaceLen, uSp3_sp2]
  | x :: y :: r => simp [uSpaceLen]

theorem flush_ne (cur : Bytes) (rest : List Bytes) (h : cur ≠ []) :
    flush cur rest = cur.reverse :: rest := by
  simp [flush, h]

/-- a field is taken whole -/
theorem fieldsUAux_field : ∀ (f : Bytes) (cur : Bytes) (t : Bytes),
    f.all (fun c => !isSpaceAscii c) = true → hasUSpace f = false → (t = [] ∨ ∃ t', t = 0x20 :: t') →
    fieldsUAux (f ++ t) 0 cur = fieldsUAux t 0 (f.reverse ++ cur)
  | [], cur, t, _, _, _ => by simp
  | c :: f, cur, t, h1, h2, ht => by
    simp only [List.all_cons, Bool.and_eq_true, Bool.not_eq_true'] at h1
    simp only [hasUSpace, Bool.or_eq_false_iff, bne_eq_false_iff_eq] at h2
    have hu : uSpaceLen (c :: (f ++ t)) = 0 := by
      rcases ht with rfl | ⟨t', rfl⟩
      · rw [List.append_nil]; exact h2.1
      · rw [uSpaceLen_sep]; exact h2.1
    have ih := fieldsUAux_field f (c :: cur) t h1.2 h2.2 ht
    rw [List.cons_append, fieldsUAux]
    simp only [h1.1, Bool.false_eq_true, ↓reduceIte, hu, bne_self_eq_false, ih,
      List.reverse_cons, List.append_assoc, List.cons_append, List.nil_append]

theorem wfField_parts {f : Bytes} (h : wfField f = true) :
    f ≠ [] ∧ f.all (fun c => !isSpaceAscii c) = true ∧ hasUSpace f = false := by
  simp only [wfField, Bool.and_eq_true, bne_iff_ne, ne_eq, Bool.not_eq_true'] at h
  exact ⟨h.1.1, h.1.2, h.2⟩

/-- **`strings.Fields` inverts `strings.Join(·, " ")`** on fields without white space -/
theorem fieldsU_joinSp : ∀ (f : Bytes) (fs : List Bytes), wfField f = true → fs.all wfField = true →
    fieldsU (joinSp (f :: fs)) = f :: fs
  | f, [], hf, _ => by
    obtain ⟨h0, h1, h2⟩ := wfField_parts hf
    have := fieldsUAux_field f [] [] h1 h2 (Or.inl rfl)
    simp only [List.append_nil] at this
    simp only [fieldsU, joinSp, this, fieldsUAux]
    rw [flush_ne _ _ (by simpa using h0)]
    simp
  | f, g :: gs, hf, hfs => by
    obtain ⟨h0, h1, h2⟩ := wfField_parts hf
    simp only [List.all_cons, Bool.and_eq_true] at hfs
    have ih := fieldsU_joinSp g gs hfs.1 hfs.2
    have := fieldsUAux_field f [] (0x20 :: joinSp (g :: gs)) h1 h2 (Or.inr ⟨_, rfl⟩)
    simp only [List.append_nil] at this
    have hsp : isSpaceAscii 0x20 = true := by decide
    simp only [fieldsU, joinSp, this]
    rw [fieldsUAux]
    · simp only [hsp, ↓reduceIte]
      rw [flush_ne _ _ (by simpa using h0)]
      simp only [List.reverse_reverse]
      exact congrArg _ ih
    all_goals simp

theorem readLang_langTok (l : Lang) : readLang (langTok l) = some l := by
  cases l <;> decide

theorem readCmd_quote (path : Bytes) (args : List Bytes) (hw : wfSrc path args = true) :
    readCmd (quoteString (joinSp (path :: args))) = some (path, args) := by
  simp only [wfSrc, Bool.and_eq_true] at hw
  simp only [readCmd, Martian.Format.unquote_quoteString _ hw.2,
    fieldsU_joinSp path args hw.1.1 hw.1.2]

theorem pSrc_toks (lang : Lang) (path : Bytes) (args : List Bytes) (hw : wfSrc path args = true)
    (rest : List Tok) :
    pSrc (toksSrc lang path args ++ rest) = some ((lang, path, args), rest) := by
  simp [toksSrc, pSrc, readLang_langTok, readCmd_quote path args hw]

theorem pTailR_toks (rd : Tok → Option Int) (res : Option Res) (ret : Option (List Bytes))
    (hw : (match res with | some r => wfRes r | none => true) = true)
    (hrd : ∀ r, res = some r → ReadsBack rd r) (rest : List Tok)
    (h1 : NotId sUsing rest) (h2 : NotId sRetain rest) :
    pTailR rd (toksTail res ret ++ rest) = some ((res, ret), rest) := by
  have hru : sRetain ≠ sUsing := by decide
  cases res with
  | none =>
    cases ret with
    | none =>
      simp only [toksTail, List.nil_append, List.cons_append, pTailR, tRP]
      rw [pResourcesR_none rd rest h1]
      simp only
      rw [pRetain_none rest h2]
    | some ids =>
      simp only [toksTail, List.nil_append, toksRetain, List.cons_append, List.append_assoc, pTailR, tRP]
      rw [pResourcesR_none rd _ (by simp only [NotId]; exact hru)]
      simp only
      rw [pRetain_toks ids rest]
  | some r =>
    simp only at hw
    have hr := hrd r rfl
    cases ret with
    | none =>
      simp only [toksTail, toksRes, List.append_nil, List.cons_append, List.append_assoc, pTailR,
        List.nil_append, tRP]
      rw [pResourcesR_toks rd r hw hr rest]
      simp only
      rw [pRetain_none rest h2]
    | some ids =>
      simp only [toksTail, toksRes, toksRetain, List.cons_append, List.append_assoc, pTailR,
        List.nil_append, tRP]
      rw [pResourcesR_toks rd r hw hr]
      simp only
      rw [pRetain_toks ids rest]

theorem pTail_toks (res : Option Res) (ret : Option (List Bytes))
    (hw : (match res with | some r => wfRes r | none => true) = true) (rest : List Tok)
    (h1 : NotId sUsing rest) (h2 : NotId sRetain rest) :
    pTail (toksTail res ret ++ rest) = some ((res, ret), rest) := by
  rw [← pTailR_exact]
  refine pTailR_toks _ res ret hw (fun r hr => ?_) rest h1 h2
  subst hr
  exact readsBack_exact hw

theorem pStage0_toks (s : Stage0) (hw : wfStage0 s = true) : pStage0 (toksStage0 s) = some s := by
  obtain ⟨id, lang, path, args, res, ret⟩ := s
  simp only [wfStage0, Bool.and_eq_true] at hw
  have h := pTail_toks res ret hw.1.2 [] trivial trivial
  rw [List.append_nil] at h
  simp only [toksStage0, pStage0, ↓reduceIte, pSrc_toks lang path args hw.1.1.2, h]

end Martian.FormatRes
