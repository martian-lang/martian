import Proofs.VdrExact
import Proofs.ListFacts

/-! Completeness of the reclamation at completion: with `filePostNodes` and `fileArgs`
consistent (`BK`), once every consumer is done the only holders left are `none` (top level /
retain), and everything the final pass leaves is referenced by one of those arguments (`RInv.fin`).  Of the cache this
needs only that every entry below the files/ directories has a cache entry describing it
(`Covered`), for ANY shape of the disk; the alignment of `XInv` is needed for the accounting only.  `VInv`; `VR.own` / `VR.run` (the run theorem for `RInv` with `VInv`); `joint_run`. -/
namespace Martian.Vdr

theorem lookup_filterMap {β : Type} {l : List (String × β)} {g : String × β → Option (String × β)}
    (hg : ∀ p q, g p = some q → q.1 = p.1) {n : String} {v v' : β}
    (h : l.lookup n = some v) (hn : g (n, v) = some (n, v')) :
    (l.filterMap g).lookup n = some v' := by
  induction l with
  | nil => simp [List.lookup] at h
  | cons x r ih =>
    obtain ⟨k, w⟩ := x
    simp only [List.lookup] at h
    split at h
    · rename_i hk
      have hk' : n = k := by simpa using hk
      subst hk'
      cases h
      simp [List.filterMap, hn]
    · rename_i hk
      simp only [List.filterMap]
      cases hgx : g (k, w) with
      | none => exact ih h
      | some q =>
        have hq := hg _ _ hgx
        obtain ⟨qk, qv⟩ := q
        simp only at hq
        subst hq
        simp only [List.lookup, hk]
        exact ih h

structure BK (s : St) : Prop where
  /-- a node holding an argument is a post node that lists the argument -/
  cons : ∀ a hs, (a, hs) ∈ s.fileArgs → ∀ n, some n ∈ hs → ∃ as, s.postNodes.lookup n = some as ∧ a ∈ as
  /-- no argument without holders is kept -/
  ne : ∀ a hs, (a, hs) ∈ s.fileArgs → hs ≠ []

theorem removeFileArg_bk (s : St) (b : Arg) (k : BK s) : BK (removeFileArg s b) := by
  unfold removeFileArg
  split
  · exact k
  · rename_i hsb _
    constructor
    · intro a hs hm n hn
      have hm' := List.mem_filter.mp hm
      obtain ⟨as, hl, ha⟩ := k.cons a hs hm'.1 n hn
      -- the post node keeps `a`: only `b` is taken from its list
      have ha' : a ∈ as.filter (· != b) := List.mem_filter.mpr ⟨ha, hm'.2⟩
      refine ⟨if hsb.contains (some n) then as.filter (· != b) else as, lookup_filterMap ?_ hl ?_, ?_⟩
      · intro p q hg
        split at hg
        · dsimp only at hg
          split at hg
          · cases hg
          · cases hg; rfl
        · cases hg; rfl
      · by_cases hc : hsb.contains (some n) = true
        · have hne : (as.filter (· != b)).isEmpty = false := List.isEmpty_eq_false_iff_exists_mem.mpr ⟨a, ha'⟩
          simp only [hc, if_true, hne]
          rfl
        · simp only [hc]
          rfl
      · split
        · exact ha'
        · exact ha
    · intro a hs hm
      exact k.ne a hs (List.mem_filter.mp hm).1

theorem removePostNode_bk (s : St) (n : Node) (k : BK s) : BK (removePostNode s n) := by
  unfold removePostNode
  split
  · exact k
  · rename_i asn hln
    constructor
    · intro a hs' hm m hmm
      simp only [List.mem_filterMap] at hm
      obtain ⟨p, hp, hg⟩ := hm
      obtain ⟨pa, phs⟩ := p
      have key : ∀ (hs : List Holder), (a, hs) ∈ s.fileArgs → some m ∈ hs → m ≠ n →
          ∃ as, (s.postNodes.filter (fun p => p.1 != n)).lookup m = some as ∧ a ∈ as := by
        intro hs hmem hin hne
        obtain ⟨as, hl, ha⟩ := k.cons a hs hmem m hin
        exact ⟨as, by rw [Proofs.ListFacts.lookup_filter_ne hne]; exact hl, ha⟩
      split at hg
      · rename_i hc
        split at hg
        · cases hg
        · cases hg
          have hmf := List.mem_filter.mp hmm
          have hne : m ≠ n := by
            intro e; subst e; simp at hmf
          exact key phs hp hmf.1 hne
      · rename_i hc
        cases hg
        have hne : m ≠ n := by
          intro e
          subst e
          obtain ⟨as, hl, ha⟩ := k.cons a hs' hp m hmm
          rw [hln] at hl
          cases hl
          apply hc
          simpa using ha
        exact key hs' hp hmm hne
    · intro a hs' hm
      simp only [List.mem_filterMap] at hm
      obtain ⟨p, hp, hg⟩ := hm
      split at hg
      · split at hg
        · cases hg
        · rename_i hne
          cases hg
          intro e
          rw [e] at hne
          simp at hne
      · cases hg
        exact k.ne _ _ hp

theorem dropArgs_bk (cond : Arg → Bool) (l : List Arg) {s : St} (k : BK s) : BK (dropArgs cond l s) :=
  dropArgs_inv (fun s a _ k => removeFileArg_bk s a k) l k

theorem dropDone_bk {s : St} (k : BK s) : BK (dropDone s) :=
  List.foldlRecOn (motive := BK) _ _ k fun s k n _ => removePostNode_bk s n k

theorem cacheMap_bk (c : Cfg) (s : St) (k : BK s) : BK (cacheMap c s) :=
  have k2 := prune_inv (fun s a k => removeFileArg_bk s a k) c (cacheEntries c s) k
  ⟨k2.cons, k2.ne⟩

structure RInv (c : Cfg) (s0 s : St) : Prop where
  bk : BK s
  sh : Sh s0 s
  snd : ∀ es, s.cache = some es → ∀ e ∈ es, ∀ a ∈ e.args, refsN c a e.names = true
  fin : s.final = true → ∀ d ∈ s.disk, isTmp d.kind = false →
    ∃ a, Holds s0 a none ∧ refsN c a (d.path :: d.alts) = true

def Covered (es : List Entry) (disk : List DiskEnt) : Prop :=
  ∀ d ∈ disk, isTmp d.kind = false → ∃ e ∈ es, Rel e d

def VInv (s : St) : Prop := s.final = false → ∀ es, s.cache = some es → Covered es s.disk

theorem RInv.frame {c : Cfg} {s0 s s' : St} (r : RInv c s0 s) (f : Frame s s') (h : Sh s s') (k : BK s') :
    RInv c s0 s' := by
  refine ⟨k, r.sh.trans h, ?_, ?_⟩
  · intro es he; exact r.snd es (f.cache ▸ he)
  · intro hf d hd; exact r.fin (f.final ▸ hf) d (f.disk ▸ hd)

theorem VInv.frame {s s' : St} (v : VInv s) (f : Frame s s') : VInv s' := by
  intro hf es he
  rw [f.disk]
  exact v (f.final ▸ hf) es (f.cache ▸ he)

theorem XInv.vinv {s0 s : St} (x : XInv s0 s) : VInv s :=
  fun hf es he d hd ht => forall2_mem_right (x.al hf es he).1 d (List.mem_filter.mpr ⟨hd, by simp [ht]⟩)

theorem RInv.nodeDone {c : Cfg} {s0 s : St} (r : RInv c s0 s) (n : Node) :
    RInv c s0 { s with doneNodes := n :: s.doneNodes } :=
  ⟨⟨r.bk.cons, r.bk.ne⟩, ⟨r.sh.holds, r.sh.keys⟩, r.snd, r.fin⟩

theorem RInv.restart {c : Cfg} {s0 s : St} (ok : CfgOK c s0) (bk0 : BK s0) (r : RInv c s0 s) :
    RInv c s0 { s with fileArgs := c.initArgs, postNodes := c.initPost, cache := none } := by
  refine ⟨⟨?_, ?_⟩, ⟨?_, ?_⟩, (fun es he => nomatch he), r.fin⟩
  · show ∀ a hs, (a, hs) ∈ c.initArgs → ∀ n, some n ∈ hs → ∃ as, c.initPost.lookup n = some as ∧ a ∈ as
    rw [ok.init.1, ok.init.2]; exact bk0.cons
  · show ∀ a hs, (a, hs) ∈ c.initArgs → hs ≠ []
    rw [ok.init.1]; exact bk0.ne
  · rintro a h ⟨hs, hm, hin⟩
    exact ⟨hs, by rw [← ok.init.1]; exact hm, hin⟩
  · intro p hp
    exact ⟨p, by rw [← ok.init.2]; exact hp, rfl⟩

theorem RInv.cleanPhase {c : Cfg} {s0 s : St} (r : RInv c s0 s) (hf : s.final = false) (ph : Nat) :
    RInv c s0 (cleanPhase c s ph) := by
  obtain ⟨fa, pn, ca, fi, _⟩ := cleanPhase_fields c s ph
  refine ⟨⟨?_, ?_⟩, ⟨?_, ?_⟩, ?_, ?_⟩
  · intro a hs hm; rw [fa] at hm; rw [pn]; exact r.bk.cons a hs hm
  · intro a hs hm; rw [fa] at hm; exact r.bk.ne a hs hm
  · rintro a h ⟨hs, hm, hh⟩; rw [fa] at hm; exact r.sh.holds a h ⟨hs, hm, hh⟩
  · intro p hp; rw [pn] at hp; exact r.sh.keys p hp
  · intro es he; rw [ca] at he; exact r.snd es he
  · intro h; rw [fi, hf] at h; cases h

theorem VInv.cleanPhase {c : Cfg} {s : St} (v : VInv s) (ph : Nat) : VInv (cleanPhase c s ph) := by
  unfold Martian.Vdr.cleanPhase
  split
  · exact v
  · intro hf es he d hd ht
    exact v hf es he d (List.mem_filter.mp hd).1 ht

theorem cacheEntries_sound (c : Cfg) (s : St) : ∀ e ∈ cacheEntries c s, ∀ a ∈ e.args, refsN c a e.names = true := by
  intro e he a ha
  unfold cacheEntries at he
  simp only [List.mem_map, List.mem_filter] at he
  obtain ⟨d, _, rfl⟩ := he
  exact (List.mem_filter.mp ha).2

theorem RInv.cacheMap {c : Cfg} {s0 s : St} (r : RInv c s0 s) : RInv c s0 (cacheMap c s) := by
  refine ⟨cacheMap_bk c s r.bk, r.sh.trans (cacheMap_sh c s), ?_, ?_⟩
  · intro es he
    cases (show some (cacheEntries c s) = some es from he)
    exact cacheEntries_sound c s
  · intro hf d hd
    exact r.fin ((cacheMap_frame c s).final ▸ hf) d ((cacheMap_frame c s).disk ▸ hd)

theorem VInv.cacheMap {c : Cfg} {s : St} : VInv (cacheMap c s) := by
  intro _ es he d hd ht
  cases (show some (cacheEntries c s) = some es from he)
  have hdf : d ∈ s.disk.filter (fun d => !isTmp d.kind) :=
    List.mem_filter.mpr ⟨(cacheMap_frame c s).disk ▸ hd, by simp [ht]⟩
  exact forall2_mem_right (cacheEntries_aligned c s) d hdf

theorem RInv.updateCache {c : Cfg} {s0 s : St} (r : RInv c s0 s) {es : List Entry} (he : s.cache = some es) :
    RInv c s0 { s with cache := some (updateCache s es) } := by
  refine ⟨⟨r.bk.cons, r.bk.ne⟩, ⟨r.sh.holds, r.sh.keys⟩, ?_, r.fin⟩
  intro es' he' e hm a ha
  cases (show some (Martian.Vdr.updateCache s es) = some es' from he')
  unfold Martian.Vdr.updateCache at hm
  simp only [List.mem_map] at hm
  obtain ⟨e0, h0, rfl⟩ := hm
  exact r.snd es he e0 h0 a (List.mem_filter.mp ha).1

theorem VInv.updateCache {s : St} (v : VInv s) {es : List Entry} (he : s.cache = some es) :
    VInv { s with cache := some (updateCache s es) } := by
  intro hf es' he' d hd ht
  cases (show some (Martian.Vdr.updateCache s es) = some es' from he')
  obtain ⟨e, hm, rel⟩ := v hf es he d hd ht
  exact ⟨{ e with args := e.args.filter (fun a => s.dom.contains a) }, List.mem_map.mpr ⟨e, hm, rfl⟩, rel⟩

theorem RInv.killCore {c : Cfg} {s0 s : St} (r : RInv c s0 s) {es : List Entry} (hf : s.final = false)
    (he : s.cache = some es) : RInv c s0 (killCore s es) := by
  refine ⟨⟨r.bk.cons, r.bk.ne⟩, ⟨r.sh.holds, r.sh.keys⟩, ?_, ?_⟩
  · intro es' he' e hm a ha
    cases (show some (es.filter (fun e => !e.args.isEmpty)) = some es' from he')
    exact r.snd es he e (List.mem_filter.mp hm).1 a ha
  · intro h
    rw [show (Martian.Vdr.killCore s es).final = s.final from rfl, hf] at h
    cases h

/-- an entry that survives `killCore` has a surviving cache entry: its own would otherwise have been a kill path -/
theorem VInv.killCore {s : St} (v : VInv s) {es : List Entry} (he : s.cache = some es) : VInv (killCore s es) := by
  intro hf es' he' d hd ht
  cases (show some (es.filter (fun e => !e.args.isEmpty)) = some es' from he')
  have hd' := killCore_disk hd
  obtain ⟨e, hm, rel⟩ := v hf es he d hd'.1 ht
  refine ⟨e, List.mem_filter.mpr ⟨hm, ?_⟩, rel⟩
  cases hx : e.args.isEmpty with
  | false => rfl
  | true =>
    rw [killed_iff.mpr ⟨e, hm, hx, rel.1 ▸ pathIsInside_self _⟩] at hd'
    cases hd'.2

/-- the fork may be declared final: with no post node left, the argument that keeps a covered entry alive is
held by `none` — a consumer holding it would be a post node (`BK`) -/
theorem RInv.setFinal {c : Cfg} {s0 s : St} (v : VInv s) (r : RInv c s0 s) {es : List Entry} (hf : s.final = false)
    (he : s.cache = some es) (nc : ∀ e ∈ es, ∀ a ∈ e.args, InDom s a) (hne : ∀ e ∈ es, e.args.isEmpty = false)
    (hc : es = [] ∨ s.postNodes = []) : RInv c s0 { s with final := true } := by
  refine ⟨⟨r.bk.cons, r.bk.ne⟩, ⟨r.sh.holds, r.sh.keys⟩, r.snd, ?_⟩
  intro _ d hd ht
  obtain ⟨e, hm, rel⟩ := v hf es he d hd ht
  rcases hc with rfl | hpn
  · cases hm
  · obtain ⟨a, ha⟩ := List.isEmpty_eq_false_iff_exists_mem.mp (hne e hm)
    obtain ⟨hs, hmem⟩ := nc e hm a ha
    refine ⟨a, r.sh.holds a none ?_, rel.2.2.2 ▸ r.snd es he e hm a ha⟩
    cases hhs : hs with
    | nil => exact absurd hhs (r.bk.ne a hs hmem)
    | cons h t =>
      cases h with
      | none => exact ⟨hs, hmem, by rw [hhs]; exact List.mem_cons_self⟩
      | some n =>
        obtain ⟨as, hl, _⟩ := r.bk.cons a hs hmem n (by rw [hhs]; exact List.mem_cons_self)
        rw [hpn] at hl
        cases hl

theorem VR.vdrKillSome {c : Cfg} {s0 s : St} (v : VInv s) (r : RInv c s0 s) (hf : s.final = false) (done : Bool)
    (hd : done = true → s.postNodes.isEmpty = true) :
    VInv (vdrKillSome c s done) ∧ RInv c s0 (vdrKillSome c s done) := by
  refine vdrKillSome_induct
    (P := fun s' => (s'.final = false ∧ (done = true → s'.postNodes = [])) ∧ VInv s' ∧ RInv c s0 s')
    ?_ ?_ (fun _ h => h.2) ?_ ⟨⟨hf, fun h => List.isEmpty_iff.mp (hd h)⟩, v, r⟩
  · rintro s' ⟨⟨hf', hd'⟩, v', r'⟩
    refine ⟨⟨(normCache_frame c s').final.trans hf', fun h => (normCache_sh c s').postNodes_nil (hd' h)⟩, ?_⟩
    unfold normCache
    split
    · exact ⟨VInv.cacheMap, r'.cacheMap⟩
    · rename_i es he; exact ⟨v'.updateCache he, r'.updateCache he⟩
  · rintro s' es he _ ⟨⟨hf', hd'⟩, v', r'⟩
    exact ⟨⟨hf', hd'⟩, v'.killCore he, r'.killCore hf' he⟩
  · rintro s' es he nc hne hc ⟨⟨hf', hd'⟩, v', r'⟩
    refine ⟨nofun, r'.setFinal v' hf' he nc hne ?_⟩
    rcases hc with h | h | h
    · exact Or.inl h
    · exact Or.inr (hd' h)
    · exact Or.inr h

theorem VR.vdrKill {c : Cfg} {s0 s : St} (hv : c.volatile = true) (v : VInv s) (r : RInv c s0 s)
    (hp : s.postNodes.isEmpty = true) : VInv (vdrKill c s) ∧ RInv c s0 (vdrKill c s) := by
  rw [vdrKill_eq, if_pos hv]
  split
  · exact ⟨v, r⟩
  · rename_i hf
    exact VR.vdrKillSome v r (by simpa using hf) true (fun _ => hp)

theorem VR.own {c : Cfg} {s0 s s' : St} (hv : c.volatile = true) (o : Own c s s') (v : VInv s) (r : RInv c s0 s) :
    VInv s' ∧ RInv c s0 s' := by
  cases o with
  | removeEmpty =>
    have f := removeEmpty_frame c s
    exact ⟨v.frame f, r.frame f (dropArgs_sh _ _ s) (dropArgs_bk _ _ r.bk)⟩
  | cacheMap => exact ⟨VInv.cacheMap, r.cacheMap⟩
  | cleanPhase ph hf => exact ⟨v.cleanPhase ph, r.cleanPhase hf ph⟩
  | dropDone _ => exact ⟨v.frame (dropDone_frame s), r.frame (dropDone_frame s) (removePostNodes_sh _ s) (dropDone_bk r.bk)⟩
  | vdrKillSome done hf _ _ hd => exact VR.vdrKillSome v r hf done (fun h => List.isEmpty_iff.mpr (hd h))
  | vdrKill _ _ _ hp => exact VR.vdrKill hv v r (List.isEmpty_iff.mpr hp)

theorem VR.kill {c : Cfg} {s0 s : St} (hv : c.volatile = true) (v : VInv s) (r : RInv c s0 s) :
    VInv (kill c s) ∧ RInv c s0 (kill c s) :=
  kill_induct (P := fun s' => VInv s' ∧ RInv c s0 s') (fun _ _ o h => VR.own hv o h.1 h.2) ⟨v, r⟩

theorem VR.run {c : Cfg} {s0 s : St} (ok : CfgOK c s0) (hv : c.volatile = true) (bk0 : BK s0)
    (v : VInv s) (r : RInv c s0 s) (evs : List Ev) : VInv (run c s evs) ∧ RInv c s0 (run c s evs) :=
  run_induct (P := fun s' => VInv s' ∧ RInv c s0 s') (fun _ n h => ⟨h.1, h.2.nodeDone n⟩)
    (fun _ h => ⟨(fun _ _ he => nomatch he), h.2.restart ok bk0⟩) (fun _ _ o h => VR.own hv o h.1 h.2) ⟨v, r⟩ evs

theorem VInv.init (s0 : St) (fr : Fresh s0) : VInv s0 := by
  intro _ es he
  rw [fr.cache] at he
  cases he

theorem RInv.init (c : Cfg) (s0 : St) (fr : Fresh s0) (k : BK s0) (hf : s0.final = false) : RInv c s0 s0 := by
  refine ⟨k, Sh.refl s0, ?_, ?_⟩
  · intro es he; rw [fr.cache] at he; cases he
  · intro h; rw [hf] at h; cases h

theorem RInv.vdrKillSome {c : Cfg} {s0 s : St} (ok : CfgOK c s0) (wf : DiskWF s0.disk) (x : XInv s0 s)
    (r : RInv c s0 s) (hf : s.final = false) (done : Bool) (hd : done = true → s.postNodes.isEmpty = true) :
    RInv c s0 (vdrKillSome c s done) :=
  (VR.vdrKillSome x.vinv r hf done hd).2

theorem RInv.vdrKill {c : Cfg} {s0 s : St} (ok : CfgOK c s0) (wf : DiskWF s0.disk) (hv : c.volatile = true)
    (x : XInv s0 s) (r : RInv c s0 s) (hp : s.postNodes.isEmpty = true) : RInv c s0 (vdrKill c s) :=
  (VR.vdrKill hv x.vinv r hp).2

theorem joint_run {c : Cfg} {s0 s : St} (ok : CfgOK c s0) (wf : DiskWF s0.disk) (hv : c.volatile = true)
    (bk0 : BK s0) (x : XInv s0 s) (r : RInv c s0 s) (evs : List Ev) :
    XInv s0 (run c s evs) ∧ RInv c s0 (run c s evs) :=
  ⟨x.run ok wf evs, (VR.run ok hv bk0 x.vinv r evs).2⟩

end Martian.Vdr
