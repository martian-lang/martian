/-
C19 — renameInput leaves the resolved call graph unchanged modulo the renamed
input key (instance of the simulation principle of Proofs/RefactorGraph.lean).
-/
import Proofs.RefactorGraphLemmas

namespace Proofs.RefactorGraph
open Martian.Refactor

theorem pipeOKIn_parts {x b : String} {c : Callable} (h : pipeOKIn x b c = true) :
    Base c
    ∧ (c.name = x →
        (∀ k ∈ c.calls, k.decId ≠ x ∧ ∀ bd ∈ k.binds, ∀ r ∈ refs bd.exp, selfRefTo b r = false)
        ∧ (∀ bd ∈ c.ret, ∀ r ∈ refs bd.exp, selfRefTo b r = false)
        ∧ (∀ r ∈ c.retain, selfRefTo b r = false))
    ∧ (∀ k ∈ c.calls, k.decId = x → b ∉ k.binds.map (·.name) ∧ (k.binds.map (·.name)).Nodup) := by
  simp only [pipeOKIn, Bool.and_eq_true, Bool.or_eq_true, List.all_eq_true, decide_eq_true_eq,
    bne_iff_ne, ne_eq, List.isEmpty_iff, List.contains_eq_mem,
    decide_eq_false_iff_not, Bool.not_eq_eq_eq_not, Bool.not_true] at h
  obtain ⟨⟨⟨⟨⟨h1, h2⟩, h3⟩, h4⟩, h5⟩, h6⟩ := h
  exact ⟨⟨h1, h2, h3, h4⟩,
    fun hn => have h := h5.resolve_left (not_not_intro hn); ⟨h.1.1, h.1.2, h.2⟩,
    fun k hk hd => (h6 k hk).resolve_left (not_not_intro hd)⟩

section RenIn
variable (x a b : String)

def GIn (pipe : Callable) : Call → Call :=
  if pipe.name = x then Call.mapRefs (renRefId RefKind.self a b) else renameCallParam x a b

def SIn (name : String) (env : Env) : Env := if name = x then renKeyEnv a b env else env

def IIn (c : Callable) (self : Env) : Prop := c.name = x → b ∉ self.map (·.1)

theorem renameInputIn_fields (c : Callable) :
    (renameInputIn x a b c).name = c.name ∧ (renameInputIn x a b c).isPipe = c.isPipe
    ∧ (renameInputIn x a b c).outs = c.outs ∧ (renameInputIn x a b c).ret.isEmpty = c.ret.isEmpty
    ∧ (renameInputIn x a b c).calls.length = c.calls.length := by
  unfold renameInputIn; split <;> split <;> simp

theorem renameInputIn_name (c : Callable) : (renameInputIn x a b c).name = c.name :=
  (renameInputIn_fields x a b c).1

theorem lookupRef_renIn (self : Env) (sib : String → RExp) (r : Ref)
    (hb : b ∉ self.map (·.1)) (hr : selfRefTo b r = false) :
    lookupRef (renKeyEnv a b self) sib (renRefId RefKind.self a b r) = lookupRef self sib r := by
  unfold renRefId lookupRef
  split
  · rename_i h
    simp only [h.1]
    rw [envGet_renKey_new a b self hb, h.2]
  · rename_i h
    cases hk : r.kind with
    | call => rfl
    | self =>
      simp only
      have hna : r.id ≠ a := fun e => h ⟨hk, e⟩
      have hnb : r.id ≠ b := by
        intro e
        simp [selfRefTo, hk, e] at hr
      rw [envGet_renKey_other a b r.id self hna hnb]

theorem GIn_ids (pipe : Callable) (k : Call) :
    (GIn x a b pipe k).id = k.id ∧ (GIn x a b pipe k).decId = k.decId := by
  unfold GIn
  split
  · exact ⟨rfl, rfl⟩
  · unfold renameCallParam
    split <;> exact ⟨rfl, rfl⟩

theorem renameInputIn_calls (c : Callable) (h : c.isPipe = true ∨ c.calls = []) :
    (renameInputIn x a b c).calls = c.calls.map (GIn x a b c) := by
  unfold renameInputIn GIn
  by_cases hp : c.isPipe = true
  · by_cases hn : c.name = x
    · rw [if_pos hn, if_pos hn, if_pos hp]
    · rw [if_neg hn, if_neg hn, if_pos hp]
  · simp only [if_neg hp]
    split <;> rw [h.resolve_left hp] <;> rfl

theorem renameInputIn_ret (c : Callable) (hp : c.isPipe = true) :
    (renameInputIn x a b c).ret
      = if c.name = x then c.ret.map (Bind.mapRefs (renRefId RefKind.self a b)) else c.ret := by
  unfold renameInputIn
  by_cases hn : c.name = x
  · rw [if_pos hn, if_pos hn, if_pos hp]
  · rw [if_neg hn, if_neg hn, if_pos hp]

theorem renameInputIn_retain (c : Callable) (hp : c.isPipe = true) :
    (renameInputIn x a b c).retain = if c.name = x then c.retain.map (renRefId RefKind.self a b) else c.retain := by
  unfold renameInputIn
  by_cases hn : c.name = x
  · rw [if_pos hn, if_pos hn, if_pos hp]
  · rw [if_neg hn, if_neg hn, if_pos hp]

theorem insOf_renameInput (ti : TypeInfo) (n : String) :
    insOf (ti.renameInput x a b) n = if n = x then renKeyM a b (insOf ti x) else insOf ti n :=
  getD_lookup_onKey x n (renKeyM a b) rfl ti.ins

theorem resolveBinds_renIn (ti : TypeInfo) (tys : Members) (self : Env) (sib : String → RExp) (bs : List Bind)
    (hb : b ∉ self.map (·.1)) (hr : ∀ bd ∈ bs, ∀ r ∈ refs bd.exp, selfRefTo b r = false) :
    resolveBinds ti tys (lookupRef (renKeyEnv a b self) sib) (bs.map (Bind.mapRefs (renRefId RefKind.self a b)))
      = resolveBinds ti tys (lookupRef self sib) bs := by
  rw [resolveBinds_mapRefs]
  exact resolveBinds_congr _ _ _ _ _ fun bd hbd r hr' => lookupRef_renIn a b self sib r hb (hr bd hbd r hr')

variable {x a b}

theorem callIns_renIn (ti : TypeInfo) (hstar : b ≠ "*") (htys : b ∉ (insOf ti x).map (·.1))
    {pipe d : Callable} {k : Call} (hg : pipeOKIn x b pipe = true) (hk : k ∈ pipe.calls)
    (hd : d.name = k.decId) {self : Env} (hi : IIn x b pipe self) (sib : String → RExp) :
    callIns (ti.renameInput x a b) (renameInputIn x a b pipe) (SIn x a b pipe.name self) sib
        (renameInputIn x a b d) (GIn x a b pipe k)
      = SIn x a b d.name (callIns ti pipe self sib d k) := by
  have hparts := pipeOKIn_parts hg
  have hns := hparts.1.binds k hk
  rw [callIns_noStar _ _ _ _ _ _ hns, callIns, renameInputIn_name, resolveBinds_ti ti (ti.renameInput x a b) rfl, insOf_renameInput]
  unfold GIn SIn
  by_cases hn : pipe.name = x
  · -- inside `x`: self references renamed, the callee is not `x`
    have hx5 := hparts.2.1 hn
    have hdx : d.name ≠ x := hd ▸ (hx5.1 k hk).1
    rw [if_pos hn, if_pos hn, if_neg hdx, if_neg hdx]
    exact (congrArg _ (expandWild_noStar _ _ _ _ (noStar_mapRefs _ _ hns))).trans
      (resolveBinds_renIn a b ti _ self sib _ (hi hn) (hx5.1 k hk).2)
  · rw [if_neg hn, if_neg hn]
    unfold renameCallParam
    by_cases hdx : k.decId = x
    · -- a call of `x`: the binding named `a` becomes `b`
      have h6 := hparts.2.2 k hk hdx
      have hdn : d.name = x := hd.trans hdx
      rw [if_pos hdn, if_pos hdn, if_pos hdx, hdn]
      exact (congrArg _ (expandWild_noStar _ _ _ _ (noStar_renameFirst a b hstar _ hns))).trans
        (resolveBinds_renameFirst ti a b _ _ _ htys h6.1 h6.2)
    · have hdn : d.name ≠ x := hd ▸ hdx
      rw [if_neg hdn, if_neg hdn, if_neg hdx, expandWild_noStar _ _ _ _ hns]

theorem pipeOuts_renIn (ti : TypeInfo) {d : Callable} (hg : pipeOKIn x b d = true) (hp : d.isPipe = true)
    {ins : Env} (hi : IIn x b d ins) (sib : String → RExp) :
    pipeOuts (ti.renameInput x a b) (renameInputIn x a b d) (SIn x a b d.name ins) sib
      = pipeOuts ti d ins sib := by
  have hparts := pipeOKIn_parts hg
  have hns := hparts.1.ret
  rw [pipeOuts_noStar _ _ _ _ hns, pipeOuts, renameInputIn_name, resolveBinds_ti ti (ti.renameInput x a b) rfl,
    renameInputIn_ret x a b d hp]
  unfold SIn
  by_cases hn : d.name = x
  · rw [if_pos hn, if_pos hn, expandWild_noStar _ _ _ _ (noStar_mapRefs _ _ hns)]
    exact congrArg (fun e => RExp.map true (envEntries e))
      (resolveBinds_renIn a b ti _ ins sib _ (hi hn) (hparts.2.1 hn).2.1)
  · rw [if_neg hn, if_neg hn, expandWild_noStar _ _ _ _ hns]
    rfl

theorem pipeRetained_renIn {d : Callable} (hg : pipeOKIn x b d = true) (hp : d.isPipe = true)
    {ins : Env} (hi : IIn x b d ins) (sib : String → RExp) :
    pipeRetained (renameInputIn x a b d) (SIn x a b d.name ins) sib = pipeRetained d ins sib := by
  unfold pipeRetained SIn
  rw [renameInputIn_retain x a b d hp]
  by_cases hn : d.name = x
  · simp only [if_pos hn, List.flatMap_map]
    exact flatMap_congr' fun r hr =>
      congrArg rrefs (lookupRef_renIn a b ins sib r (hi hn) (((pipeOKIn_parts hg).2.1 hn).2.2 r hr))
  · simp only [if_neg hn]

end RenIn

theorem rename_input_graph (x a b : String) (ti : TypeInfo) (p : Program)
    (hok : RenInOK x a b ti p = true) :
    deepGraph (ti.renameInput x a b) (renameInput x a b p)
      = (deepGraph ti p).map (renNodeIn x a b) := by
  simp only [RenInOK, Bool.and_eq_true, bne_iff_ne, ne_eq, List.all_eq_true, Bool.not_eq_true',
    List.contains_eq_mem, decide_eq_false_iff_not] at hok
  obtain ⟨⟨⟨⟨⟨⟨hx, hstar⟩, _⟩, hfx⟩, hall⟩, htopok⟩, htys⟩ := hok
  have hp' : renameInput x a b p
      = { callables := p.callables.map (renameInputIn x a b), top := p.top.map (renameCallParam x a b) } := by
    unfold renameInput
    cases h : p.find? x with
    | none => simp [h] at hfx
    | some _ => rfl
  have hpc : (renameInput x a b p).callables = p.callables.map (renameInputIn x a b) := by rw [hp']
  have H : SimHyp ti (ti.renameInput x a b) p (renameInput x a b p) id (renameInputIn x a b) (GIn x a b)
      (SIn x a b) (fun _ _ v => v) id (fun c => pipeOKIn x b c = true) (IIn x b) (fun _ _ => True) (fun _ => True)
      (fun _ _ => true) :=
    { hfind1 := fun n d hd => ⟨find_map_some _ (renameInputIn_name x a b) hpc hd, hall d (find_mem p n d hd)⟩
      hfind0 := fun n _ hd => find_map_none _ (renameInputIn_name x a b) hpc hd
      hrel := fun _ _ _ _ => trivial
      hF := fun c _ =>
        have hf := renameInputIn_fields x a b c
        ⟨hf.2.1, hf.1, congrArg _ hf.2.2.1, hf.2.2.2.1⟩
      hcalls := fun pipe hg => by
        rw [renameInputIn_calls x a b pipe (pipeOKIn_parts hg).1.body, filter_true']
      hGid := fun pipe k => (GIn_ids x a b pipe k).1
      hGdec := fun pipe _ k _ => (GIn_ids x a b pipe k).2
      hfirst := fun pipe hg => (pipeOKIn_parts hg).1.first
      hO0 := fun _ _ => rfl
      hOs := fun _ _ _ _ => rfl
      o0 := fun _ => trivial
      o0s := fun _ _ _ => trivial
      -- a call of `x` never binds `b`
      o1 := fun pipe self sib k d id hg _ _ hk hd hdn => by
        have hkm := (call_mem pipe id k hk).1
        have hparts := pipeOKIn_parts hg
        rw [callIns_noStar _ _ _ _ _ _ (hparts.1.binds k hkm), resolveBinds_keys]
        exact (hparts.2.2 k hkm ((find_name p _ d hd).symm.trans hdn)).1
      o2 := fun _ _ _ _ _ _ _ => trivial
      c5 := fun pipe self sib sib' k d id hg hi _ hag _ hk hd => by
        obtain rfl : sib' = sib := sibAgree_true hag
        exact callIns_renIn ti hstar htys hg (call_mem pipe id k hk).1 (find_name p _ d hd) hi sib'
      c6 := fun d ins sib sib' hg hp hi _ hag => by
        obtain rfl : sib' = sib := sibAgree_true hag
        exact pipeOuts_renIn ti hg hp hi sib'
      c7 := fun d ins sib sib' hg hp hi _ hag => by
        obtain rfl : sib' = sib := sibAgree_true hag
        rw [List.map_id]
        exact pipeRetained_renIn hg hp hi sib' }
  have hmap : nodeMap id (SIn x a b) (fun _ _ v => v) id = renNodeIn x a b := by
    funext n
    simp only [nodeMap, renNodeIn, SIn, id, List.map_id]
    split <;> rfl
  rw [← deepGraphKeep_true ti p, ← hmap]
  apply sim_graph H
  · intro t ht
    have htop := by simpa [ht] using htopok
    refine ⟨?_, ?_, htop, ?_, rfl⟩
    · rw [hp']; simp [ht, GIn, topPipe, Ne.symm hx]
    · simp [GIn, topPipe, Ne.symm hx, renameInputIn, renameCallParam]
    · exact fun h => absurd h.symm hx
  · intro ht; rw [hp']; simp [ht]
  · simp [SIn, Ne.symm hx]
  · exact graphFuel_map _ hpc fun c _ => (renameInputIn_fields x a b c).2.2.2.2

end Proofs.RefactorGraph
