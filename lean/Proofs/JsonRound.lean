/-
Numerals as Go reads them (Martian/Json.lean, `Num.round64` …): on a literal
that IS a float64 value (`Num.exact64`) the decision of the code (`goInt?`,
made on the rounded value) is the decision of exact decimal arithmetic
(`intValue?`).
-/
import Martian.Json
namespace Martian.Json.Num

/-- `± M` -/
def sgn (neg : Bool) (M : Nat) : Int := if neg then -(M : Int) else (M : Int)

theorem pow_pos2 (j : Nat) : (0 : Int) < 2 ^ j := Int.pow_pos (by decide)
theorem pow_pos10 (j : Nat) : (0 : Int) < 10 ^ j := Int.pow_pos (by decide)

theorem cancel_iff (x i m P T : Int) (hP : 0 < P) (hT : 0 < T) (hx : x * T = m * P) :
    (x = i * P ↔ m = i * T) := by
  constructor
  · intro h; subst h
    have : (i * T) * P = m * P := by rw [← hx]; ac_rfl
    exact (Int.eq_of_mul_eq_mul_right (Int.ne_of_gt hP) this).symm
  · intro h; subst h
    have : x * T = (i * P) * T := by rw [hx]; ac_rfl
    exact Int.eq_of_mul_eq_mul_right (Int.ne_of_gt hT) this

theorem int?_pos (neg : Bool) (M : Nat) (s : Int) (hs : 0 ≤ s) :
    (F64.fin neg M s).int? = some (sgn neg M * 2 ^ s.toNat) := by
  cases neg <;> simp [F64.int?, hs, sgn, Int.natCast_mul, Int.natCast_pow, Int.neg_mul]

theorem int?_neg_div (neg : Bool) (M : Nat) (s : Int) (hs : ¬ 0 ≤ s) (hm : M % 2 ^ (-s).toNat = 0) :
    (F64.fin neg M s).int? = some (sgn neg (M / 2 ^ (-s).toNat)) := by
  cases neg <;> simp [F64.int?, hs, hm, sgn]

theorem int?_neg_none (neg : Bool) (M : Nat) (s : Int) (hs : ¬ 0 ≤ s) (hm : ¬ M % 2 ^ (-s).toNat = 0) :
    (F64.fin neg M s).int? = none := by
  simp [F64.int?, hs, hm]

theorem sgn_mul (neg : Bool) (a b : Nat) : sgn neg (a * b) = sgn neg a * (b : Int) := by
  cases neg <;> simp [sgn, Int.natCast_mul, Int.neg_mul]

theorem int?_iff (neg : Bool) (M : Nat) (s : Int) (i : Int) :
    (F64.fin neg M s).int? = some i ↔
      (if 0 ≤ s then i = sgn neg M * 2 ^ s.toNat else sgn neg M = i * 2 ^ (-s).toNat) := by
  by_cases hs : 0 ≤ s
  · rw [int?_pos neg M s hs]; simp only [hs, ↓reduceIte, Option.some.injEq]; exact eq_comm
  · simp only [hs, ↓reduceIte]
    have hPi : (0 : Int) < 2 ^ (-s).toNat := pow_pos2 _
    by_cases hm : M % 2 ^ (-s).toNat = 0
    · rw [int?_neg_div neg M s hs hm, Option.some.injEq]
      have hM : M = M / 2 ^ (-s).toNat * 2 ^ (-s).toNat :=
        (Nat.div_mul_cancel (Nat.dvd_of_mod_eq_zero hm)).symm
      have hS : sgn neg M = sgn neg (M / 2 ^ (-s).toNat) * 2 ^ (-s).toNat := by
        conv => lhs; rw [hM]
        rw [sgn_mul]; simp [Int.natCast_pow]
      constructor
      · intro h; rw [← h]; exact hS
      · intro h
        rw [hS] at h
        exact Int.eq_of_mul_eq_mul_right (Int.ne_of_gt hPi) h
    · rw [int?_neg_none neg M s hs hm]
      constructor
      · intro h; cases h
      · intro h
        exfalso; apply hm
        have := congrArg Int.natAbs h
        have habs : (sgn neg M).natAbs = M := by cases neg <;> simp [sgn]
        rw [habs, Int.natAbs_mul, Int.natAbs_pow] at this
        rw [this]; exact Nat.mul_mod_left _ _
theorem intValue?_iff (m e i : Int) :
    (Num.flt m e).intValue? = some i ↔
      (if 0 ≤ e then i = m * 10 ^ e.toNat else m = i * 10 ^ (-e).toNat) := by
  unfold intValue?
  by_cases he : 0 ≤ e
  · simp [he, eq_comm]
  · simp only [he, ↓reduceIte]
    generalize (-e).toNat = k
    have hT : (0 : Int) < 10 ^ k := pow_pos10 k
    constructor
    · intro h
      split at h
      · rename_i hm
        simp only [Option.some.injEq] at h
        rw [← h]
        exact (Int.ediv_mul_cancel (Int.dvd_of_emod_eq_zero hm)).symm
      · cases h
    · intro h
      have hm : m % 10 ^ k = 0 := by rw [h]; exact Int.mul_emod_left _ _
      simp only [hm, ↓reduceIte, Option.some.injEq]
      rw [h]; exact Int.mul_ediv_cancel _ (Int.ne_of_gt hT)

/-- On a float-syntax literal that is exactly a float64 value, the integer the
code tests (rounded value) is the integer the literal is (exact decimal). -/
theorem int?_eq_intValue?_of_exact (m e : Int) (h : exact64 (.flt m e) = true) :
    (toF64 (.flt m e)).int? = (Num.flt m e).intValue? := by
  unfold exact64 at h
  cases hf : toF64 (.flt m e) with
  | inf => simp [hf] at h
  | fin neg M s =>
    simp only [hf] at h
    apply Option.ext
    intro i
    rw [int?_iff, intValue?_iff]
    have hsg : (if neg = true then -(M : Int) else (M : Int)) = sgn neg M := rfl
    rw [hsg] at h
    by_cases hs : 0 ≤ s <;> by_cases he : 0 ≤ e <;> simp only [hs, he, ↓reduceIte, beq_iff_eq] at h ⊢
    · -- σ·P = m·T
      rw [h]
    · -- σ·P·T = m
      have hT := pow_pos10 (-e).toNat
      constructor
      · intro hi; rw [hi]; exact h.symm
      · intro hm
        rw [hm] at h
        exact (Int.eq_of_mul_eq_mul_right (Int.ne_of_gt hT) h).symm
    · -- σ = m·P·T   (stored as  σ = (m·P)·T)
      have hP := pow_pos2 (-s).toNat
      constructor
      · intro hi
        rw [hi] at h
        have : i * 2 ^ (-s).toNat = (m * 10 ^ e.toNat) * 2 ^ (-s).toNat := by rw [h]; ac_rfl
        exact Int.eq_of_mul_eq_mul_right (Int.ne_of_gt hP) this
      · intro hi; rw [h, hi]; ac_rfl
    · -- σ·T = m·P
      exact cancel_iff _ i m _ _ (pow_pos2 _) (pow_pos10 _) h

theorem int?_of_exact_int (v : Int) (h : exact64 (.int v) = true) : (toF64 (.int v)).int? = some v := by
  unfold exact64 at h
  cases hf : toF64 (.int v) with
  | inf => simp [hf] at h
  | fin neg M s =>
    simp only [hf] at h
    rw [int?_iff]
    have hsg : (if neg = true then -(M : Int) else (M : Int)) = sgn neg M := rfl
    by_cases hs : 0 ≤ s
    · simp only [hs, ↓reduceIte, beq_iff_eq] at h ⊢
      rw [← h]
      cases neg <;> simp [sgn, Int.natCast_mul, Int.natCast_pow, Int.neg_mul]
    · simp only [hs, ↓reduceIte, beq_iff_eq] at h ⊢
      rw [hsg] at h; exact h

theorem goInt?_of_exact_flt (m e : Int) (h : exact64 (.flt m e) = true) :
    goInt? (.flt m e) = match (Num.flt m e).intValue? with
      | some i => if inInt64 i then some i else none
      | none => none := by
  unfold goInt?
  rw [int?_eq_intValue?_of_exact m e h]
  cases (Num.flt m e).intValue? with
  | none => rfl
  | some i =>
    simp only [inInt64, Bool.and_eq_true, decide_eq_true_eq]

theorem goInt?_of_exact_int (v : Int) (h : exact64 (.int v) = true) (hr : inInt64 v = false) :
    goInt? (.int v) = none := by
  unfold goInt?
  rw [int?_of_exact_int v h]
  simp only [inInt64, Bool.and_eq_false_iff, decide_eq_false_iff_not] at hr
  have : ¬ (minInt64 ≤ v ∧ v ≤ maxInt64) := by
    intro hh; rcases hr with hr | hr
    · exact hr hh.1
    · exact hr hh.2
  simp [this]

theorem finite64_of_exact (n : Num) (h : exact64 n = true) : finite64 n = true := by
  cases n with
  | int v =>
    unfold exact64 at h
    simp only [finite64, Bool.or_eq_true, bne_iff_ne, ne_eq]
    right
    intro hinf
    simp [toF64, hinf] at h
  | flt m e =>
    unfold exact64 at h
    simp only [finite64, bne_iff_ne, ne_eq]
    intro hinf
    simp [toF64, hinf] at h

end Martian.Json.Num
