/-
C01 — soundness of the decidable type check `wellTypedEB` (the fragment of `wellTypedTB` plus plain
calls with a run-time `disabled` control; every literal null or a scalar); and `zip_map_eraseInst`: den's
instances and their erasures pair up with the same keys and `≈` arguments.
-/
import Proofs.ResolverStaticTreeCheck
import Proofs.ResolverStaticDis
import Proofs.DataflowApprox
import Proofs.ResolverStaticMap

namespace Proofs.ResolverStatic
open Martian.Dataflow Martian.Resolver Martian.ResolverForks Martian.ResolverStatic Proofs.Dataflow

theorem callCleanB_sound (c : Call) (h : callCleanB c = true) : CallClean c := by
  simp only [callCleanB, Bool.and_eq_true, List.all_eq_true] at h
  refine ⟨h.1, ?_⟩
  intro d hd
  have := h.2
  simp only [hd] at this
  exact this

theorem disabledOkEB_sound (st : StructTable) (n : Nat) (P : Program) (sT cT : String → Ty) (c : Call)
    (h : disabledOkEB st n P sT cT c = true) : DisabledOkE st P sT cT c := by
  simp only [disabledOkEB, Bool.and_eq_true, List.all_eq_true, Bool.not_eq_true'] at h
  obtain ⟨⟨⟨hm, hd⟩, hns⟩, hty⟩ := h
  refine ⟨hm, ?_, hns, ?_⟩
  · cases hc : c.disabled with
    | none => simp [hc] at hd
    | some d =>
      obtain ⟨s, e⟩ := d
      cases s with
      | true => simp [hc] at hd
      | false =>
        simp only [hc] at hd
        exact ⟨e, rfl, hasTyB_sound st n sT cT e _ hd⟩
  · intro p hp b hb
    have := hty p hp
    simp only [hb] at this
    exact hasTyB_sound st n sT cT b.exp _ this

theorem callsOkEB_sound (st : StructTable) (n : Nat) (P : Program) (sT : String → Ty) :
    ∀ (cs : List Call) (L : List (String × Ty)), callsOkEB st n P sT L cs = true → CallsOkE st P sT L cs
  | [], _, _ => trivial
  | c :: cs, L, h => by
    simp only [callsOkEB, Bool.and_eq_true, callOkEB, callOkTB, Bool.or_eq_true, List.all_eq_true,
      Bool.not_eq_true'] at h
    refine ⟨⟨callCleanB_sound c h.1.1, ?_⟩, callsOkEB_sound st n P sT cs _ h.2⟩
    rcases h.1.2 with (h1 | h1) | h1
    · exact Or.inl ⟨callOkB_sound st n P.insOf sT _ c (by rw [← callTyOfB_eq]; exact h1.1), h1.2⟩
    · exact Or.inr (Or.inl (mappedOkTB_sound st n P sT _ c (by rw [← callTyOfB_eq]; exact h1)))
    · exact Or.inr (Or.inr (disabledOkEB_sound st n P sT _ c (by rw [← callTyOfB_eq]; exact h1)))

theorem wellTypedEB_sound (P : Program) (h : wellTypedEB P = true) : WellTypedE P := by
  simp only [wellTypedEB, Bool.and_eq_true, List.all_eq_true, beq_iff_eq, Bool.not_eq_true'] at h
  obtain ⟨⟨⟨⟨⟨h1, h2⟩, h3⟩, h4⟩, h5⟩, h6⟩ := h
  refine ⟨structsOkB_sound _ h1, ?_, ?_, ?_⟩
  · intro name c hl
    exact h2 (name, c) (mem_of_lookup _ _ _ hl)
  · intro name pins outs calls ret hl
    have := h3 (name, _) (mem_of_lookup _ _ _ hl)
    simp only [pipelineOkEB, Bool.and_eq_true, List.all_eq_true] at this
    refine ⟨callsOkEB_sound _ _ _ _ calls [] (by rw [← selfTyOfB_eq]; exact this.1), ?_⟩
    intro p hp e he
    have h7 := this.2 p hp
    simp only [he, Bool.and_eq_true] at h7
    exact ⟨h7.1, hasTyB_sound _ _ _ _ e p.ty h7.2⟩
  · exact ⟨callOkB_sound _ _ _ _ _ _ h4, h5, h6⟩

/-- the instances of the two sides pair up: same key, `≈` arguments -/
theorem zip_map_eraseInst (l : List Inst) :
    ∀ p ∈ l.zip (l.map eraseInst), p.2.key = p.1.key ∧ J.approx p.1.args p.2.args = true := by
  induction l with
  | nil => intro p hp; simp at hp
  | cons a l ih =>
    intro p hp
    simp only [List.map_cons, List.zip_cons_cons, List.mem_cons] at hp
    cases hp with
    | inl h => subst h; exact ⟨rfl, Proofs.Approx.approx_erase _⟩
    | inr h => exact ih p h

end Proofs.ResolverStatic
