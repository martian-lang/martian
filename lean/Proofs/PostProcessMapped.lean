/-
C13, top-level calls mapped over a typed map: the step from a fork key to its
directory under outs/ (`joinKey` = `path.Join(outsPath, key)`), when the
directories of a key set are usable side by side (`keysSeparable`), and
`dest_injective` across ALL forks of such a call (`leavesMap_pairwise`).  Then the
branch with the key check: `postMapChecked` keeps the keys, leaves the refused
entries alone and has the effect of `postMap` on the legal forks
(`postMapChecked_keys/_refused/_fs/_eq_of_legal`); the legal forks' keys are legal,
distinct and separable (`legalForks_*`), their leaves lie below `outs/<k>`
(`leavesMap_legal_under`).
-/
import Proofs.PostProcessContent

namespace Martian.PostProcess

theorem splitSlash_noslash (cs acc : List Char) (h : ∀ c ∈ cs, c ≠ '/') :
    splitSlash cs acc = [String.ofList (acc.reverse ++ cs)] := by
  induction cs generalizing acc with
  | nil => simp [splitSlash]
  | cons c cs ih =>
    have hc : c ≠ '/' := h c (by simp)
    simp only [splitSlash, hc, if_false]
    rw [ih (c :: acc) (fun x hx => h x (by simp [hx]))]
    simp

theorem legalName_spec {k : String} (h : legalName k = true) :
    k ≠ "" ∧ k ≠ "." ∧ k ≠ ".." ∧ ∀ c ∈ k.toList, c ≠ '/' := by
  simp only [legalName, Bool.and_eq_true, decide_eq_true_eq, List.all_eq_true, ne_eq] at h
  exact ⟨h.1.1.1.2, h.1.1.2, h.1.2, fun c hc => (h.2 c hc).1⟩

theorem joinKey_legal (outs : Path) (k : String) (h : legalName k = true) : joinKey outs k = outs ++ [k] := by
  obtain ⟨h0, h1, h2, hs⟩ := legalName_spec h
  have e : splitSlash k.toList [] = [k] := by
    rw [splitSlash_noslash k.toList [] hs]
    simp [String.ofList_toList]
  simp [joinKey, e, cleanComps, h0, h1, h2]

theorem incomp_under {a b d1 d2 : Path} (h : Incomp a b) (h1 : Under a d1) (h2 : Under b d2) : Incomp d1 d2 := by
  rw [incomp_iff] at h ⊢
  rw [under_iff_prefix] at h1 h2
  obtain ⟨x, y⟩ := unrelated_below h.1 h.2 h2
  obtain ⟨u, w⟩ := unrelated_below y x h1
  exact ⟨w, u⟩

theorem incompB_iff {a b : Path} : incompB a b = true ↔ Incomp a b := by
  simp [incompB, Incomp]

theorem keysSeparable_iff (outs : Path) (keys : List String) :
    keysSeparable outs keys = true ↔ KeysSeparable outs keys := by
  induction keys with
  | nil => simp [keysSeparable, KeysSeparable]
  | cons k ks ih =>
    simp only [keysSeparable, Bool.and_eq_true, List.all_eq_true, incompB_iff, ih, KeysSeparable,
      List.mem_cons, forall_eq_or_imp, List.pairwise_cons, isPrefix_iff, Under]
    constructor
    · rintro ⟨⟨a, b⟩, c, d⟩
      exact ⟨⟨a, c⟩, b, d⟩
    · rintro ⟨⟨a, c⟩, b, d⟩
      exact ⟨⟨a, b⟩, c, d⟩

theorem legal_keys_separable (outs : Path) (keys : List String) (hnd : keys.Nodup)
    (hl : ∀ k ∈ keys, legalName k = true) : keysSeparable outs keys = true := by
  rw [keysSeparable_iff]
  refine ⟨fun k hk => ?_, ?_⟩
  · rw [joinKey_legal outs k (hl k hk)]
    exact ⟨[k], rfl⟩
  · induction keys with
    | nil => exact List.Pairwise.nil
    | cons k ks ih =>
      have hc := List.nodup_cons.mp hnd
      refine List.pairwise_cons.mpr ⟨fun k' hk' => ?_, ih hc.2 (fun x hx => hl x (by simp [hx]))⟩
      rw [joinKey_legal outs k (hl k (by simp)), joinKey_legal outs k' (hl k' (by simp [hk']))]
      have hne : k ≠ k' := fun e => hc.1 (e ▸ hk')
      exact incomp_of_siblings hne (Under.refl _) (Under.refl _)

theorem leavesMap_eq_flatMap (params : List (String × String × Ty)) (outs : Path) (kvs : List (String × J)) :
    leavesMap params outs kvs = kvs.flatMap fun kv => leavesRec params (fieldsOf kv.2) (joinKey outs kv.1) := by
  induction kvs with
  | nil => rfl
  | cons kv r ih => simp [leavesMap, ih]

theorem mem_leavesMap {params : List (String × String × Ty)} {outs : Path} {kvs : List (String × J)} {l : Leaf}
    (h : l ∈ leavesMap params outs kvs) :
    ∃ k x, (k, x) ∈ kvs ∧ l ∈ leavesRec params (fieldsOf x) (joinKey outs k) := by
  rw [leavesMap_eq_flatMap, List.mem_flatMap] at h
  obtain ⟨⟨k, x⟩, hm, hl⟩ := h
  exact ⟨k, x, hm, hl⟩

theorem leaf_dest_under {o : Path} {l : Leaf} (h : Under o l.outs) : Under o l.dest := by
  obtain ⟨s, hs⟩ := h
  exact ⟨s ++ [l.name], by simp [Leaf.dest, hs]⟩

theorem leavesMap_pairwise (params : List (String × String × Ty)) (outs : Path) (kvs : List (String × J))
    (h : wfParams params = true) (hs : keysSeparable outs (kvs.map Prod.fst) = true) :
    (leavesMap params outs kvs).Pairwise LeafIncomp := by
  rw [keysSeparable_iff] at hs
  rw [leavesMap_eq_flatMap, List.pairwise_flatMap]
  refine ⟨fun kv _ => leavesRec_pairwise params _ _ h, (List.pairwise_map.mp hs.2).imp fun hinc l1 h1 l2 h2 => ?_⟩
  exact incomp_under hinc (leaf_dest_under (leavesRec_under params _ _ h l1 h1))
    (leaf_dest_under (leavesRec_under params _ _ h l2 h2))

theorem leavesMap_under (params : List (String × String × Ty)) (outs : Path) (kvs : List (String × J))
    (h : wfParams params = true) (hs : keysSeparable outs (kvs.map Prod.fst) = true) :
    ∀ l ∈ leavesMap params outs kvs, Under outs l.dest := by
  rw [keysSeparable_iff] at hs
  intro l hl
  obtain ⟨k, x, hm, hx⟩ := mem_leavesMap hl
  obtain ⟨s1, e1⟩ := hs.1 k (List.mem_map.mpr ⟨(k, x), hm, rfl⟩)
  obtain ⟨s2, e2⟩ := leaf_dest_under (leavesRec_under params _ _ h l hx)
  exact ⟨s1 ++ s2, by rw [e2, e1]; simp⟩

theorem postMap_run (ps : Path) (params : List (String × String × Ty)) (outs : Path) (kvs : List (String × J))
    (fs : FS) : (postMap true ps params outs kvs fs).2 = runForks ps params outs kvs fs := by
  induction kvs generalizing fs with
  | nil => rfl
  | cons kv r ih =>
    obtain ⟨k, x⟩ := kv
    simp only [postMap, runForks, processStructOuts_eq]
    rw [ih]
    rfl

theorem postMapChecked_fs (da : Bool) (ps : Path) (params : List (String × String × Ty)) (outs : Path)
    (kvs : List (String × J)) (fs : FS) :
    (postMapChecked da ps params outs kvs fs).2 = (postMap da ps params outs (legalForks kvs) fs).2 := by
  fun_induction postMapChecked da ps params outs kvs fs with
  | case1 => rfl
  | case2 k x xs fs hk r rs ih => simpa [legalForks, hk, postMap, joinKey_legal outs k hk] using ih
  | case3 k x xs fs hk rs ih => simpa [legalForks, hk] using ih

theorem postMapChecked_keys (da : Bool) (ps : Path) (params : List (String × String × Ty)) (outs : Path)
    (kvs : List (String × J)) (fs : FS) :
    (postMapChecked da ps params outs kvs fs).1.map Prod.fst = kvs.map Prod.fst := by
  fun_induction postMapChecked da ps params outs kvs fs with
  | case1 => rfl
  | case2 k x xs fs hk r rs ih => simpa using ih
  | case3 k x xs fs hk rs ih => simpa using ih

theorem postMapChecked_refused (da : Bool) (ps : Path) (params : List (String × String × Ty)) (outs : Path)
    (kvs : List (String × J)) (fs : FS) (kv : String × J) (hm : kv ∈ kvs) (hk : legalName kv.1 = false) :
    kv ∈ (postMapChecked da ps params outs kvs fs).1 := by
  fun_induction postMapChecked da ps params outs kvs fs with
  | case1 => cases hm
  | case2 k x xs fs hl r rs ih =>
    rcases List.mem_cons.mp hm with e | hm'
    · subst e; simp [hl] at hk
    · exact List.mem_cons_of_mem _ (ih hm')
  | case3 k x xs fs hl rs ih =>
    rcases List.mem_cons.mp hm with e | hm'
    · exact e ▸ List.mem_cons_self
    · exact List.mem_cons_of_mem _ (ih hm')

theorem postMapChecked_eq_of_legal (da : Bool) (ps : Path) (params : List (String × String × Ty)) (outs : Path)
    (kvs : List (String × J)) (fs : FS) (hl : ∀ kv ∈ kvs, legalName kv.1 = true) :
    postMapChecked da ps params outs kvs fs = postMap da ps params outs kvs fs := by
  fun_induction postMapChecked da ps params outs kvs fs with
  | case1 => rfl
  | case2 k x xs fs hk r rs ih =>
    simp only [postMap, joinKey_legal outs k hk]
    rw [← ih fun kv hm => hl kv (by simp [hm])]
  | case3 k x xs fs hk rs ih => exact absurd (hl (k, x) (by simp)) hk

theorem legalForks_keys_legal (kvs : List (String × J)) : ∀ k ∈ (legalForks kvs).map Prod.fst, legalName k = true := by
  intro k hk
  obtain ⟨kv, hm, rfl⟩ := List.mem_map.mp hk
  simpa using (List.mem_filter.mp hm).2

theorem legalForks_keys_nodup (kvs : List (String × J)) (h : (kvs.map Prod.fst).Nodup) :
    ((legalForks kvs).map Prod.fst).Nodup :=
  List.Nodup.sublist (List.Sublist.map _ List.filter_sublist) h

theorem legalForks_separable (top : Path) (kvs : List (String × J)) (hnd : (kvs.map Prod.fst).Nodup) :
    keysSeparable top ((legalForks kvs).map Prod.fst) = true :=
  legal_keys_separable top _ (legalForks_keys_nodup kvs hnd) (legalForks_keys_legal kvs)

theorem leavesMap_legal_under (params : List (String × String × Ty)) (outs : Path) (kvs : List (String × J))
    (h : wfParams params = true) :
    ∀ l ∈ leavesMap params outs (legalForks kvs), ∃ k, legalName k = true ∧ Under (outs ++ [k]) l.dest := by
  intro l hl
  obtain ⟨k, x, hm, hx⟩ := mem_leavesMap hl
  have hk : legalName k = true := legalForks_keys_legal kvs k (List.mem_map.mpr ⟨(k, x), hm, rfl⟩)
  rw [joinKey_legal outs k hk] at hx
  exact ⟨k, hk, leaf_dest_under (leavesRec_under params _ _ h l hx)⟩

end Martian.PostProcess
