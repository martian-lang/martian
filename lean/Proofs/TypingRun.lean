/-
Soundness of the compile-time binding checker against the run-time resolver AS
THE CODE DOES IT (Martian/TypingRun.lean: `pathVal`, `wholeRT`, `evalT`).
-/
import Martian.TypingRun
import Proofs.TypingPipeline

namespace Martian.Typing
open Martian.Json Martian.Types

theorem filter_ok_of_assignable (d s : Ty) (v : J) (hs : Shape s v) (ha : assignable d s = true)
    (hn : noHole d s = true) : (filter d v).2 = .ok :=
  filter_ok_of_valid d v (valid_of_shape d v (shape_of_assignable d s v hs ha hn))

theorem assignable_of_arr {t s : Ty} (h : assignable t (.arr s) = true) :
    ∃ t', t = .arr t' ∧ assignable t' s = true := by
  cases t with
  | arr t' => exact ⟨t', rfl, by simpa [assignable] using h⟩
  | _ => simp [assignable] at h

theorem assignable_of_tmap {t s : Ty} (h : assignable t (.tmap s) = true) :
    t = .base .map ∨ ∃ t', t = .tmap t' ∧ assignable t' s = true := by
  cases t with
  | base b => exact Or.inl (by simpa [assignable] using h)
  | tmap t' => exact Or.inr ⟨t', rfl, by simpa [assignable] using h⟩
  | _ => simp [assignable] at h

/-- the walk from a struct member on: the leaf filter when the path ends there -/
def pathM (pm : Option Ty → Option Ty) (dest : Option Ty) (t : Ty) (w : J) : List Bytes → Option J
  | [] => leafRT dest t w
  | k :: p => pathValG pm dest t w (k :: p)

theorem pathFG_eq (pm : Option Ty → Option Ty) (dest : Option Ty) : ∀ (fs : Fields) (k : Bytes) (w : J) (p : List Bytes),
    pathFG pm dest fs k w p =
      match fs.get k with
      | some t => pathM pm dest t w p
      | none => none
  | .nil, k, w, p => by simp [pathFG, Fields.get]
  | .cons k' t r, k, w, p => by
    by_cases h : k' = k
    · subst h
      cases p <;> simp [pathFG, Fields.get, pathM]
    · simp [pathFG, Fields.get, h, pathFG_eq pm dest r k w p]

theorem pathValG_struct {pm : Option Ty → Option Ty} {dest : Option Ty} {n : Bytes} {fs : Fields}
    {kvs : List (Bytes × J)} {k : Bytes} {p : List Bytes} {m : Ty} {w : J}
    (hg : fs.get k = some m) (hgk : getKey k kvs = some w) :
    pathValG pm dest (.struct n fs) (.obj kvs) (k :: p) = pathM pm dest m w p := by
  simp [pathValG, hgk, pathFG_eq, hg]

theorem pathM_none_ok (pm : Option Ty → Option Ty) (hpm : pm none = none) (src : Ty) (v : J)
    (p : List Bytes) (s : Ty) (hs : Shape src v) (h : fieldType src p = some s) :
    ∃ w, pathM pm none src v p = some w := by
  revert v
  refine fieldType_induct (P := fun src p _ => ∀ v, Shape src v → ∃ w, pathM pm none src v p = some w)
    ?_ ?_ ?_ ?_ src p s h
  · intro t v hs
    exact ⟨(filter t v).1, by simp [pathM, leafRT, filter_ok_of_valid t v (valid_of_shape t v hs)]⟩
  · intro e k p r ih v hs
    cases hs with
    | null => exact ⟨.null, by simp [pathM, pathValG]⟩
    | arr _ xs hx =>
      obtain ⟨ws, hws, _⟩ := allSome_all (fun x => pathValG pm none e x (k :: p)) (fun _ => True) xs
        (fun x hxm => (ih x (hx x hxm)).imp fun w hw => ⟨hw, trivial⟩)
      exact ⟨.arr ws, by simp [pathM, pathValG, peelArrD, hws]⟩
  · intro e k p r _ ih v hs
    cases hs with
    | null => exact ⟨.null, by simp [pathM, pathValG]⟩
    | tmap _ kvs h1 _ =>
      obtain ⟨ws, hws, _⟩ := allSome_keyed (fun x => pathValG pm none e x (k :: p))
        (fun _ _ => True) kvs (fun kv hkv => (ih kv.2 (h1 kv hkv)).imp fun w hw => ⟨hw, trivial⟩)
      exact ⟨.obj ws, by simp [pathM, pathValG, hpm, hws]⟩
  · intro n fs k p m r hg ih v hs
    cases hs with
    | null => exact ⟨.null, by simp [pathM, pathValG]⟩
    | struct _ _ kvs h1 h2 =>
      obtain ⟨w, hgk, hsw⟩ := Shape.member h1 h2 hg
      simp only [pathM, pathValG_struct hg hgk]
      exact ih w hsw

/-- `LazyArgumentMap.Path` is sound for the binding checker: a conforming value,
a path whose compile-time type `s` is assignable (outside the two C17 holes) to
the destination type `t` – the walk with the destination peeled in lock-step
succeeds and delivers a value of the destination type. -/
theorem pathM_sound (src : Ty) (v : J) (p : List Bytes) (s t : Ty) (hs : Shape src v)
    (h : fieldType src p = some s) (ht : t.wf = true) (ha : assignable t s = true)
    (hn : noHole t s = true) : ∃ w, pathM peelMapD (some t) src v p = some w ∧ Shape t w := by
  revert v t
  refine fieldType_induct (P := fun src p s => ∀ v t, Shape src v → t.wf = true →
    assignable t s = true → noHole t s = true →
      ∃ w, pathM peelMapD (some t) src v p = some w ∧ Shape t w) ?_ ?_ ?_ ?_ src p s h
  · intro mt v t hs ht ha hn
    exact ⟨_, by simp [pathM, leafRT, filter_ok_of_assignable t mt v hs ha hn],
      shape_filter_of_assignable t ht mt v hs ha hn⟩
  · intro e k p r ih v t hs ht ha hn
    obtain ⟨t', rfl, ha'⟩ := assignable_of_arr ha
    simp only [noHole] at hn
    simp only [Ty.wf] at ht
    cases hs with
    | null => exact ⟨.null, by simp [pathM, pathValG], Shape.null _⟩
    | arr _ xs hx =>
      obtain ⟨ws, hws, hall⟩ := allSome_all (fun x => pathValG peelMapD (some t') e x (k :: p))
        (Shape t') xs (fun x hxm => ih x t' (hx x hxm) ht ha' hn)
      exact ⟨.arr ws, by simp [pathM, pathValG, peelArrD, hws], Shape.arr _ _ hall⟩
  · intro e k p r hr ih v t hs ht ha hn
    rcases assignable_of_tmap ha with rfl | ⟨t', rfl, ha'⟩
    · -- the untyped `map`: the values below are taken as they are
      cases hs with
      | null => exact ⟨.null, by simp [pathM, pathValG], Shape.null _⟩
      | tmap _ kvs h1 _ =>
        obtain ⟨ws, hws, _⟩ := allSome_keyed
          (fun x => pathValG peelMapD none e x (k :: p)) (fun _ _ => True) kvs
          (fun kv hkv => (pathM_none_ok peelMapD rfl e kv.2 (k :: p) r (h1 kv hkv) hr).imp
            fun w hw => ⟨hw, trivial⟩)
        exact ⟨.obj ws, by simp [pathM, pathValG, peelMapD, hws], Shape.map _⟩
    · simp only [noHole, Bool.and_eq_true, Bool.or_eq_true, Bool.not_eq_true'] at hn
      simp only [Ty.wf] at ht
      cases hs with
      | null => exact ⟨.null, by simp [pathM, pathValG], Shape.null _⟩
      | tmap _ kvs h1 h2 =>
        -- legal keys: a directory-like destination asks for a directory-like source (`noHole`)
        have hkey : isDirMap t' = true → ∀ kv ∈ kvs, legalName kv.1 = true := fun hd =>
          h2 (isDirMap_of_fieldType e _ r hr (hn.1.resolve_left (by simp [hd])))
        obtain ⟨ws, hws, hall⟩ := allSome_keyed
          (fun x => pathValG peelMapD (some t') e x (k :: p))
          (fun k w => Shape t' w ∧ (isDirMap t' = true → legalName k = true)) kvs
          (fun kv hkv => (ih kv.2 t' (h1 kv hkv) ht ha' hn.2).imp fun w hw =>
            ⟨hw.1, hw.2, fun hd => hkey hd kv hkv⟩)
        exact ⟨.obj ws, by simp [pathM, pathValG, peelMapD, hws],
          Shape.tmap _ _ (fun w hw => (hall w hw).1) fun hd w hw => (hall w hw).2 hd⟩
  · intro n fs k p m r hg ih v t hs ht ha hn
    cases hs with
    | null => exact ⟨.null, by simp [pathM, pathValG], Shape.null _⟩
    | struct _ _ kvs h1 h2 =>
      obtain ⟨w, hgk, hsw⟩ := Shape.member h1 h2 hg
      simp only [pathM, pathValG_struct hg hgk]
      exact ih w t hsw ht ha hn

theorem refRT_sound (t s0 : Ty) (v : J) (p : List Bytes) (s : Ty) (ht : t.wf = true) (hs : Shape s0 v)
    (hf : fieldType s0 p = some s) (ha : assignable t s = true) (hn : noHole t s = true) :
    ∃ w, refRT t s0 v p = some w ∧ Shape t w := by
  cases p with
  | nil =>
    rw [fieldType_nil] at hf
    cases hf
    exact ⟨_, by simp [refRT, wholeRT, filter_ok_of_assignable t s0 v hs ha hn],
      shape_filter_of_assignable t ht s0 v hs ha hn⟩
  | cons k p => exact pathM_sound s0 v (k :: p) s t hs hf ht ha hn

/-- a reference whose compile-time type is assignable to `t` (whatever the
`(ArrayDim, MapDim)` pre-check says), in a conforming store: the run-time
resolution succeeds and delivers a valid value of `t` -/
theorem ref_sound_rt (Γ : Env) (ρ : Store) (hρ : StoreOk Γ ρ) (t : Ty) (hwf : t.wf = true) (e : Exp) (s : Ty)
    (hr : refType Γ e = some s) (ha : assignable t s = true) (hn : noHole t s = true) :
    ∃ v, evalT Γ ρ t e = some v ∧ valid t v = true := by
  obtain ⟨s0, v, p, hval, hf, _, hev⟩ := ref_root Γ ρ hρ e s hr
  obtain ⟨w, hw, hsw⟩ := refRT_sound t s0 v p s hwf (shape_of_valid s0 v hval) hf ha hn
  exact ⟨w, by rw [hev, hw], valid_of_shape _ _ hsw⟩

theorem evalLeaf_of_noRef (Γ : Env) (ρ : Store) (t : Ty) (e : Exp) (h : ∀ id p, e ≠ .self id p ∧ e ≠ .call id p) :
    evalLeaf Γ ρ t e = eval Γ ρ e := by
  cases e <;> simp [evalLeaf] <;> first | exact absurd rfl (h _ _).1 | exact absurd rfl (h _ _).2

theorem evalT_null (Γ : Env) (ρ : Store) (t : Ty) : evalT Γ ρ t .null = some .null := by
  cases t <;> simp [evalT, evalLeaf, eval]

theorem evalT_base_of_noRef (Γ : Env) (ρ : Store) (b : Base) (e : Exp) (h : e.hasRef = false) :
    evalT Γ ρ (.base b) e = eval Γ ρ e := by
  simp only [evalT]
  refine evalLeaf_of_noRef Γ ρ _ e fun id p => ⟨?_, ?_⟩ <;> rintro rfl <;> simp [Exp.hasRef] at h

/-- SOUNDNESS against the run time as the code does it: an accepted binding
expression, in a conforming store, is resolved without error (`evalT … = some v`)
to a value that validates cleanly against the parameter type.  (Hypothesis
`holeFree`: C17's `noHole` at every reference.) -/
theorem validExp_sound_rt (Γ : Env) (ρ : Store) (hρ : StoreOk Γ ρ) (t : Ty) (ht : t.wf = true)
    (e : Exp) (he : e.wf = true) (hv : validExp Γ t e = true) (hh : holeFree Γ t e = true) :
    ∃ v, evalT Γ ρ t e = some v ∧ valid t v = true := by
  refine validExp_induct Γ (H := True) (P := fun t e => ∃ v, evalT Γ ρ t e = some v ∧ valid t v = true)
    ?_ ?_ ?_ ?_ ?_ ?_ ?_ t e ht he hv fun _ => ⟨trivial, hh⟩
  · intro t; exact ⟨.null, evalT_null Γ ρ t, valid_null t⟩
  · intro t e s _ hwf hr ha hn; exact ref_sound_rt Γ ρ hρ t hwf e s hr ha hn
  · intro b e hw hr hv
    rw [evalT_base_of_noRef Γ ρ b e hr]
    exact validBase_literal Γ ρ b e hw hr hv
  · intro n s; exact ⟨_, rfl, by simp [valid, check]⟩
  · intro t xs ih
    obtain ⟨ws, hws, hall⟩ := allSome_all (evalT Γ ρ t) (fun w => valid t w = true) xs.toList ih
    exact ⟨.arr ws, by simp [evalT, hws], valid_arr_iff.mpr hall⟩
  · intro t kvs ih
    obtain ⟨ws, hws, hall⟩ := allSome_keyed (evalT Γ ρ t)
      (fun k w => valid t w = true ∧ (isDirMap t = true → legalName k = true)) kvs.toList
      (fun kv hkv => (ih kv hkv).2.imp fun w hw => ⟨hw.1, hw.2, (ih kv hkv).1⟩)
    exact ⟨.obj ws, by simp [evalT, hws], valid_tmap_iff.mpr hall⟩
  · intro n fs b kvs hwf _ _ ih
    obtain ⟨vs, hvs, hkeys, hvals⟩ := fields_members (F := fun fs => evalTF Γ ρ fs kvs)
      (H := fun k t => ∃ e, kvs.get k = some e ∧ ∃ v, evalT Γ ρ t e = some v ∧ valid t v = true)
      rfl (fun k t r vs ⟨e, he, v, hev, hval⟩ hvs => ⟨v, by simp [evalTF, he, hev, hvs], hval⟩) fs ih
    exact ⟨.obj vs, by simp [evalT, hvs], valid_struct_of_members hwf hkeys hvals⟩

theorem plain_sound_rt (Γ : Env) (ρ : Store) (hρ : StoreOk Γ ρ) (t : Ty) (ht : t.wf = true) (e : Exp)
    (he : e.wf = true) (hv : validBind Γ t (.plain e) = true)
    (hh : holeFree Γ t (bindExp Γ t e) = true) :
    ∃ v, evalT Γ ρ t (bindExp Γ t e) = some v ∧ valid t v = true := by
  rcases validBind_plain_cases hv with ⟨hb, hve⟩ | ⟨id, s, hb, hr, ha⟩
  · rw [hb] at hh ⊢
    exact validExp_sound_rt Γ ρ hρ t ht e he hve hh
  · rw [hb] at hh ⊢
    simp only [holeFree_call, refHoleFree, hr] at hh
    exact ref_sound_rt Γ ρ hρ t ht _ s hr ha hh

theorem elems_shape_tmap (t : Ty) (v : J) (h : valid (.tmap t) v = true) :
    ∃ xs, elems v = some xs ∧ ∀ x ∈ xs, valid t x = true := by
  obtain ⟨xs, hxs, hall⟩ := elems_of_shape (s := .tmap t) rfl (shape_of_valid _ _ h)
  exact ⟨xs, hxs, fun x hx => valid_of_shape _ _ (hall x hx)⟩

/-- `null`, or an object all of whose values have the shape of `t` -/
def ElemsOk (t : Ty) (w : J) : Prop := w = .null ∨ ∃ kvs, w = .obj kvs ∧ ∀ kv ∈ kvs, Shape t kv.2

theorem filter_tmap_elems (t s : Ty) (v : J) (ht : t.wf = true) (hs : Shape (.tmap s) v)
    (ha : assignable t s = true) (hn : noHole t s = true) :
    (filter (.tmap t) v).2 = .ok ∧ ElemsOk t (filter (.tmap t) v).1 := by
  cases hs with
  | null => rw [filter_null]; exact ⟨rfl, Or.inl rfl⟩
  | tmap _ kvs h1 _ =>
    by_cases hc : canFilter t = true
    · simp only [filter, hc, Bool.not_true, Bool.false_eq_true, if_false]
      refine ⟨?_, Or.inr ⟨_, rfl, ?_⟩⟩
      · apply worstF_eq_ok
        intro e he
        obtain ⟨kv, hkv, rfl⟩ := List.mem_map.mp he
        exact filter_ok_of_assignable t s kv.2 (h1 kv hkv) ha hn
      · intro y hy
        obtain ⟨kv, hkv, rfl⟩ := List.mem_map.mp hy
        exact shape_filter_of_assignable t ht s kv.2 (h1 kv hkv) ha hn
    · have hc' : canFilter t = false := by simpa using hc
      simp only [filter, hc', Bool.not_false, if_true]
      exact ⟨trivial, Or.inr ⟨kvs, rfl, fun kv hkv => shape_of_assignable t s kv.2 (h1 kv hkv) ha hn⟩⟩

/-- the walk to a typed map with the destination `map<t>`, under `noHole` between
the ELEMENT types only: the elements conform, the keys may be anything -/
theorem pathM_tmap_elems (src : Ty) (v : J) (p : List Bytes) (s t : Ty) (hs : Shape src v)
    (h : fieldType src p = some (.tmap s)) (ht : t.wf = true) (ha : assignable t s = true)
    (hn : noHole t s = true) :
    ∃ w, pathM peelMapD (some (.tmap t)) src v p = some w ∧ ElemsOk t w := by
  revert v
  refine fieldType_induct (P := fun src p r => r = .tmap s → ∀ v, Shape src v →
    ∃ w, pathM peelMapD (some (.tmap t)) src v p = some w ∧ ElemsOk t w) ?_ ?_ ?_ ?_ src p _ h rfl
  · rintro _ rfl v hs
    obtain ⟨hok, hel⟩ := filter_tmap_elems t s v ht hs ha hn
    exact ⟨_, by simp [pathM, leafRT, hok], hel⟩
  · intro e k p r _ hr; cases hr
  · intro e k p r hr _ hrs v hs
    cases hrs
    cases hs with
    | null => exact ⟨.null, by simp [pathM, pathValG], Or.inl rfl⟩
    | tmap _ kvs h1 _ =>
      obtain ⟨ws, hws, hall⟩ := allSome_keyed
        (fun x => pathValG peelMapD (some t) e x (k :: p)) (fun _ => Shape t) kvs
        (fun kv hkv => pathM_sound e kv.2 (k :: p) s t (h1 kv hkv) hr ht ha hn)
      exact ⟨.obj ws, by simp [pathM, pathValG, peelMapD, hws], Or.inr ⟨ws, rfl, hall⟩⟩
  · intro n fs k p m r hg ih hrs v hs
    cases hs with
    | null => exact ⟨.null, by simp [pathM, pathValG], Or.inl rfl⟩
    | struct _ _ kvs h1 h2 =>
      obtain ⟨w, hgk, hsw⟩ := Shape.member h1 h2 hg
      simp only [pathM, pathValG_struct hg hgk]
      exact ih hrs w hsw

theorem refRT_tmap_elems (t s0 : Ty) (v : J) (p : List Bytes) (s : Ty) (ht : t.wf = true) (hs : Shape s0 v)
    (hf : fieldType s0 p = some (.tmap s)) (ha : assignable t s = true) (hn : noHole t s = true) :
    ∃ w, refRT (.tmap t) s0 v p = some w ∧ ElemsOk t w := by
  cases p with
  | nil =>
    rw [fieldType_nil] at hf
    cases hf
    obtain ⟨hok, hel⟩ := filter_tmap_elems t s v ht hs ha hn
    exact ⟨_, by simp [refRT, wholeRT, hok], hel⟩
  | cons k p => exact pathM_tmap_elems s0 v (k :: p) s t hs hf ht ha hn

theorem elems_of_elemsOk (t : Ty) (w : J) (h : ElemsOk t w) :
    ∃ xs, elems w = some xs ∧ ∀ x ∈ xs, valid t x = true := by
  rcases h with rfl | ⟨kvs, rfl, hk⟩
  · exact ⟨[], rfl, by simp⟩
  · refine ⟨kvs.map Prod.snd, rfl, ?_⟩
    intro x hx
    obtain ⟨kv, hkv, rfl⟩ := List.mem_map.mp hx
    exact valid_of_shape _ _ (hk kv hkv)

theorem bindHoleFreeT_split_ref (Γ : Env) (t : Ty) (e : Exp) (he : ∃ id p, e = .self id p ∨ e = .call id p) :
    bindHoleFreeT Γ t (.split e) =
      match refType Γ e with
      | some (.arr s) => noHole t s
      | some (.tmap s) => noHole t s
      | _ => true := by
  obtain ⟨id, p, rfl | rfl⟩ := he <;> rfl

theorem deliveredT_split_ref (Γ : Env) (ρ : Store) (t : Ty) (e : Exp)
    (he : ∃ id p, e = .self id p ∨ e = .call id p) :
    deliveredT Γ ρ t (.split e) =
      match refType Γ e with
      | some (.arr _) => (evalT Γ ρ (.arr t) e).bind elems
      | some (.tmap _) => (evalT Γ ρ (.tmap t) e).bind elems
      | _ => none := by
  obtain ⟨id, p, rfl | rfl⟩ := he <;> rfl

theorem split_ref_sound_rt (Γ : Env) (ρ : Store) (hρ : StoreOk Γ ρ) (t : Ty) (ht : t.wf = true) (e : Exp)
    (he : ∃ id p, e = .self id p ∨ e = .call id p)
    (hv : validBind Γ t (.split e) = true) (hh : bindHoleFreeT Γ t (.split e) = true) :
    ∃ vs, deliveredT Γ ρ t (.split e) = some vs ∧ ∀ v ∈ vs, valid t v = true := by
  rw [validBind_split_ref Γ t e he] at hv
  rw [bindHoleFreeT_split_ref Γ t e he] at hh
  rw [deliveredT_split_ref Γ ρ t e he]
  cases hr : refType Γ e with
  | none => simp [hr] at hv
  | some s =>
    cases s with
    | arr s0 =>
      -- an array is resolved at the type `t[]`
      simp only [hr, peel] at hv hh ⊢
      obtain ⟨v, hev, hval⟩ := ref_sound_rt Γ ρ hρ (.arr t) (by simpa [Ty.wf] using ht) e (.arr s0)
        hr (by simpa [assignable] using hv) (by simpa [noHole] using hh)
      obtain ⟨xs, hxs, hall⟩ := elems_of_shape (s := .arr t) rfl (shape_of_valid _ _ hval)
      exact ⟨xs, by simp [hev, hxs], fun x hx => valid_of_shape _ _ (hall x hx)⟩
    | tmap s0 =>
      -- a typed map at `map<t>`, but its keys are not delivered
      simp only [hr, peel] at hv hh ⊢
      obtain ⟨sd, v, p, hval, hf, _, hev⟩ := ref_root Γ ρ hρ e _ hr
      obtain ⟨w, hw, hel⟩ := refRT_tmap_elems t sd v p s0 ht (shape_of_valid sd v hval) hf hv hh
      obtain ⟨xs, hxs, hall⟩ := elems_of_elemsOk t w hel
      exact ⟨xs, by simp [hev, hw, hxs], hall⟩
    | base b => simp [hr, peel] at hv
    | user n => simp [hr, peel] at hv
    | struct n fs => simp [hr, peel] at hv

theorem bind_sound_rt (Γ : Env) (ρ : Store) (hρ : StoreOk Γ ρ) (t : Ty) (ht : t.wf = true) (b : Bind)
    (hb : b.wf = true) (hv : validBind Γ t b = true) (hh : bindHoleFreeT Γ t b = true) :
    ∃ vs, deliveredT Γ ρ t b = some vs ∧ ∀ v ∈ vs, valid t v = true := by
  cases b with
  | plain e =>
    obtain ⟨v, hev, hval⟩ := plain_sound_rt Γ ρ hρ t ht e hb hv hh
    exact ⟨[v], by simp [deliveredT, hev], by simpa using hval⟩
  | split e =>
    cases e with
    | arr xs =>
      simp only [validBind, Bool.and_eq_true, List.all_eq_true] at hv
      simp only [bindHoleFreeT, List.all_eq_true] at hh
      simp only [Bind.wf, Exp.wf, Exps.wf_eq, List.all_eq_true] at hb
      simp only [deliveredT]
      exact allSome_all (evalT Γ ρ t) (fun w => valid t w = true) xs.toList
        (fun x hx => validExp_sound_rt Γ ρ hρ t ht x (hb x hx) (hv.2 x hx) (hh x hx))
    | map isStruct kvs =>
      cases isStruct with
      | true => simp [validBind] at hv
      | false =>
        simp only [validBind, Bool.and_eq_true, List.all_eq_true] at hv
        simp only [bindHoleFreeT, List.all_eq_true] at hh
        simp only [Bind.wf, Exp.wf, KVs.wf_eq, Bool.and_eq_true, List.all_eq_true] at hb
        simp only [deliveredT]
        exact allSome_all (fun kv : Bytes × Exp => evalT Γ ρ t kv.2) (fun w => valid t w = true) kvs.toList
          (fun kv hkv => validExp_sound_rt Γ ρ hρ t ht kv.2 (hb.1 kv hkv) (hv.2 kv hkv) (hh kv hkv))
    | self id p | call id p => exact split_ref_sound_rt Γ ρ hρ t ht _ ⟨id, p, by simp⟩ hv hh
    | _ => simp [validBind] at hv

theorem retValueT_sound (Γ : Env) (ρ : Store) (hρ : StoreOk Γ ρ) (bs : List (Bytes × Bind)) :
    ∀ (fs : Fields),
      (∀ k t, (k, t) ∈ fs.toList → t.wf = true ∧ ∃ e, bs.lookup k = some (.plain e) ∧ e.wf = true ∧
          validBind Γ t (.plain e) = true ∧ holeFree Γ t (bindExp Γ t e) = true) →
      ∃ vs, retValueT Γ ρ bs fs = some vs ∧ vs.map Prod.fst = fs.toList.map Prod.fst ∧
        ∀ k t, (k, t) ∈ fs.toList → ∃ v, (k, v) ∈ vs ∧ valid t v = true :=
  fields_members (F := retValueT Γ ρ bs) rfl fun k t r vs ⟨htw, e, hl, hew, hvb, hhf⟩ hvs => by
    obtain ⟨v, hev, hval⟩ := plain_sound_rt Γ ρ hρ t htw e hew hvb hhf
    exact ⟨v, by simp [retValueT, hl, hev, hvs], hval⟩

end Martian.Typing
