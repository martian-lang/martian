/-
C09: reading back the token sequence of a printed value expression:
`pExp f (toks e ++ rest) = some (norm e, rest)` (`pExp_toks`) for a well-formed `e`, fuel
`cost e ≤ f` and a `rest` that does not start with a dot (`NoDot`).  On the way: `bytesLt` is a
strict total order and `mkMap` is the identity on ascending keys (`mkMap_sorted`); `Opens`,
`toks_head`: how a printed expression starts; `list_step`: the scheme of the list readers
`pElems`, `pKVs`, `pFields` (an item, `afterItem`, the remaining items).
-/
import Proofs.FormatExpNum
import Proofs.FormatExpToks
import Proofs.FormatQuote

namespace Martian.FormatExp
open Martian.Lexer (Bytes parseInt unquoteBytes)
open Martian.Format (quoteString)

mutual
def cost : Exp → Nat
  | .arr xs => 2 + costL xs
  | .map kvs => 2 + costKV kvs
  | .struct kvs => 2 + costKV kvs
  | .ref _ _ out => out.length + 2
  | _ => 1
def costL : List Exp → Nat
  | [] => 0
  | x :: r => 1 + cost x + costL r
def costKV : List (Bytes × Exp) → Nat
  | [] => 0
  | (_, v) :: r => 1 + cost v + costKV r
end

theorem cost_pos (e : Exp) : 1 ≤ cost e := by
  cases e <;> simp [cost] <;> omega

/-- what follows an expression is not a dot (so a reference ends there) -/
def NoDot (rest : List Tok) : Prop := ∀ r, rest ≠ tDot :: r

theorem noDot_comma (r : List Tok) : NoDot (tComma :: r) := by
  intro r' h; cases h

theorem afterItem_close (c : UInt8) (r : List Tok) (h : c ≠ 0x2C) :
    afterItem c (.punct c :: r) = (false, .punct c :: r) := by
  unfold afterItem
  split
  · rename_i heq; cases heq; exact absurd rfl h
  · rename_i heq; cases heq; exact absurd rfl h
  · rfl

theorem afterItem_last (c : UInt8) (r : List Tok) :
    afterItem c (tComma :: .punct c :: r) = (false, .punct c :: r) := by
  simp [afterItem]

/-- a token that is no punctuation except `[` and `{`: what a printed expression starts with -/
def Opens (t : Tok) : Prop := ∀ c, t = .punct c → c = 0x5B ∨ c = 0x7B

theorem afterItem_more (c : UInt8) (t : Tok) (r : List Tok) (hc : c = 0x5D ∨ c = 0x7D) (ht : Opens t) :
    afterItem c (tComma :: t :: r) = (true, t :: r) := by
  cases t with
  | punct c' =>
    have := ht c' rfl
    have hne : (c' == c) = false := by
      rcases hc with rfl | rfl <;> rcases this with rfl | rfl <;> decide
    simp [afterItem, hne]
  | _ => simp [afterItem]

theorem toks_head (e : Exp) : ∃ t r, toks e = t :: r ∧ Opens t := by
  have hLB : Opens tLB := by intro c h; injection h with h; exact Or.inl h.symm
  have hLC : Opens tLC := by intro c h; injection h with h; exact Or.inr h.symm
  cases e with
  | null => exact ⟨.kNull, [], by rw [toks], by intro c h; cases h⟩
  | nilArr => exact ⟨.kNull, [], by rw [toks], by intro c h; cases h⟩
  | bool b => exact ⟨if b then .kTrue else .kFalse, [], by rw [toks], by intro c h; cases b <;> cases h⟩
  | int i => exact ⟨.int (fmtInt i), [], by rw [toks], by intro c h; cases h⟩
  | float t => exact ⟨if isFloatTok t then .float t else .int t, [], by rw [toks],
      by intro c h; split at h <;> cases h⟩
  | str s => exact ⟨.str (quoteString s), [], by rw [toks], by intro c h; cases h⟩
  | arr xs =>
    match xs with
    | [] => exact ⟨tLB, _, by rw [toks], hLB⟩
    | [x] => by_cases hs : single x = true
             · exact ⟨tLB, toks x ++ [tRB], by rw [toks]; simp only [hs, ↓reduceIte], hLB⟩
             · exact ⟨tLB, toks x ++ [tComma, tRB], by rw [toks]; simp only [hs]; rfl, hLB⟩
    | x :: y :: r => exact ⟨tLB, _, by rw [toks], hLB⟩
  | map kvs =>
    match kvs with
    | [] => exact ⟨tLC, _, by rw [toks], hLC⟩
    | kv :: r => exact ⟨tLC, _, by rw [toks], hLC⟩
  | struct kvs =>
    match kvs with
    | [] => exact ⟨tLC, _, by rw [toks], hLC⟩
    | kv :: r => exact ⟨tLC, _, by rw [toks], hLC⟩
  | ref self id out =>
    simp only [toks, toksRef]
    split
    · exact ⟨_, _, rfl, by intro c h; cases h⟩
    · split
      · exact ⟨_, _, rfl, by intro c h; cases h⟩
      · exact ⟨_, _, rfl, by intro c h; cases h⟩


theorem bytesLt_irrefl : ∀ a : Bytes, bytesLt a a = false := by
  intro a
  induction a with
  | nil => rfl
  | cons x r ih =>
    have : ¬ x < x := UInt8.lt_irrefl x
    simp [bytesLt, this, ih]

theorem bytesLt_cons_iff {x y : UInt8} {a b : Bytes} :
    bytesLt (x :: a) (y :: b) = true ↔ x < y ∨ (x = y ∧ bytesLt a b = true) := by
  simp only [bytesLt, Bool.or_eq_true, decide_eq_true_eq, Bool.and_eq_true, beq_iff_eq]

theorem bytesLt_total : ∀ a b : Bytes, bytesLt a b = true ∨ a = b ∨ bytesLt b a = true
  | [], [] => Or.inr (Or.inl rfl)
  | [], _ :: _ => Or.inl rfl
  | _ :: _, [] => Or.inr (Or.inr rfl)
  | x :: a, y :: b => by
    by_cases hxy : x = y
    · subst hxy
      rcases bytesLt_total a b with h | h | h
      · exact Or.inl (bytesLt_cons_iff.mpr (Or.inr ⟨rfl, h⟩))
      · exact Or.inr (Or.inl (by rw [h]))
      · exact Or.inr (Or.inr (bytesLt_cons_iff.mpr (Or.inr ⟨rfl, h⟩)))
    · rcases UInt8.lt_or_lt_of_ne hxy with h | h
      · exact Or.inl (bytesLt_cons_iff.mpr (Or.inl h))
      · exact Or.inr (Or.inr (bytesLt_cons_iff.mpr (Or.inl h)))

theorem bytesLt_trans : ∀ a b c : Bytes, bytesLt a b = true → bytesLt b c = true → bytesLt a c = true
  | _, b, [], _, h2 => by cases b <;> simp [bytesLt] at h2
  | a, [], _ :: _, h1, _ => by cases a <;> simp [bytesLt] at h1
  | [], _ :: _, _ :: _, _, _ => rfl
  | x :: a, y :: b, z :: c, h1, h2 => by
    rw [bytesLt_cons_iff] at h1 h2 ⊢
    rcases h1 with h1 | ⟨rfl, h1⟩
    · rcases h2 with h2 | ⟨rfl, h2⟩
      · exact Or.inl (UInt8.lt_trans h1 h2)
      · exact Or.inl h1
    · rcases h2 with h2 | ⟨rfl, h2⟩
      · exact Or.inl h2
      · exact Or.inr ⟨rfl, bytesLt_trans a b c h1 h2⟩

theorem bytesLt_asymm (a b : Bytes) (h : bytesLt a b = true) : bytesLt b a = false := by
  cases h' : bytesLt b a with
  | false => rfl
  | true => rw [← bytesLt_irrefl a, ← bytesLt_trans a b a h h']

theorem insertKV_last (k : Bytes) (v : Exp) (m : List (Bytes × Exp))
    (h : ∀ kv ∈ m, bytesLt kv.1 k = true) : insertKV k v m = m ++ [(k, v)] := by
  fun_induction insertKV k v m with
  | case1 => rfl
  | case2 k' v' r hlt =>
    rw [bytesLt_asymm _ _ (h (k', v') List.mem_cons_self)] at hlt
    cases hlt
  | case3 v' r =>
    have := h (k, v') List.mem_cons_self
    rw [bytesLt_irrefl] at this
    cases this
  | case4 k' v' r _ _ ih =>
    rw [ih fun kv hkv => h kv (List.mem_cons_of_mem _ hkv)]
    rfl

theorem foldl_insert (kvs : List (Bytes × Exp)) : ∀ acc : List (Bytes × Exp),
    (∀ a ∈ acc, ∀ b ∈ kvs, bytesLt a.1 b.1 = true) → sortedKeys kvs = true →
    kvs.foldl (fun m kv => insertKV kv.1 kv.2 m) acc = acc ++ kvs := by
  induction kvs with
  | nil => intro acc _ _; simp
  | cons kv r ih =>
    intro acc hacc hs
    obtain ⟨k, v⟩ := kv
    simp only [sortedKeys, Bool.and_eq_true, List.all_eq_true] at hs
    simp only [List.foldl_cons]
    rw [insertKV_last k v acc (fun a ha => hacc a ha (k, v) (by simp))]
    rw [ih (acc ++ [(k, v)]) ?_ hs.2]
    · simp
    · intro a ha b hb
      simp only [List.mem_append, List.mem_singleton] at ha
      rcases ha with ha | rfl
      · exact hacc a ha b (by simp [hb])
      · exact hs.1 b hb

theorem mkMap_sorted (kvs : List (Bytes × Exp)) (h : sortedKeys kvs = true) : mkMap kvs = kvs := by
  have := foldl_insert kvs [] (by intro a ha; cases ha) h
  simpa [mkMap] using this

theorem sortedKeys_normKV : ∀ kvs : List (Bytes × Exp), sortedKeys (normKV kvs) = sortedKeys kvs := by
  have hall : ∀ (k : Bytes) (kvs : List (Bytes × Exp)),
      (normKV kvs).all (fun kv => bytesLt k kv.1) = kvs.all (fun kv => bytesLt k kv.1) := by
    intro k kvs
    induction kvs with
    | nil => simp [normKV]
    | cons kv r ih => obtain ⟨k', v'⟩ := kv; simp [normKV, ih]
  intro kvs
  induction kvs with
  | nil => simp [normKV]
  | cons kv r ih => obtain ⟨k', v'⟩ := kv; simp [normKV, sortedKeys, hall, ih]

theorem pDots_toks : ∀ (out : List Bytes) (f : Nat) (rest : List Tok), out.length < f → NoDot rest →
    pDots f (toksDots out ++ rest) = some (out, rest) := by
  intro out
  induction out with
  | nil =>
    intro f rest hf hr
    obtain ⟨f', rfl⟩ : ∃ f', f = f' + 1 := ⟨f - 1, by simp at hf; omega⟩
    simp only [toksDots, List.nil_append]
    cases rest with
    | nil => simp [pDots]
    | cons t r =>
      cases t with
      | punct c =>
        have hc : c ≠ 0x2E := by intro e; subst e; exact hr r rfl
        rw [pDots]
        · intro x r' h; injection h with h1 _; injection h1 with h1; exact hc h1
        · intro tl h; injection h with h1 _; injection h1 with h1; exact hc h1
      | _ => simp [pDots]
  | cons x r ih =>
    intro f rest hf hr
    obtain ⟨f', rfl⟩ : ∃ f', f = f' + 1 := ⟨f - 1, by simp at hf; omega⟩
    simp only [toksDots, List.cons_append]
    rw [pDots]
    rw [ih f' rest (by simp at hf; omega) hr]
    rfl


theorem pRefCall_dots (f : Nat) (x : Bytes) (ts : List Tok) (h : ∀ r', ts ≠ tDot :: .kDefault :: r') :
    pRefCall f x ts = (pDots f ts).map fun (xs, r') => (.ref false x xs, r') := by
  unfold pRefCall
  split
  · rename_i r; exact absurd rfl (h r)
  · rfl

theorem toksDots_noDefault (out : List Bytes) (rest : List Tok) (hr : NoDot rest) :
    ∀ r', toksDots out ++ rest ≠ tDot :: .kDefault :: r' := by
  intro r' h
  cases out with
  | nil => exact hr _ h
  | cons x r => simp [toksDots] at h

theorem pExp_arr_of_elems (f : Nat) (ts : List Tok) (xs : List Exp) (rest : List Tok)
    (hne : ∀ r', ts ≠ tRB :: r') (h : pElems f ts = some (xs, tRB :: rest)) :
    pExp (f + 1) (tLB :: ts) = some (.arr xs, rest) := by
  rw [pExp, h]
  · rfl
  · intro r' hr'; exact hne r' hr'

/-- the tokens of the remaining items of a bracketed list: none, or they start with a token that
does not close a bracket -/
def Items (tr : List Tok) : Prop := tr = [] ∨ ∃ t r, tr = t :: r ∧ Opens t

theorem afterItem_comma {c : UInt8} (hc : c = 0x5D ∨ c = 0x7D) {tr : List Tok} (h : Items tr) (rest : List Tok) :
    afterItem c (tComma :: (tr ++ .punct c :: rest)) = (!tr.isEmpty, tr ++ .punct c :: rest) := by
  rcases h with rfl | ⟨t, r, rfl, ht⟩
  · exact afterItem_last c rest
  · exact afterItem_more c t _ hc ht

/-- The scheme of `pElems`, `pKVs`, `pFields`: a reader `p` which, after an item `b` read from
`ts`, consults `afterItem c` and goes on with one unit of fuel less, reads `b` and then the items
`bs` spelled by `tr`. -/
theorem list_step {β : Type} {p : Nat → List Tok → Option (List β × List Tok)} {c : UInt8}
    (hc : c = 0x5D ∨ c = 0x7D) {f : Nat} {ts tr rest : List Tok} {b : β} {bs : List β}
    (hp : ∀ T, p (f + 1) (ts ++ tComma :: T) = match afterItem c (tComma :: T) with
      | (true, r') => (p f r').map fun (es, r'') => (b :: es, r'')
      | (false, r') => some ([b], r'))
    (htr : Items tr) (hnil : tr = [] → bs = [])
    (ih : tr ≠ [] → p f (tr ++ .punct c :: rest) = some (bs, .punct c :: rest)) :
    p (f + 1) (ts ++ tComma :: (tr ++ .punct c :: rest)) = some (b :: bs, .punct c :: rest) := by
  rw [hp, afterItem_comma hc htr]
  cases tr with
  | nil => rw [hnil rfl]; rfl
  | cons t r => simp only [List.isEmpty_cons, Bool.not_false, ih (List.cons_ne_nil _ _), Option.map_some]

theorem pElems_one (f : Nat) (ts : List Tok) (e : Exp) (rest : List Tok)
    (h : pExp f ts = some (e, tRB :: rest)) : pElems (f + 1) ts = some ([e], tRB :: rest) := by
  rw [pElems, h]
  simp only [afterItem_close 0x5D rest (by decide)]

theorem pElems_head {f : Nat} {ts : List Tok} {e : Exp}
    (h : ∀ T, pExp f (ts ++ tComma :: T) = some (e, tComma :: T)) (T : List Tok) :
    pElems (f + 1) (ts ++ tComma :: T) = match afterItem 0x5D (tComma :: T) with
      | (true, r') => (pElems f r').map fun (es, r'') => (e :: es, r'')
      | (false, r') => some ([e], r') := by
  rw [pElems, h]; rfl

theorem pKVs_head {f : Nat} {k key : Bytes} {ts : List Tok} {e : Exp} (hk : unquoteBytes k = some key)
    (h : ∀ T, pExp f (ts ++ tComma :: T) = some (e, tComma :: T)) (T : List Tok) :
    pKVs (f + 1) ((.str k :: tColon :: ts) ++ tComma :: T) = match afterItem 0x7D (tComma :: T) with
      | (true, r') => (pKVs f r').map fun (es, r'') => ((key, e) :: es, r'')
      | (false, r') => some ([(key, e)], r') := by
  rw [List.cons_append, List.cons_append, pKVs, hk, h]; rfl

theorem pFields_head {f : Nat} {k : Bytes} {ts : List Tok} {e : Exp}
    (h : ∀ T, pExp f (ts ++ tComma :: T) = some (e, tComma :: T)) (T : List Tok) :
    pFields (f + 1) ((.id k :: tColon :: ts) ++ tComma :: T) = match afterItem 0x7D (tComma :: T) with
      | (true, r') => (pFields f r').map fun (es, r'') => ((k, e) :: es, r'')
      | (false, r') => some ([(k, e)], r') := by
  rw [List.cons_append, List.cons_append, pFields, h]; rfl

theorem items_toksElems : ∀ xs : List Exp, Items (toksElems xs)
  | [] => .inl rfl
  | x :: r => by
    obtain ⟨t, tl, ht, ho⟩ := toks_head x
    exact .inr ⟨t, _, by rw [toksElems, ht, List.cons_append], ho⟩

theorem items_toksKVs : ∀ kvs : List (Bytes × Exp), Items (toksKVs kvs)
  | [] => .inl rfl
  | (k, v) :: r => .inr ⟨_, _, by rw [toksKVs], fun _ h => by cases h⟩

theorem items_toksFields : ∀ kvs : List (Bytes × Exp), Items (toksFields kvs)
  | [] => .inl rfl
  | (k, v) :: r => .inr ⟨_, _, by rw [toksFields], fun _ h => by cases h⟩


theorem pExp_map_of_kvs (f : Nat) (k : Bytes) (ts : List Tok) (kvs : List (Bytes × Exp)) (rest : List Tok)
    (h : pKVs f (.str k :: ts) = some (kvs, tRC :: rest)) :
    pExp (f + 1) (tLC :: .str k :: ts) = some (.map (mkMap kvs), rest) := by
  rw [pExp, h]; rfl

theorem pExp_struct_of_fields (f : Nat) (k : Bytes) (ts : List Tok) (kvs : List (Bytes × Exp)) (rest : List Tok)
    (h : pFields f (.id k :: ts) = some (kvs, tRC :: rest)) :
    pExp (f + 1) (tLC :: .id k :: ts) = some (.struct (mkMap kvs), rest) := by
  rw [pExp, h]; rfl


theorem toks_not_rb (e : Exp) (tl : List Tok) : ∀ r', toks e ++ tl ≠ tRB :: r' := by
  intro r' h
  obtain ⟨t, r, ht, ho⟩ := toks_head e
  rw [ht] at h
  injection h with h1 _
  rcases ho _ h1 with h | h <;> cases h

theorem pExp_toks_int (i : Int) (f : Nat) (rest : List Tok) (hw : wf (.int i) = true) :
    pExp (f + 1) (toks (.int i) ++ rest) = some (norm (.int i), rest) := by
  rw [wf] at hw
  rw [toks, List.singleton_append, pExp, (fmtInt_lex i hw).2]
  rfl

theorem pExp_toks_float (t : Bytes) (f : Nat) (rest : List Tok) (hw : wf (.float t) = true) :
    pExp (f + 1) (toks (.float t) ++ rest) = some (norm (.float t), rest) := by
  by_cases hft : isFloatTok t = true
  · simp only [toks, norm, hft, ↓reduceIte, List.cons_append, List.nil_append]
    rw [pExp]
  · simp only [wf, hft, Bool.false_or] at hw
    obtain ⟨i, hp, _⟩ := isCanonInt_iff.mp hw
    simp only [toks, norm, hft, Bool.false_eq_true, ↓reduceIte, List.cons_append, List.nil_append, hp]
    rw [pExp, hp]
    rfl

theorem pExp_toks_str (s : Bytes) (f : Nat) (rest : List Tok) (hw : wf (.str s) = true) :
    pExp (f + 1) (toks (.str s) ++ rest) = some (norm (.str s), rest) := by
  rw [wf] at hw
  rw [toks, List.singleton_append, pExp, Martian.Format.unquote_quoteString s hw]
  rfl

theorem pExp_toks_ref (self : Bool) (id : Bytes) (out : List Bytes) (f : Nat) (rest : List Tok)
    (hf : cost (.ref self id out) ≤ f) (hr : NoDot rest) :
    pExp f (toks (.ref self id out) ++ rest) = some (norm (.ref self id out), rest) := by
  simp only [cost] at hf
  obtain ⟨f', rfl⟩ : ∃ f', f = f' + 1 := ⟨f - 1, by omega⟩
  simp only [toks, norm, toksRef]
  cases self with
  | true =>
    simp only [↓reduceIte, List.cons_append]
    rw [pExp, pDots_toks out f' rest (by omega) hr]
    rfl
  | false =>
    simp only [Bool.false_eq_true, ↓reduceIte]
    by_cases hd : out = [sDefault]
    · subst hd
      simp only [↓reduceIte, List.cons_append, List.nil_append]
      rw [pExp]
      simp [pRefCall]
    · simp only [hd, ↓reduceIte, List.cons_append]
      rw [pExp, pRefCall_dots _ _ _ (toksDots_noDefault out rest hr), pDots_toks out f' rest (by omega) hr]
      rfl

mutual
theorem pExp_toks : ∀ (e : Exp) (f : Nat) (rest : List Tok), wf e = true → cost e ≤ f → NoDot rest →
    pExp f (toks e ++ rest) = some (norm e, rest)
  | e, 0, _, _, hf, _ => absurd (Nat.le_trans (cost_pos e) hf) (by decide)
  | .null, _ + 1, _, _, _, _ => rfl
  | .nilArr, _ + 1, _, _, _, _ => rfl
  | .bool true, _ + 1, _, _, _, _ => rfl
  | .bool false, _ + 1, _, _, _, _ => rfl
  | .arr [], _ + 1, _, _, _, _ => rfl
  | .map [], _ + 1, _, _, _, _ => rfl
  | .struct [], _ + 1, _, _, _, _ => rfl
  | .int i, f + 1, rest, hw, _, _ => pExp_toks_int i f rest hw
  | .float t, f + 1, rest, hw, _, _ => pExp_toks_float t f rest hw
  | .str s, f + 1, rest, hw, _, _ => pExp_toks_str s f rest hw
  | .ref self id out, f + 1, rest, _, hf, hr => pExp_toks_ref self id out _ rest hf hr
  | .arr [x], f + 1, rest, hw, hf, _ => by
    simp only [wf, wfL, Bool.and_true] at hw
    simp only [cost, costL] at hf
    obtain ⟨f, rfl⟩ : ∃ f', f = f' + 1 := ⟨f - 1, by omega⟩
    simp only [norm, normL]
    by_cases hs : single x = true
    · have hx := pExp_toks x f (tRB :: rest) hw (by omega) (fun _ h => by cases h)
      simp only [toks, hs, ↓reduceIte, List.cons_append, List.append_assoc, List.nil_append]
      exact pExp_arr_of_elems _ _ _ _ (toks_not_rb x _) (pElems_one _ _ _ _ hx)
    · simp only [toks, hs, Bool.false_eq_true, ↓reduceIte, List.cons_append, List.append_assoc, List.nil_append]
      exact pExp_arr_of_elems _ _ _ _ (toks_not_rb x _) (list_step (tr := []) (.inl rfl)
        (pElems_head fun T => pExp_toks x f _ hw (by omega) (noDot_comma T)) (.inl rfl) (fun _ => rfl)
        fun h => absurd rfl h)
  | .arr (x :: y :: r), f + 1, rest, hw, hf, _ => by
    simp only [wf] at hw
    simp only [cost] at hf
    have h := pElems_toks (x :: y :: r) f rest (by simp) hw (by omega)
    simp only [toks, norm, List.cons_append, List.append_assoc, List.nil_append]
    refine pExp_arr_of_elems _ _ _ _ ?_ h
    simp only [toksElems, List.append_assoc]
    exact toks_not_rb x _
  | .map ((k, v) :: r), f + 1, rest, hw, hf, _ => by
    simp only [wf, Bool.and_eq_true] at hw
    simp only [cost] at hf
    have h := pKVs_toks ((k, v) :: r) f rest (by simp) hw.2 (by omega)
    simp only [toks, norm, List.cons_append, List.append_assoc, List.nil_append]
    simp only [toksKVs, List.cons_append, List.append_assoc] at h ⊢
    rw [pExp_map_of_kvs _ _ _ _ _ h, mkMap_sorted _ (by rw [sortedKeys_normKV]; exact hw.1)]
  | .struct ((k, v) :: r), f + 1, rest, hw, hf, _ => by
    simp only [wf, Bool.and_eq_true] at hw
    simp only [cost] at hf
    have h := pFields_toks ((k, v) :: r) f rest (by simp) hw.2 (by omega)
    simp only [toks, norm, List.cons_append, List.append_assoc, List.nil_append]
    simp only [toksFields, List.cons_append, List.append_assoc] at h ⊢
    rw [pExp_struct_of_fields _ _ _ _ _ h, mkMap_sorted _ (by rw [sortedKeys_normKV]; exact hw.1)]
theorem pElems_toks : ∀ (xs : List Exp) (f : Nat) (rest : List Tok), xs ≠ [] → wfL xs = true →
    costL xs ≤ f → pElems f (toksElems xs ++ tRB :: rest) = some (normL xs, tRB :: rest)
  | [], _, _, hne, _, _ => absurd rfl hne
  | _ :: _, 0, _, _, _, hf => by simp [costL] at hf
  | x :: r, f + 1, rest, _, hw, hf => by
    simp only [wfL, Bool.and_eq_true] at hw
    simp only [costL] at hf
    rw [toksElems, normL, List.append_assoc, List.cons_append]
    refine list_step (.inl rfl) (pElems_head fun T => pExp_toks x f _ hw.1 (by omega) (noDot_comma T))
      (items_toksElems r) (fun h => by cases r with | nil => rfl | cons _ _ => simp [toksElems] at h) fun hne => ?_
    exact pElems_toks r f rest (by rintro rfl; exact hne rfl) hw.2 (by omega)
theorem pKVs_toks : ∀ (kvs : List (Bytes × Exp)) (f : Nat) (rest : List Tok), kvs ≠ [] → wfKV false kvs = true →
    costKV kvs ≤ f → pKVs f (toksKVs kvs ++ tRC :: rest) = some (normKV kvs, tRC :: rest)
  | [], _, _, hne, _, _ => absurd rfl hne
  | (_, _) :: _, 0, _, _, _, hf => by simp [costKV] at hf
  | (k, v) :: r, f + 1, rest, _, hw, hf => by
    simp only [wfKV, Bool.and_eq_true, Bool.false_eq_true, ↓reduceIte] at hw
    simp only [costKV] at hf
    rw [toksKVs, normKV, List.cons_append, List.cons_append, List.append_assoc, List.cons_append]
    refine list_step (ts := .str (quoteString k) :: tColon :: toks v) (.inr rfl)
      (pKVs_head (Martian.Format.unquote_quoteString k hw.1.1) fun T => pExp_toks v f _ hw.1.2 (by omega) (noDot_comma T))
      (items_toksKVs r) (fun h => by cases r with | nil => rfl | cons _ _ => simp [toksKVs] at h) fun hne => ?_
    exact pKVs_toks r f rest (by rintro rfl; exact hne rfl) hw.2 (by omega)
theorem pFields_toks : ∀ (kvs : List (Bytes × Exp)) (f : Nat) (rest : List Tok), kvs ≠ [] → wfKV true kvs = true →
    costKV kvs ≤ f → pFields f (toksFields kvs ++ tRC :: rest) = some (normKV kvs, tRC :: rest)
  | [], _, _, hne, _, _ => absurd rfl hne
  | (_, _) :: _, 0, _, _, _, hf => by simp [costKV] at hf
  | (k, v) :: r, f + 1, rest, _, hw, hf => by
    simp only [wfKV, Bool.and_eq_true, ↓reduceIte] at hw
    simp only [costKV] at hf
    rw [toksFields, normKV, List.cons_append, List.cons_append, List.append_assoc, List.cons_append]
    refine list_step (ts := .id k :: tColon :: toks v) (.inr rfl)
      (pFields_head fun T => pExp_toks v f _ hw.1.2 (by omega) (noDot_comma T))
      (items_toksFields r) (fun h => by cases r with | nil => rfl | cons _ _ => simp [toksFields] at h) fun hne => ?_
    exact pFields_toks r f rest (by rintro rfl; exact hne rfl) hw.2 (by omega)
end

end Martian.FormatExp
