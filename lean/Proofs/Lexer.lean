import Martian.Lexer
import Martian.LexerId

/-! Facts on `Martian/Lexer.lean` and `Martian/LexerId.lean` that the C08, C09 and C17 proofs share.  The scanning blocks
(`spanDigits`, `spanWord`, `optMinus`, `optSign`: `span_eq_iff`, `opt1_eq_iff`, `stops`); `parseInt` is exact on integer
tokens within the rule's 19-digit bound (`IntTok`, `IntShape`, `matchInt_eq_some_iff`, `parseInt_exact`); what a result of
`numTok` means (`numTok_float`, `numTok_int`); `unquoteBytes` does not panic on string tokens (`WF`: bodies made of plain
bytes and complete escapes; `matchString_unquote`); progress of the generic `nextToken` / `lex` (`lex_total`); the `src_stm`
action (`srcAction_error_iff`). -/
namespace Martian.Lexer

/-! ## byte facts -/

theorem range_bounds {lo hi c : UInt8} (h : (decide (lo ≤ c) && decide (c ≤ hi)) = true) :
    lo.toNat ≤ c.toNat ∧ c.toNat ≤ hi.toNat := by
  simp only [Bool.and_eq_true, decide_eq_true_eq] at h
  exact ⟨UInt8.le_iff_toNat_le.mp h.1, UInt8.le_iff_toNat_le.mp h.2⟩

theorem isDigit_bounds {c : UInt8} (h : isDigit c = true) : 48 ≤ c.toNat ∧ c.toNat ≤ 57 :=
  range_bounds (lo := 0x30) (hi := 0x39) h

theorem isDigit_not_out {c : UInt8} (h : isDigit c = true) : (c < 0x30 || c > 0x39) = false := by
  have ⟨h1, h2⟩ := isDigit_bounds h
  simp only [Bool.or_eq_false_iff, decide_eq_false_iff_not]
  constructor
  · intro hlt
    have := UInt8.lt_iff_toNat_lt.mp hlt
    simp at this; omega
  · intro hgt
    have := UInt8.lt_iff_toNat_lt.mp hgt
    simp at this; omega

/-! ## the scanning blocks of the recognisers

`spanDigits`, `spanWord` are `takeWhile`/`dropWhile`, `optMinus`, `optSign` are `opt1`; each has one specification
(`…_eq_iff`): the result is THE split of the input into a run and a rest on which the class `stops`. -/

/-- `p` fails on the first byte, if there is one -/
def stops (p : UInt8 → Bool) : Bytes → Prop
  | [] => True
  | c :: _ => p c = false

theorem span_eq_iff (p : UInt8 → Bool) (s d t : Bytes) :
    (s.takeWhile p, s.dropWhile p) = (d, t) ↔ s = d ++ t ∧ (∀ c ∈ d, p c = true) ∧ stops p t := by
  constructor
  · intro h
    injection h with h1 h2
    subst h1 h2
    refine ⟨List.takeWhile_append_dropWhile.symm, List.all_eq_true.mp List.all_takeWhile, ?_⟩
    cases h : s.dropWhile p with
    | nil => trivial
    | cons c r => simpa [h, stops] using List.head_dropWhile_not p (l := s) (by simp [h])
  · rintro ⟨rfl, hd, ht⟩
    have ht' : t.takeWhile p = [] ∧ t.dropWhile p = t := by
      cases t with
      | nil => simp
      | cons c r => simp only [stops] at ht; simp [ht]
    rw [List.takeWhile_append_of_pos hd, List.dropWhile_append_of_pos hd, ht'.1, ht'.2, List.append_nil]

theorem spanDigits_eq_span (b : Bytes) : spanDigits b = (b.takeWhile isDigit, b.dropWhile isDigit) := by
  induction b with
  | nil => rfl
  | cons c r ih => rw [spanDigits, ih, List.takeWhile_cons, List.dropWhile_cons]; split <;> rfl

theorem spanWord_eq_span (b : Bytes) : spanWord b = (b.takeWhile isWord, b.dropWhile isWord) := by
  induction b with
  | nil => rfl
  | cons c r ih => rw [spanWord, ih, List.takeWhile_cons, List.dropWhile_cons]; split <;> rfl

theorem spanDigits_eq_iff {b d t : Bytes} :
    spanDigits b = (d, t) ↔ b = d ++ t ∧ (∀ c ∈ d, isDigit c = true) ∧ stops isDigit t :=
  spanDigits_eq_span b ▸ span_eq_iff isDigit b d t

theorem spanDigits_spec (b : Bytes) : b = (spanDigits b).1 ++ (spanDigits b).2 ∧
    (∀ c ∈ (spanDigits b).1, isDigit c = true) ∧ stops isDigit (spanDigits b).2 := spanDigits_eq_iff.mp rfl

theorem spanWord_eq_iff {b d t : Bytes} :
    spanWord b = (d, t) ↔ b = d ++ t ∧ (∀ c ∈ d, isWord c = true) ∧ stops isWord t :=
  spanWord_eq_span b ▸ span_eq_iff isWord b d t

theorem boundary_iff_stops (post : Bytes) : boundary post = true ↔ stops isWord post := by
  cases post <;> simp [boundary, stops]

/-- an optional first byte in the class `p` -/
def opt1 (p : UInt8 → Bool) : Bytes → Bytes × Bytes
  | c :: r => if p c then ([c], r) else ([], c :: r)
  | [] => ([], [])

theorem opt1_eq_iff (p : UInt8 → Bool) (s o t : Bytes) :
    opt1 p s = (o, t) ↔ s = o ++ t ∧ o.length ≤ 1 ∧ (∀ c ∈ o, p c = true) ∧ (o = [] → stops p t) := by
  constructor
  · intro h
    cases s with
    | nil => cases h; simp [stops]
    | cons c r =>
      by_cases hc : p c = true
      · simp only [opt1, hc, if_true] at h; cases h; simp [hc]
      · simp only [opt1, hc] at h; cases h; simpa [stops] using hc
  · rintro ⟨rfl, h1, h2, h3⟩
    match o, h1, h2, h3 with
    | [], _, _, h3 =>
      cases t with
      | nil => rfl
      | cons c r => have := h3 rfl; simp only [stops] at this; simp [opt1, this]
    | [c], _, h2, _ => simp [opt1, h2 c]

theorem stops_mono {p q : UInt8 → Bool} (h : ∀ c, q c = false → p c = false) {t : Bytes} (ht : stops q t) : stops p t := by
  cases t with
  | nil => trivial
  | cons c r => exact h c ht

/-- a non-empty run of `q` stops every class disjoint from `q` -/
theorem stops_run {p q : UInt8 → Bool} (h : ∀ c, q c = true → p c = false) {d : Bytes} (hne : d ≠ [])
    (hd : ∀ c ∈ d, q c = true) (t : Bytes) : stops p (d ++ t) := by
  cases d with
  | nil => exact absurd rfl hne
  | cons c r => exact h c (hd c (by simp))

theorem optMinus_eq_iff {b o t : Bytes} :
    optMinus b = (o, t) ↔ b = o ++ t ∧ o.length ≤ 1 ∧ (∀ c ∈ o, c = 0x2D) ∧ (o = [] → stops (· == 0x2D) t) := by
  have := opt1_eq_iff (· == 0x2D) b o t
  simp only [beq_iff_eq] at this
  rw [← this]; cases b <;> rfl

theorem optMinus_spec (b : Bytes) : b = (optMinus b).1 ++ (optMinus b).2 ∧ (optMinus b).1.length ≤ 1 ∧
    (∀ c ∈ (optMinus b).1, c = 0x2D) ∧ ((optMinus b).1 = [] → stops (· == 0x2D) (optMinus b).2) := optMinus_eq_iff.mp rfl

theorem optSign_eq_iff {b o t : Bytes} :
    optSign b = (o, t) ↔ b = o ++ t ∧ o.length ≤ 1 ∧ (∀ c ∈ o, (c == 0x2B || c == 0x2D) = true) ∧
      (o = [] → stops (fun c => c == 0x2B || c == 0x2D) t) := by
  rw [← opt1_eq_iff]; cases b <;> rfl

/-! ## parseInt -/

def okVal (neg : Bool) (v : Nat) : Bool := decide (v < cutoff) || (neg && v == cutoff)

theorem decValFrom_cons (n : Nat) (c : UInt8) (r : Bytes) :
    decValFrom n (c :: r) = decValFrom (10 * n + (c.toNat - 48)) r := by
  simp [decValFrom]

theorem decValFrom_ge (ds : Bytes) : ∀ n, n ≤ decValFrom n ds := by
  induction ds with
  | nil => intro n; simp [decValFrom]
  | cons c r ih =>
    intro n
    rw [decValFrom_cons]
    have := ih (10 * n + (c.toNat - 48))
    omega

theorem cutoff_val : cutoff = 9223372036854775808 := by decide

theorem pow19 : (10 : Nat) ^ 19 = 10000000000000000000 := by decide
theorem pow64 : (2 : Nat) ^ 64 = 18446744073709551616 := by decide

/-- With at most 19 digits to go and an accumulator small enough, the `uint64`
arithmetic never wraps, and the loop returns the exact value iff it is in
range. -/
theorem parseIntLoop_spec (neg : Bool) : ∀ (ds : Bytes) (n : Nat),
    (∀ c ∈ ds, isDigit c = true) → ds.length ≤ 19 → n < 10 ^ (19 - ds.length) →
    okVal neg n = true →
    parseIntLoop neg n ds =
      if okVal neg (decValFrom n ds) then some (decValFrom n ds) else none := by
  intro ds
  induction ds with
  | nil =>
    intro n _ _ _ hok
    simp [parseIntLoop, decValFrom, hok]
  | cons c r ih =>
    intro n hd hlen hn hok
    have hc : isDigit c = true := hd c (by simp)
    have ⟨hc1, hc2⟩ := isDigit_bounds hc
    have hlen' : r.length + 1 ≤ 19 := by simpa using hlen
    have hpow : (10 : Nat) ^ (19 - r.length) = 10 * 10 ^ (19 - (r.length + 1)) := by
      have : 19 - r.length = (19 - (r.length + 1)) + 1 := by omega
      rw [this, Nat.pow_succ]; omega
    have hle : (10 : Nat) ^ (19 - r.length) ≤ 10 ^ 19 :=
      Nat.pow_le_pow_right (by decide) (by omega)
    have hn' : n < 10 ^ (19 - (r.length + 1)) := by simpa using hn
    have hm : 10 * n + (c.toNat - 48) < 10 ^ (19 - r.length) := by omega
    have hmod : (10 * n + (c.toNat - 48)) % 2 ^ 64 = 10 * n + (c.toNat - 48) := by
      apply Nat.mod_eq_of_lt
      rw [pow64]; rw [pow19] at hle; omega
    rw [decValFrom_cons]
    have hge := decValFrom_ge r (10 * n + (c.toNat - 48))
    unfold parseIntLoop
    rw [isDigit_not_out hc]
    simp only [Bool.false_eq_true, ↓reduceIte, hmod]
    by_cases hbad : (decide (10 * n + (c.toNat - 48) < n) || decide (10 * n + (c.toNat - 48) > cutoff)
        || (!neg && (10 * n + (c.toNat - 48) == cutoff))) = true
    · rw [if_pos hbad]
      have : okVal neg (decValFrom (10 * n + (c.toNat - 48)) r) = false := by
        unfold okVal
        simp only [Bool.or_eq_true, Bool.and_eq_true, decide_eq_true_eq, Bool.not_eq_true',
          beq_iff_eq] at hbad
        rcases hbad with (h | h) | h
        · omega
        · have : ¬ decValFrom (10 * n + (c.toNat - 48)) r < cutoff := by omega
          have h2 : ¬ decValFrom (10 * n + (c.toNat - 48)) r = cutoff := by omega
          simp [this, h2]
        · have : ¬ decValFrom (10 * n + (c.toNat - 48)) r < cutoff := by omega
          simp [this, h.1]
      simp [this]
    · rw [if_neg hbad]
      apply ih
      · intro x hx; exact hd x (by simp [hx])
      · omega
      · exact hm
      · unfold okVal
        simp only [Bool.or_eq_true, Bool.and_eq_true, decide_eq_true_eq, Bool.not_eq_true',
          beq_iff_eq, not_or, not_and] at hbad
        obtain ⟨⟨_, h2⟩, h3⟩ := hbad
        cases neg with
        | true => simp; omega
        | false =>
          have := h3 rfl
          simp; omega

theorem parseIntLoop_zeros (neg : Bool) : ∀ (zs ds : Bytes), (∀ c ∈ zs, c = 0x30) →
    parseIntLoop neg 0 (zs ++ ds) = parseIntLoop neg 0 ds := by
  intro zs
  induction zs with
  | nil => intro ds _; rfl
  | cons z r ih =>
    intro ds hz
    have hz0 : z = 0x30 := hz z (by simp)
    subst hz0
    have : ∀ c ∈ r, c = 0x30 := fun c hc => hz c (by simp [hc])
    simp only [List.cons_append]
    rw [parseIntLoop]
    simp [cutoff_val]
    exact ih ds this

theorem decValFrom_zeros : ∀ (zs ds : Bytes), (∀ c ∈ zs, c = 0x30) →
    decValFrom 0 (zs ++ ds) = decValFrom 0 ds := by
  intro zs
  induction zs with
  | nil => intro ds _; rfl
  | cons z r ih =>
    intro ds hz
    have hz0 : z = 0x30 := hz z (by simp)
    subst hz0
    simp only [List.cons_append, decValFrom_cons]
    exact ih ds (fun c hc => hz c (by simp [hc]))

/-- value of an integer token: optional `-`, then digits -/
def intTokVal (t : Bytes) : Int :=
  match t with
  | [] => 0
  | c :: ds => if c == 0x2D then -((decValFrom 0 ds : Nat) : Int) else ((decValFrom 0 (c :: ds) : Nat) : Int)

def inInt64 (v : Int) : Bool := decide (-(9223372036854775808 : Int) ≤ v) && decide (v < 9223372036854775808)

theorem mem_takeWhile_zero (ds : Bytes) (c : UInt8) (hc : c ∈ ds.takeWhile (· == 0x30)) : c = 0x30 :=
  eq_of_beq (List.all_eq_true.mp List.all_takeWhile c hc)

theorem parseIntLoop_token (neg : Bool) (ds : Bytes) (hd : ∀ c ∈ ds, isDigit c = true)
    (h19 : (ds.dropWhile (· == 0x30)).length ≤ 19) :
    parseIntLoop neg 0 ds =
      if okVal neg (decValFrom 0 ds) then some (decValFrom 0 ds) else none := by
  have hsplit := List.takeWhile_append_dropWhile (p := (· == (0x30 : UInt8))) (l := ds)
  have hz := mem_takeWhile_zero ds
  have hsig : ∀ c ∈ ds.dropWhile (· == 0x30), isDigit c = true :=
    fun c hc => hd c ((List.dropWhile_sublist _).subset hc)
  rw [← hsplit, parseIntLoop_zeros neg _ _ hz, decValFrom_zeros _ _ hz]
  apply parseIntLoop_spec neg _ 0 hsig h19
  · exact Nat.pow_pos (by decide)
  · simp [okVal, cutoff_val]

theorem isDigit_not_sign {c : UInt8} (h : isDigit c = true) :
    (c == 0x2D) = false ∧ (c == 0x2B) = false := by
  constructor <;>
  · apply Bool.eq_false_iff.mpr
    intro e
    have := eq_of_beq e
    subst this
    revert h; decide

theorem isDigit_isWord {c : UInt8} (h : isDigit c = true) : isWord c = true := by simp [isWord, h]

theorem boundary_stops_digit {post : Bytes} (h : boundary post = true) : stops isDigit post :=
  stops_mono (fun c h => Bool.eq_false_iff.mpr fun hc => by simp [isDigit_isWord hc] at h) ((boundary_iff_stops post).mp h)

/-- an integer token: optional `-`, digits of which at most 19 after the leading zeros -/
def IntTok (w : Bytes) : Prop :=
  ∃ sg ds, w = sg ++ ds ∧ sg.length ≤ 1 ∧ (∀ c ∈ sg, c = 0x2D) ∧ ds ≠ [] ∧ (∀ c ∈ ds, isDigit c = true) ∧
    (ds.dropWhile (· == 0x30)).length ≤ 19

/-- what the integer rule admits: an integer token before a word boundary (all it asks of what follows) -/
def IntShape (w post : Bytes) : Prop := IntTok w ∧ boundary post = true

theorem matchInt_eq_some_iff {b t : Bytes} : matchInt b = some t ↔ ∃ post, b = t ++ post ∧ IntShape t post := by
  constructor
  · fun_cases matchInt b with
    | case1 sg r hm ds rest hsd hc =>
      rintro ⟨⟩
      simp only [Bool.and_eq_true, decide_eq_true_eq] at hc
      obtain ⟨rfl, h1, h2, _⟩ := optMinus_eq_iff.mp hm
      obtain ⟨rfl, hd, _⟩ := spanDigits_eq_iff.mp hsd
      exact ⟨rest, (List.append_assoc ..).symm, ⟨sg, ds, rfl, h1, h2, hc.1.1, hd, hc.1.2⟩, hc.2⟩
    | case2 => intro h; cases h
  · rintro ⟨post, rfl, ⟨sg, ds, rfl, h1, h2, hne, hd, h19⟩, hb⟩
    have hm : optMinus (sg ++ (ds ++ post)) = (sg, ds ++ post) :=
      optMinus_eq_iff.mpr ⟨rfl, h1, h2, fun _ => stops_run (fun c h => (isDigit_not_sign h).1) hne hd _⟩
    have hsd : spanDigits (ds ++ post) = (ds, post) := spanDigits_eq_iff.mpr ⟨rfl, hd, boundary_stops_digit hb⟩
    rw [List.append_assoc]
    simp only [matchInt, hm, hsd]
    simp [hne, h19, hb]

theorem matchInt_shape {b t : Bytes} (h : matchInt b = some t) :
    ∃ sg ds, t = sg ++ ds ∧ (sg = [] ∨ sg = [0x2D]) ∧ ds ≠ [] ∧
      (∀ c ∈ ds, isDigit c = true) ∧ (ds.dropWhile (· == 0x30)).length ≤ 19 := by
  obtain ⟨_, _, ⟨sg, ds, rfl, h1, h2, hne, hd, h19⟩, _⟩ := matchInt_eq_some_iff.mp h
  refine ⟨sg, ds, rfl, ?_, hne, hd, h19⟩
  match sg, h1, h2 with
  | [], _, _ => exact .inl rfl
  | [c], _, h2 => exact .inr (by rw [h2 c (by simp)])

theorem okVal_neg (v : Nat) : okVal true v = inInt64 (-(v : Int)) := by
  unfold okVal inInt64
  rw [cutoff_val]
  by_cases h1 : v < 9223372036854775808
  · have : -(9223372036854775808 : Int) ≤ -(v : Int) := by omega
    have h2 : -(v : Int) < 9223372036854775808 := by omega
    simp [h1, this, h2]
  · by_cases h2 : v = 9223372036854775808
    · subst h2; decide
    · have : ¬ -(9223372036854775808 : Int) ≤ -(v : Int) := by omega
      simp [h1, h2, this]

theorem okVal_pos (v : Nat) : okVal false v = inInt64 (v : Int) := by
  unfold okVal inInt64
  rw [cutoff_val]
  by_cases h1 : v < 9223372036854775808
  · have : -(9223372036854775808 : Int) ≤ (v : Int) := by omega
    have h2 : (v : Int) < 9223372036854775808 := by omega
    simp [h1, this, h2]
  · have h2 : ¬ (v : Int) < 9223372036854775808 := by omega
    simp [h1, h2]

/-- On every token the integer rule admits, `parseInt` returns the exact
mathematical value when it fits in an `int64` and panics (`none`) otherwise:
no silent wrap-around is possible within the rule's 19-digit bound. -/
theorem parseInt_exact {b t : Bytes} (h : matchInt b = some t) :
    parseInt t = if inInt64 (intTokVal t) then some (intTokVal t) else none := by
  obtain ⟨sg, ds, rfl, hsg, hne, hd, h19⟩ := matchInt_shape h
  rcases hsg with rfl | rfl
  · -- no sign
    cases ds with
    | nil => exact absurd rfl hne
    | cons c r =>
      have hc := hd c (by simp)
      have ⟨hm, hp⟩ := isDigit_not_sign hc
      simp only [List.nil_append]
      unfold parseInt
      simp only [hm, hp, Bool.false_eq_true, ↓reduceIte, List.cons_ne_nil]
      rw [parseIntLoop_token false (c :: r) hd h19]
      rw [okVal_pos]
      have : intTokVal (c :: r) = ((decValFrom 0 (c :: r) : Nat) : Int) := by
        simp [intTokVal, hm]
      rw [this]
      by_cases hv : inInt64 ((decValFrom 0 (c :: r) : Nat) : Int) = true
      · simp [hv]
      · simp [hv]
  · -- minus sign
    simp only [List.cons_append, List.nil_append]
    unfold parseInt
    have e1 : ((0x2D : UInt8) == 0x2B) = false := by decide
    have e2 : ((0x2D : UInt8) == 0x2D) = true := by decide
    simp only [e1, e2, Bool.false_eq_true, ↓reduceIte, hne]
    rw [parseIntLoop_token true ds hd h19]
    rw [okVal_neg]
    have : intTokVal (0x2D :: ds) = -((decValFrom 0 ds : Nat) : Int) := by
      simp [intTokVal]
    rw [this]
    by_cases hv : inInt64 (-((decValFrom 0 ds : Nat) : Int)) = true
    · simp [hv]
    · simp [hv]

/-! ## what a result of `numTok` means -/

theorem numTok_float {c : Bool} {b t : Bytes} (h : numTok c b = .float t) :
    matchFloat c b = some t ∧ (parseFloat false t).isSome = true := by
  revert h
  fun_cases numTok c b with
  | case1 t' hm hp => intro h; cases h; exact ⟨hm, hp⟩
  | case2 | case3 | case4 | case5 => intro h; cases h

theorem numTok_int {c : Bool} {b t : Bytes} (h : numTok c b = .int t) :
    matchInt b = some t ∧ (parseInt t).isSome = true := by
  revert h
  fun_cases numTok c b with
  | case3 _ t' hm hp => intro h; cases h; exact ⟨hm, hp⟩
  | case1 | case2 | case4 | case5 => intro h; cases h

/-! ## string tokens -/

theorem isHex_hexVal {c : UInt8} (h : isHex c = true) : ∃ v, hexVal c = some v := by
  unfold hexVal
  by_cases h1 : isDigit c = true
  · simp [h1]
  · by_cases h2 : ((0x61 : UInt8) ≤ c && c ≤ 0x66) = true
    · simp [h1, h2]
    · by_cases h3 : ((0x41 : UInt8) ≤ c && c ≤ 0x46) = true
      · simp [h1, h2, h3]
      · unfold isHex at h
        simp [h1, h2, h3] at h

theorem hexByte_some {a b : UInt8} (ha : isHex a = true) (hb : isHex b = true) :
    ∃ v, hexByte a b = some v := by
  obtain ⟨x, hx⟩ := isHex_hexVal ha
  obtain ⟨y, hy⟩ := isHex_hexVal hb
  exact ⟨x * 16 + y, by simp [hexByte, hx, hy]⟩

theorem isOct_bounds {c : UInt8} (h : isOct c = true) : 48 ≤ c.toNat ∧ c.toNat ≤ 55 :=
  range_bounds (lo := 0x30) (hi := 0x37) h

/-- well-formed string body: what the string rule admits between the quotes
(plain bytes, and complete escapes) -/
inductive WF : Bytes → Prop
  | nil : WF []
  | plain (c : UInt8) (r : Bytes) : (c == 0x5C) = false → WF r → WF (c :: r)
  | esc (c2 : UInt8) (k : Nat) (hex : Bool) (args tail : Bytes) :
      ruleEsc c2 = some (k, hex) → args.length = k → digitsOK hex args = true → WF tail →
      WF (0x5C :: c2 :: (args ++ tail))

theorem WF.u_inv {g0 g1 g2 g3 : UInt8} {rest : Bytes} (h : WF (0x5C :: 0x75 :: g0 :: g1 :: g2 :: g3 :: rest)) :
    (isHex g0 = true ∧ isHex g1 = true ∧ isHex g2 = true ∧ isHex g3 = true) ∧ WF rest := by
  generalize e : (0x5C : UInt8) :: 0x75 :: g0 :: g1 :: g2 :: g3 :: rest = s at h
  cases h with
  | nil => cases e
  | plain c r hc hr => cases e; cases hc
  | esc c2 k hex args tl hr hl hd ht =>
    injection e with _ e
    injection e with e1 e
    subst e1
    cases (show ruleEsc 0x75 = some (4, true) by decide).symm.trans hr
    match args, hl, e with
    | [a0, a1, a2, a3], _, e =>
      cases e
      simpa [digitsOK] using And.intro hd ht

/-- the surrogate-pair look-ahead consumes either nothing or exactly one
complete following `\uXXXX` escape, and cannot panic on a well-formed rest -/
theorem surrPair_ok (r : Nat) (tail : Bytes) (hw : WF tail) :
    ∃ out rest, surrPair r tail = some (out, rest) ∧ WF rest ∧ rest.length ≤ tail.length := by
  fun_cases surrPair r tail with
  | case1 h c d g0 g1 g2 g3 rest2 hcd a b hb ha hr =>
    simp only [Bool.and_eq_true, beq_iff_eq] at hcd
    obtain ⟨rfl, rfl⟩ := hcd
    exact ⟨_, _, rfl, (WF.u_inv hw).2, by simp only [List.length_cons]; omega⟩
  | case3 h c d g0 g1 g2 g3 rest2 hcd hnone =>
    simp only [Bool.and_eq_true, beq_iff_eq] at hcd
    obtain ⟨rfl, rfl⟩ := hcd
    obtain ⟨⟨h0, h1, h2, h3⟩, _⟩ := WF.u_inv hw
    obtain ⟨v, hv⟩ := hexByte_some h0 h1
    obtain ⟨w, hw'⟩ := hexByte_some h2 h3
    exact (hnone _ _ hw' hv).elim
  | case2 | case4 | case5 | case6 => exact ⟨_, _, rfl, hw, Nat.le_refl _⟩
/-- the escape forms the string rule admits are exactly handled by the
`switch` of `unquoteBytes`, which consumes the digits the rule demanded -/
theorem goEscape_ok {c2 : UInt8} {k : Nat} {hex : Bool} (args tail : Bytes)
    (hr : ruleEsc c2 = some (k, hex)) (hl : args.length = k) (hd : digitsOK hex args = true)
    (hnu : (c2 == 0x75) = false) :
    ∃ out, goEscape c2 (args ++ tail) = some (out, tail) := by
  revert hr
  fun_cases ruleEsc c2 with
  | case1 hs =>
    intro hr; cases hr
    cases List.length_eq_zero_iff.mp hl
    simp only [Bool.or_eq_true, beq_iff_eq] at hs
    rcases hs with ((((((((h | h) | h) | h) | h) | h) | h) | h) | h) | h <;> subst h <;>
      simp [goEscape, isOct]
  | case2 _ ho =>
    intro hr; cases hr
    have ⟨b1, b2⟩ := isOct_bounds ho
    match args, hl with
    | [o0, o1], _ =>
      simp only [digitsOK, Bool.false_eq_true, ↓reduceIte, List.all_cons, List.all_nil,
        Bool.and_true, Bool.and_eq_true] at hd
      unfold goEscape
      have e : ∀ k : UInt8, k.toNat > 55 → (c2 == k) = false :=
        fun k hk => beq_eq_false_iff_ne.mpr fun e => by subst e; omega
      rw [e 0x61 (by decide), e 0x62 (by decide), e 0x66 (by decide), e 0x6E (by decide),
        e 0x72 (by decide), e 0x74 (by decide), e 0x76 (by decide), e 0x78 (by decide),
        e 0x75 (by decide), e 0x55 (by decide)]
      simp [ho, hd.1, hd.2]
  | case3 _ _ hx =>
    intro hr; cases hr
    cases eq_of_beq hx
    match args, hl with
    | [h0, h1], _ =>
      simp only [digitsOK, ↓reduceIte, List.all_cons, List.all_nil, Bool.and_true,
        Bool.and_eq_true] at hd
      obtain ⟨v, hv⟩ := hexByte_some hd.1 hd.2
      simp [goEscape, hv]
  | case4 _ _ _ hu => rw [hnu] at hu; cases hu
  | case5 _ _ _ _ hU =>
    intro hr; cases hr
    cases eq_of_beq hU
    match args, hl with
    | [h0, h1, h2, h3, h4, h5, h6, h7], _ =>
      simp only [digitsOK, ↓reduceIte, List.all_cons, List.all_nil, Bool.and_true,
        Bool.and_eq_true] at hd
      obtain ⟨v1, hv1⟩ := hexByte_some hd.1 hd.2.1
      obtain ⟨v2, hv2⟩ := hexByte_some hd.2.2.1 hd.2.2.2.1
      obtain ⟨v3, hv3⟩ := hexByte_some hd.2.2.2.2.1 hd.2.2.2.2.2.1
      obtain ⟨v4, hv4⟩ := hexByte_some hd.2.2.2.2.2.2.1 hd.2.2.2.2.2.2.2
      simp [goEscape, hv1, hv2, hv3, hv4]
  | case6 => intro hr; cases hr
/-- `\uXXXX`: four hex digits, then the surrogate-pair look-ahead -/
theorem goEscape_u (args tail : Bytes) (hl : args.length = 4) (hd : digitsOK true args = true)
    (hw : WF tail) :
    ∃ out rest, goEscape 0x75 (args ++ tail) = some (out, rest) ∧ WF rest ∧ rest.length ≤ tail.length := by
  match args, hl with
  | [h0, h1, h2, h3], _ =>
    simp only [digitsOK, ↓reduceIte, List.all_cons, List.all_nil, Bool.and_true,
      Bool.and_eq_true] at hd
    obtain ⟨v, hv⟩ := hexByte_some hd.1 hd.2.1
    obtain ⟨w, hw'⟩ := hexByte_some hd.2.2.1 hd.2.2.2
    obtain ⟨out, rest, h1, h2, h3⟩ := surrPair_ok (w + v * 256) tail hw
    exact ⟨out, rest, by simp [goEscape, hv, hw', h1], h2, h3⟩

theorem goEscape_wf {c2 : UInt8} {k : Nat} {hex : Bool} (args tail : Bytes)
    (hr : ruleEsc c2 = some (k, hex)) (hl : args.length = k) (hd : digitsOK hex args = true)
    (hw : WF tail) :
    ∃ out rest, goEscape c2 (args ++ tail) = some (out, rest) ∧ WF rest ∧ rest.length ≤ tail.length := by
  by_cases hu : (c2 == 0x75) = true
  · have hc2 : c2 = 0x75 := eq_of_beq hu
    subst hc2
    have : ruleEsc 0x75 = some (4, true) := by decide
    rw [this] at hr; injection hr with hr; injection hr with h1 h2
    subst h1; subst h2
    exact goEscape_u args tail hl hd hw
  · have hnu : (c2 == 0x75) = false := by simpa using hu
    obtain ⟨out, h⟩ := goEscape_ok args tail hr hl hd hnu
    exact ⟨out, tail, h, hw, Nat.le_refl _⟩

/-- a successful step of `scanBody`: the closing quote, a copied byte, or a complete escape -/
theorem scanBody_cons {f : Nat} {c : UInt8} {r body : Bytes} (h : scanBody (f + 1) (c :: r) = some body) :
    (c = 0x22 ∧ body = []) ∨
    ((c == 0x22) = false ∧ (c == 0x5C) = false ∧ ∃ b', scanBody f r = some b' ∧ body = c :: b') ∨
    (c = 0x5C ∧ ∃ c2 r2 k hex b', r = c2 :: r2 ∧ ruleEsc c2 = some (k, hex) ∧ (r2.take k).length = k ∧
      digitsOK hex (r2.take k) = true ∧ scanBody f (r2.drop k) = some b' ∧
      body = 0x5C :: c2 :: (r2.take k ++ b')) := by
  unfold scanBody at h
  by_cases hq : (c == 0x22) = true
  · rw [if_pos hq] at h
    exact .inl ⟨eq_of_beq hq, (Option.some.inj h).symm⟩
  · rw [if_neg hq] at h
    by_cases hb : (c == 0x5C) = true
    · rw [if_pos hb] at h
      cases eq_of_beq hb
      refine .inr (.inr ⟨rfl, ?_⟩)
      cases r with
      | nil => cases h
      | cons c2 r2 =>
        cases hr : ruleEsc c2 with
        | none => simp [hr] at h
        | some kh =>
          simp only [hr] at h
          split at h
          · rename_i hcond
            simp only [Bool.and_eq_true, beq_iff_eq] at hcond
            cases hs : scanBody f (r2.drop kh.1) with
            | none => simp [hs] at h
            | some b' =>
              simp only [hs, Option.map_some, Option.some.injEq] at h
              exact ⟨c2, r2, kh.1, kh.2, b', rfl, hr, hcond.1, hcond.2, hs, h.symm⟩
          · cases h
    · rw [if_neg hb] at h
      cases hs : scanBody f r with
      | none => simp [hs] at h
      | some b' =>
        simp only [hs, Option.map_some, Option.some.injEq] at h
        exact .inr (.inl ⟨by simpa using hq, by simpa using hb, b', rfl, h.symm⟩)

theorem scanBody_wf : ∀ (f : Nat) (s body : Bytes), scanBody f s = some body → WF body
  | 0, _, _, h => by simp [scanBody] at h
  | _ + 1, [], _, h => by simp [scanBody] at h
  | f + 1, c :: r, body, h => by
    rcases scanBody_cons h with ⟨_, rfl⟩ | ⟨_, hb, b', hs, rfl⟩ | ⟨rfl, c2, r2, k, hex, b', rfl, hr, hl, hd, hs, rfl⟩
    · exact WF.nil
    · exact WF.plain c b' hb (scanBody_wf f _ _ hs)
    · exact WF.esc c2 k hex _ b' hr hl hd (scanBody_wf f _ _ hs)

theorem wf_unq : ∀ (g : Nat) (body : Bytes), WF body → body.length < g →
    ∃ out, unqLoop g body = some out := by
  intro g
  induction g with
  | zero => intro body _ h; omega
  | succ g ih =>
    intro body hw hg
    cases hw with
    | nil => exact ⟨[], by simp [unqLoop]⟩
    | plain c r hc hr =>
      obtain ⟨o2, ho2⟩ := ih r hr (by simp only [List.length_cons] at hg; omega)
      have hne : (c != 0x5C) = true := by simp [bne, hc]
      exact ⟨c :: o2, by simp [unqLoop, hne, ho2]⟩
    | esc c2 k hex args tail hr hl hd ht =>
      obtain ⟨out, rest, h1, h2, h3⟩ := goEscape_wf args tail hr hl hd ht
      have hlen : rest.length < g := by
        simp only [List.length_cons, List.length_append] at hg; omega
      obtain ⟨o2, ho2⟩ := ih rest h2 hlen
      exact ⟨out ++ o2, by simp [unqLoop, h1, ho2]⟩

theorem matchString_unquote {b t : Bytes} (h : matchString b = some t) :
    ∃ out, unquoteBytes t = some out := by
  unfold matchString at h
  split at h
  · rename_i r
    cases hs : scanBody (r.length + 1) r with
    | none => simp [hs] at h
    | some body =>
      simp only [hs, Option.map_some, Option.some.injEq] at h
      subst h
      obtain ⟨out, hout⟩ := wf_unq (body.length + 1) body (scanBody_wf _ _ body hs) (by omega)
      exact ⟨out, by simp [unquoteBytes, hout]⟩
  · cases h

/-! ## nextToken / Lex progress -/

theorem nextToken_progress (R : Rules) (h : Bytes) :
    (nextToken R h).1 ≠ INVALID → 0 < (nextToken R h).2.length := by
  unfold nextToken
  simp only
  split
  · intro _; assumption
  · split
    · intro _; assumption
    · intro hne; exact absurd rfl hne

theorem lex_total (R : Rules) (isSkip : Nat → Bool) (hskip : isSkip INVALID = false) :
    ∀ (f : Nat) (s : Bytes), s.length < f → ∃ r, lex R isSkip f s = some r := by
  intro f
  induction f with
  | zero => intro s h; omega
  | succ f ih =>
    intro s h
    cases s with
    | nil => exact ⟨(0, [], []), by simp [lex]⟩
    | cons c r =>
      unfold lex
      simp only
      by_cases hs : isSkip (nextToken R (c :: r)).1 = true
      · simp only [hs, ↓reduceIte]
        apply ih
        have hne : (nextToken R (c :: r)).1 ≠ INVALID := by
          intro e; rw [e, hskip] at hs; cases hs
        have := nextToken_progress R (c :: r) hne
        simp only [List.length_drop, List.length_cons] at *
        omega
      · simp only [hs]
        exact ⟨_, rfl⟩

/-! ## src_stm action -/

theorem srcAction_no_panic (cmd : Bytes) : srcAction cmd ≠ .panic := by
  unfold srcAction
  split <;> simp

theorem srcAction_error_iff (cmd : Bytes) : srcAction cmd = .error ↔ fields cmd = [] := by
  unfold srcAction
  split <;> simp_all

end Martian.Lexer
