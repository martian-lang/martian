import Martian.SemaphoreRefresh
import Proofs.Semaphore

/-! `GetSystemReqs` / `Enqueue` after float → integer conversion: bounds and
fixed points of the stages of `normalize`, the roundings `acquireAmounts` applies, the `int64`
conversion of the process rlimit, and what the updates of `refreshResources` compute. -/
namespace Martian.Semaphore

theorem adaptive_pos (a r : Int) (h : r < 0) : 0 < adaptive a r := by
  unfold adaptive; split <;> omega

theorem capTo_bounds (cap x : Int) (hc : 0 < cap) (hx : 0 < x) :
    0 < capTo cap x ∧ capTo cap x ≤ cap ∧ capTo cap x ≤ x := by
  unfold capTo; split <;> omega

theorem capTo_fix (cap x : Int) (h : x ≤ cap) : capTo cap x = x := by
  unfold capTo; split <;> omega

theorem normCenti_eq (c : LocalCfg) (x : Int) :
    normCenti c x = capTo (c.maxCores * 100)
      (if x = 0 then c.threadsPerJob * 100 else if x < 0 then c.maxCores * 100 else x) := rfl

theorem normCenti_bounds (c : LocalCfg) (hc : Sane c) (x : Int) :
    0 < normCenti c x ∧ normCenti c x ≤ c.maxCores * 100 := by
  obtain ⟨h1, _, h3, _, _⟩ := hc
  have h := capTo_bounds (c.maxCores * 100)
    (if x = 0 then c.threadsPerJob * 100 else if x < 0 then c.maxCores * 100 else x) (by omega)
    (by split; omega; split <;> omega)
  exact ⟨h.1, h.2.1⟩

theorem normCenti_fix (c : LocalCfg) (x : Int) (h0 : 0 < x) (h1 : x ≤ c.maxCores * 100) :
    normCenti c x = x := by
  rw [normCenti_eq, if_neg (by omega), if_neg (by omega)]
  exact capTo_fix _ _ h1

theorem reqMem0_pos (c : LocalCfg) (hc : Sane c) (cur m : Int) : 0 < reqMem0 c cur m := by
  obtain ⟨_, _, _, h4, _⟩ := hc
  unfold reqMem0
  split
  · omega
  · split
    · exact adaptive_pos _ _ (by omega)
    · omega

theorem reqMem0_fix (c : LocalCfg) (cur m : Int) (h : 0 < m) : reqMem0 c cur m = m := by
  unfold reqMem0; rw [if_neg (by omega), if_neg (by omega)]

/-- What `GetSystemReqs` guarantees of the vmem request `v` it returns beside the
memory request `mem`: never 0; when positive, at least `mem`; with a vmem
semaphore, positive and within the limit unless raised to `mem`. -/
def VmemNormal (c : LocalCfg) (mem v : Int) : Prop :=
  v ≠ 0 ∧ (0 < v → mem ≤ v) ∧ (0 < c.maxVmemMB → 0 < v ∧ (v ≤ c.maxVmemMB ∨ v = mem))

theorem reqV1_nolimit (c : LocalCfg) (h : ¬ 0 < c.maxVmemMB) (vcur v : Int) : reqV1 c vcur v = v := by
  unfold reqV1
  by_cases hn : v < 0
  · rw [if_pos hn, if_neg h]
  · rw [if_neg hn]

theorem reqV2_nolimit (c : LocalCfg) (h : ¬ 0 < c.maxVmemMB) (v : Int) : reqV2 c v = v := by
  unfold reqV2; exact if_neg fun h' => h h'.1

theorem reqV_normal (c : LocalCfg) (hc : Sane c) (vcur mem0 mem v : Int) (hm0 : 0 < mem0) (hm : 0 < mem) :
    VmemNormal c mem (reqV3 mem (reqV2 c (reqV1 c vcur (reqV0 c mem0 v)))) := by
  obtain ⟨_, _, _, _, h5⟩ := hc
  have h0 : reqV0 c mem0 v ≠ 0 := by unfold reqV0; split <;> omega
  generalize reqV0 c mem0 v = v0 at h0
  by_cases hv : 0 < c.maxVmemMB
  · have h1 : 0 < reqV1 c vcur v0 := by
      unfold reqV1
      by_cases hneg : v0 < 0
      · rw [if_pos hneg, if_pos hv]; exact adaptive_pos _ _ hneg
      · rw [if_neg hneg]; omega
    generalize reqV1 c vcur v0 = v1 at h1
    have h2 : 0 < reqV2 c v1 ∧ reqV2 c v1 ≤ c.maxVmemMB := by
      unfold reqV2; split <;> omega
    generalize reqV2 c v1 = v2 at h2
    unfold reqV3
    split
    · exact ⟨by omega, fun _ => Int.le_refl _, fun _ => ⟨hm, Or.inr rfl⟩⟩
    · exact ⟨by omega, by omega, fun _ => ⟨h2.1, Or.inl h2.2⟩⟩
  · rw [reqV1_nolimit c hv, reqV2_nolimit c hv]
    unfold reqV3
    split
    · exact ⟨by omega, fun _ => Int.le_refl _, fun h => absurd h hv⟩
    · exact ⟨h0, by omega, fun h => absurd h hv⟩

theorem reqV_fix (c : LocalCfg) (vcur mem0 mem v : Int) (h : VmemNormal c mem v) :
    reqV3 mem (reqV2 c (reqV1 c vcur (reqV0 c mem0 v))) = v := by
  obtain ⟨h0, hmem, hlim⟩ := h
  have e0 : reqV0 c mem0 v = v := if_neg h0
  rw [e0]
  by_cases hv : 0 < c.maxVmemMB
  · obtain ⟨hpos, hle⟩ := hlim hv
    have e1 : reqV1 c vcur v = v := if_neg (by omega)
    rw [e1]
    -- capped to the limit, then raised back to `mem`, when `v = mem` exceeds the limit
    have := hmem hpos
    unfold reqV2 reqV3
    split <;> split <;> omega
  · rw [reqV1_nolimit c hv, reqV2_nolimit c hv]
    unfold reqV3
    split <;> omega

/-- `int64(VMemGB) * 1024`: truncation of a non-negative amount to whole GB -/
theorem truncGB_bounds (v : Int) (h : 0 ≤ v) :
    0 ≤ Int.tdiv v 1024 * 1024 ∧ Int.tdiv v 1024 * 1024 ≤ v := by
  rw [Int.tdiv_eq_ediv_of_nonneg h]; omega

/-- `(centiCores + 99) / 100`: whole cores, rounded up -/
theorem ceilCores_bounds (x cores : Int) (h0 : 0 ≤ x) (h : x ≤ cores * 100) :
    0 ≤ Int.tdiv (x + 99) 100 ∧ Int.tdiv (x + 99) 100 ≤ cores := by
  rw [Int.tdiv_eq_ediv_of_nonneg (by omega)]; omega

theorem toInt64_le (c m : Nat) (hcm : c ≤ m) (hm64 : m < 2 ^ 64)
    (gm : startingThreadCount < toInt64 m) : toInt64 c ≤ toInt64 m := by
  -- `m` passes the guard, so it is below 2^63, and `c ≤ m` with it
  unfold toInt64 startingThreadCount at *
  by_cases hc : c < 2 ^ 63 <;> by_cases hm : m < 2 ^ 63 <;>
    simp only [hc, hm, if_true, if_false] at gm ⊢ <;> omega

end Martian.Semaphore

namespace Martian.SemaphoreRefresh
open Martian.Semaphore

theorem freeUsedCur_full (s : Sem) (f u : Int) (hu : u ≤ s.reserved) (hf : s.max ≤ f + u) :
    freeUsedCur s f u = s.max := by
  simp only [freeUsedCur, hu, if_true]
  split
  · rfl
  · omega

theorem freeUsedCur_mono (s : Sem) (f1 f2 u : Int) (h : f1 ≤ f2) :
    freeUsedCur s f1 u ≤ freeUsedCur s f2 u := by
  simp only [freeUsedCur]
  split
  · split <;> split <;> omega
  · split <;> split <;> omega

theorem setCur_noWaiters (s : Sem) (c : Int) (h : s.waiters = []) :
    (s.setCur c).1 = { s with cur := c } := by
  unfold Sem.setCur
  split
  · simp [Sem.wake, h, runJobs]
  · rfl

theorem step_updFreeUsed_cur (s : Sem) (f u : Int) :
    (step s (.updFreeUsed f u)).1.cur = freeUsedCur s f u := step_cur s _

theorem step_updActual_cur (s : Sem) (n : Int) :
    (step s (.updActual n)).1.cur = if n + s.reserved > s.max then s.max else n + s.reserved :=
  step_cur s _

theorem ceilMB_mono (a b : Int) (h : a ≤ b) : ceilMB a ≤ ceilMB b := by
  simp only [ceilMB, MB]; omega

theorem ceilMB_zero : ceilMB 0 = 0 := by decide

theorem ceilMB_ge (a m : Int) (h : m * MB ≤ a) : m ≤ ceilMB a := by
  simp only [ceilMB, MB] at *; omega

end Martian.SemaphoreRefresh
