import Proofs.FormatStageParse
import Proofs.FormatDeclLex
import Proofs.FormatResParse

/-!
C09: the lexing layer of stage declarations, in two parts.  First (`Martian.FormatRes`) the trailing
clauses: the src line, `using (…)`, `retain (…)` and the minimal stage `Stage0` each lex as their token
sequence (`LexOK`, whatever text follows), with the round trip `parseStage0_fmtStage0`.  Second
(`Martian.FormatStage`, with its own comment) the whole declaration: `lexOK_fmtStage`,
`parseStage_fmtStage`.
-/

namespace Martian.FormatRes
open Martian.Lexer (Bytes isWord numTok)
open Martian.Format (quoteString)
open Martian.FormatExp
open Martian.FormatCall (tLP tRP tEq LexOK.wordSp wordEnd_spaces lexOK_sp lexOK_nl lexOK_punctNl)

/-- the printed `mem_gb`/`vmem_gb` value is its one token, before a terminator -/
theorem LexOK.gb (mb : Int) (hb : mb.natAbs < 2 ^ 63) : LexOK (fmtGB mb) [tokGB mb] TermStart := by
  have h := numTok_fmtGB mb hb
  unfold tokGB
  by_cases hm : mb.natAbs % 1024 = 0
  · simp only [hm, ↓reduceIte] at h ⊢; exact LexOK.int h
  · simp only [hm, ↓reduceIte] at h ⊢; exact LexOK.float h

theorem LexOK.threads (t : Bytes) (h : wfThreads t = true) : LexOK t [tokThreads t] TermStart := by
  have : (isFloatTok t || isCanonInt t) = true := by
    simp only [wfThreads, Bool.or_eq_true, Bool.and_eq_true] at h ⊢
    rcases h with h | h
    · exact Or.inl h.1
    · exact Or.inr h
  exact LexOK.floatExp this

theorem lexOK_keyEq {key : Bytes} {k : Tok} (hw : key.all isWord = true)
    (hk : wordLexeme key = .tok k) (n : Nat) :
    LexOK (indent ++ key ++ spaces n ++ sEq) [k, tEq] AnyRest := by
  have h4 : LexOK [0x3D, 0x20] [tEq] AnyRest := (LexOK.punct (c := 0x3D) (by decide) AnyRest).app (lexOK_sp _)
  exact (((LexOK.spaces all_isSp_indent AnyRest).app ((LexOK.word hw hk).padded n)).app h4).congr
    (by simp [sEq]) (by simp)

theorem lexOK_entry {key val : Bytes} {k : Tok} {tv : List Tok} (hw : key.all isWord = true)
    (hk : wordLexeme key = .tok k) (n : Nat) (hv : LexOK val tv TermStart) :
    LexOK (indent ++ key ++ spaces n ++ sEq ++ val ++ sEnd) ([k, tEq] ++ tv ++ [tComma]) AnyRest := by
  have h := LexOK.item (lexOK_keyEq hw hk n) hv (LexOK.nil AnyRest)
  exact h.congr (by simp [sEnd]) (by simp)

theorem memPad_spaces (r : Res) : ∃ n, memPad r = spaces n := by
  unfold memPad
  split
  · exact ⟨2, rfl⟩
  · split
    · exact ⟨1, rfl⟩
    · exact ⟨0, rfl⟩

theorem threadPad_spaces (r : Res) : ∃ n, threadPad r = spaces n := by
  unfold threadPad
  split
  · exact ⟨1, rfl⟩
  · exact ⟨0, rfl⟩

theorem lexOK_memLine (n : Nat) (a : Option Int) (h : ∀ mb, a = some mb → mb.natAbs < 2 ^ 63) :
    LexOK (memLine (spaces n) a) (toksMem a) AnyRest := by
  cases a with
  | none => exact LexOK.nil _
  | some mb =>
    exact (lexOK_entry (key := sMemGb) (k := .id sMemGb) (by decide) (by decide) n (LexOK.gb mb (h mb rfl))).congr
      (by simp [memLine]) (by simp [toksMem])

theorem lexOK_vmemLine (n : Nat) (a : Option Int) (h : ∀ mb, a = some mb → mb.natAbs < 2 ^ 63) :
    LexOK (vmemLine (spaces n) a) (toksVmem a) AnyRest := by
  cases a with
  | none => exact LexOK.nil _
  | some mb =>
    exact (lexOK_entry (key := sVmemGb) (k := .id sVmemGb) (by decide) (by decide) n (LexOK.gb mb (h mb rfl))).congr
      (by simp [vmemLine]) (by simp [toksVmem])

theorem lexOK_specialLine (n : Nat) (a : Option Bytes)
    (h : ∀ s, a = some s → Martian.ShellQuote.validUtf8 s = true) :
    LexOK (specialLine (spaces n) a) (toksSpecial a) AnyRest := by
  cases a with
  | none => exact LexOK.nil _
  | some s =>
    exact (lexOK_entry (key := sSpecial) (k := .id sSpecial) (by decide) (by decide) n (LexOK.str (h s rfl) _)).congr
      (by simp [specialLine]) (by simp [toksSpecial])

theorem lexOK_threadsLine (n : Nat) (a : Option Bytes) (h : ∀ t, a = some t → wfThreads t = true) :
    LexOK (threadsLine (spaces n) a) (toksThreads a) AnyRest := by
  cases a with
  | none => exact LexOK.nil _
  | some t =>
    exact (lexOK_entry (key := sThreads) (k := .id sThreads) (by decide) (by decide) n (LexOK.threads t (h t rfl))).congr
      (by simp [threadsLine]) (by simp [toksThreads])

theorem lexOK_volatileLine (a : Option Bool) : LexOK (volatileLine a) (toksVolatile a) AnyRest := by
  cases a with
  | none => exact LexOK.nil _
  | some b =>
    have hv : LexOK (if b then sStrict else sFalse) [if b then .id sStrict else .kFalse] TermStart := by
      cases b
      · exact LexOK.kw all_isWord_false wordLexeme_false
      · exact LexOK.kw (by decide) (by decide)
    have h := lexOK_entry (key := sVolatile) (k := .id sVolatile) (by decide) (by decide) 0 hv
    exact h.congr (by simp [volatileLine, spaces]) (by simp [toksVolatile])

theorem lexOK_open {w : Bytes} (hw : w.all isWord = true) (hk : wordLexeme w = .tok (.id w)) :
    LexOK ([0x29, 0x20] ++ w ++ [0x20, 0x28, 0x0A]) [tRP, .id w, tLP] AnyRest := by
  have h1 : LexOK [0x29] [tRP] AnyRest := LexOK.punct (by decide) _
  have h := ((h1.app (lexOK_sp _)).app (LexOK.wordSp hw hk)).app (lexOK_punctNl (c := 0x28) (by decide))
  exact h.congr (by simp) (by simp)

theorem lexOK_fmtResBody (r : Res) (hw : wfRes r = true) :
    LexOK (fmtResBody r) (toksResBody r) AnyRest := by
  obtain ⟨h1, h2, h3, h4⟩ := wfRes_parts hw
  obtain ⟨nm, hm⟩ := memPad_spaces r
  obtain ⟨nt, ht⟩ := threadPad_spaces r
  unfold fmtResBody toksResBody
  rw [hm, ht]
  exact ((((lexOK_memLine nm r.mem h1).app (lexOK_specialLine nt r.special h3)).app
    (lexOK_threadsLine nt r.threads h4)).app
    (lexOK_vmemLine nt r.vmem h2)).app (lexOK_volatileLine r.volatile)

theorem lexOK_fmtRes (r : Res) (hw : wfRes r = true) : LexOK (fmtRes r) (toksRes r) AnyRest := by
  have h := (lexOK_open (w := sUsing) (by decide) (by decide)).app (lexOK_fmtResBody r hw)
  exact h.congr (by simp [fmtRes, sUsingOpen]) (by simp [toksRes])

theorem lexOK_retainLines : ∀ ids : List Bytes, ids.all isIdent = true →
    LexOK (retainLines ids) (toksRetainBody ids) AnyRest
  | [], _ => LexOK.nil _
  | x :: ids, hw => by
    simp only [List.all_cons, Bool.and_eq_true] at hw
    have h1 : LexOK indent [] AnyRest := LexOK.spaces all_isSp_indent _
    have h2 := LexOK.ident hw.1
    have h3 : LexOK [0x2C] [tComma] AnyRest := LexOK.punct (by decide) _
    have h4 : LexOK [0x0A] [] AnyRest := LexOK.spaces (by decide) _
    have h := (((h1.app h2).append h3
      (fun _ _ => WordEnd.cons _ _ (by decide))).app h4).app
      (lexOK_retainLines ids hw.2)
    exact h.congr (by simp [retainLines, sEnd]) (by simp [toksRetainBody])

theorem lexOK_fmtRetain (ids : List Bytes) (hw : wfRetain ids = true) :
    LexOK (fmtRetain ids) (toksRetain ids) AnyRest := by
  have h := (lexOK_open (w := sRetain) (by decide) (by decide)).app (lexOK_retainLines ids hw)
  exact h.congr (by simp [fmtRetain, sRetainOpen]) (by simp [toksRetain])

theorem lexOK_fmtSrc (mw tw : Nat) (lang : Lang) (path : Bytes) (args : List Bytes)
    (hw : wfSrc path args = true) :
    LexOK (fmtSrc mw tw lang path args) (toksSrc lang path args) AnyRest := by
  simp only [wfSrc, Bool.and_eq_true] at hw
  have h1 : LexOK indent [] AnyRest := LexOK.spaces all_isSp_indent _
  have h2 : LexOK (sSrc ++ [0x20]) [.reserved sSrc] AnyRest := LexOK.wordSp (by decide) (by decide)
  have h3 : LexOK (spaces (mw - 3)) [] AnyRest := LexOK.spaces (all_isSp_spaces _) _
  have h4 : LexOK lang.text [langTok lang] WordEnd :=
    LexOK.word (by cases lang <;> decide) (by cases lang <;> decide)
  have h6 : LexOK (quoteString (joinSp (path :: args))) [.str (quoteString (joinSp (path :: args)))]
      AnyRest := LexOK.str hw.2 _
  have h := ((((h1.app h2).app h3).app (h4.padded (tw - lang.text.length))).app h6).app
    (lexOK_punctNl (c := 0x2C) (by decide))
  exact h.congr (by simp [fmtSrc, sEnd]) (by simp [toksSrc])

theorem lexOK_fmtTail (res : Option Res) (ret : Option (List Bytes))
    (hw1 : (match res with | some r => wfRes r | none => true) = true)
    (hw2 : (match ret with | some ids => wfRetain ids | none => true) = true) :
    LexOK (fmtTail res ret) (toksTail res ret) AnyRest := by
  have h3 : LexOK [0x29, 0x0A] [tRP] AnyRest := lexOK_punctNl (by decide)
  cases res with
  | none =>
    cases ret with
    | none => exact h3.congr (by simp [fmtTail]) (by simp [toksTail])
    | some ids =>
      exact ((lexOK_fmtRetain ids hw2).app h3).congr
        (by simp [fmtTail]) (by simp [toksTail])
  | some r =>
    cases ret with
    | none =>
      exact ((lexOK_fmtRes r hw1).app h3).congr
        (by simp [fmtTail]) (by simp [toksTail])
    | some ids =>
      exact (((lexOK_fmtRes r hw1).app (lexOK_fmtRetain ids hw2)).app h3).congr
        (by simp [fmtTail]) (by simp [toksTail])

theorem lexOK_fmtStage0 (s : Stage0) (hw : wfStage0 s = true) :
    LexOK (fmtStage0 s) (toksStage0 s) AnyRest := by
  simp only [wfStage0, Bool.and_eq_true] at hw
  obtain ⟨⟨⟨hid, hsrc⟩, hres⟩, hret⟩ := hw
  have h0 := Martian.FormatDecl.lexOK_declHead (w := sStage) (k := .reserved sStage) (by decide) (by decide) hid
  have h := (h0.app
    (lexOK_fmtSrc 3 0 s.lang s.path s.args hsrc)).app (lexOK_fmtTail s.res s.retain hres hret)
  exact h.congr (by simp [fmtStage0]) (by simp [toksStage0])

theorem parseStage0_fmtStage0 (s : Stage0) (hw : wfStage0 s = true) :
    parseStage0 (fmtStage0 s) = some s := by
  simp only [parseStage0, (lexOK_fmtStage0 s hw).lexAll_nil, Option.bind_some]
  exact pStage0_toks s hw

end Martian.FormatRes


/-!
C09: the lexing layer of the round trip of whole `stage` declarations: the
printed declaration, followed by any text, lexes as `toksStage s` followed by
the tokens of that text (`lexOK_fmtStage`: whatever the column widths
`Stage.format` arrives at, quirk or not), and the round trip
`parseStage (fmtStage s) = some s`.
-/

namespace Martian.FormatStage
open Martian.Lexer (Bytes isWord)
open Martian.FormatExp
open Martian.FormatCall (tLP tRP LexOK.wordSp all_isWord_split wordLexeme_split)
open Martian.FormatDecl (Param fmtParams toksParams lexOK_fmtParams)
open Martian.FormatRes (lexOK_fmtSrc lexOK_fmtTail lexOK_open sStage)

theorem lexOK_fmtSplit (s : Stage) (h1 : s.chunkIns.all Martian.FormatDecl.wfParam = true)
    (h2 : s.chunkOuts.all Martian.FormatDecl.wfParam = true) :
    LexOK (fmtSplit s) (toksSplit s) AnyRest := by
  unfold fmtSplit toksSplit
  cases s.split with
  | false => exact LexOK.nil _
  | true =>
    have h := ((lexOK_open all_isWord_split wordLexeme_split).app
      (lexOK_fmtParams (modeW s) (typeW s) (chunkW s).1 (chunkW s).2 s.chunkIns h1)).app
      (lexOK_fmtParams (modeW s) (typeW s) (chunkW s).1 (chunkW s).2 s.chunkOuts h2)
    exact h.congr (by simp [sSplitOpen]) (by simp)

theorem lexOK_fmtStage (s : Stage) (hw : wfStage s = true) :
    LexOK (fmtStage s) (toksStage s) AnyRest := by
  obtain ⟨hid, h2, _, h4, _, h6, _, h8, _, _, h11, h12, h13⟩ := wfStage_parts hw
  have h0 := Martian.FormatDecl.lexOK_declHead (w := sStage) (k := .reserved sStage) (by decide) (by decide) hid
  have h := ((((h0.app
    (lexOK_fmtParams (modeW s) (typeW s) (idW s) (helpW s) s.ins h2)).app
    (lexOK_fmtParams (modeW s) (typeW s) (idW s) (helpW s) s.outs h4)).app
    (lexOK_fmtSrc (modeW s) (typeW s) s.lang s.path s.args h11)).app
    (lexOK_fmtSplit s h6 h8)).app
    (lexOK_fmtTail s.res s.retain h12 h13)
  exact h.congr (by simp [fmtStage]) (by simp [toksStage])

theorem lexAll_fmtStage (s : Stage) (hw : wfStage s = true) : lexAll (fmtStage s) = some (toksStage s) :=
  (lexOK_fmtStage s hw).lexAll_nil

theorem parseStage_fmtStage (s : Stage) (hw : wfStage s = true) : parseStage (fmtStage s) = some s := by
  simp only [parseStage, lexAll_fmtStage s hw, Option.bind_some]
  exact pStageAll_toks s hw

end Martian.FormatStage
