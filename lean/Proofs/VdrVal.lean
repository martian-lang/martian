import Martian.VdrEval

/-! A value of a type that cannot name files names no files; the typed walk reaches every value
reference; every file name in a delivered value is a file name of a value some fork of a
referenced node produced for the referenced output. -/
namespace Martian.Vdr

theorem member_notFile {ms : Ty} {k : String} {t : Ty} (h : ms.isFile = false) (hm : ms.member k = some t) :
    t.isFile = false := by
  induction ms with
  | mcons n t' r _ ihr =>
    simp only [Ty.isFile, Bool.or_eq_false_iff] at h
    simp only [Ty.member] at hm
    split at hm
    · cases hm; exact h.1
    · exact ihr h.2 hm
  | struct m ih =>
    simp only [Ty.isFile] at h
    simp only [Ty.member] at hm
    exact ih h hm
  | _ => simp [Ty.member] at hm

theorem notFile_names (v : Val) :
    (∀ t, conforms v t = true → t.isFile = false → v.names = []) ∧
    (∀ e, allElems v e = true → v.keysOk = true → e.isFile = false → v.names = []) ∧
    (∀ ms, allMembers v ms = true → ms.isFile = false → v.names = []) := by
  induction v with
  | null | atom | vnil => exact ⟨fun _ _ _ => rfl, fun _ _ _ _ => rfl, fun _ _ _ => rfl⟩
  | str s =>
    refine ⟨?_, fun _ h _ _ => ?_, fun _ h _ => ?_⟩
    · intro t hc hf
      cases t <;> simp_all [conforms, Ty.isFile]
    · simp [allElems] at h
    · simp [allMembers] at h
  | vcons k v r ihv ihr =>
    refine ⟨?_, ?_, ?_⟩
    · intro t hc; simp [conforms] at hc
    · intro e he hk hf
      simp only [allElems, Bool.and_eq_true] at he
      simp only [Val.keysOk, Bool.and_eq_true, Bool.not_eq_true'] at hk
      simp only [Val.names, hk.1]
      rw [ihv.1 e he.1 hf, ihr.2.1 e he.2 hk.2 hf]
      rfl
    · intro ms hm hf
      simp only [allMembers, Bool.and_eq_true, Bool.not_eq_true'] at hm
      obtain ⟨⟨h1, h2⟩, h3⟩ := hm
      simp only [Val.names, h2]
      split at h1
      · rename_i t ht
        rw [ihv.1 t h1 (member_notFile hf ht), ihr.2.2 ms h3 hf]
        rfl
      · cases h1
  | arr es ih =>
    refine ⟨?_, fun _ h _ _ => (by simp [allElems] at h), fun _ h _ => (by simp [allMembers] at h)⟩
    · intro t hc hf
      cases t with
      | arr e =>
        simp only [conforms, Bool.and_eq_true] at hc
        simp only [Ty.isFile] at hf
        simp only [Val.names]
        exact ih.2.1 e hc.1 hc.2 hf
      | umap => simp [Ty.isFile] at hf
      | _ => simp [conforms] at hc
  | obj es ih =>
    refine ⟨?_, fun _ h _ _ => (by simp [allElems] at h), fun _ h _ => (by simp [allMembers] at h)⟩
    · intro t hc hf
      cases t with
      | tmap e =>
        simp only [conforms, Bool.and_eq_true, Bool.or_eq_true] at hc
        simp only [Ty.isFile] at hf
        simp only [Val.names]
        rcases hc.2 with h | h
        · rw [hf] at h; cases h
        · exact ih.2.1 e hc.1 h hf
      | struct ms =>
        simp only [conforms] at hc
        simp only [Ty.isFile] at hf
        simp only [Val.names]
        exact ih.2.2 ms hc hf
      | umap => simp [Ty.isFile] at hf
      | prim b =>
        simp only [conforms] at hc
        simp only [Ty.isFile] at hf
        rw [hf] at hc; cases hc
      | _ => simp [conforms] at hc

/-- every reference of `rs` occurs among the typed references `ts` -/
def Cover (rs : List (Node × Arg)) (ts : List TRef) : Prop := ∀ r ∈ rs, ∃ b, (r.1, r.2, b) ∈ ts

theorem Cover.nil (ts : List TRef) : Cover [] ts := fun _ h => by cases h

theorem Cover.append {a b : List (Node × Arg)} {x y : List TRef} (h1 : Cover a x) (h2 : Cover b y) :
    Cover (a ++ b) (x ++ y) := by
  intro r hr
  rcases List.mem_append.mp hr with h | h
  · obtain ⟨b, hb⟩ := h1 r h; exact ⟨b, List.mem_append_left _ hb⟩
  · obtain ⟨b, hb⟩ := h2 r h; exact ⟨b, List.mem_append_right _ hb⟩

theorem Cover.left {a : List (Node × Arg)} {x y : List TRef} (h1 : Cover a x) : Cover a (x ++ y) := by
  intro r hr
  obtain ⟨b, hb⟩ := h1 r hr; exact ⟨b, List.mem_append_left _ hb⟩

theorem walk_covers (e : BExp) :
    (∀ t, wellTyped e t = true → Cover e.valueRefs (typedRefs e t)) ∧
    (∀ t, wtElems e t = true → Cover e.valueRefs (elemRefs e t)) ∧
    (∀ ms, wtMembers e ms = true → Cover e.valueRefs (memberRefs e ms)) ∧
    (∀ mode t, wtSplit mode e t = true → Cover e.valueRefs (splitRefs mode e t)) := by
  induction e with
  | const | nil =>
    exact ⟨fun _ _ => Cover.nil _, fun _ _ => Cover.nil _, fun _ _ => Cover.nil _, fun _ _ _ => Cover.nil _⟩
  | ref n o =>
    refine ⟨?_, fun _ h => (by simp [wtElems] at h), fun _ h => (by simp [wtMembers] at h), ?_⟩
    · intro t _ r hr
      simp only [BExp.valueRefs, List.mem_singleton] at hr
      subst hr
      exact ⟨t.isFile, by simp [typedRefs]⟩
    · intro mode t _ r hr
      simp only [BExp.valueRefs, List.mem_singleton] at hr
      subst hr
      exact ⟨t.isFile, by simp [splitRefs]⟩
  | cons k e r ihe ihr =>
    refine ⟨fun _ h => (by simp [wellTyped] at h), ?_, ?_, fun _ _ h => (by simp [wtSplit] at h)⟩
    · intro t h
      simp only [wtElems, Bool.and_eq_true] at h
      simp only [BExp.valueRefs, elemRefs]
      exact (ihe.1 t h.1).append (ihr.2.1 t h.2)
    · intro ms h
      simp only [wtMembers, Bool.and_eq_true] at h
      simp only [BExp.valueRefs, memberRefs]
      obtain ⟨h1, h2⟩ := h
      split at h1
      · rename_i t ht
        simp only [ht]
        exact (ihe.1 t h1).append (ihr.2.2.1 ms h2)
      · cases h1
  | arr es ih =>
    refine ⟨?_, fun _ h => (by simp [wtElems] at h), fun _ h => (by simp [wtMembers] at h), ?_⟩
    · intro t h
      cases t with
      | arr e =>
        simp only [wellTyped] at h
        simp only [BExp.valueRefs, typedRefs]
        exact ih.2.1 e h
      | _ => simp [wellTyped] at h
    · intro mode t h
      simp only [wtSplit] at h
      simp only [BExp.valueRefs, splitRefs]
      exact ih.2.1 t h
  | map es ih =>
    refine ⟨?_, fun _ h => (by simp [wtElems] at h), fun _ h => (by simp [wtMembers] at h), ?_⟩
    · intro t h
      cases t with
      | tmap e =>
        simp only [wellTyped] at h
        simp only [BExp.valueRefs, typedRefs]
        exact ih.2.1 e h
      | struct ms =>
        simp only [wellTyped] at h
        simp only [BExp.valueRefs, typedRefs]
        exact ih.2.2.1 ms h
      | umap =>
        intro r hr
        simp only [BExp.valueRefs] at hr
        refine ⟨true, ?_⟩
        simp only [typedRefs, List.mem_map]
        exact ⟨r, hr, rfl⟩
      | _ => simp [wellTyped] at h
    · intro mode t h
      simp only [wtSplit] at h
      simp only [BExp.valueRefs, splitRefs]
      exact ih.2.1 t h
  | split m2 v ih =>
    refine ⟨?_, fun _ h => (by simp [wtElems] at h), fun _ h => (by simp [wtMembers] at h), ?_⟩
    · intro t h
      simp only [wellTyped] at h
      simp only [BExp.valueRefs, typedRefs]
      exact ih.2.2.2 m2 t h
    · intro mode t h
      simp only [wtSplit] at h
      simp only [BExp.valueRefs, splitRefs]
      exact ih.2.2.2 m2 _ h
  | merge v ih =>
    refine ⟨?_, fun _ h => (by simp [wtElems] at h), fun _ h => (by simp [wtMembers] at h), ?_⟩
    · intro t h
      cases t with
      | arr el =>
        simp only [wellTyped] at h
        simp only [BExp.valueRefs, typedRefs]
        exact ih.1 el h
      | tmap el =>
        simp only [wellTyped] at h
        simp only [BExp.valueRefs, typedRefs]
        exact ih.1 el h
      | _ => simp [wellTyped] at h
    · intro mode t h
      simp only [wtSplit] at h
      simp only [BExp.valueRefs, splitRefs]
      exact ih.1 _ h
  | disabled v d ihv _ =>
    refine ⟨?_, fun _ h => (by simp [wtElems] at h), fun _ h => (by simp [wtMembers] at h), ?_⟩
    · intro t h
      simp only [wellTyped, Bool.and_eq_true] at h
      simp only [BExp.valueRefs, typedRefs]
      exact (ihv.1 t h.1).left
    · intro mode t h
      simp only [wtSplit, Bool.and_eq_true] at h
      simp only [BExp.valueRefs, splitRefs]
      exact (ihv.2.2.2 mode t h.1).left

theorem ElemOf.names {x c : Val} (h : ElemOf x c) : ∀ s ∈ x.names, s ∈ c.names := by
  induction h with
  | here =>
    intro s hs
    simp only [Val.names, List.mem_append]
    exact Or.inl (Or.inr hs)
  | there _ ih =>
    intro s hs
    simp only [Val.names, List.mem_append]
    exact Or.inr (ih s hs)

theorem delivers_names {env : Env} {all : Bool} {e : BExp} {v : Val} (h : Delivers env all e v) :
    ∀ s ∈ v.names, ∃ r ∈ e.valueRefs, ∃ w ∈ env r.1 r.2, s ∈ w.names := by
  induction h with
  | const hn => intro s hs; rw [hn] at hs; cases hs
  | @ref n o v hm =>
    intro s hs
    exact ⟨(n, o), by simp [BExp.valueRefs], v, hm, hs⟩
  | nil | splitNull | disabledOn | allNil => intro s hs; simp [Val.names] at hs
  | cons hk _ _ ih1 ih2 =>
    intro s hs
    simp only [Val.names, hk, List.mem_append] at hs
    rcases hs with (hs | hs) | hs
    · simp at hs
    · obtain ⟨r, hr, w, hw, hsw⟩ := ih1 s hs
      exact ⟨r, by simp [BExp.valueRefs, hr], w, hw, hsw⟩
    · obtain ⟨r, hr, w, hw, hsw⟩ := ih2 s hs
      exact ⟨r, by simp [BExp.valueRefs, hr], w, hw, hsw⟩
  | arr _ ih | map _ ih | mergeArr _ ih | mergeObj _ ih | disabledOff _ ih => intro s hs; exact ih s hs
  | splitArr _ he ih | splitObj _ he ih => intro s hs; exact ih s (he.names s hs)
  | allCons hk _ _ ih1 ih2 =>
    intro s hs
    simp only [Val.names, hk, List.mem_append] at hs
    rcases hs with (hs | hs) | hs
    · simp at hs
    · exact ih1 s hs
    · exact ih2 s hs

theorem delivers_reach {env : Env} {e : BExp} {v : Val} (h : Delivers env false e v) :
    ∀ s ∈ v.names, s ∈ reach env e := by
  intro s hs
  obtain ⟨r, hr, w, hw, hsw⟩ := delivers_names h s hs
  unfold reach
  simp only [List.mem_flatMap]
  exact ⟨r, hr, w, hw, hsw⟩

end Martian.Vdr
