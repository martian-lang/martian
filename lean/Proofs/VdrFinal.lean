import Proofs.VdrShrink
import Martian.Vdr

/-! Two parts.  First, what a final fork has lost: for every configuration a complete-state pass with all post
nodes done makes the fork final (`kill_final_any`); a final fork has no entry of the temp directories left
(`TInv`), and if it is neither volatile nor strict but splits, no chunk-level file (`CInv`).  Then the merge of
kill reports (`mergeReports`, `mergeEvents`): `sumDelta_mergeEvents`, `present`, `foldl_mergeAcc`. -/
namespace Martian.Vdr

theorem vdrKillSome_final_done (c : Cfg) (s : St) : (vdrKillSome c s true).final = true := by
  unfold vdrKillSome
  dsimp only
  split
  · rfl
  · simp

theorem kill_final_any {c : Cfg} {s : St}
    (hdone : ∀ p ∈ s.postNodes, p.1 ∈ s.doneNodes) : (kill c s).final = true := by
  rw [kill_eq]
  split
  · rename_i h; exact h
  · obtain ⟨_, pn, _, _, dn⟩ := cleanTmp_fields c s 3
    have hemp : (dropDone (cleanTmp c s 3)).postNodes.isEmpty = true := by
      rw [List.isEmpty_iff]
      apply List.eq_nil_iff_forall_not_mem.mpr
      intro p hp
      obtain ⟨h1, h2⟩ := removePostNodes_keys _ _ p hp
      apply h2 p.1 _ rfl
      simp only [List.mem_filter, List.mem_map, List.contains_iff_mem]
      exact ⟨⟨p, h1, rfl⟩, dn ▸ hdone p (pn ▸ h1)⟩
    rw [if_pos hemp]
    split
    · exact vdrKillSome_final_done c _
    · rw [vdrKill_eq]
      split
      · rename_i h; exact h
      · split
        · exact vdrKillSome_final_done c _
        · rfl

structure TInv (c : Cfg) (s : St) : Prop where
  clean : ∀ ph ∈ s.ran, ∀ d ∈ s.disk, d.kind ≠ .tmp ph
  fin : s.final = true → Ready c s

/-- same cleaned phases, fewer entries, final only if ready -/
theorem TInv.shrink {c : Cfg} {s s' : St} (t : TInv c s) (hr : s'.ran = s.ran)
    (hd : ∀ d ∈ s'.disk, d ∈ s.disk) (hf : s'.final = true → Ready c s) : TInv c s' := by
  refine ⟨?_, ?_⟩
  · intro ph hp d hdd; rw [hr] at hp; exact t.clean ph hp d (hd d hdd)
  · intro h ph hn; rw [hr]; exact hf h ph hn

theorem TInv.ofFrame {c : Cfg} {s s' : St} (t : TInv c s) (f : Frame s s') : TInv c s' :=
  t.shrink f.ran (fun _ h => f.disk ▸ h) (fun h => t.fin (f.final ▸ h))

theorem TInv.cleanPhase {c : Cfg} {s : St} (t : TInv c s) (ph : Nat) : TInv c (cleanPhase c s ph) := by
  refine ⟨?_, ?_⟩
  · unfold Martian.Vdr.cleanPhase
    split
    · exact t.clean
    · intro x hx d hd
      have hd' := List.mem_filter.mp hd
      rcases List.mem_cons.mp hx with rfl | hx
      · intro e; rw [e] at hd'; simp at hd'
      · exact t.clean x hx d hd'.1
  · intro hf x hn
    rw [(cleanPhase_fields c s ph).2.2.2.1] at hf
    exact cleanPhase_ran_mono c s ph x (t.fin hf x hn)

/-- the fork is declared final only after all temp phases have been cleaned -/
theorem TInv.vdrKillSome {c : Cfg} {s : St} (t : TInv c s) (rd : Ready c s) (done : Bool) :
    TInv c (vdrKillSome c s done) :=
  vdrKillSome_induct (P := fun s' => Ready c s' ∧ TInv c s')
    (fun s' h => have f := normCache_frame c s'
      ⟨fun ph hn => f.ran ▸ h.1 ph hn, h.2.shrink f.ran (fun _ hd => f.disk ▸ hd) (fun hf => h.2.fin (f.final ▸ hf))⟩)
    (fun _ _ _ _ h => ⟨h.1, h.2.shrink rfl (fun _ hd => (List.mem_filter.mp hd).1) h.2.fin⟩) (fun _ h => h.2)
    (fun _ _ _ _ _ _ h => h.2.shrink rfl (fun _ hd => hd) (fun _ => h.1)) ⟨rd, t⟩

theorem TInv.own {c : Cfg} {s s' : St} (o : Own c s s') (t : TInv c s) : TInv c s' := by
  cases o with
  | removeEmpty => exact t.ofFrame (removeEmpty_frame c s)
  | cacheMap => have t' := t.ofFrame (cacheMap_frame c s); exact ⟨t'.clean, t'.fin⟩
  | cleanPhase ph _ => exact t.cleanPhase ph
  | dropDone _ => exact t.ofFrame (dropDone_frame s)
  | vdrKillSome done _ _ rd _ => exact t.vdrKillSome rd done
  | vdrKill hf _ rd _ =>
    exact vdrKill_cases hf (fun _ => t.vdrKillSome rd true)
      (fun _ => t.shrink rfl (fun _ h => (List.mem_filter.mp h).1) (fun _ => rd))

theorem TInv.run {c : Cfg} {s : St} (t : TInv c s) (evs : List Ev) : TInv c (run c s evs) :=
  run_induct (fun _ _ t => ⟨t.clean, t.fin⟩) (fun _ t => ⟨t.clean, t.fin⟩) (fun _ _ o t => t.own o) t evs

/-- a final fork has no chunk-level file of a splitting stage -/
def CInv (c : Cfg) (s : St) : Prop := s.final = true → ∀ d ∈ s.disk, ¬ (c.splits = true ∧ d.kind = .chunk)

theorem CInv.same {c : Cfg} {s s' : St} (i : CInv c s) (hd : ∀ d ∈ s'.disk, d ∈ s.disk) (hf : s'.final = s.final) :
    CInv c s' :=
  fun h d hd' => i (hf ▸ h) d (hd d hd')

theorem CInv.own {c : Cfg} {s s' : St} (hv : c.volatile = false) (hs : c.strict = false) (o : Own c s s')
    (i : CInv c s) : CInv c s' := by
  cases o with
  | removeEmpty =>
    have f := removeEmpty_frame c s
    exact i.same (fun _ h => f.disk ▸ h) f.final
  | cacheMap => exact i.same (fun _ h => (cacheMap_frame c s).disk ▸ h) (cacheMap_frame c s).final
  | cleanPhase ph _ => exact i.same (shr_cleanPhase c s ph).disk (cleanPhase_fields c s ph).2.2.2.1
  | dropDone _ => exact i.same (fun _ h => (dropDone_frame s).disk ▸ h) (dropDone_frame s).final
  | vdrKillSome _ _ hst _ _ => rw [hs] at hst; cases hst
  | vdrKill hf _ _ _ =>
    rw [vdrKill_nonvol hf hv]
    intro _ d hd ⟨h1, h2⟩
    have := (List.mem_filter.mp hd).2
    simp [h1, h2] at this

theorem CInv.run {c : Cfg} {s : St} (hv : c.volatile = false) (hs : c.strict = false) (i : CInv c s) (evs : List Ev) :
    CInv c (run c s evs) :=
  run_induct (fun _ _ i => i) (fun _ i => i) (fun _ _ o i => i.own hv hs o) i evs

end Martian.Vdr

/-! Accounting of removed bytes: `sumDelta` is preserved by `insertEv`, `sortEvs` and the merge of
events (`sumDelta_insertEv`, `sumDelta_sortEvs`, `sumDelta_mergeEvents`). -/
namespace Martian.Vdr

def sumDelta (l : List VEvent) : Int := (l.map (·.delta)).sum

@[simp] theorem sumDelta_nil : sumDelta [] = 0 := rfl
@[simp] theorem sumDelta_cons (e : VEvent) (l : List VEvent) : sumDelta (e :: l) = e.delta + sumDelta l := by
  simp [sumDelta]

theorem sumDelta_append (a b : List VEvent) : sumDelta (a ++ b) = sumDelta a + sumDelta b := by
  simp [sumDelta, List.sum_append]

theorem sumDelta_reverse (a : List VEvent) : sumDelta a.reverse = sumDelta a := by
  induction a with
  | nil => rfl
  | cons x r ih => simp [sumDelta_append, ih]; omega

theorem sumDelta_insertEv (e : VEvent) (l : List VEvent) : sumDelta (insertEv e l) = e.delta + sumDelta l := by
  induction l with
  | nil => simp [insertEv]
  | cons x r ih =>
    simp only [insertEv]
    split
    · simp
    · simp [ih]; omega

theorem sumDelta_sortEvs (l : List VEvent) : sumDelta (sortEvs l) = sumDelta l := by
  induction l with
  | nil => rfl
  | cons x r ih => simp [sortEvs, sumDelta_insertEv] at *; rw [ih]

theorem sumDelta_mergeStep (acc : List VEvent) (e : VEvent) :
    sumDelta (mergeStep acc e) = sumDelta acc + e.delta := by
  unfold mergeStep
  cases acc with
  | nil => simp
  | cons l r =>
    simp only
    split
    · simp; omega
    · simp; omega

theorem sumDelta_foldl_mergeStep (l acc : List VEvent) :
    sumDelta (l.foldl mergeStep acc) = sumDelta acc + sumDelta l := by
  induction l generalizing acc with
  | nil => simp
  | cons x r ih => simp [ih, sumDelta_mergeStep]; omega

theorem sumDelta_mergeEvents (l : List VEvent) : sumDelta (mergeEvents l) = sumDelta l := by
  unfold mergeEvents
  rw [sumDelta_reverse, sumDelta_foldl_mergeStep, sumDelta_sortEvs]
  simp

/-- the non-nil reports -/
def present (rs : List (Option KReport)) : List KReport := rs.filterMap id

theorem foldl_mergeAcc (rs : List (Option KReport)) (acc : KReport) :
    (rs.foldl mergeAcc acc).count = acc.count + ((present rs).map (·.count)).sum ∧
    (rs.foldl mergeAcc acc).size = acc.size + ((present rs).map (·.size)).sum ∧
    (rs.foldl mergeAcc acc).paths = acc.paths ++ ((present rs).map (·.paths)).flatten ∧
    sumDelta (rs.foldl mergeAcc acc).events = sumDelta acc.events + ((present rs).map (fun r => sumDelta r.events)).sum := by
  induction rs generalizing acc with
  | nil => simp [present]
  | cons r rest ih =>
    cases r with
    | none =>
      simpa [present, mergeAcc] using ih acc
    | some r =>
      have := ih (mergeAcc acc (some r))
      simp only [List.foldl_cons]
      obtain ⟨h1, h2, h3, h4⟩ := this
      refine ⟨?_, ?_, ?_, ?_⟩
      · rw [h1]; simp [present, mergeAcc]; omega
      · rw [h2]; simp [present, mergeAcc]; omega
      · rw [h3]; simp [present, mergeAcc]
      · rw [h4]; simp [present, mergeAcc, sumDelta_append]; omega

end Martian.Vdr
