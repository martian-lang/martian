import Martian.LexerLRCheck
import Martian.LexerLRGen
import Martian.LexerLRSem
import Martian.LexerLRSites

/-! Kernel-evaluated obligations on the regenerated parser facts (statements repeated, with their
explanations, in Props/C08.lean). -/
namespace Martian.LexerLR

/-- One evaluation for the two facts that read the productions of `Gen.mmProdRhs` by their numbers: the kernel walks the
list once for each number, and the second fact finds those walks done. -/
theorem gen_grammar_matches_tables :
    (Gen.mmProdRhs.length = NP genTables ∧
      ((List.range Gen.mmProdRhs.length).all fun n =>
        n == 0 || ((prodRhs n).length : Int) == (genTables.r2.get? n).getD (-1)) = true ∧
      (lhsPairs.all fun p => lhsPairs.all fun q => (p.1 == q.1) == (p.2 == q.2)) = true) ∧
    (Gen.mmConvSites.map fun s => (prodLhs s.1, s.2.1, siteSymbol s)) = expectedSites ∧
    (Gen.mmConvSites.all fun s => siteSymbol s == wants s.2.1 &&
      ["parseInt", "parseFloat", "tryParseFloat32", "unquote"].contains s.2.1) = true := by decide +kernel

theorem gen_lr_dollar_slices_match :
    (Gen.mmDollarLen.all fun p => (genTables.r2.get? p.1) == some (p.2 : Int)) = true ∧
    Gen.mmDollarLen.length > 0 := by decide +kernel

/-! ### The action texts

`==` on two string literals makes the kernel decode the UTF-8 bytes of both, at a cost quadratic in their length, at
every comparison.  The texts are therefore compared through one number each, `code` of their characters, which
`String.toList_ofList` hands over without evaluation: a literal unifies with `String.ofList _`.  The kernel computes
the number of a text once and compares numbers at no cost.  The tables are converted one entry at a time
(`semCodes_cons`, `bodyCodes_cons`): rewriting all literals inside one term tries every literal against every other. -/

/-- the characters as the digits of a number to the base 2^33, first character lowest; no digit is 0 -/
def code : List Char → Nat
  | [] => 0
  | c :: r => code r * 8589934592 + (c.toNat + 1)

theorem code_inj : ∀ {a b : List Char}, code a = code b → a = b
  | [], [], _ => rfl
  | [], _ :: _, h | _ :: _, [], h => by simp only [code] at h; omega
  | c :: r, d :: t, h => by
    have hc := c.val.toNat_lt
    have hd := d.val.toNat_lt
    simp only [code, Char.toNat] at h hc hd
    rw [Char.toNat_inj.mp (show c.toNat = d.toNat by simp only [Char.toNat]; omega),
      code_inj (a := r) (b := t) (by omega)]

theorem _root_.String.beq_eq_code_beq (a b : String) : (a == b) = (code a.toList == code b.toList) := by
  rw [Bool.eq_iff_iff, beq_iff_eq, beq_iff_eq]
  exact ⟨fun h => h ▸ rfl, fun h => String.toList_inj.mp (code_inj h)⟩

def semCodes : List (Nat × Sem) := semTable.map fun p => (code p.1.toList, p.2)
def bodyCodes : List (Nat × Nat) := Gen.mmProdBody.map fun p => (p.1, code p.2.toList)

theorem semCodes_eq (S : List (Nat × Sem)) (h : (semTable.map fun p => (code p.1.toList, p.2)) = S) : semCodes = S := h

theorem bodyCodes_eq (B : List (Nat × Nat)) (h : (Gen.mmProdBody.map fun p => (p.1, code p.2.toList)) = B) :
    bodyCodes = B := h

theorem semCodes_cons (l : List Char) (s : Sem) (rest : List (String × Sem)) (R : List (Nat × Sem))
    (h : rest.map (fun p => (code p.1.toList, p.2)) = R) :
    ((String.ofList l, s) :: rest).map (fun p => (code p.1.toList, p.2)) = (code l, s) :: R := by
  rw [List.map_cons, String.toList_ofList, h]

theorem bodyCodes_cons (n : Nat) (l : List Char) (rest : List (Nat × String)) (R : List (Nat × Nat))
    (h : rest.map (fun p => (p.1, code p.2.toList)) = R) :
    ((n, String.ofList l) :: rest).map (fun p => (p.1, code p.2.toList)) = (n, code l) :: R := by
  rw [List.map_cons, String.toList_ofList, h]

theorem semKind_eq_codes (n : Nat) :
    semKind n = (bodyCodes.find? (·.1 == n)).map fun p => (semCodes.find? (·.1 == p.2)).map (·.2) := by
  simp only [semKind, semOfBody, bodyCodes, semCodes, List.find?_map, Option.map_map, Function.comp_def,
    String.beq_eq_code_beq]

theorem recognised_iff_codes :
    ((semTable.all fun p => Gen.mmProdBody.any fun q => q.2 == p.1) = true ∧
      (semTable.all fun p => semTable.all fun q => p.1 != q.1 || p.2 == q.2) = true) ↔
    (semCodes.all fun p => bodyCodes.any fun q => q.2 == p.1) = true ∧
      (semCodes.all fun p => semCodes.all fun q => p.1 != q.1 || p.2 == q.2) = true := by
  simp only [semCodes, bodyCodes, List.all_map, List.any_map, Function.comp_def, bne, ← String.beq_eq_code_beq]

/-- The obligation on the action texts (Props.C08.lr_value_actions_recognised), and the actions of the productions by
which the parses of scalar values and of `[]`, `{}` reduce; one conversion of the tables and one evaluation for both. -/
theorem gen_action_texts :
    ((semTable.all fun p => Gen.mmProdBody.any fun q => q.2 == p.1) = true ∧
      (semTable.all fun p => semTable.all fun q => p.1 != q.1 || p.2 == q.2) = true) ∧
    semKind 7 = some (some .fileVal) ∧ semKind 128 = some (some .floatE) ∧ semKind 129 = some (some .intE) ∧
    semKind 130 = some (some .strE) ∧ semKind 131 = none ∧ semKind 132 = none ∧ semKind 133 = none ∧
    semKind 134 = some (some .nullE) ∧ semKind 137 = some (some .arrEmpty) ∧ semKind 141 = some (some .mapEmpty) ∧
    semKind 142 = some (some .trueE) ∧ semKind 143 = some (some .falseE) := by
  rw [recognised_iff_codes]
  simp only [semKind_eq_codes]
  rw [semCodes_eq]
  case h => unfold semTable; repeat apply semCodes_cons
            exact List.map_nil
  rw [bodyCodes_eq]
  case h => unfold Gen.mmProdBody; repeat apply bodyCodes_cons
            exact List.map_nil
  decide +kernel

end Martian.LexerLR
