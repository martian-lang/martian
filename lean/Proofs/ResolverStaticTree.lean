/-
C01 — the refinement "two-phase resolver = den" over the tree-shaped static phase of
Martian/ResolverStaticTree.lean (mapped pipelines, nested map calls).  Part 1: expressions — the
run-time evaluation depends on a fork assignment only through its lookups (`evalRT_congr`), `filterT`
is invisible to it (`evalRT_filterT`, L0), specialising an expression to a fork of a map call
(`pushFork`: an array index or a typed-map key; `split` and `merge` nodes of either mode included) is
evaluating it in that fork (`pushFork_evalRT`).
-/
import Martian.ResolverStaticTree
import Proofs.ResolverStaticExp

namespace Proofs.ResolverStatic
open Martian.Dataflow Martian.Resolver Martian.ResolverForks Martian.ResolverStatic Proofs.Dataflow
  Proofs.ResolverForks

def FEq (f g : ForkAssign) : Prop := ∀ c, f.lookup c = g.lookup c

/-- the store reads a fork assignment through its lookups only -/
def StoreExt (ρ : Store) : Prop :=
  ∀ node f g, FEq f g → ρ.outs node f = ρ.outs node g ∧ ∀ c, ρ.idx c f = ρ.idx c g

theorem fset_lookup_ne (f : ForkAssign) (c d : String) (ix : Idx) (h : (d == c) = false) :
    (fset f c ix).lookup d = f.lookup d := by
  simp only [fset, List.lookup_cons, h]
  exact Proofs.ListFacts.lookup_filter_ne (by simpa using h)

theorem fset_lookup_eq (f : ForkAssign) (c d : String) (ix : Idx) :
    (fset f c ix).lookup d = if (d == c) = true then some ix else f.lookup d := by
  cases hd : (d == c) with
  | true => rw [show d = c by simpa using hd, fset_lookup]; rfl
  | false => rw [fset_lookup_ne f c d ix hd]; rfl

theorem FEq.fset {f g : ForkAssign} (h : FEq f g) (c : String) (ix : Idx) : FEq (fset f c ix) (fset g c ix) := by
  intro d
  rw [fset_lookup_eq, fset_lookup_eq, h d]

theorem fset_comm (f : ForkAssign) (c c' : String) (ix ix' : Idx) (h : (c' == c) = false) :
    FEq (fset (fset f c ix) c' ix') (fset (fset f c' ix') c ix) := by
  intro d
  simp only [fset_lookup_eq]
  split
  · split
    · next h1 h2 => exact absurd ((eq_of_beq h1).symm.trans (eq_of_beq h2)) (by simpa using h)
    · rfl
  · rfl

theorem fset_idem_FEq (f : ForkAssign) (c : String) (ix ix' : Idx) :
    FEq (fset (fset f c ix) c ix') (fset f c ix') := by
  intro d
  rw [fset_fset]

section congr
variable (st : StructTable) (F : Nat) (ρ : Store) (hρ : StoreExt ρ)
include hρ

mutual
theorem evalRT_congr : ∀ (e : RExp) (t : Ty) (f g : ForkAssign), FEq f g →
    evalRT st F ρ f t e = evalRT st F ρ g t e
  | .lit j, t, f, g, h => by simp [evalRT]
  | .arr xs, t, f, g, h => by simp only [evalRT]; rw [evalRTList_congr xs _ f g h]
  | .map kvs, t, f, g, h => by
    have hm := evalRTMembers_congr kvs f g h
    have hf := fun t' => evalRTFields_congr kvs t' f g h
    simp only [evalRT, hm, hf]
  | .struct kvs, t, f, g, h => by
    have hm := evalRTMembers_congr kvs f g h
    have hf := fun t' => evalRTFields_congr kvs t' f g h
    simp only [evalRT, hm, hf]
  | .ref n sty p, t, f, g, h => by simp only [evalRT]; rw [(hρ n f g h).1]
  | .split c false e, t, f, g, h => by simp only [evalRT]; rw [evalRT_congr e _ f g h, h c]
  | .split c true e, t, f, g, h => by simp only [evalRT]; rw [evalRT_congr e _ f g h, h c]
  | .merge c false e, t, f, g, h => by
    simp only [evalRT]
    rw [(hρ c f g h).2 c]
    congr 1
    apply List.map_congr_left
    intro ix _
    exact evalRT_congr e _ _ _ (h.fset c ix)
  | .merge c true e, t, f, g, h => by
    simp only [evalRT]
    rw [(hρ c f g h).2 c]
    congr 1
    apply List.map_congr_left
    intro ix _
    rw [evalRT_congr e _ _ _ (h.fset c ix)]
  | .disabled d v, t, f, g, h => by
    simp only [evalRT]
    rw [evalRT_congr d _ f g h, evalRT_congr v t f g h]
  | .fork c ix e, t, f, g, h => by
    simp only [evalRT]
    exact evalRT_congr e t _ _ (h.fset c ix)
theorem evalRTList_congr : ∀ (es : List RExp) (t : Ty) (f g : ForkAssign), FEq f g →
    evalRTList st F ρ f t es = evalRTList st F ρ g t es
  | [], _, _, _, _ => by simp [evalRTList]
  | e :: es, t, f, g, h => by
    simp only [evalRTList]
    rw [evalRT_congr e t f g h, evalRTList_congr es t f g h]
theorem evalRTFields_congr : ∀ (kvs : List (String × RExp)) (t : Ty) (f g : ForkAssign), FEq f g →
    evalRTFields st F ρ f t kvs = evalRTFields st F ρ g t kvs
  | [], _, _, _, _ => by simp [evalRTFields]
  | (k, e) :: es, t, f, g, h => by
    simp only [evalRTFields]
    rw [evalRT_congr e t f g h, evalRTFields_congr es t f g h]
theorem evalRTMembers_congr : ∀ (kvs : List (String × RExp)) (f g : ForkAssign), FEq f g →
    ∀ ps, evalRTMembers st F ρ f ps kvs = evalRTMembers st F ρ g ps kvs
  | [], _, _, _, _ => by simp [evalRTMembers]
  | (k, e) :: es, f, g, h, ps => by
    simp only [evalRTMembers]
    rw [evalRT_congr e _ f g h, evalRTMembers_congr es f g h ps]
end

end congr

theorem lookup_filterTMembers (st : StructTable) (ps : List Param) :
    ∀ (kvs : List (String × RExp)) (k : String),
      (filterTMembers st ps kvs).lookup k = (kvs.lookup k).map (filterT st (memberTy ps k))
  | [], _ => by simp [filterTMembers]
  | (k', e) :: es, k => by
    simp only [filterTMembers, List.lookup_cons]
    cases hk : (k == k') with
    | true =>
      have : k = k' := by simpa using hk
      subst this
      simp
    | false => simpa using lookup_filterTMembers st ps es k

section L0T
variable (st : StructTable) (hst : StructsOk st) (nf : Nat) (ρ : Store) (f : ForkAssign)
include hst

omit hst in
theorem filterTList_eq_map (t : Ty) : ∀ xs : List RExp, filterTList st t xs = xs.map (filterT st t)
  | [] => rfl
  | x :: xs => by simp only [filterTList, List.map_cons, filterTList_eq_map t xs]

omit hst in
theorem filterTFields_eq_map (t : Ty) :
    ∀ kvs : List (String × RExp), filterTFields st t kvs = kvs.map fun kv => (kv.1, filterT st t kv.2)
  | [] => rfl
  | (k, e) :: es => by simp only [filterTFields, List.map_cons, filterTFields_eq_map t es]

theorem evalRT_filterT :
    ∀ (r : RExp) (t : Ty), HasTyR st t r →
      evalRT st nf ρ f t (filterT st t r) = evalRT st nf ρ f t r ∧ HasTyR st t (filterT st t r) := by
  intro r t h
  apply HasTyR.ind st (motive := fun t r =>
      evalRT st nf ρ f t (filterT st t r) = evalRT st nf ρ f t r ∧ HasTyR st t (filterT st t r)) (h := h)
  case null => intro t; exact ⟨rfl, Or.inl rfl⟩
  case atom => intro b s hl; exact ⟨rfl, Or.inr ⟨⟨s, rfl⟩, rfl, rfl, hl⟩⟩
  case arr =>
    intro b m n xs ih
    simp only [filterT]
    split
    · simp only [evalRT, HasTyR, Nat.add_sub_cancel, filterTList_eq_map, evalRTList_eq_map, List.map_map,
        HasTyRList_iff, List.forall_mem_map]
      exact ⟨congrArg _ (List.map_congr_left fun x hx => (ih x hx).2.1), by simp, fun x hx => (ih x hx).2.2⟩
    · exact ⟨rfl, Nat.succ_ne_zero n, (HasTyRList_iff st _ xs).mpr fun x hx => (ih x hx).1⟩
  case map =>
    intro b k kvs ih
    have c1 : ((0 : Nat) == 0 && k + 1 == 0) = false := by simp
    simp only [filterT, c1, Bool.false_eq_true, if_false]
    split
    · have c2 : ((0 : Nat) == 0 && (k + 1 != 0)) = true := by simp
      simp only [evalRT, c2, if_true, HasTyR, Nat.add_sub_cancel, filterTFields_eq_map, evalRTFields_eq_map,
        List.map_map, HasTyRFields_iff, List.forall_mem_map]
      exact ⟨congrArg _ (List.map_congr_left fun kv hkv => by simp only [Function.comp_apply, (ih kv hkv).2.1]),
        Or.inl ⟨trivial, by simp, fun kv hkv => (ih kv hkv).2.2⟩⟩
    · exact ⟨rfl, Or.inl ⟨rfl, Nat.succ_ne_zero k, (HasTyRFields_iff st _ kvs).mpr fun kv hkv => (ih kv hkv).1⟩⟩
  case json =>
    intro b kvs hl hj
    have e : filterT st ⟨b, 0, 0⟩ (.map kvs) = .map kvs := by simp [filterT, hl]
    rw [e]
    exact ⟨rfl, Or.inr ⟨rfl, rfl, hl, hj⟩⟩
  case struct =>
    intro b ps kvs hl hmem hall ih
    simp only [filterT, beq_self_eq_true, Bool.and_self, if_true, hl]
    exact evalRT_filterStruct st hst nf ρ f (filterT st) ⟨b, 0, 0⟩ ps kvs _ rfl rfl hl hall
      (fun p hp => by rw [lookup_filterTMembers, memberTy_mem (hst _ _ hl) hp])
      (fun p hp e he => ih p.name e (mem_of_lookup kvs _ _ he) p (find_name_of_nodup ps (hst _ _ hl) p hp))
  case ref => intro t n sty path h; exact ⟨rfl, h⟩
  case splitArr =>
    intro b m a c e h ih
    simp only [filterT]
    split
    · simp only [liftSplitTy, Bool.false_eq_true, if_false, evalRT, HasTyR, ih.1]
      exact ⟨trivial, ih.2⟩
    · exact ⟨rfl, h⟩
  case splitMap =>
    intro b a c e hnm h ih
    simp only [filterT]
    split
    · simp only [liftSplitTy, if_true, evalRT, HasTyR, ih.1]
      exact ⟨trivial, hnm, ih.2⟩
    · exact ⟨rfl, hnm, h⟩
  case mergeArr => intro b m n c e hns h _; exact ⟨rfl, Nat.succ_ne_zero n, hns, h⟩
  case mergeMap => intro b k c e hns h _; exact ⟨rfl, rfl, Nat.succ_ne_zero k, hns, h⟩
  case disabled =>
    intro t d v hd _ _ ih
    simp only [filterT, evalRT, HasTyR, ih.1]
    exact ⟨trivial, hd, ih.2⟩
  case fork => intro t c ix e h _; exact ⟨rfl, h⟩

theorem evalRT_filterTList :
    ∀ (rs : List RExp) (t : Ty), HasTyRList st t rs →
      evalRTList st nf ρ f t (filterTList st t rs) = evalRTList st nf ρ f t rs ∧
      HasTyRList st t (filterTList st t rs) := by
  intro rs t h
  have ih := fun r hr => evalRT_filterT st hst nf ρ f r t ((HasTyRList_iff st t rs).mp h r hr)
  rw [filterTList_eq_map, evalRTList_eq_map, evalRTList_eq_map, List.map_map, HasTyRList_iff, List.forall_mem_map]
  exact ⟨List.map_congr_left fun r hr => (ih r hr).1, fun r hr => (ih r hr).2⟩

theorem evalRT_filterTFields :
    ∀ (kvs : List (String × RExp)) (t : Ty), HasTyRFields st t kvs →
      evalRTFields st nf ρ f t (filterTFields st t kvs) = evalRTFields st nf ρ f t kvs ∧
      HasTyRFields st t (filterTFields st t kvs) := by
  intro kvs t h
  have ih := fun kv hkv => evalRT_filterT st hst nf ρ f kv.2 t ((HasTyRFields_iff st t kvs).mp h kv hkv)
  rw [filterTFields_eq_map, evalRTFields_eq_map, evalRTFields_eq_map, List.map_map, HasTyRFields_iff,
    List.forall_mem_map]
  exact ⟨List.map_congr_left fun kv hkv => by simp only [Function.comp_apply, (ih kv hkv).1],
    fun kv hkv => (ih kv hkv).2⟩

theorem evalRT_filterTMembers (ps : List Param) :
    ∀ (kvs : List (String × RExp)), HasTyRMembers st ps kvs →
      ∀ (k : String) (e : RExp) (p : Param), kvs.lookup k = some e →
        ps.find? (fun q => q.name == k) = some p →
        evalRT st nf ρ f p.ty (filterT st p.ty e) = evalRT st nf ρ f p.ty e ∧ HasTyR st p.ty (filterT st p.ty e) :=
  fun kvs hm k e p hl hf => evalRT_filterT st hst nf ρ f e p.ty (HasTyRMembers_lookup st ps kvs k e p hm hl hf)

end L0T

theorem pushForkList_eq_map (c : String) (ix : Idx) :
    ∀ xs : List RExp, pushForkList c ix xs = xs.map (pushFork c ix)
  | [] => rfl
  | x :: xs => by simp only [pushForkList, List.map_cons, pushForkList_eq_map c ix xs]

theorem pushForkFields_eq_map (c : String) (ix : Idx) :
    ∀ kvs : List (String × RExp), pushForkFields c ix kvs = kvs.map fun kv => (kv.1, pushFork c ix kv.2)
  | [] => rfl
  | (k, e) :: es => by simp only [pushForkFields, List.map_cons, pushForkFields_eq_map c ix es]

theorem pushOkList_iff (c : String) (m : Bool) :
    ∀ xs : List RExp, pushOkList c m xs = true ↔ ∀ x ∈ xs, pushOk c m x = true
  | [] => by simp [pushOkList]
  | x :: xs => by simp [pushOkList, pushOkList_iff c m xs]

theorem pushOkFields_iff (c : String) (m : Bool) :
    ∀ kvs : List (String × RExp), pushOkFields c m kvs = true ↔ ∀ kv ∈ kvs, pushOk c m kv.2 = true
  | [] => by simp [pushOkFields]
  | (k, e) :: es => by simp [pushOkFields, pushOkFields_iff c m es]

theorem lookup_pushForkFields (c : String) (ix : Idx) (kvs : List (String × RExp)) (k : String) :
    (pushForkFields c ix kvs).lookup k = (kvs.lookup k).map (pushFork c ix) := by
  rw [pushForkFields_eq_map]
  exact lookup_map_val (fun _ => pushFork c ix) kvs k

theorem mem_pushForkFields (c : String) (ix : Idx) (kvs : List (String × RExp)) (k : String) (e' : RExp)
    (h : (k, e') ∈ pushForkFields c ix kvs) : ∃ e, (k, e) ∈ kvs ∧ e' = pushFork c ix e := by
  rw [pushForkFields_eq_map] at h
  obtain ⟨⟨_, e⟩, he, hh⟩ := List.mem_map.mp h
  cases hh
  exact ⟨e, he, rfl⟩

theorem evalRTList_getD (st : StructTable) (F : Nat) (ρ : Store) (f : ForkAssign) (t : Ty)
    (xs : List RExp) (k : Nat) :
    (evalRTList st F ρ f t xs).getD k .null = evalRT st F ρ f t (xs.getD k (.lit .null)) := by
  rw [evalRTList_eq_map]
  exact getD_map (evalRT st F ρ f t) xs k (.lit .null)

theorem HasTyRList_getD (st : StructTable) (t : Ty) :
    ∀ (xs : List RExp) (k : Nat), HasTyRList st t xs → HasTyR st t (xs.getD k (.lit .null))
  | [], k, _ => by simp [HasTyR, LitOk]
  | x :: xs, 0, h => by simp only [HasTyRList] at h; simpa using h.1
  | x :: xs, k+1, h => by
    simp only [HasTyRList] at h
    simpa using HasTyRList_getD st t xs k h.2

theorem noMergeOf_mem (c : String) : ∀ (kvs : List (String × RExp)) (k : String) (e : RExp),
    noMergeOfFields c kvs = true → (k, e) ∈ kvs → noMergeOf c e = true
  | [], _, _, _, h => by simp at h
  | (k0, e0) :: es, k, e, hn, h => by
    simp only [noMergeOfFields, Bool.and_eq_true] at hn
    simp only [List.mem_cons, Prod.mk.injEq] at h
    cases h with
    | inl h => rw [h.2]; exact hn.1
    | inr h => exact noMergeOf_mem c es k e hn.2 h

theorem noSplitOf_getD (c : String) : ∀ (xs : List RExp) (k : Nat), noSplitOfList c xs = true →
    noSplitOf c (xs.getD k (.lit .null)) = true
  | [], _, _ => by simp [noSplitOf]
  | x :: xs, 0, h => by simp only [noSplitOfList, Bool.and_eq_true] at h; simpa using h.1
  | x :: xs, k+1, h => by
    simp only [noSplitOfList, Bool.and_eq_true] at h
    simpa using noSplitOf_getD c xs k h.2

theorem noSplitOf_selectIx (c : String) (ix : Idx) (e x : RExp) (h : noSplitOf c e = true)
    (hs : selectIx ix e = some x) : noSplitOf c x = true := by
  cases e with
  | arr xs =>
    simp only [noSplitOf] at h
    cases ix with
    | i n =>
      simp only [selectIx, Option.some.injEq] at hs
      subst hs
      exact noSplitOf_getD c xs n h
    | k s => simp only [selectIx, Option.some.injEq] at hs; subst hs; simp [noSplitOf]
    | none => simp only [selectIx, Option.some.injEq] at hs; subst hs; simp [noSplitOf]
  | map kvs =>
    simp only [noSplitOf] at h
    cases ix with
    | i n => simp only [selectIx, Option.some.injEq] at hs; subst hs; simp [noSplitOf]
    | k s =>
      simp only [selectIx, Option.some.injEq] at hs
      subst hs
      exact Proofs.ResolverForks.noSplitOf_lookup c kvs s h
    | none => simp only [selectIx, Option.some.injEq] at hs; subst hs; simp [noSplitOf]
  | lit _ => simp [selectIx] at hs
  | struct _ => simp [selectIx] at hs
  | ref _ _ _ => simp [selectIx] at hs
  | split _ _ _ => simp [selectIx] at hs
  | merge _ _ _ => simp [selectIx] at hs
  | disabled _ _ => simp [selectIx] at hs
  | fork _ _ _ => simp [selectIx] at hs

mutual
theorem noSplitOf_pushFork (c' c : String) (ix : Idx) :
    ∀ e : RExp, noSplitOf c' e = true → noSplitOf c' (pushFork c ix e) = true
  | .lit _, _ => by simp [pushFork, noSplitOf]
  | .arr xs, h => by simp only [pushFork, noSplitOf] at h ⊢; exact noSplitOf_pushForkList c' c ix xs h
  | .map kvs, h => by simp only [pushFork, noSplitOf] at h ⊢; exact noSplitOf_pushForkFields c' c ix kvs h
  | .struct kvs, h => by simp only [pushFork, noSplitOf] at h ⊢; exact noSplitOf_pushForkFields c' c ix kvs h
  | .ref _ _ _, _ => by simp [pushFork, noSplitOf]
  | .split c2 m e, h => by
    have h' := h
    simp only [noSplitOf, Bool.and_eq_true] at h
    have ih := noSplitOf_pushFork c' c ix e h.2
    simp only [pushFork]
    split
    · cases hs : selectIx ix (pushFork c ix e) with
      | some x => exact noSplitOf_selectIx c' ix _ x ih hs
      | none => simp only [noSplitOf]; exact h'
    · simp only [noSplitOf, Bool.and_eq_true]; exact ⟨h.1, ih⟩
  | .merge c2 m e, h => by
    simp only [noSplitOf] at h
    simp only [pushFork, noSplitOf]
    exact Proofs.ResolverForks.noSplitOf_mkMerge c' c2 m _ (noSplitOf_pushFork c' c ix e h)
  | .disabled d v, h => by
    simp only [noSplitOf, Bool.and_eq_true] at h
    simp only [pushFork, noSplitOf, Bool.and_eq_true]
    exact ⟨noSplitOf_pushFork c' c ix d h.1, noSplitOf_pushFork c' c ix v h.2⟩
  | .fork c2 ix2 e, h => by
    simp only [noSplitOf] at h
    simp only [pushFork]
    split
    · simp only [noSplitOf]; exact h
    · simp only [noSplitOf]; exact noSplitOf_pushFork c' c ix e h
theorem noSplitOf_pushForkList (c' c : String) (ix : Idx) :
    ∀ es : List RExp, noSplitOfList c' es = true → noSplitOfList c' (pushForkList c ix es) = true
  | [], _ => by simp [pushForkList, noSplitOfList]
  | e :: es, h => by
    simp only [noSplitOfList, Bool.and_eq_true] at h
    simp only [pushForkList, noSplitOfList, Bool.and_eq_true]
    exact ⟨noSplitOf_pushFork c' c ix e h.1, noSplitOf_pushForkList c' c ix es h.2⟩
theorem noSplitOf_pushForkFields (c' c : String) (ix : Idx) :
    ∀ es : List (String × RExp), noSplitOfFields c' es = true → noSplitOfFields c' (pushForkFields c ix es) = true
  | [], _ => by simp [pushForkFields, noSplitOfFields]
  | (k, e) :: es, h => by
    simp only [noSplitOfFields, Bool.and_eq_true] at h
    simp only [pushForkFields, noSplitOfFields, Bool.and_eq_true]
    exact ⟨noSplitOf_pushFork c' c ix e h.1, noSplitOf_pushForkFields c' c ix es h.2⟩
end

mutual
theorem pushFork_json (c : String) (ix : Idx) : ∀ e : RExp, jsonR e = true → pushFork c ix e = e
  | .lit _, _ => by simp [pushFork]
  | .arr xs, h => by simp only [jsonR] at h; simp only [pushFork, pushFork_jsonList c ix xs h]
  | .map kvs, h => by simp only [jsonR] at h; simp only [pushFork, pushFork_jsonFields c ix kvs h]
  | .struct _, h => by simp [jsonR] at h
  | .ref _ _ _, h => by simp [jsonR] at h
  | .split _ _ _, h => by simp [jsonR] at h
  | .merge _ _ _, h => by simp [jsonR] at h
  | .disabled _ _, h => by simp [jsonR] at h
  | .fork _ _ _, h => by simp [jsonR] at h
theorem pushFork_jsonList (c : String) (ix : Idx) : ∀ es : List RExp, jsonRList es = true → pushForkList c ix es = es
  | [], _ => rfl
  | e :: es, h => by
    simp only [jsonRList, Bool.and_eq_true] at h
    simp only [pushForkList, pushFork_json c ix e h.1, pushFork_jsonList c ix es h.2]
theorem pushFork_jsonFields (c : String) (ix : Idx) :
    ∀ es : List (String × RExp), jsonRFields es = true → pushForkFields c ix es = es
  | [], _ => rfl
  | (k, e) :: es, h => by
    simp only [jsonRFields, Bool.and_eq_true] at h
    simp only [pushForkFields, pushFork_json c ix e h.1, pushFork_jsonFields c ix es h.2]
end

theorem lookup_evalRTFields (st : StructTable) (F : Nat) (ρ : Store) (f : ForkAssign) (t : Ty)
    (kvs : List (String × RExp)) (s : String) :
    (evalRTFields st F ρ f t kvs).lookup s = (kvs.lookup s).map (evalRT st F ρ f t) := by
  rw [evalRTFields_eq_map]
  exact lookup_map_val (fun _ => evalRT st F ρ f t) kvs s

theorem HasTyRFields_lookupD (st : StructTable) (t : Ty) :
    ∀ (kvs : List (String × RExp)) (s : String), HasTyRFields st t kvs →
      HasTyR st t ((kvs.lookup s).getD (.lit .null))
  | [], _, _ => by simp [HasTyR, LitOk]
  | (k, e) :: es, s, h => by
    simp only [HasTyRFields] at h
    simp only [List.lookup_cons]
    cases (s == k) with
    | true => simpa using h.1
    | false => simpa using HasTyRFields_lookupD st t es s h.2

theorem idxMode_arr {ix : Idx} (h : IdxMode ix false) : ∃ j, ix = .i j := by
  cases ix <;> simp [IdxMode] at h ⊢

theorem idxMode_map {ix : Idx} (h : IdxMode ix true) : ∃ s, ix = .k s := by
  cases ix <;> simp [IdxMode] at h ⊢

section push
variable (st : StructTable) (hst : StructsOk st) (F : Nat) (ρ : Store) (hρ : StoreExt ρ) (c : String) (ix : Idx) (m : Bool) (hix : IdxMode ix m)
include hst hρ hix

theorem pushFork_evalRT :
    ∀ (e : RExp) (t : Ty) (f : ForkAssign), HasTyR st t e → pushOk c m e = true →
      evalRT st F ρ f t (pushFork c ix e) = evalRT st F ρ (fset f c ix) t e ∧
      HasTyR st t (pushFork c ix e) := by
  intro e t f h
  revert f
  apply HasTyR.ind st (motive := fun t e => ∀ f : ForkAssign, pushOk c m e = true →
      evalRT st F ρ f t (pushFork c ix e) = evalRT st F ρ (fset f c ix) t e ∧ HasTyR st t (pushFork c ix e))
    (h := h)
  case null => intro t f _; exact ⟨rfl, by simp [pushFork, HasTyR, LitOk]⟩
  case atom => intro b s hl f _; exact ⟨rfl, by simp [pushFork, HasTyR, LitOk, Scalar, hl]⟩
  case arr =>
    intro b k n xs ih f hok
    simp only [pushOk, pushOkList_iff] at hok
    have ih' := fun x hx => (ih x hx).2 f (hok x hx)
    simp only [pushFork, evalRT, HasTyR, Nat.add_sub_cancel, pushForkList_eq_map, evalRTList_eq_map, List.map_map,
      HasTyRList_iff, List.forall_mem_map]
    exact ⟨congrArg _ (List.map_congr_left fun x hx => (ih' x hx).1), by simp, fun x hx => (ih' x hx).2⟩
  case map =>
    intro b k kvs ih f hok
    simp only [pushOk, pushOkFields_iff] at hok
    have ih' := fun kv hkv => (ih kv hkv).2 f (hok kv hkv)
    have c2 : ((0 : Nat) == 0 && (k + 1 != 0)) = true := by simp
    simp only [pushFork, evalRT, c2, if_true, HasTyR, Nat.add_sub_cancel, pushForkFields_eq_map,
      evalRTFields_eq_map, List.map_map, HasTyRFields_iff, List.forall_mem_map]
    exact ⟨congrArg _ (List.map_congr_left fun kv hkv => by simp only [Function.comp_apply, (ih' kv hkv).1]),
      Or.inl ⟨trivial, by simp, fun kv hkv => (ih' kv hkv).2⟩⟩
  case json =>
    -- a reference-free literal is not changed by the specialisation
    intro b kvs hl hj f _
    have hj' : jsonR (.map kvs) = true := by simpa [jsonR] using hj
    rw [pushFork_json c ix (.map kvs) hj']
    exact ⟨evalRT_json_eq st F ρ _ ⟨b, 0, 0⟩ ⟨b, 0, 0⟩ f _ hj' rfl hl rfl hl,
      by simp only [HasTyR]; exact Or.inr ⟨trivial, trivial, hl, hj⟩⟩
  case struct =>
    intro b ps kvs hl hmem hall ih f hok
    simp only [pushOk, pushOkFields_iff] at hok
    have hn := hst _ _ hl
    constructor
    · simp only [pushFork]
      rw [evalRT_struct st hst F ρ f ⟨b, 0, 0⟩ ps _ rfl rfl hl, evalRT_struct st hst F ρ _ ⟨b, 0, 0⟩ ps kvs rfl rfl hl]
      congr 1
      apply List.map_congr_left
      intro p hp
      rw [lookup_pushForkFields]
      cases he : kvs.lookup p.name with
      | none => rfl
      | some e =>
        have hke := mem_of_lookup kvs _ _ he
        simp only [Option.map_some, Option.getD_some,
          (ih p.name e hke p (find_name_of_nodup ps hn p hp) f (hok _ hke)).1]
    · simp only [pushFork, HasTyR]
      refine ⟨trivial, trivial, ps, hl, ?_, ?_⟩
      · apply HasTyRMembers_of_mem
        intro k' e' hke hsome
        obtain ⟨e, he, hr⟩ := mem_pushForkFields c ix kvs k' e' hke
        subst hr
        cases hf' : ps.find? (fun q => q.name == k') with
        | none => simp [hf'] at hsome
        | some p =>
          rw [memberTy_find ps k' p hf']
          exact (ih k' e he p hf' f (hok _ he)).2
      · intro p hp
        rw [lookup_pushForkFields]
        have := hall p hp
        cases he : kvs.lookup p.name with
        | none => simp [he] at this
        | some e => simp
  case ref =>
    intro t n sty p h f _
    simp only [pushFork, evalRT, HasTyR]
    exact ⟨trivial, h⟩
  case splitArr =>
    intro b k a c' e h ih f hok
    simp only [pushOk, Bool.and_eq_true, Bool.or_eq_true, bne_iff_ne, ne_eq, beq_iff_eq] at hok
    have ih' := ih f hok.2
    simp only [pushFork]
    by_cases hc : (c' == c) = true
    · obtain rfl : c' = c := by simpa using hc
      obtain rfl : false = m := hok.1.resolve_left fun h0 => h0 rfl
      obtain ⟨j, rfl⟩ := idxMode_arr hix
      simp only [hc, if_true]
      cases hp : pushFork c' (.i j) e with
      | arr xs =>
        rw [hp] at ih'
        simp only [selectIx]
        constructor
        · simp only [evalRT, fset_lookup, Option.getD_some]
          rw [← ih'.1]
          simp only [evalRT, Nat.add_sub_cancel, elemArr, elemAt]
          exact (evalRTList_getD st F ρ f _ xs j).symm
        · have := ih'.2
          simp only [HasTyR, Nat.add_sub_cancel] at this
          exact HasTyRList_getD st _ xs j this.2
      | map kvs =>
        rw [hp] at ih'
        have := ih'.2
        simp [HasTyR] at this
      | _ =>
        simp only [selectIx, evalRT, HasTyR]
        exact ⟨trivial, h⟩
    · have hc' : (c' == c) = false := by simpa using hc
      simp only [hc', Bool.false_eq_true, if_false, evalRT, HasTyR, ih'.1, fset_lookup_ne f c c' ix hc']
      exact ⟨trivial, ih'.2⟩
  case splitMap =>
    intro tb ta c' e hnb he ih f hok
    simp only [pushOk, Bool.and_eq_true, Bool.or_eq_true, bne_iff_ne, ne_eq, beq_iff_eq] at hok
    have ih' := ih f hok.2
    simp only [pushFork]
    by_cases hc : (c' == c) = true
    · obtain rfl : c' = c := by simpa using hc
      obtain rfl : true = m := hok.1.resolve_left fun h0 => h0 rfl
      obtain ⟨s, rfl⟩ := idxMode_map hix
      simp only [hc, if_true]
      cases hp : pushFork c' (.k s) e with
      | map kvs =>
        rw [hp] at ih'
        simp only [selectIx]
        have hk : HasTyRFields st ⟨tb, 0, ta⟩ kvs := by
          have := ih'.2
          simp only [HasTyR] at this
          rcases this with ⟨_, _, hk⟩ | ⟨_, hm0, _, _⟩
          · simpa using hk
          · simp at hm0
        constructor
        · simp only [evalRT, fset_lookup, Option.getD_some]
          rw [← ih'.1]
          have c2 : ((0 : Nat) == 0 && (ta + 1 != 0)) = true := by simp
          simp only [evalRT, c2, if_true, Nat.add_sub_cancel, elemMap, elemAt, J.field, lookup_evalRTFields]
          cases kvs.lookup s <;> simp [evalRT]
        · exact HasTyRFields_lookupD st _ kvs s hk
      | arr xs =>
        rw [hp] at ih'
        have := ih'.2
        simp [HasTyR] at this
      | _ =>
        simp only [selectIx, evalRT, HasTyR]
        exact ⟨trivial, hnb, he⟩
    · have hc' : (c' == c) = false := by simpa using hc
      simp only [hc', Bool.false_eq_true, if_false, evalRT, HasTyR, ih'.1, fset_lookup_ne f c c' ix hc']
      exact ⟨trivial, hnb, ih'.2⟩
  case mergeArr =>
    intro b k n c' e hns hty ih f hok
    simp only [pushOk, Bool.and_eq_true, bne_iff_ne, ne_eq] at hok
    have hns' := noSplitOf_pushFork c' c ix e hns
    have hcc : (c' == c) = false := by simpa using hok.1
    simp only [pushFork, Proofs.ResolverForks.mkMerge_noSplit c' false _ hns', evalRT, HasTyR, Nat.add_sub_cancel]
    refine ⟨congrArg _ (List.map_congr_left fun ix' _ => ?_), by simp, hns', (ih f hok.2).2⟩
    rw [(ih (fset (fset f c ix) c' ix') hok.2).1]
    apply evalRT_congr st F ρ hρ
    intro d
    rw [← fset_comm (fset f c ix) c c' ix ix' hcc d, fset_fset]
  case mergeMap =>
    intro b k c' e hns hty ih f hok
    simp only [pushOk, Bool.and_eq_true, bne_iff_ne, ne_eq] at hok
    have hns' := noSplitOf_pushFork c' c ix e hns
    have hcc : (c' == c) = false := by simpa using hok.1
    simp only [pushFork, Proofs.ResolverForks.mkMerge_noSplit c' true _ hns', evalRT, HasTyR, Nat.add_sub_cancel]
    refine ⟨congrArg _ (List.map_congr_left fun ix' _ => ?_), trivial, by simp, hns', (ih f hok.2).2⟩
    rw [(ih (fset (fset f c ix) c' ix') hok.2).1]
    congr 1
    apply evalRT_congr st F ρ hρ
    intro d
    rw [← fset_comm (fset f c ix) c c' ix ix' hcc d, fset_fset]
  case disabled =>
    intro t d v _ ihd _ ihv f hok
    simp only [pushOk, Bool.and_eq_true] at hok
    have ih1 := ihd f hok.1
    have ih2 := ihv f hok.2
    simp only [pushFork, evalRT, HasTyR, ih1.1, ih2.1]
    exact ⟨trivial, ih1.2, ih2.2⟩
  case fork =>
    intro t c' ix' e h ih f hok
    simp only [pushOk] at hok
    simp only [pushFork]
    by_cases hc : (c' == c) = true
    · obtain rfl : c' = c := by simpa using hc
      simp only [hc, if_true, evalRT, fset_fset, HasTyR]
      exact ⟨trivial, h⟩
    · have hc' : (c' == c) = false := by simpa using hc
      have ih' := ih (fset f c' ix') hok
      simp only [hc', Bool.false_eq_true, if_false, evalRT, HasTyR, ih'.1]
      refine ⟨?_, ih'.2⟩
      apply evalRT_congr st F ρ hρ
      intro d
      exact (fset_comm f c c' ix ix' hc' d).symm

theorem pushFork_evalRTList :
    ∀ (es : List RExp) (t : Ty) (f : ForkAssign), HasTyRList st t es → pushOkList c m es = true →
      evalRTList st F ρ f t (pushForkList c ix es) = evalRTList st F ρ (fset f c ix) t es ∧
      HasTyRList st t (pushForkList c ix es) := by
  intro es t f h hok
  have ih := fun e he => pushFork_evalRT st hst F ρ hρ c ix m hix e t f ((HasTyRList_iff st t es).mp h e he)
    ((pushOkList_iff c m es).mp hok e he)
  rw [pushForkList_eq_map, evalRTList_eq_map, evalRTList_eq_map, List.map_map, HasTyRList_iff, List.forall_mem_map]
  exact ⟨List.map_congr_left fun e he => (ih e he).1, fun e he => (ih e he).2⟩

theorem pushFork_evalRTFields :
    ∀ (kvs : List (String × RExp)) (t : Ty) (f : ForkAssign), HasTyRFields st t kvs →
      pushOkFields c m kvs = true →
      evalRTFields st F ρ f t (pushForkFields c ix kvs) = evalRTFields st F ρ (fset f c ix) t kvs ∧
      HasTyRFields st t (pushForkFields c ix kvs) := by
  intro kvs t f h hok
  have ih := fun kv hkv => pushFork_evalRT st hst F ρ hρ c ix m hix kv.2 t f
    ((HasTyRFields_iff st t kvs).mp h kv hkv) ((pushOkFields_iff c m kvs).mp hok kv hkv)
  rw [pushForkFields_eq_map, evalRTFields_eq_map, evalRTFields_eq_map, List.map_map, HasTyRFields_iff,
    List.forall_mem_map]
  exact ⟨List.map_congr_left fun kv hkv => by simp only [Function.comp_apply, (ih kv hkv).1],
    fun kv hkv => (ih kv hkv).2⟩

theorem pushFork_evalRTMembers (ps : List Param) :
    ∀ (kvs : List (String × RExp)) (f : ForkAssign), HasTyRMembers st ps kvs → pushOkFields c m kvs = true →
      ∀ (k' : String) (e : RExp), (k', e) ∈ kvs → ∀ (p : Param), ps.find? (fun q => q.name == k') = some p →
        evalRT st F ρ f p.ty (pushFork c ix e) = evalRT st F ρ (fset f c ix) p.ty e ∧
        HasTyR st p.ty (pushFork c ix e) :=
  fun kvs f hm hok _ e hke p hf =>
    pushFork_evalRT st hst F ρ hρ c ix m hix e p.ty f (HasTyRMembers_find st ps kvs hm hke hf)
      ((pushOkFields_iff c m kvs).mp hok _ hke)

end push

end Proofs.ResolverStatic
