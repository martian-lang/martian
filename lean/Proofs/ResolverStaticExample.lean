/-
C01 — one concrete program inside each proved fragment (non-vacuity of the refinement theorems
`resolver_refines_den_*` of Props/C01.lean, which evaluates the fragment's check on it):
`exPlain` plain (`wellTypedB`): nested sub-pipeline, aliased call, struct narrowing WIDE → PAIR across
the pipeline boundary, projections through the boundary, struct / array literals mixing references and
constants; `exMap` map calls of a stage over array literals (`wellTypedMB`); `exMapG` sizes known after
resolution, both modes (`wellTypedGB`); `exPipe` mapped pipelines (`wellTypedTB`); `exDis` run-time
`disabled` (`wellTypedEB`); `exRun`, `exRunK` map calls of run-time size in array and typed-map mode
(`wellTypedRB`).
-/
import Martian.ResolverStaticCheck
import Martian.ResolverStaticTree

namespace Proofs.ResolverStatic
open Martian.Dataflow Martian.ResolverForks Martian.ResolverStatic

def xInt : Ty := ⟨"int", 0, 0⟩
def xStr : Ty := ⟨"string", 0, 0⟩
def xPair : Ty := ⟨"PAIR", 0, 0⟩
def xWide : Ty := ⟨"WIDE", 0, 0⟩

def exPlain : Program :=
  { structs := [("PAIR", [⟨"a", xInt⟩, ⟨"b", xStr⟩]),
                ("WIDE", [⟨"a", xInt⟩, ⟨"b", xStr⟩, ⟨"c", ⟨"float", 0, 0⟩⟩]),
                ("BOX", [⟨"p", xPair⟩, ⟨"n", xInt⟩])]
    callables :=
      [ ("GEN", .stage [⟨"n", xInt⟩] [⟨"w", xWide⟩, ⟨"x", xInt⟩, ⟨"ws", ⟨"WIDE", 0, 1⟩⟩]),
        ("USE", .stage [⟨"p", xPair⟩, ⟨"y", xInt⟩, ⟨"ps", ⟨"PAIR", 0, 1⟩⟩, ⟨"box", ⟨"BOX", 0, 0⟩⟩]
                       [⟨"r", xInt⟩]),
        ("INNER", .pipeline [⟨"q", xPair⟩, ⟨"k", xInt⟩, ⟨"qs", ⟨"PAIR", 0, 1⟩⟩] [⟨"r", xInt⟩, ⟨"back", xPair⟩, ⟨"bs", ⟨"string", 0, 1⟩⟩]
          [ { id := "USE", callee := "USE", mapped := false, disabled := none,
              binds := [⟨"p", false, .self "q" []⟩, ⟨"y", false, .self "q" ["a"]⟩,
                        ⟨"ps", false, .arr [.self "q" [], .struct [("a", .self "k" []), ("b", .lit (.atom "\"s\""))]]⟩,
                        ⟨"box", false, .struct [("p", .self "q" []), ("n", .lit (.atom "7"))]⟩] } ]
          [("r", .ref "USE" ["r"]), ("back", .self "q" []), ("bs", .self "qs" ["b"])]),
        ("TOP", .pipeline [⟨"n", xInt⟩] [⟨"r", xInt⟩, ⟨"back", xPair⟩, ⟨"bs", ⟨"string", 0, 1⟩⟩]
          [ { id := "GEN", callee := "GEN", mapped := false, disabled := none,
              binds := [⟨"n", false, .self "n" []⟩] },
            { id := "INNER", callee := "INNER", mapped := false, disabled := none,
              binds := [⟨"q", false, .ref "GEN" ["w"]⟩, ⟨"k", false, .ref "GEN" ["x"]⟩,
                        ⟨"qs", false, .ref "GEN" ["ws"]⟩] },
            { id := "U2", callee := "USE", mapped := false, disabled := none,
              binds := [⟨"p", false, .ref "INNER" ["back"]⟩, ⟨"y", false, .ref "INNER" ["r"]⟩,
                        ⟨"ps", false, .arr []⟩,
                        ⟨"box", false, .struct [("p", .ref "GEN" ["w"]), ("n", .ref "INNER" ["back", "a"])]⟩] } ]
          [("r", .ref "U2" ["r"]), ("back", .ref "INNER" ["back"]), ("bs", .ref "INNER" ["bs"])]) ]
    top := { id := "TOP", callee := "TOP", mapped := false, disabled := none,
             binds := [⟨"n", false, .lit (.atom "5")⟩] } }

def exNm (path : List String) : String := ".".intercalate path

def exWide (a : String) : J := .obj [("a", .atom a), ("b", .atom "\"x\""), ("c", .atom "1.5")]

def exPlainOracle : Oracle := fun k =>
  if k.path == ["TOP", "GEN"] then
    some (.obj [("w", exWide "1"), ("x", .atom "3"), ("ws", .arr [exWide "8", .null, exWide "9"]), ("junk", .atom "0")])
  else if k.path == ["TOP", "INNER", "USE"] then some (.obj [("r", .atom "11")])
  else if k.path == ["TOP", "U2"] then some (.obj [("r", .atom "12")])
  else none

/-- the recorded outs of `exPlain` by NODE NAME: an oracle that does not distinguish call paths
with the same name (what `StoreOf` demands of the oracle for a naming that is not injective on
arbitrary lists, such as the "."-join) -/
def exPlainOuts (name : String) : Option J :=
  if name == "TOP.GEN" then
    some (.obj [("w", exWide "1"), ("x", .atom "3"), ("ws", .arr [exWide "8", .null, exWide "9"]), ("junk", .atom "0")])
  else if name == "TOP.INNER.USE" then some (.obj [("r", .atom "11")])
  else if name == "TOP.U2" then some (.obj [("r", .atom "12")])
  else none

def exPlainOracleN : Oracle := fun k => exPlainOuts (exNm k.path)

def exPlainStoreN : Store := { outs := fun node _ => (exPlainOuts node).getD .null, idx := fun _ _ => [] }

def exPlainStore : Store :=
  { outs := fun node f =>
      if node == "TOP.GEN" then (exPlainOracle ⟨["TOP", "GEN"], f⟩).getD .null
      else if node == "TOP.INNER.USE" then (exPlainOracle ⟨["TOP", "INNER", "USE"], f⟩).getD .null
      else if node == "TOP.U2" then (exPlainOracle ⟨["TOP", "U2"], f⟩).getD .null
      else .null
    idx := fun _ _ => [] }

/-- a program with map calls of a stage over array literals (elements: constants, a pipeline
input, upstream outputs, struct literals next to references that are narrowed), consumed
whole, projected and narrowed -/
def exMap : Program :=
  { structs := [("PAIR", [⟨"a", xInt⟩, ⟨"b", xStr⟩]),
                ("WIDE", [⟨"a", xInt⟩, ⟨"b", xStr⟩, ⟨"c", ⟨"float", 0, 0⟩⟩])]
    callables :=
      [ ("GEN", .stage [⟨"n", xInt⟩] [⟨"w", xWide⟩, ⟨"x", xInt⟩]),
        ("WORK", .stage [⟨"x", xInt⟩, ⟨"p", xPair⟩, ⟨"k", xInt⟩] [⟨"y", xInt⟩, ⟨"q", xWide⟩]),
        ("USE", .stage [⟨"ys", ⟨"int", 0, 1⟩⟩, ⟨"qs", ⟨"PAIR", 0, 1⟩⟩, ⟨"qa", ⟨"int", 0, 1⟩⟩] [⟨"r", xInt⟩]),
        ("TOP", .pipeline [⟨"v", xInt⟩] [⟨"ys", ⟨"int", 0, 1⟩⟩, ⟨"r", xInt⟩]
          [ { id := "GEN", callee := "GEN", mapped := false, disabled := none,
              binds := [⟨"n", false, .self "v" []⟩] },
            { id := "W", callee := "WORK", mapped := true, disabled := none,
              binds := [⟨"x", true, .arr [.lit (.atom "1"), .self "v" [], .ref "GEN" ["x"]]⟩,
                        ⟨"p", true, .arr [.ref "GEN" ["w"],
                                          .struct [("a", .lit (.atom "1")), ("b", .lit (.atom "\"s\""))],
                                          .ref "GEN" ["w"]]⟩,
                        ⟨"k", false, .ref "GEN" ["x"]⟩] },
            { id := "USE", callee := "USE", mapped := false, disabled := none,
              binds := [⟨"ys", false, .ref "W" ["y"]⟩, ⟨"qs", false, .ref "W" ["q"]⟩,
                        ⟨"qa", false, .ref "W" ["q", "a"]⟩] } ]
          [("ys", .ref "W" ["y"]), ("r", .ref "USE" ["r"])]) ]
    top := { id := "TOP", callee := "TOP", mapped := false, disabled := none,
             binds := [⟨"v", false, .lit (.atom "5")⟩] } }

def exMapOracle : Oracle := fun k =>
  if k.path == ["TOP", "GEN"] then some (.obj [("w", exWide "1"), ("x", .atom "3")])
  else if k.path == ["TOP", "W"] then
    match k.forks with
    | [("W", .i n)] => some (.obj [("y", .atom (toString (10 + n))), ("q", exWide (toString (20 + n)))])
    | _ => none
  else if k.path == ["TOP", "USE"] then some (.obj [("r", .atom "99")])
  else none

/-- map calls of a stage in typed-map mode and over a literal that arrives through a pipeline input -/
def exMapG : Program :=
  { structs := [("PAIR", [⟨"a", xInt⟩, ⟨"b", xStr⟩]),
                ("WIDE", [⟨"a", xInt⟩, ⟨"b", xStr⟩, ⟨"c", ⟨"float", 0, 0⟩⟩])]
    callables :=
      [ ("GEN", .stage [⟨"n", xInt⟩] [⟨"w", xWide⟩, ⟨"x", xInt⟩]),
        ("WORK", .stage [⟨"x", xInt⟩, ⟨"p", xPair⟩, ⟨"k", xInt⟩] [⟨"y", xInt⟩, ⟨"q", xWide⟩]),
        ("USEM", .stage [⟨"ys", ⟨"int", 1, 0⟩⟩, ⟨"qs", ⟨"PAIR", 1, 0⟩⟩, ⟨"qa", ⟨"int", 1, 0⟩⟩] [⟨"r", xInt⟩]),
        ("INNER", .pipeline [⟨"xs", ⟨"int", 0, 1⟩⟩, ⟨"ps", ⟨"PAIR", 0, 1⟩⟩, ⟨"k", xInt⟩]
            [⟨"ys", ⟨"int", 0, 1⟩⟩, ⟨"qs", ⟨"PAIR", 0, 1⟩⟩]
          [ { id := "WORK", callee := "WORK", mapped := true, disabled := none,
              binds := [⟨"x", true, .self "xs" []⟩, ⟨"p", true, .self "ps" []⟩, ⟨"k", false, .self "k" []⟩] } ]
          [("ys", .ref "WORK" ["y"]), ("qs", .ref "WORK" ["q"])]),
        ("TOP", .pipeline [⟨"v", xInt⟩] [⟨"ys", ⟨"int", 0, 1⟩⟩, ⟨"ms", ⟨"int", 1, 0⟩⟩, ⟨"r", xInt⟩]
          [ { id := "GEN", callee := "GEN", mapped := false, disabled := none,
              binds := [⟨"n", false, .self "v" []⟩] },
            { id := "IN", callee := "INNER", mapped := false, disabled := none,
              binds := [⟨"xs", false, .arr [.lit (.atom "1"), .ref "GEN" ["x"]]⟩,
                        ⟨"ps", false, .arr [.ref "GEN" ["w"], .struct [("a", .lit (.atom "2")), ("b", .lit (.atom "\"t\""))]]⟩,
                        ⟨"k", false, .self "v" []⟩] },
            { id := "W2", callee := "WORK", mapped := true, disabled := none,
              binds := [⟨"x", true, .map [("ka", .self "v" []), ("kb", .ref "GEN" ["x"])]⟩,
                        ⟨"p", false, .ref "GEN" ["w"]⟩, ⟨"k", false, .lit (.atom "7")⟩] },
            { id := "USEM", callee := "USEM", mapped := false, disabled := none,
              binds := [⟨"ys", false, .ref "W2" ["y"]⟩, ⟨"qs", false, .ref "W2" ["q"]⟩,
                        ⟨"qa", false, .ref "W2" ["q", "a"]⟩] } ]
          [("ys", .ref "IN" ["ys"]), ("ms", .ref "W2" ["y"]), ("r", .ref "USEM" ["r"])]) ]
    top := { id := "TOP", callee := "TOP", mapped := false, disabled := none,
             binds := [⟨"v", false, .lit (.atom "5")⟩] } }

def exMapGOracle : Oracle := fun k =>
  if k.path == ["TOP", "GEN"] then some (.obj [("w", exWide "1"), ("x", .atom "3")])
  else if k.path == ["TOP", "IN", "WORK"] then
    match k.forks with
    | [("WORK", .i n)] => some (.obj [("y", .atom (toString (10 + n))), ("q", exWide (toString (20 + n)))])
    | _ => none
  else if k.path == ["TOP", "W2"] then
    match k.forks with
    | [("W2", .k s)] => some (.obj [("y", .atom ("\"" ++ s ++ "\"")), ("q", exWide "30")])
    | _ => none
  else if k.path == ["TOP", "USEM"] then some (.obj [("r", .atom "99")])
  else none

def exMapGStore : Store := storeOfNodes exNm (staticProgram exMapG exNm).2 exMapGOracle

/-- a pipeline mapped over an array literal whose body has a stage that depends on the split value,
one that does not, a NESTED map call over a literal that mixes the split value with a constant,
and a pass-through return of the split value -/
def exPipe : Program :=
  { structs := [("PAIR", [⟨"a", xInt⟩, ⟨"b", xStr⟩])]
    callables :=
      [ ("GEN", .stage [⟨"n", xInt⟩] [⟨"p", xPair⟩, ⟨"x", xInt⟩]),
        ("WORK", .stage [⟨"x", xInt⟩, ⟨"k", xInt⟩] [⟨"y", xInt⟩, ⟨"q", xPair⟩]),
        ("CONST", .stage [⟨"k", xInt⟩] [⟨"c", xInt⟩]),
        ("USE", .stage [⟨"ys", ⟨"int", 0, 1⟩⟩, ⟨"zs", ⟨"int", 0, 2⟩⟩, ⟨"qs", ⟨"PAIR", 0, 1⟩⟩, ⟨"cs", ⟨"int", 0, 1⟩⟩,
                        ⟨"xs", ⟨"int", 0, 1⟩⟩] [⟨"r", xInt⟩]),
        ("INNER", .pipeline [⟨"x", xInt⟩, ⟨"k", xInt⟩]
            [⟨"y", xInt⟩, ⟨"zs", ⟨"int", 0, 1⟩⟩, ⟨"q", xPair⟩, ⟨"c", xInt⟩, ⟨"x2", xInt⟩]
          [ { id := "WORK", callee := "WORK", mapped := false, disabled := none,
              binds := [⟨"x", false, .self "x" []⟩, ⟨"k", false, .self "k" []⟩] },
            { id := "CONST", callee := "CONST", mapped := false, disabled := none,
              binds := [⟨"k", false, .self "k" []⟩] },
            { id := "W2", callee := "WORK", mapped := true, disabled := none,
              binds := [⟨"x", true, .arr [.self "x" [], .lit (.atom "7")]⟩, ⟨"k", false, .ref "WORK" ["y"]⟩] } ]
          [("y", .ref "WORK" ["y"]), ("zs", .ref "W2" ["y"]), ("q", .ref "WORK" ["q"]),
           ("c", .ref "CONST" ["c"]), ("x2", .self "x" [])]),
        ("TOP", .pipeline [⟨"v", xInt⟩] [⟨"ys", ⟨"int", 0, 1⟩⟩, ⟨"r", xInt⟩]
          [ { id := "GEN", callee := "GEN", mapped := false, disabled := none,
              binds := [⟨"n", false, .self "v" []⟩] },
            { id := "INNER", callee := "INNER", mapped := true, disabled := none,
              binds := [⟨"x", true, .arr [.lit (.atom "1"), .self "v" [], .ref "GEN" ["x"]]⟩,
                        ⟨"k", false, .ref "GEN" ["x"]⟩] },
            { id := "USE", callee := "USE", mapped := false, disabled := none,
              binds := [⟨"ys", false, .ref "INNER" ["y"]⟩, ⟨"zs", false, .ref "INNER" ["zs"]⟩,
                        ⟨"qs", false, .ref "INNER" ["q"]⟩, ⟨"cs", false, .ref "INNER" ["c"]⟩,
                        ⟨"xs", false, .ref "INNER" ["x2"]⟩] } ]
          [("ys", .ref "INNER" ["y"]), ("r", .ref "USE" ["r"])]) ]
    top := { id := "TOP", callee := "TOP", mapped := false, disabled := none,
             binds := [⟨"v", false, .lit (.atom "5")⟩] } }

def exPipeOracle : Oracle := fun k =>
  if k.path == ["TOP", "GEN"] then some (.obj [("p", .obj [("a", .atom "1"), ("b", .atom "\"x\"")]), ("x", .atom "3")])
  else if k.path == ["TOP", "INNER", "WORK"] then
    match k.forks with
    | [("INNER", .i n)] => some (.obj [("y", .atom (toString (10 + n))),
        ("q", .obj [("a", .atom (toString (20 + n))), ("b", .atom "\"q\"")])])
    | _ => none
  else if k.path == ["TOP", "INNER", "CONST"] then some (.obj [("c", .atom "4")])
  else if k.path == ["TOP", "INNER", "W2"] then
    match k.forks with
    | [("INNER", .i n), ("W2", .i m)] => some (.obj [("y", .atom (toString (100 + 10 * n + m))), ("q", .null)])
    | _ => none
  else if k.path == ["TOP", "USE"] then some (.obj [("r", .atom "99")])
  else none

def exPipeStore : Store :=
  storeOfNodes exNm (flattenTList [] (staticProgramT exPipe exNm).2) exPipeOracle

def exMapStore : Store := storeOfNodes exNm (staticProgram exMap exNm).2 exMapOracle

/-- a pipeline mapped over an array literal whose body has a call with a RUN-TIME `disabled`
control (an output of a sibling stage, different per fork), a consumer of the possibly-disabled
outputs inside the fork, and consumers above that project through the merged outputs -/
def exDis : Program :=
  { structs := [("PAIR", [⟨"a", xInt⟩, ⟨"b", xStr⟩])]
    callables :=
      [ ("FLAG", .stage [⟨"x", xInt⟩] [⟨"off", ⟨"bool", 0, 0⟩⟩, ⟨"p", xPair⟩]),
        ("WORK", .stage [⟨"x", xInt⟩, ⟨"p", xPair⟩] [⟨"y", xInt⟩, ⟨"q", xPair⟩]),
        ("USE", .stage [⟨"ys", ⟨"int", 0, 1⟩⟩, ⟨"qa", ⟨"int", 0, 1⟩⟩] [⟨"r", xInt⟩]),
        ("INNER", .pipeline [⟨"x", xInt⟩] [⟨"y", xInt⟩, ⟨"q", xPair⟩]
          [ { id := "FLAG", callee := "FLAG", mapped := false, disabled := none,
              binds := [⟨"x", false, .self "x" []⟩] },
            { id := "WORK", callee := "WORK", mapped := false, disabled := some (false, .ref "FLAG" ["off"]),
              binds := [⟨"x", false, .self "x" []⟩, ⟨"p", false, .ref "FLAG" ["p"]⟩] },
            { id := "W2", callee := "WORK", mapped := false, disabled := none,
              binds := [⟨"x", false, .ref "WORK" ["y"]⟩, ⟨"p", false, .ref "WORK" ["q"]⟩] } ]
          [("y", .ref "W2" ["y"]), ("q", .ref "WORK" ["q"])]),
        ("TOP", .pipeline [⟨"v", xInt⟩] [⟨"ys", ⟨"int", 0, 1⟩⟩, ⟨"qa", ⟨"int", 0, 1⟩⟩, ⟨"r", xInt⟩]
          [ { id := "INNER", callee := "INNER", mapped := true, disabled := none,
              binds := [⟨"x", true, .arr [.lit (.atom "1"), .self "v" [], .lit (.atom "3")]⟩] },
            { id := "USE", callee := "USE", mapped := false, disabled := none,
              binds := [⟨"ys", false, .ref "INNER" ["y"]⟩, ⟨"qa", false, .ref "INNER" ["q", "a"]⟩] } ]
          [("ys", .ref "INNER" ["y"]), ("qa", .ref "INNER" ["q", "a"]), ("r", .ref "USE" ["r"])]) ]
    top := { id := "TOP", callee := "TOP", mapped := false, disabled := none,
             binds := [⟨"v", false, .lit (.atom "5")⟩] } }

/-- fork 1 of INNER disables WORK -/
def exDisOracle : Oracle := fun k =>
  if k.path == ["TOP", "INNER", "FLAG"] then
    match k.forks with
    | [("INNER", .i n)] => some (.obj [("off", .atom (if n == 1 then "true" else "false")),
        ("p", .obj [("a", .atom (toString (20 + n))), ("b", .atom "\"p\"")])])
    | _ => none
  else if k.path == ["TOP", "INNER", "WORK"] then
    match k.forks with
    | [("INNER", .i n)] => some (.obj [("y", .atom (toString (10 + n))),
        ("q", .obj [("a", .atom (toString (30 + n))), ("b", .atom "\"q\"")])])
    | _ => none
  else if k.path == ["TOP", "INNER", "W2"] then
    match k.forks with
    | [("INNER", .i n)] => some (.obj [("y", .atom (toString (40 + n))), ("q", .null)])
    | _ => none
  else if k.path == ["TOP", "USE"] then some (.obj [("r", .atom "99")])
  else none

def exDisStore : Store :=
  storeOfNodes exNm (flattenTList [] (staticProgramT exDis exNm).2) exDisOracle

/-- map calls of RUN-TIME size: a pipeline mapped over the array output of a stage, with a nested map
call over an array output of a stage of its own fork; consumers above that project through the
merges -/
def exRun : Program :=
  { structs := []
    callables :=
      [ ("GEN", .stage [⟨"n", xInt⟩] [⟨"xs", ⟨"int", 0, 1⟩⟩, ⟨"k", xInt⟩]),
        ("WORK", .stage [⟨"x", xInt⟩, ⟨"k", xInt⟩] [⟨"y", xInt⟩, ⟨"zs", ⟨"int", 0, 1⟩⟩]),
        ("CONST", .stage [⟨"k", xInt⟩] [⟨"c", xInt⟩]),
        ("USE", .stage [⟨"ys", ⟨"int", 0, 1⟩⟩, ⟨"cs", ⟨"int", 0, 1⟩⟩, ⟨"yss", ⟨"int", 0, 2⟩⟩] [⟨"r", xInt⟩]),
        ("INNER", .pipeline [⟨"x", xInt⟩, ⟨"k", xInt⟩] [⟨"y", xInt⟩, ⟨"c", xInt⟩, ⟨"y2", ⟨"int", 0, 1⟩⟩]
          [ { id := "CONST", callee := "CONST", mapped := false, disabled := none,
              binds := [⟨"k", false, .self "k" []⟩] },
            { id := "WORK", callee := "WORK", mapped := false, disabled := none,
              binds := [⟨"x", false, .self "x" []⟩, ⟨"k", false, .ref "CONST" ["c"]⟩] },
            { id := "W2", callee := "WORK", mapped := true, disabled := none,
              binds := [⟨"x", true, .ref "WORK" ["zs"]⟩, ⟨"k", false, .self "x" []⟩] } ]
          [("y", .ref "WORK" ["y"]), ("c", .ref "CONST" ["c"]), ("y2", .ref "W2" ["y"])]),
        ("TOP", .pipeline [⟨"v", xInt⟩] [⟨"ys", ⟨"int", 0, 1⟩⟩, ⟨"yss", ⟨"int", 0, 2⟩⟩, ⟨"r", xInt⟩]
          [ { id := "GEN", callee := "GEN", mapped := false, disabled := none,
              binds := [⟨"n", false, .self "v" []⟩] },
            { id := "INNER", callee := "INNER", mapped := true, disabled := none,
              binds := [⟨"x", true, .ref "GEN" ["xs"]⟩, ⟨"k", false, .ref "GEN" ["k"]⟩] },
            { id := "USE", callee := "USE", mapped := false, disabled := none,
              binds := [⟨"ys", false, .ref "INNER" ["y"]⟩, ⟨"cs", false, .ref "INNER" ["c"]⟩,
                        ⟨"yss", false, .ref "INNER" ["y2"]⟩] } ]
          [("ys", .ref "INNER" ["y"]), ("yss", .ref "INNER" ["y2"]), ("r", .ref "USE" ["r"])]) ]
    top := { id := "TOP", callee := "TOP", mapped := false, disabled := none,
             binds := [⟨"v", false, .lit (.atom "5")⟩] } }

/-- GEN produces three elements; WORK in fork n of INNER produces n + 1 -/
def exRunOracle : Oracle := fun k =>
  if k.path == ["TOP", "GEN"] then some (.obj [("xs", .arr [.atom "5", .atom "6", .atom "7"]), ("k", .atom "3")])
  else if k.path == ["TOP", "INNER", "CONST"] then some (.obj [("c", .atom "4")])
  else if k.path == ["TOP", "INNER", "WORK"] then
    match k.forks with
    | [("INNER", .i n)] => some (.obj [("y", .atom (toString (10 + n))),
        ("zs", .arr ((List.range (n + 1)).map fun m => .atom (toString (100 * n + m))))])
    | _ => none
  else if k.path == ["TOP", "INNER", "W2"] then
    match k.forks with
    | [("INNER", .i n), ("W2", .i m)] => some (.obj [("y", .atom (toString (1000 + 10 * n + m))), ("zs", .null)])
    | _ => none
  else if k.path == ["TOP", "USE"] then some (.obj [("r", .atom "99")])
  else none

/-- the index sets the run recorded -/
def exRunIdx : IdxRec := fun k =>
  if k.path == ["TOP", "INNER"] then [.i 0, .i 1, .i 2]
  else if k.path == ["TOP", "INNER", "W2"] then
    match k.forks with
    | [("INNER", .i n)] => (List.range (n + 1)).map .i
    | _ => []
  else []

def exRunStore : Store :=
  storeOfRun exNm (flattenTList [] (staticProgramT exRun exNm).2) (subROccList [] (staticProgramT exRun exNm).2)
    exRunOracle exRunIdx

/-- TYPED-MAP mode: a pipeline mapped over the typed-map output of a stage (run-time key set), with a
nested map call over a typed-map literal that mixes the split value with a constant; consumers
project through the merges -/
def exRunK : Program :=
  { structs := []
    callables :=
      [ ("GEN", .stage [⟨"n", xInt⟩] [⟨"m", ⟨"int", 1, 0⟩⟩, ⟨"k", xInt⟩]),
        ("WORK", .stage [⟨"x", xInt⟩, ⟨"k", xInt⟩] [⟨"y", xInt⟩]),
        ("USEM", .stage [⟨"ys", ⟨"int", 1, 0⟩⟩] [⟨"r", xInt⟩]),
        ("INNER", .pipeline [⟨"x", xInt⟩, ⟨"k", xInt⟩] [⟨"y", xInt⟩, ⟨"r", xInt⟩]
          [ { id := "WORK", callee := "WORK", mapped := false, disabled := none,
              binds := [⟨"x", false, .self "x" []⟩, ⟨"k", false, .self "k" []⟩] },
            { id := "W2", callee := "WORK", mapped := true, disabled := none,
              binds := [⟨"x", true, .map [("p", .self "x" []), ("q", .lit (.atom "7"))]⟩,
                        ⟨"k", false, .ref "WORK" ["y"]⟩] },
            { id := "USEM", callee := "USEM", mapped := false, disabled := none,
              binds := [⟨"ys", false, .ref "W2" ["y"]⟩] } ]
          [("y", .ref "WORK" ["y"]), ("r", .ref "USEM" ["r"])]),
        ("TOP", .pipeline [⟨"v", xInt⟩] [⟨"ys", ⟨"int", 1, 0⟩⟩, ⟨"rs", ⟨"int", 1, 0⟩⟩]
          [ { id := "GEN", callee := "GEN", mapped := false, disabled := none,
              binds := [⟨"n", false, .self "v" []⟩] },
            { id := "INNER", callee := "INNER", mapped := true, disabled := none,
              binds := [⟨"x", true, .ref "GEN" ["m"]⟩, ⟨"k", false, .ref "GEN" ["k"]⟩] } ]
          [("ys", .ref "INNER" ["y"]), ("rs", .ref "INNER" ["r"])]) ]
    top := { id := "TOP", callee := "TOP", mapped := false, disabled := none,
             binds := [⟨"v", false, .lit (.atom "5")⟩] } }

def exRunKOracle : Oracle := fun k =>
  if k.path == ["TOP", "GEN"] then some (.obj [("m", .obj [("a", .atom "5"), ("b", .atom "6")]), ("k", .atom "3")])
  else if k.path == ["TOP", "INNER", "WORK"] then
    match k.forks with
    | [("INNER", .k s)] => some (.obj [("y", .atom ("\"y" ++ s ++ "\""))])
    | _ => none
  else if k.path == ["TOP", "INNER", "W2"] then
    match k.forks with
    | [("INNER", .k s), ("W2", .k t)] => some (.obj [("y", .atom ("\"" ++ s ++ t ++ "\""))])
    | _ => none
  else if k.path == ["TOP", "INNER", "USEM"] then
    match k.forks with
    | [("INNER", .k s)] => some (.obj [("r", .atom ("\"r" ++ s ++ "\""))])
    | _ => none
  else none

def exRunKIdx : IdxRec := fun k =>
  if k.path == ["TOP", "INNER"] then [.k "a", .k "b"] else []

def exRunKStore : Store :=
  storeOfRun exNm (flattenTList [] (staticProgramT exRunK exNm).2) (subROccList [] (staticProgramT exRunK exNm).2)
    exRunKOracle exRunKIdx

end Proofs.ResolverStatic
