import Martian.JobTemplate

/-! `strings.NewReplacer` on a well-formed segmented template is `renderScript` (C18). -/
namespace Martian.JobTemplate
open Martian.ShellQuote

theorem replaceGo_skip (P : List (Bytes × Bytes)) :
    ∀ (x r : Bytes), replaceGo P x.length (x ++ r) = replaceGo P 0 r
  | [], _ => rfl
  | _ :: x, r => by
    simp only [List.length_cons, List.cons_append, replaceGo]
    exact replaceGo_skip P x r

theorem replaceGo_none (P : List (Bytes × Bytes)) (b : UInt8) (r : Bytes)
    (h : lookupOld P (b :: r) = none) : replaceGo P 0 (b :: r) = b :: replaceGo P 0 r := by
  simp only [replaceGo, h]

theorem replaceGo_some (P : List (Bytes × Bytes)) (o n r : Bytes) (ho : o ≠ [])
    (h : lookupOld P (o ++ r) = some (o, n)) : replaceGo P 0 (o ++ r) = n ++ replaceGo P 0 r := by
  cases o with
  | nil => exact absurd rfl ho
  | cons b o' =>
    simp only [List.cons_append] at h ⊢
    simp only [replaceGo, h, List.length_cons, Nat.add_sub_cancel]
    rw [replaceGo_skip]

theorem lookupOld_none (P : List (Bytes × Bytes)) (s : Bytes)
    (h : ∀ y ∈ P, y.1.isPrefixOf s = false) : lookupOld P s = none := by
  unfold lookupOld
  rw [List.find?_eq_none]
  intro y hy
  simp [h y hy]

theorem lookupOld_unique (P : List (Bytes × Bytes)) (s : Bytes) (x : Bytes × Bytes)
    (hx : x ∈ P) (hp : x.1.isPrefixOf s = true)
    (hu : ∀ y ∈ P, y.1.isPrefixOf s = true → y = x) : lookupOld P s = some x := by
  unfold lookupOld
  induction P with
  | nil => cases hx
  | cons y ys ih =>
    by_cases hy : y.1.isPrefixOf s = true
    · have := hu y (by simp) hy
      subst this
      simp [hp]
    · have hne : y ≠ x := fun e => hy (e ▸ hp)
      have hx' : x ∈ ys := by
        rcases List.mem_cons.mp hx with h | h
        · exact absurd h.symm hne
        · exact h
      simp only [List.find?_cons, hy]
      exact ih hx' (fun z hz => hu z (List.mem_cons_of_mem _ hz))

/-! ### `strings.Split(…, "\n")` of lines joined by newlines -/

theorem splitNl_ne_nil : ∀ x : Bytes, splitNl x ≠ []
  | [] => by simp [splitNl]
  | b :: r => by
    unfold splitNl
    split
    · simp
    · split <;> simp

theorem splitNl_noNl : ∀ (x : Bytes), (0x0A : UInt8) ∉ x → splitNl x = [x]
  | [], _ => rfl
  | b :: r, h => by
    have hb : (b == 0x0A) = false := by
      apply Bool.eq_false_iff.mpr; intro e; exact h (by simp [eq_of_beq e])
    have ih := splitNl_noNl r (fun hr => h (List.mem_cons_of_mem _ hr))
    simp [splitNl, hb, ih]

theorem splitNl_append : ∀ (x r : Bytes), (0x0A : UInt8) ∉ x →
    splitNl (x ++ 0x0A :: r) = x :: splitNl r
  | [], r, _ => by simp [splitNl]
  | b :: x, r, h => by
    have hb : (b == 0x0A) = false := by
      apply Bool.eq_false_iff.mpr; intro e; exact h (by simp [eq_of_beq e])
    have ih := splitNl_append x r (fun hr => h (List.mem_cons_of_mem _ hr))
    simp [splitNl, hb, ih]

theorem splitNl_joinNl : ∀ (xs : List Bytes), xs ≠ [] → (∀ x ∈ xs, (0x0A : UInt8) ∉ x) →
    splitNl (joinNl xs) = xs
  | [], h, _ => absurd rfl h
  | [x], _, h => by simpa [joinNl] using splitNl_noNl x (h x (by simp))
  | x :: y :: ys, _, h => by
    simp only [joinNl]
    rw [splitNl_append x _ (h x (by simp)),
      splitNl_joinNl (y :: ys) (by simp) (fun z hz => h z (List.mem_cons_of_mem _ hz))]

theorem mem_replArgs (T : Bytes) (ps : List (Bytes × Bytes)) (o n : Bytes) :
    (o, n) ∈ replArgs T ps ↔
      ∃ kv ∈ ps, (kv.2 ≠ [] ∧ o = kv.1 ∧ n = kv.2) ∨
        (kv.2 = [] ∧ n = [] ∧ o ∈ splitNl T ∧ containsB o kv.1 = true) := by
  unfold replArgs
  simp only [List.mem_flatMap]
  refine exists_congr fun kv => and_congr_right fun _ => ?_
  cases hk : kv.2 with
  | nil =>
    simp only [List.isEmpty_nil, Bool.not_true, Bool.false_eq_true, if_false, List.mem_map,
      List.mem_filter, Prod.mk.injEq, ne_eq, not_true, false_and, false_or, true_and]
    constructor
    · rintro ⟨l, ⟨hl, hc⟩, rfl, rfl⟩; exact ⟨rfl, hl, hc⟩
    · rintro ⟨rfl, hl, hc⟩; exact ⟨o, ⟨hl, hc⟩, rfl, rfl⟩
  | cons a b => simp

/-! ### the first-byte filter of `posOK` is sound -/

theorem heads_contains {xs : List Bytes} {x : Bytes} {b : UInt8} {r : Bytes} (hx : x ∈ xs)
    (hne : x ≠ []) (hp : x.isPrefixOf (b :: r) = true) : (heads xs).contains b = true := by
  cases x with
  | nil => exact absurd rfl hne
  | cons h t =>
    simp only [List.isPrefixOf, Bool.and_eq_true, beq_iff_eq] at hp
    rw [List.contains_iff_mem, heads, List.mem_eraseDups, List.mem_filterMap]
    exact ⟨h :: t, hx, by simp [hp.1]⟩

theorem isPrefixOf_nil_of_ne {x : Bytes} (hne : x ≠ []) : x.isPrefixOf [] = false := by
  cases x with
  | nil => exact absurd rfl hne
  | cons _ _ => rfl

theorem posOK_keys {keys : Keys} {R : List Bytes} {first : Bool} {s : Bytes}
    (h : posOK keys R first s = true) (nk : String × Bytes) (hnk : nk ∈ keys) (hne : nk.2 ≠ []) :
    nk.2.isPrefixOf s = false := by
  cases s with
  | nil => exact isPrefixOf_nil_of_ne hne
  | cons b r =>
    apply Bool.eq_false_iff.mpr
    intro hp
    simp only [posOK, Bool.and_eq_true, Bool.or_eq_true, Bool.not_eq_true'] at h
    rcases h.1 with hh | hh
    · rw [heads_contains (List.mem_map.mpr ⟨nk, hnk, rfl⟩) hne hp] at hh; cases hh
    · simp only [keysAt, List.isEmpty_iff, List.map_eq_nil_iff, List.filter_eq_nil_iff] at hh
      exact hh nk hnk hp

theorem noLineAt_lines {R : List Bytes} {s : Bytes} (h : noLineAt R s = true) (L : Bytes)
    (hL : L ∈ R) : L.isPrefixOf s = false := by
  simp only [noLineAt, List.all_eq_true, Bool.not_eq_true'] at h
  exact h L hL

theorem posOK_lines {keys : Keys} {R : List Bytes} {s : Bytes}
    (h : posOK keys R false s = true) (L : Bytes) (hL : L ∈ R) (hne : L ≠ []) :
    L.isPrefixOf s = false := by
  cases s with
  | nil => exact isPrefixOf_nil_of_ne hne
  | cons b r =>
    apply Bool.eq_false_iff.mpr
    intro hp
    simp only [posOK, Bool.and_eq_true, Bool.or_eq_true, Bool.not_eq_true', Bool.false_eq_true,
      false_or] at h
    rcases h.2 with hh | hh
    · rw [heads_contains hL hne hp] at hh; cases hh
    · rw [noLineAt_lines hh L hL] at hp; cases hp

/-- the pairs handed to the replacer for the template text and the values -/
def pairsOf (keys : Keys) (vals : String → Bytes) (ls : List SegLine) : List (Bytes × Bytes) :=
  replArgs (templateTextK keys ls) (keys.map fun nk => (nk.2, vals nk.1))

def removedLine (vals : String → Bytes) (l : SegLine) : Bool :=
  l.any fun s => segIsVar s && (vals s.1).isEmpty

def segVal (vals : String → Bytes) (s : Seg) : Bytes := if segIsVar s then vals s.1 else s.2

theorem renderLine_eq (vals : String → Bytes) (l : SegLine) :
    renderLine vals l = if removedLine vals l then [] else (l.map (segVal vals)).flatten := rfl

structure LineFacts (keys : Keys) (maybeEmpty : List String) (R : List Bytes) (l : SegLine)
    (k : Bytes) : Prop where
  lineAt : ∀ L ∈ R, L.isPrefixOf (segTextK keys l ++ k) = true → L = segTextK keys l
  segs : wfSegs keys R true l k = true
  textual : ∀ X ∈ maybeEmpty,
    containsB (segTextK keys l) (keyOf keys X) = l.any fun s => s.1 == X
  start : hasMaybeEmpty maybeEmpty l = true → startOK maybeEmpty l = true
  noNl : (0x0A : UInt8) ∉ segTextK keys l
  names : ∀ s ∈ l, segIsVar s = true → ∃ nk ∈ keys, nk.1 = s.1

theorem not_or_eq_true {a b : Bool} : (!a || b) = true ↔ (a = true → b = true) := by
  cases a <;> simp

theorem wfLine_facts {keys : Keys} {maybeEmpty : List String} {R : List Bytes} {l : SegLine}
    {k : Bytes} (h : wfLine keys maybeEmpty R l k = true) : LineFacts keys maybeEmpty R l k := by
  simp only [wfLine, Bool.and_eq_true, List.all_eq_true, not_or_eq_true, beq_iff_eq,
    List.any_eq_true] at h
  obtain ⟨⟨⟨⟨⟨h1, h2⟩, h3⟩, h4⟩, h5⟩, h6⟩ := h
  exact ⟨h1, h2, h3, h4, by simpa using h5, h6⟩

theorem wfLines_mem {keys : Keys} {maybeEmpty : List String} {R : List Bytes} :
    ∀ {ls : List SegLine}, wfLines keys maybeEmpty R ls = true →
      ∀ l ∈ ls, ∃ k, LineFacts keys maybeEmpty R l k
  | [], _, l, hl => by cases hl
  | x :: rest, h, l, hl => by
    simp only [wfLines, Bool.and_eq_true] at h
    rcases List.mem_cons.mp hl with rfl | hl
    · exact ⟨_, wfLine_facts h.1.1⟩
    · exact wfLines_mem h.2 l hl

structure Setting (keys : Keys) (maybeEmpty : List String) (ls : List SegLine)
    (vals : String → Bytes) : Prop where
  wf : wfTemplate keys maybeEmpty ls = true
  ne : ∀ nk ∈ keys, nk.1 ∉ maybeEmpty → vals nk.1 ≠ []

namespace Setting
variable {keys : Keys} {maybeEmpty : List String} {ls : List SegLine} {vals : String → Bytes}

theorem parts (S : Setting keys maybeEmpty ls vals) :
    ls ≠ [] ∧ (∀ nk ∈ keys, nk.1 ≠ "" ∧ nk.2 ≠ [] ∧ keyOf keys nk.1 = nk.2) ∧
    (∀ L ∈ removable keys maybeEmpty ls, L ≠ []) ∧
    wfLines keys maybeEmpty (removable keys maybeEmpty ls) ls = true := by
  have h := S.wf
  simp only [wfTemplate, Bool.and_eq_true, List.all_eq_true, Bool.not_eq_true', bne_iff_ne, ne_eq,
    beq_iff_eq, List.isEmpty_eq_false_iff, and_assoc] at h
  exact h

theorem lineFacts (S : Setting keys maybeEmpty ls vals) (l : SegLine) (hl : l ∈ ls) :
    ∃ k, LineFacts keys maybeEmpty (removable keys maybeEmpty ls) l k :=
  wfLines_mem S.parts.2.2.2 l hl

theorem split (S : Setting keys maybeEmpty ls vals) :
    splitNl (templateTextK keys ls) = ls.map (segTextK keys) := by
  unfold templateTextK
  apply splitNl_joinNl
  · intro e; exact S.parts.1 (List.map_eq_nil_iff.mp e)
  · intro x hx
    obtain ⟨l, hl, rfl⟩ := List.mem_map.mp hx
    obtain ⟨k, hk⟩ := S.lineFacts l hl
    exact hk.noNl

theorem key_mem (_S : Setting keys maybeEmpty ls vals) (nk : String × Bytes) (hnk : nk ∈ keys)
    (hv : vals nk.1 ≠ []) : (nk.2, vals nk.1) ∈ pairsOf keys vals ls := by
  unfold pairsOf
  rw [mem_replArgs]
  exact ⟨(nk.2, vals nk.1), List.mem_map.mpr ⟨nk, hnk, rfl⟩, Or.inl ⟨hv, rfl, rfl⟩⟩

theorem key_of_mem (_S : Setting keys maybeEmpty ls vals) (o n : Bytes)
    (h : (o, n) ∈ pairsOf keys vals ls) (hn : n ≠ []) :
    ∃ nk ∈ keys, o = nk.2 ∧ n = vals nk.1 := by
  unfold pairsOf at h
  rw [mem_replArgs] at h
  obtain ⟨kv, hkv, h⟩ := h
  obtain ⟨nk, hnk, rfl⟩ := List.mem_map.mp hkv
  rcases h with ⟨_, ho, hn'⟩ | ⟨_, hn', _⟩
  · exact ⟨nk, hnk, ho, hn'⟩
  · exact absurd hn' hn

theorem empty_is_maybe (S : Setting keys maybeEmpty ls vals) (nk : String × Bytes) (hnk : nk ∈ keys)
    (hv : vals nk.1 = []) : nk.1 ∈ maybeEmpty := by
  apply Classical.byContradiction
  intro h
  exact S.ne nk hnk h hv

theorem removed_iff (S : Setting keys maybeEmpty ls vals) {l : SegLine} (hl : l ∈ ls) :
    removedLine vals l = true ↔
      ∃ nk ∈ keys, vals nk.1 = [] ∧ containsB (segTextK keys l) nk.2 = true := by
  obtain ⟨k, F⟩ := S.lineFacts l hl
  constructor
  · intro hr
    obtain ⟨s, hs, hsv⟩ := List.any_eq_true.mp hr
    simp only [Bool.and_eq_true, List.isEmpty_iff] at hsv
    obtain ⟨nk, hnk, hn⟩ := F.names s hs hsv.1
    have hv : vals nk.1 = [] := hn ▸ hsv.2
    refine ⟨nk, hnk, hv, ?_⟩
    rw [← (S.parts.2.1 nk hnk).2.2, F.textual nk.1 (S.empty_is_maybe nk hnk hv)]
    exact List.any_eq_true.mpr ⟨s, hs, by simp [hn]⟩
  · rintro ⟨nk, hnk, hv, hc⟩
    have hkeys := S.parts.2.1 nk hnk
    rw [← hkeys.2.2, F.textual nk.1 (S.empty_is_maybe nk hnk hv)] at hc
    obtain ⟨s, hs, hs1⟩ := List.any_eq_true.mp hc
    have hs1 : s.1 = nk.1 := by simpa using hs1
    have hvar : segIsVar s = true := by
      simp only [segIsVar, bne_iff_ne, ne_eq, hs1]; exact hkeys.1
    exact List.any_eq_true.mpr ⟨s, hs, by simp [hvar, hs1, hv]⟩

theorem removed_hasMaybeEmpty (S : Setting keys maybeEmpty ls vals) {l : SegLine} (hl : l ∈ ls)
    (hr : removedLine vals l = true) : hasMaybeEmpty maybeEmpty l = true := by
  obtain ⟨k, F⟩ := S.lineFacts l hl
  obtain ⟨s, hs, hsv⟩ := List.any_eq_true.mp hr
  simp only [Bool.and_eq_true, List.isEmpty_iff] at hsv
  obtain ⟨nk, hnk, hn⟩ := F.names s hs hsv.1
  have hme : s.1 ∈ maybeEmpty := hn ▸ S.empty_is_maybe nk hnk (hn ▸ hsv.2)
  exact List.any_eq_true.mpr ⟨s, hs, by simp [hsv.1, hme]⟩

theorem rem_of_mem (S : Setting keys maybeEmpty ls vals) (o : Bytes)
    (h : (o, []) ∈ pairsOf keys vals ls) :
    o ∈ removable keys maybeEmpty ls ∧ ∃ l ∈ ls, segTextK keys l = o ∧ removedLine vals l = true := by
  unfold pairsOf at h
  rw [mem_replArgs] at h
  obtain ⟨kv, hkv, h⟩ := h
  obtain ⟨nk, hnk, rfl⟩ := List.mem_map.mp hkv
  rcases h with ⟨hne, _, he⟩ | ⟨hv, _, hsp, hc⟩
  · exact absurd he.symm hne
  · rw [S.split] at hsp
    obtain ⟨l, hl, rfl⟩ := List.mem_map.mp hsp
    have hrem := (S.removed_iff hl).mpr ⟨nk, hnk, hv, hc⟩
    refine ⟨?_, l, hl, rfl, hrem⟩
    exact List.mem_map.mpr ⟨l, List.mem_filter.mpr ⟨hl, S.removed_hasMaybeEmpty hl hrem⟩, rfl⟩

theorem rem_mem (S : Setting keys maybeEmpty ls vals) (l : SegLine) (hl : l ∈ ls)
    (hr : removedLine vals l = true) : (segTextK keys l, []) ∈ pairsOf keys vals ls := by
  obtain ⟨nk, hnk, hv, hc⟩ := (S.removed_iff hl).mp hr
  unfold pairsOf
  rw [mem_replArgs]
  refine ⟨(nk.2, vals nk.1), List.mem_map.mpr ⟨nk, hnk, rfl⟩, Or.inr ⟨hv, rfl, ?_, hc⟩⟩
  rw [S.split]
  exact List.mem_map.mpr ⟨l, hl, rfl⟩

/-- no removal pair applies at a position -/
def NoRem (P : List (Bytes × Bytes)) (s : Bytes) : Prop :=
  ∀ o, (o, ([] : Bytes)) ∈ P → o.isPrefixOf s = false

theorem noRem_of_noLine (S : Setting keys maybeEmpty ls vals) {s : Bytes}
    (h : ∀ L ∈ removable keys maybeEmpty ls, L.isPrefixOf s = false) :
    NoRem (pairsOf keys vals ls) s :=
  fun o ho => h o (S.rem_of_mem o ho).1

theorem step_copy (S : Setting keys maybeEmpty ls vals) (b : UInt8) (r : Bytes)
    (hk : ∀ nk ∈ keys, nk.2.isPrefixOf (b :: r) = false)
    (hr : NoRem (pairsOf keys vals ls) (b :: r)) :
    replaceGo (pairsOf keys vals ls) 0 (b :: r) = b :: replaceGo (pairsOf keys vals ls) 0 r := by
  apply replaceGo_none
  apply lookupOld_none
  rintro ⟨o, n⟩ hy
  by_cases hn : n = []
  · subst hn; exact hr o hy
  · obtain ⟨nk, hnk, rfl, _⟩ := S.key_of_mem o n hy hn
    exact hk nk hnk

theorem lit_copied (S : Setting keys maybeEmpty ls vals) :
    ∀ (first : Bool) (lit k : Bytes),
      wfLit keys (removable keys maybeEmpty ls) first lit k = true →
      (first = true → NoRem (pairsOf keys vals ls) (lit ++ k)) →
      replaceGo (pairsOf keys vals ls) 0 (lit ++ k)
        = lit ++ replaceGo (pairsOf keys vals ls) 0 k
  | _, [], _, _, _ => rfl
  | first, b :: l, k, h, hf => by
    simp only [wfLit, Bool.and_eq_true] at h
    have hkeys : ∀ nk ∈ keys, nk.2.isPrefixOf (b :: (l ++ k)) = false :=
      fun nk hnk => posOK_keys h.1 nk hnk (S.parts.2.1 nk hnk).2.1
    have hrem : NoRem (pairsOf keys vals ls) (b :: (l ++ k)) := by
      cases first with
      | true => exact hf rfl
      | false =>
        exact S.noRem_of_noLine (fun L hL => posOK_lines h.1 L hL (S.parts.2.2.1 L hL))
    rw [List.cons_append, S.step_copy b (l ++ k) hkeys hrem,
      lit_copied S false l k h.2 (fun e => by cases e)]
    rfl

theorem keyOf_mem (S : Setting keys maybeEmpty ls vals) (X : String)
    (h : ∃ nk ∈ keys, nk.1 = X) : (X, keyOf keys X) ∈ keys ∧ keyOf keys X ≠ [] := by
  obtain ⟨nk, hnk, rfl⟩ := h
  have := S.parts.2.1 nk hnk
  rw [this.2.2]
  exact ⟨hnk, this.2.1⟩

theorem step_var (S : Setting keys maybeEmpty ls vals) (X : String) (rest : Bytes)
    (hX : ∃ nk ∈ keys, nk.1 = X) (hv : vals X ≠ [])
    (hat : keysAt keys (keyOf keys X ++ rest) = [X])
    (hr : NoRem (pairsOf keys vals ls) (keyOf keys X ++ rest)) :
    replaceGo (pairsOf keys vals ls) 0 (keyOf keys X ++ rest)
      = vals X ++ replaceGo (pairsOf keys vals ls) 0 rest := by
  obtain ⟨hmem, hne⟩ := S.keyOf_mem X hX
  apply replaceGo_some _ _ _ _ hne
  apply lookupOld_unique
  · exact S.key_mem (X, keyOf keys X) hmem hv
  · exact List.isPrefixOf_iff_prefix.mpr (List.prefix_append _ _)
  · rintro ⟨o, n⟩ hy hp
    by_cases hn : n = []
    · subst hn; rw [hr o hy] at hp; cases hp
    · obtain ⟨nk, hnk, rfl, rfl⟩ := S.key_of_mem o n hy hn
      have : nk.1 ∈ keysAt keys (keyOf keys X ++ rest) := by
        unfold keysAt
        exact List.mem_map.mpr ⟨nk, List.mem_filter.mpr ⟨hnk, hp⟩, rfl⟩
      rw [hat] at this
      have hx : nk.1 = X := by simpa using this
      have hk := (S.parts.2.1 nk hnk).2.2
      rw [hx] at hk
      simp only [Prod.mk.injEq]
      exact ⟨hk.symm, by rw [hx]⟩

theorem segTextK_cons (keys : Keys) (s : Seg) (ss : SegLine) :
    segTextK keys (s :: ss) = (if segIsVar s then keyOf keys s.1 else s.2) ++ segTextK keys ss := by
  simp [segTextK]

theorem segs_rendered (S : Setting keys maybeEmpty ls vals) :
    ∀ (first : Bool) (ss : SegLine) (k : Bytes),
      wfSegs keys (removable keys maybeEmpty ls) first ss k = true →
      (first = true → NoRem (pairsOf keys vals ls) (segTextK keys ss ++ k)) →
      (∀ s ∈ ss, segIsVar s = true → vals s.1 ≠ [] ∧ ∃ nk ∈ keys, nk.1 = s.1) →
      replaceGo (pairsOf keys vals ls) 0 (segTextK keys ss ++ k)
        = (ss.map (segVal vals)).flatten ++ replaceGo (pairsOf keys vals ls) 0 k
  | _, [], _, _, _, _ => by simp [segTextK]
  | first, s :: ss, k, h, hf, hv => by
    have hvs : ∀ t ∈ ss, segIsVar t = true → vals t.1 ≠ [] ∧ ∃ nk ∈ keys, nk.1 = t.1 :=
      fun t ht => hv t (List.mem_cons_of_mem _ ht)
    unfold wfSegs at h
    cases hs : segIsVar s with
    | true =>
      simp only [hs, if_true, Bool.and_eq_true, beq_iff_eq, Bool.or_eq_true] at h
      obtain ⟨⟨hat, hline⟩, hrest⟩ := h
      have hsv := hv s (by simp) hs
      have htext : segTextK keys (s :: ss) ++ k = keyOf keys s.1 ++ (segTextK keys ss ++ k) := by
        rw [segTextK_cons, hs]; simp
      have hrem : NoRem (pairsOf keys vals ls) (keyOf keys s.1 ++ (segTextK keys ss ++ k)) := by
        cases first with
        | true => rw [← htext]; exact hf rfl
        | false =>
          rcases hline with hl | hl
          · cases hl
          · exact S.noRem_of_noLine (fun L hL => noLineAt_lines hl L hL)
      rw [htext, S.step_var s.1 _ hsv.2 hsv.1 hat hrem,
        segs_rendered S false ss k hrest (fun e => by cases e) hvs]
      simp [segVal, hs]
    | false =>
      simp only [hs, Bool.false_eq_true, if_false, Bool.and_eq_true] at h
      obtain ⟨hlit, hrest⟩ := h
      have htext : segTextK keys (s :: ss) ++ k = s.2 ++ (segTextK keys ss ++ k) := by
        rw [segTextK_cons, hs]; simp
      have hf' : first = true → NoRem (pairsOf keys vals ls) (s.2 ++ (segTextK keys ss ++ k)) := by
        intro e; rw [← htext]; exact hf e
      rw [htext, S.lit_copied first s.2 _ hlit hf']
      have hf'' : (first && s.2.isEmpty) = true →
          NoRem (pairsOf keys vals ls) (segTextK keys ss ++ k) := by
        intro e
        simp only [Bool.and_eq_true, List.isEmpty_iff] at e
        have := hf' e.1
        rw [e.2] at this
        simpa using this
      rw [segs_rendered S (first && s.2.isEmpty) ss k hrest hf'' hvs]
      simp [segVal, hs]

theorem startOK_cases {me : List String} {l : SegLine} (h : startOK me l = true) :
    (∃ b lit rest, l = ("", b :: lit) :: rest) ∨ (∃ n x, l = [(n, x)]) := by
  unfold startOK at h
  split at h
  · exact Or.inl ⟨_, _, _, rfl⟩
  · exact Or.inr ⟨_, _, rfl⟩
  · cases h

theorem line_rendered (S : Setting keys maybeEmpty ls vals) (l : SegLine) (hl : l ∈ ls) (k : Bytes)
    (hw : wfLine keys maybeEmpty (removable keys maybeEmpty ls) l k = true) :
    replaceGo (pairsOf keys vals ls) 0 (segTextK keys l ++ k)
      = renderLine vals l ++ replaceGo (pairsOf keys vals ls) 0 k := by
  have F := wfLine_facts hw
  rw [renderLine_eq]
  cases hr : removedLine vals l with
  | true =>
    simp only [if_true, List.nil_append]
    have hx := S.rem_mem l hl hr
    have hne : segTextK keys l ≠ [] := S.parts.2.2.1 _ (S.rem_of_mem _ hx).1
    have : replaceGo (pairsOf keys vals ls) 0 (segTextK keys l ++ k)
        = [] ++ replaceGo (pairsOf keys vals ls) 0 k := by
      apply replaceGo_some _ _ _ _ hne
      apply lookupOld_unique _ _ _ hx (List.isPrefixOf_iff_prefix.mpr (List.prefix_append _ _))
      rintro ⟨o, n⟩ hy hp
      by_cases hn : n = []
      · subst hn
        have := F.lineAt o (S.rem_of_mem o hy).1 hp
        simp [this]
      · exfalso
        obtain ⟨nk, hnk, rfl, rfl⟩ := S.key_of_mem o n hy hn
        -- the removed line starts with literal text or is one variable alone
        obtain ⟨s, hs, hsv⟩ := List.any_eq_true.mp hr
        simp only [Bool.and_eq_true, List.isEmpty_iff] at hsv
        have hst := F.start (S.removed_hasMaybeEmpty hl hr)
        have hsegs := F.segs
        rcases startOK_cases hst with ⟨b, lit, rest, rfl⟩ | ⟨n0, x, rfl⟩
        · unfold wfSegs at hsegs
          have hnv : segIsVar (("", b :: lit) : Seg) = false := by simp [segIsVar]
          simp only [hnv, Bool.false_eq_true, if_false, Bool.and_eq_true, wfLit] at hsegs
          have := posOK_keys hsegs.1.1 nk hnk (S.parts.2.1 nk hnk).2.1
          rw [segTextK_cons, hnv] at hp
          simp only [Bool.false_eq_true, if_false, List.cons_append, List.append_assoc] at hp this
          rw [this] at hp; cases hp
        · have hs' : s = (n0, x) := by simpa using hs
          subst hs'
          unfold wfSegs at hsegs
          simp only [hsv.1, if_true, Bool.and_eq_true, beq_iff_eq] at hsegs
          have hin : nk.1 ∈ keysAt keys (keyOf keys n0 ++ (segTextK keys [] ++ k)) := by
            unfold keysAt
            refine List.mem_map.mpr ⟨nk, List.mem_filter.mpr ⟨hnk, ?_⟩, rfl⟩
            rw [segTextK_cons, hsv.1] at hp
            simpa using hp
          rw [hsegs.1.1] at hin
          have : nk.1 = n0 := by simpa using hin
          rw [this] at hn
          exact hn hsv.2
    simpa using this
  | false =>
    simp only [Bool.false_eq_true, if_false]
    have hnr : NoRem (pairsOf keys vals ls) (segTextK keys l ++ k) := by
      intro o ho
      apply Bool.eq_false_iff.mpr
      intro hp
      obtain ⟨hR, l', hl', he, hr'⟩ := S.rem_of_mem o ho
      -- the two lines have the same text, and being removed depends on the text only
      rw [S.removed_iff hl', he, F.lineAt o hR hp, ← S.removed_iff hl, hr] at hr'
      cases hr'
    apply S.segs_rendered true l k F.segs (fun _ => hnr)
    intro s hs hv
    refine ⟨?_, F.names s hs hv⟩
    intro he
    have : removedLine vals l = true :=
      List.any_eq_true.mpr ⟨s, hs, by simp [hv, he]⟩
    rw [hr] at this; cases this

theorem templateTextK_cons₂ (keys : Keys) (l l' : SegLine) (rest : List SegLine) :
    templateTextK keys (l :: l' :: rest) = segTextK keys l ++ afterLine keys (l' :: rest) := by
  simp [templateTextK, afterLine, joinNl]

theorem lines_rendered (S : Setting keys maybeEmpty ls vals) :
    ∀ (cur : List SegLine), (∀ l ∈ cur, l ∈ ls) →
      wfLines keys maybeEmpty (removable keys maybeEmpty ls) cur = true →
      replaceGo (pairsOf keys vals ls) 0 (templateTextK keys cur) = renderScript vals cur
  | [], _, _ => rfl
  | [l], sub, h => by
    simp only [wfLines, Bool.and_eq_true] at h
    have := S.line_rendered l (sub l (by simp)) (afterLine keys []) h.1.1
    simp only [afterLine, List.append_nil] at this
    simp only [templateTextK, renderScript, List.map_cons, List.map_nil, joinNl]
    rw [this]
    simp [replaceGo]
  | l :: l' :: rest, sub, h => by
    simp only [wfLines, Bool.and_eq_true, List.isEmpty_cons, Bool.false_or] at h
    obtain ⟨⟨hline, hpos⟩, hrest⟩ := h
    have ih := lines_rendered S (l' :: rest) (fun x hx => sub x (List.mem_cons_of_mem _ hx))
      (by simp only [wfLines, Bool.and_eq_true]; exact hrest)
    rw [templateTextK_cons₂, S.line_rendered l (sub l (by simp)) _ hline]
    have hk : ∀ nk ∈ keys, nk.2.isPrefixOf (afterLine keys (l' :: rest)) = false :=
      fun nk hnk => posOK_keys hpos nk hnk (S.parts.2.1 nk hnk).2.1
    have hr : NoRem (pairsOf keys vals ls) (afterLine keys (l' :: rest)) :=
      S.noRem_of_noLine (fun L hL => posOK_lines hpos L hL (S.parts.2.2.1 L hL))
    have hstep := S.step_copy 0x0A (templateTextK keys (l' :: rest)) hk hr
    simp only [afterLine] at hstep ⊢
    rw [hstep, ih]
    simp [renderScript, joinNl]

theorem replace_eq_render (S : Setting keys maybeEmpty ls vals) :
    replaceGo (pairsOf keys vals ls) 0 (templateTextK keys ls) = renderScript vals ls :=
  S.lines_rendered ls (fun _ h => h) S.parts.2.2.2

end Setting

end Martian.JobTemplate
