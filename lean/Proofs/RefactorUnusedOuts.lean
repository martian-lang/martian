/-
C19: soundness of the reachability analysis behind `mro edit -remove-unused-outputs`
(`unusedOutputs` = Go `populateChildPipelineOuts` + the frontier walk that strikes
every referenced output from the table).
Five parts: the analysis (`Table`, `useRef_strikes`); from the analysis to the side conditions of the graph theorem
(`refConds_of_not_refers`, `remOutOK_of_parts`, `unusedOutputsO_spec`, `unused_entry_ok`); a whole table of outputs
removed one after the other (`remove_outputs_graph`); the outputs pass of the `-top-calls` loop (`pass_eq_outSteps`,
`outPass_seedOK`, `outputs_pass_graph`); the reachability hypothesis, decidable (`allReach_of_B`).
-/
import Martian.Refactor
import Martian.RefactorGraph
import Proofs.RefactorGraph
import Proofs.RefactorGraphLemmas
import Proofs.RefactorClosure
import Proofs.RefactorLoop
import Proofs.RefactorGraphRem

namespace Proofs.RefactorUnusedOuts
open Martian.Refactor Proofs.RefactorGraph

abbrev Table := List (String × List String)

/-- the table still lists output `o` of pipeline `x` -/
def Has (T : Table) (x o : String) : Prop := ∃ e ∈ T, e.1 = x ∧ o ∈ e.2

/-- reference `r`, read in pipeline `pipe`, refers to a call of `x` as a whole or to
its output `o` (possibly projected further) -/
def RefersTo (p : Program) (pipe : Callable) (x o : String) (r : Ref) : Prop :=
  ∃ k d, pipe.calls.find? (·.id == r.id) = some k ∧ p.find? k.decId = some d ∧ d.name = x
    ∧ (r.path = [] ∨ ∃ t, r.path = o :: t)

section Fold
variable {α β : Type} (f : β → α → β)

/-- what holds of the result held of the start, and every step contributed its part -/
theorem foldl_back (H : β → Prop) (N : α → Prop) (step : ∀ b a, H (f b a) → H b ∧ N a) :
    ∀ (l : List α) (b : β), H (l.foldl f b) → H b ∧ ∀ a ∈ l, N a := by
  intro l
  induction l with
  | nil => exact fun b h => ⟨h, fun _ ha => by cases ha⟩
  | cons a t ih =>
    intro b h
    obtain ⟨h1, h2⟩ := ih (f b a) h
    obtain ⟨h3, h4⟩ := step b a h1
    refine ⟨h3, fun a' ha' => ?_⟩
    cases ha' with
    | head => exact h4
    | tail _ hm => exact h2 a' hm

/-- every element leaves a mark that later steps keep -/
theorem foldl_collect (C : α → β → Prop) (hit : ∀ b a, C a (f b a)) (keep : ∀ a b a', C a b → C a (f b a')) :
    ∀ (l : List α) (b : β), ∀ a ∈ l, C a (l.foldl f b) := by
  intro l
  induction l with
  | nil => exact fun _ _ ha => by cases ha
  | cons a t ih =>
    intro b a' ha'
    cases ha' with
    | head => exact List.foldlRecOn t f (motive := C a) (hit b a) fun b h a' _ => keep a b a' h
    | tail _ hm => exact ih (f b a) a' hm

end Fold

theorem strike_spec (d h : String) (e : String × List String) :
    (if e.1 == d then (e.1, e.2.filter (· != h)) else e).1 = e.1
    ∧ ∀ o ∈ (if e.1 == d then (e.1, e.2.filter (· != h)) else e).2, o ∈ e.2 ∧ (e.1 = d → o ≠ h) := by
  by_cases hen : e.1 = d
  · simp [hen]
  · simp [hen]

theorem useRef_sub (p : Program) (pipe : Callable) (acc : List String × Table) (r : Ref) (x o : String)
    (h : Has (useRef p pipe acc r).2 x o) : Has acc.2 x o := by
  unfold useRef at h
  split at h
  · exact h
  · split at h
    · exact h
    · rename_i d _
      obtain ⟨e', he', hx, ho⟩ := h
      dsimp only at he'
      split at he'
      · exact ⟨e', (List.mem_filter.mp he').1, hx, ho⟩
      · rename_i hh _ _
        obtain ⟨e, he, rfl⟩ := List.mem_map.mp (List.mem_filter.mp he').1
        have hs := strike_spec d.name hh e
        exact ⟨e, he, hs.1 ▸ hx, (hs.2 o ho).1⟩

theorem useRef_strikes (p : Program) (pipe : Callable) (acc : List String × Table) (r : Ref) (x o : String)
    (hR : RefersTo p pipe x o r) : ¬ Has (useRef p pipe acc r).2 x o := by
  obtain ⟨k, d, hk, hd, hdx, hpath⟩ := hR
  unfold useRef
  simp only [hk, hd]
  rintro ⟨e', he', hx, ho⟩
  rcases hpath with hp | ⟨t, hp⟩
  · rw [hp] at he'
    have := (List.mem_filter.mp he').2
    simp [hx, hdx] at this
  · rw [hp] at he'
    obtain ⟨e, he, rfl⟩ := List.mem_map.mp (List.mem_filter.mp he').1
    have hs := strike_spec d.name o e
    exact (hs.2 o ho).2 (hs.1.symm.trans (hx.trans hdx.symm)) rfl

theorem useRef_has (p : Program) (pipe : Callable) (acc : List String × Table) (r : Ref) (x o : String)
    (h : Has (useRef p pipe acc r).2 x o) : Has acc.2 x o ∧ ¬ RefersTo p pipe x o r :=
  ⟨useRef_sub p pipe acc r x o h, fun hR => useRef_strikes p pipe acc r x o hR h⟩

theorem useRef_next (p : Program) (pipe : Callable) (acc : List String × Table) (r : Ref) (n : String)
    (h : n ∈ acc.1) : n ∈ (useRef p pipe acc r).1 := by
  unfold useRef
  split
  · exact h
  · split
    · exact h
    · dsimp only
      split
      · exact List.mem_append_left _ h
      · exact h

theorem fold_useRef (p : Program) (pipe : Callable) (x o : String) (rs : List Ref) (acc : List String × Table) :
    (Has (rs.foldl (useRef p pipe) acc).2 x o → Has acc.2 x o ∧ ∀ r ∈ rs, ¬ RefersTo p pipe x o r)
    ∧ (∀ n ∈ acc.1, n ∈ (rs.foldl (useRef p pipe) acc).1) :=
  ⟨foldl_back _ (fun acc => Has acc.2 x o) _ (fun acc r => useRef_has p pipe acc r x o) rs acc,
   fun n hn => List.foldlRecOn rs _ (motive := fun acc => n ∈ acc.1) hn fun acc h r _ => useRef_next p pipe acc r n h⟩

/-- no reference read in the pipeline named `n` refers to output `o` of `x` -/
def NoRef (p : Program) (x o n : String) : Prop :=
  ∀ pipe, p.find? n = some pipe → ∀ r ∈ pipeCallRefs p pipe, ¬ RefersTo p pipe x o r

/-- the pipelines called by the pipeline named `n` are in `l` -/
def KidsIn (p : Program) (n : String) (l : List String) : Prop :=
  ∀ pipe, p.find? n = some pipe → ∀ k ∈ pipe.calls, ∀ d, p.find? k.decId = some d → d.isPipe = true → d.name ∈ l

/-- one step of the fold by which `visitPipe` collects the pipelines a pipeline calls -/
def calledStep (p : Program) (a : List String) (k : Call) : List String :=
  match p.find? k.decId with
  | some d => if d.isPipe && !a.contains d.name then a ++ [d.name] else a
  | none => a

theorem calledStep_mono (p : Program) (a : List String) (k : Call) (n : String) (hn : n ∈ a) :
    n ∈ calledStep p a k := by
  unfold calledStep
  cases p.find? k.decId with
  | none => exact hn
  | some d =>
    simp only []
    split
    · exact List.mem_append_left _ hn
    · exact hn

theorem called_fold (p : Program) (ks : List Call) (a : List String) :
    (∀ n ∈ a, n ∈ ks.foldl (calledStep p) a)
    ∧ (∀ k ∈ ks, ∀ d, p.find? k.decId = some d → d.isPipe = true → d.name ∈ ks.foldl (calledStep p) a) := by
  refine ⟨fun n hn => List.foldlRecOn ks _ (motive := (n ∈ ·)) hn fun a h k _ => calledStep_mono p a k n h, ?_⟩
  refine foldl_collect _ (fun k a => ∀ d, p.find? k.decId = some d → d.isPipe = true → d.name ∈ a) ?_ ?_ ks a
  · intro a k d hd hp
    simp only [calledStep, hd, hp, Bool.true_and]
    split
    · simp
    · rename_i hc
      simpa using hc
  · intro k a k' h d hd hp
    exact calledStep_mono p a k' _ (h d hd hp)

theorem visitPipe_spec (p : Program) (acc : List String × Table) (name : String) (x o : String) :
    (Has (visitPipe p acc name).2 x o → Has acc.2 x o ∧ NoRef p x o name)
    ∧ (∀ n ∈ acc.1, n ∈ (visitPipe p acc name).1)
    ∧ KidsIn p name (visitPipe p acc name).1 := by
  unfold visitPipe NoRef KidsIn
  cases hf : p.find? name with
  | none =>
    exact ⟨fun h => ⟨h, fun _ hp => by cases hp⟩, fun _ h => h, fun _ hp => by cases hp⟩
  | some pipe =>
    simp only []
    obtain ⟨c1, c2⟩ := called_fold p pipe.calls acc.1
    obtain ⟨f1, f2⟩ := fold_useRef p pipe x o (pipeCallRefs p pipe) (pipe.calls.foldl (calledStep p) acc.1, acc.2)
    refine ⟨fun h => ?_, fun n hn => f2 n (c1 n hn), fun pipe' hp' k hk d hd hdp => ?_⟩
    · obtain ⟨h1, h2⟩ := f1 h
      exact ⟨h1, fun pipe' hp' => by cases hp'; exact h2⟩
    · cases hp'
      exact f2 _ (c2 k hk d hd hdp)

theorem level_spec (p : Program) (x o : String) (used : List String) (acc : List String × Table) :
    (Has (used.foldl (visitPipe p) acc).2 x o → Has acc.2 x o ∧ ∀ name ∈ used, NoRef p x o name)
    ∧ (∀ n ∈ acc.1, n ∈ (used.foldl (visitPipe p) acc).1)
    ∧ (∀ name ∈ used, KidsIn p name (used.foldl (visitPipe p) acc).1) :=
  ⟨foldl_back _ (fun acc => Has acc.2 x o) _ (fun acc u => (visitPipe_spec p acc u x o).1) used acc,
   fun n hn => List.foldlRecOn used _ (motive := fun acc => n ∈ acc.1) hn fun acc h u _ => (visitPipe_spec p acc u x o).2.1 n h,
   foldl_collect _ (fun name acc => KidsIn p name acc.1)
     (fun acc u => (visitPipe_spec p acc u x o).2.2)
     (fun _ acc u h pipe hp k hk d hd hdp => (visitPipe_spec p acc u x o).2.1 _ (h pipe hp k hk d hd hdp)) used acc⟩

/-- the pipelines reachable from `roots` through calls of pipelines -/
inductive Reach (p : Program) (roots : List String) : String → Prop
  | root (n : String) : n ∈ roots → Reach p roots n
  | step (n : String) (pipe : Callable) (k : Call) (d : Callable) : Reach p roots n → p.find? n = some pipe →
      k ∈ pipe.calls → p.find? k.decId = some d → d.isPipe = true → Reach p roots d.name

theorem reach_nil (p : Program) (n : String) (h : Reach p [] n) : False := by
  induction h with
  | root n hn => cases hn
  | step _ _ _ _ _ _ _ _ _ ih => exact ih

theorem walk_stop (p : Program) (x o : String) (used : List String) (outs : Table)
    (hc : (used.isEmpty || outs.isEmpty) = true) (hT : Has outs x o) (n : String) (hn : Reach p used n) :
    NoRef p x o n := by
  exfalso
  rcases Bool.or_eq_true _ _ |>.mp hc with hu | ho
  · have : used = [] := by simpa using hu
    subst this
    exact reach_nil p n hn
  · have : outs = [] := by simpa using ho
    subst this
    obtain ⟨e, he, _⟩ := hT
    cases he

/-- **soundness of the frontier walk** (explicit exhaustion): an output that is still in
the table when the walk has visited everything is referenced — as a projection
`CALL.o…` or through a whole-call reference `CALL` — by NO pipeline reachable from the
roots; and it was in the table the walk started from. -/
theorem usedOutsLoopO_sound (p : Program) (x o : String) : ∀ (fuel : Nat) (used : List String) (outs T : Table),
    usedOutsLoopO p fuel used outs = some T → Has T x o →
    Has outs x o ∧ ∀ n, Reach p used n → NoRef p x o n := by
  intro fuel
  induction fuel with
  | zero =>
    intro used outs T h hT
    simp only [usedOutsLoopO] at h
    split at h
    · rename_i hc
      cases h
      exact ⟨hT, walk_stop p x o used outs hc hT⟩
    · cases h
  | succ fuel ih =>
    intro used outs T h hT
    simp only [usedOutsLoopO] at h
    split at h
    · rename_i hc
      cases h
      exact ⟨hT, walk_stop p x o used outs hc hT⟩
    · obtain ⟨h1, h2⟩ := ih _ _ T h hT
      obtain ⟨l1, _, l3⟩ := level_spec p x o used (([] : List String), outs)
      obtain ⟨h3, h4⟩ := l1 h1
      refine ⟨h3, fun n hn => ?_⟩
      -- a reachable pipeline is in this level or reachable from the next
      have hsplit : n ∈ used ∨ Reach p (used.foldl (visitPipe p) (([] : List String), outs)).1 n := by
        induction hn with
        | root n hn => exact Or.inl hn
        | step n' pipe k d _ hp hk hd hdp ih' =>
          rcases ih' with hin | hre
          · exact Or.inr (Reach.root _ (l3 n' hin pipe hp k hk d hd hdp))
          · exact Or.inr (Reach.step n' pipe k d hre hp hk hd hdp)
      rcases hsplit with hin | hre
      · exact h4 n hin
      · exact h2 n hre

theorem usedOutsLoopO_eq (p : Program) : ∀ (fuel : Nat) (used : List String) (outs T : Table),
    usedOutsLoopO p fuel used outs = some T → usedOutsLoop p fuel used outs = T := by
  intro fuel
  induction fuel with
  | zero =>
    intro used outs T h
    simp only [usedOutsLoopO] at h
    split at h
    · cases h; rfl
    · cases h
  | succ fuel ih =>
    intro used outs T h
    simp only [usedOutsLoopO] at h
    rw [Proofs.Refactor.usedOutsLoop_succ]
    split at h
    · rename_i hc
      cases h
      rw [if_pos hc]
    · rename_i hc
      rw [if_neg hc]
      exact ih _ _ T h

/-! ### from the analysis to the side conditions of the graph theorem -/

/-- `r` occurs in a binding, modifier, return binding or retain of `pipe` -/
def ReadIn (pipe : Callable) (r : Ref) : Prop :=
  (∃ k ∈ pipe.calls, (∃ b ∈ k.binds, r ∈ refs b.exp) ∨ (∃ b ∈ k.mods, r ∈ refs b.exp))
    ∨ (∃ b ∈ pipe.ret, r ∈ refs b.exp) ∨ r ∈ pipe.retain

theorem mem_pipeCallRefs (p : Program) (pipe : Callable) (r : Ref) (hk : r.kind = RefKind.call) (h : ReadIn pipe r) :
    r ∈ pipeCallRefs p pipe := by
  unfold pipeCallRefs
  simp only []
  have hkk : (r.kind == RefKind.call) = true := by simp [hk]
  rcases h with ⟨k, hkm, hb⟩ | ⟨b, hb, hr⟩ | hr
  · apply List.mem_append_right
    apply List.mem_flatMap.mpr
    refine ⟨k, hkm, ?_⟩
    rcases hb with ⟨b, hb, hr⟩ | ⟨b, hb, hr⟩
    · apply List.mem_append_left
      exact List.mem_flatMap.mpr ⟨b, Proofs.Refactor.mem_compiledBinds p pipe k hb, List.mem_filter.mpr ⟨hr, hkk⟩⟩
    · apply List.mem_append_right
      exact List.mem_flatMap.mpr ⟨b, hb, List.mem_filter.mpr ⟨hr, hkk⟩⟩
  · apply List.mem_append_left
    apply List.mem_append_right
    exact List.mem_flatMap.mpr ⟨b, hb, List.mem_filter.mpr ⟨hr, hkk⟩⟩
  · apply List.mem_append_left
    apply List.mem_append_left
    exact List.mem_filter.mpr ⟨hr, hkk⟩

theorem refersTo_of_call (p : Program) (pipe : Callable) (hnd : (callIds pipe).Nodup) (x o : String) (xc : Callable)
    (hx : p.find? x = some xc) (r : Ref) (k : Call) (hk : k ∈ pipe.calls) (hid : k.id = r.id) (hdec : k.decId = x)
    (hpath : r.path = [] ∨ ∃ t, r.path = o :: t) : RefersTo p pipe x o r := by
  refine ⟨k, xc, ?_, ?_, find_name p x xc hx, hpath⟩
  · rw [← hid]; exact Proofs.ListFacts.find?_key_of_nodup hnd hk
  · rw [hdec]; exact hx

theorem path_of_not_refers (p : Program) (pipe : Callable) (hnd : (callIds pipe).Nodup) (x o : String) (xc : Callable)
    (hx : p.find? x = some xc) (r : Ref) (hnot : ¬ RefersTo p pipe x o r) (k : Call) (hk : k ∈ pipe.calls)
    (hid : k.id = r.id) (hdec : k.decId = x) : ∃ h t, r.path = h :: t ∧ h ≠ o := by
  cases hp : r.path with
  | nil => exact absurd (refersTo_of_call p pipe hnd x o xc hx r k hk hid hdec (Or.inl hp)) hnot
  | cons h t =>
    refine ⟨h, t, rfl, fun heq => hnot ?_⟩
    exact refersTo_of_call p pipe hnd x o xc hx r k hk hid hdec (Or.inr ⟨t, heq ▸ hp⟩)

/-- every reference of `c` to a call of `x` projects an output other than `o` -/
def ProjOther (x o : String) (c : Callable) : Prop :=
  ∀ r, ReadIn c r → r.kind = RefKind.call → ∀ k ∈ c.calls, k.id = r.id → k.decId = x →
    ∃ h t, r.path = h :: t ∧ h ≠ o

theorem refCondRo_of_projOther (x o : String) (c : Callable) (h : ProjOther x o c) : refCondRo x o c = true := by
  unfold refCondRo
  rw [List.all_eq_true]
  intro r hr
  cases hcr : callRefTo (callIdsOf x c) r with
  | false => rfl
  | true =>
    simp only [callRefTo, Bool.and_eq_true, beq_iff_eq, List.contains_iff_mem] at hcr
    obtain ⟨k, hkf, hkid⟩ := List.mem_map.mp hcr.2
    obtain ⟨hkm, hkd⟩ := List.mem_filter.mp hkf
    have hocc : ReadIn c r := by
      rcases (mem_graphRefs_iff c r).mp hr with ⟨k', hk', b, hb, hr⟩ | h' | h'
      · exact Or.inl ⟨k', hk', Or.inl ⟨b, hb, hr⟩⟩
      · exact Or.inr (Or.inl h')
      · exact Or.inr (Or.inr h')
    obtain ⟨hh, tt, hp, hne⟩ := h r hocc hcr.1 k hkm hkid (by simpa using hkd)
    simp [hp, hne]

theorem isCallRefTo_of_projOther (x o : String) (c : Callable) (h : ProjOther x o c) (r : Ref) (hr : ReadIn c r) :
    isCallRefTo c x o r = false := by
  cases hic : isCallRefTo c x o r with
  | false => rfl
  | true =>
    simp only [isCallRefTo, Bool.and_eq_true, beq_iff_eq, List.any_eq_true] at hic
    obtain ⟨⟨hkind, k, hkm, hkid, hkd⟩, hpath⟩ := hic
    obtain ⟨hh, tt, hp, hne⟩ := h r hr hkind k hkm hkid hkd
    rw [hp] at hpath
    exact absurd (by simpa using hpath) hne

theorem refConds_of_not_refers (p : Program) (hs : StructOK p = true) (x o : String) (xc : Callable)
    (hx : p.find? x = some xc)
    (h : ∀ pipe ∈ p.callables, pipe.isPipe = true → ∀ r ∈ pipeCallRefs p pipe, ¬ RefersTo p pipe x o r) :
    p.callables.all (refCondRo x o) = true ∧ outputUnreferenced x o p = true := by
  obtain ⟨_, hall, _⟩ := StructOK_parts hs
  have hone : ∀ c ∈ p.callables, ProjOther x o c := by
    intro c hc r hr hkind k hkm hkid hkd
    obtain ⟨hpc, hnd, _, _⟩ := structOKc_parts (hall c hc).2
    rcases hpc with hcp | hnil
    · have hmem := mem_pipeCallRefs p c r hkind hr
      exact path_of_not_refers p c hnd x o xc hx r (h c hc hcp r hmem) k hkm hkid hkd
    · rw [hnil] at hkm; cases hkm
  constructor
  · rw [List.all_eq_true]
    exact fun c hc => refCondRo_of_projOther x o c (hone c hc)
  · unfold outputUnreferenced
    rw [List.all_eq_true]
    intro pipe hc
    have hno := isCallRefTo_of_projOther x o pipe (hone pipe hc)
    simp only [Bool.or_eq_true, Bool.and_eq_true, List.all_eq_true, Bool.not_eq_true']
    right
    refine ⟨⟨fun k hk => ⟨fun b hb r hr => ?_, fun b hb r hr => ?_⟩, fun b hb r hr => ?_⟩, fun r hr => ?_⟩
    · exact hno r (Or.inl ⟨k, hk, Or.inl ⟨b, hb, hr⟩⟩)
    · exact hno r (Or.inl ⟨k, hk, Or.inr ⟨b, hb, hr⟩⟩)
    · exact hno r (Or.inr (Or.inl ⟨b, hb, hr⟩))
    · exact hno r (Or.inr (Or.inr hr))

theorem remOutOK_of_parts (x o : String) (ti : TypeInfo) (p : Program)
    (h1 : RemOutStructOK x o ti p = true) (h2 : p.callables.all (refCondRo x o) = true) :
    RemOutOK x o ti p = true := by
  unfold RemOutStructOK at h1
  unfold RemOutOK
  simp only [Bool.and_eq_true] at h1 ⊢
  obtain ⟨⟨⟨⟨hx, hm⟩, hall⟩, htop⟩, hty⟩ := h1
  refine ⟨⟨⟨⟨hx, hm⟩, ?_⟩, htop⟩, hty⟩
  rw [List.all_eq_true] at hall h2 ⊢
  intro c hc
  have a := hall c hc
  have b := h2 c hc
  unfold pipeOKRoS at a
  unfold refCondRo at b
  unfold pipeOKRo
  simp only [Bool.and_eq_true] at a ⊢
  exact ⟨a, b⟩

/-- every pipeline of the program is reachable from the top pipelines through calls -/
def AllReach (p : Program) (tops : List String) : Prop :=
  ∀ c ∈ p.callables, c.isPipe = true → Reach p (topNames p tops) c.name

theorem unusedOutputsO_spec (p0 p : Program) (tops : List String) (T : Table)
    (h : unusedOutputsO p0 p tops = some T) :
    unusedOutputs p0 p tops = T ∧
    ∀ x o, Has T x o → ∀ n, Reach p (topNames p tops) n → ∀ pipe, p.find? n = some pipe →
      ∀ r ∈ pipeCallRefs p pipe, ¬ RefersTo p pipe x o r := by
  unfold unusedOutputsO at h
  refine ⟨?_, fun x o hT => ?_⟩
  · unfold unusedOutputs
    exact usedOutsLoopO_eq p _ _ _ T h
  · exact (usedOutsLoopO_sound p x o _ _ _ T h hT).2

theorem remOutStruct_outStep {x o : String} {ti : TypeInfo} {p : Program} (hst : RemOutStructOK x o ti p = true) :
    (∃ xc, p.find? x = some xc) ∧ outStep x o p = { p with callables := p.callables.map (FRo x o) } := by
  unfold RemOutStructOK at hst
  simp only [Bool.and_eq_true, bne_iff_ne, ne_eq, List.all_eq_true] at hst
  obtain ⟨⟨⟨⟨_, hfx⟩, _⟩, _⟩, _⟩ := hst
  cases hxc : p.find? x with
  | none => simp [hxc] at hfx
  | some xc =>
    simp only [hxc, Bool.and_eq_true, List.all_eq_true, Bool.or_eq_true, bne_iff_ne, ne_eq, beq_iff_eq] at hfx
    exact ⟨⟨xc, rfl⟩, outStep_eq x o p xc hxc hfx.1.1⟩

theorem refConds_of_unused (p0 p : Program) (tops : List String) (T : Table) (hs : StructOK p = true)
    (hreach : AllReach p tops) (h : unusedOutputsO p0 p tops = some T) (x o : String) (hT : Has T x o)
    (xc : Callable) (hx : p.find? x = some xc) :
    p.callables.all (refCondRo x o) = true ∧ outputUnreferenced x o p = true :=
  refConds_of_not_refers p hs x o xc hx fun pipe hc hp =>
    (unusedOutputsO_spec p0 p tops T h).2 x o hT pipe.name (hreach pipe hc hp) pipe
      (Proofs.ListFacts.find?_key_of_nodup (StructOK_parts hs).1 hc)

theorem unused_entry_ok (p0 p : Program) (tops : List String) (T : Table) (ti : TypeInfo)
    (hs : StructOK p = true) (hreach : AllReach p tops) (h : unusedOutputsO p0 p tops = some T)
    (x o : String) (hT : Has T x o) (hst : RemOutStructOK x o ti p = true) :
    RemOutOK x o ti p = true ∧ outputUnreferenced x o p = true := by
  obtain ⟨⟨xc, hxc⟩, _⟩ := remOutStruct_outStep hst
  obtain ⟨h1, h2⟩ := refConds_of_unused p0 p tops T hs hreach h x o hT xc hxc
  exact ⟨remOutOK_of_parts x o ti p hst h1, h2⟩

/-! ### a whole table of outputs, removed one after the other -/

theorem refCond_FRo (x o x' o' : String) (c : Callable) (h : refCondRo x' o' c = true) :
    refCondRo x' o' (FRo x o c) = true := by
  unfold refCondRo at h ⊢
  rw [List.all_eq_true] at h ⊢
  intro r hr
  have hc : callIdsOf x' (FRo x o c) = callIdsOf x' c := by
    unfold callIdsOf; rw [(FRo_fields x o c).2.2.1]
  rw [hc]
  exact h r (graphRefs_le _ _ (FRo_le x o c) r hr)

theorem refCond_outStep (x o : String) (ti : TypeInfo) (p : Program) (hst : RemOutStructOK x o ti p = true)
    (x' o' : String) (h : p.callables.all (refCondRo x' o') = true) :
    (outStep x o p).callables.all (refCondRo x' o') = true := by
  rw [(remOutStruct_outStep hst).2]
  rw [List.all_eq_true] at h ⊢
  intro c' hc'
  obtain ⟨c0, hc0, rfl⟩ := List.mem_map.mp hc'
  exact refCond_FRo x o x' o' c0 (h c0 hc0)

theorem remove_outputs_graph : ∀ (pairs : List (String × String)) (ti : TypeInfo) (p : Program),
    TableStructOK pairs ti p = true →
    (∀ xo ∈ pairs, p.callables.all (refCondRo xo.1 xo.2) = true) →
    deepGraph (ti.removeOutputs pairs) (outSteps pairs p)
      = pairs.foldl (fun g xo => g.map (remNodeOut xo.1 xo.2)) (deepGraph ti p) := by
  intro pairs
  induction pairs with
  | nil => intro ti p _ _; rfl
  | cons xo rest ih =>
    intro ti p hst href
    simp only [TableStructOK, Bool.and_eq_true] at hst
    simp only [outSteps, TypeInfo.removeOutputs, List.foldl_cons]
    have hok := remOutOK_of_parts xo.1 xo.2 ti p hst.1 (href xo (List.mem_cons_self ..))
    have := ih (ti.removeOutput xo.1 xo.2) (outStep xo.1 xo.2 p) hst.2
      (fun xo' hxo' => refCond_outStep xo.1 xo.2 ti p hst.1 xo'.1 xo'.2 (href xo' (List.mem_cons_of_mem _ hxo')))
    simp only [outSteps, TypeInfo.removeOutputs] at this
    rw [this, remove_output_graph xo.1 xo.2 ti p hok]

/-! ### the outputs pass of the `-top-calls` loop -/

/-- all removals of a list applied to one callable -/
def FT (pairs : List (String × String)) (c : Callable) : Callable :=
  pairs.foldl (fun c xo => FRo xo.1 xo.2 c) c

theorem FT_le (pairs : List (String × String)) (c : Callable) : CalLe (FT pairs c) c :=
  List.foldlRecOn pairs _ (motive := (CalLe · c)) (CalLe.refl c) fun c' h xo _ => (FRo_le xo.1 xo.2 c').trans h

theorem outSteps_eq : ∀ (pairs : List (String × String)) (ti : TypeInfo) (p : Program),
    TableStructOK pairs ti p = true →
    outSteps pairs p = { p with callables := p.callables.map (FT pairs) } := by
  intro pairs
  induction pairs with
  | nil =>
    intro ti p _
    have : (fun c : Callable => FT [] c) = id := by funext c; rfl
    simp [outSteps, this]
  | cons xo rest ih =>
    intro ti p hst
    simp only [TableStructOK, Bool.and_eq_true] at hst
    have := ih (ti.removeOutput xo.1 xo.2) (outStep xo.1 xo.2 p) hst.2
    simp only [outSteps, List.foldl_cons] at this ⊢
    rw [this, (remOutStruct_outStep hst.1).2, List.map_map]
    rfl

theorem outSteps_le (pairs : List (String × String)) (ti : TypeInfo) (p : Program)
    (hst : TableStructOK pairs ti p = true) : ProgLe (outSteps pairs p) p := by
  rw [outSteps_eq pairs ti p hst]
  exact ProgLe.map p fun c _ => FT_le pairs c

theorem removeOutsOf_fields (os : List String) (c : Callable) :
    (removeOutsOf os c).name = c.name ∧ (removeOutsOf os c).isPipe = c.isPipe
    ∧ (removeOutsOf os c).calls = c.calls ∧ (removeOutsOf os c).retain = c.retain
    ∧ (removeOutsOf os c).ret = os.foldl (fun r o => removeFirstBind o r) c.ret := by
  rw [Proofs.Refactor.removeOutsOf_eq]
  exact ⟨rfl, rfl, rfl, rfl, rfl⟩

theorem FT_entry (x : String) : ∀ (os : List String) (c : Callable), (c.name = x → c.isPipe = true) →
    FT (os.map (fun o => (x, o))) c = if c.name = x then removeOutsOf os c else c := by
  intro os
  induction os with
  | nil => intro c _; simp [FT, removeOutsOf]
  | cons o rest ih =>
    intro c hp
    have hf := FRo_fields x o c
    have := ih (FRo x o c) (by rw [hf.1, hf.2.1]; exact hp)
    simp only [FT, List.map_cons, List.foldl_cons, hf.1] at this ⊢
    rw [this]
    by_cases hn : c.name = x
    · simp [removeOutsOf, FRo, hn, hp hn]
    · simp [FRo, hn]

theorem FT_table_cons (e : String × List String) (rest : Table) (c : Callable) :
    FT (tablePairs (e :: rest)) c = FT (tablePairs rest) (FT (e.2.map (fun o => (e.1, o))) c) := by
  simp [FT, tablePairs, List.foldl_append]

theorem FT_table_none : ∀ (T : Table) (c : Callable), (∀ e ∈ T, e.1 ≠ c.name) → FT (tablePairs T) c = c := by
  intro T
  induction T with
  | nil => intro c _; rfl
  | cons e rest ih =>
    intro c hne
    have h1 : ¬ c.name = e.1 := fun h => hne e (List.mem_cons_self ..) h.symm
    rw [FT_table_cons, FT_entry e.1 e.2 c (fun h => absurd h h1), if_neg h1]
    exact ih c (fun e' he' => hne e' (List.mem_cons_of_mem _ he'))

/-- on a callable that the table lists only as a pipeline, removing the table's pairs one after the other
is the simultaneous `dropOuts` of the pass -/
theorem FT_tablePairs : ∀ (T : Table) (c : Callable), (T.map (·.1)).Nodup →
    (∀ e ∈ T, e.1 = c.name → c.isPipe = true) → FT (tablePairs T) c = Proofs.Refactor.dropOuts T c := by
  intro T
  induction T with
  | nil => intro c _ _; rfl
  | cons e rest ih =>
    intro c hnd hp
    simp only [List.map_cons, List.nodup_cons] at hnd
    rw [FT_table_cons, FT_entry e.1 e.2 c (fun h => hp e List.mem_cons_self h.symm)]
    unfold Proofs.Refactor.dropOuts
    rw [List.find?_cons]
    by_cases hn : c.name = e.1
    · simp only [hn, beq_self_eq_true, if_true, hp e List.mem_cons_self hn.symm]
      refine FT_table_none rest _ fun e' he' h => hnd.1 (List.mem_map.mpr ⟨e', he', ?_⟩)
      exact h.trans ((removeOutsOf_fields _ c).1.trans hn)
    · rw [if_neg hn, beq_false_of_ne (Ne.symm hn)]
      exact ih c hnd.2 fun e' he' => hp e' (List.mem_cons_of_mem _ he')

theorem mem_fold_removeFirstBind : ∀ (os : List String) (bs : List Bind), (bs.map (·.name)).Nodup →
    ∀ b ∈ os.foldl (fun r o => removeFirstBind o r) bs, b ∈ bs ∧ b.name ∉ os := by
  intro os
  induction os with
  | nil => intro bs _ b hb; exact ⟨hb, by simp⟩
  | cons o rest ih =>
    intro bs hnd b hb
    simp only [List.foldl_cons] at hb
    have hsub := removeFirstBind_sublist o bs
    have hnd' : ((removeFirstBind o bs).map (·.name)).Nodup := (hsub.map _).nodup hnd
    obtain ⟨h1, h2⟩ := ih (removeFirstBind o bs) hnd' b hb
    refine ⟨hsub.subset h1, ?_⟩
    intro hmem
    cases hmem with
    | head => exact removeFirstBind_no _ bs hnd b h1 rfl
    | tail _ h => exact h2 h

theorem tableShape_parts {T : Table} {p : Program} (h : TableShapeOK T p = true) :
    (T.map (·.1)).Nodup ∧ ∀ e ∈ T, ∃ pipe, p.find? e.1 = some pipe ∧ pipe.isPipe = true
      ∧ (pipe.ret.map (·.name)).Nodup := by
  simp only [TableShapeOK, Bool.and_eq_true, decide_eq_true_eq, List.all_eq_true] at h
  refine ⟨h.1, fun e he => ?_⟩
  have := h.2 e he
  cases hf : p.find? e.1 with
  | none => simp [hf] at this
  | some pipe =>
    simp only [hf, Bool.and_eq_true, decide_eq_true_eq] at this
    exact ⟨pipe, rfl, this.1, this.2⟩

theorem mem_tablePairs (T : Table) (xo : String × String) (h : xo ∈ tablePairs T) :
    ∃ e ∈ T, e.1 = xo.1 ∧ xo.2 ∈ e.2 := by
  unfold tablePairs at h
  obtain ⟨e, he, hx⟩ := List.mem_flatMap.mp h
  obtain ⟨o, ho, rfl⟩ := List.mem_map.mp hx
  exact ⟨e, he, rfl, ho⟩

theorem pass_eq_outSteps (p0 p : Program) (tops : List String) (T : Table) (ti : TypeInfo)
    (hs : StructOK p = true) (hU : unusedOutputs p0 p tops = T) (hne : T.isEmpty = false)
    (hshape : TableShapeOK T p = true) (hst : TableStructOK (tablePairs T) ti p = true) :
    (removeUnusedOutputsPass p0 tops p).1 = removeInputs (outPassIns p T) (outSteps (tablePairs T) p) := by
  obtain ⟨hkeys, hents⟩ := tableShape_parts hshape
  subst hU
  rw [Proofs.Refactor.outsPass_eq, if_neg (by simp [hne]), outSteps_eq _ ti p hst]
  show removeInputs _ _ = _
  congr 2
  refine List.map_congr_left fun c hc => (FT_tablePairs _ c hkeys fun e he hk => ?_).symm
  obtain ⟨pipe, hf, hp, _⟩ := hents e he
  rwa [Proofs.ListFacts.nodup_map_inj (StructOK_parts hs).1 pipe (find_mem p _ pipe hf) c hc
    ((find_name p _ pipe hf).trans hk)] at hp

theorem outPass_seedOK (p : Program) (T : Table) (ti : TypeInfo) (hs : StructOK p = true)
    (hshape : TableShapeOK T p = true) (hst : TableStructOK (tablePairs T) ti p = true) :
    ∀ s ∈ outPassSeeds p T, seedOK s.1 s.2 (outSteps (tablePairs T) p) = true := by
  obtain ⟨hkeys, hents⟩ := tableShape_parts hshape
  intro s hsm
  unfold outPassSeeds at hsm
  obtain ⟨e, he, hse⟩ := List.mem_flatMap.mp hsm
  obtain ⟨pipe, hf, hpp, hretnd⟩ := hents e he
  rw [hf] at hse
  obtain ⟨i, hi, rfl⟩ := List.mem_map.mp hse
  have hro := removeOutsOf_fields e.2 pipe
  have hF : FT (tablePairs T) pipe = removeOutsOf e.2 pipe := by
    rw [FT_tablePairs T pipe hkeys fun _ _ _ => hpp, Proofs.Refactor.dropOuts, find_name p _ pipe hf,
      Proofs.ListFacts.find?_key_of_nodup hkeys he]
    exact if_pos hpp
  rw [outSteps_eq (tablePairs T) ti p hst]
  refine seedOK_unbound p hs (FT (tablePairs T)) p.top (fun c => (FT_le _ c).1) pipe (find_mem p _ pipe hf)
    e.2 [] i hi ?_ ?_ ?_ <;> rw [hF]
  · exact fun k hk => ⟨hro.2.2.1 ▸ hk, List.not_mem_nil⟩
  · exact fun b hb => mem_fold_removeFirstBind e.2 pipe.ret hretnd b (hro.2.2.2.2 ▸ hb)
  · exact fun r hr => hro.2.2.2.1 ▸ hr

theorem outputs_pass_graph (p0 p : Program) (tops : List String) (T : Table) (ti : TypeInfo)
    (hs : StructOK p = true) (hreach : AllReach p tops) (hT : unusedOutputsO p0 p tops = some T)
    (hne : T.isEmpty = false) (hshape : TableShapeOK T p = true)
    (hst : TableStructOK (tablePairs T) ti p = true) :
    (removeUnusedOutputsPass p0 tops p).1 = removeInputs (outPassIns p T) (outSteps (tablePairs T) p)
    ∧ deepGraph ((ti.removeOutputs (tablePairs T)).removeInputs (outPassIns p T)) (removeUnusedOutputsPass p0 tops p).1
      = (outPassIns p T).foldl (fun g xq => g.map (remNodeIn xq.1 xq.2))
          ((tablePairs T).foldl (fun g xo => g.map (remNodeOut xo.1 xo.2)) (deepGraph ti p)) := by
  have hprog := pass_eq_outSteps p0 p tops T ti hs (unusedOutputsO_spec p0 p tops T hT).1 hne hshape hst
  refine ⟨hprog, ?_⟩
  have hrefs : ∀ xo ∈ tablePairs T, p.callables.all (refCondRo xo.1 xo.2) = true := by
    intro xo hxo
    obtain ⟨e, he, hex, ho⟩ := mem_tablePairs T xo hxo
    obtain ⟨pipe, hf, _, _⟩ := (tableShape_parts hshape).2 e he
    exact (refConds_of_unused p0 p tops T hs hreach hT xo.1 xo.2 ⟨e, he, hex, ho⟩ pipe (hex ▸ hf)).1
  have hrem : RemInsOK (outPassIns p T) (outSteps (tablePairs T) p) = true :=
    cascade_remInsOK p _ hs (outSteps_le _ ti p hst) _ (outPass_seedOK p T ti hs hshape hst) _
  rw [hprog, remove_inputs_graph _ _ _ hrem, remove_outputs_graph (tablePairs T) ti p hst hrefs]

/-! ### the reachability hypothesis, decidable -/

theorem insert_fold_mem (new acc : List String) (m : String) :
    m ∈ new.foldl (fun a m => if a.contains m then a else a ++ [m]) acc → m ∈ acc ∨ m ∈ new :=
  List.foldlRecOn new _ (motive := fun a => m ∈ a → m ∈ acc ∨ m ∈ new) Or.inl fun a ih n hn h => by
    split at h
    · exact ih h
    · rcases List.mem_append.mp h with h | h
      · exact ih h
      · exact Or.inr (List.mem_singleton.mp h ▸ hn)

theorem reach_kid (p : Program) (roots : List String) (a m : String) (ha : Reach p roots a)
    (hk : m ∈ pipeKids p a) : Reach p roots m := by
  unfold pipeKids at hk
  cases hf : p.find? a with
  | none => simp [hf] at hk
  | some pipe =>
    simp only [hf] at hk
    obtain ⟨k, hkm, hkk⟩ := List.mem_filterMap.mp hk
    cases hd : p.find? k.decId with
    | none => simp [hd] at hkk
    | some d =>
      cases hdp : d.isPipe with
      | false => simp [hd, hdp] at hkk
      | true =>
        simp only [hd, hdp, if_true, Option.some.injEq] at hkk
        exact hkk ▸ Reach.step a pipe k d ha hf hkm hd hdp

theorem reachList_sound (p : Program) (roots : List String) : ∀ (n : Nat) (acc : List String),
    (∀ m ∈ acc, Reach p roots m) → ∀ m ∈ reachList p n acc, Reach p roots m := by
  intro n
  induction n with
  | zero => exact fun acc h => h
  | succ n ih =>
    intro acc h
    refine ih _ fun m' hm' => ?_
    rcases insert_fold_mem _ _ m' hm' with h1 | h1
    · exact h m' h1
    · obtain ⟨a, ha, hk⟩ := List.mem_flatMap.mp h1
      exact reach_kid p roots a m' (h a ha) hk

theorem allReach_of_B (p : Program) (tops : List String) (h : allReachB p tops = true) : AllReach p tops := by
  intro c hc hp
  simp only [allReachB, List.all_eq_true, Bool.or_eq_true, Bool.not_eq_true', List.contains_iff_mem] at h
  rcases h c hc with h | h
  · rw [hp] at h; cases h
  · exact reachList_sound p (topNames p tops) _ _ (fun m hm => Reach.root m hm) _ h

end Proofs.RefactorUnusedOuts
