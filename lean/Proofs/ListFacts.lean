/-! List facts that more than one group of proof modules uses. -/
namespace Proofs.ListFacts

/-- `f` takes distinct values along `l`, so it is injective on the members of `l`. -/
theorem nodup_map_inj {α β : Type} {f : α → β} {l : List α} (h : (l.map f).Nodup) :
    ∀ a ∈ l, ∀ b ∈ l, f a = f b → a = b :=
  -- the relation holds of an element and itself and, `f` taking distinct values along `l`,
  -- of two elements at different positions, in either order
  have hp : l.Pairwise fun a b => f a ≠ f b := List.pairwise_map.1 h
  fun _ ha _ hb => List.Pairwise.forall_of_forall_of_flip (R := fun a b => f a = f b → a = b)
    (fun _ _ _ => rfl) (hp.imp fun hne e => absurd e hne) (hp.imp fun hne e => absurd e.symm hne)
    ha hb

theorem sum_map_le {α} (l : List α) (f g : α → Nat) (h : ∀ x ∈ l, f x ≤ g x) :
    (l.map f).sum ≤ (l.map g).sum := by
  induction l with
  | nil => simp
  | cons a r ih =>
    simp only [List.map_cons, List.sum_cons]
    have := h a (List.mem_cons_self ..)
    have := ih (fun x hx => h x (List.mem_cons_of_mem _ hx))
    omega

theorem sum_map_lt {α} (l : List α) (f g : α → Nat) (h : ∀ x ∈ l, f x ≤ g x)
    (hs : ∃ x ∈ l, f x < g x) : (l.map f).sum < (l.map g).sum := by
  obtain ⟨a, ha, hlt⟩ := hs
  obtain ⟨s, t, rfl⟩ := List.append_of_mem ha
  have hs := sum_map_le s f g fun b hb => h b (List.mem_append_left _ hb)
  have ht := sum_map_le t f g fun b hb => h b (List.mem_append_right _ (List.mem_cons_of_mem _ hb))
  simp only [List.map_append, List.map_cons, List.sum_append, List.sum_cons]
  omega

/-- A dependent product `A.flatMap fun a => (B a).map (f a)` has no duplicates when `A` and every `B a` have
none and `f` is injective in its two arguments together. -/
theorem nodup_flatMap_map {α β γ : Type} {A : List α} {B : α → List β} {f : α → β → γ} (hA : A.Nodup)
    (hB : ∀ a ∈ A, (B a).Nodup) (hf : ∀ a b a' b', f a b = f a' b' → a = a' ∧ b = b') :
    (A.flatMap fun a => (B a).map (f a)).Nodup := by
  rw [List.Nodup, List.pairwise_flatMap]
  refine ⟨fun a ha => List.pairwise_map.mpr ((hB a ha).imp fun hne e => hne (hf _ _ _ _ e).2),
    hA.imp fun hne x hx y hy e => ?_⟩
  obtain ⟨_, _, rfl⟩ := List.mem_map.mp hx
  obtain ⟨_, _, rfl⟩ := List.mem_map.mp hy
  exact hne (hf _ _ _ _ e).1

/-- the converse of `nodup_map_inj` -/
theorem nodup_map_of_inj_on {α β : Type} {f : α → β} {l : List α} (hnd : l.Nodup)
    (hinj : ∀ a ∈ l, ∀ b ∈ l, f a = f b → a = b) : (l.map f).Nodup :=
  List.pairwise_map.mpr (hnd.imp_of_mem fun ha hb hne e => hne (hinj _ ha _ hb e))

theorem map_eq_self {α : Type} {f : α → α} {l : List α} (h : ∀ a ∈ l, f a = a) : l.map f = l :=
  (List.map_congr_left h).trans (List.map_id l)

theorem flatMap_congr {α β : Type} {l : List α} {f g : α → List β} (h : ∀ a ∈ l, f a = g a) :
    l.flatMap f = l.flatMap g := by
  rw [List.flatMap_def, List.flatMap_def, List.map_congr_left h]

/-- Pigeonhole: a duplicate-free list contained in a list that is not longer is a permutation of it. -/
theorem perm_of_subset_of_length_le {α : Type} [DecidableEq α] : ∀ {a b : List α}, a.Nodup →
    (∀ x ∈ a, x ∈ b) → b.length ≤ a.length → a.Perm b
  | [], b, _, _, hl => by
    have : b = [] := by cases b <;> simp_all
    subst this; exact .refl _
  | x :: a, b, hn, hs, hl => by
    have hx : x ∈ b := hs x List.mem_cons_self
    simp only [List.nodup_cons] at hn
    have hs' : ∀ y ∈ a, y ∈ b.erase x := by
      intro y hy
      have hne : y ≠ x := fun h => hn.1 (h ▸ hy)
      exact (List.mem_erase_of_ne hne).mpr (hs y (List.mem_cons_of_mem _ hy))
    have hl' : (b.erase x).length ≤ a.length := by
      rw [List.length_erase_of_mem hx]; simp only [List.length_cons] at hl; omega
    exact ((perm_of_subset_of_length_le hn.2 hs' hl').cons x).trans (List.perm_cons_erase hx).symm

/-- `q` holds wherever `p` does, and at one more member: it counts more. -/
theorem countP_lt_of_imp {α : Type} {p q : α → Bool} {l : List α} (h : ∀ x ∈ l, p x = true → q x = true)
    {y : α} (hy : y ∈ l) (hp : p y = false) (hq : q y = true) : l.countP p < l.countP q := by
  obtain ⟨l1, l2, rfl⟩ := List.append_of_mem hy
  have h1 : l1.countP p ≤ l1.countP q := List.countP_mono_left fun z hz => h z (by simp [hz])
  have h2 : l2.countP p ≤ l2.countP q := List.countP_mono_left fun z hz => h z (by simp [hz])
  simp only [List.countP_append, List.countP_cons, hp, hq, Bool.false_eq_true, if_false, if_true]
  omega

/-! Association lists (`List.lookup`) and lookups by a key function (`List.find?`). -/

theorem mem_of_lookup {κ β : Type} [BEq κ] [LawfulBEq κ] {l : List (κ × β)} {k : κ} {v : β}
    (h : l.lookup k = some v) : (k, v) ∈ l := by
  obtain ⟨l₁, l₂, rfl, _⟩ := List.lookup_eq_some_iff.mp h
  simp

theorem lookup_of_mem_nodup {κ β : Type} [BEq κ] [LawfulBEq κ] {l : List (κ × β)} {k : κ} {v : β}
    (hn : (l.map Prod.fst).Nodup) (h : (k, v) ∈ l) : l.lookup k = some v := by
  obtain ⟨l₁, l₂, rfl⟩ := List.append_of_mem h
  refine List.lookup_eq_some_iff.mpr ⟨l₁, l₂, rfl, fun p hp => ?_⟩
  -- an earlier entry with the same key would be a duplicate
  simp only [List.map_append, List.map_cons, List.nodup_append] at hn
  have hne := hn.2.2 p.1 (List.mem_map.mpr ⟨p, hp, rfl⟩) k List.mem_cons_self
  simpa using fun h : k = p.1 => hne h.symm

theorem find?_key_of_nodup {α κ : Type} [BEq κ] [LawfulBEq κ] {key : α → κ} {l : List α}
    (hn : (l.map key).Nodup) {x : α} (hx : x ∈ l) : l.find? (fun y => key y == key x) = some x := by
  induction l with
  | nil => cases hx
  | cons y ys ih =>
    simp only [List.map_cons, List.nodup_cons] at hn
    simp only [List.find?_cons]
    cases hx with
    | head => simp
    | tail _ hx' =>
      have : (key y == key x) = false := by
        simpa using fun (e : key y = key x) => hn.1 (e ▸ List.mem_map_of_mem hx')
      rw [this]
      exact ih hn.2 hx'

theorem lookup_filter_ne {κ β : Type} [BEq κ] [LawfulBEq κ] {l : List (κ × β)} {n m : κ} (hne : m ≠ n) :
    (l.filter (fun p => p.1 != n)).lookup m = l.lookup m := by
  induction l with
  | nil => rfl
  | cons x r ih =>
    obtain ⟨k, v⟩ := x
    by_cases hk : k = n
    · subst hk
      have : (m == k) = false := by simpa using hne
      simp [List.filter, List.lookup, this, ih]
    · have hk' : (k != n) = true := by simpa using hk
      simp only [List.filter, hk', List.lookup]
      split
      · rfl
      · exact ih

end Proofs.ListFacts
