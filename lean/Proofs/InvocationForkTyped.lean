/-
C16 — the structured cases of `convertToExp` (`LazyArgumentMap`, `MarshalerMap`, `marshallerArray`,
`nil`) agree with the `RawMessage` case on the marshalled JSON of a well-typed value, and the converted
expression is well-typed (`convertMV_wt`).
-/
import Proofs.InvocationFork

namespace Martian.InvocationFork
open Martian.Invocation Martian.InvocationText

theorem mapAction_umap (ad : Nat) : mapAction .umap ad 0 = .keep := by
  by_cases h : ad > 0 <;> simp [mapAction, Base.action0, Base.unknownAction, h]

mutual
theorem fix_umap : ∀ (e : Exp) (ad : Nat), fix .umap ad 0 e = e
  | .lit _, _ => by simp [fix]
  | .arr xs, ad => by simp [fix, fixList_umap xs (ad - 1)]
  | .map k kvs, ad => by simp [fix, mapAction_umap]
theorem fixList_umap : ∀ (xs : EList) (ad : Nat), fixList .umap ad 0 xs = xs
  | .nil, _ => by simp [fixList]
  | .cons e r, ad => by simp [fixList, fix_umap e ad, fixList_umap r ad]
end

theorem convert_umap (ad : Nat) (j : J) : convert ⟨.umap, ad, 0⟩ j = ofJ j := by
  simp only [convert]
  cases ofJ j with
  | none => rfl
  | some e => simp [fix_umap]

theorem convertLazy_umap (ad : Nat) : ∀ kvs : JKvs,
    convertLazy .umap ad 0 kvs = (ofJKvs kvs).map ofEKvs
  | .nil => rfl
  | .cons k j r => by
    simp only [convertLazy, memberType, mapAction_umap, convert_umap, convertLazy_umap ad r, ofJKvs]
    cases ofJ j <;> cases ofJKvs r <;> simp [ofEKvs]

mutual
theorem convertMV_umap : ∀ (v : MV) (ad : Nat), noVal v = true →
    convertMV .umap ad 0 v = (ofJ (marshal v)).map ofExp
  | .nil, ad, _ => by simp [convertMV, marshal, ofJ, litOk, ofExp]
  | .val e, ad, h => by simp [noVal] at h
  | .raw j, ad, _ => by simp [convertMV, marshal, convert_umap]
  | .lazy kvs, ad, _ => by
    simp only [convertMV, convertLazy_umap, structKind, mapAction_umap, marshal, ofJ]
    cases ofJKvs kvs <;> simp [ofExp]
  | .mmap kvs, ad, h => by
    simp only [convertMV, convertMK_umap kvs ad (by simpa [noVal] using h), structKind, mapAction_umap,
      marshal, ofJ]
    cases ofJKvs (marshalK kvs) <;> simp [ofExp]
  | .marr xs, ad, h => by
    simp only [convertMV, convertML_umap xs (ad - 1) (by simpa [noVal] using h), marshal, ofJ]
    cases ofJList (marshalL xs) <;> simp [ofExp]
theorem convertML_umap : ∀ (xs : MList) (ad : Nat), noValL xs = true →
    convertML .umap ad 0 xs = (ofJList (marshalL xs)).map ofEList
  | .nil, _, _ => rfl
  | .cons v r, ad, h => by
    simp only [noValL, Bool.and_eq_true] at h
    simp only [convertML, convertMV_umap v ad h.1, convertML_umap r ad h.2, marshalL, ofJList]
    cases ofJ (marshal v) <;> cases ofJList (marshalL r) <;> simp [ofEList]
theorem convertMK_umap : ∀ (kvs : MKvs) (ad : Nat), noValK kvs = true →
    convertMK .umap ad 0 kvs = (ofJKvs (marshalK kvs)).map ofEKvs
  | .nil, _, _ => rfl
  | .cons k v r, ad, h => by
    simp only [noValK, Bool.and_eq_true] at h
    simp only [convertMK, memberType, mapAction_umap, convertMV_umap v ad h.1, convertMK_umap r ad h.2,
      marshalK, ofJKvs]
    cases ofJ (marshal v) <;> cases ofJKvs (marshalK r) <;> simp [ofEKvs]
end

theorem convert_arr (b : Base) (ad md : Nat) (xs : JList) :
    convert ⟨b, ad, md⟩ (.arr xs) = ((ofJList xs).map (fixList b (ad - 1) md)).map .arr := by
  simp only [convert, ofJ]
  cases ofJList xs <;> simp [fix]

theorem convert_obj_vals (b : Base) (ad md : Nat) (b' : Base) (ad' md' : Nat) (kvs : JKvs)
    (hm : mapAction b ad md = .vals b' ad' md') :
    convert ⟨b, ad, md⟩ (.obj kvs) = ((ofJKvs kvs).map (fixVals b' ad' md')).map (.map false) := by
  simp only [convert, ofJ]
  cases ofJKvs kvs <;> simp [fix, hm]

theorem convert_obj_fields (b : Base) (ad md : Nat) (fs : Fields) (kvs : JKvs)
    (hm : mapAction b ad md = .fields fs) :
    convert ⟨b, ad, md⟩ (.obj kvs) = ((ofJKvs kvs).map (fixFields fs)).map (.map true) := by
  simp only [convert, ofJ]
  cases ofJKvs kvs <;> simp [fix, hm]

theorem mapAction_keep {b : Base} {ad md : Nat} (hm : mapAction b ad md = .keep) (hu : b.isUmap = true) :
    b = .umap ∧ md = 0 := by
  cases b <;> simp [Base.isUmap] at hu
  refine ⟨rfl, ?_⟩
  by_cases h0 : md > 0
  · simp [mapAction, h0] at hm
  · omega

theorem find_getD {fs : Fields} {k : Str} (h : (fs.find k).isSome = true) (d : TypeId) :
    (fs.find k).getD d = fs.findD k := by
  cases hf : fs.find k with
  | none => simp [hf] at h
  | some t => simp [Fields.findD, hf]

theorem convertLazy_vals (b : Base) (ad md : Nat) (b' : Base) (ad' md' : Nat)
    (hm : mapAction b ad md = .vals b' ad' md') : ∀ kvs : JKvs,
    convertLazy b ad md kvs = ((ofJKvs kvs).map (fixVals b' ad' md')).map ofEKvs
  | .nil => rfl
  | .cons k j r => by
    simp only [convertLazy, memberType, hm, convert, convertLazy_vals b ad md b' ad' md' hm r, ofJKvs]
    cases ofJ j <;> cases ofJKvs r <;> simp [ofEKvs, fixVals]

theorem convertLazy_fields (b : Base) (ad md : Nat) (fs : Fields)
    (hm : mapAction b ad md = .fields fs) : ∀ kvs : JKvs, jWtFields fs kvs = true →
    convertLazy b ad md kvs = ((ofJKvs kvs).map (fixFields fs)).map ofEKvs
  | .nil, _ => rfl
  | .cons k j r, hw => by
    simp only [jWtFields, Bool.and_eq_true] at hw
    simp only [convertLazy, memberType, hm, find_getD hw.1.1, convert, convertLazy_fields b ad md fs hm r hw.2, ofJKvs]
    cases ofJ j <;> cases ofJKvs r <;> simp [ofEKvs, fixFields]

mutual
theorem convertMV_eq_convert : ∀ (v : MV) (b : Base) (ad md : Nat), noVal v = true →
    jWt b ad md (marshal v) = true →
    convertMV b ad md v = (convert ⟨b, ad, md⟩ (marshal v)).map ofExp
  | .nil, b, ad, md, _, _ => by simp [convertMV, marshal, convert, ofJ, litOk, fix, ofExp]
  | .val e, b, ad, md, h, _ => by simp [noVal] at h
  | .raw j, b, ad, md, _, _ => by simp [convertMV, marshal]
  | .lazy kvs, b, ad, md, _, hw => by
    simp only [marshal, jWt, Bool.and_eq_true] at hw
    obtain ⟨_, hw⟩ := hw
    cases hm : mapAction b ad md with
    | vals b' ad' md' =>
      simp only [convertMV, marshal, convertLazy_vals b ad md b' ad' md' hm, convert_obj_vals b ad md b' ad' md' kvs hm,
        structKind, hm]
      cases ofJKvs kvs <;> simp [ofExp]
    | fields fs =>
      simp only [hm] at hw
      simp only [convertMV, marshal, convertLazy_fields b ad md fs hm kvs hw, convert_obj_fields b ad md fs kvs hm,
        structKind, hm]
      cases ofJKvs kvs <;> simp [ofExp]
    | markStruct => simp [hm] at hw
    | keep =>
      obtain ⟨rfl, rfl⟩ := mapAction_keep hm (by simpa only [hm] using hw)
      rw [convertMV_umap _ _ (by simp [noVal]), convert_umap]
  | .mmap kvs, b, ad, md, h, hw => by
    have hn : noValK kvs = true := by simpa [noVal] using h
    simp only [marshal, jWt, Bool.and_eq_true] at hw
    obtain ⟨_, hw⟩ := hw
    cases hm : mapAction b ad md with
    | vals b' ad' md' =>
      simp only [hm] at hw
      simp only [convertMV, marshal, convertMK_vals kvs b ad md b' ad' md' hm hn hw,
        convert_obj_vals b ad md b' ad' md' _ hm, structKind, hm]
      cases ofJKvs (marshalK kvs) <;> simp [ofExp]
    | fields fs =>
      simp only [hm] at hw
      simp only [convertMV, marshal, convertMK_fields kvs b ad md fs hm hn hw,
        convert_obj_fields b ad md fs _ hm, structKind, hm]
      cases ofJKvs (marshalK kvs) <;> simp [ofExp]
    | markStruct => simp [hm] at hw
    | keep =>
      obtain ⟨rfl, rfl⟩ := mapAction_keep hm (by simpa only [hm] using hw)
      rw [convertMV_umap _ _ (by simpa [noVal] using hn), convert_umap]
  | .marr xs, b, ad, md, h, hw => by
    have hn : noValL xs = true := by simpa [noVal] using h
    simp only [marshal, jWt, Bool.and_eq_true] at hw
    simp only [convertMV, marshal, convertML_eq xs b (ad - 1) md hn hw.2, convert_arr]
    cases ofJList (marshalL xs) <;> simp [ofExp]
theorem convertML_eq : ∀ (xs : MList) (b : Base) (ad md : Nat), noValL xs = true →
    jWtList b ad md (marshalL xs) = true →
    convertML b ad md xs = ((ofJList (marshalL xs)).map (fixList b ad md)).map ofEList
  | .nil, _, _, _, _, _ => rfl
  | .cons v r, b, ad, md, h, hw => by
    simp only [noValL, Bool.and_eq_true] at h
    simp only [marshalL, jWtList, Bool.and_eq_true] at hw
    simp only [convertML, convertMV_eq_convert v b ad md h.1 hw.1, convertML_eq r b ad md h.2 hw.2, marshalL,
      ofJList, convert]
    cases ofJ (marshal v) <;> cases ofJList (marshalL r) <;> simp [ofEList, fixList]
theorem convertMK_vals : ∀ (kvs : MKvs) (b : Base) (ad md : Nat) (b' : Base) (ad' md' : Nat),
    mapAction b ad md = .vals b' ad' md' → noValK kvs = true → jWtVals b' ad' md' (marshalK kvs) = true →
    convertMK b ad md kvs = ((ofJKvs (marshalK kvs)).map (fixVals b' ad' md')).map ofEKvs
  | .nil, _, _, _, _, _, _, _, _, _ => rfl
  | .cons k v r, b, ad, md, b', ad', md', hm, h, hw => by
    simp only [noValK, Bool.and_eq_true] at h
    simp only [marshalK, jWtVals, Bool.and_eq_true] at hw
    simp only [convertMK, memberType, hm, convertMV_eq_convert v b' ad' md' h.1 hw.1,
      convertMK_vals r b ad md b' ad' md' hm h.2 hw.2, marshalK, ofJKvs, convert]
    cases ofJ (marshal v) <;> cases ofJKvs (marshalK r) <;> simp [ofEKvs, fixVals]
theorem convertMK_fields : ∀ (kvs : MKvs) (b : Base) (ad md : Nat) (fs : Fields),
    mapAction b ad md = .fields fs → noValK kvs = true → jWtFields fs (marshalK kvs) = true →
    convertMK b ad md kvs = ((ofJKvs (marshalK kvs)).map (fixFields fs)).map ofEKvs
  | .nil, _, _, _, _, _, _, _ => rfl
  | .cons k v r, b, ad, md, fs, hm, h, hw => by
    simp only [noValK, Bool.and_eq_true] at h
    simp only [marshalK, jWtFields, Bool.and_eq_true] at hw
    simp only [convertMK, memberType, hm, find_getD hw.1.1, convertMV_eq_convert v _ _ _ h.1 hw.1.2,
      convertMK_fields r b ad md fs hm h.2 hw.2, marshalK, ofJKvs, convert]
    cases ofJ (marshal v) <;> cases ofJKvs (marshalK r) <;> simp [ofEKvs, fixFields]
end

theorem jIntsOk_marshal : ∀ v : MV, noVal v = true → mvIntsOk v = true → jIntsOk (marshal v) = true := by
  intro v
  exact MV.rec
    (motive_1 := fun v => noVal v = true → mvIntsOk v = true → jIntsOk (marshal v) = true)
    (motive_2 := fun xs => noValL xs = true → mvIntsOkL xs = true → jIntsOkList (marshalL xs) = true)
    (motive_3 := fun kvs => noValK kvs = true → mvIntsOkK kvs = true → jIntsOkKvs (marshalK kvs) = true)
    (by intros; rfl)
    (by intro e h; simp [noVal] at h)
    (by intro j _ h; simpa [mvIntsOk, marshal] using h)
    (by intro kvs _ h; simpa [mvIntsOk, marshal, jIntsOk] using h)
    (by intro kvs ih hn h; simpa [marshal, jIntsOk] using ih (by simpa [noVal] using hn) (by simpa [mvIntsOk] using h))
    (by intro xs ih hn h; simpa [marshal, jIntsOk] using ih (by simpa [noVal] using hn) (by simpa [mvIntsOk] using h))
    (by intros; rfl)
    (by
      intro v r ihv ihr hn h
      simp only [noValL, Bool.and_eq_true] at hn
      simp only [mvIntsOkL, Bool.and_eq_true] at h
      simp [marshalL, jIntsOkList, ihv hn.1 h.1, ihr hn.2 h.2])
    (by intros; rfl)
    (by
      intro k v r ihv ihr hn h
      simp only [noValK, Bool.and_eq_true] at hn
      simp only [mvIntsOkK, Bool.and_eq_true] at h
      simp [marshalK, jIntsOkKvs, ihv hn.1 h.1, ihr hn.2 h.2])
    v

/-- a well-typed run-time value with integers in range converts – by whichever case of
`convertToExp` its dynamic type selects – to the expression the raw case gives, and that
expression is well-typed (`wt`: shape and struct-vs-map flags as the compiler demands) -/
theorem convertMV_wt (v : MV) (b : Base) (ad md : Nat) (hn : noVal v = true)
    (hw : jWt b ad md (marshal v) = true) (hi : mvIntsOk v = true) :
    ∃ e, convertMV b ad md v = some (ofExp e) ∧ convert ⟨b, ad, md⟩ (marshal v) = some e ∧
      wt b ad md e = true ∧ splitFreeI (ofExp e) = true := by
  obtain ⟨e0, he0⟩ := ofJ_isSome (marshal v) (jIntsOk_marshal v hn hi)
  refine ⟨fix b ad md e0, ?_, ?_, wt_fix_ofJ _ e0 b ad md he0 hw, splitFreeI_ofExp _⟩
  · rw [convertMV_eq_convert v b ad md hn hw]; simp [convert, he0]
  · simp [convert, he0]

end Martian.InvocationFork
