/-
C13: the definitions the property theorems of Props/C13.lean are stated with
(leaf lists, shapes, hypotheses, oracles, example records).  They are part of
the MODEL; the lemmas about them live in Proofs/PostProcess*.lean.
Core Lean only.
-/
import Martian.PostProcess

namespace Martian.PostProcess

/-! ## (used by Proofs/PostProcess.lean) -/

/-- An entry that is moved (not a symlink). -/
def Entry.isLink : Entry → Bool
  | .link _ => true
  | _ => false

/-- a small file system used by the non-vacuity examples of Props.C13 -/
def exFS : FS :=
  { get := fun q => if q = ["ps", "MK", "files", "f"] then some (.file 7)
      else if q = ["ps"] ∨ q = ["ps", "MK"] ∨ q = ["ps", "MK", "files"] then some .dir else none
    dom := [] }

/-! ## (used by Proofs/PostProcessDests.lean) -/

def valRev : List Nat → Nat
  | [] => 0
  | d :: ds => d + 10 * valRev ds

/-! ## (used by Proofs/PostProcessWriter.lean) -/

/-- tokens a value can start with -/
def goodHead : Tok → Bool
  | .null | .lit _ | .str _ | .lbrack | .lbrace => true
  | _ => false

/-! ## (used by Proofs/PostProcess.lean) -/

/-- a path component that `Clean` keeps as it is -/
def cleanComp (c : String) : Bool := c ≠ ".." && c ≠ "." && c ≠ ""

/-- the string of a JSON string value -/
def J.strVal : J → Option String
  | .str s => some s
  | _ => none

/-! ## (used by Proofs/PostProcessShape.lean) -/

/-- a file leaf becomes null, stays, or becomes a path string -/
def LeafShape (v v' : J) : Prop := v' = .null ∨ v' = v ∨ ∃ s, v' = .str s

/-- pointwise relation between two lists (same length) -/
inductive All2 (R : J → J → Prop) : List J → List J → Prop
  | nil : All2 R [] []
  | cons {x y : J} {xs ys : List J} : R x y → All2 R xs ys → All2 R (x :: xs) (y :: ys)

/-- arrays of `k+1` dimensions over elements related by `R`: same lengths at
every level; anything that is not an array (null included) is unchanged -/
def ShapeArr (R : J → J → Prop) : Nat → J → J → Prop
  | 0, .arr xs, v' => ∃ ys, v' = .arr ys ∧ All2 R xs ys
  | k + 1, .arr xs, v' => ∃ ys, v' = .arr ys ∧ All2 (ShapeArr R k) xs ys
  | _, v, v' => v' = v

/-- typed maps: the keys of the result are the sorted legal keys of the input,
each value related to the input's value for that key -/
def ShapeMap (R : J → J → Prop) (v v' : J) : Prop :=
  match v with
  | .obj kvs => ∃ kvs', v' = .obj kvs' ∧
      kvs'.map Prod.fst = sortStrings (dedup ((kvs.map Prod.fst).filter legalName)) ∧
      ∀ kv ∈ kvs', R ((lookupLast kvs kv.1).getD .null) kv.2
  | _ => v' = v

/-- structs: the keys of the result are the sorted member ids (an absent key
reads as null), each value related by its member's relation -/
def ShapeStruct (RM : String → J → J → Prop) (ids : List String) (v v' : J) : Prop :=
  match v with
  | .obj [] => v' = .obj []
  | .obj kvs => ∃ kvs', v' = .obj kvs' ∧ kvs'.map Prod.fst = sortStrings ids ∧
      ∀ kv ∈ kvs', RM kv.1 ((lookupLast kvs kv.1).getD .null) kv.2
  | _ => v' = v

mutual
/-- `Shape ty v v'`: `v'` has the shape of `v` at type `ty` -/
def Shape : Ty → J → J → Prop
  | .scalar, v, v' => v' = v
  | .file _, v, v' => LeafShape v v'
  | .arr e k, v, v' => if hasFile e then ShapeArr (Shape e) k v v' else v' = v
  | .tmap e, v, v' => if hasFile e then ShapeMap (Shape e) v v' else v' = v
  | .struct ms, v, v' =>
    if hasFileMs ms then ShapeStruct (ShapeMs ms) (ms.map (·.1)) v v' else v' = v
def ShapeMs : List (String × String × Ty) → String → J → J → Prop
  | [], _, v, v' => v' = v
  | (id, _, t) :: ms, k, v, v' => if id = k then Shape t v v' else ShapeMs ms k v v'
end

/-- fields of a record value (`_outs` of one fork); anything else has none -/
def fieldsOf : J → List (String × J)
  | .obj kvs => kvs
  | _ => []

/-- `ShapeRec params outs r`: the rewritten record `r` has exactly the declared
parameters whose key is present in `outs`, in declaration order, each value
related to the input value by `Shape` at the parameter's type. -/
def ShapeRec (params : List (String × String × Ty)) (outs r : List (String × J)) : Prop :=
  r.map Prod.fst = (params.map (·.1)).filter (fun id => (lookupLast outs id).isSome) ∧
  ∀ kv ∈ r, ∃ on ty v, (kv.1, on, ty) ∈ params ∧ lookupLast outs kv.1 = some v ∧ Shape ty v kv.2

/-- one fork's record (`processStructOuts`) -/
def ShapeFork (params : List (String × String × Ty)) (x y : J) : Prop :=
  ∃ r, y = .obj r ∧ ShapeRec params (fieldsOf x) r

/-! ## (used by Proofs/PostProcessLeaves.lean) -/

/-- one call `moveOutFile ps outs name v` -/
structure Leaf where
  v : J
  outs : Path
  name : String

/-- the destination path derived for the leaf -/
def Leaf.dest (l : Leaf) : Path := l.outs ++ [l.name]

def runLeaf (ps : Path) (fs : FS) (l : Leaf) : FS := (moveOutFile ps l.outs l.name l.v fs).2

def runLeaves (ps : Path) (ls : List Leaf) (fs : FS) : FS := ls.foldl (runLeaf ps) fs

abbrev LeafFn := String → String → J → Path → List Leaf

def leavesIdx (g : Nat → J → List Leaf) : Nat → List J → List Leaf
  | _, [] => []
  | i, x :: xs => g i x ++ leavesIdx g (i + 1) xs

def leavesKeys (g : String → List Leaf) : List String → List Leaf
  | [] => []
  | k :: ks => g k ++ leavesKeys g ks

/-- an inner array of a multi-dimensional array: its own sub-directory `o/<index>` -/
def arrElemLeaves (sub : J → Path → List Leaf) (o : Path) (w i : Nat) (x : J) : List Leaf :=
  match x with
  | .null => []
  | _ => sub x (o ++ [pad w i])

def arrLeaves (g : LeafFn) : Nat → J → Path → List Leaf
  | 0, .arr xs, o => leavesIdx (fun i x => g (pad (width xs.length) i) "" x o) 0 xs
  | k + 1, .arr xs, o => leavesIdx (arrElemLeaves (arrLeaves g k) o (width xs.length)) 0 xs
  | _, _, _ => []

def mapLeaves (g : LeafFn) (v : J) (o : Path) : List Leaf :=
  match v with
  | .obj kvs =>
    leavesKeys (fun k => g k "" ((lookupLast kvs k).getD .null) o)
      (sortStrings (dedup ((kvs.map Prod.fst).filter legalName)))
  | _ => []

abbrev MemberLeaves := List (String × (J → Path → List Leaf))

def memberLeaves (gs : MemberLeaves) (k : String) : J → Path → List Leaf :=
  match gs with
  | [] => fun _ _ => []
  | (k', g) :: r => if k' = k then g else memberLeaves r k

def structLeaves (gs : MemberLeaves) (v : J) (o : Path) : List Leaf :=
  match v with
  | .obj [] => []
  | .obj kvs =>
    leavesKeys (fun k => memberLeaves gs k ((lookupLast kvs k).getD .null) o)
      (sortStrings (gs.map Prod.fst))
  | _ => []

mutual
/-- the `moveOutFile` calls of `handler true ps ty`, in order -/
def leavesOf : Ty → LeafFn
  | .scalar => fun _ _ _ _ => []
  | .file ext => fun id on v outs =>
    match v with
    | .null => []
    | _ => [⟨v, outs, outFilename (.file ext) id on⟩]
  | .arr e k => fun id on v outs =>
    if !hasFile e then [] else
    match v with
    | .null => []
    | _ => arrLeaves (leavesOf e) k v (outs ++ [outFilename (.arr e k) id on])
  | .tmap e => fun id on v outs =>
    if !hasFile e then [] else
    match v with
    | .null => []
    | _ => mapLeaves (leavesOf e) v (outs ++ [outFilename (.tmap e) id on])
  | .struct ms => fun id on v outs =>
    if !hasFileMs ms then [] else
    match v with
    | .null => []
    | _ => structLeaves (leavesMs ms) v (outs ++ [outFilename (.struct ms) id on])
def leavesMs : List (String × String × Ty) → MemberLeaves
  | [] => []
  | (id, on, t) :: ms => (id, leavesOf t id on) :: leavesMs ms
end

/-- the leaves of a whole record (`handleOuts`) -/
def leavesRec (params : List (String × String × Ty)) (outs : List (String × J)) (outsPath : Path) :
    List Leaf :=
  match params with
  | [] => []
  | (id, on, ty) :: rest =>
    match lookupLast outs id with
    | none => leavesRec rest outs outsPath
    | some v => leavesOf ty id on v outsPath ++ leavesRec rest outs outsPath

/-! ## (used by Proofs/PostProcessDests.lean) -/

/-- `d` lies at or below `b` -/
def Under (b d : Path) : Prop := ∃ suf, d = b ++ suf

/-- neither path is a prefix of the other -/
def Incomp (d1 d2 : Path) : Prop := isPrefix d1 d2 = false ∧ isPrefix d2 d1 = false

/-- the relation between two leaves: incomparable destinations -/
def LeafIncomp (l1 l2 : Leaf) : Prop := Incomp l1.dest l2.dest

mutual
/-- every struct in the type passed the compiler's duplicate checks: distinct
member ids and (`noDupNames`) distinct output file names -/
def wfTy : Ty → Bool
  | .scalar => true
  | .file _ => true
  | .arr e _ => wfTy e
  | .tmap e => wfTy e
  | .struct ms => noDupNames ms [] && decide ((ms.map (·.1)).Nodup) && wfMs ms
def wfMs : List (String × String × Ty) → Bool
  | [] => true
  | (_, _, t) :: ms => wfTy t && wfMs ms
end

/-- the out params of the top-level callable, as a member list -/
def wfParams (params : List (String × String × Ty)) : Bool :=
  noDupNames params [] && decide ((params.map (·.1)).Nodup) && wfMs params

/-- all leaves of the member lie below the member's own directory/file name,
and their destinations are pairwise incomparable -/
def GoodFn (ty : Ty) (g : LeafFn) : Prop :=
  ∀ id on v outs, (∀ l ∈ g id on v outs, Under (outs ++ [outFilename ty id on]) l.dest) ∧
    (g id on v outs).Pairwise LeafIncomp

/-- what is known about the leaves of the member with id `k` -/
def GoodMs (ms : List (String × String × Ty)) (gs : MemberLeaves) : Prop :=
  ∀ k v o, (memberLeaves gs k v o).Pairwise LeafIncomp ∧
    ∀ l ∈ memberLeaves gs k v o, ∃ on t, (k, on, t) ∈ ms ∧ hasFile t = true ∧
      Under (o ++ [outFilename t k on]) l.dest

/-! ## (used by Proofs/PostProcessContent.lean) -/

/-- the source path a leaf names (a non-empty absolute path string), if any -/
def Leaf.src (l : Leaf) : Option Path :=
  match l.v with
  | .str s => if s = "" then none else parsePath s
  | _ => none

/-- The situation in which `content_preserved` is claimed, for a list of leaf
calls `ls` all working below the outs directory `top`, in file system `fs`:
* `dests`   destinations pairwise incomparable (this is `dest_injective`),
* `below`   every leaf's directory is at or below `top`,
* `apart`   no source is an ancestor of `top` or lies under it,
* `nonnest` sources of different leaves are not nested (in particular distinct),
* `status`  every source is missing, or a regular file/directory inside the pipestance,
* `free`    nothing occupies a destination yet. -/
structure Clean (ps top : Path) (fs : FS) (ls : List Leaf) : Prop where
  dests : ls.Pairwise LeafIncomp
  below : ∀ l ∈ ls, top <+: l.outs
  apart : ∀ l ∈ ls, ∀ p, l.src = some p → ¬ p <+: top ∧ ¬ top <+: p
  nonnest : ls.Pairwise (fun l1 l2 => ∀ p1 p2, l1.src = some p1 → l2.src = some p2 →
    ¬ p1 <+: p2 ∧ ¬ p2 <+: p1)
  status : ∀ l ∈ ls, ∀ p, l.src = some p →
    fs.get p = none ∨ ∃ e, fs.get p = some e ∧ e.isLink = false ∧ inside ps p = true
  free : ∀ l ∈ ls, fs.get l.dest = none

/-! ## (used by Proofs/PostProcessContent.lean) -/

/-- `apart` and `status` for one leaf -/
def leafOkB (ps top : Path) (fs : FS) (l : Leaf) : Bool :=
  (match l.src with
   | none => true
   | some p =>
     !isPrefix p top && !isPrefix top p &&
       (match fs.get p with
        | none => true
        | some e => !e.isLink && inside ps p)) &&
  (fs.get l.dest).isNone

/-- the sources of two leaves are not nested -/
def srcApartB (l1 l2 : Leaf) : Bool :=
  match l1.src, l2.src with
  | some p1, some p2 => !isPrefix p1 p2 && !isPrefix p2 p1
  | _, _ => true

def nonnestB : List Leaf → Bool
  | [] => true
  | l :: ls => ls.all (srcApartB l) && nonnestB ls

/-- the side conditions of `content_preserved` (`apart`, `nonnest`, `status`, `free`), decidable -/
def cleanB (ps top : Path) (fs : FS) (ls : List Leaf) : Bool :=
  ls.all (leafOkB ps top fs) && nonnestB ls

/-- a struct with two file members and a scalar, a 2-dimensional file array, a typed map of file arrays -/
def exSig3 : List (String × String × Ty) :=
  [("s", "", .struct [("f", "", .file "txt"), ("g", "out.bin", .file ""), ("n", "", .scalar)]),
   ("r", "", .arr (.file "") 1), ("m", "", .tmap (.arr (.file "bam") 0))]

/-- six file leaves: two struct members, a DIRECTORY and a missing file and (after a null) a file in
the 2-dimensional array, one file under a map key -/
def exOuts3 : List (String × J) :=
  [("s", .obj [("f", .str "/ps/MK/files/sf"), ("g", .str "/ps/MK/files/sg"), ("n", .lit "3")]),
   ("r", .arr [.arr [.str "/ps/MK/files/d", .str "/ps/MK/files/nope"], .arr [.null, .str "/ps/MK/files/r11"]]),
   ("m", .obj [("k1", .arr [.str "/ps/MK/files/m0"]), ("b", .arr [])])]

def exFS3 : FS :=
  { get := fun q =>
      if q = ["ps", "MK", "files", "sf"] then some (.file 1)
      else if q = ["ps", "MK", "files", "sg"] then some (.file 2)
      else if q = ["ps", "MK", "files", "d", "inner"] then some (.file 3)
      else if q = ["ps", "MK", "files", "r11"] then some (.file 4)
      else if q = ["ps", "MK", "files", "m0"] then some (.file 5)
      else if q = ["ps"] ∨ q = ["ps", "MK"] ∨ q = ["ps", "MK", "files"] ∨ q = ["ps", "MK", "files", "d"]
        then some .dir else none
    dom := [] }

/-! ## (used by Proofs/PostProcessLeaves.lean and Proofs/PostProcessContent.lean) -/

def pureIdx (f : Nat → J → J) : Nat → List J → List J
  | _, [] => []
  | i, x :: xs => f i x :: pureIdx f (i + 1) xs

abbrev PureH := String → String → J → Path → J

def pureArr (h : PureH) : Nat → J → Path → J
  | 0, v, o =>
    match v with
    | .arr xs => .arr (pureIdx (fun i x => h (pad (width xs.length) i) "" x o) 0 xs)
    | _ => v
  | k + 1, v, o =>
    match v with
    | .arr xs =>
      .arr (pureIdx (fun i x =>
        match x with
        | .null => .null
        | _ => pureArr h k x (o ++ [pad (width xs.length) i])) 0 xs)
    | _ => v

def pureKeys (f : String → J) : List String → List (String × J)
  | [] => []
  | k :: ks => (k, f k) :: pureKeys f ks

def pureMap (h : PureH) (v : J) (o : Path) : J :=
  match v with
  | .obj kvs =>
    .obj (pureKeys (fun k => h k "" ((lookupLast kvs k).getD .null) o)
      (sortStrings (dedup ((kvs.map Prod.fst).filter legalName))))
  | _ => v

abbrev PureMembers := List (String × (J → Path → J))

def pureMember (hs : PureMembers) (k : String) : J → Path → J :=
  match hs with
  | [] => fun v _ => v
  | (k', h) :: r => if k' = k then h else pureMember r k

def pureStruct (hs : PureMembers) (v : J) (o : Path) : J :=
  match v with
  | .obj [] => .obj []
  | .obj kvs =>
    .obj (pureKeys (fun k => pureMember hs k ((lookupLast kvs k).getD .null) o) (sortStrings (hs.map Prod.fst)))
  | _ => v

mutual
/-- `handler true ps ty` with the leaf calls answered by `E` -/
def pureHandler (E : Leaf → J) : Ty → PureH
  | .scalar => fun _ _ v _ => v
  | .file ext => fun id on v outs =>
    match v with
    | .null => .null
    | _ => E ⟨v, outs, outFilename (.file ext) id on⟩
  | .arr e k => fun id on v outs =>
    if !hasFile e then v else
    match v with
    | .null => .null
    | _ => pureArr (pureHandler E e) k v (outs ++ [outFilename (.arr e k) id on])
  | .tmap e => fun id on v outs =>
    if !hasFile e then v else
    match v with
    | .null => .null
    | _ => pureMap (pureHandler E e) v (outs ++ [outFilename (.tmap e) id on])
  | .struct ms => fun id on v outs =>
    if !hasFileMs ms then v else
    match v with
    | .null => .null
    | _ => pureStruct (pureMs E ms) v (outs ++ [outFilename (.struct ms) id on])
def pureMs (E : Leaf → J) : List (String × String × Ty) → PureMembers
  | [] => []
  | (id, on, t) :: ms => (id, pureHandler E t id on) :: pureMs E ms
end

/-- `handleOuts` with the leaf calls answered by `E` -/
def pureOuts (E : Leaf → J) (params : List (String × String × Ty)) (outs : List (String × J)) (top : Path) :
    List (String × J) :=
  match params with
  | [] => []
  | (id, on, ty) :: rest =>
    match lookupLast outs id with
    | none => pureOuts E rest outs top
    | some v => (id, pureHandler E ty id on v top) :: pureOuts E rest outs top

/-- every leaf call of the run `ls` from `fs` returns what `E` says -/
def Good (ps : Path) (E : Leaf → J) : List Leaf → FS → Prop
  | [], _ => True
  | l :: ls, fs => (moveOutFile ps l.outs l.name l.v fs).1 = E l ∧ Good ps E ls (runLeaf ps fs l)

/-- what a leaf's value becomes when nothing interferes: judged in `fs0` -/
def expectVal (fs0 : FS) (l : Leaf) : J :=
  match l.v with
  | .str s =>
    if s = "" then .null else
    match parsePath s with
    | none => .null
    | some p =>
      match fs0.get p with
      | none => .null
      | some _ => .str (renderPath l.dest)
  | v => v

/-! ## (used by Proofs/PostProcessShape.lean) -/

def KeptArr (R : J → J → Prop) : Nat → J → J → Prop
  | 0, .arr xs, v' => ∃ ys, v' = .arr ys ∧ All2 R xs ys
  | k + 1, .arr xs, v' => ∃ ys, v' = .arr ys ∧ All2 (KeptArr R k) xs ys
  | _, _, _ => True

/-- the result is an object whose keys are ALL the (sorted, de-duplicated) keys of the input -/
def KeptMap (R : J → J → Prop) (v v' : J) : Prop :=
  match v with
  | .obj kvs => ∃ kvs', v' = .obj kvs' ∧
      kvs'.map Prod.fst = sortStrings (dedup (kvs.map Prod.fst)) ∧
      ∀ kv ∈ kvs', R ((lookupLast kvs kv.1).getD .null) kv.2
  | _ => True

def KeptStruct (RM : String → J → J → Prop) (v v' : J) : Prop :=
  match v with
  | .obj [] => True
  | .obj kvs => ∃ kvs', v' = .obj kvs' ∧ ∀ kv ∈ kvs', RM kv.1 ((lookupLast kvs kv.1).getD .null) kv.2
  | _ => True

mutual
/-- at every typed-map node of directory kind reached along `ty`, the rewritten value has all keys of the input -/
def AllKeysKept : Ty → J → J → Prop
  | .scalar, _, _ => True
  | .file _, _, _ => True
  | .arr e k, v, v' => if hasFile e then KeptArr (AllKeysKept e) k v v' else True
  | .tmap e, v, v' => if hasFile e then KeptMap (AllKeysKept e) v v' else True
  | .struct ms, v, v' => if hasFileMs ms then KeptStruct (AllKeysKeptMs ms) v v' else True
def AllKeysKeptMs : List (String × String × Ty) → String → J → J → Prop
  | [], _, _, _ => True
  | (id, _, t) :: ms, k, v, v' => if id = k then AllKeysKept t v v' else AllKeysKeptMs ms k v v'
end

/-! ## (used by Proofs/PostProcessMapped.lean) -/

/-- propositional reading of `keysSeparable` -/
def KeysSeparable (outs : Path) (keys : List String) : Prop :=
  (∀ k ∈ keys, Under outs (joinKey outs k)) ∧
    keys.Pairwise (fun a b => Incomp (joinKey outs a) (joinKey outs b))

/-- the `moveOutFile` calls of `postMap`, fork after fork -/
def leavesMap (params : List (String × String × Ty)) (outs : Path) : List (String × J) → List Leaf
  | [] => []
  | (k, x) :: r => leavesRec params (fieldsOf x) (joinKey outs k) ++ leavesMap params outs r

/-- fork after fork: create the fork's directory (when the signature has a
file-typed output), then the fold of `moveOutFile` over the fork's leaves -/
def runForks (ps : Path) (params : List (String × String × Ty)) (outs : Path) : List (String × J) → FS → FS
  | [], fs => fs
  | (k, x) :: r, fs =>
    runForks ps params outs r
      (runLeaves ps (leavesRec params (fieldsOf x) (joinKey outs k))
        (if hasFileMs params then mkdirAll fs (joinKey outs k) else fs))

/-- the string recorded for field `k` of a fork's record -/
def recStr (j : J) (k : String) : Option String :=
  match j with
  | .obj kvs => (lookupLast kvs k).bind J.strVal
  | _ => none

/-- two forks, each with one file `f` in its own stage directory -/
def exFS2 : FS :=
  { get := fun q => if q = ["ps", "MK", "fork0", "files", "f"] then some (.file 1)
      else if q = ["ps", "MK", "fork1", "files", "f"] then some (.file 2)
      else if q = ["ps"] ∨ q = ["ps", "MK"] ∨ q = ["ps", "MK", "fork0"] ∨ q = ["ps", "MK", "fork1"] ∨
        q = ["ps", "MK", "fork0", "files"] ∨ q = ["ps", "MK", "fork1", "files"] then some .dir else none
    dom := [] }

/-! ## mapped top-level calls: what `content_preserved_mapped` promises -/

/-- the rewritten record of a top-level call mapped over a typed map, as promised when nothing
interferes: the entry of a legal key `k` is its record with every file leaf replaced by `expectVal`
(judged in the ORIGINAL file system `fs0`, destinations below `top/<k>`); the entry of a refused key
is unchanged -/
def expectedMapped (fs0 : FS) (params : List (String × String × Ty)) (top : Path) (kvs : List (String × J)) :
    List (String × J) :=
  kvs.map fun kv =>
    if legalName kv.1 then (kv.1, J.obj (pureOuts (expectVal fs0) params (fieldsOf kv.2) (top ++ [kv.1]))) else kv

/-- example of a mapped call: three fork keys (one refused), two file outputs per fork -/
def exKvsM : List (String × J) :=
  [("a", .obj [("r", .str "/ps/MK/fork0/files/f"), ("s", .str "/ps/MK/fork0/files/g")]),
   ("a/", .obj [("r", .str "/ps/MK/fork1/files/f"), ("s", .str "/ps/MK/fork1/files/g")]),
   ("b", .obj [("r", .str "/ps/MK/fork2/files/f"), ("s", .str "/ps/MK/fork2/files/g")])]

def exFSM : FS :=
  { get := fun q =>
      if q = ["ps", "MK", "fork0", "files", "f"] then some (.file 1)
      else if q = ["ps", "MK", "fork0", "files", "g"] then some (.file 2)
      else if q = ["ps", "MK", "fork1", "files", "f"] then some (.file 3)
      else if q = ["ps", "MK", "fork1", "files", "g"] then some (.file 4)
      else if q = ["ps", "MK", "fork2", "files", "f"] then some (.file 5)
      else if q = ["ps", "MK", "fork2", "files", "g"] then some (.file 6)
      else if q = ["ps"] ∨ q = ["ps", "MK"] then some .dir else none
    dom := [] }

end Martian.PostProcess
