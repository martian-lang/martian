/-
C09 model, declarations below pipelines: ACCEPTED SOURCE TEXTS.

The round-trip theorems of `filetype`, `struct`, parameter blocks and `stage`
declarations quantify over ASTs satisfying `wf…`.  This file holds what is
needed to state them over the source texts the readers accept:

* the exception predicates (Bool, evaluated by the driver on what the REAL
  parser returns): `declStrsValid`, `paramsStrsValid`, `stageStrsValid` (F6b:
  `unquote` of a LITSTRING with an escape for an invalid UTF-8 byte yields a
  string the printer cannot write back) and `stageMB32Valid` (F29: a `mem_gb` /
  `vmem_gb` of 256 GB or more in magnitude, where the real parser's float32 reading of the printed
  text can differ from the exact reading of the model; this is `wfMB`, the resource conjunct of
  `wfStage`); `stageMBValid` (F25: 2^53 GB or more; `formatGB`'s `int64(gb*1024)` overflows) is
  the weaker range, kept as a definition, no theorem needs it;
* `threads`: the model reader keeps the token text, Go stores
  `roundUpTo(float32(text), 100)` and prints it with `%g`.  As for float leaves
  of value expressions, strconv/fmt are trusted: an ABSTRACT canonicaliser
  `h : Bytes → Bytes`,

      h t  =  Sprintf("%g", roundUpTo(float_32(t), 100)),

  about which only `HOK h` is assumed; `canonStage h` applies it to the threads
  text; `parseStageH h` = the real parser's `Stage` (reader, then `canonStage`).
* `pResListR rd` … `pStageAllR rd`: the readers of the trailing clauses and of the stage with the
  reader of `mem_gb` / `vmem_gb` a parameter; `parseStage32` = the stage reader with `readGB32Tok`
  (the literal rounded to the nearest float32 first, as the REAL parser does; `parseStage` is the
  instance with the exact `readGBTok`: `parseStage_eq` in Proofs/FormatStageRangeText.lean);
  `stageMB32Valid`: both values below 256 GB in magnitude (F29).
* `threadsTokOK`: the token texts `float_32` accepts (what `readF32` returns on
  tokens in the range of the tokenizer).

Core Lean only.
-/
import Martian.FormatStage

namespace Martian.FormatDecl
open Martian.Lexer (Bytes)

/-- help text and out name are valid UTF-8 (fails for F6b inputs such as `"\xff"`) -/
def memberStrsValid (m : Member) : Bool :=
  Martian.ShellQuote.validUtf8 m.help && Martian.ShellQuote.validUtf8 m.outName

/-- every help text and out name of the struct is valid UTF-8 -/
def declStrsValid (s : Struct) : Bool := s.members.all memberStrsValid

/-- every help text and out name of the parameter list is valid UTF-8 -/
def paramsStrsValid (ps : List Param) : Bool := ps.all fun p => memberStrsValid p.toMember

/-- the range of `struct_field` before the validity of its strings -/
def memberRaw (m : Member) : Bool := wfType m.type && Martian.FormatExp.isIdent m.id

/-- the range of `in_param` / `out_param` before the validity of the strings -/
def paramRaw (p : Param) : Bool :=
  wfType p.type && (Martian.FormatExp.isIdent p.id || (p.out && p.id == Martian.FormatExp.sDefault)) &&
    (p.out || p.outName == [])

end Martian.FormatDecl

namespace Martian.FormatRes
open Martian.Lexer (Bytes unquoteBytes)
open Martian.FormatExp

/-! ## the readers of the trailing clauses with the reader of `mem_gb` / `vmem_gb` a parameter

`pResListR readGBTok` is `pResList` (the exact reading the round-trip theorems of section
StageClauses are about); `pResListR readGB32Tok` is what the REAL parser does (the literal is
rounded to the nearest float32 before `roundUpTo(·, 1024)`). -/

/-- `pResList` with `rd` for `float_32` + `roundUpTo(·, 1024)` -/
def pResListR (rd : Tok → Option Int) : List Tok → Res → Option (Res × List Tok)
  | .punct 0x29 :: r, acc => some (acc, r)
  | .id k :: .punct 0x3D :: v :: .punct 0x2C :: r, acc =>
    if k = sThreads then
      match readF32 v with
      | some t => pResListR rd r { acc with threads := some t }
      | none => none
    else if k = sMemGb ∨ k = sMemgb then
      match rd v with
      | some mb => pResListR rd r { acc with mem := some mb }
      | none => none
    else if k = sVmemGb ∨ k = sVmemgb then
      match rd v with
      | some mb => pResListR rd r { acc with vmem := some mb }
      | none => none
    else if k = sSpecial then
      match v with
      | .str raw =>
        match unquoteBytes raw with
        | some s => pResListR rd r { acc with special := some s }
        | none => none
      | _ => none
    else if k = sVolatile then
      match v with
      | .id w => if w = sStrict then pResListR rd r { acc with volatile := some true } else none
      | .kFalse => pResListR rd r { acc with volatile := some false }
      | _ => none
    else none
  | _, _ => none

def pResourcesR (rd : Tok → Option Int) : List Tok → Option (Option Res × List Tok)
  | .id w :: ts =>
    if w = sUsing then
      match ts with
      | .punct 0x28 :: r => (pResListR rd r {}).map fun x => (some x.1, x.2)
      | _ => none
    else some (none, .id w :: ts)
  | ts => some (none, ts)

def pTailR (rd : Tok → Option Int) : List Tok → Option ((Option Res × Option (List Bytes)) × List Tok)
  | .punct 0x29 :: ts =>
    match pResourcesR rd ts with
    | some (res, ts1) =>
      match pRetain ts1 with
      | some (ret, ts2) => some ((res, ret), ts2)
      | none => none
    | none => none
  | _ => none

end Martian.FormatRes

namespace Martian.FormatStage
open Martian.Lexer (Bytes numTok parseInt parseFloat)
open Martian.FormatExp
open Martian.FormatDecl (Param paramsStrsValid pInParams pOutParams)
open Martian.FormatRes (Res wfThreads wfMB joinSp pSrc sStage)

/-- the token texts `float_32` accepts for `threads`: one NUM_INT token of `int64` size or one
NUM_FLOAT token in the float32 range (what `readF32` returns on a token of the tokenizer) -/
def threadsTokOK (t : Bytes) : Bool :=
  (numTok false t == .int t && (parseInt t).isSome) || (isFloatTok t && (parseFloat true t).isSome)

/-- what is trusted about `h = fun t => Sprintf("%g", roundUpTo(float_32(t), 100))` on the token
texts `float_32` accepts:
(a) the printed form is a NUM_FLOAT token in the float32 range or a canonical integer numeral
    (`%g` of a float32: `ddd`, `ddd.ddd` or `d.ddde±XX`; `roundUpTo` maps the negative zero to 0);
(b) reading the printed form and printing again gives the same text — the idempotence of
    `roundUpTo` on its own output (fix 1a6dbe9; the harness checks it exhaustively on
    0.01 … 64.00, key C09:threads-hundredths). -/
structure HOK (h : Bytes → Bytes) : Prop where
  range : ∀ t, threadsTokOK t = true → wfThreads (h t) = true
  fixed : ∀ t, threadsTokOK t = true → h (h t) = h t

/-- `Resources` as Go holds it: the threads text canonicalised -/
def canonRes (h : Bytes → Bytes) (r : Res) : Res := { r with threads := r.threads.map h }

/-- `Stage` as Go holds it -/
def canonStage (h : Bytes → Bytes) (s : Stage) : Stage := { s with res := s.res.map (canonRes h) }

/-- the real parser on a file that is one stage declaration: the model reader, then the
canonicaliser of the threads value -/
def parseStageH (h : Bytes → Bytes) (src : Bytes) : Option Stage := (parseStage src).map (canonStage h)

/-- every string of the declaration that `unquote` produced is valid UTF-8: help texts and out
names of the four parameter lists, the `special` resource, and the command of the src line (as it
is printed: the fields joined by blanks).  Fails for F6b inputs. -/
def stageStrsValid (s : Stage) : Bool :=
  paramsStrsValid s.ins && paramsStrsValid s.outs && paramsStrsValid s.chunkIns &&
    paramsStrsValid s.chunkOuts && Martian.ShellQuote.validUtf8 (joinSp (s.path :: s.args)) &&
    (match s.res with
     | some r => (match r.special with | some x => Martian.ShellQuote.validUtf8 x | none => true)
     | none => true)

/-- a value of `int64` size in MB: the range of `formatGB` (F25) -/
def mbInt64 : Option Int → Bool
  | some mb => decide (mb.natAbs < 2 ^ 63)
  | none => true

/-- `mem_gb` and `vmem_gb` are below 2^53 GB (2^63 MB): beyond, `formatGB` overflows (F25).  NOT a
hypothesis of any round-trip theorem any more (the theorems need `stageMB32Valid`, F29's range, which
is where `wfStage` holds and where the exact reading of the model is the reading of the real parser;
`stageMBValid_of_32` in Proofs/FormatStageRangeText.lean: it is weaker); kept as the description of F25's range,
evaluated by the driver and the negative witnesses. -/
def stageMBValid (s : Stage) : Bool :=
  match s.res with
  | some r => mbInt64 r.mem && mbInt64 r.vmem
  | none => true

/-- the range of `resources` before canonicalisation and before the two exceptions: the threads
text is a token text `float_32` accepts -/
def resRaw (r : Res) : Bool :=
  match r.threads with
  | some t => threadsTokOK t
  | none => true

/-- the range of the stage reader on ANY source text (no exception): `wfStage` without the
validity of the strings, without the `int64` bound on `mem_gb`/`vmem_gb`, and with the threads
text as the tokenizer delivered it -/
def stageRaw (s : Stage) : Bool :=
  isIdent s.id &&
  s.ins.all Martian.FormatDecl.paramRaw && s.ins.all isIn &&
  s.outs.all Martian.FormatDecl.paramRaw && s.outs.all isOut &&
  s.chunkIns.all Martian.FormatDecl.paramRaw && s.chunkIns.all isIn &&
  s.chunkOuts.all Martian.FormatDecl.paramRaw && s.chunkOuts.all isOut &&
  (s.split || (s.chunkIns.isEmpty && s.chunkOuts.isEmpty)) &&
  Martian.FormatRes.wfField s.path && s.args.all Martian.FormatRes.wfField &&
  (match s.res with | some r => resRaw r | none => true) &&
  (match s.retain with | some ids => Martian.FormatRes.wfRetain ids | none => true)

/-- an instance of the canonicaliser: `0.50` ↦ `0.5`, `1e0` ↦ `1`, `007` ↦ `7` (what Go does on
these three); every other text that is already in printed form stays; anything else ↦ `1` (not what
Go does; the instance only shows that `HOK` is satisfiable and serves the examples) -/
def hSample (t : Bytes) : Bytes :=
  if t = [0x30, 0x2E, 0x35, 0x30] then [0x30, 0x2E, 0x35]
  else if t = [0x31, 0x65, 0x30] then [0x31]
  else if t = [0x30, 0x30, 0x37] then [0x37]
  else if wfThreads t then t else [0x31]

/-! ## the stage reader with the reader of `mem_gb` / `vmem_gb` a parameter -/

def pStageBodyR (rd : Tok → Option Int) (f : Nat) (name : Bytes) (ts : List Tok) : Option (Stage × List Tok) :=
  match pInParams f ts with
  | some (ins, r1) =>
    match pOutParams f r1 with
    | some (outs, r2) =>
      match pSrc r2 with
      | some ((lang, path, args), r3) =>
        match pSplit f r3 with
        | some ((sp, ci, co), r4) =>
          match Martian.FormatRes.pTailR rd r4 with
          | some ((res, ret), rest) =>
            some (⟨name, ins, outs, lang, path, args, sp, ci, co, res, ret⟩, rest)
          | none => none
        | none => none
      | none => none
    | none => none
  | none => none

def pStageR (rd : Tok → Option Int) (ts : List Tok) : Option (Stage × List Tok) :=
  match ts with
  | .reserved w :: .id name :: .punct c :: r =>
    if w = sStage ∧ c = 0x28 then pStageBodyR rd (ts.length + 1) name r else none
  | _ => none

def pStageAllR (rd : Tok → Option Int) (ts : List Tok) : Option Stage :=
  match pStageR rd ts with
  | some (s, []) => some s
  | _ => none

/-- a file that is one `stage` declaration, read as the REAL parser reads it: `mem_gb` / `vmem_gb`
through the float32 rounding of the literal (`readGB32Tok`) -/
def parseStage32 (src : Bytes) : Option Stage := (lexAll src).bind (pStageAllR Martian.FormatRes.readGB32Tok)

/-- … and with the threads value as Go holds it -/
def parseStage32H (h : Bytes → Bytes) (src : Bytes) : Option Stage := (parseStage32 src).map (canonStage h)

/-- `mem_gb` and `vmem_gb` are below 256 GB (262144 MB) in magnitude (`wfMB`): beyond, the float32
rounding of the printed literal can change the value (F29).  This is the resource conjunct of
`wfStage`, and the hypothesis of ALL text-side stage theorems (exact reader and float32 reader): the
domain where the model's exact reading equals the real parser's; F25 (`stageMBValid`) is subsumed. -/
def stageMB32Valid (s : Stage) : Bool :=
  match s.res with
  | some r => wfMB r.mem && wfMB r.vmem
  | none => true

end Martian.FormatStage
