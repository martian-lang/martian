/-
C09 model, call statements and pipelines: ACCEPTED SOURCE TEXTS.

`Martian.FormatCall.parseCall`, `Martian.FormatCall2.parseCall2` / `parseBody` and
`Martian.FormatPipe.parsePipeline` are RAW readers: the float leaves of every
expression keep the token text.  Go's parser builds a `float64` at every float
leaf, whichever statement the expression stands in; as in `Martian.FormatExpText`
this is modelled by the abstract canonicaliser `g` (`GOK g`) applied to EVERY
expression of the statement:

* `canonBind g`, `canonCall g`, `canonMods g`, `canonCall2 g`, `canonRet g`,
  `canonBody g`, `canonPipeline g`;
* `parseCallG g`, `parseCall2G g`, `parseBodyG g`, `parsePipelineG g`: what Go's
  `UncheckedParse` holds for a file that is one call statement / one pipeline.
* `wfBindRaw` … `wfPipelineRaw`: the RANGE of the raw readers on tokens in the
  range of the tokenizer (`tokOK`): `wfCall2` … `wfPipeline` minus the validity of
  strings (F6b), with float leaves only required to be NUM_FLOAT tokens, and
  minus the two conditions the grammar does NOT guarantee:
  `distinctIds` of the `using` block and `distinctCallIds` of a pipeline.
* the exception hypotheses of the text-side theorems as Bool predicates:
  `call2StrsValid` / `call2NoNegZero` (F6b / F26 lifted to the bindings of a call),
  `modsDistinct` (F40: the same modifier id twice in a `using` block — the
  model's stable sort is `sort.Slice` only for distinct ids),
  `pipeStrsValid` (help texts and out names included), `pipeNoNegZero`,
  `pipeModsDistinct`, and `distinctCallIds` (F34).
* `modsConflict`: a keyword modifier together with a binding of the same id
  (`call local X() using (local = false,)`): the compiler rejects it
  (`ConflictingModifiers`), the formatter prints the binding only (F41).
* `findMod`, `modValue`, `modFlags`, `modDisabled`: what `Modifiers.compile` computes from the
  modifiers of a call (kept by `normMods`: Proofs/FormatCallRange.lean).

Core Lean only.
-/
import Martian.FormatExpText
import Martian.FormatPipe

namespace Martian.FormatCallText
open Martian.Lexer (Bytes)
open Martian.FormatExp Martian.FormatCall Martian.FormatCall2 Martian.FormatDecl Martian.FormatPipe

/-! ## the float canonicaliser on statements -/

def canonBind (g : Bytes → Bytes) (b : Bind) : Bind := ⟨b.id, b.split, canon g b.exp⟩

def canonMod (g : Bytes → Bytes) (kv : Bytes × Exp) : Bytes × Exp := (kv.1, canon g kv.2)

def canonMods (g : Bytes → Bytes) (m : Mods) : Mods := ⟨m.loc, m.pre, m.vol, m.binds.map (canonMod g)⟩

def canonCall (g : Bytes → Bytes) (c : Call) : Call := ⟨c.decId, c.id, c.binds.map (canonBind g)⟩

def canonCall2 (g : Bytes → Bytes) (c : Call2) : Call2 :=
  ⟨c.decId, c.id, c.binds.map (canonBind g), c.wildcard.map (canon g), canonMods g c.mods⟩

def canonRet (g : Bytes → Bytes) (r : Ret) : Ret := ⟨r.binds.map (canonBind g), r.wildcard.map (canon g)⟩

def canonBody (g : Bytes → Bytes) (b : Body) : Body :=
  ⟨b.calls.map (canonCall2 g), canonRet g b.ret, b.retain.map (List.map (canon g))⟩

def canonPipeline (g : Bytes → Bytes) (p : Pipeline) : Pipeline := ⟨p.id, p.ins, p.outs, canonBody g p.body⟩

/-- `UncheckedParse` on a file that is one modifier-less call, as Go holds it -/
def parseCallG (g : Bytes → Bytes) (src : Bytes) : Option Call := (parseCall src).map (canonCall g)

/-- `UncheckedParse` on a file that is one call statement, as Go holds it -/
def parseCall2G (g : Bytes → Bytes) (src : Bytes) : Option Call2 := (parseCall2 src).map (canonCall2 g)

/-- the statements of a pipeline, as Go holds them -/
def parseBodyG (g : Bytes → Bytes) (src : Bytes) : Option Body := (parseBody src).map (canonBody g)

/-- `UncheckedParse` on a file that is one pipeline declaration, as Go holds it -/
def parsePipelineG (g : Bytes → Bytes) (src : Bytes) : Option Pipeline :=
  (parsePipeline src).map (canonPipeline g)

/-! ## the range of the raw readers -/

/-- `wfBind` with `wfRaw` for `wf` -/
def wfBindRaw (b : Bind) : Bool := isIdent b.id && wfRaw b.exp && (!b.split || isSplitVal b.exp)

def wfCallRaw (c : Call) : Bool := isIdent c.decId && isIdent c.id && c.binds.all wfBindRaw

/-- `self`, or a reference in the range of the reader -/
def wfWildRaw (e : Exp) : Bool := isBareSelf e || (isRefE e && wfRaw e)

def wfWildOptRaw : Option Exp → Bool
  | some e => wfWildRaw e
  | none => true

def wfModRaw (kv : Bytes × Exp) : Bool :=
  (isModKw kv.1 && isBoolE kv.2) || (kv.1 == sDisabled && isRefE kv.2 && wfRaw kv.2)

/-- `wfCall2` without `distinctIds` of the `using` block, `wfRaw` for `wf` -/
def wfCall2Raw (c : Call2) : Bool :=
  isIdent c.decId && isIdent c.id && c.binds.all wfBindRaw && wfWildOptRaw c.wildcard &&
    c.mods.binds.all wfModRaw

def wfRetRaw (r : Ret) : Bool :=
  r.binds.all wfBindRaw && r.binds.all (fun b => !b.split) && wfWildOptRaw r.wildcard

def wfPRetainRaw (rs : List Exp) : Bool := rs.all fun e => isRefE e && wfRaw e

def wfBodyRaw (b : Body) : Bool :=
  b.calls.all wfCall2Raw && wfRetRaw b.ret &&
    (match b.retain with | some rs => wfPRetainRaw rs | none => true)

/-- `wfParam` without the validity of help text and out name -/
def pipeParamRaw (p : Param) : Bool :=
  wfType p.type && (isIdent p.id || (p.out && p.id == sDefault)) && (p.out || p.outName == [])

/-- `wfPipeline` without `distinctCallIds` and without the validity of strings -/
def wfPipelineRaw (p : Pipeline) : Bool :=
  isIdent p.id && p.ins.all pipeParamRaw && p.ins.all (fun q => !q.out) && p.outs.all pipeParamRaw &&
    p.outs.all (fun q => q.out) && wfBodyRaw p.body

/-! ## the exception hypotheses of the text-side theorems -/

/-- F6b on a binding list: every string in a binding value is valid UTF-8 -/
def bindsStrsValid (bs : List Bind) : Bool := bs.all fun b => strsValid b.exp

/-- F26 on a binding list: no float leaf of a binding value is `-0` -/
def bindsNoNegZero (bs : List Bind) : Bool := bs.all fun b => noNegZero b.exp

def callStrsValid (c : Call) : Bool := bindsStrsValid c.binds
def callNoNegZero (c : Call) : Bool := bindsNoNegZero c.binds

def call2StrsValid (c : Call2) : Bool := bindsStrsValid c.binds
def call2NoNegZero (c : Call2) : Bool := bindsNoNegZero c.binds

/-- F40: no modifier id occurs twice in the `using` block (the grammar allows
`using (local = true, local = false,)`; the compiler rejects it later:
`DuplicateBinding`) -/
def modsDistinct (c : Call2) : Bool := distinctIds c.mods.binds

def retStrsValid (r : Ret) : Bool := bindsStrsValid r.binds
def retNoNegZero (r : Ret) : Bool := bindsNoNegZero r.binds

def bodyStrsValid (b : Body) : Bool := b.calls.all call2StrsValid && retStrsValid b.ret
def bodyNoNegZero (b : Body) : Bool := b.calls.all call2NoNegZero && retNoNegZero b.ret
def bodyModsDistinct (b : Body) : Bool := b.calls.all modsDistinct

/-- F6b on a parameter list: help texts and out names are valid UTF-8 -/
def paramsStrsValid (ps : List Param) : Bool :=
  ps.all fun p => Martian.ShellQuote.validUtf8 p.help && Martian.ShellQuote.validUtf8 p.outName

def pipeStrsValid (p : Pipeline) : Bool :=
  paramsStrsValid p.ins && paramsStrsValid p.outs && bodyStrsValid p.body
def pipeNoNegZero (p : Pipeline) : Bool := bodyNoNegZero p.body
def pipeModsDistinct (p : Pipeline) : Bool := bodyModsDistinct p.body
/-- F34: no two calls of the pipeline have the same id -/
def pipeCallsDistinct (p : Pipeline) : Bool := distinctCallIds p.body.calls

/-! ## keyword modifiers and bindings of the same id -/

/-- F41: a keyword modifier together with a binding of the same id — what
`Modifiers.compile` rejects with `ConflictingModifiers` -/
def modsConflict (m : Mods) : Bool :=
  (m.loc && hasId sLocal m.binds) || (m.pre && hasId sPreflight m.binds) ||
    (m.vol && hasId sVolatile m.binds)

/-- `Bindings.Table[k]` of the `using` block (for distinct ids: the binding with id `k`) -/
def findMod (k : Bytes) : List (Bytes × Exp) → Option Exp
  | [] => none
  | kv :: r => if kv.1 = k then some kv.2 else findMod k r

/-- the value of the boolean modifier `k` after `Modifiers.compile` (`mods.X = binding.Value` when
the block binds `k`, else the keyword; the grammar only allows boolean literals there) -/
def modValue (k : Bytes) (kw : Bool) (l : List (Bytes × Exp)) : Bool :=
  match findMod k l with
  | some v => (match v with | .bool b => b | _ => false)
  | none => kw

/-- (`Local`, `Preflight`, `Volatile`) after `Modifiers.compile` -/
def modFlags (m : Mods) : Bool × Bool × Bool :=
  (modValue sLocal m.loc m.binds, modValue sPreflight m.pre m.binds, modValue sVolatile m.vol m.binds)

/-- the `disabled` binding, if any -/
def modDisabled (m : Mods) : Option Exp := findMod sDisabled m.binds

end Martian.FormatCallText
