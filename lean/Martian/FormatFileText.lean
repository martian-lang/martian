/-
C09 model, a whole comment-free MRO file: ACCEPTED SOURCE TEXTS.

`Martian.FormatFile.parseFile` is a RAW reader: the float leaves of every value
expression keep the token text, the `threads` value of every stage keeps the
token text, and `mem_gb` / `vmem_gb` are read EXACTLY (`readGBTok`).  This file
holds what is needed to state the round-trip theorems of section WholeFile over
the source texts the reader accepts, assembling the parts
`Martian.FormatExpText`, `Martian.FormatDeclText`, `Martian.FormatCallText`:

* `canonFile g h`: the file as Go holds it — every float leaf through `g`
  (`canonPipeline g` on the pipelines, `canonCall2 g` on the top-level call),
  the `threads` value of every stage through `h` (`canonStage h`);
  `parseFileGH g h` = `UncheckedParse` (reader, then `canonFile g h`).
* `pDeclsR rd`, `pFileR rd`, `parseFileR rd`: the reader of `dec_list` / `file`
  with the reader of `mem_gb` / `vmem_gb` a parameter (`pStageR rd`).
  `pFileR readGBTok` is `pFile` (`pFileR_exact`, Proofs/FormatFileRangeText.lean);
  `parseFile32 = parseFileR readGB32Tok` reads the two values through the
  float32 rounding of the literal, as the REAL parser does (F29);
  `parseFile32GH g h` = the real `UncheckedParse`.
* `fileRaw`: the RANGE of the reader on ANY source text (no exception): every
  part in the raw range of its reader (`wfFiletype`, `structRaw`, `stageRaw`,
  `wfPipelineRaw`, `wfCall2Raw`), and at least one declaration or the call.
* the exception hypotheses of the text-side theorems, lifted to the file (Bool,
  evaluated by the driver on what the REAL parser returns):
  `fileStrsValid` (F6b; include paths, struct members, stages, pipelines, the
  call), `fileNoNegZero` (F26), `fileMBValid` (F25) / `fileMB32Valid` (F29),
  `fileModsDistinct` (F40), `fileCallsDistinct` (F34); `fileHyps` =
  `fileHyps32`: the conjunction with `fileMB32Valid` (F29's range is the range
  of `wfFile`; F25's is subsumed).

Core Lean only.
-/
import Martian.FormatFile
import Martian.FormatDeclText
import Martian.FormatCallText

namespace Martian.FormatFile
open Martian.Lexer (Bytes)
open Martian.FormatExp Martian.FormatDecl Martian.FormatCall2
open Martian.FormatStage (Stage pStageR canonStage stageStrsValid stageMBValid stageMB32Valid stageRaw)
open Martian.FormatPipe (Pipeline pPipeline)
open Martian.FormatRes (sStage)
open Martian.FormatCallText (canonCall2 canonPipeline wfCall2Raw wfPipelineRaw call2StrsValid
  call2NoNegZero modsDistinct pipeStrsValid pipeNoNegZero pipeModsDistinct pipeCallsDistinct)

/-! ## the file as Go holds it -/

def canonCallable (g h : Bytes → Bytes) : Callable → Callable
  | .stage s => .stage (canonStage h s)
  | .pipeline p => .pipeline (canonPipeline g p)

/-- every float leaf of every expression through `g`, the `threads` value of every stage
through `h`; includes, filetypes and structs hold no number -/
def canonFile (g h : Bytes → Bytes) (f : File) : File :=
  ⟨f.includes, f.filetypes, f.structs, f.callables.map (canonCallable g h), f.call.map (canonCall2 g)⟩

/-- `Parser.UncheckedParse` on a comment-free source, as Go holds the result; `mem_gb` / `vmem_gb`
read exactly -/
def parseFileGH (g h : Bytes → Bytes) (src : Bytes) : Option File := (parseFile src).map (canonFile g h)

/-! ## the reader with the reader of `mem_gb` / `vmem_gb` a parameter -/

/-- `pDecls` with `pStageR rd` for `pStage` -/
def pDeclsR (rd : Tok → Option Int) : Nat → List Tok → Option (List Decl × List Tok)
  | 0, _ => none
  | f + 1, ts =>
    match decKind ts with
    | 1 =>
      match pFiletypeDecl ts with
      | some (t, r) => (pDeclsR rd f r).map fun (ds, r') => (.filetype t :: ds, r')
      | none => none
    | 2 =>
      match pStructDecl ts with
      | some (s, r) => (pDeclsR rd f r).map fun (ds, r') => (.struct s :: ds, r')
      | none => none
    | 3 =>
      match pStageR rd ts with
      | some (s, r) => (pDeclsR rd f r).map fun (ds, r') => (.stage s :: ds, r')
      | none => none
    | 4 =>
      match pPipeline ts with
      | some (p, r) => (pDeclsR rd f r).map fun (ds, r') => (.pipeline p :: ds, r')
      | none => none
    | _ => some ([], ts)

/-- `pFile` with `pDeclsR rd` for `pDecls` -/
def pFileR (rd : Tok → Option Int) (ts : List Tok) : Option File :=
  match pIncludes (ts.length + 1) ts with
  | some (incs, r0) =>
    match pDeclsR rd (ts.length + 1) r0 with
    | some (ds, []) => if ds.isEmpty then none else some (distribute incs ds none)
    | some (ds, r1) =>
      match pCall2 r1 with
      | some (c, []) => some (distribute incs ds (some c))
      | _ => none
    | none => none
  | none => none

def parseFileR (rd : Tok → Option Int) (src : Bytes) : Option File := (lexAll src).bind (pFileR rd)

/-- a comment-free source read as the REAL parser reads it: `mem_gb` / `vmem_gb` of every stage
through the float32 rounding of the literal (`readGB32Tok`) -/
def parseFile32 (src : Bytes) : Option File := parseFileR Martian.FormatRes.readGB32Tok src

/-- … and with the numbers as Go holds them: the real `UncheckedParse` -/
def parseFile32GH (g h : Bytes → Bytes) (src : Bytes) : Option File := (parseFile32 src).map (canonFile g h)

/-! ## the range of the reader -/

/-- the range of `struct`: `wfStruct` without the validity of help texts and out names -/
def structRaw (s : Struct) : Bool := isIdent s.id && !s.members.isEmpty && s.members.all memberRaw

def callableRaw : Callable → Bool
  | .stage s => stageRaw s
  | .pipeline p => wfPipelineRaw p

def declRaw : Decl → Bool
  | .filetype t => wfFiletype t
  | .struct s => structRaw s
  | .stage s => stageRaw s
  | .pipeline p => wfPipelineRaw p

def callOptRaw : Option Call2 → Bool
  | some c => wfCall2Raw c
  | none => true

/-- the range of the file reader on ANY source text: `wfFile` without the validity of the strings
(include paths are whatever `unquote` returned), and with every part in the raw range of its
reader — float leaves and `threads` as token texts, no bound on `mem_gb` / `vmem_gb`, no
distinctness of modifier ids or call ids -/
def fileRaw (f : File) : Bool :=
  f.filetypes.all wfFiletype && f.structs.all structRaw && f.callables.all callableRaw &&
    callOptRaw f.call &&
    (!f.filetypes.isEmpty || !f.structs.isEmpty || !f.callables.isEmpty || f.call.isSome)

/-! ## the exception hypotheses, lifted to the file -/

def callableStrsValid : Callable → Bool
  | .stage s => stageStrsValid s
  | .pipeline p => pipeStrsValid p

def callOptAll (q : Call2 → Bool) : Option Call2 → Bool
  | some c => q c
  | none => true

/-- F6b: every string `unquote` produced is valid UTF-8 — the include paths, help texts and out
names of struct members and of the parameters of stages and pipelines, `special` and the src
command of every stage, every string in a binding value of every call -/
def fileStrsValid (f : File) : Bool :=
  f.includes.all Martian.ShellQuote.validUtf8 && f.structs.all declStrsValid &&
    f.callables.all callableStrsValid && callOptAll call2StrsValid f.call

def callableNoNegZero : Callable → Bool
  | .stage _ => true
  | .pipeline p => pipeNoNegZero p

/-- F26: no float leaf `-0` in any binding value -/
def fileNoNegZero (f : File) : Bool := f.callables.all callableNoNegZero && callOptAll call2NoNegZero f.call

def callableMBValid : Callable → Bool
  | .stage s => stageMBValid s
  | .pipeline _ => true

/-- F25: `mem_gb` / `vmem_gb` of every stage below 2^53 GB (not a hypothesis of any theorem any
more: `fileMB32Valid` implies it; kept as the description of F25's range) -/
def fileMBValid (f : File) : Bool := f.callables.all callableMBValid

def callableMB32Valid : Callable → Bool
  | .stage s => stageMB32Valid s
  | .pipeline _ => true

/-- F29: `mem_gb` / `vmem_gb` of every stage below 256 GB in magnitude -/
def fileMB32Valid (f : File) : Bool := f.callables.all callableMB32Valid

def callableModsDistinct : Callable → Bool
  | .stage _ => true
  | .pipeline p => pipeModsDistinct p

/-- F40: no modifier id twice in one `using` block of a call -/
def fileModsDistinct (f : File) : Bool := f.callables.all callableModsDistinct && callOptAll modsDistinct f.call

def callableCallsDistinct : Callable → Bool
  | .stage _ => true
  | .pipeline p => pipeCallsDistinct p

/-- F34: no two calls with the same id in one pipeline -/
def fileCallsDistinct (f : File) : Bool := f.callables.all callableCallsDistinct

/-- the exception hypotheses of the text-side theorems (about the reader with the EXACT reading of
`mem_gb` / `vmem_gb` and about the reader with the REAL float32 reading alike): F6b, F26, F29, F40,
F34.  The resource conjunct is `fileMB32Valid` (every `mem_gb` / `vmem_gb` below 256 GB in magnitude,
`wfMB`): the range where the exact reading of the model and the float32 reading of the real parser
agree on what `formatGB` prints, and the range of `wfFile`; F25 (`fileMBValid`, below 2^53 GB) is
subsumed. -/
def fileHyps (f : File) : Bool :=
  fileStrsValid f && fileNoNegZero f && fileMB32Valid f && fileModsDistinct f && fileCallsDistinct f

/-- the same conjunction under the name the float32-reader theorems use (`fileHyps32 f = fileHyps f`
by `rfl`: `Proofs.FormatFileRangeText.fileHyps32_eq`) -/
def fileHyps32 (f : File) : Bool :=
  fileStrsValid f && fileNoNegZero f && fileMB32Valid f && fileModsDistinct f && fileCallsDistinct f

/-! ## a sample source text (Props.C09 section AcceptedFileTexts; served to the harness by the
driver op `C09.filesample`, which ties both texts to the real parser and formatter) -/

/-- the bytes of ASCII strings, concatenated (short pieces: the kernel evaluates `String.toList`
of a literal in time quadratic in its length) -/
def asciiCat : List String → Bytes
  | [] => []
  | s :: r => (s.toList.map fun c => UInt8.ofNat c.toNat) ++ asciiCat r

/-- a whole file in non-canonical spelling: an include; a pipeline BEFORE the filetype `json.gz` it
uses, its three calls all out of dependency order (`C` needs `B` and `A`, `B` needs `A`), keyword
modifiers `local volatile`, `1e3`, `007`, duplicate map keys; a `filetype` with blanks around the
dot; a stage on the same line with `split using (`, the resources in source order `threads, memgb,
volatile, threads, vmem_gb` (repeated key: the last wins; `memgb` is `mem_gb`; `007`, `1e0`,
`0.50`); a struct AFTER the stage; the call; four comments, tabs, blank lines, no final newline -/
def sampleFileText : Bytes := asciiCat [
  "@include \"a.mro\"  # c\n\n\n",
  "pipeline P(in int a \"h\", out map<int[]>[] r,",
  "out json.gz,){ # c\n",
  "  map call C(x = split B.o, * = self,) ",
  "using (disabled = A.d,)\n",
  " call local volatile B(y = [A.o, 1e3],) ",
  "call A(z = {\"b\":self.a, \"a\":007, \"b\":null},)\n",
  " return (r = C.o,) retain (C.o,) }\n",
  "filetype  json . gz ;",
  "stage S ( in int a \"\\u0041\" , out float , ",
  "src py \"x.py  -v\" ,# c\n ) ",
  "split using ( in int c , ) ",
  "using ( threads = 007 , memgb = 1e0 , ",
  "volatile = strict , threads=0.50, ",
  "vmem_gb = 0.50,) retain ( a , )\n",
  "\tstruct  T ( int a \"h\" ,",
  "map<json.gz[ ]>[] b , )\n",
  " call P ( a = 1e3 , )"]

/-- what the formatter makes of it: includes, filetypes, structs, callables (source order), call;
the calls of `P` in dependency order `A, B, C` -/
def sampleFileCanon : Bytes := asciiCat [
  "@include \"a.mro\"\n\nfiletype json.gz;\n\nstruct T(\n",
  "    int              a \"h\",\n    map<json.gz[]>[] b,\n)\n\n",
  "pipeline P(\n    in  int          a        \"h\",\n",
  "    out map<int[]>[] r,\n    out json.gz,\n)\n{\n    call A(\n",
  "        z = {\n            \"a\": 7,\n            \"b\": null,\n",
  "        },\n    )\n\n    call B(\n        y = [\n            A.o,\n",
  "            1000,\n        ],\n    ) using (\n",
  "        local    = true,\n        volatile = true,\n    )\n\n",
  "    map call C(\n        x = split B.o,\n        * = self,\n",
  "    ) using (\n        disabled = A.d,\n    )\n\n    return (\n",
  "        r = C.o,\n    )\n\n    retain (\n        C.o,\n    )\n}\n\n",
  "stage S(\n    in  int   a        \"A\",\n    out float,\n",
  "    src py    \"x.py -v\",\n) split (\n    in  int   c,\n) using (\n",
  "    mem_gb   = 1,\n    threads  = 0.5,\n    vmem_gb  = 0.5,\n",
  "    volatile = strict,\n) retain (\n    a,\n)\n\ncall P(\n",
  "    a = 1000,\n)\n"]

/-- for the examples: the id of a callable and the callee names of its calls in order -/
def callableCalls : Callable → Bytes × List Bytes
  | .stage s => (s.id, [])
  | .pipeline p => (p.id, p.body.calls.map (·.decId))

/-- for the examples: `mem_gb` (in MB) of every stage of the file -/
def fileMems (f : File) : List (Option Int) :=
  f.callables.filterMap fun c => match c with
    | .stage s => some (s.res.bind (·.mem))
    | .pipeline _ => none

end Martian.FormatFile
