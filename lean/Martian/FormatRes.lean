/-
C09 model, part 4: the trailing clauses of a stage declaration
(martian/syntax/format_callable.go `SrcParam.format`, `Resources.format`,
`formatGB`, `RetainParams.format`) and the readers of the same fragment
(grammar.y `src_stm`, `src_lang`, `resources`, `resource_list`, `float_32`,
`stage_retain`, `stage_retain_list`; parsenum.go `roundUpTo`), on the tokens
of `Martian.FormatExp`.

* `fmtGB mb` = `formatGB(buf, gb)` for the stored value `gb = mb/1024` (the
  parser stores `roundUpTo(x, 1024)`, an exact multiple of 1/1024;
  `int64(gb*1024)` recovers `mb`; float32 holds every such value exactly for
  `|mb| < 2^24`, and every float32 ≥ 2^14 is a multiple of 1/1024 anyway).
  The function follows the Go code line by line: `0`; the sign; the whole part
  through `strconv.AppendInt`; the digit-minimising loop over `decFrac`,
  `scale`, `digits` (`gbMin`); the writing loop with its trailing-zero
  trimming (`gbWrite`).  `fmtGBgo` is the same with the `int64` conversion of
  amd64 (`|x| ≥ 2^63` ↦ `MinInt64`): finding F25.
* `readGBTok`: `roundUpTo(float_32, 1024) · 1024` computed EXACTLY on the
  decimal value of the token text (`mant · 10^exp10 · 1024` rounded away from
  zero).  No float32 rounding is modelled there, except that a NUM_FLOAT at or
  below 2^-150 reads as 0 (float32 underflow) and one above the float32 range
  is rejected (`tryParseFloat32`).  `readGB32Tok` is the same WITH the rounding
  of the literal to the nearest float32 that the real parser performs first;
  the harness ties it to the real parser on every literal and every printed
  value it samples.  The two agree on the texts `formatGB` prints for
  |gb| < 256 (exhaustive replay of the real arithmetic over 0..2^24 MB: the
  first value that fails is 262188 MB); from 256 GB on they do not: finding
  F29 (`Props.C09.formatGB_float32_witness`).
* `threads` keeps the token text (the model never computes with the value;
  the harness canonicalises through `roundUpTo(·, 100)` and `%g`).
* `fmtRes`: `Resources.format` without comments, from `) using (` to the last
  `,\n`; the fixed order mem_gb, special, threads, vmem_gb, volatile and the
  padding which depends on which entries are present.  `pResources` reads
  `USING '(' resource_list ')'` with the entries in any order and repeated
  (the last value wins).
* `fmtRetain` / `pRetain`, `fmtSrc` / `pSrc` likewise.  `strings.Fields` is
  modelled with the Unicode white space of `unicode.IsSpace` (`fieldsU`).

Core Lean only.
-/
import Martian.FormatExp

namespace Martian.FormatRes
open Martian.Lexer (Bytes isDigit numTok NumTok parseInt parseFloat FloatLit unquoteBytes
  isSpaceAscii)
open Martian.Format (quoteString)
open Martian.FormatExp

/-! ## keywords -/

def sUsing : Bytes := [0x75, 0x73, 0x69, 0x6E, 0x67]
def sRetain : Bytes := [0x72, 0x65, 0x74, 0x61, 0x69, 0x6E]
def sMemGb : Bytes := [0x6D, 0x65, 0x6D, 0x5F, 0x67, 0x62]
def sMemgb : Bytes := [0x6D, 0x65, 0x6D, 0x67, 0x62]
def sVmemGb : Bytes := [0x76, 0x6D, 0x65, 0x6D, 0x5F, 0x67, 0x62]
def sVmemgb : Bytes := [0x76, 0x6D, 0x65, 0x6D, 0x67, 0x62]
def sThreads : Bytes := [0x74, 0x68, 0x72, 0x65, 0x61, 0x64, 0x73]
def sSpecial : Bytes := [0x73, 0x70, 0x65, 0x63, 0x69, 0x61, 0x6C]
def sVolatile : Bytes := [0x76, 0x6F, 0x6C, 0x61, 0x74, 0x69, 0x6C, 0x65]
def sStrict : Bytes := [0x73, 0x74, 0x72, 0x69, 0x63, 0x74]
def sSrc : Bytes := [0x73, 0x72, 0x63]
def sPy : Bytes := [0x70, 0x79]
def sExec : Bytes := [0x65, 0x78, 0x65, 0x63]
def sComp : Bytes := [0x63, 0x6F, 0x6D, 0x70]

/-! ## formatGB -/

/-- `for digits > 0 && ((decFrac-decFrac%10)*1024+scale-1)/scale == mb
{ scale /= 10; decFrac /= 10; digits-- }`  (at most 4 rounds: fuel 5) -/
def gbMin (mb : Nat) : Nat → Nat → Nat → Nat → Nat × Nat
  | 0, decFrac, _, digits => (decFrac, digits)
  | f + 1, decFrac, scale, digits =>
    if digits > 0 && ((decFrac - decFrac % 10) * 1024 + scale - 1) / scale == mb then
      gbMin mb f (decFrac / 10) (scale / 10) (digits - 1)
    else (decFrac, digits)

/-- `for i := digits - 1; i >= 0; i-- { v := byte(decFrac % 10);
if v == 0 && i+1 == digits { digits = i }; b[i] = v + '0'; decFrac = decFrac / 10 }`:
the first argument is `i + 1`; returns `digits` and `b[0 : digits₀]` -/
def gbWrite : Nat → Nat → Nat → Bytes → Nat × Bytes
  | 0, _, digits, buf => (digits, buf)
  | i + 1, decFrac, digits, buf =>
    gbWrite i (decFrac / 10) (if decFrac % 10 == 0 && i + 1 == digits then i else digits)
      (UInt8.ofNat (48 + decFrac % 10) :: buf)

/-- what `formatGB` prints after the whole part, for `mb % 1024 = m` -/
def fracPart (m : Nat) : Bytes :=
  if m = 0 then [] else
  let md := gbMin m 5 (m * 10000 / 1024) 10000 4
  if md.2 = 0 then [] else
  let w := gbWrite md.2 md.1 md.2 []
  0x2E :: w.2.take w.1

/-- `formatGB` from `mb := int64(gb * 1024)` on (`gb > 0` there; a negative
`mb` comes out of the conversion only as `MinInt64`, whose remainder is 0) -/
def gbBody (mb : Int) : Bytes := fmtInt (mb.tdiv 1024) ++ fracPart (mb.tmod 1024).toNat

/-- `formatGB(buf, mb/1024)` -/
def fmtGB (mb : Int) : Bytes :=
  if mb = 0 then [0x30] else (if mb < 0 then [0x2D] else []) ++ gbBody (mb.natAbs : Int)

/-- `formatGB(buf, gb)` with `x = gb * 1024` an arbitrarily large integer:
`int64(·)` of a float beyond the range is `MinInt64` on amd64 -/
def fmtGBgo (x : Int) : Bytes :=
  if x = 0 then [0x30] else
  (if x < 0 then [0x2D] else []) ++
    gbBody (if x.natAbs ≥ 2 ^ 63 then -(2 ^ 63 : Int) else (x.natAbs : Int))

/-! ## float_32, roundUpTo -/

def ceilDiv (a b : Nat) : Nat := (a + b - 1) / b

/-- `roundUpTo(v, 1024) * 1024` for the exact decimal value `v` of a literal:
`|v| · 1024` rounded up, with the sign of `v` -/
def litMB (l : FloatLit) : Int :=
  let n : Nat :=
    if l.exp10 ≥ 0 then l.mant * 10 ^ l.exp10.toNat * 1024
    else ceilDiv (l.mant * 1024) (10 ^ (-l.exp10).toNat)
  if l.neg then -(n : Int) else (n : Int)

/-- a NUM_FLOAT as `mem_gb`/`vmem_gb`: out of the float32 range = error; at or
below 2^-150 (half the smallest subnormal) the float32 is 0.  (A literal with
more than `length + 50` digits after the point is below that without
exponentiating.) -/
def readGBFloat (raw : Bytes) : Option Int :=
  match parseFloat true raw with
  | none => none
  | some l =>
    let k := (-l.exp10).toNat
    if decide (l.exp10 < 0) &&
        (decide (k > raw.length + 50) || decide (l.mant * 2 ^ 150 ≤ 10 ^ k)) then some 0
    else some (litMB l)

/-- `roundUpTo(float_32, 1024)` in MB -/
def readGBTok : Tok → Option Int
  | .int raw => (parseInt raw).map (· * 1024)
  | .float raw => readGBFloat raw
  | _ => none

/-- the same on a text which must be exactly one numeric token -/
def readGB (t : Bytes) : Option Int :=
  match numTok false t with
  | .int raw => if raw = t then readGBTok (.int raw) else none
  | .float raw => if raw = t then readGBTok (.float raw) else none
  | _ => none

/-! ### the same with the float32 rounding of the literal (`tryParseFloat32`, `float32(int64)`)

Not used by the readers below (the round-trip theorems are about the exact
reading); it is what the real parser computes for EVERY literal, tied by the
harness, and it exhibits finding F29: from 256 GB on `formatGB`'s text does not
survive the rounding to the nearest float32 that precedes `roundUpTo`. -/

/-- the float32 nearest to the positive rational `n/d` (ties to even, gradual
underflow; no overflow check) as `m · 2^e` with `m ≤ 2^24`, `e ≥ -149` -/
def f32Round (n d : Nat) : Nat × Int :=
  if n = 0 then (0, 0) else
  let e0 : Int := (n.log2 : Int) - (d.log2 : Int) - 23
  let q (e : Int) : Nat := if e ≥ 0 then n / (d * 2 ^ e.toNat) else n * 2 ^ (-e).toNat / d
  let e1 : Int := if q e0 < 2 ^ 23 then e0 - 1 else if q e0 ≥ 2 ^ 24 then e0 + 1 else e0
  let e : Int := if e1 < -149 then -149 else e1
  let N : Nat := if e ≥ 0 then n else n * 2 ^ (-e).toNat
  let D : Nat := if e ≥ 0 then d * 2 ^ e.toNat else d
  let m := N / D
  let rem := N % D
  (if 2 * rem > D || (2 * rem == D && m % 2 == 1) then m + 1 else m, e)

/-- `roundUpTo(m · 2^e, 1024) · 1024` (exact in float64; the result fits float32) -/
def f32MB (me : Nat × Int) : Nat :=
  if me.2 + 10 ≥ 0 then me.1 * 2 ^ (me.2 + 10).toNat else ceilDiv me.1 (2 ^ (-(me.2 + 10)).toNat)

/-- `roundUpTo(float_32, 1024)` in MB, with the float32 rounding of the literal -/
def readGB32Tok : Tok → Option Int
  | .int raw => (parseInt raw).map fun i =>
      if i < 0 then -(f32MB (f32Round i.natAbs 1) : Int) else (f32MB (f32Round i.natAbs 1) : Int)
  | .float raw =>
    match parseFloat true raw with
    | none => none
    | some l =>
      let k := (-l.exp10).toNat
      if decide (l.exp10 < 0) && decide (k > raw.length + 50) then some 0 else
      let v : Nat := f32MB (if l.exp10 ≥ 0 then f32Round (l.mant * 10 ^ l.exp10.toNat) 1
        else f32Round l.mant (10 ^ k))
      some (if l.neg then -(v : Int) else (v : Int))
  | _ => none

def readGB32 (t : Bytes) : Option Int :=
  match numTok false t with
  | .int raw => if raw = t then readGB32Tok (.int raw) else none
  | .float raw => if raw = t then readGB32Tok (.float raw) else none
  | _ => none

/-- `float_32` for `threads`: the token text (the model does not compute with it) -/
def readF32 : Tok → Option Bytes
  | .int raw => if (parseInt raw).isSome then some raw else none
  | .float raw => if (parseFloat true raw).isSome then some raw else none
  | _ => none

/-! ## Resources -/

/-- `Resources`: a field is `some` iff its `…Node` is set.  `mem`, `vmem` in MB;
`threads`: the `%g` text of the float32; `volatile`: `StrictVolatile` -/
structure Res where
  mem : Option Int := none
  special : Option Bytes := none
  threads : Option Bytes := none
  vmem : Option Int := none
  volatile : Option Bool := none
  deriving Repr, DecidableEq, Inhabited

def memPad (r : Res) : Bytes :=
  if r.volatile.isSome then [0x20, 0x20]
  else if r.vmem.isSome || r.special.isSome || r.threads.isSome then [0x20]
  else []

def threadPad (r : Res) : Bytes := if r.volatile.isSome then [0x20] else []

def sEq : Bytes := [0x20, 0x3D, 0x20]
def sEnd : Bytes := [0x2C, 0x0A]

/-- `) using (` newline -/
def sUsingOpen : Bytes := [0x29, 0x20] ++ sUsing ++ [0x20, 0x28, 0x0A]

/-- `) retain (` newline -/
def sRetainOpen : Bytes := [0x29, 0x20] ++ sRetain ++ [0x20, 0x28, 0x0A]

def memLine (pad : Bytes) : Option Int → Bytes
  | some mb => indent ++ sMemGb ++ pad ++ sEq ++ fmtGB mb ++ sEnd
  | none => []

def specialLine (pad : Bytes) : Option Bytes → Bytes
  | some s => indent ++ sSpecial ++ pad ++ sEq ++ quoteString s ++ sEnd
  | none => []

def threadsLine (pad : Bytes) : Option Bytes → Bytes
  | some t => indent ++ sThreads ++ pad ++ sEq ++ t ++ sEnd
  | none => []

def vmemLine (pad : Bytes) : Option Int → Bytes
  | some mb => indent ++ sVmemGb ++ pad ++ sEq ++ fmtGB mb ++ sEnd
  | none => []

def volatileLine : Option Bool → Bytes
  | some b => indent ++ sVolatile ++ sEq ++ (if b then sStrict else sFalse) ++ sEnd
  | none => []

/-- the entries of `Resources.format` -/
def fmtResBody (r : Res) : Bytes :=
  memLine (memPad r) r.mem ++ specialLine (threadPad r) r.special ++
    threadsLine (threadPad r) r.threads ++ vmemLine (threadPad r) r.vmem ++ volatileLine r.volatile

/-- `Resources.format` (no comments): from `) using (` to the last `,` newline;
for a `Resources` without any node (`using ()`) just the opening line -/
def fmtRes (r : Res) : Bytes := sUsingOpen ++ fmtResBody r

/-- `resource_list` up to and including the closing parenthesis -/
def pResList : List Tok → Res → Option (Res × List Tok)
  | .punct 0x29 :: r, acc => some (acc, r)
  | .id k :: .punct 0x3D :: v :: .punct 0x2C :: r, acc =>
    if k = sThreads then
      match readF32 v with
      | some t => pResList r { acc with threads := some t }
      | none => none
    else if k = sMemGb ∨ k = sMemgb then
      match readGBTok v with
      | some mb => pResList r { acc with mem := some mb }
      | none => none
    else if k = sVmemGb ∨ k = sVmemgb then
      match readGBTok v with
      | some mb => pResList r { acc with vmem := some mb }
      | none => none
    else if k = sSpecial then
      match v with
      | .str raw =>
        match unquoteBytes raw with
        | some s => pResList r { acc with special := some s }
        | none => none
      | _ => none
    else if k = sVolatile then
      match v with
      | .id w => if w = sStrict then pResList r { acc with volatile := some true } else none
      | .kFalse => pResList r { acc with volatile := some false }
      | _ => none
    else none
  | _, _ => none

/-- `resources`: empty, or `USING '(' resource_list ')'` -/
def pResources : List Tok → Option (Option Res × List Tok)
  | .id w :: ts =>
    if w = sUsing then
      match ts with
      | .punct 0x28 :: r => (pResList r {}).map fun x => (some x.1, x.2)
      | _ => none
    else some (none, .id w :: ts)
  | ts => some (none, ts)

/-- what the parser can produce and the printer is claimed for: a string that
is valid UTF-8; a `threads` text that is a NUM_FLOAT in the float32 range or a
canonical NUM_INT; values of `int64` size -/
def wfThreads (t : Bytes) : Bool :=
  (isFloatTok t && (parseFloat true t).isSome) || isCanonInt t

/-- **The exact domain of the resource round trip**: `formatGB`'s text for `mb` MB, read the way the
REAL parser reads it (`readGB32`: nearest float32 of the literal, then `roundUpTo(·, 1024)`), is `mb`
again — and `mb` is within `formatGB`'s `int64` range (F25).  Decidable, evaluated by the driver.
True for every `|mb| < 2^18` (below 256 GB: `gbRoundTrips_below_256GB`) and for every whole number of GB up to 64 TB (`gbRoundTrips_whole_GB`: `formatGB` prints
an integer, which float32 holds exactly); false for about 0.8 % of the values just above 256 GB
(finding F29, e.g. 262188 MB) and more and more often as the float32 spacing grows. -/
def gbRoundTrips (mb : Int) : Bool :=
  decide (mb.natAbs < 2 ^ 63) && (readGB32 (fmtGB mb) == some mb)

/-- `mem_gb` / `vmem_gb` values for which the round-trip theorems are claimed: exactly those on which
the real reader inverts `formatGB` (`gbRoundTrips`; third audit A10: formerly the range `|mb| < 2^18`,
which excluded every value from 256 GB on although F29 affects few of them). -/
def wfMB : Option Int → Bool
  | some mb => gbRoundTrips mb
  | none => true

def wfRes (r : Res) : Bool :=
  wfMB r.mem && wfMB r.vmem &&
    (match r.special with | some s => Martian.ShellQuote.validUtf8 s | none => true) &&
    (match r.threads with | some t => wfThreads t | none => true)

/-! ## retain -/

def retainLines : List Bytes → Bytes
  | [] => []
  | x :: r => indent ++ x ++ sEnd ++ retainLines r

/-- `RetainParams.format` (no comments): from `) retain (` to the last `,` newline -/
def fmtRetain (ids : List Bytes) : Bytes := sRetainOpen ++ retainLines ids

/-- `stage_retain_list` up to and including the closing parenthesis -/
def pRetainList : List Tok → Option (List Bytes × List Tok)
  | .punct 0x29 :: r => some ([], r)
  | .id x :: .punct 0x2C :: r => (pRetainList r).map fun y => (x :: y.1, y.2)
  | _ => none

/-- `stage_retain`: empty, or `RETAIN '(' stage_retain_list ')'` -/
def pRetain : List Tok → Option (Option (List Bytes) × List Tok)
  | .id w :: ts =>
    if w = sRetain then
      match ts with
      | .punct 0x28 :: r => (pRetainList r).map fun x => (some x.1, x.2)
      | _ => none
    else some (none, .id w :: ts)
  | ts => some (none, ts)

/-! ## the src line -/

inductive Lang
  | py | exec | comp
  deriving Repr, DecidableEq, Inhabited

def Lang.text : Lang → Bytes
  | .py => sPy
  | .exec => sExec
  | .comp => sComp

/-- `strings.Join(parts, " ")` -/
def joinSp : List Bytes → Bytes
  | [] => []
  | [x] => x
  | x :: y :: r => x ++ 0x20 :: joinSp (y :: r)

/-- `SrcParam.format(printer, modeWidth, typeWidth)` (no comments) -/
def fmtSrc (mw tw : Nat) (lang : Lang) (path : Bytes) (args : List Bytes) : Bytes :=
  indent ++ sSrc ++ [0x20] ++ spaces (mw - 3) ++ lang.text ++ spaces (tw - lang.text.length) ++
    [0x20] ++ quoteString (joinSp (path :: args)) ++ sEnd

/-- length of the white-space rune of `unicode.IsSpace` encoded at the head of
the text, beyond ASCII: U+0085, U+00A0, U+1680, U+2000–U+200A, U+2028, U+2029,
U+202F, U+205F, U+3000; 0 = none.  (Each starts with a lead byte, which Go's
decoder never takes for part of the previous rune, so this is what
`utf8.DecodeRune` sees on any byte string.) -/
def uSp2 (c x : UInt8) : Bool := c == 0xC2 && (x == 0x85 || x == 0xA0)

def uSp3 (c x y : UInt8) : Bool :=
  (c == 0xE1 && x == 0x9A && y == 0x80) ||
  (c == 0xE2 && x == 0x80 && ((0x80 ≤ y && y ≤ 0x8A) || y == 0xA8 || y == 0xA9 || y == 0xAF)) ||
  (c == 0xE2 && x == 0x81 && y == 0x9F) ||
  (c == 0xE3 && x == 0x80 && y == 0x80)

def uSpaceLen : Bytes → Nat
  | c :: x :: y :: _ => if uSp2 c x then 2 else if uSp3 c x y then 3 else 0
  | [c, x] => if uSp2 c x then 2 else 0
  | _ => 0

/-- does the text contain a non-ASCII white-space rune? -/
def hasUSpace : Bytes → Bool
  | [] => false
  | c :: r => uSpaceLen (c :: r) != 0 || hasUSpace r

def flush (cur : Bytes) (rest : List Bytes) : List Bytes :=
  if cur = [] then rest else cur.reverse :: rest

/-- `strings.Fields`: split around runs of `unicode.IsSpace` runes.  `skip`:
bytes of a multi-byte white-space rune still to be dropped -/
def fieldsUAux : Bytes → Nat → Bytes → List Bytes
  | [], _, cur => flush cur []
  | _ :: r, skip + 1, cur => fieldsUAux r skip cur
  | c :: r, 0, cur =>
    if isSpaceAscii c then flush cur (fieldsUAux r 0 [])
    else if uSpaceLen (c :: r) != 0 then flush cur (fieldsUAux r (uSpaceLen (c :: r) - 1) [])
    else fieldsUAux r 0 (c :: cur)

def fieldsU (s : Bytes) : List Bytes := fieldsUAux s 0 []

/-- the action of `src_stm` on the string literal: `strings.Fields` of the
unquoted text (`TrimSpace` first makes no difference to `Fields`); an empty
command is an error -/
def readCmd (raw : Bytes) : Option (Bytes × List Bytes) :=
  match unquoteBytes raw with
  | some s =>
    match fieldsU s with
    | p :: a => some (p, a)
    | [] => none
  | none => none

/-- `src_lang`: PY | EXEC | COMPILED -/
def readLang : Tok → Option Lang
  | .reserved w => if w = sPy then some .py else none
  | .id w => if w = sExec then some .exec else if w = sComp then some .comp else none
  | _ => none

def langTok : Lang → Tok
  | .py => .reserved sPy
  | .exec => .id sExec
  | .comp => .id sComp

/-- `src_stm`: `SRC src_lang LITSTRING ','` -/
def pSrc : List Tok → Option ((Lang × Bytes × List Bytes) × List Tok)
  | .reserved w :: l :: .str raw :: .punct 0x2C :: r =>
    if w = sSrc then
      match readLang l, readCmd raw with
      | some lang, some (p, a) => some ((lang, p, a), r)
      | _, _ => none
    else none
  | _ => none

/-- a field of the command: not empty, no white space (ASCII or not) -/
def wfField (f : Bytes) : Bool := f != [] && f.all (fun c => !isSpaceAscii c) && !hasUSpace f

/-- what `src_stm` can produce: fields without white space; the command is valid UTF-8 -/
def wfSrc (path : Bytes) (args : List Bytes) : Bool :=
  wfField path && args.all wfField && Martian.ShellQuote.validUtf8 (joinSp (path :: args))

/-! ## the clauses together: everything after the `src` line of a stage without `split` -/

/-- `Stage.format` from the `Resources`/`Retain` clauses to the end (a stage
that is not split): the clauses that are present, then `)` newline -/
def fmtTail (res : Option Res) (ret : Option (List Bytes)) : Bytes :=
  (match res with | some r => fmtRes r | none => []) ++
    (match ret with | some ids => fmtRetain ids | none => []) ++ [0x29, 0x0A]

/-- `')' resources stage_retain` (the `split_param_list` between them empty) -/
def pTail : List Tok → Option ((Option Res × Option (List Bytes)) × List Tok)
  | .punct 0x29 :: ts =>
    match pResources ts with
    | some (res, ts1) =>
      match pRetain ts1 with
      | some (ret, ts2) => some ((res, ret), ts2)
      | none => none
    | none => none
  | _ => none

def sStage : Bytes := [0x73, 0x74, 0x61, 0x67, 0x65]

/-- a stage without parameters and without `split`: the smallest declaration
that carries all three clauses -/
structure Stage0 where
  id : Bytes
  lang : Lang
  path : Bytes
  args : List Bytes
  res : Option Res
  retain : Option (List Bytes)
  deriving Repr, DecidableEq, Inhabited

/-- `Stage.format` for it (`modeWidth = max 0 (len "src")`, `typeWidth = 0`) -/
def fmtStage0 (s : Stage0) : Bytes :=
  sStage ++ [0x20] ++ s.id ++ [0x28, 0x0A] ++ fmtSrc 3 0 s.lang s.path s.args ++ fmtTail s.res s.retain

/-- `STAGE id '(' src_stm ')' resources stage_retain` and the end of the input -/
def pStage0 : List Tok → Option Stage0
  | .reserved w :: .id name :: .punct 0x28 :: ts =>
    if w = sStage then
      match pSrc ts with
      | some ((lang, path, args), ts1) =>
        match pTail ts1 with
        | some ((res, ret), []) => some ⟨name, lang, path, args, res, ret⟩
        | _ => none
      | none => none
    else none
  | _ => none

def parseStage0 (src : Bytes) : Option Stage0 := (lexAll src).bind pStage0

def wfRetain (ids : List Bytes) : Bool := ids.all isIdent

def wfStage0 (s : Stage0) : Bool :=
  isIdent s.id && wfSrc s.path s.args &&
    (match s.res with | some r => wfRes r | none => true) &&
    (match s.retain with | some ids => wfRetain ids | none => true)

end Martian.FormatRes
