/-
C05 — an interrupted pipestance resumes, not redoing finished work.
PROPERTY THEOREMS ONLY (model: Martian/Sched.lean, lemmas: Proofs/Sched*.lean).
Scope: the default restart path (`Pipestance.Reset` with partial reset +
`RestartLocalJobs`, local job mode) — `Reach g s`.  `FullStageReset` mode is
modelled too (`ReachFull g s`, section at the end): there every node that was
Running or Failed after re-attaching is wiped with everything in it, finished
chunks and forks included, so `complete_not_reset` is FALSE in that mode by
design of the code (negative witness `fullreset_wipes_finished_work`); what
still holds is stated there.
Job objects = every chunk, and split/join of splitting stages (`jobObj`).
-/
import Martian.Sched
import Proofs.Sched
import Proofs.SchedTrans
import Martian.SchedProgress
import Proofs.SchedProgress
import Proofs.SchedRestart
import Proofs.SchedRun

/-! ### definitional unfoldings (documentation of the model, not guarantees)
The theorems whose docstring starts with DEFINITIONAL UNFOLDING (complete_not_reset, restart_preserves_done, crash_keeps_disk, wipedAtLoad_spec) restate a guard
or a definition of the model; they stay where later theorems use them and are not cited as guarantees. -/
namespace Props.C05
open Martian.Sched

/-- DEFINITIONAL UNFOLDING (documentation of the guard `resetOk`, not an inductive guarantee).
`complete_not_reset`: the restart-time reset is never enabled on a job object whose directory
says complete (only failed, queued, running-with-dead-pid or not-yet-complete `_queued_locally`
objects are reset).  `joblog` does not remove `_queued_locally` in the model, so the state
"complete and `_queued_locally` still there" IS reachable (witness `hQ` below); the theorem then
rests on the conjunct `dst ≠ complete` of the `restartQueuedLocal` disjunct, and on nothing
proved by induction (`hr` is only used to select the partial-reset mode). -/
theorem complete_not_reset {g : List NodeInfo} {s : State} {o : Obj} (hr : Reach g s)
    (hj : jobObj (s.kind o.n) o.r = true) (hen : enabled s (.reset o) = true) :
    s.dst o ≠ some .complete := fun hc => by
  obtain ⟨a, b, c⟩ := metaState_complete hc
  rw [complete_not_resettable (reach_full hr) ⟨a, b⟩ c] at hen; cases hen

/-- finished work stays on disk: whatever event happens next, a job object whose
directory state is complete keeps its `_complete` file -/
theorem complete_kept_on_disk {g : List NodeInfo} {s : State} {e : Ev} {o : Obj} (hr : Reach g s)
    (hj : jobObj (s.kind o.n) o.r = true) (hen : enabled s e = true)
    (hc : s.dst o = some .complete) : ((apply s e).m o).disk.has .complete = true := by
  apply disk_mono _ (by simp) (metaState_complete hc).2.2
  intro he; subst he
  exact complete_not_reset hr hj hen hc

/-- DEFINITIONAL UNFOLDING (documentation of the model / of a guard, not a guarantee). `restart_preserves_done`: after `crash; restart` mrp's view of every object
is exactly the state of its directory — in particular everything complete on
disk is seen complete (and is therefore not submitted again, C03). -/
theorem restart_preserves_done {s : State} (o : Obj) :
    (apply (apply s .crash) .restart).st o = s.dst o := by
  simp [State.st, State.dst, apply_m, reload]

/-- DEFINITIONAL UNFOLDING (documentation of the model / of a guard, not a guarantee). a crash itself changes nothing on disk -/
theorem crash_keeps_disk {s : State} (o : Obj) : ((apply s .crash).m o).disk = (s.m o).disk := by
  simp [apply_m]

/-- `restart_relaunch_only_reset`: a job submitted by an earlier incarnation is
submitted again only if a restart reset it in between (i.e. its directory state
was failed, queued or running-dead) -/
theorem restart_relaunch_only_reset {g : List NodeInfo} {s : State} (hr : Reach g s)
    {o : Obj} {i j : Nat} (hi : (o, i) ∈ s.launches) (hj : (o, j) ∈ s.launches) (hlt : i < j) :
    ∃ k, i < k ∧ k ≤ j ∧ (o, k) ∈ s.resets :=
  (reach_launchInv hr).relaunch o i j hi hj hlt

/-- a job object that is complete on disk cannot be submitted (in any incarnation) -/
theorem complete_not_relaunched {g : List NodeInfo} {s : State} {o : Obj} (hr : Reach g s)
    (hc : (s.m o).disk.has .complete = true) (hj : jobObj (s.kind o.n) o.r = true) :
    enabled s (.launch o) = false :=
  Bool.eq_false_iff.mpr fun he =>
    st_ne_none_of_seen (.inl rfl) ((reach_objsInv hr o).ji ((reach_objsInv hr o).kk hj (.inr (.inl hc))))
      (launchOk_facts (en_launch.mp he)).2.2

/-! ### `FullStageReset` mode (`Config.FullStageReset`, local job mode) -/

/-- in FullStageReset mode only objects of nodes that were Running or Failed right
after the re-attach are reset … -/
theorem fullreset_only_wiped_nodes {g : List NodeInfo} {s : State} {o : Obj}
    (hr : ReachFull g s) (hen : enabled s (.reset o) = true) :
    s.phase = .loading ∧ o.n ∈ s.wipedAtLoad := by
  simpa [(reachFull_inv hr).2.1] using en_reset.mp hen

/-- DEFINITIONAL UNFOLDING (documentation of the model / of a guard, not a guarantee). … where that set is computed by `restart` from the directory contents -/
theorem wipedAtLoad_spec (s : State) (n : Nat) :
    n ∈ (apply s .restart).wipedAtLoad ↔
      n < s.nodes.length ∧
      (nodeState (apply s .restart) n = .failed ∨ nodeState (apply s .restart) n = .running) := by
  simp [restart_wipedAtLoad]

/-- the submission bookkeeping is mode independent: no double submission within
an incarnation, and a resubmission only after a reset -/
theorem fullreset_at_most_once {g : List NodeInfo} {s : State} (hr : ReachFull g s) :
    s.launches.Nodup ∧
    ∀ o i j, (o, i) ∈ s.launches → (o, j) ∈ s.launches → i < j →
      ∃ k, i < k ∧ k ≤ j ∧ (o, k) ∈ s.resets :=
  ⟨(reachFull_inv hr).1.launch.nodup, (reachFull_inv hr).1.launch.relaunch⟩

/-- Negative witness: in FullStageReset mode a finished chunk of a node that was
still running when mrp died IS wiped at restart and submitted again. -/
theorem fullreset_wipes_finished_work :
    (match replay (initFull [{ kind := .stage, pre := [] }])
      [.fork 0 0, .nodestate 0 .running, .refresh, .W ⟨0, 0, .split⟩ .complete, .mkchunks 0 0 1,
       .launch ⟨0, 0, .chunk 0⟩, .joblog ⟨0, 0, .chunk 0⟩, .jobend ⟨0, 0, .chunk 0⟩ .complete,
       .crash, .restart] with
    | .ok s => s.dst ⟨0, 0, .chunk 0⟩ == some .complete && enabled s (.reset ⟨0, 0, .chunk 0⟩)
    | .error _ => false) = true := by decide +kernel

/-! ### the continuation after a restart completes (both reset modes)

`s.alive` (ghost) = the job objects whose submitted job has neither ended nor died: `launch` adds,
`jobend` / `silentfail` / `killed` / `reset` remove; `joblog` and `jobend` need it.  `killed o` is
the death of a job without a trace (it dies with mrp, or the scheduler loses it); a `reset` of a
job whose directory says running is only permitted when the job is dead (`restartLocal`'s pid
test).  `AliveInv s` = every job that is submitted and has no `_complete` on disk is alive — i.e.
EVERY JOB THAT DIED HAS BEEN RESET.  That is exactly what `RestartLocalJobs` is for; a restart
that leaves a dead job un-reset wedges the pipestance (`dead_unreset_job_wedges`). -/

/-- `restart_completes` (default reset mode): take ANY reachable state `s0` without failure
markers on disk — in particular the state right after any accepted history followed by
`crash; restart`, whatever was in flight — and ANY continuation from it that contains no
failure event, finitely many interruptions (`crash`/`restart`/`reset`/`killed`) and
fork-structure events, after the last of which mrp is up and every job that died has been
reset (`AliveInv`: the resets performed may be ANY subset of the permitted ones that contains
the dead running/queued jobs), and that is fair: it reaches a finished pipestance and stays
there.  (Vocabulary: Props/C03 header.) -/
theorem restart_completes {g : List NodeInfo} {s0 : State} {σ : Nat → State} {es : Nat → Ev}
    (hr : Reach g s0) (hclean : CleanInv s0) (hac : Acyclic g) (hrun : Run s0 σ es)
    (hnf : ∀ i, (es i).failing = false) {K : Nat}
    (hK : ∀ i, K ≤ i → (es i).structural (σ i) = false) (hup : (σ K).phase ≠ .crashed)
    (halive : AliveInv (σ K)) (hfair : Fair σ) : ∃ M, K ≤ M ∧ ∀ j, M ≤ j → Finished (σ j) :=
  interrupted_run_finishes hrun (liveInv_of_base (reach_baseInv hr) hclean) (by rw [reach_nodes hr]; exact hac)
    hnf hK hup halive hfair

/-- the same in `FullStageReset` mode: wiping whole Running/Failed nodes at restart (any
subset of their objects, in any order, as long as no dead job is left behind) never wedges
the pipestance -/
theorem fullreset_restart_completes {g : List NodeInfo} {s0 : State} {σ : Nat → State}
    {es : Nat → Ev} (hr : ReachFull g s0) (hclean : CleanInv s0) (hac : Acyclic g)
    (hrun : Run s0 σ es) (hnf : ∀ i, (es i).failing = false) {K : Nat}
    (hK : ∀ i, K ≤ i → (es i).structural (σ i) = false) (hup : (σ K).phase ≠ .crashed)
    (halive : AliveInv (σ K)) (hfair : Fair σ) : ∃ M, K ≤ M ∧ ∀ j, M ≤ j → Finished (σ j) :=
  interrupted_run_finishes hrun (liveInv_of_base (reachFull_inv hr).1 hclean)
    (by rw [(reachFull_inv hr).2.2]; exact hac) hnf hK hup halive hfair

/-- the hypothesis `CleanInv` is kept by every event that is not a failure event
(interruptions and resets included), in either mode: a history without failure events
ends in a state `restart_completes` applies to -/
theorem no_failure_keeps_clean {s : State} {e : Ev} (hen : enabled s e = true)
    (hnf : e.failing = false) (h : CleanInv s) : CleanInv (apply s e) :=
  cleanInv_step hen hnf h

/-- `AliveInv` is kept by every event of a run without failures and interruptions, and
re-established for an object by its reset -/
theorem no_interruption_keeps_alive {s : State} {e : Ev} (hen : enabled s e = true)
    (hff : e.failureFree = true) (h : AliveInv s) : AliveInv (apply s e) :=
  aliveInv_step hen hff h

/-- Negative witness: the split was running when mrp was killed and died with it; the restart
does NOT reset it.  The pipestance is not finished and no event of the scheduler/job/journal
alphabet can ever happen again: resetting dead jobs is necessary. -/
def hDead : List Ev :=
  [.fork 0 0, .nodestate 0 .running, .refresh, .launch ⟨0, 0, .split⟩, .joblog ⟨0, 0, .split⟩,
   .crash, .killed ⟨0, 0, .split⟩, .restart, .refresh]
def sDead : State := prefixState (init [{ kind := .splitstage, pre := [] }]) hDead 9

theorem dead_unreset_job_wedges :
    ¬ Finished sDead ∧ (∀ e, ¬ Progress sDead e) ∧ enabled sDead (.jobend ⟨0, 0, .split⟩ .complete) = false ∧
    ¬ AliveInv sDead := by
  refine ⟨fun h => ?_, no_progress_of_quiescent ?_ (by decide +kernel), by decide +kernel, fun h => ?_⟩
  · exact absurd (h.2 0 (by decide +kernel)).1 (by decide +kernel)
  · exact reach_objsInv (run_reach (run_of_list _ hDead (by decide +kernel)) 9)
  · have := h 0 0 .split (by simp) (by decide +kernel) (by decide +kernel)
    exact absurd this (by decide +kernel)

/-- `restart_completes_same_completion_set_partial` (default reset mode;
PARTIAL — exact gap: only for histories whose events are all `Ev.benign`, about six real restart
histories in seven; sentinel states only, not output values; `SameChoices` assumed):
take two runs of the same acyclic graph from its initial state, both fair, both without
failure events, both with finitely many interruptions and fork-structure events, with mrp up
and every dead job reset after the last one — say, one in which mrp is killed after arbitrary
prefixes and an uninterrupted one.  Both finish, and from then on, whenever the two agree on
what the ENVIRONMENT chose (fork sets, chunk counts, which forks were disabled), the DIRECTORY
STATE (which sentinels: complete / nothing) of every object of every stage fork is the same
in both: the interrupted run ends with the same set of completed job directories.
What this does NOT say: the model has no output values, `_outs` or files; that equal choices
and equal completion sets give equal output VALUES is C01's schedule-freedom (`den_schedule_free`:
the value of every call is a function of the resolved arguments) together with the harness's
comparison of the real top-level outputs, not a consequence of this theorem; and the premise
`SameChoices` is assumed, not derived (the data determines the choices).  (`Ev.benign`: no
failure event, and chunk counts are not redefined while re-attaching.)
The proof is `runs_complete_same` (Proofs/SchedRestart.lean), i.e.
`interrupted_run_finishes` for each run followed by `finished_fork_outcome` applied to both finished states — every finished state reached by benign events
has the directory state `expectedOutcome`, a function of the graph and of the choices; nothing
relates the two runs beyond that.  The premise `Ev.benign` is evaluated by the driver on every
replayed history (reply field `benign=`); about one real restart history in seven (chunks
redefined at re-attach, or a fault) does not satisfy it and is outside this theorem. -/
theorem restart_completes_same_completion_set_partial {g : List NodeInfo} (hac : Acyclic g)
    {σ : Nat → State} {es : Nat → Ev} (hrun : Run (init g) σ es)
    (hb : ∀ i, (es i).benign (σ i) = true) {K : Nat}
    (hK : ∀ i, K ≤ i → (es i).structural (σ i) = false) (hup : (σ K).phase ≠ .crashed)
    (halive : AliveInv (σ K)) (hfair : Fair σ)
    {σ' : Nat → State} {es' : Nat → Ev} (hrun' : Run (init g) σ' es')
    (hb' : ∀ i, (es' i).benign (σ' i) = true) {K' : Nat}
    (hK' : ∀ i, K' ≤ i → (es' i).structural (σ' i) = false) (hup' : (σ' K').phase ≠ .crashed)
    (halive' : AliveInv (σ' K')) (hfair' : Fair σ') :
    ∃ M, ∀ j, M ≤ j → Finished (σ j) ∧ Finished (σ' j) ∧
      (SameChoices (σ j) (σ' j) →
        ∀ n f r, n < g.length → f ∈ (σ j).forksOf n → (σ j).kind n ≠ .pipeline →
          (σ j).dst ⟨n, f, r⟩ = (σ' j).dst ⟨n, f, r⟩) :=
  runs_complete_same hac hrun (fun i => benign_nf (hb i)) hK hup halive hfair
    hrun' (fun i => benign_nf (hb' i)) hK' hup' halive' hfair'

/-- what that common outcome is: in a finished state reached without failure events, every
stage fork that ran has split, each defined chunk and join complete on disk and nothing
beyond; a disabled fork has empty job directories (`expectedOutcome`) -/
theorem finished_outcome {g : List NodeInfo} {σ : Nat → State} {es : Nat → Ev}
    (hrun : Run (init g) σ es) (hb : ∀ i, (es i).benign (σ i) = true) (j : Nat)
    (hfin : Finished (σ j)) (n f : Nat) (r : Role) (hn : n < g.length)
    (hf : f ∈ (σ j).forksOf n) (hk : (σ j).kind n ≠ .pipeline) (hr : r ≠ .fork) :
    (σ j).dst ⟨n, f, r⟩ =
      expectedOutcome (((σ j).m ⟨n, f, .fork⟩).disk.has .complete) ((σ j).nch n f) r := by
  have hd := nodeDone_iff.mp (hfin.2 n (by rw [run_nodes hrun j]; exact hn)).1 f hf
  exact finished_fork_outcome (run_cleanReach hrun (fun i => benign_nf (hb i)) j) hk hd r hr

/-! ### non-vacuity -/

def g1 : List NodeInfo := [{ kind := .splitstage, pre := [] }]

/-- the split finished but mrp was killed before it read the journal; one chunk is
queued.  After the restart the split is seen complete, reset is refused for it and
accepted for nothing else; the split cannot be submitted again. -/
def h1 : List Ev :=
  [.fork 0 0, .nodestate 0 .running, .refresh, .launch ⟨0, 0, .split⟩,
   .joblog ⟨0, 0, .split⟩, .jobend ⟨0, 0, .split⟩ .complete, .crash, .restart]

example : (match replay (init g1) h1 with
    | .ok s => s.st ⟨0, 0, .split⟩ == some .complete && !enabled s (.reset ⟨0, 0, .split⟩) &&
               !enabled (apply s .refresh) (.launch ⟨0, 0, .split⟩) &&
               jobObj (s.kind 0) .split
    | .error _ => false) = true := by decide +kernel

/-- a complete job whose `_queued_locally` is still there is reachable: the split job records its
completion while its `_queued_locally` file is still there (the job manager has not removed it
yet), mrp dies and re-attaches.  The guard without the `dst ≠ complete` conjunct
(`restartQueuedLocal` = "`_queued_locally` exists") is true of this job — it would be reset and
run again — the guard of `resetOk` refuses. -/
def hQ : List Ev :=
  [.fork 0 0, .nodestate 0 .running, .refresh, .launch ⟨0, 0, .split⟩,
   .joblog ⟨0, 0, .split⟩, .jobend ⟨0, 0, .split⟩ .complete, .crash, .restart]

example : (match replay (init g1) hQ with
    | .ok s => (s.m ⟨0, 0, .split⟩).disk.queued && s.dst ⟨0, 0, .split⟩ == some .complete &&
               !enabled s (.reset ⟨0, 0, .split⟩)
    | .error _ => false) = true := by decide +kernel

/-- a queued job IS reset at restart (the reset event is not vacuously disabled) -/
example : (match replay (init g1)
      [.fork 0 0, .nodestate 0 .running, .refresh, .launch ⟨0, 0, .split⟩, .crash, .restart] with
    | .ok s => enabled s (.reset ⟨0, 0, .split⟩)
    | .error _ => false) = true := by decide +kernel

/-! ### non-vacuity of the completion theorems -/

/-- the split is submitted, mrp is killed while it is queued, the restart resets it, the new
incarnation submits it again and the stage runs to completion (no chunks) … -/
def hI : List Ev :=
  [.fork 0 0, .nodestate 0 .running, .refresh, .launch ⟨0, 0, .split⟩,
   .crash, .restart, .reset ⟨0, 0, .split⟩, .refresh, .launch ⟨0, 0, .split⟩,
   .joblog ⟨0, 0, .split⟩, .jobend ⟨0, 0, .split⟩ .complete, .R ⟨0, 0, .split⟩ .complete,
   .launch ⟨0, 0, .join⟩, .joblog ⟨0, 0, .join⟩, .jobend ⟨0, 0, .join⟩ .complete,
   .R ⟨0, 0, .join⟩ .complete, .W ⟨0, 0, .fork⟩ .complete, .nodestate 0 .complete]

/-- … and the uninterrupted reference run -/
def hU : List Ev :=
  [.fork 0 0, .nodestate 0 .running, .refresh, .launch ⟨0, 0, .split⟩,
   .joblog ⟨0, 0, .split⟩, .jobend ⟨0, 0, .split⟩ .complete, .R ⟨0, 0, .split⟩ .complete,
   .launch ⟨0, 0, .join⟩, .joblog ⟨0, 0, .join⟩, .jobend ⟨0, 0, .join⟩ .complete,
   .R ⟨0, 0, .join⟩ .complete, .W ⟨0, 0, .fork⟩ .complete, .nodestate 0 .complete]

def σI : Nat → State := prefixState (init g1) hI
def esI : Nat → Ev := fun i => hI.getD i .stepend
def σU : Nat → State := prefixState (init g1) hU
def esU : Nat → Ev := fun i => hU.getD i .stepend

example : Acyclic g1 := topoSorted_acyclic (by decide +kernel)
example : Run (init g1) σI esI := run_of_list _ _ (by decide +kernel)
example : Run (init g1) σU esU := run_of_list _ _ (by decide +kernel)

example : ∀ i, (esI i).benign (σI i) = true := fun i =>
  listRun_all (p := fun s e => e.benign s = true) _ hI 0 (by decide +kernel) rfl i (Nat.zero_le i)

example : ∀ i, (esI i).failing = false :=
  getD_all (p := (·.failing = false)) hI (by decide +kernel) rfl

/-- the last interruption (`reset`) is event 6; from 7 on no structural event; mrp is up -/
example : ∀ i, 7 ≤ i → (esI i).structural (σI i) = false :=
  listRun_all (p := fun s e => e.structural s = false) _ hI 7 (by decide +kernel) rfl

example : (σI 7).phase ≠ .crashed := by decide +kernel

/-- every job that died was reset: the split was only queued when mrp died, and the restart reset it -/
example : AliveInv (σI 7) := aliveInv_of_check (by decide +kernel)

theorem σI_finished (i : Nat) (h : hI.length ≤ i) : Finished (σI i) := by
  rw [σI, prefixState_ge _ _ h]
  refine ⟨by decide +kernel, fun n hn => ?_⟩
  have hn' : n < 1 := hn
  have : n = 0 := by omega
  subst this
  decide +kernel

example : Fair σI :=
  listRun_fair _ hI 17 rfl (σI_finished _ (Nat.le_refl _)) (by decide +kernel)

/-- the interrupted run is a run from a reachable clean state after `crash; restart`
(hypotheses of `restart_completes` at `s0 = σI 6`) -/
example : CleanInv (σI 6) :=
  (run_liveInv (run_of_list _ hI (by decide +kernel)) (liveInv_init g1)
    (getD_all (p := (·.failing = false)) hI (by decide +kernel) rfl) 6).clean

/-- both end finished, agree on the environment's choices, and indeed on every directory -/
example : SameChoices (σI 18) (σU 13) := by decide +kernel
example : (σI 18).dst ⟨0, 0, .split⟩ = (σU 13).dst ⟨0, 0, .split⟩ ∧
    (σI 18).dst ⟨0, 0, .join⟩ = some .complete ∧ (σI 18).dst ⟨0, 0, .chunk 0⟩ = none ∧
    launchCount (σI 18) ⟨0, 0, .split⟩ = 2 ∧ launchCount (σU 13) ⟨0, 0, .split⟩ = 1 := by decide +kernel

/-! A larger pair: a stage, then a splitting stage with two forks (one disabled at run time) and two
chunks; mrp is killed while chunk 1 is running and chunk 0 has finished unnoticed; chunk 1 dies
with mrp, the restart resets it (and only it), the new incarnation reads chunk 0's `_complete`
from the directory and re-runs chunk 1. -/
def g2c : List NodeInfo := [{ kind := .stage, pre := [] }, { kind := .splitstage, pre := [0] }]

def hPre : List Ev :=
  [.fork 0 0, .fork 1 0, .fork 1 1, .nodestate 0 .running, .refresh,
   .W ⟨0, 0, .split⟩ .complete, .mkchunks 0 0 1, .launch ⟨0, 0, .chunk 0⟩,
   .joblog ⟨0, 0, .chunk 0⟩, .jobend ⟨0, 0, .chunk 0⟩ .complete, .R ⟨0, 0, .chunk 0⟩ .complete,
   .W ⟨0, 0, .join⟩ .complete, .W ⟨0, 0, .fork⟩ .complete, .nodestate 0 .complete,
   .nodestate 1 .running, .W ⟨1, 1, .fork⟩ .disabled,
   .launch ⟨1, 0, .split⟩, .joblog ⟨1, 0, .split⟩, .jobend ⟨1, 0, .split⟩ .complete,
   .R ⟨1, 0, .split⟩ .complete, .mkchunks 1 0 2, .launch ⟨1, 0, .chunk 0⟩, .launch ⟨1, 0, .chunk 1⟩,
   .joblog ⟨1, 0, .chunk 0⟩, .joblog ⟨1, 0, .chunk 1⟩, .jobend ⟨1, 0, .chunk 0⟩ .complete]

def hTail : List Ev :=
  [.launch ⟨1, 0, .join⟩, .joblog ⟨1, 0, .join⟩, .jobend ⟨1, 0, .join⟩ .complete,
   .R ⟨1, 0, .join⟩ .complete, .W ⟨1, 0, .fork⟩ .complete, .nodestate 1 .complete]

def hI2 : List Ev :=
  hPre ++ [.crash, .killed ⟨1, 0, .chunk 1⟩, .restart, .reset ⟨1, 0, .chunk 1⟩, .refresh,
    .launch ⟨1, 0, .chunk 1⟩, .joblog ⟨1, 0, .chunk 1⟩, .jobend ⟨1, 0, .chunk 1⟩ .complete,
    .R ⟨1, 0, .chunk 1⟩ .complete] ++ hTail

def hU2 : List Ev :=
  hPre ++ [.R ⟨1, 0, .chunk 0⟩ .complete, .jobend ⟨1, 0, .chunk 1⟩ .complete,
    .R ⟨1, 0, .chunk 1⟩ .complete] ++ hTail

def σI2 : Nat → State := prefixState (init g2c) hI2
def esI2 : Nat → Ev := fun i => hI2.getD i .stepend
def σU2 : Nat → State := prefixState (init g2c) hU2

example : hI2.length = 41 ∧ hU2.length = 35 := by decide +kernel
example : Acyclic g2c := topoSorted_acyclic (by decide +kernel)
example : Run (init g2c) σI2 esI2 := run_of_list _ _ (by decide +kernel)
example : Run (init g2c) σU2 (fun i => hU2.getD i .stepend) := run_of_list _ _ (by decide +kernel)
example : ∀ i, (esI2 i).benign (σI2 i) = true := fun i =>
  listRun_all (p := fun s e => e.benign s = true) _ hI2 0 (by decide +kernel) rfl i (Nat.zero_le i)
/-- the last interruption is the reset (index 29) -/
example : ∀ i, 30 ≤ i → (esI2 i).structural (σI2 i) = false :=
  listRun_all (p := fun s e => e.structural s = false) _ hI2 30 (by decide +kernel) rfl
example : (σI2 30).phase ≠ .crashed ∧ AliveInv (σI2 30) := ⟨by decide +kernel, aliveInv_of_check (by decide +kernel)⟩
/-- without the reset the dead chunk would be left behind: `AliveInv` fails right after the restart -/
example : ¬ AliveInv (σI2 29) := fun h =>
  absurd (h 1 0 (.chunk 1) (by simp) (by decide +kernel) (by decide +kernel)) (by decide +kernel)
/-- both end finished with the same choices and the same directory states; the interrupted run
submitted chunk 1 twice and everything else once -/
example : SameChoices (σI2 41) (σU2 35) := by decide +kernel
example : (σI2 41).dst ⟨1, 0, .chunk 1⟩ = (σU2 35).dst ⟨1, 0, .chunk 1⟩ ∧
    (σI2 41).dst ⟨1, 0, .join⟩ = some .complete ∧ (σI2 41).dst ⟨1, 1, .split⟩ = none ∧
    launchCount (σI2 41) ⟨1, 0, .chunk 1⟩ = 2 ∧ launchCount (σI2 41) ⟨1, 0, .chunk 0⟩ = 1 ∧
    (σI2 41).resets = [(⟨1, 0, .chunk 1⟩, 1)] := by decide +kernel

/-! `FullStageReset` mode: the same stage graph; mrp is killed while node 1 is Running; every object
of node 1 may be wiped (here: the finished chunk 0, the dead chunk 1 and the split), node 0's
finished work may not. -/
def hF2 : List Ev :=
  hPre ++ [.crash, .killed ⟨1, 0, .chunk 1⟩, .restart, .reset ⟨1, 0, .chunk 0⟩, .reset ⟨1, 0, .chunk 1⟩,
    .reset ⟨1, 0, .split⟩, .mkchunks 1 0 0]
def sF2 : State := prefixState (initFull g2c) hF2 hF2.length

example : (match replay (initFull g2c) hF2 with | .ok _ => true | .error _ => false) = true := by decide +kernel
/-- hypotheses and conclusions of `fullreset_only_wiped_nodes` / `fullreset_restart_completes` at
this reachable `ReachFull` state: node 1 is to be wiped, node 0 is not; no failure marker; no
dead job left; mrp is up; and the wiped fork is `ready` again -/
example : sF2.wipedAtLoad = [1] ∧ enabled sF2 (.reset ⟨0, 0, .chunk 0⟩) = false ∧
    enabled sF2 (.reset ⟨1, 0, .join⟩) = true ∧ sF2.phase ≠ .crashed ∧
    forkState sF2 1 0 = .ready := by decide +kernel
example : AliveInv sF2 := aliveInv_of_check (by decide +kernel)

end Props.C05
