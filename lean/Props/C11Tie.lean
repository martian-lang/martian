/-
C11 tie: `util.WidthForInt` TRANSLATED from martian/util/util.go on every run
(`Gen.tr_WidthForInt`).  The function is recursive (`1 + WidthForInt(-max)` for
a negative argument): the translated term takes explicit fuel.  Its float tail
`1 + int(math.Log10(float64(max)))` (arguments ≥ 100000) is a parameter `log10`
of the term – floating point is outside the translated subset.  Below 100000
the translated function is the model's `widthForInt` (= number of digits
`strconv.Itoa` writes), which is what pads `fork%0*d` / `chnk%0*d`.
-/
import Martian.ForkName
import Gen.Facts
import Proofs.TieDefs

namespace Props.C11
open Martian.ForkName Proofs.Tie

theorem tr_WidthForInt_unfold (log10 : Int → Int) (fuel : Nat) (m : Int) :
    Gen.tr_WidthForInt log10 (fuel + 1) m =
      if m < 0 then 1 + Gen.tr_WidthForInt log10 fuel (-m)
      else if m < 10 then 1 else if m < 100 then 2 else if m < 1000 then 3
      else if m < 10000 then 4 else if m < 100000 then 5 else 1 + log10 m := by
  simp only [Gen.tr_WidthForInt, decide_eq_true_eq]

/-- for every argument `0 ≤ n < 100000` (any fuel ≥ 1, any `log10`): the
translated Go function returns the number of decimal digits of `n` -/
theorem tr_WidthForInt_eq_model (log10 : Int → Int) (fuel n : Nat) (h : n < 100000) :
    Gen.tr_WidthForInt log10 (fuel + 1) (n : Int) = (widthForInt n : Int) := by
  rw [tr_WidthForInt_unfold, widthForInt]
  -- every branch of the chain is a decade `10^k ≤ n < 10^(k+1)`, where `itoa n` has `k + 1` digits
  have len : ∀ k, (k = 0 ∨ 10 ^ k ≤ n) → n < 10 ^ (k + 1) → ((itoa n).length : Int) = (k + 1 : Nat) :=
    fun k hl hu => congrArg _ (itoa_len k n hu hl)
  split
  · omega
  split
  · exact (len 0 (Or.inl rfl) (by omega)).symm
  split
  · exact (len 1 (Or.inr (by omega)) (by omega)).symm
  split
  · exact (len 2 (Or.inr (by omega)) (by omega)).symm
  split
  · exact (len 3 (Or.inr (by omega)) (by omega)).symm
  split
  · exact (len 4 (Or.inr (by omega)) (by omega)).symm
  · omega

/-- from 100000 on the result is `1 + log10 n`, whatever `log10` is (the model
`widthForInt` then demands `log10 n = ⌊log₁₀ n⌋`, which Go computes in float64) -/
theorem tr_WidthForInt_large (log10 : Int → Int) (fuel : Nat) (m : Int) (h : 100000 ≤ m) :
    Gen.tr_WidthForInt log10 (fuel + 1) m = 1 + log10 m := by
  rw [tr_WidthForInt_unfold, if_neg (by omega), if_neg (by omega), if_neg (by omega), if_neg (by omega),
    if_neg (by omega), if_neg (by omega)]

/-- a negative argument costs one more column (the sign) -/
theorem tr_WidthForInt_neg (log10 : Int → Int) (fuel : Nat) (m : Int) (h : m < 0) :
    Gen.tr_WidthForInt log10 (fuel + 2) m = 1 + Gen.tr_WidthForInt log10 (fuel + 1) (-m) := by
  rw [tr_WidthForInt_unfold, if_pos h]

example : Gen.tr_WidthForInt (fun _ => 0) 2 9 = 1 ∧ Gen.tr_WidthForInt (fun _ => 0) 2 10 = 2 ∧
    Gen.tr_WidthForInt (fun _ => 0) 2 99999 = 5 ∧ Gen.tr_WidthForInt (fun _ => 0) 2 (-42) = 3 ∧
    widthForInt 99999 = 5 := by decide

/-- FAIL CLOSED: the tie theorems of this file are about the
definition(s) TRANSLATED FROM THE TREE UNDER TEST, not about the committed default the
extractor falls back to when the source leaves the translated subset – in that
case this obligation breaks and `./check` reports it (besides the note). -/
theorem translated_from_tree_under_test : Gen.tr_WidthForInt_extracted = true := by decide

end Props.C11
