/-
C19 — semantic edits (mro edit) preserve behaviour.  PROPERTY THEOREMS ONLY
(helper lemmas live in Proofs/Refactor*.lean).  The model is
Martian/Refactor.lean (the edits), Martian/RefactorGraph.lean (the resolved call
graph and the decidable side conditions) and Martian/RefactorGraphD.lean (the graph
with `disabled` modifiers); the edits are tied to martian/syntax/refactoring by the
correspondence run of harness/c19*.go (every edit on every callable/parameter
of generated programs and of the repository's testdata, model result = real
result).
-/
import Martian.Refactor
import Proofs.RefactorRename
import Proofs.RefactorRemove
import Proofs.RefactorRemoveOutput
import Proofs.RefactorGraphIn
import Proofs.RefactorGraphCall
import Proofs.RefactorGraphOut
import Proofs.RefactorGraphRem
import Proofs.RefactorGraphDel
import Proofs.RefactorGraphRo
import Proofs.RefactorClosure
import Proofs.RefactorLoop
import Proofs.RefactorGraphEmbed
import Proofs.RefactorGraphFuel
import Proofs.RefactorUnusedOuts

namespace Props.C19
open Martian.Refactor

/-! ### example program used for non-vacuity

    stage S(in a, out o)   stage T(in a, out o)
    pipeline P(in a, out r) { call S(a = self.a)  call T as U(a = S.o)  call S as V(a = U.o)
                              return (r = V.o)  retain (S.o) }
    call P(a = 1)

A literal is `.lit` of the hex of its source bytes: `.lit "31"` is the literal `1`. -/
def exS : Callable := ⟨false, "S", false, ["a"], [("o", false)], [], [], [], []⟩
def exT : Callable := ⟨false, "T", false, ["a"], [("o", false)], [], [], [], []⟩
def exP : Callable :=
  ⟨true, "P", false, ["a"], [("r", false)], [],
   [⟨"S", "S", "", [⟨"a", .ref ⟨.self, "a", []⟩⟩], []⟩,
    ⟨"U", "T", "", [⟨"a", .ref ⟨.call, "S", ["o"]⟩⟩], []⟩,
    ⟨"V", "S", "", [⟨"a", .ref ⟨.call, "U", ["o"]⟩⟩], []⟩],
   [⟨"r", .ref ⟨.call, "V", ["o"]⟩⟩], [⟨.call, "S", ["o"]⟩]⟩
def exProg : Program := ⟨[exS, exT, exP], some ⟨"P", "P", "", [⟨"a", .lit "31"⟩], []⟩⟩

/-- **rename_rename_id (partial).**  On a well-formed program, renaming callable `x` to a
name `y` that is fresh for it and then `y` back to `x` gives back the original
program *syntactically* — including the case where `y` collides with an
existing call id of another callable (the call of `x` gets an explicit alias)
and including references, retains, modifiers and the top-level call. -/
theorem rename_rename_id_partial (p : Program) (x y : String)
    (hwf : WF p = true) (hfresh : FreshFor x y p = true) :
    renameCallable y x (renameCallable x y p) = p := by
  exact Proofs.Refactor.rename_rename_id p x y hwf hfresh

/-- non-vacuity: the hypotheses hold for the example, for a plain fresh name
and for a name that collides with the existing call id `U` (forced alias);
the edit really changes the program. -/
example : WF exProg = true ∧ FreshFor "S" "Z" exProg = true ∧ FreshFor "S" "U" exProg = true
    ∧ renameCallable "S" "Z" exProg ≠ exProg ∧ renameCallable "S" "U" exProg ≠ exProg := by decide +kernel

/-- `pipeline Q(in a, out r) { call S as V(a = self.a)  return (r = V.o) }` -/
def exQ : Callable :=
  ⟨true, "Q", false, ["a"], [("r", false)], [],
   [⟨"V", "S", "", [⟨"a", .ref ⟨.self, "a", []⟩⟩], []⟩], [⟨"r", .ref ⟨.call, "V", ["o"]⟩⟩], []⟩
def exProg2 : Program := ⟨[exS, exQ], some ⟨"Q", "Q", "", [⟨"a", .lit "31"⟩], []⟩⟩

/-- Negative witness: without the freshness condition the round trip fails —
`V` is already the alias of a call of `S`; `S → V` makes it `call V as V`,
which is an unaliased `call V`, and `V → S` then renames the call id too:
`call S as V` has become `call S` (the harness replays this on the real code:
known finding C19-KF3). -/
theorem rename_to_own_alias_not_reversible :
    WF exProg2 = true ∧ FreshFor "S" "V" exProg2 = false ∧
    renameCallable "V" "S" (renameCallable "S" "V" exProg2) ≠ exProg2 := by decide +kernel

/-- **rename_callgraph (partial).**  Modulo the choice of call ids — i.e. after
replacing every call id by the position of the call and every call reference
by the position it resolves to — renaming a callable changes nothing but the
callable's name: every call invokes the same callable with the same bindings,
every reference (bindings, modifiers, returns, retains; with its projection
path) resolves to the same call.  Hence every function of the id-erased
program, in particular the resolved call graph, is unchanged up to the renamed
identifier.
PARTIAL: the statement is an equation of programs whose call ids are replaced by
positions; nothing is resolved.  The form on
the graph with deep inlining (`deepGraph`, the model of `Ast.MakeCallGraph`) is
`rename_callable_graph_partial`; renameInput and renameOutput are
`rename_input_graph_partial` and `rename_output_graph_partial`. -/
theorem rename_callgraph_partial (p : Program) (x y : String)
    (hwf : WF p = true) (hfresh : FreshFor x y p = true) (hx : (p.find? x).isSome = true) :
    eraseIds (renameCallable x y p) = renameDec x y (eraseIds p) := by
  exact Proofs.Refactor.rename_callgraph p x y hwf hfresh hx

example : (exProg.find? "S").isSome = true
    ∧ eraseIds (renameCallable "S" "U" exProg) = renameDec "S" "U" (eraseIds exProg)
    ∧ eraseIds exProg ≠ exProg := by decide +kernel

/-- **remove_unused_preserves (partial).**  A call that `removeUnusedCalls`
selects is referenced by nothing in its pipeline (no binding, modifier, return
or retain), so deleting it leaves no dangling reference; the deletion keeps
every other call of every pipeline unchanged and in order, and does not touch
returns, retains, outputs or names.
PARTIAL: the cascade that afterwards drops pipeline inputs which became
unbound (and their bindings in callers) is covered by `remove_input_only`
below; deletion and cascade are one statement about the deep call graph in
`remove_unused_calls_pass_graph_partial`.
NOTE: conjunct 2 is a structural fact about `applyCallRemovals` for ANY
removal list and does not use the hypothesis; conjunct 1 restates the filter of
`unusedCalls`.  The statement that connects "what is removed" with "what was
unused" and says that the graph of the remaining calls is unchanged is
`remove_unused_calls_pass_graph_partial` / `remove_unused_calls_loop_graph_exact_partial`
below (side conditions derived from the analyses). -/
theorem remove_unused_preserves_partial (p : Program) (pipe : Callable) (id : String)
    (hid : id ∈ unusedCalls p pipe) :
    id ∉ callRefIdsOf pipe
    ∧ ∀ rem c, c ∈ (applyCallRemovals rem p).callables →
        ∃ c0 ∈ p.callables, c.name = c0.name ∧ c.ret = c0.ret ∧ c.retain = c0.retain ∧
          c.outs = c0.outs ∧ c.ins = c0.ins ∧ List.Sublist c.calls c0.calls := by
  exact Proofs.Refactor.remove_unused_preserves p pipe id hid

/-- removing an input parameter `q` of `x` touches nothing but: the parameter
itself, and the bindings named `q` of calls of `x` (all other bindings, all
modifiers, returns, retains, outputs are unchanged). -/
theorem remove_input_only (x q : String) (p : Program) (c : Callable)
    (hc : c ∈ (removeInputOne x q p).callables) :
    ∃ c0 ∈ p.callables, c.name = c0.name ∧ c.ret = c0.ret ∧ c.retain = c0.retain ∧ c.outs = c0.outs
      ∧ c.calls.map (fun k => (k.id, k.decId, k.mods, k.binds.filter (·.name != q)))
        = c0.calls.map (fun k => (k.id, k.decId, k.mods, k.binds.filter (·.name != q))) := by
  exact Proofs.Refactor.remove_input_only x q p c hc

example : "U" ∉ unusedCalls exProg exP ∧
    unusedCalls { exProg with callables := [exS, exT, { exP with ret := [], retain := [] }] }
      { exP with ret := [], retain := [] } = ["V"] := by decide +kernel

/-- **remove_output_unused.**  Removing an output parameter that no binding,
modifier, return or retain refers to changes nothing but the parameter itself
(for a stage also its retain entry; for a pipeline also its return binding and
the inputs this leaves unbound, with their bindings in callers): no expression
anywhere is rewritten, no call modifier or retain is dropped, no other
pipeline loses an output. -/
theorem remove_output_unused (p : Program) (x o : String)
    (h : outputUnreferenced x o p = true) :
    removeOutput x o p = removeOutputPlain x o p := by
  exact Proofs.Refactor.remove_output_unused p x o h

/-- non-vacuity: output `o` of `T` is unreferenced once `V` no longer reads `U.o`;
and the referenced case really is different (the reference becomes `null`). -/
example :
    let P' : Callable := { exP with calls := [⟨"S", "S", "", [⟨"a", .ref ⟨.self, "a", []⟩⟩], []⟩,
                                              ⟨"U", "T", "", [⟨"a", .ref ⟨.call, "S", ["o"]⟩⟩], []⟩] ,
                                    ret := [⟨"r", .ref ⟨.call, "S", ["o"]⟩⟩] }
    outputUnreferenced "T" "o" ⟨[exS, exT, P'], none⟩ = true
    ∧ removeOutput "T" "o" ⟨[exS, exT, P'], none⟩ ≠ ⟨[exS, exT, P'], none⟩
    ∧ outputUnreferenced "T" "o" exProg = false
    ∧ removeOutput "T" "o" exProg ≠ removeOutputPlain "T" "o" exProg := by decide +kernel

/-- **fixpoint_terminates.**  The removal loop of `Refactor` (`removeUnusedCalls`
/ `removeUnusedOutputs` alternated until nothing changes), as run by
`removeUnused` with `measure p + 1` iterations of fuel, stops at a program on
which a further iteration changes nothing; and an iteration that reports a
change strictly decreases the number of calls + outputs + inputs. -/
theorem fixpoint_terminates (p : Program) (calls : Bool) (tops : List String) :
    ((removeStep p calls tops p).2 = true → measure (removeStep p calls tops p).1 < measure p)
    ∧ (removeStep p calls tops (removeUnused calls tops p)).2 = false :=
  Proofs.Refactor.fixpoint_terminates p p calls tops (Or.inr (Proofs.Refactor.Agree_refl p))

/-- The same for *every* iteration of the loop, relative to the loop invariant
`Agree p0 p` (every name that was a pipeline when the program was compiled,
`p0`, is still a pipeline in the current program `p`; it holds initially and
every pass preserves names and kinds). -/
theorem fixpoint_step_decreases (p0 p : Program) (calls : Bool) (tops : List String)
    (hag : tops.isEmpty = true ∨ Proofs.Refactor.Agree p0 p) :
    ((removeStep p0 calls tops p).2 = true → measure (removeStep p0 calls tops p).1 < measure p)
    ∧ (removeStep p0 calls tops (removeLoop p0 calls tops (measure p + 1) p)).2 = false := by
  exact Proofs.Refactor.fixpoint_terminates p0 p calls tops hag

/-- Negative witness for dropping the invariant: if the compile-time tables
(`p0`) say `C` is a pipeline but the current program has a *stage* `C`, an
iteration reports a change without changing anything. -/
theorem fixpoint_needs_invariant :
    let callC : Call := ⟨"C", "C", "", [], []⟩
    let callD : Call := ⟨"D", "D", "", [], []⟩
    let T : Callable := ⟨true, "T", false, [], [], [], [callC], [], []⟩
    let C0 : Callable := ⟨true, "C", false, [], [("o", false)], [], [callD], [⟨"o", .lit "1"⟩], []⟩
    let D : Callable := ⟨true, "D", false, [], [], [], [], [], []⟩
    let Cs : Callable := ⟨false, "C", false, [], [("o", false)], [], [], [], []⟩
    let P0 : Program := ⟨[T, C0, D], none⟩
    let P : Program := ⟨[T, Cs, D], none⟩
    (removeStep P0 false ["T"] P).2 = true ∧ (removeStep P0 false ["T"] P).1 = P := by decide +kernel

example : (removeStep exProg true ["P"] exProg).2 = false := by decide +kernel


/-! ### naming: why the call-graph theorems below are `_partial`

The property quantifies over ALL compiling programs, "including references through
wildcards, struct projections and disabled modifiers".  Every theorem about the
resolved call graph (`deepGraph`) is proved on a sub-domain, and is therefore named
`…_partial`:
* the model fragment: no map calls / `split`; `disabled` modifiers only in the
  extended model `deepGraphD`, which is tied to the code but has no edit theorems;
* the decidable side condition of each theorem (`RenInOK`, `RenOutOK`, `RenCallOK`,
  `RemInOK`/`RemInsOK`, `RemOutOK`, `CallRemOK`, `StructOK`, `seedOK`) excludes
  wildcard bindings (known finding KF1: the FULL statement is false there, witness on
  the real code), whole-call bindings / callable-as-type (KF2: false, witness
  `rename_output_whole_call_breaks`), non-fresh target names (KF3: false, witness
  `rename_to_own_alias_not_reversible`) and requires distinct call ids / binding names
  and references that name existing calls (what the compiler guarantees).
FULL statement of each: the same equation for every compiling program and every
applicable edit.  Struct PROJECTIONS are inside the proved domain (see `exDeep`).
The driver evaluates every side condition on every real instance and the harness
reports how often it holds. -/

/-! ### the resolved call graph with deep inlining

`deepGraph ti p` (Martian/RefactorGraph.lean) is the model of `Ast.MakeCallGraph`, tied to it on
every run by the `C19.graph` correspondence. -/

/-- the types of the example program: `S(in int a, out int o)`, `T` alike, `P(in int a, out int r)` -/
def exTi : TypeInfo :=
  ⟨[], [("S", [("a", ⟨"int", 0, 0⟩)]), ("T", [("a", ⟨"int", 0, 0⟩)]), ("P", [("a", ⟨"int", 0, 0⟩)])],
       [("S", [("o", ⟨"int", 0, 0⟩)]), ("T", [("o", ⟨"int", 0, 0⟩)]), ("P", [("r", ⟨"int", 0, 0⟩)])]⟩

/-- **rename_rename_id_typed_partial.**  The round trip `x → y → x` on the program
together with its type table (struct definitions and the typed signatures of all
callables): both come back syntactically, for every `y` that is fresh for `x`
and names no signature.  (Uses of a callable's name as a parameter TYPE are not
rewritten by the edit — known finding KF2 — and are therefore untouched in both
directions.) -/
theorem rename_rename_id_typed_partial (p : Program) (ti : TypeInfo) (x y : String)
    (hwf : WF p = true) (hfresh : FreshFor x y p = true)
    (hi : y ∉ ti.ins.map (·.1)) (ho : y ∉ ti.outs.map (·.1)) :
    renameCallable y x (renameCallable x y p) = p
    ∧ (ti.renameCallable x y).renameCallable y x = ti :=
  ⟨Proofs.Refactor.rename_rename_id p x y hwf hfresh,
   Proofs.RefactorGraph.typeInfo_rename_roundtrip x y ti hi ho⟩

example : "Z" ∉ exTi.ins.map (·.1) ∧ "Z" ∉ exTi.outs.map (·.1)
    ∧ exTi.renameCallable "S" "Z" ≠ exTi := by decide +kernel

/-- **rename_input_graph_partial.**  Renaming input `a` of callable `x` to a fresh name
`b` leaves the resolved call graph unchanged except that every node of a call
of `x` carries its resolved input under the key `b` instead of `a`: the same
nodes (fqids, callables), the same resolved expressions for every input of
every call at every depth, the same resolved outputs and retained references.
`RenInOK` (decidable) is the freshness / well-formedness hypothesis: `b` is not
an input of `x`, is not referred to as `self.b` inside `x` and is bound by no
call of `x`; no wildcard bindings (known finding KF1); call ids are distinct. -/
theorem rename_input_graph_partial (x a b : String) (ti : TypeInfo) (p : Program)
    (hok : RenInOK x a b ti p = true) :
    deepGraph (ti.renameInput x a b) (renameInput x a b p)
      = (deepGraph ti p).map (renNodeIn x a b) := by
  exact Proofs.RefactorGraph.rename_input_graph x a b ti p hok

/-- non-vacuity: the hypothesis holds for the example (stage input, and the
pipeline input `P.a`, whose renaming rewrites `self.a` inside `P` and the
top-level call), the graph has 4 nodes and the renaming changes it. -/
example : RenInOK "S" "a" "z" exTi exProg = true ∧ RenInOK "P" "a" "z" exTi exProg = true
    ∧ (deepGraph exTi exProg).length = 4
    ∧ (deepGraph exTi exProg).map (renNodeIn "S" "a" "z") ≠ deepGraph exTi exProg := by decide +kernel

/-- **rename_callable_graph_partial** (the full form of `rename_callgraph_partial`: deep
inlining included).  Modulo the choice of call ids (`eraseIds`: the k-th call of
a pipeline is called `#k`, references point to positions — renaming a callable
may turn `call X` into `call Y` or into `call Y as X`), renaming callable `x` to
a fresh name `y` leaves the resolved call graph unchanged except for the
callable's name: the same nodes with the same fqids, every resolved input,
output and retained reference identical up to `x ↦ y` in the callable named by
a stage-output reference.  `RenCallOK` (decidable): `y` names no callable, no
call, no signature and no type; `x` is not used as a parameter type (known
finding KF2); no wildcard bindings (KF1); distinct call ids. -/
theorem rename_callable_graph_partial (p : Program) (x y : String) (ti : TypeInfo)
    (hwf : WF p = true) (hfresh : FreshFor x y p = true) (hx : (p.find? x).isSome = true)
    (hok : RenCallOK x y ti (eraseIds p) = true) :
    deepGraph (ti.renameCallable x y) (eraseIds (renameCallable x y p))
      = (deepGraph ti (eraseIds p)).map (renNodeCallable x y) := by
  rw [Proofs.Refactor.rename_callgraph p x y hwf hfresh hx]
  exact Proofs.RefactorGraph.renameDec_graph x y ti (eraseIds p) hok

/-- non-vacuity: a plain fresh name and the name `U` that collides with an
existing call id (forced alias); the graph of the id-erased example has 4
nodes and changes under the renaming. -/
example : RenCallOK "S" "Z" exTi (eraseIds exProg) = true ∧ RenCallOK "S" "U" exTi (eraseIds exProg) = true
    ∧ (deepGraph exTi (eraseIds exProg)).length = 4
    ∧ (deepGraph exTi (eraseIds exProg)).map (renNodeCallable "S" "Z") ≠ deepGraph exTi (eraseIds exProg) := by
  decide +kernel

/-- **rename_output_graph_partial.**  Renaming output `a` of callable `x` to a fresh name
`b` leaves the resolved call graph unchanged modulo that name: the same nodes;
in every resolved input, output and retained reference, a reference to output
`a` (with any projection below it) of a STAGE node of `x` names `b` instead;
a node of PIPELINE `x` lists its resolved output struct with the key `b` instead
of `a`; nothing else changes — in particular every consumer of the output, at
any depth of inlining, still receives the same stage output / literal.
`RenOutOK` (decidable): `b` is not an output of `x` and is projected from no
call of `x`; no call of `x` is bound as a whole (`= CALL`) and `x` is not used
as a parameter type (known finding KF2); no wildcard bindings (KF1); call ids
distinct; references name existing calls of existing callables. -/
theorem rename_output_graph_partial (x a b : String) (ti : TypeInfo) (p : Program)
    (hok : RenOutOK x a b ti p = true) :
    deepGraph (ti.renameOutput x a b) (renameOutput x a b p)
      = (deepGraph ti p).map (renNodeOut x a b) := by
  exact Proofs.RefactorGraph.rename_output_graph x a b ti p hok

/-- non-vacuity: a stage output that is consumed twice and retained (`S.o`), and
the pipeline output `P.r`; the renaming changes the graph. -/
example : RenOutOK "S" "o" "z" exTi exProg = true ∧ RenOutOK "P" "r" "z" exTi exProg = true
    ∧ (deepGraph exTi exProg).map (renNodeOut "S" "o" "z") ≠ deepGraph exTi exProg
    ∧ (deepGraph exTi exProg).map (renNodeOut "P" "r" "z") ≠ deepGraph exTi exProg := by decide +kernel

/-- Negative witness for the whole-call condition (known finding KF2): `T` reads
the call `S` as a struct (`pt = S`) and a sub-pipeline projects `.o` from it; the
edit does not rewrite that projection, so after `S.o → z` the consumer's input
no longer resolves to the stage output. -/
theorem rename_output_whole_call_breaks :
    let S : Callable := ⟨false, "S", false, [], [("o", false)], [], [], [], []⟩
    let T : Callable := ⟨false, "T", false, ["v"], [("w", false)], [], [], [], []⟩
    let Q : Callable := ⟨true, "Q", false, ["s"], [("r", false)], [],
      [⟨"T", "T", "", [⟨"v", .ref ⟨.self, "s", ["o"]⟩⟩], []⟩], [⟨"r", .ref ⟨.call, "T", ["w"]⟩⟩], []⟩
    let P : Callable := ⟨true, "P", false, [], [("r", false)], [],
      [⟨"S", "S", "", [], []⟩, ⟨"Q", "Q", "", [⟨"s", .ref ⟨.call, "S", []⟩⟩], []⟩],
      [⟨"r", .ref ⟨.call, "Q", ["r"]⟩⟩], []⟩
    let prog : Program := ⟨[S, T, Q, P], some ⟨"P", "P", "", [], []⟩⟩
    RenOutOK "S" "o" "z" TypeInfo.empty prog = false
    ∧ deepGraph (TypeInfo.empty.renameOutput "S" "o" "z") (renameOutput "S" "o" "z" prog)
        ≠ (deepGraph TypeInfo.empty prog).map (renNodeOut "S" "o" "z") := by decide +kernel

/-- **remove_input_graph_partial** (the deep form of `remove_input_only`).  Removing input
`q` of callable `x` (the parameter and the bindings named `q` of the calls of
`x`) when nothing inside `x` refers to `self.q` leaves the resolved call graph
unchanged except that the nodes of calls of `x` lose the key `q`: every
remaining input of every call, at every depth of inlining, resolves to the same
stage output / literal; outputs and retained references are unchanged. -/
theorem remove_input_graph_partial (x q : String) (ti : TypeInfo) (p : Program)
    (hok : RemInOK x q p = true) :
    deepGraph (ti.removeInput x q) (removeInputOne x q p) = (deepGraph ti p).map (remNodeIn x q) := by
  exact Proofs.RefactorGraph.remove_input_graph x q ti p hok

/-- **remove_input_closure_graph_partial.**  The whole edit `removeInput x q`
(the parameter plus the cascade of pipeline inputs that nothing binds any more,
as computed by `removeInputClosure`; the same closure is what the remove-unused
loop applies after deleting calls / outputs): the nodes lose exactly the removed
keys, every remaining resolved input is unchanged.
PARTIAL: the side condition `RemInsOK` — each removed pipeline input is
unreferenced inside its pipeline at the moment it is removed — is a decidable
hypothesis here (evaluated by the harness on every real instance); it is derived
from the closure's own analysis `leftoverInputs` in
`remove_input_closure_graph_derived_partial`.  The other two steps of the
remove-unused fixed point, deleting an unused call and removing an unreferenced
output, are `remove_calls_graph_partial` and `remove_output_graph_partial`. -/
theorem remove_input_closure_graph_partial (x q : String) (ti : TypeInfo) (p : Program)
    (hx : (p.find? x).isSome = true)
    (hok : RemInsOK (removeInputClosure p (closureFuel p) [(x, q)] []) p = true) :
    deepGraph (ti.removeInputs (removeInputClosure p (closureFuel p) [(x, q)] [])) (removeInput x q p)
      = (removeInputClosure p (closureFuel p) [(x, q)] []).foldl
          (fun g xq => g.map (remNodeIn xq.1 xq.2)) (deepGraph ti p) := by
  rw [Proofs.Refactor.removeInput_eq hx q]
  exact Proofs.RefactorGraph.remove_inputs_graph _ ti p hok

/-- non-vacuity: removing `S.a` cascades to the pipeline input `P.a` (and the
top-level binding); both steps satisfy the side condition; the graph changes. -/
example : removeInputClosure exProg (closureFuel exProg) [("S", "a")] [] = [("S", "a"), ("P", "a")]
    ∧ RemInsOK [("S", "a"), ("P", "a")] exProg = true
    ∧ (deepGraph exTi exProg).map (remNodeIn "S" "a") ≠ deepGraph exTi exProg := by decide +kernel

/-- **remove_input_closure_graph_derived_partial** — the full form of
`remove_input_closure_graph_partial`: the side condition `RemInsOK` is DERIVED
from the closure's own analysis (`leftoverInputs`).  On a structurally
well-formed program (`StructOK`: what the compiler guarantees, minus wildcard
bindings (KF1), independent of the edit) in which nothing inside `x` reads `self.q` (`seedOK`; vacuous for a
stage), the whole edit `removeInput x q` — the parameter, the bindings of the
calls of `x`, and the cascade of pipeline inputs that nothing binds any more —
removes exactly those keys from the nodes of the resolved call graph and leaves
every remaining resolved input, every output and retained reference unchanged. -/
theorem remove_input_closure_graph_derived_partial (x q : String) (ti : TypeInfo) (p : Program)
    (hx : (p.find? x).isSome = true) (hs : StructOK p = true) (hseed : seedOK x q p = true) :
    deepGraph (ti.removeInputs (removeInputClosure p (closureFuel p) [(x, q)] [])) (removeInput x q p)
      = (removeInputClosure p (closureFuel p) [(x, q)] []).foldl
          (fun g xq => g.map (remNodeIn xq.1 xq.2)) (deepGraph ti p) :=
  remove_input_closure_graph_partial x q ti p hx
    (Proofs.RefactorGraph.closure_remInsOK p x q (closureFuel p) hs hseed)

example : StructOK exProg = true ∧ seedOK "S" "a" exProg = true := by decide +kernel

/-- **remove_calls_graph_partial.**  Deleting calls that nothing remaining refers to
(`CallRemOK`: what `unusedCalls` establishes) leaves every remaining node of the
resolved call graph exactly as it was — the graph after the deletion is the
graph of the kept calls resolved in the ORIGINAL program (`deepGraphKeepAt`) —
at every unfolding budget `(big, fuel)` (`deepGraph` is `deepGraphAt` at
`graphFuel`, which the deletion lowers). -/
theorem remove_calls_graph_partial (rem : List CallRemoval) (ti : TypeInfo) (p : Program)
    (hok : CallRemOK rem p = true) (big fuel : Nat) :
    deepGraphAt big fuel ti (applyCallRemovals rem p) = deepGraphKeepAt (keepOf rem) big fuel ti p := by
  have := Proofs.RefactorGraph.remove_calls_graph_atK rem ti p hok (fun _ _ _ => true) big fuel
  simpa only [Proofs.RefactorGraph.deepGraphKeepAt_true, Bool.and_true] using this

/-- `pipeline P2(in a, out r) { call S(a = self.a)  call T as U(a = S.o)  call S as V(a = U.o)
return (r = S.o) }`: the call `V` is referenced by nothing. -/
def exP2 : Callable := { exP with ret := [⟨"r", .ref ⟨.call, "S", ["o"]⟩⟩], retain := [] }
def exProg3 : Program := ⟨[exS, exT, exP2], some ⟨"P", "P", "", [⟨"a", .lit "31"⟩], []⟩⟩

example : CallRemOK [⟨"P", ["V"]⟩] exProg3 = true
    ∧ (deepGraphAt 9 9 exTi (applyCallRemovals [⟨"P", ["V"]⟩] exProg3)).length = 3
    ∧ (deepGraphAt 9 9 exTi exProg3).length = 4 := by decide +kernel

/-- **remove_output_graph_partial** (the deep form of `remove_output_unused`).  Removing
an output `o` of `x` that nothing refers to (`RemOutOK`: projected from no call
of `x`, no call of `x` bound as a whole, `x` not used as a type, not the last
output) — the parameter with its return binding / retain entry — leaves the
resolved call graph unchanged except that the nodes of pipeline `x` lose the key
`o` in their resolved output struct.  (The pipeline inputs that this leaves
unbound are then removed by the cascade: `remove_input_closure_graph_derived_partial`.) -/
theorem remove_output_graph_partial (x o : String) (ti : TypeInfo) (p : Program)
    (hok : RemOutOK x o ti p = true) :
    deepGraph (ti.removeOutput x o) (outStep x o p) = (deepGraph ti p).map (remNodeOut x o) :=
  Proofs.RefactorGraph.remove_output_graph x o ti p hok

/-- non-vacuity: stage `S2(in a, out o, out u)` whose output `u` nobody reads;
pipeline `P` with a second output `w`. -/
def exS2 : Callable := ⟨false, "S", false, ["a"], [("o", false), ("u", false)], [], [], [], []⟩
def exP4 : Callable := { exP with outs := [("r", false), ("w", false)],
                                  ret := exP.ret ++ [⟨"w", .ref ⟨.call, "U", ["o"]⟩⟩] }
def exProg4 : Program := ⟨[exS2, exT, exP4], some ⟨"P", "P", "", [⟨"a", .lit "31"⟩], []⟩⟩

example : RemOutOK "S" "u" exTi exProg4 = true ∧ RemOutOK "P" "w" exTi exProg4 = true
    ∧ (deepGraph exTi exProg4).map (remNodeOut "P" "w") ≠ deepGraph exTi exProg4 := by decide +kernel

/-- **remove_unused_calls_pass_graph_partial.**  One pass of `RemoveAllUnusedCalls` (delete
the calls selected by `unusedCalls`, then remove the pipeline inputs this leaves
unbound with their cascade) on a structurally well-formed program: the graph
after the pass is the graph of the kept calls, resolved in the program BEFORE
the pass, minus the removed input keys.  No side condition about the edit is
assumed: that the deleted calls are unreferenced, that every cascaded input is
unreferenced when it is removed, and that the seeds of the cascade are, are
derived from `unusedCalls`, `leftoverInputs` and `unboundInputs`. -/
theorem remove_unused_calls_pass_graph_partial (p : Program) (ti : TypeInfo) (hs : StructOK p = true)
    (big fuel : Nat) :
    deepGraphAt big fuel (ti.removeInputs (unusedCallPlan p).2)
        (removeInputs (unusedCallPlan p).2 (applyCallRemovals (unusedCallPlan p).1 p))
      = (unusedCallPlan p).2.foldl (fun g xq => g.map (remNodeIn xq.1 xq.2))
          (deepGraphKeepAt (keepOf (unusedCallPlan p).1) big fuel ti p) := by
  have := Proofs.RefactorGraph.calls_pass_graphK p ti hs big fuel (fun _ _ _ => true)
  simp only [Proofs.RefactorGraph.deepGraphKeepAt_true, Bool.and_true] at this
  rw [Proofs.RefactorGraph.keepOf_eq_keepN]
  exact this

/-- **remove_unused_calls_loop_graph_upper_bound_partial**
— an UPPER BOUND only: after the loop (remove-unused-calls mode of
`mro edit`, no `-top-calls`) every node is a node of the original graph with the same fqid,
callable, resolved outputs and retained references, and with resolved inputs that are a
sub-list of the original ones (`GraphLe`).  It does NOT say which nodes remain or which
inputs were dropped, the type table `ti'` is unconstrained, and the conclusion is also met
by a loop that deletes the whole program and by the identity.  The
exact statement is `remove_unused_calls_loop_graph_exact_partial` below. -/
theorem remove_unused_calls_loop_graph_upper_bound_partial (p0 p : Program) (ti : TypeInfo) (n big fuel : Nat)
    (hs : StructOK p = true) :
    ∃ ti', Proofs.RefactorGraph.GraphLe (deepGraphAt big fuel ti' (removeLoop p0 true [] n p))
      (deepGraphAt big fuel ti p) :=
  Proofs.RefactorGraph.remove_calls_loop_graph p0 big fuel n p ti hs

open Proofs.RefactorGraph in
/-- **remove_unused_calls_loop_graph_exact_partial** — the remove-unused-calls loop (no
`-top-calls`) as ONE equation about the original resolved call graph, on a structurally
well-formed program, for every fuel `n` of the loop and every unfolding budget:
the loop is `m ≤ n` calls passes (`callsIter`: each deletes exactly its own
`unusedCallPlan`); the graph of the result, in the type table `ti.removeInputs pairs`, is
EXACTLY the original graph restricted to the calls that every pass keeps (`loopKeep`:
the walk skips the deleted calls, every remaining node has the fqid / callable / resolved
inputs / outputs / retained references it has in the ORIGINAL program —
`deepGraphKeepAt`, an ordered sub-list of the original graph by `kept_graph_sublist_partial`)
minus the input keys removed by the cascades (`loopPairs`); each of the `m` passes had
something to delete; and unless the fuel ran out (`m = n`; `removeUnused` starts with
`measure p + 1`, `fixpoint_terminates`) no call of the result is unused.  So what is
removed is exactly the union of the passes' plans, and what remains is unchanged.
Neither the identity (on a program with an unused call) nor a loop that deletes more
satisfies this.  All side conditions are derived from the loop's own analyses.
PARTIAL with respect to the full loop: with `-top-calls` the loop also removes unused
pipeline OUTPUTS; one outputs pass is `remove_unused_outputs_pass_graph_partial`, where
`RemOutOK` is derived from the `unusedOutputs` reachability analysis
(`unused_output_entry_ok_partial`); the calls passes and the outputs passes are not
composed into the whole loop with `-top-calls`. -/
theorem remove_unused_calls_loop_graph_exact_partial (p0 p : Program) (ti : TypeInfo) (n big fuel : Nat)
    (hs : StructOK p = true) :
    ∃ m, m ≤ n
      ∧ removeLoop p0 true [] n p = (callsIter m (ti, p)).2
      ∧ deepGraphAt big fuel (ti.removeInputs (loopPairs m (ti, p))) (removeLoop p0 true [] n p)
          = (loopPairs m (ti, p)).foldl (fun g xq => g.map (remNodeIn xq.1 xq.2))
              (deepGraphKeepAt (fun c i => loopKeep m (ti, p) c.name c.isPipe i) big fuel ti p)
      ∧ (∀ k, k < m → (unusedCallPlan (callsIter k (ti, p)).2).1 ≠ [])
      ∧ (m < n → (unusedCallPlan (removeLoop p0 true [] n p)).1 = []) :=
  remove_calls_loop_graph_eq p0 big fuel n p ti hs

/-- the restricted graph is an ordered sub-list of the full graph of the same program:
deleting calls deletes whole subtrees of the walk, and permutes / duplicates / alters nothing -/
theorem kept_graph_sublist_partial (keep : Callable → String → Bool) (big fuel : Nat) (ti : TypeInfo) (p : Program) :
    (deepGraphKeepAt keep big fuel ti p).Sublist (deepGraphAt big fuel ti p) :=
  Proofs.RefactorGraph.deepGraphKeepAt_sublist keep big fuel ti p

example : StructOK exProg3 = true ∧ (unusedCallPlan exProg3).1 = [⟨"P", ["V"]⟩]
    ∧ removeUnused true [] exProg3 ≠ exProg3 := by decide +kernel

/-- **remove_output_edit_graph_partial** — the whole edit `removeOutput x o` on an output
that nothing refers to (`outputUnreferenced`, `RemOutOK`) of a structurally
well-formed program: the parameter with its return binding / retain entry, then
the cascade of the pipeline inputs this leaves unbound (`roPairs`: the closure
that `RemoveOutputParam` computes).  The nodes of pipeline `x` lose the key `o`
of their resolved output struct, the nodes of the callables whose inputs were
cascaded away lose those keys, and nothing else in the resolved call graph
changes.  The cascade's side conditions are derived from `unboundInputs` and
`leftoverInputs`. -/
theorem remove_output_edit_graph_partial (x o : String) (ti : TypeInfo) (p : Program)
    (hun : outputUnreferenced x o p = true) (hok : RemOutOK x o ti p = true) (hs : StructOK p = true) :
    deepGraph ((ti.removeOutput x o).removeInputs (Proofs.RefactorGraph.roPairs x o p)) (removeOutput x o p)
      = (Proofs.RefactorGraph.roPairs x o p).foldl (fun g xq => g.map (remNodeIn xq.1 xq.2))
          ((deepGraph ti p).map (remNodeOut x o)) := by
  rw [remove_output_unused p x o hun]
  exact Proofs.RefactorGraph.remove_output_plain_graph x o ti p hok hs

example : outputUnreferenced "P" "w" exProg4 = true ∧ StructOK exProg4 = true
    ∧ removeOutput "P" "w" exProg4 ≠ exProg4 := by decide +kernel

/-! ### non-vacuity on a program with real inlining

    struct PT(int a, int b)
    stage A(in int a, out PT pt)            stage B(in int v, in PT q, out int o)
    pipeline Q(in int a, out PT r, out int z) { call A(a = self.a)  return (r = A.pt, z = 7) }
    pipeline P(in int a, out int w) {
        call Q(a = self.a)
        call B(v = Q.r.b, q = Q.r)                          -- projection through Q's return binding
        call B as B2(v = Q.z, q = {a: 1, b: Q.z, c: 3})     -- literal inlined; struct narrowed to PT
        return (w = B.o) }
    call P(a = 5)

Five nodes on three levels; `P.B.v` resolves through the sub-pipeline's return
binding to the stage output `P.Q.A.pt.b`; `P.B2.q` is narrowed to the members of
`PT` with `b` resolved to the literal that `Q` returns. -/
def dA : Callable := ⟨false, "A", false, ["a"], [("pt", false)], [], [], [], []⟩
def dB : Callable := ⟨false, "B", false, ["v", "q"], [("o", false)], [], [], [], []⟩
def dQ : Callable :=
  ⟨true, "Q", false, ["a"], [("r", false), ("z", false)], [],
   [⟨"A", "A", "", [⟨"a", .ref ⟨.self, "a", []⟩⟩], []⟩],
   [⟨"r", .ref ⟨.call, "A", ["pt"]⟩⟩, ⟨"z", .lit "37"⟩], []⟩
def dP : Callable :=
  ⟨true, "P", false, ["a"], [("w", false)], [],
   [⟨"Q", "Q", "", [⟨"a", .ref ⟨.self, "a", []⟩⟩], []⟩,
    ⟨"B", "B", "", [⟨"v", .ref ⟨.call, "Q", ["r", "b"]⟩⟩, ⟨"q", .ref ⟨.call, "Q", ["r"]⟩⟩], []⟩,
    ⟨"B2", "B", "", [⟨"v", .ref ⟨.call, "Q", ["z"]⟩⟩,
       ⟨"q", .map true (.cons "a" (.lit "31") (.cons "b" (.ref ⟨.call, "Q", ["z"]⟩) (.cons "c" (.lit "33") .nil)))⟩], []⟩],
   [⟨"w", .ref ⟨.call, "B", ["o"]⟩⟩], []⟩
def exDeep : Program := ⟨[dA, dB, dQ, dP], some ⟨"P", "P", "", [⟨"a", .lit "35"⟩], []⟩⟩
def tInt : Ty := ⟨"int", 0, 0⟩
def tPT : Ty := ⟨"PT", 0, 0⟩
def exDeepTi : TypeInfo :=
  ⟨[("PT", [("a", tInt), ("b", tInt)])],
   [("A", [("a", tInt)]), ("B", [("v", tInt), ("q", tPT)]), ("Q", [("a", tInt)]), ("P", [("a", tInt)])],
   [("A", [("pt", tPT)]), ("B", [("o", tInt)]), ("Q", [("r", tPT), ("z", tInt)]), ("P", [("w", tInt)])]⟩

/-- the deep graph of `exDeep` really inlines, projects and narrows -/
example :
    (deepGraph exDeepTi exDeep).map (·.fqid) = [["P"], ["P", "Q"], ["P", "Q", "A"], ["P", "B"], ["P", "B2"]]
    ∧ ((deepGraph exDeepTi exDeep).find? (·.fqid == ["P", "B"])).map (·.inputs)
        = some [("v", .sref ["P", "Q", "A"] "A" ["pt", "b"]), ("q", .sref ["P", "Q", "A"] "A" ["pt"])]
    ∧ ((deepGraph exDeepTi exDeep).find? (·.fqid == ["P", "B2"])).map (·.inputs)
        = some [("v", .lit "37"), ("q", .map true (.cons "a" (.lit "31") (.cons "b" (.lit "37") .nil)))] := by
  decide +kernel

/-- every side condition of the call-graph theorems holds on it: inputs and outputs of
the sub-pipeline and of the stage behind it, the callable (on the id-erased program),
the removals; and the edits change the graph -/
example :
    RenInOK "Q" "a" "n" exDeepTi exDeep = true ∧ RenInOK "A" "a" "n" exDeepTi exDeep = true
    ∧ RenOutOK "Q" "r" "rr" exDeepTi exDeep = true ∧ RenOutOK "A" "pt" "pp" exDeepTi exDeep = true
    ∧ RenCallOK "A" "AA" exDeepTi (eraseIds exDeep) = true ∧ WF exDeep = true ∧ FreshFor "A" "AA" exDeep = true
    ∧ StructOK exDeep = true ∧ seedOK "B" "v" exDeep = true ∧ RemOutOK "Q" "z" exDeepTi exDeep = false
    ∧ (deepGraph exDeepTi exDeep).map (renNodeOut "A" "pt" "pp") ≠ deepGraph exDeepTi exDeep
    ∧ (deepGraph exDeepTi exDeep).map (renNodeOut "Q" "r" "rr") ≠ deepGraph exDeepTi exDeep := by
  decide +kernel

/-- **graph_fuel_stable.**  The graph model is fuel-bounded (`graphFuel`).  Whenever the
resolution WITH EXPLICIT FUEL EXHAUSTION (`deepGraphO`: `none` as soon as a branch
that is really followed runs out of fuel) succeeds at a budget `n`, the fuelled
graph equals that result at `n` and at every larger budget: nothing was cut off.
The driver evaluates `deepGraphO (graphFuel p)` on every program of every run
(`C19.gfuel`); a `none` there is reported as a violation of the tie. -/
theorem graph_fuel_stable (ti : TypeInfo) (p : Program) (n : Nat) (g : List Node)
    (h : deepGraphO n n ti p = some g) (k : Nat) :
    deepGraphAt (n + k) (n + k) ti p = g :=
  Proofs.RefactorGraph.deepGraph_stable ti p n n g h k k

/-- in particular `deepGraph` (= the budget `graphFuel`) is the graph at every larger budget -/
theorem graph_fuel_adequate (ti : TypeInfo) (p : Program) (g : List Node)
    (h : deepGraphO (graphFuel p) (graphFuel p) ti p = some g) (k : Nat) :
    deepGraph ti p = g ∧ deepGraphAt (graphFuel p + k) (graphFuel p + k) ti p = deepGraph ti p := by
  have h0 := Proofs.RefactorGraph.deepGraph_stable ti p _ _ g h 0 0
  have hk := Proofs.RefactorGraph.deepGraph_stable ti p _ _ g h k k
  have : deepGraph ti p = deepGraphAt (graphFuel p) (graphFuel p) ti p := rfl
  simp only [Nat.add_zero] at h0
  exact ⟨this ▸ h0, by rw [hk, this, h0]⟩

example : (deepGraphO (graphFuel exDeep) (graphFuel exDeep) exDeepTi exDeep).isSome = true
    ∧ (deepGraphO 2 2 exDeepTi exDeep).isSome = false := by decide +kernel

/-- **deepGraphD_embeds_deepGraph.**  On a program without `disabled` modifiers the
extended model `deepGraphD` (RefactorGraphD.lean: per-node disable lists, `dis`
wrappers) is exactly the embedding of `deepGraph`: every theorem about `deepGraph`
is a theorem about `deepGraphD` there. -/
theorem deepGraphD_embeds_deepGraph (ti : TypeInfo) (p : Program) (h : noDisabledMods p = true) :
    deepGraphD ti p = (deepGraph ti p).map Node.toD :=
  Proofs.RefactorGraph.deepGraphD_eq_embed ti p h

example : noDisabledMods exDeep = true ∧ (deepGraphD exDeepTi exDeep).length = 5 := by decide +kernel

/-! ### the removal theorems at depth

`exDeep2`: sub-pipeline `Q` of `P` has an unused call `B3` which is the only user of `A2`,
which is the only user of `Q`'s input `u`.  Pass 1 deletes `Q.B3` and `P.B2`, pass 2
deletes `Q.A2` and cascades: input `u` of `Q` and its binding in `P`'s call of `Q` go;
pass 3 finds nothing. -/
def dQ2 : Callable :=
  ⟨true, "Q", false, ["a", "u"], [("r", false), ("z", false)], [],
   [⟨"A", "A", "", [⟨"a", .ref ⟨.self, "a", []⟩⟩], []⟩,
    ⟨"A2", "A", "", [⟨"a", .ref ⟨.self, "u", []⟩⟩], []⟩,
    ⟨"B3", "B", "", [⟨"v", .ref ⟨.self, "a", []⟩⟩, ⟨"q", .ref ⟨.call, "A2", ["pt"]⟩⟩], []⟩],
   [⟨"r", .ref ⟨.call, "A", ["pt"]⟩⟩, ⟨"z", .lit "37"⟩], []⟩
def dP2 : Callable :=
  { dP with calls := [⟨"Q", "Q", "", [⟨"a", .ref ⟨.self, "a", []⟩⟩, ⟨"u", .ref ⟨.self, "a", []⟩⟩], []⟩] ++ dP.calls.drop 1 }
def exDeep2 : Program := ⟨[dA, dB, dQ2, dP2], some ⟨"P", "P", "", [⟨"a", .lit "35"⟩], []⟩⟩
def exDeepTi2 : TypeInfo :=
  ⟨exDeepTi.structs,
   [("A", [("a", tInt)]), ("B", [("v", tInt), ("q", tPT)]), ("Q", [("a", tInt), ("u", tInt)]), ("P", [("a", tInt)])],
   exDeepTi.outs⟩

open Proofs.RefactorGraph in
example :
    StructOK exDeep2 = true
    ∧ unusedCallPlan exDeep2 = ([⟨"Q", ["B3"]⟩, ⟨"P", ["B2"]⟩], [])
    ∧ unusedCallPlan (callsIter 1 (exDeepTi2, exDeep2)).2 = ([⟨"Q", ["A2"]⟩], [("Q", "u")])
    ∧ unusedCallPlan (callsIter 2 (exDeepTi2, exDeep2)).2 = ([], [])
    ∧ removeUnused true [] exDeep2 = (callsIter 2 (exDeepTi2, exDeep2)).2
    ∧ loopPairs 2 (exDeepTi2, exDeep2) = [("Q", "u")] := by decide +kernel

open Proofs.RefactorGraph in
example :
    (deepGraph exDeepTi2 exDeep2).map (·.fqid)
      = [["P"], ["P", "Q"], ["P", "Q", "A"], ["P", "Q", "A2"], ["P", "Q", "B3"], ["P", "B"], ["P", "B2"]]
    ∧ (deepGraphKeepAt (fun c i => loopKeep 2 (exDeepTi2, exDeep2) c.name c.isPipe i)
          (graphFuel exDeep2) (graphFuel exDeep2) exDeepTi2 exDeep2).map (·.fqid)
      = [["P"], ["P", "Q"], ["P", "Q", "A"], ["P", "B"]]
    ∧ ((deepGraph exDeepTi2 exDeep2).find? (·.fqid == ["P", "Q"])).map (·.inputs)
      = some [("a", .lit "35"), ("u", .lit "35")]
    ∧ ((deepGraphAt (graphFuel exDeep2) (graphFuel exDeep2) (exDeepTi2.removeInputs [("Q", "u")])
          (removeUnused true [] exDeep2)).find? (·.fqid == ["P", "Q"])).map (·.inputs)
      = some [("a", .lit "35")] := by decide +kernel

/-! ### the outputs pass of the `-top-calls` loop: side conditions derived from `unusedOutputs` -/

open Proofs.RefactorUnusedOuts in
/-- **unused_outputs_analysis_sound_partial** — soundness of the reachability analysis behind
`mro edit -top-calls … -remove-unused-outputs` (`unusedOutputs`: `populateChildPipelineOuts`
+ the frontier walk that strikes referenced outputs from the table).  When the walk
terminates by exhausting the frontier (`unusedOutputsO … = some T`: explicit exhaustion,
evaluated per instance by the driver), `T` is what the loop uses, and an output `o` of
`x` that is still in `T` is referenced — as `CALL.o…` or through a whole-call reference
`CALL` — by no binding, modifier, return or retain of any pipeline REACHABLE from the top
pipelines.  PARTIAL: says nothing about pipelines the walk does not reach (the Go code
does not look at them either: an unreachable pipeline that reads `x.o` is broken by the
edit — hence the hypothesis `allReachB` of the pass theorem below). -/
theorem unused_outputs_analysis_sound_partial (p0 p : Program) (tops : List String)
    (T : List (String × List String)) (h : unusedOutputsO p0 p tops = some T) :
    unusedOutputs p0 p tops = T ∧
    ∀ x o, Has T x o → ∀ n, Reach p (topNames p tops) n → ∀ pipe, p.find? n = some pipe →
      ∀ r ∈ pipeCallRefs p pipe, ¬ RefersTo p pipe x o r :=
  unusedOutputsO_spec p0 p tops T h

open Proofs.RefactorUnusedOuts in
/-- **remove_unused_outputs_pass_graph_partial** — one outputs pass of the `-top-calls` loop
(`removeUnusedOutputsPass`: remove the whole table of unused outputs simultaneously, then
the pipeline inputs this leaves unbound with their cascade).  The graph after the pass,
in the type table with the same parameters removed, is the graph before with exactly the
removed keys dropped from the output structs of the pipelines concerned and the cascaded
input keys dropped — nothing else changes.
NO per-output reference condition is assumed: that no reachable pipeline refers to a
removed output (`refCondRo`, `outputUnreferenced`), that the cascade's seeds are
unreferenced after the removal and that every cascaded input is unreferenced when it is
removed are DERIVED from `unusedOutputs`, `unboundInputs` and `leftoverInputs`.
Hypotheses, all decidable and evaluated per instance by the driver (`gthm
removeOutputsPass`): `StructOK` (what compile guarantees minus wildcards, KF1);
`allReachB`: every pipeline is reachable from the top pipelines (otherwise the statement
is FALSE: the analysis does not visit unreachable pipelines); the walk exhausted its
frontier (`unusedOutputsO = some T`, `T` non-empty); `TableShapeOK` (distinct keys, keys
are pipelines with distinct return names — not derived from `populate`); `TableStructOK`:
the STRUCTURAL part of `RemOutOK` for each removal in turn (the pipeline exists once, the
removed output is not its last output / return binding (KF4/KF5), it is not used as a
type (KF2), existing callees, the top-level call's bindings do not refer to it) — it
mentions no reference to the removed outputs inside the program's callables.
PARTIAL: one pass, not composed with the calls passes into the whole loop; `p0` (the
program whose compile-time callable tables `populate` reads) is arbitrary. -/
theorem remove_unused_outputs_pass_graph_partial (p0 p : Program) (tops : List String)
    (T : List (String × List String)) (ti : TypeInfo)
    (hs : StructOK p = true) (hreach : allReachB p tops = true) (hT : unusedOutputsO p0 p tops = some T)
    (hne : T.isEmpty = false) (hshape : TableShapeOK T p = true)
    (hst : TableStructOK (tablePairs T) ti p = true) :
    (removeUnusedOutputsPass p0 tops p).1 = removeInputs (outPassIns p T) (outSteps (tablePairs T) p)
    ∧ deepGraph ((ti.removeOutputs (tablePairs T)).removeInputs (outPassIns p T)) (removeUnusedOutputsPass p0 tops p).1
      = (outPassIns p T).foldl (fun g xq => g.map (remNodeIn xq.1 xq.2))
          ((tablePairs T).foldl (fun g xo => g.map (remNodeOut xo.1 xo.2)) (deepGraph ti p)) :=
  outputs_pass_graph p0 p tops T ti hs (allReach_of_B p tops hreach) hT hne hshape hst

/-- every removed output of the pass satisfies the full hypothesis of the single-output
theorems (`RemOutOK`, `outputUnreferenced`) once its structural part holds -/
theorem unused_output_entry_ok_partial (p0 p : Program) (tops : List String) (T : List (String × List String))
    (ti : TypeInfo) (hs : StructOK p = true) (hreach : allReachB p tops = true)
    (h : unusedOutputsO p0 p tops = some T) (x o : String) (os : List String) (he : (x, os) ∈ T) (ho : o ∈ os)
    (hst : RemOutStructOK x o ti p = true) :
    RemOutOK x o ti p = true ∧ outputUnreferenced x o p = true :=
  Proofs.RefactorUnusedOuts.unused_entry_ok p0 p tops T ti hs
    (Proofs.RefactorUnusedOuts.allReach_of_B p tops hreach) h x o ⟨(x, os), he, rfl, ho⟩ hst

/-! `exOut`: `P → Q → R → A`; `Q` has an output `y = self.u` that `P` does not use: the pass
removes `Q.y`, which leaves `Q`'s input `u` unbound and cascades to `P`'s call of `Q`. -/
def oR : Callable :=
  ⟨true, "R", false, ["a"], [("r", false)], [],
   [⟨"A", "A", "", [⟨"a", .ref ⟨.self, "a", []⟩⟩], []⟩],
   [⟨"r", .ref ⟨.call, "A", ["pt"]⟩⟩], []⟩
def oQ : Callable :=
  ⟨true, "Q", false, ["a", "u"], [("r", false), ("y", false)], [],
   [⟨"R", "R", "", [⟨"a", .ref ⟨.self, "a", []⟩⟩], []⟩],
   [⟨"r", .ref ⟨.call, "R", ["r"]⟩⟩, ⟨"y", .ref ⟨.self, "u", []⟩⟩], []⟩
def oP : Callable :=
  ⟨true, "P", false, ["a"], [("w", false)], [],
   [⟨"Q", "Q", "", [⟨"a", .ref ⟨.self, "a", []⟩⟩, ⟨"u", .ref ⟨.self, "a", []⟩⟩], []⟩,
    ⟨"B", "B", "", [⟨"v", .ref ⟨.call, "Q", ["r", "b"]⟩⟩, ⟨"q", .ref ⟨.call, "Q", ["r"]⟩⟩], []⟩],
   [⟨"w", .ref ⟨.call, "B", ["o"]⟩⟩], []⟩
def exOut : Program := ⟨[dA, dB, oR, oQ, oP], some ⟨"P", "P", "", [⟨"a", .lit "35"⟩], []⟩⟩
def exOutTi : TypeInfo :=
  ⟨exDeepTi.structs,
   [("A", [("a", tInt)]), ("B", [("v", tInt), ("q", tPT)]), ("R", [("a", tInt)]),
    ("Q", [("a", tInt), ("u", tInt)]), ("P", [("a", tInt)])],
   [("A", [("pt", tPT)]), ("B", [("o", tInt)]), ("R", [("r", tPT)]), ("Q", [("r", tPT), ("y", tInt)]),
    ("P", [("w", tInt)])]⟩

example :
    StructOK exOut = true ∧ allReachB exOut ["P"] = true
    ∧ unusedOutputsO exOut exOut ["P"] = some [("Q", ["y"])]
    ∧ TableShapeOK [("Q", ["y"])] exOut = true
    ∧ TableStructOK (tablePairs [("Q", ["y"])]) exOutTi exOut = true
    ∧ outPassIns exOut [("Q", ["y"])] = [("Q", "u")]
    ∧ (removeUnusedOutputsPass exOut ["P"] exOut).1 ≠ exOut
    ∧ ((deepGraph exOutTi exOut).find? (·.fqid == ["P", "Q"])).map (fun n => n.inputs.map (·.1)) = some ["a", "u"]
    ∧ ((deepGraph ((exOutTi.removeOutputs [("Q", "y")]).removeInputs [("Q", "u")])
          (removeUnusedOutputsPass exOut ["P"] exOut).1).find? (·.fqid == ["P", "Q"])).map
        (fun n => n.inputs.map (·.1)) = some ["a"] := by decide +kernel

/-- the reachability hypothesis is needed: a pipeline `Z` that nothing calls reads `Q.y`;
the analysis does not visit it and still reports `Q.y` as unused -/
def oZ : Callable :=
  ⟨true, "Z", false, ["a"], [("z", false)], [],
   [⟨"Q", "Q", "", [⟨"a", .ref ⟨.self, "a", []⟩⟩, ⟨"u", .ref ⟨.self, "a", []⟩⟩], []⟩],
   [⟨"z", .ref ⟨.call, "Q", ["y"]⟩⟩], []⟩
def exOutZ : Program := { exOut with callables := exOut.callables ++ [oZ] }

example : StructOK exOutZ = true ∧ allReachB exOutZ ["P"] = false
    ∧ unusedOutputsO exOutZ exOutZ ["P"] = some [("Q", ["y"])]
    ∧ outputUnreferenced "Q" "y" exOutZ = false := by decide +kernel

end Props.C19
