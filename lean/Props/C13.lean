/-
C13 — final outputs are materialised faithfully under outs/.
The property theorems; the lemmas are in Proofs/PostProcess*.lean (`outs_writers_are_atomic`
stands here because it restates an obligation of this file).
The model is `Martian.PostProcess` (post_process.go); `Gen.postProcessDimAware`
is regenerated from `moveOutArrayDir` in the working tree on every run.
-/
import Proofs.PostProcessWriter
import Proofs.PostProcessShape
import Proofs.PostProcessMappedContent
import Gen.Facts

namespace Props.C13
open Martian.PostProcess

/-- Regenerated obligation: `moveOutArrayDir` in the current source hands the
elements of a multi-dimensional array down as arrays of one dimension less
(not as values of the base element type).  Fails on a tree with defect F5. -/
theorem dim_aware : Gen.postProcessDimAware = true := by decide

/-- Every regenerated fact this file is stated against WAS extracted from the
working tree (the extractor falls back to a committed default when its source
pattern is not found; a defeated pattern must show up as a broken obligation,
not as a note).  `dim_aware` and `restart_recovers_moved_outputs` are also
covered behaviourally (multi-dimensional arrays in every stream; the crash
streams); the writer / ordering / fork-directory facts restate this in their
own statements because they are the only tie for what they say. -/
theorem regenerated_facts_extracted :
    Gen.postProcessDimAware_extracted = true ∧ Gen.postProcessRecoversMoved_extracted = true ∧
    Gen.postProcessOutsWriters_extracted = true ∧ Gen.writeAtomicSteps_extracted = true ∧
    Gen.postProcessForkDirs_extracted = true ∧ Gen.allOutsWriters_extracted = true ∧
    Gen.postProcessMappedKeyCheck_extracted = true ∧ Gen.postProcessIllegalKeyIsError_extracted = true := by decide

/-- The TRANSLATED source terms `Gen.tr_GetOutFilename` (the ties of Props/C13Tie.lean are
stated against it) and `Gen.tr_IsLegalUnixFilename` were really translated from the
working tree on this run, not taken from a committed fall-back.  The Lean tie of the
second term is `Props.C07.tr_IsLegalUnixFilename_eq_model`, about `Martian.Types.legalName`
on bytes; `Martian.PostProcess.legalName` (on `String`) is tied to the code by the
mapped-keys stream only.  (Behavioural tie, independent of the translator: the
names stream calls the real `GetOutFilename` on ~500 run-time keys per run and
compares with `outFilename`.) -/
theorem translated_ties_extracted :
    Gen.tr_GetOutFilename_extracted = true ∧ Gen.tr_IsLegalUnixFilename_extracted = true := by decide

/-! ### result_wellformed -/

/-- The hand-built writer (`[` … `,` … `]`, `[]`, `{"k":` … `,` … `}`, `{}`
around atomic fragments) emits, for EVERY result tree — any nesting, any
emptiness — a token stream that a JSON parser reads back as exactly that tree. -/
theorem result_wellformed (t : J) : parse (emit t) = some t := parse_emit t

/-- non-vacuity: nested empties and one-element containers -/
example : parse (emit (.obj [("a", .arr []), ("b", .obj []), ("c", .arr [.arr [], .null, .obj [("k", .str "p")]])]))
    = some (.obj [("a", .arr []), ("b", .obj []), ("c", .arr [.arr [], .null, .obj [("k", .str "p")]])]) :=
  result_wellformed _

/-! ### content_preserved, one leaf -/

/-- One file leaf.  A regular file or directory `p` inside the pipestance whose
destination `outs/name` is free: the recorded value becomes the destination
path; the destination holds exactly what the source held (`∀ suf`: the whole
tree below it, for directories); the source becomes a relative symlink to the
destination; and nothing else changes (paths not under the source, not under
the destination, not ancestors of the outs directory).

This is the statement for ONE leaf operation in the file system state in which
it runs; `content_preserved` below is the statement for the whole traversal. -/
theorem content_preserved_leaf (ps outs : Path) (name s : String) (p : Path) (e : Entry) (fs : FS)
    (hs : s ≠ "") (hp : parsePath s = some p) (he : fs.get p = some e) (hl : e.isLink = false)
    (hin : inside ps p = true) (hfree : statExists fs statFuel (outs ++ [name]) = false)
    (hsrc : isPrefix p outs = false) (hdst : isPrefix (outs ++ [name]) p = false) :
    (moveOutFile ps outs name (.str s) fs).1 = .str (renderPath (outs ++ [name])) ∧
    (∀ suf, (moveOutFile ps outs name (.str s) fs).2.get ((outs ++ [name]) ++ suf) = fs.get (p ++ suf)) ∧
    (moveOutFile ps outs name (.str s) fs).2.get p =
      some (.link (.rel (relPath p.dropLast (outs ++ [name])))) ∧
    (∀ q, isPrefix p q = false → isPrefix (outs ++ [name]) q = false → isPrefix q outs = false →
      (moveOutFile ps outs name (.str s) fs).2.get q = fs.get q) := by
  obtain ⟨h1, h2, h3⟩ := moveOutFile_moved ps outs name s p e fs hs hp he hl hin hfree hsrc hdst
  exact ⟨h1, h2, h3, fun q a b c =>
    moveOutFile_moved_frame ps outs name s p e fs hs hp he hl hin hfree q a b c⟩

/-- non-vacuity: the hypotheses are satisfiable (a file under the pipestance, outs/ empty) -/
example : ("/ps/MK/files/f" : String) ≠ "" ∧ parsePath "/ps/MK/files/f" = some ["ps", "MK", "files", "f"] ∧
    exFS.get ["ps", "MK", "files", "f"] = some (.file 7) ∧ (Entry.file 7).isLink = false ∧
    inside ["ps"] ["ps", "MK", "files", "f"] = true ∧
    statExists exFS statFuel (["ps", "outs"] ++ ["f.txt"]) = false ∧
    isPrefix ["ps", "MK", "files", "f"] ["ps", "outs"] = false ∧
    isPrefix (["ps", "outs"] ++ ["f.txt"]) ["ps", "MK", "files", "f"] = false := by decide +kernel

/-- A file that does not exist (the stage did not create it), and whose
destination under outs/ holds nothing, is recorded as null and the file system
is untouched. -/
theorem missing_is_null (ps outs : Path) (name s : String) (p : Path) (fs : FS)
    (hs : s ≠ "") (hp : parsePath s = some p) (hnone : fs.get p = none)
    (hfree : fs.get (outs ++ [name]) = none) :
    moveOutFile ps outs name (.str s) fs = (.null, fs) :=
  moveOutFile_missing ps outs name s p fs hs hp hnone hfree

/-- Regenerated obligation: the "recorded path does not
exist" branch of `moveOutFile` first tries to recover a file that an
interrupted earlier post-process had already moved to outs/ (F22);
on a tree where it only reports null this fails. -/
theorem restart_recovers_moved_outputs : Gen.postProcessRecoversMoved = true := by decide

/-- Restart after a kill between the rename into outs/ and leaving the symlink
behind (F22): the recorded path holds nothing, but it lies inside the
pipestance and its destination already holds a file or directory.  The output
is NOT reported as null: the recorded value becomes the destination and the
link back is put in place now; the destination itself is untouched. -/
theorem missing_but_moved_is_recovered (ps outs : Path) (name s : String) (p : Path) (e : Entry) (fs : FS)
    (hs : s ≠ "") (hp : parsePath s = some p) (hnone : fs.get p = none) (hin : inside ps p = true)
    (hd : fs.get (outs ++ [name]) = some e) (hl : e.isLink = false) :
    moveOutFile ps outs name (.str s) fs =
      (.str (renderPath (outs ++ [name])),
        symlinkAt fs p (.rel (relPath p.dropLast (outs ++ [name])))) :=
  moveOutFile_recovered ps outs name s p e fs hs hp hnone hin hd hl

example : parsePath "/ps/MK/files/nope" = some ["ps", "MK", "files", "nope"] ∧
    exFS.get ["ps", "MK", "files", "nope"] = none ∧ exFS.get (["ps", "outs"] ++ ["nope"]) = none := by decide +kernel

/-- A regular file or directory outside the pipestance stays where it is, its
recorded value is unchanged, and outs/name becomes a symlink to it. -/
theorem outside_unchanged (ps outs : Path) (name s : String) (p : Path) (e : Entry) (fs : FS)
    (hs : s ≠ "") (hp : parsePath s = some p) (he : fs.get p = some e) (hl : e.isLink = false)
    (hout : inside ps p = false) :
    (moveOutFile ps outs name (.str s) fs).1 = .str s ∧
    (moveOutFile ps outs name (.str s) fs).2.get p = some e ∧
    ((mkdirAll fs outs).get (outs ++ [name]) = none →
      (moveOutFile ps outs name (.str s) fs).2.get (outs ++ [name]) = some (.link (.abs p))) :=
  moveOutFile_outside ps outs name s p e fs hs hp he hl hout

example : inside ["ps"] ["etc", "hostname"] = false := by decide +kernel

/-! ### shape_preserved -/

/-- Null stays null and a value whose type contains no file type is copied
verbatim, at every type, and neither touches the file system. -/
theorem shape_null_and_nonfile (ps : Path) (ty : Ty) (id on : String) (v : J) (outs : Path) (fs : FS) :
    moveOut Gen.postProcessDimAware ps ty id on .null outs fs = (.null, fs) ∧
    (hasFile ty = false → moveOut Gen.postProcessDimAware ps ty id on v outs fs = (v, fs)) :=
  ⟨handler_null _ ps ty id on outs fs, handler_nofile _ ps ty id on v outs fs⟩

example : hasFile (.struct [("n", "", .scalar), ("xs", "", .arr .scalar 1)]) = false := by decide +kernel

/-- A file leaf becomes null, stays as it is, or becomes a path string —
never anything else. -/
theorem shape_leaf (ps outs : Path) (name : String) (v : J) (fs : FS) :
    (moveOutFile ps outs name v fs).1 = .null ∨ (moveOutFile ps outs name v fs).1 = v ∨
      ∃ s, (moveOutFile ps outs name v fs).1 = .str s :=
  moveOutFile_shape ps outs name v fs

/-- `shape_preserved`, full recursive statement.  For every type, member,
value, outs directory and file system, the rewritten value has the shape of
the input at that type (`Martian.PostProcess.Shape`, by recursion on the type):
non-file values are equal; a file leaf is null, unchanged or a path string; an
array (any number of dimensions) stays an array of the same length with
elements related pointwise; a typed map becomes an object whose keys are the
sorted legal keys of the input (illegal file names are dropped), values related
key by key; a struct becomes an object whose keys are exactly the sorted member
ids (an absent key reads as null, undeclared keys are dropped), values related
member by member, except that the empty object stays the empty object; null and
ill-typed values are returned unchanged.
Stated for the code as regenerated (`Gen.postProcessDimAware`, see `dim_aware`). -/
theorem shape_preserved (ps : Path) (ty : Ty) (id on : String) (v : J) (outs : Path) (fs : FS) :
    Shape ty v (moveOut Gen.postProcessDimAware ps ty id on v outs fs).1 := by
  rw [dim_aware]
  exact handler_shape ps ty id on v outs fs

/-- what `Shape` says for `file[][]`: same lengths at both levels, leaves as in `shape_leaf` -/
example : Shape (.arr (.file "") 1) (.arr [.arr [.str "/ps/a", .str "/ps/b"], .null])
    (.arr [.arr [.str "/ps/outs/r/0/0", .null], .null]) := by
  simp only [Shape, hasFile, if_true, ShapeArr]
  refine ⟨_, rfl, .cons ⟨_, rfl, .cons (Or.inr (Or.inr ⟨_, rfl⟩)) (.cons (Or.inl rfl) .nil)⟩ (.cons ?_ .nil)⟩
  rfl

/-- One level of the recursion keeps the container's shape whatever the
handlers below do (also true with `dimAware = false`): an array stays
an array of the same length; a typed map becomes an object whose keys are the
sorted legal keys of the input; a non-empty struct value becomes an object
whose keys are the sorted member ids. -/
theorem shape_level (da : Bool) (h : Handler) (k : Nat) (xs : List J) (kvs : List (String × J))
    (kv : String × J) (hs : MemberHandlers) (o : Path) (fs : FS) :
    (∃ ys, (arrLevel da h k (.arr xs) o fs).1 = .arr ys ∧ ys.length = xs.length) ∧
    (∃ kvs', (mapLevel h (.obj kvs) o fs).1 = .obj kvs' ∧
      kvs'.map Prod.fst = sortStrings (dedup ((kvs.map Prod.fst).filter legalName))) ∧
    (∃ kvs', (structLevel hs (.obj (kv :: kvs)) o fs).1 = .obj kvs' ∧
      kvs'.map Prod.fst = sortStrings (hs.map Prod.fst)) :=
  ⟨arrLevel_shape da h k xs o fs, mapLevel_keys h kvs o fs, structLevel_keys hs kv kvs o fs⟩

/-! ### dest_injective (sibling level) -/

/-- The children of one directory under outs/ get pairwise distinct names, and
distinct names give disjoint sub-trees:
(1) the zero-padded names of the elements of an array of length `n` are
    distinct for distinct indices;
(2) if the compile-time check `noDupNames` (the decidable mirror of
    `StructType.compile`'s DuplicateNameError, compared with the real compiler
    by the harness) accepts a member list, the output file names of its
    file-typed members are pairwise distinct;
(3) paths below `outs/n1` and `outs/n2` coincide only if `n1 = n2`.

These are the sibling-level facts; `dest_injective` below composes them along the type. -/
theorem dest_injective_siblings :
    (∀ n i j, i < n → j < n → pad (width n) i = pad (width n) j → i = j) ∧
    (∀ ms, noDupNames ms [] = true → (memberNames ms).Nodup) ∧
    (∀ (outs : Path) n1 n2 (s1 s2 : Path), (outs ++ [n1]) ++ s1 = (outs ++ [n2]) ++ s2 → n1 = n2) :=
  ⟨array_names_distinct, fun ms h => (noDupNames_sound ms [] h).1, sibling_subtrees_disjoint⟩

/-- non-vacuity / the check at work: `txt a` and `file b "help" "a.txt"` collide, `txt a` and `file a2` do not -/
example : noDupNames [("a", "", .file "txt"), ("b", "a.txt", .file "")] [] = false ∧
    noDupNames [("a", "", .file "txt"), ("a2", "", .file ""), ("n", "", .scalar)] [] = true := by decide +kernel

example : pad (width 12) 3 = "03" ∧ pad (width 12) 11 = "11" := by decide +kernel

/-- The name derived for an entry of a typed map (or an element of an array:
no explicit out name) is an INJECTIVE function of the key, for every element
type and all strings — keys are run-time data, the compile-time duplicate
check cannot see them: distinct keys of one map never share a file or directory
under outs/.  (A naming function that is not injective on keys makes
`moveOutFile` take its "already moved" exit for the second key.)  The harness
calls the real `GetOutFilename` on generated run-time keys (`k`, `k.<ext>`,
`k.`, `.<ext>`, several dots, case variants, element-like names), compares it
with `outFilename` and checks this injectivity on the real function. -/
theorem map_entry_names_injective (e : Ty) (k1 k2 : String)
    (h : outFilename e k1 "" = outFilename e k2 "") : k1 = k2 := outFilename_inj e k1 k2 h

example : outFilename (.file "txt") "report" "" = "report.txt" ∧
    outFilename (.file "txt") "report.txt" "" = "report.txt.txt" ∧
    outFilename (.file "") "report.txt" "" = "report.txt" ∧
    outFilename (.arr (.file "txt") 0) "report.txt" "" = "report.txt" := by decide +kernel

/-! ### dest_injective and content_preserved for a whole output record -/

/-- GLOBAL `dest_injective`.  For a signature that passed the compiler's checks
(`wfParams`: distinct ids and distinct output file names among the out params
and in every struct reachable from them), take ANY `_outs` record and outs
directory.  The `moveOutFile` calls of the traversal are exactly the list
`leavesRec params outs top` (third conjunct: the file-system effect of
`handleOuts` is the left fold of `moveOutFile` over that list), and their
destinations are pairwise INCOMPARABLE — no destination is a prefix of another,
in particular they are pairwise distinct.  Composed along the type: array
indices via `pad`/`width`, sorted de-duplicated legal map keys, struct member
file names under `noDupNames`. -/
theorem dest_injective (params : List (String × String × Ty)) (outs : List (String × J)) (top : Path)
    (h : wfParams params = true) :
    (leavesRec params outs top).Pairwise LeafIncomp ∧
    ((leavesRec params outs top).map Leaf.dest).Nodup ∧
    (∀ ps fs, (handleOuts Gen.postProcessDimAware ps params outs top fs).2 =
      runLeaves ps (leavesRec params outs top) fs) := by
  refine ⟨leavesRec_pairwise params outs top h,
    pairwise_incomp_nodup (leavesRec_pairwise params outs top h), fun ps fs => ?_⟩
  rw [dim_aware]
  exact handleOuts_run ps params outs top fs

/-- non-vacuity: a signature with a nested struct, a 2-dimensional array and a typed map is well formed;
one with two members writing `a.txt` is not -/
example : wfParams [("s", "", .struct [("f", "", .file "txt"), ("g", "out.bin", .file ""), ("n", "", .scalar)]),
      ("r", "", .arr (.file "") 1), ("m", "", .tmap (.arr (.file "bam") 0))] = true ∧
    wfParams [("a", "", .file "txt"), ("b", "a.txt", .file "")] = false := by decide +kernel

/-- GLOBAL `content_preserved`.  Whole record, well-formed signature, any
`_outs`.  If the sources named by the file leaves are pairwise non-nested
(`nonnest`), none of them is an ancestor of the outs directory or lies under it
(`apart`), each is missing or a regular file/directory inside the pipestance
(`status`), and nothing occupies a destination yet (`free`), then after
`processStructOuts` the destination of EVERY leaf whose source existed holds
exactly the tree that was at its source (`∀ suf`).
The destinations' incomparability and their position below outs/ are not
assumed: they are `dest_injective` and `leavesRec_under`.
Without `nonnest` the statement is false (`overlapping_outputs_not_preserved`). -/
theorem content_preserved (ps top : Path) (fs : FS) (params : List (String × String × Ty))
    (outs : List (String × J)) (hwf : wfParams params = true)
    (apart : ∀ l ∈ leavesRec params outs top, ∀ p, l.src = some p → ¬ p <+: top ∧ ¬ top <+: p)
    (nonnest : (leavesRec params outs top).Pairwise (fun l1 l2 => ∀ p1 p2, l1.src = some p1 →
      l2.src = some p2 → ¬ p1 <+: p2 ∧ ¬ p2 <+: p1))
    (status : ∀ l ∈ leavesRec params outs top, ∀ p, l.src = some p →
      fs.get p = none ∨ ∃ e, fs.get p = some e ∧ e.isLink = false ∧ inside ps p = true)
    (free : ∀ l ∈ leavesRec params outs top, fs.get l.dest = none)
    (l : Leaf) (hl : l ∈ leavesRec params outs top) (p : Path) (e : Entry)
    (hsrc : l.src = some p) (he : fs.get p = some e) (suf : Path) :
    (processStructOuts Gen.postProcessDimAware ps params (.obj outs) top fs).2.get (l.dest ++ suf)
      = fs.get (p ++ suf) := by
  rw [dim_aware]
  exact content_preserved_record ps top fs params outs
    (clean_record ps top fs params outs hwf apart nonnest status free) l hl p e hsrc he suf

/-- non-vacuity: the hypotheses hold for `out txt a` bound to an existing file under the pipestance -/
example : Clean ["ps"] ["ps", "outs"] exFS
    (leavesRec [("a", "", .file "txt")] [("a", .str "/ps/MK/files/f")] ["ps", "outs"]) :=
  cleanB_sound _ _ _ _ _ (by decide +kernel) (by decide +kernel)

/-- The side conditions of `content_preserved` (`apart`, `nonnest`, `status`,
`free`) as ONE decidable check: `cleanB` is sound for `Clean`.  The driver
evaluates `wfParams` and `cleanB` on every real input of the direct stream; the
harness counts how often they held and raises a correspondence violation when
they fail on a run whose leaves are all missing or regular files/directories
inside the pipestance (the runs the manifest says the global theorem covers). -/
theorem clean_check_sound (ps top : Path) (fs : FS) (params : List (String × String × Ty))
    (outs : List (String × J)) (hwf : wfParams params = true)
    (h : cleanB ps top fs (leavesRec params outs top) = true) :
    Clean ps top fs (leavesRec params outs top) := cleanB_sound ps top fs params outs hwf h

/-- non-vacuity of GLOBAL `content_preserved` on a record with struct + multi-dimensional array +
typed map, six leaves, a directory output and a missing file: the signature is well formed and
ALL side conditions (`Clean`: pairwise non-nested sources, apart from outs/, status, free
destinations) hold, by evaluation of the decidable check. -/
example : wfParams exSig3 = true ∧
    cleanB ["ps"] ["ps", "outs"] exFS3 (leavesRec exSig3 exOuts3 ["ps", "outs"]) = true ∧
    (leavesRec exSig3 exOuts3 ["ps", "outs"]).length = 6 := exSig3_checked

example : Clean ["ps"] ["ps", "outs"] exFS3 (leavesRec exSig3 exOuts3 ["ps", "outs"]) := exSig3_clean

/-- … and the theorem instantiated on it: after `processStructOuts` of the whole record the file
INSIDE the directory output `r[0][0]` is at `outs/r/0/0/inner`, and the map entry `m.k1[0]` is at
`outs/m/k1/0.bam`, with the contents the stage wrote. -/
example :
    (processStructOuts Gen.postProcessDimAware ["ps"] exSig3 (.obj exOuts3) ["ps", "outs"] exFS3).2.get
      ["ps", "outs", "r", "0", "0", "inner"] = some (.file 3) ∧
    (processStructOuts Gen.postProcessDimAware ["ps"] exSig3 (.obj exOuts3) ["ps", "outs"] exFS3).2.get
      ["ps", "outs", "m", "k1", "0.bam"] = some (.file 5) := by
  have hc := exSig3_clean
  have hl : leavesRec exSig3 exOuts3 ["ps", "outs"] =
      [⟨.str "/ps/MK/files/sf", ["ps", "outs", "s"], "f.txt"⟩, ⟨.str "/ps/MK/files/sg", ["ps", "outs", "s"], "out.bin"⟩,
       ⟨.str "/ps/MK/files/d", ["ps", "outs", "r", "0"], "0"⟩, ⟨.str "/ps/MK/files/nope", ["ps", "outs", "r", "0"], "1"⟩,
       ⟨.str "/ps/MK/files/r11", ["ps", "outs", "r", "1"], "1"⟩,
       ⟨.str "/ps/MK/files/m0", ["ps", "outs", "m", "k1"], "0.bam"⟩] := by rfl
  have cp := content_preserved ["ps"] ["ps", "outs"] exFS3 exSig3 exOuts3 exSig3_checked.1 hc.apart hc.nonnest
    hc.status hc.free
  constructor
  · exact get_at_dest (cp ⟨.str "/ps/MK/files/d", ["ps", "outs", "r", "0"], "0"⟩ (by rw [hl]; simp)
      ["ps", "MK", "files", "d"] .dir (by decide +kernel) (by decide +kernel) ["inner"]) rfl (by decide +kernel)
  · exact get_at_dest (cp ⟨.str "/ps/MK/files/m0", ["ps", "outs", "m", "k1"], "0.bam"⟩ (by rw [hl]; simp)
      ["ps", "MK", "files", "m0"] (.file 5) (by decide +kernel) (by decide +kernel) []) rfl (by decide +kernel)

/-- GLOBAL `content_preserved`, the RECORD half ("those values point at the
materialised locations").  Same hypotheses as `content_preserved`.  The
rewritten record is EXACTLY the input record with every file leaf replaced by
`expectVal fs leaf` (`pureOuts`: the traversal with the leaf calls answered by
that function, no file system involved): the path string of the leaf's
destination when its source existed, null when the source is missing (or the
value is the empty string / not an absolute path), the value itself when it is
not a string; everything that is not a file leaf as `shape_preserved` says.
Together with `content_preserved`: every recorded path names the destination
that holds the leaf's content. -/
theorem content_preserved_record (ps top : Path) (fs : FS) (params : List (String × String × Ty))
    (outs : List (String × J)) (hwf : wfParams params = true)
    (apart : ∀ l ∈ leavesRec params outs top, ∀ p, l.src = some p → ¬ p <+: top ∧ ¬ top <+: p)
    (nonnest : (leavesRec params outs top).Pairwise (fun l1 l2 => ∀ p1 p2, l1.src = some p1 →
      l2.src = some p2 → ¬ p1 <+: p2 ∧ ¬ p2 <+: p1))
    (status : ∀ l ∈ leavesRec params outs top, ∀ p, l.src = some p →
      fs.get p = none ∨ ∃ e, fs.get p = some e ∧ e.isLink = false ∧ inside ps p = true)
    (free : ∀ l ∈ leavesRec params outs top, fs.get l.dest = none) :
    (processStructOuts Gen.postProcessDimAware ps params (.obj outs) top fs).1 =
      .obj (pureOuts (expectVal fs) params outs top) := by
  rw [dim_aware]
  exact record_values ps top fs params outs (clean_record ps top fs params outs hwf apart nonnest status free)

/-- what `expectVal` says, leaf by leaf -/
example :
    expectVal exFS3 ⟨.str "/ps/MK/files/d", ["ps", "outs", "r", "0"], "0"⟩ = .str "/ps/outs/r/0/0" ∧
    expectVal exFS3 ⟨.str "/ps/MK/files/nope", ["ps", "outs", "r", "0"], "1"⟩ = .null ∧
    expectVal exFS3 ⟨.str "", ["ps", "outs"], "x"⟩ = .null ∧
    expectVal exFS3 ⟨.lit "17", ["ps", "outs"], "x"⟩ = .lit "17" := by
  refine ⟨?_, ?_, ?_, ?_⟩ <;> rfl

/-- … and the whole rewritten record of the six-leaf example (as the writer's token stream):
struct members, the directory and the missing file in the 2-dimensional array, the map entry. -/
example :
    emit (processStructOuts Gen.postProcessDimAware ["ps"] exSig3 (.obj exOuts3) ["ps", "outs"] exFS3).1 =
    emit (.obj [("s", .obj [("f", .str "/ps/outs/s/f.txt"), ("g", .str "/ps/outs/s/out.bin"), ("n", .lit "3")]),
      ("r", .arr [.arr [.str "/ps/outs/r/0/0", .null], .arr [.null, .str "/ps/outs/r/1/1"]]),
      ("m", .obj [("b", .arr []), ("k1", .arr [.str "/ps/outs/m/k1/0.bam"])])]) := by
  have hc := exSig3_clean
  rw [content_preserved_record ["ps"] ["ps", "outs"] exFS3 exSig3 exOuts3 exSig3_checked.1 hc.apart hc.nonnest
    hc.status hc.free]
  decide +kernel

/-- Negative witness (known finding `C13:overlapping-outputs`, in the model):
a directory output `d` and a file output `f` naming `d/inner`.  The sources are
nested, and after the traversal `outs/f` does NOT hold the content of
`d/inner` (in the model the inner file has moved away with its directory; the
real code reaches it through the symlink it left behind and breaks `outs/d`
instead — the harness replays that on the real code). -/
theorem overlapping_outputs_not_preserved :
    let fs : FS := { get := fun q => if q = ["ps", "MK", "files", "d", "inner"] then some (.file 12)
                       else if q = ["ps", "MK", "files", "d"] then some .dir else none, dom := [] }
    (processStructOuts true ["ps"] [("d", "", .file ""), ("f", "", .file "")]
        (.obj [("d", .str "/ps/MK/files/d"), ("f", .str "/ps/MK/files/d/inner")]) ["ps", "outs"] fs).2.get
        ["ps", "outs", "f"] ≠ fs.get ["ps", "MK", "files", "d", "inner"] := by decide +kernel

/-! ### one file bound to two outputs -/

/-- The second occurrence of a file that has already been moved to `d1`
(so the path is now the relative link back): its recorded value is `d1`, the
location of the FIRST output, and its own derived path `outs2/name2` becomes a
relative symlink to `d1`.  Guaranteed: the value points at a materialised
location holding the producer's content, and the content is reachable at the
output's own derived path.  NOT guaranteed: recorded value = own derived path
(known finding `C13:alias-record-points-at-first`). -/
theorem alias_second_output (ps outs2 : Path) (name2 s : String) (p d1 : Path) (e : Entry) (fs1 : FS)
    (hs : s ≠ "") (hp : parsePath s = some p)
    (hlink : fs1.get p = some (.link (.rel (relPath p.dropLast d1))))
    (hd1 : fs1.get d1 = some e) (hl : e.isLink = false)
    (hclean : ∀ c ∈ d1, cleanComp c = true)
    (hin : inside ps p = true)
    (hfree : statExists (mkdirAll fs1 outs2) statFuel (outs2 ++ [name2]) = false) :
    moveOutFile ps outs2 name2 (.str s) fs1 =
      (.str (renderPath d1),
        symlinkAt (mkdirAll fs1 outs2) (outs2 ++ [name2])
          (.rel (relPath (outs2 ++ [name2]).dropLast d1))) :=
  moveOutFile_alias ps outs2 name2 s p d1 e fs1 hs hp hlink hd1 hl hclean hin hfree

/-- the whole scenario, concretely: `r0 = f, r1 = f` -/
example :
    let r := handleOuts true ["ps"] [("r0", "", .file ""), ("r1", "", .file "")]
      [("r0", .str "/ps/MK/files/f"), ("r1", .str "/ps/MK/files/f")] ["ps", "outs"] exFS
    r.1.map (fun kv => (kv.1, kv.2.strVal)) = [("r0", some "/ps/outs/r0"), ("r1", some "/ps/outs/r0")] ∧
    r.2.get ["ps", "outs", "r0"] = some (.file 7) ∧
    r.2.get ["ps", "outs", "r1"] = some (.link (.rel ["r0"])) ∧
    r.2.get ["ps", "MK", "files", "f"] = some (.link (.rel ["..", "..", "outs", "r0"])) := by decide +kernel

/-! ### whole records and mapped top-level calls -/

/-- `shape_preserved` for a whole record: the rewritten record has exactly the
declared parameters present in `_outs`, in declaration order, each value of the
shape of the input value at the parameter's type. -/
theorem shape_preserved_record (ps : Path) (params : List (String × String × Ty)) (x : J) (top : Path)
    (fs : FS) : ShapeFork params x (processStructOuts Gen.postProcessDimAware ps params x top fs).1 := by
  rw [dim_aware]
  exact processStructOuts_shape ps params x top fs

/-- `shape_preserved` for a top-level call mapped over an array (`postArray`:
one record per fork, as many forks as before, fork `i` under `outs/<i>`) and
over a typed map (`postMap`: the same fork keys in the same order). -/
theorem shape_preserved_mapped (ps : Path) (params : List (String × String × Ty)) (top : Path) (fs : FS) :
    (∀ xs, All2 (ShapeFork params) xs (postArray Gen.postProcessDimAware ps params top 0 xs fs).1) ∧
    (∀ kvs, (postMap Gen.postProcessDimAware ps params top kvs fs).1.map Prod.fst = kvs.map Prod.fst ∧
      All2 (ShapeFork params) (kvs.map Prod.snd)
        ((postMap Gen.postProcessDimAware ps params top kvs fs).1.map Prod.snd)) := by
  rw [dim_aware]
  exact ⟨fun xs => postArray_shape ps params top 0 xs fs, fun kvs => postMap_shape ps params top kvs fs⟩

example (xs ys : List J) (R : J → J → Prop) (h : All2 R xs ys) : ys.length = xs.length := h.length_eq

/-! ### the verification gate makes the legal-key filter dead code -/

/-- A fork completes only when its outputs pass output verification; for typed
maps `TypedMapType.IsValidJson` demands legal file names as keys exactly when
the map is a directory kind (`keysVerified`, compared with the real
`ValidateOutputs` on every input of the direct stream).  For a value that
passed the gate, `moveOutDir`'s filter "skip keys that are not legal file
names" drops NOTHING: at every typed-map node of directory kind, at every
depth (through arrays of any dimension, structs, maps of maps), the rewritten
value has ALL the (sorted, de-duplicated) keys of the input (`AllKeysKept`;
`shape_preserved` alone only promises the LEGAL keys).  So a completed
pipestance never loses an entry — provided the gate really checks what
`keysVerified` says; weakening the gate breaks the correspondence and the
monitor's "same keys" check on the real code. -/
theorem verified_outputs_keep_all_keys (ps : Path) (ty : Ty) (id on : String) (v : J) (outs : Path) (fs : FS)
    (hv : keysVerified ty v = true) :
    AllKeysKept ty v (moveOut Gen.postProcessDimAware ps ty id on v outs fs).1 :=
  allKeysKept_of_shape ty v _ hv (shape_preserved ps ty id on v outs fs)

/-- non-vacuity: a map of structs with files under legal keys passes the gate; with a key `a/b`,
`..` or the empty string it does not; a map of plain numbers may have any keys -/
example :
    keysVerified (.tmap (.struct [("n", "", .scalar), ("report", "", .file "txt")]))
      (.obj [("s1", .obj [("n", .lit "1"), ("report", .str "/ps/f")]), ("report.txt", .null)]) = true ∧
    keysVerified (.tmap (.struct [("n", "", .scalar), ("report", "", .file "txt")]))
      (.obj [("a/b", .obj [("n", .lit "1"), ("report", .str "/ps/f")])]) = false ∧
    keysVerified (.tmap (.arr (.file "") 0)) (.obj [("..", .arr [])]) = false ∧
    keysVerified (.arr (.tmap (.file "bam")) 1) (.arr [.arr [.obj [("", .null)]]]) = false ∧
    keysVerified (.tmap .scalar) (.obj [("a/b", .lit "1"), ("", .lit "2")]) = true := by decide +kernel

/-- Negative witness (why the gate matters): an UNVERIFIED value — `map<STRUCT>` with the keys
`a/b` and `ok` — loses the entry `a/b` in the rewritten value, whatever the file system: its
non-file member `n` is gone from the record and its file is never looked at. -/
theorem unverified_key_is_dropped (fs : FS) :
    (match (moveOut true ["ps"] (.tmap (.struct [("n", "", .scalar), ("report", "", .file "txt")])) "m" ""
        (.obj [("a/b", .obj [("n", .lit "1"), ("report", .null)]), ("ok", .obj [("n", .lit "2"), ("report", .null)])])
        ["ps", "outs"] fs).1 with
     | .obj kvs => kvs.map Prod.fst
     | _ => []) = ["ok"] := by rfl

/-! ### mapped top-level calls: from the fork key to its directory under outs/ -/

/-- Regenerated obligation: in `Fork.postProcess` of the current source the
directory handed to `processStructOuts` is `path.Join(outsPath, strconv.Itoa(i))`
for fork `i` of a call mapped over an array, `path.Join(outsPath, k)` for fork
key `k` of a call mapped over a typed map (the key itself, nothing in between —
modelled by `joinKey`), and `outsPath` otherwise.  A change that routes the key
through a sanitiser / encoder / different join breaks this. -/
theorem mapped_fork_dir_is_joined_key :
    Gen.postProcessForkDirs_extracted = true ∧
    Gen.postProcessForkDirs =
      [("ArrayType", "path.Join(outsPath, strconv.Itoa(<rangekey>))"),
       ("TypedMapType", "path.Join(outsPath, <rangekey>)"),
       ("default", "outsPath")] := by decide +kernel

/-- A fork key that is a legal file name (`IsLegalUnixFilename`: 1–255 bytes,
not `.`/`..`, no `/`, no NUL) is used verbatim as ONE directory below outs/. -/
theorem mapped_key_dir_legal (outs : Path) (k : String) (h : legalName k = true) :
    joinKey outs k = outs ++ [k] := joinKey_legal outs k h

example : legalName "lib_A" = true ∧ legalName "é x" = true ∧ legalName "a." = true ∧ legalName "..a" = true ∧
    legalName "lib/A" = false ∧ legalName "" = false ∧ legalName ".." = false := by decide +kernel

/-- Distinct fork keys that are all legal file names get directories that are
pairwise incomparable and lie below outs/ (`keysSeparable`).  `keysSeparable`
is decidable and weaker than legality: `{"lib/A", "lib_A"}` is separable too. -/
theorem mapped_legal_keys_separable (outs : Path) (keys : List String) (hnd : keys.Nodup)
    (hl : ∀ k ∈ keys, legalName k = true) : keysSeparable outs keys = true :=
  legal_keys_separable outs keys hnd hl

example : keysSeparable ["ps", "outs"] ["lib/A", "lib_A", "plain"] = true ∧
    keysSeparable ["ps", "outs"] ["a", "A", "a.", ".a", "a_b", "é"] = true := by decide +kernel

/-- `dest_injective` ACROSS the forks of a top-level call mapped over a typed
map.  Well-formed signature, any per-key records, fork keys whose directories
are separable: the `moveOutFile` calls of ALL forks (`leavesMap`; fourth
conjunct: the file-system effect of `postMap` is fork after fork "create the
fork's directory, then the left fold of `moveOutFile` over the fork's leaves")
have pairwise INCOMPARABLE destinations — no (key, leaf) shares a destination
with, or is nested in, another (key', leaf') — and every destination lies below
outs/.  Without separability the statement is false
(`mapped_key_dirs_not_injective`, `mapped_colliding_keys_second_skipped`). -/
theorem dest_injective_mapped (params : List (String × String × Ty)) (top : Path) (kvs : List (String × J))
    (h : wfParams params = true) (hs : keysSeparable top (kvs.map Prod.fst) = true) :
    (leavesMap params top kvs).Pairwise LeafIncomp ∧
    ((leavesMap params top kvs).map Leaf.dest).Nodup ∧
    (∀ l ∈ leavesMap params top kvs, Under top l.dest) ∧
    (∀ ps fs, (postMap Gen.postProcessDimAware ps params top kvs fs).2 = runForks ps params top kvs fs) := by
  refine ⟨leavesMap_pairwise params top kvs h hs, pairwise_incomp_nodup (leavesMap_pairwise params top kvs h hs),
    leavesMap_under params top kvs h hs, fun ps fs => ?_⟩
  rw [dim_aware]
  exact postMap_run ps params top kvs fs

/-- non-vacuity: three keys with a file, an array of files and a scalar -/
example : wfParams [("report", "", .file "txt"), ("parts", "", .arr (.file "") 0), ("count", "", .scalar)] = true ∧
    keysSeparable ["ps", "outs"]
      ([("lib/A", J.obj []), ("lib_A", J.obj []), ("plain", J.obj [])].map Prod.fst) = true := by decide +kernel

/-- Regenerated obligation (F24): in the
source the loop over the fork keys of a top-level call mapped over a typed map
starts with `if err := syntax.IsLegalUnixFilename(k); err != nil { errs =
append(errs, …); …; continue }` — a key that is not a legal file name is
refused with an error, its fork is not moved and its record entry is kept
(model: `postMapChecked`); and (F25) `moveOutDir`'s branch for such a key of a
typed-map VALUE appends to `errs` as well, so the dropped entry is a reported
post-processing failure, not a silent one. -/
theorem mapped_keys_checked :
    Gen.postProcessMappedKeyCheck_extracted = true ∧ Gen.postProcessMappedKeyCheck = true ∧
    Gen.postProcessIllegalKeyIsError_extracted = true ∧ Gen.postProcessIllegalKeyIsError = true := by decide

/-- What the checked branch (`postMapChecked`) does with ANY key set: the rewritten record has
the same fork keys in the same order; the entry of every refused key (not a
legal file name) is in it UNCHANGED; and the file-system effect is exactly the
effect of processing the legal forks alone (`legalForks`), each in `outs/<key>`.
When all keys are legal the checked branch is `postMap`, the branch without the key check. -/
theorem mapped_illegal_key_is_refused (ps : Path) (params : List (String × String × Ty)) (top : Path)
    (kvs : List (String × J)) (fs : FS) :
    (postMapChecked Gen.postProcessDimAware ps params top kvs fs).1.map Prod.fst = kvs.map Prod.fst ∧
    (∀ kv ∈ kvs, legalName kv.1 = false →
      kv ∈ (postMapChecked Gen.postProcessDimAware ps params top kvs fs).1) ∧
    (postMapChecked Gen.postProcessDimAware ps params top kvs fs).2 =
      (postMap Gen.postProcessDimAware ps params top (legalForks kvs) fs).2 ∧
    ((∀ kv ∈ kvs, legalName kv.1 = true) →
      postMapChecked Gen.postProcessDimAware ps params top kvs fs =
        postMap Gen.postProcessDimAware ps params top kvs fs) :=
  ⟨postMapChecked_keys _ ps params top kvs fs, fun kv hm hk => postMapChecked_refused _ ps params top kvs fs kv hm hk,
    postMapChecked_fs _ ps params top kvs fs, postMapChecked_eq_of_legal _ ps params top kvs fs⟩

/-- `dest_injective` for the checked branch, for EVERY key set (the keys of a
JSON object are distinct; no separability hypothesis): the `moveOutFile` calls
of all processed forks have pairwise incomparable, hence distinct,
destinations, and the file-system effect is fork after fork over the legal
forks. -/
theorem dest_injective_mapped_checked (params : List (String × String × Ty)) (top : Path) (kvs : List (String × J))
    (h : wfParams params = true) (hnd : (kvs.map Prod.fst).Nodup) :
    (leavesMap params top (legalForks kvs)).Pairwise LeafIncomp ∧
    ((leavesMap params top (legalForks kvs)).map Leaf.dest).Nodup ∧
    (∀ ps fs, (postMapChecked Gen.postProcessDimAware ps params top kvs fs).2 =
      runForks ps params top (legalForks kvs) fs) := by
  obtain ⟨a, b, _, d⟩ := dest_injective_mapped params top (legalForks kvs) h (legalForks_separable top kvs hnd)
  exact ⟨a, b, fun ps fs => by rw [postMapChecked_fs, d]⟩

/-- With the key check NOTHING is materialised outside outs/, whatever the keys:
every destination of every processed fork lies below `outs/<k>` for a legal
file name `k` (so not in outs/ itself, not in the pipestance directory, not in
another fork's directory). -/
theorem mapped_nothing_outside_outs (params : List (String × String × Ty)) (top : Path) (kvs : List (String × J))
    (h : wfParams params = true) :
    ∀ l ∈ leavesMap params top (legalForks kvs), ∃ k, legalName k = true ∧ Under (top ++ [k]) l.dest :=
  leavesMap_legal_under params top kvs h

/-- `content_preserved` LIFTED TO MAPPED TOP-LEVEL CALLS (checked branch,
`postMapChecked`), both halves, for every key set with distinct keys.
Well-formed signature; the leaves of ALL legal forks together
(`leavesMap params top (legalForks kvs)`: fork `k` works below `top/<k>`) have
sources that are pairwise non-nested ACROSS forks too, apart from outs/, each
missing or a regular file/directory inside the pipestance, and free
destinations — in the ORIGINAL file system `fs`.  Then after the whole call:
(a) the destination of every leaf of every legal fork holds exactly the tree
    that was at its source in the original `fs` (`∀ suf`);
(b) the rewritten record is `expectedMapped fs …`: the entry of every legal key
    `k` is `.obj (pureOuts (expectVal fs) params (fields of its record) (top/<k>))`
    with `expectVal` judged in the ORIGINAL `fs`, the entry of every refused
    key (not a legal file name) is unchanged, same keys in the same order;
(c) every path that is not a prefix of `top/<k>` for any name `k` (so neither
    outs/ or a directory above it, nor a direct child of outs/, whether or not a
    fork uses it) and is unrelated to the sources and destinations of the legal
    forks' leaves is untouched — in particular the files of the refused forks
    stay where they are.
The incomparability of the destinations and their position below `top/<k>` are
not assumed (`dest_injective_mapped_checked`, `mapped_nothing_outside_outs`);
the forks may be visited in any order of the list (the code visits them in
sorted key order). -/
theorem content_preserved_mapped (ps top : Path) (fs : FS) (params : List (String × String × Ty))
    (kvs : List (String × J)) (hwf : wfParams params = true) (hnd : (kvs.map Prod.fst).Nodup)
    (apart : ∀ l ∈ leavesMap params top (legalForks kvs), ∀ p, l.src = some p → ¬ p <+: top ∧ ¬ top <+: p)
    (nonnest : (leavesMap params top (legalForks kvs)).Pairwise (fun l1 l2 => ∀ p1 p2, l1.src = some p1 →
      l2.src = some p2 → ¬ p1 <+: p2 ∧ ¬ p2 <+: p1))
    (status : ∀ l ∈ leavesMap params top (legalForks kvs), ∀ p, l.src = some p →
      fs.get p = none ∨ ∃ e, fs.get p = some e ∧ e.isLink = false ∧ inside ps p = true)
    (free : ∀ l ∈ leavesMap params top (legalForks kvs), fs.get l.dest = none) :
    (∀ l ∈ leavesMap params top (legalForks kvs), ∀ p e, l.src = some p → fs.get p = some e → ∀ suf,
      (postMapChecked Gen.postProcessDimAware ps params top kvs fs).2.get (l.dest ++ suf) = fs.get (p ++ suf)) ∧
    (postMapChecked Gen.postProcessDimAware ps params top kvs fs).1 = expectedMapped fs params top kvs ∧
    (∀ q, (∀ k, ¬ q <+: top ++ [k]) →
      (∀ l ∈ leavesMap params top (legalForks kvs),
        (∀ p, l.src = some p → ¬ p <+: q) ∧ ¬ l.dest <+: q ∧ ¬ q <+: l.outs) →
      (postMapChecked Gen.postProcessDimAware ps params top kvs fs).2.get q = fs.get q) := by
  rw [dim_aware]
  have hc := clean_mapped ps top fs params kvs hwf hnd apart nonnest status free
  have hlen := fun l hl => (LM_below params top kvs hwf l hl).2
  obtain ⟨ha, hb⟩ := content_mapped ps top params fs kvs fs hc hlen (fun _ _ _ _ _ => rfl)
  exact ⟨ha, hb, fun q hq h =>
    postMapChecked_frame ps top params kvs fs hc hlen q (fun k => isPrefix_false_iff.mpr (hq k)) h⟩

/-- non-vacuity: three fork keys, one of them refused (`a/`), two file leaves per fork; the
signature is well formed, the three keys (spelt out) distinct, and ALL side conditions hold (decidable check over the
leaves of the legal forks together) -/
example :
    wfParams [("r", "", .file ""), ("s", "", .file "txt")] = true ∧
    (([("a", J.null), ("a/", J.null), ("b", J.null)] : List (String × J)).map Prod.fst).Nodup ∧
    cleanB ["ps"] ["ps", "outs"] exFSM
      (leavesMap [("r", "", .file ""), ("s", "", .file "txt")] ["ps", "outs"] (legalForks exKvsM)) = true ∧
    (leavesMap [("r", "", .file ""), ("s", "", .file "txt")] ["ps", "outs"] (legalForks exKvsM)).length = 4 :=
  exKvsM_checked

/-- … and the theorem instantiated on it: the rewritten record (the refused fork `a/` unchanged, the
others pointing below `outs/a`, `outs/b`), and fork `b`'s second file at `outs/b/s.txt` -/
example :
    (postMapChecked Gen.postProcessDimAware ["ps"] [("r", "", .file ""), ("s", "", .file "txt")] ["ps", "outs"]
        exKvsM exFSM).1.map (fun kv => (kv.1, emit kv.2)) =
      [("a", emit (.obj [("r", .str "/ps/outs/a/r"), ("s", .str "/ps/outs/a/s.txt")])),
       ("a/", emit (.obj [("r", .str "/ps/MK/fork1/files/f"), ("s", .str "/ps/MK/fork1/files/g")])),
       ("b", emit (.obj [("r", .str "/ps/outs/b/r"), ("s", .str "/ps/outs/b/s.txt")]))] ∧
    (postMapChecked Gen.postProcessDimAware ["ps"] [("r", "", .file ""), ("s", "", .file "txt")] ["ps", "outs"]
        exKvsM exFSM).2.get ["ps", "outs", "b", "s.txt"] = some (.file 6) := by
  have hf := cleanB_fields ["ps"] ["ps", "outs"] exFSM
    (leavesMap [("r", "", .file ""), ("s", "", .file "txt")] ["ps", "outs"] (legalForks exKvsM)) exKvsM_checked.2.2.1
  obtain ⟨ha, hb, _⟩ := content_preserved_mapped ["ps"] ["ps", "outs"] exFSM
    [("r", "", .file ""), ("s", "", .file "txt")] exKvsM exKvsM_checked.1 (by decide +kernel) hf.1 hf.2.1 hf.2.2.1 hf.2.2.2
  have hl : leavesMap [("r", "", .file ""), ("s", "", .file "txt")] ["ps", "outs"] (legalForks exKvsM) =
      [⟨.str "/ps/MK/fork0/files/f", ["ps", "outs", "a"], "r"⟩, ⟨.str "/ps/MK/fork0/files/g", ["ps", "outs", "a"], "s.txt"⟩,
       ⟨.str "/ps/MK/fork2/files/f", ["ps", "outs", "b"], "r"⟩,
       ⟨.str "/ps/MK/fork2/files/g", ["ps", "outs", "b"], "s.txt"⟩] := by rfl
  constructor
  · rw [hb]; decide +kernel
  · have := ha ⟨.str "/ps/MK/fork2/files/g", ["ps", "outs", "b"], "s.txt"⟩
      (by rw [hl]; simp)
      ["ps", "MK", "fork2", "files", "g"] (.file 6) (by decide +kernel) (by decide +kernel) []
    exact get_at_dest this rfl (by decide +kernel)

/-- the keys of F24 under the checked branch: `..` and `a/` are refused (entries unchanged, their
files stay where they are, nothing appears in the pipestance directory), `a` is materialised -/
example :
    let r := postMapChecked true ["ps"] [("r", "", .file "")] ["ps", "outs"]
      [("..", .obj [("r", .str "/ps/MK/fork0/files/f")]), ("a", .obj [("r", .str "/ps/MK/fork1/files/f")]),
       ("a/", .obj [("r", .str "/ps/MK/fork0/files/f")])] exFS2
    r.1.map (fun kv => (kv.1, recStr kv.2 "r")) =
      [("..", some "/ps/MK/fork0/files/f"), ("a", some "/ps/outs/a/r"), ("a/", some "/ps/MK/fork0/files/f")] ∧
    r.2.get ["ps", "r"] = none ∧ r.2.get ["ps", "outs", "a", "r"] = some (.file 2) ∧
    r.2.get ["ps", "MK", "fork0", "files", "f"] = some (.file 1) ∧
    refusedKeys [("..", J.null), ("a", J.null), ("a/", J.null)] = ["..", "a/"] := by decide +kernel

/-- Negative witness FOR THE LOOP WITHOUT THE KEY CHECK (`postMap`, F24; like
`multidim_not_moved_before_fix` for F5), key → directory (what `path.Join` does with keys that are
not legal file names; the harness replays each line on the real code): the
keys `a`, `a/`, `./a`, `a/.`, `x/../a` share ONE directory; `""` and `"."`
are outs/ itself; `".."` is the pipestance directory (outside outs/);
`"../x"` lies outside outs/; `"a/b"` is nested inside the directory of `"a"`;
`"a//b"` and `"a/./b"` are the directory of `"a/b"`. -/
theorem mapped_key_dirs_not_injective :
    joinKey ["ps", "outs"] "a" = ["ps", "outs", "a"] ∧ joinKey ["ps", "outs"] "a/" = ["ps", "outs", "a"] ∧
    joinKey ["ps", "outs"] "./a" = ["ps", "outs", "a"] ∧ joinKey ["ps", "outs"] "a/." = ["ps", "outs", "a"] ∧
    joinKey ["ps", "outs"] "x/../a" = ["ps", "outs", "a"] ∧
    joinKey ["ps", "outs"] "" = ["ps", "outs"] ∧ joinKey ["ps", "outs"] "." = ["ps", "outs"] ∧
    joinKey ["ps", "outs"] ".." = ["ps"] ∧ joinKey ["ps", "outs"] "../x" = ["ps", "x"] ∧
    joinKey ["ps", "outs"] "a/b" = ["ps", "outs", "a", "b"] ∧
    joinKey ["ps", "outs"] "a//b" = ["ps", "outs", "a", "b"] ∧ joinKey ["ps", "outs"] "a/./b" = ["ps", "outs", "a", "b"] ∧
    keysSeparable ["ps", "outs"] ["a", "a/"] = false ∧ keysSeparable ["ps", "outs"] ["a", "a/b"] = false ∧
    keysSeparable ["ps", "outs"] ["", "x"] = false ∧ keysSeparable ["ps", "outs"] [".."] = false := by decide +kernel

/-- Negative witness for the loop WITHOUT the key check (`postMap`, F24), whole run:
`map call … split {"a": …, "a/": …}`, one `file r` output per fork, fork `a`
processed first.  Both keys use the directory outs/a.  Fork `a/` finds its
destination outs/a/r occupied, so `moveOutFile` takes its "already moved"
exit: the record of `a/` still names the stage's file, that file is NOT moved,
outs/a/r holds the content of fork `a`, and nothing is reported.  The harness
replays this on the real code. -/
theorem mapped_colliding_keys_second_skipped :
    let r := postMap true ["ps"] [("r", "", .file "")] ["ps", "outs"]
      [("a", .obj [("r", .str "/ps/MK/fork0/files/f")]), ("a/", .obj [("r", .str "/ps/MK/fork1/files/f")])] exFS2
    r.1.map (fun kv => (kv.1, recStr kv.2 "r")) =
      [("a", some "/ps/outs/a/r"), ("a/", some "/ps/MK/fork1/files/f")] ∧
    r.2.get ["ps", "outs", "a", "r"] = some (.file 1) ∧
    r.2.get ["ps", "MK", "fork1", "files", "f"] = some (.file 2) := by decide +kernel

/-- Negative witness for the loop WITHOUT the key check (`postMap`, F24), a key that leaves outs/: with the single fork key `..`
the output is materialised in the pipestance directory itself, not under outs/. -/
theorem mapped_dotdot_key_escapes_outs :
    let r := postMap true ["ps"] [("r", "", .file "")] ["ps", "outs"]
      [("..", .obj [("r", .str "/ps/MK/fork0/files/f")])] exFS2
    r.1.map (fun kv => (kv.1, recStr kv.2 "r")) = [("..", some "/ps/r")] ∧
    r.2.get ["ps", "r"] = some (.file 1) ∧ r.2.get ["ps", "outs", "r"] = none := by decide +kernel

/-! ### the record stays valid under a crash or an I/O fault -/

/-- Regenerated obligations: on the post-processing path the `_outs` record is
written exactly once, with `Metadata.WriteAtomic`, and `writeAtomicAt` writes a
temp file and then renames it over the target.  Replacing the call by an
in-place writer (`Write`, `WriteRaw`, …) or re-ordering the steps breaks this. -/
theorem outs_rewrite_is_atomic :
    Gen.postProcessOutsWriters_extracted = true ∧ Gen.writeAtomicSteps_extracted = true ∧
    Gen.postProcessOutsWriters.map writerOfName = [some .atomic] ∧ Gen.writeAtomicSteps = atomicSteps := by
  decide +kernel

theorem outs_writers_are_atomic : Gen.postProcessOutsWriters.filterMap writerOfName = [.atomic] := by
  have := congrArg (List.filterMap id) outs_rewrite_is_atomic.2.2.1
  simpa [List.filterMap_map] using this

/-- The record PATH under a cut write, on the file system of byte files
(`BFS`; the steps of `writeAtomicAt` are `writeAtomicCut`: open `<target>.tmp`,
its bytes, then `rename` — the regenerated `Gen.writeAtomicSteps` pins that
order; the ONLY assumption is the atomicity of `rename(2)`, which is the
semantics of `BFS.rename`).  For every writer the post-processing path uses
(`Gen.postProcessOutsWriters`), every file system in which the record path
holds `old`, every new record and EVERY cut point `k`:
* the record path holds exactly `old` or exactly `new` — never a fragment;
* it holds `old` as long as the rename has not happened (`k ≤ |new| + 1`) and
  then the `.tmp` sibling holds the `k-1`-byte prefix of `new` (a torn temp
  file is possible, a torn record is not); once the rename has happened it
  holds `new` and the temp name is gone;
* no other path changes.
The fault streams observe exactly these pairs (record, temp sibling) on the
real tree, and `writeAtomic` itself is run under RLIMIT_FSIZE against this
function on every run. -/
theorem record_path_old_or_new (fs : BFS) (target : Path) (old new : List UInt8) (k : Nat)
    (h : fs target = some old) :
    ∀ w ∈ Gen.postProcessOutsWriters.filterMap writerOfName,
      (writeCut w fs target new k target = some old ∨ writeCut w fs target new k target = some new) ∧
      (0 < k → k ≤ new.length + 1 →
        writeCut w fs target new k target = some old ∧
        writeCut w fs target new k (tmpPath target) = some (new.take (k - 1))) ∧
      (new.length + 1 < k →
        writeCut w fs target new k target = some new ∧ writeCut w fs target new k (tmpPath target) = none) ∧
      (∀ q, q ≠ target → q ≠ tmpPath target → writeCut w fs target new k q = fs q) := by
  intro w hw
  rw [outs_writers_are_atomic] at hw
  rw [List.mem_singleton.mp hw]
  obtain ⟨_, s1, s2, s3⟩ := writeAtomicCut_spec fs target new k
  refine ⟨(writeAtomicCut_record fs target old new k h).1, fun h0 h1 => ?_, s2, s3⟩
  exact ⟨(writeAtomicCut_record fs target old new k h).2.1 h1, (s1 h0 h1).2⟩

/-- non-vacuity: `{}` replaced by `{"a":1}`, cut after the open and 3 bytes: record still `{}`, temp file `{"a` -/
example :
    let fs : BFS := fun q => if q = ["ps", "TOP", "fork0", "_outs"] then some [0x7B, 0x7D] else none
    writeCut .atomic fs ["ps", "TOP", "fork0", "_outs"] [0x7B, 0x22, 0x61, 0x22, 0x3A, 0x31, 0x7D] 4
        ["ps", "TOP", "fork0", "_outs"] = some [0x7B, 0x7D] ∧
    writeCut .atomic fs ["ps", "TOP", "fork0", "_outs"] [0x7B, 0x22, 0x61, 0x22, 0x3A, 0x31, 0x7D] 4
        ["ps", "TOP", "fork0", "_outs.tmp"] = some [0x7B, 0x22, 0x61] ∧
    tmpPath ["ps", "TOP", "fork0", "_outs"] = ["ps", "TOP", "fork0", "_outs.tmp"] := by decide +kernel

/-- Negative witness on the file system: the in-place writer (`os.WriteFile`)
cut after the open and 3 bytes leaves the record PATH holding a fragment that
is neither the old nor the new record; for every cut after the open the path
holds the prefix written so far. -/
theorem inplace_writer_tears_record_path :
    (let fs : BFS := fun q => if q = ["ps", "TOP", "fork0", "_outs"] then some [0x7B, 0x7D] else none
     writeCut .inplace fs ["ps", "TOP", "fork0", "_outs"] [0x7B, 0x22, 0x61, 0x22, 0x3A, 0x31, 0x7D] 4
        ["ps", "TOP", "fork0", "_outs"] = some [0x7B, 0x22, 0x61]) ∧
    (∀ (fs : BFS) target new k, 0 < k →
      writeCut .inplace fs target new k target = some (new.take (k - 1))) :=
  ⟨by decide +kernel, fun fs target new k h0 => writeInplaceCut_record fs target new k h0⟩

/-- Negative witness: an in-place writer cut after 3 bytes leaves a fragment
that is neither the old nor the new record. -/
theorem inplace_writer_tears_record :
    recordAfterFault .inplace [0x7B, 0x7D] [0x7B, 0x22, 0x61, 0x22, 0x3A, 0x31, 0x7D] 4 = [0x7B, 0x22, 0x61] ∧
    recordAfterFault .inplace [0x7B, 0x7D] [0x7B, 0x22, 0x61, 0x22, 0x3A, 0x31, 0x7D] 4 ≠ [0x7B, 0x7D] ∧
    recordAfterFault .inplace [0x7B, 0x7D] [0x7B, 0x22, 0x61, 0x22, 0x3A, 0x31, 0x7D] 4 ≠
      [0x7B, 0x22, 0x61, 0x22, 0x3A, 0x31, 0x7D] := by decide +kernel

/-! ### every writer of `_outs` -/

/-- Regenerated obligation: the complete list of call sites in martian/ and
cmd/ (tests and verif hooks excluded) that write the `_outs` metadata file —
(site, Metadata method, atomic?, next publishing call in the same function,
last publishing call that definitely precedes the write).
`atomic` is derived from the BODY of the method (least fixpoint over the call
graph of metadata.go / write_atomic_linux.go: it reaches `writeAtomicAt` and no
`os.WriteFile`/`OpenFile`/`Create`), not from its name.  A new writer, a
writer changed from atomic to in-place (or the reverse), or a write moved
behind its completion marker changes this list. -/
theorem outs_writers_enumerated :
    Gen.allOutsWriters_extracted = true ∧
    Gen.allOutsWriters =
      [("martian/adapter/adapter.go:runMain", "Write", false, "UpdateJournal(OutsFile)", ""),
       ("martian/core/post_process.go:Fork.postProcess", "WriteAtomic", true, "", ""),
       ("martian/core/stage.go:Chunk.step", "Write", false, "runChunk", ""),
       ("martian/core/stage.go:Fork.writeDisable", "Write", false, "skip", ""),
       ("martian/core/stage.go:Fork.doJoin", "Write", false, "runJoin", ""),
       ("martian/core/stage.go:Fork.doJoin", "WriteRawBytes", false, "WriteTime(CompleteFile)", ""),
       ("martian/core/stage.go:Fork.doComplete", "WriteRaw", false, "WriteTime(CompleteFile)", ""),
       ("martian/core/stage.go:Fork.doComplete", "Write", false, "WriteTime(CompleteFile)", ""),
       ("martian/core/stage.go:Fork.doComplete", "WriteRaw", false, "WriteTime(CompleteFile)", ""),
       ("martian/core/stage.go:Fork.stepPipeline", "Write", false, "WriteTime(CompleteFile)", "")] := by decide +kernel

/-- What the list says, as checkable consequences: (1) the only atomic writer
is the post-processing rewrite, and it is the only writer that REPLACES the
record of an already completed fork (no publishing call follows it);
(2) every in-place writer is followed, in the same function, by the call that
publishes the record or starts the job that overwrites it (`WriteTime` of the
completion marker, `skip` = `WriteTime(DisabledFile)`, `UpdateJournal(OutsFile)`
in the job's adapter, `runChunk`/`runJoin`), and NO writer is preceded by such a
call on its own control path: the in-place write of a record strictly precedes
its completion marker, so a reader that waits for the marker never sees it half
written; (3) the derived atomicity agrees with the classification by name used
by `outs_rewrite_is_atomic`. -/
theorem outs_writers_atomic_or_before_marker :
    Gen.allOutsWriters_extracted = true ∧
    (Gen.allOutsWriters.filter (fun w => w.2.2.1)).map (fun w => (w.1, w.2.1)) =
      [("martian/core/post_process.go:Fork.postProcess", "WriteAtomic")] ∧
    (∀ w ∈ Gen.allOutsWriters, w.2.2.1 = false → w.2.2.2.1 ≠ "") ∧
    (∀ w ∈ Gen.allOutsWriters, w.2.2.2.1 = "" → w.2.2.1 = true) ∧
    (∀ w ∈ Gen.allOutsWriters, w.2.2.2.2 = "") ∧
    (∀ w ∈ Gen.allOutsWriters,
      writerOfName w.2.1 = some (if w.2.2.1 then RecordWriter.atomic else RecordWriter.inplace)) := by decide +kernel

/-! ### F5: multi-dimensional arrays -/

/-- With the elements of a multi-dimensional array handed to the handler of the element type (`dimAware = false`),
a `file[][]` value `[["/ps/f"]]` is returned unchanged and the file is not
moved, whatever the file system: nothing of it reaches outs/. -/
theorem multidim_not_moved_before_fix (fs : FS) :
    moveOut false ["ps"] (.arr (.file "") 1) "r" "" (.arr [.arr [.str "/ps/f"]]) ["ps", "outs"] fs
      = (.arr [.arr [.str "/ps/f"]], fs) := by rfl

/-! ### definitional unfoldings (documentation of the model, not guarantees) -/

/-- `recordAfterFault` is the byte-level SUMMARY of what the record path holds:
for the atomic writer it is DEFINED as "old until the rename, then new", so
"old ∨ new" holds by definition.  The statement with content is
`record_path_old_or_new` (file-system model, two steps, cut anywhere);
`recordAfterFault_agrees` says the summary is what that model yields. -/
theorem record_old_or_new (old new : List UInt8) (k : Nat) :
    ∀ w ∈ Gen.postProcessOutsWriters.filterMap writerOfName,
      recordAfterFault w old new k = old ∨ recordAfterFault w old new k = new := by
  intro w hw
  rw [outs_writers_are_atomic] at hw
  rw [List.mem_singleton.mp hw]
  simp only [recordAfterFault]
  split
  · exact Or.inr rfl
  · exact Or.inl rfl

/-- the summary agrees with the file-system model, for both writers -/
theorem recordAfterFault_agrees (w : RecordWriter) (fs : BFS) (target : Path) (old new : List UInt8) (k : Nat)
    (h : fs target = some old) :
    writeCut w fs target new k target = some (recordAfterFault w old new k) :=
  recordAfterFault_eq w fs target old new k h

end Props.C13
