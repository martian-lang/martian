/-
C15 tie: `Pipestance.Lock` TRANSLATED from martian/core/pipestance.go on every
run (`Gen.tr_Lock`, extract/translate*.go, "effects" extension).  The term is a
function of the outcome of the exclusive create of `_lock`
(`created` = Go `err == nil`; `exists_` = Go `os.IsExist(err)`) to the pair
(trace of the modelled effects in program order, verdict of `Lock()`:
`none` = nil, `some "PipestanceLockedError"`).  The tie theorems relate it to the
lock protocol LTS of `Martian.LockLTS` (`step`, actions `acquire` / `register` /
`acquireFail` / `acquireErr` through `createErr`) and to the regenerated facts `Gen.c15RegisterFirst`.
-/
import Martian.EquivLockLTS
import Gen.Facts

namespace Props.C15
open Martian.LockLTS

/-- the outcomes of the create (`created`, `exists_`), as the code treats them -/
theorem tr_Lock_table :
    Gen.tr_Lock true false = (["loadCache", "create", "close", "RegisterSignalHandler", "WriteTime"], none) ∧
    Gen.tr_Lock true true = (["loadCache", "create", "close", "RegisterSignalHandler", "WriteTime"], none) ∧
    Gen.tr_Lock false true = (["loadCache", "create"], some "PipestanceLockedError") ∧
    Gen.tr_Lock false false = (["loadCache", "create"], some "error of create") := by
  decide +kernel

/-- the LTS parameter "a create error other than 'exists' is IGNORED" (a `Lock()` that
logs it and goes on: `acquireErr`; one that returns it: `acquireFail`), read off the translated code: is `Lock()`'s result nil then? -/
def createErrIgnoredOf (tr : Bool → Bool → List String × Option String) : Bool :=
  (tr false false).2.isNone

/-- the LTS actions one call of `Lock()` by process `p` performs -/
def lockActs (p : Nat) (created exists_ : Bool) : List Act :=
  if created then [.acquire p, .register p] else if exists_ then [.acquire p]
  else [createErr (createErrIgnoredOf Gen.tr_Lock) p]

/-- run the actions, collecting the verdict of the first one (the create) -/
def runActs (regFirst : Bool) (s : St) : List Act → St × Bool
  | [] => (s, true)
  | a :: r => ((runActs regFirst (step regFirst false s a).1 r).1, (step regFirst false s a).2)

/-- the LTS parameter `regFirst` ("the signal handler is registered before the
lock is owned"), read off the translated code: does a REFUSED call register it? -/
def regFirstOf (tr : Bool → Bool → List String × Option String) : Bool :=
  (tr false true).1.contains "RegisterSignalHandler"

/-- THE TIE: what the translated `Lock()` does is what the LTS says, for every
state and every outcome of the create that the OS can produce in that state
(`O_EXCL`: the create succeeds only if `_lock` does not exist, and fails with
"exists" only if it does): after the LTS actions of the call
 * `p` has the signal handler registered iff the code called
   `util.RegisterSignalHandler` (`p` was not registered before),
 * `p` owns the lock iff the create succeeded (`p` did not own it before),
 * the lock file exists iff it existed or was created,
 * the verdict of the LTS's `acquire` is `Lock()`'s result being nil –
with the LTS parameter `regFirst` instantiated by what the translated code does on
a refusal (`regFirstOf`). -/
theorem tr_Lock_refines_lts (s : St) (p : Nat) (created exists_ : Bool)
    (hh : s.holders.contains p = false) (hr : s.registered.contains p = false)
    (hc : created = true → s.lockFile = false) (he : created = false → exists_ = true → s.lockFile = true) :
    let r := runActs (regFirstOf Gen.tr_Lock) s (lockActs p created exists_)
    r.1.registered.contains p = (Gen.tr_Lock created exists_).1.contains "RegisterSignalHandler" ∧
    r.1.holders.contains p = created ∧
    r.1.lockFile = (s.lockFile || created) ∧
    r.2 = (Gen.tr_Lock created exists_).2.isNone := by
  have hrf : regFirstOf Gen.tr_Lock = false := by decide +kernel
  have hci : createErrIgnoredOf Gen.tr_Lock = false := by decide +kernel
  have hh' : ¬ p ∈ s.holders := by simpa using hh
  have hr' : ¬ p ∈ s.registered := by simpa using hr
  cases created <;> cases exists_
  · -- any other error: returned, nothing happens (acquireFail)
    simp [lockActs, createErr, hci, runActs, step, Gen.tr_Lock, hh', hr']
  · -- refused
    have hl := he rfl rfl
    simp [lockActs, runActs, step, hrf, Gen.tr_Lock, hh', hr', hl]
  · have hl := hc rfl
    simp [lockActs, runActs, step, hrf, Gen.tr_Lock, hl]
  · have hl := hc rfl
    simp [lockActs, runActs, step, hrf, Gen.tr_Lock, hl]

/-- the regenerated fact of C15 "a create error other than 'exists' is ignored"
(`Gen.c15LockCreateErrorIgnored`, false on the tree under test) agrees with the translated
code, and such a call is inert: it neither registers the handler nor writes the
lock file (the later, non-exclusive `WriteTime` could take over a lock another
instance created in the meantime) -/
theorem tr_Lock_create_error_is_returned :
    Gen.c15LockCreateErrorIgnored = createErrIgnoredOf Gen.tr_Lock ∧
    Gen.tr_Lock false false = (["loadCache", "create"], some "error of create") := by
  decide +kernel

/-- the textual order fact of C15 (`Gen.c15RegisterFirst`: "RegisterSignalHandler is
called before the lock is owned") agrees with the translated code: an instance
that is refused never registers the handler, and whenever the handler is
registered the create came first -/
theorem tr_Lock_register_after_create :
    Gen.c15RegisterFirst = regFirstOf Gen.tr_Lock ∧
    ∀ created exists_, (Gen.tr_Lock created exists_).1.contains "RegisterSignalHandler" = true →
      ((Gen.tr_Lock created exists_).1.takeWhile (· != "RegisterSignalHandler")).contains "create" = true ∧
      (Gen.tr_Lock created exists_).2 = none := by
  refine ⟨by decide +kernel, ?_⟩
  intro c e
  cases c <;> cases e <;> decide

/-- a refused instance has no effect besides the attempt itself: it neither
registers the handler nor writes the lock file's time stamp (it must never be in
a position to remove or overwrite the owner's lock) -/
theorem tr_Lock_refused_is_inert :
    (Gen.tr_Lock false true).1 = ["loadCache", "create"] ∧ (Gen.tr_Lock false true).2.isSome = true := by
  decide +kernel

/-- non-vacuity: a second process on a locked pipestance, and a first one on a free one -/
example :
    let s1 : St := { lockFile := true, holders := [1], registered := [1] }
    (runActs (regFirstOf Gen.tr_Lock) s1 (lockActs 2 false true)) = (s1, false) ∧
    (runActs (regFirstOf Gen.tr_Lock) init (lockActs 1 true false)) = (s1, true) := by decide +kernel

/-- FAIL CLOSED: the tie theorems of this file are about the
definition(s) TRANSLATED FROM THE TREE UNDER TEST, not about the committed default the
extractor falls back to when the source leaves the translated subset – in that
case this obligation breaks and `./check` reports it (besides the note). -/
theorem translated_from_tree_under_test : Gen.tr_Lock_extracted = true := by decide

end Props.C15
