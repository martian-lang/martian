/-
C03 — every enabled job runs exactly once; disabled calls never run.
PROPERTY THEOREMS ONLY (model: Martian/Sched.lean, lemmas: Proofs/Sched*.lean).
`s.launches` is the ghost history of every submission `(object, incarnation)`,
`s.resets` of every restart-time reset.  All theorems hold for every state
reachable by any accepted history of any graph.

AT-LEAST-ONCE (progress + termination), section "every failure-free run completes":
`deadlock_free`, `measure_never_increases`, `measure_well_founded`,
`failure_free_run_terminates`, `maximal_run_complete` and the combination
`failure_free_run_completes_exactly_once`.  The vocabulary (`mu`, `LexLt`, `Ev.structural`,
`Ev.quiet`, `Ev.sched`, `Progress`, `Finished`, `Run`, `Fair`) is defined in
Martian/SchedProgress.lean, with what each notion stands for in mrp.  The model leaves the extent
of fork expansion open, so a run is assumed to contain finitely many `Ev.structural` events.  The
event language lets the environment stutter for ever (quiet events that leave `mu` unchanged);
`Fair` says a run does not consist of such events only while the pipestance is unfinished and a
progress event is enabled (weak fairness towards the scheduler/job alphabet as a whole).

`exactly_once_at_complete` is proved for FAILURE-FREE histories (the property says "in a run
without failures"): `FailureFree h` = every event of `h` satisfies `Ev.failureFree`
(Martian/Sched.lean).
-/
import Martian.Sched
import Proofs.Sched
import Proofs.SchedOnce
import Martian.SchedProgress
import Proofs.SchedProgress
import Proofs.SchedRun

/-! ### definitional unfoldings (documentation of the model, not guarantees)
The theorems whose docstring starts with DEFINITIONAL UNFOLDING (finished_fork_never_launches, no_double_submission, launched_object_exists) restate a guard
or a definition of the model; they stay where later theorems use them and are not cited as guarantees. -/
namespace Props.C03
open Martian.Sched

/-- `at_most_once` (one incarnation): the submission history never contains the
same (object, incarnation) twice — no job is submitted twice by one mrp process. -/
theorem at_most_once {g : List NodeInfo} {s : State} (hr : Reach g s) : s.launches.Nodup :=
  (reach_launchInv hr).nodup

/-- DEFINITIONAL UNFOLDING (documentation of the model / of a guard, not a guarantee). the same as a guard: a job already submitted in this incarnation cannot be submitted again -/
theorem no_double_submission {s : State} {o : Obj} (h : (o, s.inc) ∈ s.launches) :
    enabled s (.launch o) = false :=
  Bool.eq_false_iff.mpr fun he => (launchOk_common (en_launch.mp he)).2.2.2.1 h

/-- `at_most_once` (across incarnations): a job submitted in incarnation `i` is
submitted again in a later incarnation `j` only if the object was reset
(`Pipestance.Reset` / `RestartLocalJobs`) at some restart in between. -/
theorem relaunch_only_after_reset {g : List NodeInfo} {s : State} (hr : Reach g s)
    {o : Obj} {i j : Nat} (hi : (o, i) ∈ s.launches) (hj : (o, j) ∈ s.launches) (hlt : i < j) :
    ∃ k, i < k ∧ k ≤ j ∧ (o, k) ∈ s.resets :=
  (reach_launchInv hr).relaunch o i j hi hj hlt

/-- a submission leaves `_jobinfo` behind until the object is reset: a job that
is believed submitted is not submitted a second time even by a later incarnation -/
theorem submitted_stays_submitted {g : List NodeInfo} {s : State} (hr : Reach g s)
    {o : Obj} {i : Nat} (hi : (o, i) ∈ s.launches) :
    (s.m o).disk.has .jobinfo = true ∨ ∃ k, i < k ∧ k ≤ s.inc ∧ (o, k) ∈ s.resets :=
  (reach_launchInv hr).alive o i hi

/-- DEFINITIONAL UNFOLDING (documentation of the model / of a guard, not a guarantee). `disabled calls never run` / finished forks are left alone: no job of a fork
whose own metadata says disabled or complete can be submitted … -/
theorem finished_fork_never_launches {s : State} {n f : Nat} {r : Role}
    (h : fmDone s n f = true) : enabled s (.launch ⟨n, f, r⟩) = false :=
  Bool.eq_false_iff.mpr fun he => by
    have := (launchOk_common (en_launch.mp he)).2.2.2.2
    simp [h] at this

/-- … and a disabled/complete fork stays so under every event (also crash,
restart and restart-time resets). -/
theorem finished_fork_stays_finished {g : List NodeInfo} {s : State} {e : Ev} {n f : Nat}
    (hr : Reach g s) (hen : enabled s e = true) (h : fmDone s n f = true) :
    fmDone (apply s e) n f = true :=
  fmDone_stable (reach_objsInv hr) (reach_full hr) hen h

/-- DEFINITIONAL UNFOLDING (documentation of the model / of a guard, not a guarantee). only objects that exist are run: the fork is in the node's fork list and a
chunk index is below the number of chunks the split defined -/
theorem launched_object_exists {s : State} {o : Obj} (hen : enabled s (.launch o) = true) :
    s.hasObj o = true ∧ o.r ≠ .fork := by
  refine ⟨(launchOk_common (en_launch.mp hen)).2.1, ?_⟩
  intro hr
  have := (launchOk_facts (en_launch.mp hen)).1
  simp [hr, Role.isJob] at this

/-- `exactly_once_at_complete`: for EVERY accepted failure-free history and every
fork `f` of a stage node `n` (at any point of the history, in particular at the end):
* if the fork is complete then every chunk object the split defined was submitted
  exactly once and no other chunk index ever; for a splitting stage the split and
  the join were submitted exactly once each; for a non-splitting stage (split and
  join are mrp's stubs) never;
* if the fork is disabled, no job of it was ever submitted.
(`launchCount s o` = number of entries of object `o` in the submission history.) -/
theorem exactly_once_at_complete {g : List NodeInfo} {evs : List Ev} {s : State}
    (hrep : replay (init g) evs = .ok s) (hff : FailureFree evs) (n f : Nat)
    (hk : s.kind n ≠ .pipeline) :
    (s.st ⟨n, f, .fork⟩ = some .complete →
      (∀ i, i < s.nch n f → launchCount s ⟨n, f, .chunk i⟩ = 1) ∧
      (∀ i, s.nch n f ≤ i → launchCount s ⟨n, f, .chunk i⟩ = 0) ∧
      (s.kind n = .splitstage →
        launchCount s ⟨n, f, .split⟩ = 1 ∧ launchCount s ⟨n, f, .join⟩ = 1) ∧
      (s.kind n = .stage →
        launchCount s ⟨n, f, .split⟩ = 0 ∧ launchCount s ⟨n, f, .join⟩ = 0)) ∧
    (s.st ⟨n, f, .fork⟩ = some .disabled → ∀ r, launchCount s ⟨n, f, r⟩ = 0) :=
  exactly_once_of_inv (reach_objsInv (replay_reach hrep)) (reach_launchInv (replay_reach hrep))
    (ff_replay hff hrep).ffInv n f hk

/-- … and when the pipestance is finished (every node Complete or Disabled) the two
cases above cover every fork of every node: each is complete or disabled. -/
theorem finished_pipestance_forks {s : State}
    (hdone : ∀ n, n < s.nodes.length → nodeState s n = .complete ∨ nodeState s n = .disabled)
    (n f : Nat) (hn : n < s.nodes.length) (hf : f ∈ s.forksOf n) :
    s.st ⟨n, f, .fork⟩ = some .complete ∨ s.st ⟨n, f, .fork⟩ = some .disabled := by
  have := nodeDone_iff.mp (nodeDone_iff_state.mpr (hdone n hn)) f hf
  simpa [fmDone] using this

/-- the completion chain behind it (failure-free): fork complete ⇒ join complete ⇒
every chunk complete ⇒ (with chunks: a chunk was submitted ⇒) split complete -/
theorem completion_chain {g : List NodeInfo} {evs : List Ev} {s : State}
    (hrep : replay (init g) evs = .ok s) (hff : FailureFree evs) (n f : Nat)
    (hk : s.kind n ≠ .pipeline) (hc : (s.m ⟨n, f, .fork⟩).disk.has .complete = true) :
    (s.m ⟨n, f, .join⟩).disk.has .complete = true ∧
    (∀ i, i < s.nch n f → (s.m ⟨n, f, .chunk i⟩).disk.has .complete = true) ∧
    (s.m ⟨n, f, .split⟩).disk.has .complete = true := by
  have hj := (ff_replay hff hrep).clean.chain.c1 n f hk hc
  have hje : ¬ joinEmpty s n f := fun h => by simp [h.2] at hj
  have hF := (reach_inv (replay_reach hrep)).chainF
  exact ⟨hj, fun i hi => (hF.k1 n f hje i hi).1, (hF.k2 n f (.inl hje)).1⟩

/-! ### every failure-free run completes (at-least-once) -/

/-- `deadlock_free`: after EVERY accepted failure-free history of an acyclic graph the
pipestance is finished, or some event of the scheduler/job/journal alphabet is enabled
that lowers the measure (the cached state of a node is refreshed, the first refresh ends
loading, a stub/fork `_complete` is written, chunks are defined, a job is submitted,
starts, ends, or its `_complete` is read). -/
theorem deadlock_free {g : List NodeInfo} {evs : List Ev} {s : State} (hac : Acyclic g)
    (hrep : replay (init g) evs = .ok s) (hff : FailureFree evs) :
    Finished s ∨ ∃ e, Progress s e :=
  ff_finished_or_progress (replay_reach hrep) (ff_replay hff hrep).ffInv
    (replay_aliveInv (aliveInv_init g) hff hrep) hac

/-- `measure_never_increases`: in ANY state, a quiet enabled event lowers the measure or
leaves it unchanged (the latter are the stuttering events) … -/
theorem measure_never_increases {s : State} {e : Ev} (hen : enabled s e = true)
    (hq : e.quiet s = true) : LexLt (mu (apply s e)) (mu s) ∨ mu (apply s e) = mu s :=
  mu_quiet hen hq

/-- … and the order is well founded: no infinite descent. -/
theorem measure_well_founded : WellFounded LexLt := lexLt_wf

/-- `failure_free_run_terminates`: an infinite run that is quiet from some point on
lowers the measure only finitely often — from some point on it only stutters.
(Hence every maximal failure-free run with finitely many fork-structure events
contains finitely many non-stuttering events.) -/
theorem failure_free_run_terminates {s0 : State} {σ : Nat → State} {es : Nat → Ev}
    (hrun : Run s0 σ es) {K : Nat} (hq : ∀ i, K ≤ i → (es i).quiet (σ i) = true) :
    ∃ M, K ≤ M ∧ ∀ j, M ≤ j → mu (σ (j + 1)) = mu (σ j) := by
  obtain ⟨M, hM, hrest⟩ := eventually_stutters hrun _ K rfl hq
  refine ⟨M, hM, fun j hj => ?_⟩
  have := mu_quiet (hrun.en j) (hq j (by omega))
  rw [← hrun.next] at this
  rcases this with h | h
  · exact absurd h (hrest j hj)
  · exact h

/-- `maximal_run_complete`: a finite accepted failure-free history after which no
progress event is enabled (a maximal run) has finished the pipestance, every fork is
complete or disabled, and every stage fork ran exactly its jobs. -/
theorem maximal_run_complete {g : List NodeInfo} {evs : List Ev} {s : State} (hac : Acyclic g)
    (hrep : replay (init g) evs = .ok s) (hff : FailureFree evs)
    (hmax : ∀ e, ¬ Progress s e) :
    Finished s ∧
    (∀ n f, n < g.length → f ∈ s.forksOf n →
      s.st ⟨n, f, .fork⟩ = some .complete ∨ s.st ⟨n, f, .fork⟩ = some .disabled) ∧
    (∀ n f, s.kind n ≠ .pipeline → ExactlyOnce s n f) := by
  have hfin : Finished s := by
    rcases deadlock_free hac hrep hff with h | ⟨e, he⟩
    · exact h
    · exact absurd he (hmax e)
  refine ⟨hfin, fun n f hn hf => ?_, fun n f hk => ?_⟩
  · exact finished_forks hfin n f (by rw [reach_nodes (replay_reach hrep)]; exact hn) hf
  · exact exactly_once_at_complete hrep hff n f hk

/-- `failure_free_run_completes_exactly_once` (C03, both halves): every infinite run
from the initial state of an acyclic graph that
* contains no failure event and no crash/restart/reset (`failureFree`),
* contains finitely many fork-structure events (`structural`: fork expansion is
  bounded by the data; the model does not bound it), and
* is fair (does not stutter for ever while unfinished and able to progress)
reaches a finished state and stays finished; there every fork of every node is
complete or disabled, every complete stage fork has submitted its split (if it
splits), each chunk the split defined and its join exactly once and nothing else,
and no job of a disabled fork was ever submitted. -/
theorem failure_free_run_completes_exactly_once {g : List NodeInfo} {σ : Nat → State}
    {es : Nat → Ev} (hac : Acyclic g) (hrun : Run (init g) σ es)
    (hff : ∀ i, (es i).failureFree = true)
    (hfin : ∃ K, ∀ i, K ≤ i → (es i).structural (σ i) = false) (hfair : Fair σ) :
    ∃ M, ∀ j, M ≤ j →
      Finished (σ j) ∧
      (∀ n f, n < g.length → f ∈ (σ j).forksOf n →
        (σ j).st ⟨n, f, .fork⟩ = some .complete ∨ (σ j).st ⟨n, f, .fork⟩ = some .disabled) ∧
      (∀ n f, (σ j).kind n ≠ .pipeline → ExactlyOnce (σ j) n f) := by
  obtain ⟨K, hK⟩ := hfin
  have hreach := run_reach hrun
  have hinv := run_ffInv hrun hff
  obtain ⟨M, _, hM⟩ := fair_run_finishes hrun hfair (K := K)
    (fun i hi => quiet_iff.mpr ⟨ff_nf (hff i), hK i hi⟩)
    (fun i _ => ff_finished_or_progress (hreach i) (hinv i) (run_aliveInv hrun hff i) hac)
  refine ⟨M, fun j hj => ⟨hM j hj, fun n f hn hf => ?_, fun n f hk => ?_⟩⟩
  · exact finished_forks (hM j hj) n f (by rw [reach_nodes (hreach j)]; exact hn) hf
  · exact exactly_once_of_inv (reach_objsInv (hreach j)) (reach_launchInv (hreach j)) (hinv j) n f hk

/-! ### non-vacuity -/

/-- a complete failure-free run of one splitting stage with two chunks -/
def hfull : List Ev :=
  [.fork 0 0, .nodestate 0 .running, .refresh, .launch ⟨0, 0, .split⟩,
   .joblog ⟨0, 0, .split⟩, .jobend ⟨0, 0, .split⟩ .complete, .R ⟨0, 0, .split⟩ .complete,
   .mkchunks 0 0 2, .launch ⟨0, 0, .chunk 0⟩, .launch ⟨0, 0, .chunk 1⟩,
   .joblog ⟨0, 0, .chunk 1⟩, .jobend ⟨0, 0, .chunk 1⟩ .complete,
   .joblog ⟨0, 0, .chunk 0⟩, .jobend ⟨0, 0, .chunk 0⟩ .complete,
   .R ⟨0, 0, .chunk 1⟩ .complete, .R ⟨0, 0, .chunk 0⟩ .complete, .launch ⟨0, 0, .join⟩,
   .joblog ⟨0, 0, .join⟩, .jobend ⟨0, 0, .join⟩ .complete, .R ⟨0, 0, .join⟩ .complete,
   .W ⟨0, 0, .fork⟩ .complete, .nodestate 0 .complete]

example : FailureFree hfull := by unfold FailureFree; decide +kernel

example : (match replay (init [{ kind := .splitstage, pre := [] }]) hfull with
    | .ok s => s.st ⟨0, 0, .fork⟩ == some .complete && nodeState s 0 == .complete &&
        launchCount s ⟨0, 0, .split⟩ == 1 && launchCount s ⟨0, 0, .chunk 1⟩ == 1 &&
        launchCount s ⟨0, 0, .join⟩ == 1 && launchCount s ⟨0, 0, .chunk 2⟩ == 0
    | .error _ => false) = true := by decide +kernel

/-- the same history followed by `stepend` for ever is a run satisfying every hypothesis of
`failure_free_run_completes_exactly_once`: accepted, failure-free, no structural event from
index 1 on, fair (its last event lowers the measure, afterwards it is finished) — and the
graph is acyclic -/
def gfull : List NodeInfo := [{ kind := .splitstage, pre := [] }]
def σfull : Nat → State := prefixState (init gfull) hfull
def esfull : Nat → Ev := fun i => hfull.getD i .stepend

example : Acyclic gfull := topoSorted_acyclic (by decide +kernel)

example : Run (init gfull) σfull esfull := run_of_list _ _ (by decide +kernel)

example : ∀ i, (esfull i).failureFree = true :=
  getD_all (p := (·.failureFree = true)) hfull (by decide +kernel) rfl

example : ∀ i, 1 ≤ i → (esfull i).structural (σfull i) = false :=
  listRun_all (p := fun s e => e.structural s = false) _ hfull 1 (by decide +kernel) rfl

theorem σfull_finished (i : Nat) (h : hfull.length ≤ i) : Finished (σfull i) := by
  rw [σfull, prefixState_ge _ _ h]
  refine ⟨by decide +kernel, fun n hn => ?_⟩
  have hn' : n < 1 := hn
  have : n = 0 := by omega
  subst this
  decide +kernel

example : Fair σfull :=
  listRun_fair _ hfull 21 rfl (σfull_finished _ (Nat.le_refl _)) (by decide +kernel)

/-- the measure at work on this run: the definition of two chunks (event 7) trades the first
component for potential -/
example : mu (σfull 1) = (1, 92) ∧ mu (σfull 7) = (1, 78) ∧ mu (σfull 8) = (0, 138) ∧
    mu (σfull 22) = (0, 98) := by decide +kernel

/-- a state in which nothing has been done is not finished, and a progress event exists -/
example : ¬ Finished (init gfull) := by intro h; exact absurd h.1 (by decide +kernel)
example : Progress (init gfull) (.nodestate 0 .disabled) := by
  refine ⟨by decide +kernel, by decide +kernel, by decide +kernel⟩

/-- maximality is satisfiable: at the end of that run NO event of the scheduler/job/journal
alphabet is enabled and lowers the measure (hypothesis `hmax` of `maximal_run_complete`) -/
example : ∀ e, ¬ Progress (σfull 22) e :=
  no_progress_of_quiescent (reach_objsInv (run_reach (run_of_list _ _ (by decide +kernel)) 22)) (by decide +kernel)

/-- Negative witness for the hypothesis `Acyclic`: a stage that is its own prenode can never run.
After `fork 0 0; refresh` the pipestance is not finished and NO progress event exists —
`deadlock_free` is false for this graph. -/
def gcyc : List NodeInfo := [{ kind := .stage, pre := [0] }]
def scyc : State := prefixState (init gcyc) [.fork 0 0, .refresh] 2

theorem cyclic_graph_deadlocks : ¬ Finished scyc ∧ ∀ e, ¬ Progress scyc e := by
  refine ⟨fun h => ?_, no_progress_of_quiescent ?_ (by decide +kernel)⟩
  · have := (h.2 0 (by decide +kernel)).1
    exact absurd this (by decide +kernel)
  · exact reach_objsInv (run_reach (run_of_list (init gcyc) [.fork 0 0, .refresh] (by decide +kernel)) 2)

/-! A larger run: producer stage 0, a splitting consumer 1 mapped over it (a placeholder fork, a
second fork added AT RUN TIME when node 0 has finished, one of the two forks disabled, the other
split returns 0 chunks), and the enclosing pipeline 2. -/
def g3n : List NodeInfo :=
  [{ kind := .stage, pre := [] }, { kind := .splitstage, pre := [0] }, { kind := .pipeline, pre := [0, 1] }]

def h3n : List Ev :=
  [.fork 0 0, .fork 1 0, .fork 2 0, .nodestate 0 .running, .refresh,
   .W ⟨0, 0, .split⟩ .complete, .mkchunks 0 0 1, .launch ⟨0, 0, .chunk 0⟩,
   .joblog ⟨0, 0, .chunk 0⟩, .jobend ⟨0, 0, .chunk 0⟩ .complete, .R ⟨0, 0, .chunk 0⟩ .complete,
   .W ⟨0, 0, .join⟩ .complete, .W ⟨0, 0, .fork⟩ .complete, .nodestate 0 .complete,
   .fork 1 1, .nodestate 1 .running, .W ⟨1, 1, .fork⟩ .disabled,
   .launch ⟨1, 0, .split⟩, .joblog ⟨1, 0, .split⟩, .jobend ⟨1, 0, .split⟩ .complete,
   .R ⟨1, 0, .split⟩ .complete, .launch ⟨1, 0, .join⟩, .joblog ⟨1, 0, .join⟩,
   .jobend ⟨1, 0, .join⟩ .complete, .R ⟨1, 0, .join⟩ .complete, .W ⟨1, 0, .fork⟩ .complete,
   .nodestate 1 .complete, .nodestate 2 .running, .W ⟨2, 0, .fork⟩ .complete, .nodestate 2 .complete]

def σ3n : Nat → State := prefixState (init g3n) h3n
def es3n : Nat → Ev := fun i => h3n.getD i .stepend

example : Acyclic g3n := topoSorted_acyclic (by decide +kernel)
example : Run (init g3n) σ3n es3n := run_of_list _ _ (by decide +kernel)
example : ∀ i, (es3n i).failureFree = true :=
  getD_all (p := (·.failureFree = true)) h3n (by decide +kernel) rfl
/-- the last structural event is the run-time `fork 1 1` (index 14) -/
example : ∀ i, 15 ≤ i → (es3n i).structural (σ3n i) = false :=
  listRun_all (p := fun s e => e.structural s = false) _ h3n 15 (by decide +kernel) rfl
theorem σ3n_finished (i : Nat) (h : h3n.length ≤ i) : Finished (σ3n i) := by
  rw [σ3n, prefixState_ge _ _ h]
  refine ⟨by decide +kernel, fun n hn => ?_⟩
  have hn' : n < 3 := hn
  have : n = 0 ∨ n = 1 ∨ n = 2 := by omega
  rcases this with rfl | rfl | rfl <;> decide +kernel
example : Fair σ3n :=
  listRun_fair _ h3n 29 rfl (σ3n_finished _ (Nat.le_refl _)) (by decide +kernel)
/-- … and what the theorem says about its end: the run fork of node 1 ran split and join once and no
chunk, the disabled fork nothing, the producer its one chunk once -/
example : launchCount (σ3n 30) ⟨1, 0, .split⟩ = 1 ∧ launchCount (σ3n 30) ⟨1, 0, .join⟩ = 1 ∧
    launchCount (σ3n 30) ⟨1, 0, .chunk 0⟩ = 0 ∧ launchCount (σ3n 30) ⟨1, 1, .split⟩ = 0 ∧
    launchCount (σ3n 30) ⟨0, 0, .chunk 0⟩ = 1 ∧ (σ3n 30).st ⟨1, 1, .fork⟩ = some .disabled := by decide +kernel


def g1 : List NodeInfo := [{ kind := .splitstage, pre := [] }]

/-- split submitted, mrp killed while it is queued, restart resets it, it is submitted again -/
def h1 : List Ev :=
  [.fork 0 0, .nodestate 0 .running, .refresh, .launch ⟨0, 0, .split⟩,
   .crash, .restart, .reset ⟨0, 0, .split⟩, .refresh, .launch ⟨0, 0, .split⟩]

example : (match replay (init g1) h1 with
    | .ok s => s.launches == [(⟨0, 0, .split⟩, 1), (⟨0, 0, .split⟩, 0)] &&
               s.resets == [(⟨0, 0, .split⟩, 1)] && !enabled s (.launch ⟨0, 0, .split⟩)
    | .error _ => false) = true := by decide +kernel

/-- without the reset the second submission is rejected -/
example : (match replay (init g1)
      [.fork 0 0, .nodestate 0 .running, .refresh, .launch ⟨0, 0, .split⟩,
       .crash, .restart, .refresh, .launch ⟨0, 0, .split⟩] with
    | .ok _ => true
    | .error _ => false) = false := by decide +kernel

/-- a disabled fork: accepted history, after which nothing of the fork can be launched -/
example : (match replay (init g1)
      [.fork 0 0, .nodestate 0 .running, .refresh, .W ⟨0, 0, .fork⟩ .disabled] with
    | .ok s => fmDone s 0 0 && !enabled s (.launch ⟨0, 0, .split⟩) && nodeState s 0 == .disabled
    | .error _ => false) = true := by decide +kernel

end Props.C03
