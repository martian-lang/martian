/-
C13 tie: `StructMember.GetOutFilename` TRANSLATED from
martian/syntax/struct_type.go on every run (`Gen.tr_GetOutFilename`; the
member's fields `isFile`, `OutName`, `isComplex`, `Tname.Tname`, `Id` are
parameters of the term, strings are lists of characters) is the model's
`outFilename`.  The model's type argument abstracts `(isComplex, Tname)`:
`.file ""` is a `file` / `path` member, `.file ext` a member of user file type
`ext`, everything else is "complex" (array, typed map, struct).
-/
import Martian.PostProcess
import Gen.Facts

namespace Props.C13
open Martian.PostProcess

/-- a member that is not of file type has no file name -/
theorem tr_GetOutFilename_not_file (fk : String) (on : List Char) (cx : Bool) (tn id : List Char)
    (h1 : fk ≠ "KindIsFile") (h2 : fk ≠ "KindIsDirectory") :
    Gen.tr_GetOutFilename fk on cx tn id = [] := by
  simp [Gen.tr_GetOutFilename, h1, h2]

/-- `file` / `path` members (`Ty.file ""`): the out name if there is one, else the id -/
theorem tr_GetOutFilename_eq_model_file (id on : String) (tn : List Char)
    (htn : tn = "file".toList ∨ tn = "path".toList) :
    Gen.tr_GetOutFilename "KindIsFile" on.toList false tn id.toList = (outFilename (.file "") id on).toList := by
  by_cases ho : on = ""
  · have hfile : "file".toList = [Char.ofNat 102, Char.ofNat 105, Char.ofNat 108, Char.ofNat 101] := by decide
    have hpath : "path".toList = [Char.ofNat 112, Char.ofNat 97, Char.ofNat 116, Char.ofNat 104] := by decide
    rcases htn with rfl | rfl <;> simp [Gen.tr_GetOutFilename, outFilename, ho, hfile, hpath]
  · simp [Gen.tr_GetOutFilename, outFilename, ho, String.toList_eq_nil_iff]

/-- complex members (arrays, typed maps, structs): the out name if there is one, else the id -/
theorem tr_GetOutFilename_eq_model_complex (id on : String) (tn : List Char) (ty : Ty)
    (hty : ∀ ext, ty ≠ .file ext) :
    Gen.tr_GetOutFilename "KindIsDirectory" on.toList true tn id.toList = (outFilename ty id on).toList := by
  have hout : outFilename ty id on = if on ≠ "" then on else id := by
    cases ty with
    | file ext => exact absurd rfl (hty ext)
    | _ => rfl
  rw [hout]
  by_cases ho : on = "" <;> simp [Gen.tr_GetOutFilename, ho, String.toList_eq_nil_iff]

/-- members of a user file type `ext`: `<id>.<ext>` unless there is an out name -/
theorem tr_GetOutFilename_eq_model_ext (id on ext : String)
    (h1 : ext.toList ≠ "file".toList) (h2 : ext.toList ≠ "path".toList) (h3 : ext ≠ "") :
    Gen.tr_GetOutFilename "KindIsFile" on.toList false ext.toList id.toList = (outFilename (.file ext) id on).toList := by
  by_cases ho : on = ""
  · have hfile : "file".toList = [Char.ofNat 102, Char.ofNat 105, Char.ofNat 108, Char.ofNat 101] := by decide
    have hpath : "path".toList = [Char.ofNat 112, Char.ofNat 97, Char.ofNat 116, Char.ofNat 104] := by decide
    have hdot : ".".toList = [Char.ofNat 46] := by decide
    rw [hfile] at h1
    rw [hpath] at h2
    simp [Gen.tr_GetOutFilename, outFilename, ho, h1, h2, h3, hdot, String.toList_append]
  · simp [Gen.tr_GetOutFilename, outFilename, ho, String.toList_eq_nil_iff]

example : Gen.tr_GetOutFilename "KindIsFile" [] false "bam".toList "reads".toList = "reads.bam".toList ∧
    Gen.tr_GetOutFilename "KindIsDirectory" [] true "bam".toList "reads".toList = "reads".toList ∧
    Gen.tr_GetOutFilename "KindIsFile" "out.txt".toList false "bam".toList "reads".toList = "out.txt".toList ∧
    Gen.tr_GetOutFilename "KindIsNotFile" [] false "int".toList "n".toList = [] ∧
    outFilename (.file "bam") "reads" "" = "reads.bam" := by decide +kernel

/-- FAIL CLOSED: the tie theorems of this file are about the
definition(s) TRANSLATED FROM THE TREE UNDER TEST, not about the committed default the
extractor falls back to when the source leaves the translated subset – in that
case this obligation breaks and `./check` reports it (besides the note). -/
theorem translated_from_tree_under_test : Gen.tr_GetOutFilename_extracted = true := by decide

end Props.C13
