/-
C02 — jobs start only after everything they depend on has finished; within a
fork: split before chunks before join.
PROPERTY THEOREMS ONLY (model: Martian/Sched.lean, lemmas: Proofs/Sched*.lean).
All theorems quantify over every state reachable by ANY accepted history
(`Reach g s`: any graph `g`, any event list accepted by `replay`).
-/
import Martian.Sched
import Proofs.Sched
import Martian.SchedTables
import Proofs.SchedTables
import Gen.Facts

/-! ### definitional unfoldings (documentation of the model, not guarantees)
The theorems whose docstring starts with DEFINITIONAL UNFOLDING (launch_chunk_after_split, launch_join_after_chunks, complete_only_by_jobend_or_mrp) restate a guard
or a definition of the model; they stay where later theorems use them and are not cited as guarantees. -/
namespace Props.C02
open Martian.Sched

/-- Regenerated obligation: the sentinel precedence found in the current
`Metadata._getStateNoLock` is the one the model's `metaState` implements. -/
theorem precedence_matches_source : Gen.metaStatePrecedence_extracted = true ∧ Gen.metaStatePrecedence = precedenceNames := by decide +kernel

/-- Regenerated obligation: `Fork.getState` consults own metadata, join, chunks,
split in this order (the order `forkStateOf` implements). -/
theorem fork_state_order_matches_source : Gen.forkStateOrder_extracted = true ∧ Gen.forkStateOrder = forkStateOrderNames := by decide +kernel

/-! ### the transition structure of the Go state functions, regenerated

Each `…_matches_source` theorem compares a table regenerated from the Go source on every
run (extract/sched_steps.go: which condition is tested in which order and what each arm
does) with the model's table; the theorem next to it proves that the model's function IS
the interpretation of that table.  A re-ordered test, a changed condition or a changed
return value in `Fork.getState` / `Node.getState` / `Fork.stepStage` breaks the first
kind at once.  Each obligation also demands `Gen.<fact>_extracted = true`: if the extractor no
longer recognises the Go pattern (and would fall back to the committed default) the obligation
is BROKEN, not silently true. -/

/-- `Fork.getState`: its statements (own metadata: return if failed/complete/disabled;
join metadata: failed or `join_`+state; chunk loop; split metadata: failed or
`split_`+state; `Ready`), in this order -/
theorem fork_getState_steps_match_source : Gen.forkGetStateSteps_extracted = true ∧ Gen.forkGetStateSteps = forkStepsNames := by decide +kernel

/-- … the `switch` over a chunk's state inside the chunk loop … -/
theorem fork_chunk_switch_matches_source : Gen.forkChunkSwitch_extracted = true ∧ Gen.forkChunkSwitch = chunkSwitchNames := by decide +kernel

/-- … and the flags tested after the loop (`complete` before `running`). -/
theorem fork_chunk_after_matches_source : Gen.forkChunkAfter_extracted = true ∧ Gen.forkChunkAfter = chunkAfterNames := by decide +kernel

/-- the model's `forkStateOf` (= `Fork.getState`) is the interpretation of these tables:
`runSteps` walks `forkSteps`, the chunk part is `chunkSumTable` (the loop `chunkLoop`
driven by `chunkSwitch`) -/
theorem forkStateOf_is_table (fm jm sm : Option MState) (cs : List (Option MState)) :
    forkStateOf fm jm cs sm = runSteps fm jm sm (chunkSumTable cs) forkSteps :=
  forkStateOf_eq_table fm jm sm cs

/-- `Node.getState`: the `if / else if / else if` chain of its fork loop (failed → return
Failed; neither complete nor disabled → break; not disabled → disabled = false) … -/
theorem node_getState_loop_matches_source : Gen.nodeGetStateLoop_extracted = true ∧ Gen.nodeGetStateLoop = nodeLoopNames := by decide +kernel

/-- … and what follows the loop (complete&&disabled → Disabled, complete → Complete, an
unfinished prenode → Waiting, else Running); the right-hand side is computed from the
model's `nodeStateOf` on witnesses. -/
theorem node_getState_tail_matches_source : Gen.nodeGetStateTail_extracted = true ∧ Gen.nodeGetStateTail = nodeTailNames := by decide +kernel

/-- the model's fork loop `scanForks` is the interpretation of that chain
(`scanTable`: first arm of `nodeLoopTable` whose condition holds) -/
theorem scanForks_is_table (l : List FState) (d : Bool) : scanForks l d = scanTable l d := by
  induction l generalizing d with
  | nil => rfl
  | cons x r ih =>
    cases x <;> simp only [scanForks, scanTable] <;>
      first
      | rfl
      | exact ih _
      | (rename_i m; cases m <;> rfl)

/-- `Fork.stepStage`: the chain `if state == X { state = self.doY() }` in source order -/
theorem stepStage_chain_matches_source : Gen.stepStageChain_extracted = true ∧ Gen.stepStageChain = stageChainNames := by decide +kernel

/-- every scheduler action the model allows happens in a fork state to which that chain
assigns this very action (`stageAction` = first arm of the chain for the state):
a split is submitted / a split stub is written / a stage fork is disabled in `doSplit`
(state `ready`); chunks are submitted in `doChunks` (state `split_complete`); the join
is submitted in `doJoin` (state `chunks_complete`; or, no chunks defined, in the same
pass from `split_complete`); the fork's `_complete` is written in `doComplete` (state
`join_complete`) — in the last three cases unless the fork has meanwhile failed. -/
theorem scheduler_actions_follow_stepStage {s : State} {n f : Nat} :
    (launchOk s ⟨n, f, .split⟩ = true → stageAction (forkState s n f) = some .doSplit) ∧
    (mrpWriteOk s ⟨n, f, .split⟩ .complete = true →
      stageAction (forkState s n f) = some .doSplit) ∧
    (s.kind n ≠ .pipeline → mrpWriteOk s ⟨n, f, .fork⟩ .disabled = true →
      stageAction (forkState s n f) = some .doSplit) ∧
    (∀ i, launchOk s ⟨n, f, .chunk i⟩ = true →
      stageAction (forkState s n f) = some .doChunks ∨ forkState s n f = .failed) ∧
    (launchOk s ⟨n, f, .join⟩ = true →
      stageAction (forkState s n f) = some .doJoin ∨
      (s.nch n f = 0 ∧ stageAction (forkState s n f) = some .doChunks) ∨
      forkState s n f = .failed) ∧
    (s.kind n ≠ .pipeline → mrpWriteOk s ⟨n, f, .fork⟩ .complete = true →
      stageAction (forkState s n f) = some .doComplete ∨ forkState s n f = .failed) :=
  ⟨fun h => by rw [(launchOk_iff.mp h).2.2]; rfl, fun h => by rw [(mrpWriteOk_iff.mp h).2.2.2]; rfl,
   fun hk h => by rw [(mrpWriteOk_iff.mp h).resolve_left hk]; rfl,
   fun _ => launch_chunk_is_doChunks, launch_join_is_doJoin, fork_complete_is_doComplete⟩

/-- non-vacuity: the table-driven functions on concrete inputs -/
example : runSteps none none (some .complete) (chunkSumTable [some .complete, some .running]) forkSteps
    = .chunksRunning := by decide +kernel
example : scanTable [.complete, .chunksRunning, .failed] true = .incomplete := by decide +kernel
example : stageAction (.split .complete) = some .doChunks ∧ stageAction .chunksRunning = none := by
  decide +kernel

/-- `metaState` is "first sentinel of the precedence list that is present". -/
theorem metaState_follows_precedence (x : SSet) : metaState x = metaStateWith precedence x := by
  obtain ⟨a, b, c, d, e, f, g⟩ := x
  cases a <;> cases b <;> cases c <;> cases d <;> cases e <;> cases f <;> rfl

/-- `launch_after_prenodes`: whenever a job of node `o.n` is submitted, every
prenode `p` of that node is finished: each of its forks is complete or
disabled (so its live `Node.getState` is Complete/Disabled, not Failed). -/
theorem launch_after_prenodes {g : List NodeInfo} {s : State} {o : Obj} (hr : Reach g s)
    (hen : enabled s (.launch o) = true) :
    ∀ p ∈ s.pre o.n, nodeDone s p = true ∧
      ∀ f ∈ s.forksOf p, forkState s p f = .complete ∨ forkState s p f = .disabled := by
  intro p hp
  have hd := launch_pre_done hr hen p hp
  exact ⟨hd, fun f hf => forkState_done.mpr (nodeDone_iff.mp hd f hf)⟩

/-- DEFINITIONAL UNFOLDING (documentation of the model / of a guard, not a guarantee). Chunks after split: a chunk job is submitted only when the
split object of its fork is complete — in mrp's view AND on disk, with no
error/assert marker. -/
theorem launch_chunk_after_split {g : List NodeInfo} {s : State} {n f i : Nat} (hr : Reach g s)
    (hen : enabled s (.launch ⟨n, f, .chunk i⟩) = true) :
    s.st ⟨n, f, .split⟩ = some .complete ∧ (s.m ⟨n, f, .split⟩).disk.has .complete = true := by
  have h := (launchOk_iff.mp (en_launch.mp hen)).2.2.2.1
  exact ⟨h, disk_complete_of_st (reach_objsInv hr) h⟩

/-- DEFINITIONAL UNFOLDING (documentation of the model / of a guard, not a guarantee). Join after chunks: the join job is submitted only when
every chunk object of the fork is complete (in mrp's view and on disk); with
zero chunks, only when the split is complete. -/
theorem launch_join_after_chunks {g : List NodeInfo} {s : State} {n f : Nat} (hr : Reach g s)
    (hen : enabled s (.launch ⟨n, f, .join⟩) = true) :
    (∀ i, i < s.nch n f → s.st ⟨n, f, .chunk i⟩ = some .complete ∧
        (s.m ⟨n, f, .chunk i⟩).disk.has .complete = true) ∧
    (s.nch n f = 0 → s.st ⟨n, f, .split⟩ = some .complete) := by
  obtain ⟨_, _, hz, hnz⟩ := (launchOk_iff.mp (en_launch.mp hen)).2
  refine ⟨fun i hi => ?_, hz⟩
  have := allChunksComplete_iff.mp (hnz (by omega)) i hi
  exact ⟨this, disk_complete_of_st (reach_objsInv hr) this⟩

/-- DEFINITIONAL UNFOLDING (documentation of the model / of a guard, not a guarantee). `_complete` files come into existence only through a job that ended
`complete`, or through mrp's own stubs/`doComplete` under their guards: for a
split object only in a non-splitting stage whose fork was `ready`; for a join
object only in a non-splitting stage whose chunks are all complete; for the
fork itself only when its join is complete (stage) or it is a pipeline. -/
theorem complete_only_by_jobend_or_mrp {s : State} {e : Ev} {o : Obj}
    (hen : enabled s e = true) (h0 : (s.m o).disk.has .complete = false)
    (h1 : ((apply s e).m o).disk.has .complete = true) :
    e = .jobend o .complete ∨
    (e = .W o .complete ∧ s.cachedOf o.n = .running ∧
      match o.r with
      | .split => s.kind o.n = .stage ∧ forkState s o.n o.f = .ready
      | .join => s.kind o.n = .stage ∧ 0 < s.nch o.n o.f ∧
          ∀ i, i < s.nch o.n o.f → s.st ⟨o.n, o.f, .chunk i⟩ = some .complete
      | .fork => s.kind o.n = .pipeline ∨ s.st ⟨o.n, o.f, .join⟩ = some .complete
      | .chunk _ => False) := by
  rcases complete_origin hen h0 h1 with h | ⟨h, hw⟩
  · exact Or.inl h
  · refine Or.inr ⟨h, (mrpWriteOk_complete hw).2.1, ?_⟩
    obtain ⟨n, f, r⟩ := o
    cases r with
    | split => exact (mrpWriteOk_iff.mp hw).2.imp_right And.right
    | chunk i => cases (mrpWriteOk_complete hw).2.2.1
    | join =>
      obtain ⟨_, a, _, _, _, b, c⟩ := mrpWriteOk_iff.mp hw
      exact ⟨a, b, allChunksComplete_iff.mp c⟩
    | fork => exact (mrpWriteOk_iff.mp hw).2.2.2

/-- `done_stable`: once every fork of a node is complete/disabled it stays so
under every event of normal operation (nothing un-completes a fork; forks are
only added to unfinished nodes).  The only exception is the `fork` event while
the graph is (re)built in the loading phase: initially nodes have no forks at
all, and at a restart `RestoreForks` can give a Disabled mapped call whose
placeholder fork was disabled before its forks were known fresh forks (observed
on real histories; recorded in the ghost flag `State.reopened`). -/
theorem done_stable {g : List NodeInfo} {s : State} {e : Ev} {p : Nat} (hr : Reach g s)
    (hen : enabled s e = true) (hc : s.phase = .loading → ∀ f, e ≠ .fork p f)
    (hd : nodeDone s p = true) : nodeDone (apply s e) p = true :=
  Martian.Sched.done_stable (reach_objsInv hr) (reach_full hr) hen hc hd

/-! ### non-vacuity -/

/-- two non-splitting stages, the second consuming the first -/
def g2 : List NodeInfo := [{ kind := .stage, pre := [] }, { kind := .stage, pre := [0] }]

def h2 : List Ev :=
  [.fork 0 0, .nodestate 0 .running, .fork 1 0, .refresh,
   .W ⟨0, 0, .split⟩ .complete, .mkchunks 0 0 1, .launch ⟨0, 0, .chunk 0⟩,
   .joblog ⟨0, 0, .chunk 0⟩, .jobend ⟨0, 0, .chunk 0⟩ .complete, .refresh,
   .R ⟨0, 0, .chunk 0⟩ .complete, .W ⟨0, 0, .join⟩ .complete, .W ⟨0, 0, .fork⟩ .complete,
   .nodestate 0 .complete, .nodestate 1 .running,
   .W ⟨1, 0, .split⟩ .complete, .mkchunks 1 0 1]

/-- the history is accepted and ends in a state where the dependent's chunk can be launched -/
example : (match replay (init g2) h2 with
    | .ok s => enabled s (.launch ⟨1, 0, .chunk 0⟩) && nodeDone s 0
    | .error _ => false) = true := by decide +kernel

/-- a launch is NOT enabled before the prenode finished (same history, cut before node 0 completes) -/
example : (match replay (init g2) (h2.take 10 ++ [.nodestate 1 .running]) with
    | .ok _ => true
    | .error _ => false) = false := by decide +kernel

/-- a splitting stage: split, two chunks, join -/
def g1 : List NodeInfo := [{ kind := .splitstage, pre := [] }]

def h1 : List Ev :=
  [.fork 0 0, .nodestate 0 .running, .refresh, .launch ⟨0, 0, .split⟩,
   .joblog ⟨0, 0, .split⟩, .jobend ⟨0, 0, .split⟩ .complete, .R ⟨0, 0, .split⟩ .complete,
   .mkchunks 0 0 2, .launch ⟨0, 0, .chunk 0⟩, .launch ⟨0, 0, .chunk 1⟩,
   .joblog ⟨0, 0, .chunk 1⟩, .jobend ⟨0, 0, .chunk 1⟩ .complete,
   .joblog ⟨0, 0, .chunk 0⟩, .jobend ⟨0, 0, .chunk 0⟩ .complete,
   .R ⟨0, 0, .chunk 1⟩ .complete]

/-- with one chunk still not seen complete the join is not enabled; after it is, it is -/
example : (match replay (init g1) h1 with
    | .ok s => !enabled s (.launch ⟨0, 0, .join⟩) &&
        enabled (apply s (.R ⟨0, 0, .chunk 0⟩ .complete)) (.launch ⟨0, 0, .join⟩)
    | .error _ => false) = true := by decide +kernel

/-! A larger example: producer stage 0, a PIPELINE node 1 that returns it, and a splitting consumer 2
of the pipeline's output whose second fork is added at RUN TIME (after its map source is known).
While the pipeline is unfinished the consumer cannot be told to run and nothing of it can be
submitted; afterwards both forks can submit their split. -/
def g3p : List NodeInfo :=
  [{ kind := .stage, pre := [] }, { kind := .pipeline, pre := [0] }, { kind := .splitstage, pre := [1] }]

def h3p : List Ev :=
  [.fork 0 0, .fork 1 0, .fork 2 0, .nodestate 0 .running, .refresh,
   .W ⟨0, 0, .split⟩ .complete, .mkchunks 0 0 1, .launch ⟨0, 0, .chunk 0⟩,
   .joblog ⟨0, 0, .chunk 0⟩, .jobend ⟨0, 0, .chunk 0⟩ .complete, .R ⟨0, 0, .chunk 0⟩ .complete,
   .W ⟨0, 0, .join⟩ .complete, .W ⟨0, 0, .fork⟩ .complete, .nodestate 0 .complete,
   .nodestate 1 .running]

example : (match replay (init g3p) h3p with
    | .ok s => nodeDone s 0 && !nodeDone s 1 && !enabled s (.nodestate 2 .running) &&
               !enabled s (.launch ⟨2, 0, .split⟩)
    | .error _ => false) = true := by decide +kernel

example : (match replay (init g3p)
      (h3p ++ [.W ⟨1, 0, .fork⟩ .complete, .nodestate 1 .complete, .fork 2 1, .nodestate 2 .running]) with
    | .ok s => nodeDone s 1 && s.forksOf 2 == [0, 1] && enabled s (.launch ⟨2, 0, .split⟩) &&
               enabled s (.launch ⟨2, 1, .split⟩) && !enabled s (.fork 2 2)
    | .error _ => false) = true := by decide +kernel

end Props.C02
