/-
C17 tie (re-export of Props/C07Tie.lean for C17's own check):
`syntax.IsLegalUnixFilename`, TRANSLATED from martian/syntax/compile_params.go on
every run (`Gen.tr_IsLegalUnixFilename`), accepts exactly the keys the type
model's `legalName` accepts – the rule `TypedMapType.IsValidJson` applies to the
keys of directory-like typed maps (`check (.tmap t)` with `isDirMap t`).
-/
import Martian.Types
import Gen.Facts
import Props.C07Tie

namespace Props.C17
open Martian.Types

/-- for ALL byte strings: the translated Go function returns `nil` exactly when
the model's `legalName` holds -/
theorem tr_IsLegalUnixFilename_eq_legalName (name : List UInt8) :
    (Gen.tr_IsLegalUnixFilename name).isNone = legalName name :=
  Props.C07.tr_IsLegalUnixFilename_eq_model name

/-- hence: a key of a directory-like typed map is an error of validation exactly
when the translated Go function returns an error for it -/
theorem dirmap_key_error_iff (t : Ty) (k : List UInt8) (hd : isDirMap t = true) :
    (if isDirMap t && !legalName k then Verdict.error else Verdict.ok) = Verdict.error ↔
      (Gen.tr_IsLegalUnixFilename k).isSome = true := by
  rw [← tr_IsLegalUnixFilename_eq_legalName, hd]
  cases h : Gen.tr_IsLegalUnixFilename k <;> simp

example : Gen.tr_IsLegalUnixFilename [0x2E] = some "reserved name" ∧ legalName [0x2E] = false ∧
    (Gen.tr_IsLegalUnixFilename [0x61]).isNone = true ∧ legalName [0x61] = true := by decide

/-- FAIL CLOSED: the tie theorems of this file are about the
definition(s) TRANSLATED FROM THE TREE UNDER TEST, not about the committed default the
extractor falls back to when the source leaves the translated subset – in that
case this obligation breaks and `./check` reports it (besides the note). -/
theorem translated_from_tree_under_test : Gen.tr_IsLegalUnixFilename_extracted = true := by decide

end Props.C17
