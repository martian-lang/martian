/-
C17 — JSON validation and filtering agree with the type system.
The property theorems (model: Martian/Json.lean, Martian/Types.lean, Martian/JsonBytes.lean;
lemmas: Proofs/Types*.lean, Proofs/JsonRound.lean, Proofs/JsonBytes*.lean).  Most are references to
a lemma; `assignable_struct_components`, `assignable_struct_iff_of_no_mapCoercion`,
`filter_bytes_error_class` and `filter_bytes_exactly_drops_partial` are put together here from several.

Quantification: ALL model types (`Ty`: builtins, user file types, arrays of any
dimension, typed maps, structs of structs …) and ALL JSON trees (`J`).  The
only side condition on types is `Ty.wf` (field names of a struct are distinct),
which the MRO compiler enforces (`DuplicateNameError`).

`valid t v` = clean validation (no error, no alarm).  `(filter t v).1` is the
filtered value, `(filter t v).2 ∈ {ok, soft, fatal}` the error class.
-/
import Martian.Types
import Proofs.Types
import Proofs.TypesRound
import Proofs.JsonRound
import Martian.JsonBytes
import Proofs.JsonBytes
import Proofs.JsonBytesFilter
import Proofs.JsonBytesLocal
import Proofs.JsonBytesErr
import Gen.Facts

namespace Props.C17
open Martian.Json Martian.Types

/-! ### sample types / values used by the non-vacuity examples and witnesses -/

/-- field / key names: `a`, `b`, `x`, `m`; and the illegal file name `a/b` -/
private abbrev ka : Bytes := [0x61]
private abbrev kb : Bytes := [0x62]
private abbrev kx : Bytes := [0x78]
private abbrev km : Bytes := [0x6D]
private abbrev kslash : Bytes := [0x61, 0x2F, 0x62]

/-- `struct A(int a)` -/
private abbrev tA : Ty := .struct [0x41] (.cons ka (.base .int) .nil)
/-- `struct N(A a, map<int[]> b, file[][] x)` – struct of struct, typed map of arrays, 2-dim array -/
private abbrev tN : Ty :=
  .struct [0x4E] (.cons ka tA (.cons kb (.tmap (.arr (.base .int)))
    (.cons kx (.arr (.arr (.base .file))) .nil)))

/-! ### 0. regenerated obligations: the model's builtin tables are the ones in
martian/syntax/builtin_types.go of the current tree (`Gen.*` is re-extracted on every run) -/

/-- the builtin kinds are exactly `builtinTypes`, in order -/
theorem builtin_kinds_ok : Gen.builtinKinds = Base.all.map Base.name := by decide +kernel

/-- builtin ← builtin assignability is the `case *BuiltinType:` condition of
`BuiltinType.IsAssignableFrom`, evaluated for all 49 pairs -/
theorem builtin_assign_table_ok :
    ∀ d ∈ Base.all, ∀ s ∈ Base.all,
      assignableBase d s = Gen.builtinAssign.contains (d.name, s.name) := by decide +kernel

/-- `BuiltinType.IsFile` -/
theorem builtin_fileKind_table_ok :
    Base.all.map (fun b => (b.name, (fileKind (.base b)).rank)) = Gen.builtinFileKinds := by decide +kernel

/-- `BuiltinType.CanFilter` -/
theorem builtin_canFilter_table_ok :
    (Base.all.filter (fun b => canFilter (.base b))).map Base.name = Gen.builtinCanFilter := by decide +kernel

/-! ### 1. filtering is idempotent -/

/-- Filtering twice gives the same value as filtering once – for every type and
every JSON value, including values that do not validate and fatal cases. -/
theorem filter_idem (t : Ty) (hwf : t.wf = true) (v : J) :
    (filter t (filter t v).1).1 = (filter t v).1 :=
  Martian.Types.filter_idem t hwf v

/-- non-vacuity: a nested type is well-formed, and filtering really changes a value of it -/
example : tN.wf = true ∧
    (filter tA (.obj [(kx, .null), (ka, .num (.flt 10 (-1)))])).1 = .obj [(ka, .num (.int 1))] := by
  constructor
  · decide +kernel
  · rfl

/-! ### 2. filtering changes nothing except dropping members / int rewriting -/

/-- UPPER BOUND only: whenever filtering does not fail fatally, every member of the
result stems from a member of the input with that key, up to integral floats rewritten as `int64`
literals (`Drops` is type-agnostic: it does not say which members are kept – emptying every object
would satisfy it).  The exact statement is `filter_exactly_drops_partial` below.
`_partial`: for fatal results the statement is false – a missing declared member is
written as `null` (`filter_fatal_adds_null`). -/
theorem filter_only_drops_partial (t : Ty) (v : J) (h : (filter t v).2 ≠ .fatal) :
    Drops (filter t v).1 v :=
  Martian.Types.filter_drops t v h

/-- non-vacuity: a soft (non-fatal) filtering that drops a member and rewrites `1.0` -/
example : (filter tA (.obj [(kx, .null), (ka, .num (.flt 10 (-1)))])).2 = .soft := by decide +kernel

/-- `_partial`: restricted to a non-fatal result (a fatal one has `null` written for a missing member:
`filter_fatal_adds_null` – the statement without the hypothesis is false).
EXACTLY WHAT IS DROPPED: a non-fatal result of filtering `v` to `t` is `v` with
nothing changed where the type cannot filter; at `int` an `int64` literal kept and any other numeral
rewritten only to the integer its value is (within `int64`); arrays of the same length and typed
maps with the same keys in the same order, members filtered pointwise at the element type; and a
struct turned into EXACTLY its declared members in declaration order, each taken from the input (last
wins) and filtered at the member's type (copied where that type cannot filter).  So the only thing
ever removed is an undeclared struct member (`DropsT`, Martian/Types.lean: a typed relation; a filter
that empties objects, duplicates members, keeps a shadowed duplicate or rewrites a float-typed number
does NOT satisfy it). -/
theorem filter_exactly_drops_partial (t : Ty) (v : J) (h : (filter t v).2 ≠ .fatal) :
    DropsT exactRewrite t (filter t v).1 v :=
  Martian.Types.filter_dropsT t v h

/-- the typed relation really is tight: emptying a typed map, or rewriting a number at `float`, is
not allowed -/
example : ¬ DropsT exactRewrite (.tmap (.base .int)) (.obj []) (.obj [(ka, .num (.int 1))]) := by
  intro h
  cases h with
  | tmap _ _ _ _ hm => cases hm
example : ¬ DropsT exactRewrite (.base .float) (.num (.int 1)) (.num (.flt 10 (-1))) := by
  intro h; cases h

/-- negative witness for the `≠ fatal` hypothesis: filtering `{}` to `struct A(int a)`
is fatal and ADDS a member `"a": null`, which is no `Drops` of the input -/
theorem filter_fatal_adds_null :
    (filter tA (.obj [])).2 = .fatal ∧ ¬ Drops (filter tA (.obj [])).1 (.obj []) := by
  refine ⟨by decide, ?_⟩
  have : (filter tA (.obj [])).1 = .obj [(ka, .null)] := by rfl
  rw [this]
  intro h
  cases h with
  | obj ho =>
    cases ho with
    | cons hm _ _ => cases hm

/-- A type that cannot filter (`CanFilter() == false`) returns its input unchanged. -/
theorem filter_unchanged_of_not_canFilter (t : Ty) (v : J) (h : canFilter t = false) :
    (filter t v).1 = v :=
  Martian.Types.filter_fst_of_not_canFilter t v h

example : canFilter (.arr (.arr (.base .file))) = false := by decide +kernel

/-- Filtering an object to a struct type yields exactly the declared members,
in declaration order (undeclared members are dropped, nothing else is). -/
theorem filter_struct_members (n : Bytes) (fs : Fields) (kvs : List (Bytes × J)) :
    ∃ out, (filter (.struct n fs) (.obj kvs)).1 = .obj out ∧
      out.map Prod.fst = fs.toList.map Prod.fst :=
  ⟨_, filter_struct_fst n fs kvs, keys_fields_out fs _⟩

/-! ### 3. validation: null everywhere, otherwise exactly the declared shape -/

theorem valid_null (t : Ty) : valid t .null = true :=
  Martian.Types.valid_null t

/-- Clean validation accepts exactly the values of the declared shape
(`Shape` is the separately written declarative description (it shares the helper functions `isDirMap`, `legalName`, `getKey`, `Num.inInt64` with `check`: independence is of the recursion, not of those helpers) in Martian/Types.lean). -/
theorem valid_iff_shape (t : Ty) (v : J) : valid t v = true ↔ Shape t v :=
  ⟨shape_of_valid t v, valid_of_shape t v⟩

/-- non-vacuity + near misses: a value of the nested type is valid; wrong
nesting depth, a number as a string, a float for an int and a missing member are not. -/
example :
    valid tN (.obj [(ka, .obj [(ka, .num (.int 7))]),
                    (kb, .obj [(kx, .arr [.num (.int 1), .null])]),
                    (kx, .arr [.arr [.str [0x66]], .null])]) = true
    ∧ valid (.arr (.arr (.base .int))) (.arr [.num (.int 1)]) = false
    ∧ valid (.base .int) (.str [0x31]) = false
    ∧ valid (.base .int) (.num (.flt 10 (-1))) = false
    ∧ valid tA (.obj [(kx, .num (.int 1))]) = false := by decide +kernel

/-! ### 4. assignability -/

theorem assignable_refl (t : Ty) (hwf : t.wf = true) : assignable t t = true :=
  Martian.Types.assignable_refl t hwf

/-- arrays in Go's `ArrayType{Elem, Dim}` form: equal dimension and assignable elements -/
theorem assignable_array_dim_iff (a b : Ty) (ha : notArr a = true) (hb : notArr b = true)
    (n m : Nat) :
    assignable (arrN n a) (arrN m b) = true ↔ n = m ∧ assignable a b = true :=
  assignable_arrN a b ha hb n m

example : notArr (.tmap (.arr (.base .int))) = true ∧ notArr tA = true := by decide +kernel

/-- structs, direction "only if": every member of the destination exists in
the source with an assignable type. -/
theorem assignable_struct_components (n n' : Bytes) (fs fs' : Fields)
    (h : assignable (.struct n fs) (.struct n' fs') = true) :
    ∀ k t, (k, t) ∈ fs.toList → ∃ t', fs'.get k = some t' ∧ assignable t t' = true := by
  simp only [assignable, assignableFields_iff] at h
  intro k t hkt
  obtain ⟨t', hg, _, ha⟩ := h k t hkt
  exact ⟨t', hg, ha⟩

/-- structs: PARTIAL.  The full statement
  `assignable (struct fs) (struct fs') ↔ ∀ member (k,t) of fs, ∃ t', fs'.get k = some t' ∧ assignable t t'`
is false for the code: `StructType.IsAssignableFrom` additionally demands that
the two member types have the same `(ArrayDim, MapDim)` shape, which
assignability of the member types does not imply (`map ← map<int>`,
`map<T> ← struct`).  With that conjunct the equivalence holds. -/
theorem assignable_struct_iff_partial (n n' : Bytes) (fs fs' : Fields) :
    assignable (.struct n fs) (.struct n' fs') = true ↔
      ∀ k t, (k, t) ∈ fs.toList →
        ∃ t', fs'.get k = some t' ∧ dims t = dims t' ∧ assignable t t' = true := by
  simp only [assignable, assignableFields_iff]

/-- Negative witness for the full struct statement: `struct B(map m)` is not
assignable from `struct C(map<int> m)` although `map` is assignable from
`map<int>`.  (Replayed on the real code by the harness; conservative.) -/
theorem assignable_struct_components_not_sufficient :
    assignable (.base .map) (.tmap (.base .int)) = true ∧
    assignable (.struct [0x42] (.cons km (.base .map) .nil))
               (.struct [0x43] (.cons km (.tmap (.base .int)) .nil)) = false := by decide

/-! ### definitional unfoldings (documentation of the model, not guarantees) -/

/-- arrays (one dimension): by definition of the model; the rule itself is tied to
`ArrayType.IsAssignableFrom` by the differential harness, the substantive statement is
`assignable_array_dim_iff` -/
theorem assignable_array_iff (a b : Ty) :
    assignable (.arr a) (.arr b) = assignable a b := by
  simp [assignable]

/-- typed maps: by definition of the model (tied to `TypedMapType.IsAssignableFrom` by correspondence) -/
theorem assignable_map_iff (a b : Ty) :
    assignable (.tmap a) (.tmap b) = assignable a b := by
  simp [assignable]

/-! ### 5. the central statement -/

/-- Same type: a value that validates cleanly still validates cleanly after
filtering (full strength). -/
theorem filter_valid_self (t : Ty) (hwf : t.wf = true) (v : J) (h : valid t v = true) :
    valid t (filter t v).1 = true :=
  valid_of_shape _ _ (shape_filter_of_assignable t hwf t v (shape_of_valid t v h)
    (Martian.Types.assignable_refl t hwf) (Martian.Types.noHole_refl t hwf))

/-- PARTIAL.  Full statement (false, see the two witnesses below):
  `valid s v → assignable d s → valid d (filter d v).1`.
Proved under the extra hypothesis `noHole d s`: nowhere along the assignment
is a directory-like typed map assigned from a typed map that is not
directory-like (F9), nor a typed map from a struct (F10). -/
theorem filter_valid_of_assignable_partial (d s : Ty) (v : J) (hwf : d.wf = true)
    (hs : valid s v = true) (ha : assignable d s = true) (hn : noHole d s = true) :
    valid d (filter d v).1 = true := by
  simp only [valid_eq, filter_eq] at hs ⊢
  exact Reading.exact.filter_valid_of_assignable d s v hwf hs ha hn

/-- non-vacuity: a struct narrowed to a struct with coercions (`float ← int`,
`file[] ← string[]`), hypotheses satisfied by a value with an extra member -/
example :
    let d : Ty := .struct [0x44] (.cons ka (.base .float) (.cons kb (.arr (.base .file)) .nil))
    let s : Ty := .struct [0x53] (.cons kb (.arr (.base .string)) (.cons ka (.base .int)
                    (.cons kx (.base .bool) .nil)))
    let v : J := .obj [(kx, .bool true), (kb, .arr [.str [0x70]]), (ka, .num (.int 3))]
    d.wf = true ∧ valid s v = true ∧ assignable d s = true ∧ noHole d s = true := by decide +kernel

/-- F9 (negative witness): `map<file>` is assignable from `map<string>`, the
value `{"a/b": "x"}` is a clean `map<string>`, and after filtering to
`map<file>` it does not validate (key is not a legal file name). -/
theorem f9_map_file_from_map_string :
    assignable (.tmap (.base .file)) (.tmap (.base .string)) = true ∧
    valid (.tmap (.base .string)) (.obj [(kslash, .str kx)]) = true ∧
    valid (.tmap (.base .file))
      (filter (.tmap (.base .file)) (.obj [(kslash, .str kx)])).1 = false := by decide

/-- F10 (negative witness): `map<int>` is assignable from `struct A(int a)`,
`{"a": 1, "x": "s"}` is a clean `A` (undeclared members are tolerated), and
after filtering to `map<int>` it does not validate. -/
theorem f10_map_from_struct_extra_member :
    assignable (.tmap (.base .int)) tA = true ∧
    valid tA (.obj [(ka, .num (.int 1)), (kx, .str kx)]) = true ∧
    valid (.tmap (.base .int))
      (filter (.tmap (.base .int)) (.obj [(ka, .num (.int 1)), (kx, .str kx)])).1 = false := by
  decide

/-! ### 6. the side hypotheses, discharged or shown exact -/

/-- `noHole` is EXACT: for well-formed assignable types, filtering every clean
`s`-value to `d` yields a clean `d`-value if and only if `noHole d s`.  So
`filter_valid_of_assignable_partial` cannot be improved, and whenever
`noHole d s` fails a concrete counterexample value exists (for the two
base shapes: the witnesses `f9_…`, `f10_…`). -/
theorem filter_valid_of_assignable_iff (d s : Ty) (hd : d.wf = true) (hs : s.wf = true)
    (ha : assignable d s = true) :
    (∀ v, valid s v = true → valid d (filter d v).1 = true) ↔ noHole d s = true := by
  simp only [valid_eq, filter_eq]
  exact Reading.exact.filter_valid_of_assignable_iff d s hd hs ha

/-- `noHole` is a decidable syntactic predicate; these equations characterise it. -/
theorem noHole_scalar_dst (b : Base) (n : Bytes) (s : Ty) :
    noHole (.base b) s = true ∧ noHole (.user n) s = true := by simp [noHole]

theorem noHole_array_iff (d s : Ty) : noHole (.arr d) (.arr s) = noHole d s := by simp [noHole]

theorem noHole_map_iff (d s : Ty) :
    noHole (.tmap d) (.tmap s) = true ↔ (isDirMap d = true → isDirMap s = true) ∧ noHole d s = true := by
  cases hd : isDirMap d <;> simp [noHole, hd]

theorem noHole_map_from_struct (d : Ty) (n : Bytes) (fs : Fields) :
    noHole (.tmap d) (.struct n fs) = false := by simp [noHole]

theorem noHole_struct_iff (n n' : Bytes) (fs fs' : Fields) :
    noHole (.struct n fs) (.struct n' fs') = true ↔
      ∀ k t t', (k, t) ∈ fs.toList → fs'.get k = some t' → noHole t t' = true := by
  simp only [noHole, noHoleFields_iff]

/-- every well-formed type is hole-free with respect to itself -/
theorem noHole_refl (t : Ty) (hwf : t.wf = true) : noHole t t = true :=
  Martian.Types.noHole_refl t hwf

/-- non-vacuity on nested types: `struct D(N[] a, map<N> b)` from
`struct S(map<N> b, N[] a, int x)` with `N` the nested struct above; `map<txt[]>`
from `map<file[]>`…  all satisfy the hypotheses of the theorems of §5–§7. -/
example :
    let d : Ty := .struct [0x44] (.cons ka (.arr tN) (.cons kb (.tmap tN) .nil))
    let s : Ty := .struct [0x53] (.cons kb (.tmap tN) (.cons ka (.arr tN) (.cons kx (.base .int) .nil)))
    d.wf = true ∧ s.wf = true ∧ assignable d s = true ∧ noHole d s = true ∧ pureNarrow d s = true := by
  decide +kernel

example :
    assignable (.tmap (.arr (.user [0x74]))) (.tmap (.arr (.base .file))) = true ∧
    noHole (.tmap (.arr (.user [0x74]))) (.tmap (.arr (.base .file))) = true ∧
    noHole (.arr (.tmap (.base .float))) (.arr (.tmap (.base .int))) = true := by decide +kernel

/-- Assignability preserves the `(ArrayDim, MapDim)` shape except for the two
map coercions (`map ← map<T>`, `map<T> ← struct`, below equal array depth). -/
theorem dims_eq_of_assignable (d s : Ty) (ha : assignable d s = true)
    (hm : mapCoercion d s = false) : dims d = dims s :=
  Martian.Types.dims_eq_of_assignable d s ha hm

/-- structs: the component-wise equivalence at FULL strength whenever no member
pair is one of the two map coercions – this discharges the `dims` conjunct of
`assignable_struct_iff_partial`. -/
theorem assignable_struct_iff_of_no_mapCoercion (n n' : Bytes) (fs fs' : Fields)
    (hm : ∀ k t t', (k, t) ∈ fs.toList → fs'.get k = some t' → mapCoercion t t' = false) :
    assignable (.struct n fs) (.struct n' fs') = true ↔
      ∀ k t, (k, t) ∈ fs.toList → ∃ t', fs'.get k = some t' ∧ assignable t t' = true := by
  rw [assignable_struct_iff_partial]
  constructor
  · intro h k t hkt
    obtain ⟨t', hg, _, ha⟩ := h k t hkt
    exact ⟨t', hg, ha⟩
  · intro h k t hkt
    obtain ⟨t', hg, ha⟩ := h k t hkt
    exact ⟨t', hg, Martian.Types.dims_eq_of_assignable t t' ha (hm k t t' hkt hg), ha⟩

example : mapCoercion (.arr tN) (.arr tN) = false ∧ mapCoercion (.base .float) (.base .int) = false ∧
    mapCoercion (.base .map) (.tmap (.base .int)) = true := by decide +kernel

/-! ### 7. composition (what C01 / C07 rely on) -/

/-- A value that validates cleanly is filtered (to the same type) without any
error – not even a soft one. -/
theorem filter_ok_of_valid (t : Ty) (v : J) (h : valid t v = true) : (filter t v).2 = .ok :=
  Martian.Types.filter_ok_of_valid t v h

/-- Narrowing chain: for a value that is clean at the wider type `s`,
filtering to `s` and then to the narrower `d` equals filtering to `d`
directly.  Hypothesis `pureNarrow d s`: no `map`/`map<T>` destination takes
the place of a struct/typed map (those destinations filter less than `s`
did).  Both it and `valid s v` are needed: see the two witnesses below. -/
theorem filter_narrow_chain (d s : Ty) (v : J) (hd : d.wf = true) (hs : s.wf = true)
    (hv : valid s v = true) (ha : assignable d s = true) (hp : pureNarrow d s = true) :
    (filter d (filter s v).1).1 = (filter d v).1 :=
  filter_chain d hd s v hs hv ha hp

/-- non-vacuity: struct narrowing through nested types with a coercion -/
example :
    let d : Ty := .struct [0x44] (.cons ka (.arr tA) (.cons kb (.tmap (.base .float)) .nil))
    let s : Ty := .struct [0x53] (.cons kb (.tmap (.base .int)) (.cons ka (.arr tA) (.cons kx (.base .int) .nil)))
    let v : J := .obj [(kx, .num (.int 1)), (ka, .arr [.obj [(ka, .num (.int 2)), (kx, .null)]]),
                       (kb, .obj [(ka, .num (.int 3)), (kb, .null)])]
    d.wf = true ∧ s.wf = true ∧ valid s v = true ∧
      assignable d s = true ∧ pureNarrow d s = true := by decide +kernel

/-- witness: without `pureNarrow` (`map ← struct A`) the chain equation fails:
the struct filter drops `x`, the direct filter to `map` keeps it. -/
theorem chain_fails_map_from_struct :
    assignable (.base .map) tA = true ∧ pureNarrow (.base .map) tA = false ∧
    valid tA (.obj [(ka, .num (.int 1)), (kx, .null)]) = true ∧
    (filter (.base .map) (filter tA (.obj [(ka, .num (.int 1)), (kx, .null)])).1).1
      = .obj [(ka, .num (.int 1))] ∧
    (filter (.base .map) (.obj [(ka, .num (.int 1)), (kx, .null)])).1
      = .obj [(ka, .num (.int 1)), (kx, .null)] :=
  ⟨by decide, by decide, by decide, rfl, rfl⟩

/-- witness: without `valid s v` (`float ← int`, value `1.0`) the int filter
rewrites the literal, the float filter does not. -/
theorem chain_fails_invalid_source :
    valid (.base .int) (.num (.flt 10 (-1))) = false ∧
    (filter (.base .float) (filter (.base .int) (.num (.flt 10 (-1)))).1).1 = .num (.int 1) ∧
    (filter (.base .float) (.num (.flt 10 (-1)))).1 = .num (.flt 10 (-1)) :=
  ⟨by decide, rfl, rfl⟩

/-! ### 8. duplicate keys: objects are association LISTS

Every theorem above holds for arbitrary association lists, duplicates
included.  The real code decodes an object into a Go map before it looks at
it, i.e. it sees `dedupLast kvs` (for every key its LAST member).
* At struct-typed positions the model does exactly that (`getKey` is
  last-wins): `valid_struct_last_wins`, `filter_struct_last_wins`.
* At typed-map positions the model looks at every member of the list; the
  real code at the members of `dedupLast kvs`.  The two agree on objects
  without duplicated keys (`dedupLast_of_nodup`), and the correspondence is
  run as  real(v) ≃ model(v with every object in last-wins normal form),
  outputs compared up to that normal form.  `tmap_shadowed_member` is the
  negative witness for the raw list (replayed on the real code). -/

theorem valid_struct_last_wins (n : Bytes) (fs : Fields) (kvs : List (Bytes × J)) :
    valid (.struct n fs) (.obj kvs) = valid (.struct n fs) (.obj (dedupLast kvs)) := by
  simp [valid, check, checkFields_dedupLast]

theorem filter_struct_last_wins (n : Bytes) (fs : Fields) (kvs : List (Bytes × J)) :
    filter (.struct n fs) (.obj kvs) = filter (.struct n fs) (.obj (dedupLast kvs)) := by
  simp [filter, filterFields_dedupLast]

/-- the normal form has no duplicated key, keeps exactly the last members, and
is a fixed point -/
theorem dedupLast_spec (kvs : List (Bytes × J)) :
    ((dedupLast kvs).map Prod.fst).Nodup ∧
    (∀ k v, (k, v) ∈ dedupLast kvs ↔ getKey k kvs = some v) ∧
    dedupLast (dedupLast kvs) = dedupLast kvs :=
  ⟨keys_dedupLast_nodup kvs, fun _ _ => mem_dedupLast_iff,
    dedupLast_of_nodup (keys_dedupLast_nodup kvs)⟩

/-- struct positions: a shadowed (earlier) duplicate is never looked at –
`{"a":"x","a":1}` is a clean `struct A(int a)`, and filtering keeps the last member. -/
theorem struct_shadowed_member_ignored :
    valid tA (.obj [(ka, .str kx), (ka, .num (.int 1))]) = true ∧
    filter tA (.obj [(ka, .str kx), (ka, .num (.flt 10 (-1)))]) = (.obj [(ka, .num (.int 1))], .soft) :=
  ⟨by decide, rfl⟩

/-- typed-map positions, negative witness for the RAW list: the model rejects
`{"a":"x","a":1}` as `map<int>` (it looks at the shadowed member) but accepts
its last-wins normal form `{"a":1}` – which is what the real code validates
(it answers ok; replayed from corpus/C17). -/
theorem tmap_shadowed_member :
    valid (.tmap (.base .int)) (.obj [(ka, .str kx), (ka, .num (.int 1))]) = false ∧
    dedupLast [(ka, J.str kx), (ka, .num (.int 1))] = [(ka, .num (.int 1))] ∧
    valid (.tmap (.base .int)) (.obj (dedupLast [(ka, .str kx), (ka, .num (.int 1))])) = true :=
  ⟨by decide, rfl, by decide⟩


/-! ### 9. numerals as Go reads them (float64 rounding) – the extended model

Everything above decides "integral float" on the exact decimal value of a
literal.  The code rounds first: `BuiltinType.FilterJson` for `int` parses the
literal with `strconv.ParseFloat` when `int64` parsing fails and tests/writes
the ROUNDED value; `float` validation rejects literals beyond the largest
finite float64.  `Martian.TypesR` (Martian/Types.lean) is the same type model
over `Num.round64` / `Num.goInt?` / `Num.finite64` (Martian/Json.lean: the
literal is kept as exact integers mantissa·10^exp, only the rounding the code
performs is modelled), and the property theorems hold for it verbatim, for ALL
types and ALL JSON values, with no numeral excluded. -/
section Rounded

/-- filtering is idempotent (rounded numerals): the integer written for a
numeral is an `int64` literal, which filtering leaves alone -/
theorem filter_idem_round (t : Ty) (hwf : t.wf = true) (v : J) :
    (Martian.TypesR.filter t (Martian.TypesR.filter t v).1).1 = (Martian.TypesR.filter t v).1 :=
  Martian.TypesR.filter_idem t hwf v

/-- filtering changes nothing except dropping undeclared members and rewriting
a numeral that is no `int64` literal as the integer its float64 rounding is
(`Drops.int n i : n.goInt? = some i`) -/
theorem filter_only_drops_round_partial (t : Ty) (v : J) (h : (Martian.TypesR.filter t v).2 ≠ .fatal) :
    Martian.TypesR.Drops (Martian.TypesR.filter t v).1 v :=
  Martian.TypesR.filter_drops t v h

/-- `_partial` (non-fatal results only, as `filter_exactly_drops_partial`).
EXACTLY what is dropped, rounded numerals: as `filter_exactly_drops_partial`, the `int` rewrite being the
code's (`n.goInt? = some i`: the ROUNDED value) -/
theorem filter_exactly_drops_round_partial (t : Ty) (v : J) (h : (Martian.TypesR.filter t v).2 ≠ .fatal) :
    DropsT (fun n i => n.goInt? = some i) t (Martian.TypesR.filter t v).1 v :=
  Martian.TypesR.filter_dropsT t v h

/-- struct positions: exactly the declared members in declaration order (rounded model) -/
theorem filter_struct_members_round (n : Bytes) (fs : Fields) (kvs : List (Bytes × J)) :
    ∃ out, (Martian.TypesR.filter (.struct n fs) (.obj kvs)).1 = .obj out ∧
      out.map Prod.fst = fs.toList.map Prod.fst :=
  ⟨_, Martian.TypesR.filter_struct_fst n fs kvs, by simp [List.map_map, Function.comp_def]⟩

/-- same type: a clean value stays clean after filtering (rounded model) -/
theorem filter_valid_self_round (t : Ty) (hwf : t.wf = true) (v : J) (h : Martian.TypesR.valid t v = true) :
    Martian.TypesR.valid t (Martian.TypesR.filter t v).1 = true :=
  Martian.TypesR.valid_of_shape _ _ (Martian.TypesR.shape_filter_of_assignable t hwf t v
    (Martian.TypesR.shape_of_valid t v h) (Martian.Types.assignable_refl t hwf) (Martian.Types.noHole_refl t hwf))

/-- narrowing chain (rounded model) -/
theorem filter_narrow_chain_round (d s : Ty) (v : J) (hd : d.wf = true) (hs : s.wf = true)
    (hv : Martian.TypesR.valid s v = true) (ha : assignable d s = true) (hp : pureNarrow d s = true) :
    (Martian.TypesR.filter d (Martian.TypesR.filter s v).1).1 = (Martian.TypesR.filter d v).1 :=
  Martian.TypesR.filter_chain d hd s v hs hv ha hp

/-- struct positions are last-wins (rounded model) -/
theorem struct_last_wins_round (n : Bytes) (fs : Fields) (kvs : List (Bytes × J)) :
    Martian.TypesR.valid (.struct n fs) (.obj kvs) = Martian.TypesR.valid (.struct n fs) (.obj (dedupLast kvs))
    ∧ Martian.TypesR.filter (.struct n fs) (.obj kvs) = Martian.TypesR.filter (.struct n fs) (.obj (dedupLast kvs)) := by
  constructor
  · simp [Martian.TypesR.valid, Martian.TypesR.check, Martian.TypesR.checkFields_dedupLast]
  · simp [Martian.TypesR.filter, Martian.TypesR.filterFields_dedupLast]

/-- clean validation accepts exactly the declared shape, floats being finite in binary64 -/
theorem valid_iff_shape_round (t : Ty) (v : J) : Martian.TypesR.valid t v = true ↔ Martian.TypesR.Shape t v :=
  ⟨Martian.TypesR.shape_of_valid t v, Martian.TypesR.valid_of_shape t v⟩

/-- `noHole` is exact for the rounded model as well -/
theorem filter_valid_of_assignable_iff_round (d s : Ty) (hd : d.wf = true) (hs : s.wf = true)
    (ha : assignable d s = true) :
    (∀ v, Martian.TypesR.valid s v = true → Martian.TypesR.valid d (Martian.TypesR.filter d v).1 = true)
      ↔ noHole d s = true := by
  simp only [Martian.TypesR.valid_eq, Martian.TypesR.filter_eq]
  exact Reading.float64.filter_valid_of_assignable_iff d s hd hs ha

/-- a clean value filters without any error (rounded model) -/
theorem filter_ok_of_valid_round (t : Ty) (v : J) (h : Martian.TypesR.valid t v = true) :
    (Martian.TypesR.filter t v).2 = .ok :=
  Martian.TypesR.filter_ok_of_valid t v h

/-- the integer `FilterJson` writes always fits `int64` -/
theorem goInt_in_int64 (n : Num) (i : Int) (h : n.goInt? = some i) : Num.inInt64 i = true :=
  Num.goInt?_inInt64 h

/-- Known finding C17-N3 as theorems about the code's rule (each replayed on the
real code every run): the value written is the ROUNDED value.
`9007199254740993.0` (2^53+1) is written as `9007199254740992`;
`1.0000000000000001` (not an integer) as `1`; `1e-400` as `0`; the integer
literal `-9223372036854775809` (outside `int64`) as `-9223372036854775808`;
while `9223372036854775808` and `1.5` are rejected, and `1.0`, `1e3` are exact. -/
theorem rounding_decides_witnesses :
    Num.goInt? (.flt 90071992547409930 (-1)) = some 9007199254740992
    ∧ Num.goInt? (.flt 10000000000000001 (-16)) = some 1
    ∧ Num.goInt? (.flt 1 (-400)) = some 0
    ∧ Num.goInt? (.int (-9223372036854775809)) = some (-9223372036854775808)
    ∧ Num.goInt? (.int 9223372036854775808) = none
    ∧ Num.goInt? (.flt 15 (-1)) = none
    ∧ Num.goInt? (.flt 10 (-1)) = some 1
    ∧ Num.goInt? (.flt 1 3) = some 1000 := by
  decide +kernel

/-- … and this is what `filter` at `int` does with them (error classes) -/
theorem rounding_filter_classes :
    (Martian.TypesR.filter (.base .int) (.num (.flt 90071992547409930 (-1)))).2 = .soft
    ∧ (Martian.TypesR.filter (.base .int) (.num (.int (-9223372036854775809)))).2 = .soft
    ∧ (Martian.TypesR.filter (.base .int) (.num (.int 9223372036854775808))).2 = .fatal
    ∧ (Martian.TypesR.filter (.base .int) (.num (.flt 15 (-1)))).2 = .fatal
    ∧ (Martian.TypesR.filter (.base .int) (.num (.int 7))).2 = .ok := by
  decide +kernel

/-- … where the exact-decimal model above says otherwise (the two models
differ only on numerals that are not `Num.exact64`) -/
theorem exact_model_differs_on_rounding :
    (Num.flt 90071992547409930 (-1)).intValue? = some 9007199254740993
    ∧ (Num.flt 10000000000000001 (-16)).intValue? = none
    ∧ Num.exact64 (.flt 90071992547409930 (-1)) = false
    ∧ Num.exact64 (.flt 10000000000000001 (-16)) = false
    ∧ Num.exact64 (.flt 10 (-1)) = true := by decide +kernel

/-- float range: `1e309` is no float (`ParseFloat`: `ErrRange`), the largest
finite float64 and a subnormal are; an `int64` integer is a float -/
theorem float_range_witnesses :
    Martian.TypesR.valid (.base .float) (.num (.flt 1 309)) = false
    ∧ Martian.TypesR.valid (.base .float) (.num (.flt 17976931348623157 292)) = true
    ∧ Martian.TypesR.valid (.base .float) (.num (.flt 17976931348623159 292)) = false
    ∧ Martian.TypesR.valid (.base .float) (.num (.flt 49 (-325))) = true
    ∧ Martian.TypesR.valid (.base .float) (.num (.int 9223372036854775807)) = true := by decide +kernel

/-- non-vacuity: a soft filtering in the rounded model that drops a member and rewrites a numeral -/
example : (Martian.TypesR.filter tA (.obj [(kx, .null), (ka, .num (.flt 90071992547409930 (-1)))])).2
    = .soft := by decide +kernel

/-- The two models differ ONLY through rounding: on a float-syntax literal that
is exactly a float64 value (`Num.exact64`, a decidable predicate on the exact
mantissa/exponent) the decision the code makes on the rounded value is the
decision of exact decimal arithmetic (`intValue?` + `int64` range) … -/
theorem goInt_exact_of_exact64 (m e : Int) (h : Num.exact64 (.flt m e) = true) :
    Num.goInt? (.flt m e) = match (Num.flt m e).intValue? with
      | some i => if Num.inInt64 i then some i else none
      | none => none :=
  Num.goInt?_of_exact_flt m e h

/-- … and therefore validation and filtering in the two models coincide – verdict,
filtered value, error class, for every type – on every JSON value all of whose
numerals are float64 values.  So every theorem of sections 1–8 is a theorem
about the code's behaviour on such values, and section 9 covers the rest. -/
theorem models_agree_on_exact_numerals (t : Ty) (v : J) (h : Martian.TypesR.NumsExact v) :
    Martian.TypesR.filter t v = filter t v ∧ Martian.TypesR.check t v = check t v :=
  ⟨Martian.TypesR.filter_agree t v h, Martian.TypesR.check_agree t v h⟩

/-- non-vacuity: `{"a": 1.0, "x": [0.5, 1e22, 9007199254740992]}` has exact numerals only -/
example : Martian.TypesR.NumsExact (.obj [(ka, .num (.flt 10 (-1))),
    (kx, .arr [.num (.flt 5 (-1)), .num (.flt 1 22), .num (.int 9007199254740992)])]) := by
  refine .obj _ ?_
  intro kv hkv
  simp only [List.mem_cons, List.not_mem_nil, or_false] at hkv
  rcases hkv with rfl | rfl
  · exact .num _ (by decide +kernel)
  · refine .arr _ ?_
    intro x hx
    simp only [List.mem_cons, List.not_mem_nil, or_false] at hx
    rcases hx with rfl | rfl | rfl <;> exact .num _ (by decide +kernel)

end Rounded


/-! ### 10. bytes: the JSON value grammar, and the splicing the filters really do

`FilterJson` never builds a tree: it asks `encoding/json` for the raw slices of the members,
filters each slice and either returns its input slice (when every member came back as the same
slice) or concatenates brackets, member slices, commas, colons and re-encoded keys.
Martian/JsonBytes.lean models the value grammar `encoding/json` accepts as a total byte parser
(`parseV` / `parseTop`, tree = `J`), a canonical printer (`printJ`), and the filters as functions
on raw messages (`filterA` on the annotated parse tree `A`; `filterBytes` on bytes).  `Den p j`
(Proofs/JsonBytes.lean) = "the bytes `p`, followed by anything that may follow a value, are read
as the tree `j` and nothing more is consumed". -/
section Bytes
open Martian.JsonBytes

/-- the parser reads the canonical text of every tree back (strings and keys valid UTF-8) -/
theorem json_parse_print (j : J) (h : wfJ j = true) : parseTop (printJ j) = some j :=
  parseTop_of_den (den_printJ j h)

/-- … so the canonical printer is injective: equal bytes, equal trees -/
theorem json_print_injective (j1 j2 : J) (h1 : wfJ j1 = true) (h2 : wfJ j2 = true)
    (h : printJ j1 = printJ j2) : j1 = j2 := by
  have a := json_parse_print j1 h1
  have b := json_parse_print j2 h2
  rw [h] at a
  rw [a] at b
  exact Option.some.inj b

/-- numbers are kept as written: `parseNum (printNum n ++ rest) = (n, rest)` before any delimiter -/
theorem json_number_roundtrip (n : Num) (rest : Bytes) (hr : delim rest = true) :
    parseNum (printNum n ++ rest) = some (n, rest) :=
  parseNum_printNum n rest hr

/-- THE SPLICE LEMMAS.  An array written as `[` pieces separated by `,` `]` denotes the array of
the trees the pieces denote – whatever the pieces are (re-encoded or untouched input slices with
their own white space) … -/
theorem splice_array_denotes (ps : List Bytes) (js : List J) (h : All2 Den ps js) :
    Den (spliceArr ps) (.arr js) :=
  den_spliceArr ps js h

/-- … and an object written as `{` keyToken `:` piece `,` … `}` denotes the object of the decoded
keys and the trees of the pieces. -/
theorem splice_object_denotes (ms : List (Bytes × Bytes)) (kvs : List (Bytes × J)) (h : All2 DenM ms kvs) :
    Den (spliceObj ms) (.obj kvs) :=
  den_spliceObj ms kvs h

/-- SPLICE CORRECTNESS OF `FilterJson` (all types, all raw messages): if the input message is
sound (every node's raw bytes denote that node's tree – what `encoding/json` hands out), then so is
the returned message, on the fast path (input slice returned) and on every re-encoding path
(array, typed map with `sort.Strings` keys and last-wins duplicates, struct with declared members
in declaration order, `int` rewritten by `json.Marshal`). -/
theorem filter_bytes_sound (t : Ty) (hk : tyKeysOk t = true) (a : A) (h : ASound a) :
    ASound (filterA t a).out :=
  sound_filterA t hk a h

/-- … in particular the bytes returned parse, as a whole document, to the tree returned -/
theorem filter_bytes_parse (t : Ty) (hk : tyKeysOk t = true) (a : A) (h : ASound a) :
    parseTop (filterA t a).out.raw = some (filterA t a).out.toJ :=
  parseTop_of_den (sound_filterA t hk a h).den

/-- LOCALITY (why `json.RawMessage` slices mean anything): the bytes the parser consumed for a
value – whatever white space, escapes, duplicate keys or nesting they contain – denote that value
on their own: followed by anything that may follow a value, they are read as the same tree.  So
the slice `encoding/json` hands out for a member re-parses to the member's tree. -/
theorem json_slices_denote (f : Nat) (b : Bytes) (j : J) (r : Bytes) (h : parseV f b = some (j, r)) :
    Den (consumed (skipWs b) r) j :=
  parseV_local f b j r h

/-- strings and keys the JSON decoder returns are always valid UTF-8 (invalid input is coerced to
U+FFFD), so re-encoding a decoded key and reading it back gives the same key -/
theorem json_decoded_strings_valid (t k r : Bytes) (h : parseStr t = some (k, r)) :
    Martian.ShellQuote.validUtf8 k = true :=
  parseStr_valid t k r h

/-- every document the grammar accepts is annotated soundly (no side condition): at every node
of `parseTopA data` the recorded raw slice denotes the node's tree -/
theorem json_annotation_sound (data : Bytes) (a : A) (h : parseTopA data = some a) : ASound a :=
  (parseTopA_good h).2

/-- FILTER BYTES, for ALL types (member names valid UTF-8) and ALL inputs the grammar accepts: the
bytes `FilterJson` returns – input slice or re-encoded containers, at any depth – are a JSON
document, namely the document of the tree the model returns.  (A theorem about the
byte-level model `filterBytes`, which is itself compared byte for byte with the real `FilterJson`
on every case of every run.) -/
theorem filter_bytes_document (t : Ty) (hk : tyKeysOk t = true) (data out : Bytes) (e : FErr)
    (h : filterBytes t data = some (out, e)) :
    ∃ a, parseTopA data = some a ∧ out = (filterA t a).out.raw
      ∧ parseTop out = some (filterA t a).out.toJ :=
  filterBytes_parses t hk data out e h

/-- FILTER BYTES = FILTER TREE, the VALUES (the link to sections 1–9; this
statement links the trees only – for the error class see `filter_bytes_error_class` next): for every
well-formed type and every input the grammar accepts, if `FilterJson` does not fail fatally, the
bytes it returns parse to a tree that is – as a decode into Go maps / a Python dict sees it (`EqL`:
per key the last member wins; member ORDER and shadowed duplicates are invisible, so the
"declaration order" / "same key order" clauses of `DropsT` do not pass through this link) – the
rounded-numeral tree model's `filter` of the tree the input parses to.
`_partial`: restricted to `e ≠ fatal` (on a fatal error the code returns bytes with
`null` written for a missing member: `filter_fatal_adds_null`). -/
theorem filter_bytes_tree_partial (t : Ty) (hwf : t.wf = true) (hk : tyKeysOk t = true) (data out : Bytes) (e : FErr)
    (h : filterBytes t data = some (out, e)) (hne : e ≠ .fatal) :
    ∃ j0 j, parseTop data = some j0 ∧ parseTop out = some j ∧ EqL j (Martian.TypesR.filter t j0).1 :=
  filterBytes_tree t hwf hk data out e h hne

/-- FILTER BYTES = FILTER TREE, the ERROR CLASS: on a document no object of
which has two members with the same key (`noDupA`, decidable; it also says the annotated leaves are
scalars, which is true of everything `parseTopA` returns) the error class `FilterJson` reports on
the bytes IS the error class of the tree-level model on the parsed tree.  Without the hypothesis the
two can differ – the tree-level model filters a shadowed duplicate under `map<T>`, the code only the
members of the decoded Go map (`tmap_shadowed_member`); the byte-level model follows the code and is
compared with it byte for byte AND error class for error class on every case. -/
theorem filter_bytes_error_class (t : Ty) (hwf : t.wf = true) (data out : Bytes) (e : FErr)
    (h : filterBytes t data = some (out, e)) :
    ∃ a, parseTopA data = some a ∧ parseTop data = some a.toJ ∧
      (noDupA a = true → e = (Martian.TypesR.filter t a.toJ).2) := by
  obtain ⟨a, ha, _, rfl⟩ := filterBytes_eq_some h
  exact ⟨a, ha, (parseTopA_good ha).1, fun hn => filterA_err_agrees t hwf a hn⟩

/-- … so the error-class hypotheses of sections 1–9 CAN be discharged from the bytes: e.g. "exactly
what is dropped" (`filter_exactly_drops_round_partial`) for the tree the returned bytes denote.  `_partial`:
duplicate-free input, no fatal error. -/
theorem filter_bytes_exactly_drops_partial (t : Ty) (hwf : t.wf = true) (hk : tyKeysOk t = true)
    (data out : Bytes) (e : FErr) (h : filterBytes t data = some (out, e)) (hne : e ≠ .fatal) :
    ∃ a j, parseTopA data = some a ∧ parseTop out = some j ∧ (noDupA a = true →
      EqL j (Martian.TypesR.filter t a.toJ).1 ∧
      DropsT (fun n i => n.goInt? = some i) t (Martian.TypesR.filter t a.toJ).1 a.toJ) := by
  obtain ⟨a, ha, rfl, rfl⟩ := filterBytes_eq_some h
  refine ⟨a, _, ha, parseTop_of_den (sound_filterA t hk a ((parseTopA_good ha).2)).den,
    fun hn => ⟨filterA_agrees t hwf a hne, ?_⟩⟩
  exact Martian.TypesR.filter_dropsT t a.toJ (by rw [← filterA_err_agrees t hwf a hn]; exact hne)

/-- non-vacuity: `{"a":"x","a":1}` has a duplicated key (`noDupA` false) and there the classes do
differ at `map<int>` (bytes: ok – the Go map holds `a ↦ 1`; tree model: fatal on the shadowed `"x"`);
`{"a":1,"b":2}` has none -/
example : (parseTopA [0x7B, 0x22, 0x61, 0x22, 0x3A, 0x22, 0x78, 0x22, 0x2C, 0x22, 0x61, 0x22, 0x3A, 0x31, 0x7D]).map noDupA = some false
    ∧ (filterBytes (.tmap (.base .int)) [0x7B, 0x22, 0x61, 0x22, 0x3A, 0x22, 0x78, 0x22, 0x2C, 0x22, 0x61, 0x22, 0x3A, 0x31, 0x7D]).map (·.2) = some .ok
    ∧ (Martian.TypesR.filter (.tmap (.base .int)) (.obj [(ka, .str kx), (ka, .num (.int 1))])).2 = .fatal
    ∧ (parseTopA [0x7B, 0x22, 0x61, 0x22, 0x3A, 0x31, 0x2C, 0x22, 0x62, 0x22, 0x3A, 0x32, 0x7D]).map noDupA = some true := by
  decide +kernel

/-- `EqL` is reflexive, and it really forgets order: `{"a":1,"b":2}` and `{"b":2,"a":0,"a":1}` -/
example : EqL (.obj [(ka, .num (.int 1)), (kb, .num (.int 2))])
    (.obj [(kb, .num (.int 2)), (ka, .num (.int 0)), (ka, .num (.int 1))]) := by
  refine .of_getKey_eq fun k => ?_
  by_cases hb : kb = k
  · subst hb; simp [getKey, show ¬ ka = kb by decide]
  · by_cases ha : ka = k <;> simp [getKey, ha, hb]

/-- non-vacuity / witnesses, on bytes: `struct A(int a)` filters `{ "x":null, "a" : 1.0 }` to
`{"a":1}` (re-encoded: member dropped, number rewritten) and returns `{ "a" : 1 }` untouched,
white space included (fast path) -/
example : (filterBytes tA [0x7B, 0x20, 0x22, 0x78, 0x22, 0x3A, 0x6E, 0x75, 0x6C, 0x6C, 0x2C, 0x20, 0x22, 0x61,
      0x22, 0x20, 0x3A, 0x20, 0x31, 0x2E, 0x30, 0x20, 0x7D])
    = some ([0x7B, 0x22, 0x61, 0x22, 0x3A, 0x31, 0x7D], .soft) := by decide +kernel
example : (filterBytes tA [0x7B, 0x20, 0x22, 0x61, 0x22, 0x20, 0x3A, 0x20, 0x31, 0x20, 0x7D])
    = some ([0x7B, 0x20, 0x22, 0x61, 0x22, 0x20, 0x3A, 0x20, 0x31, 0x20, 0x7D], .ok) := by decide +kernel
/-- a sound message: the literal `1.0` with its tree -/
example : ASound (.lit (printNum (.flt 10 (-1))) (.num (.flt 10 (-1)))) := .lit _ _ (den_num _)
/-- the grammar is `encoding/json`'s: leading zeros, trailing commas, raw control bytes, garbage
after the value are rejected; white space and duplicate keys are accepted -/
example : parseTop [0x5B, 0x30, 0x31, 0x5D] = none ∧ parseTop [0x5B, 0x31, 0x2C, 0x5D] = none
    ∧ parseTop [0x22, 0x01, 0x22] = none ∧ parseTop [0x31, 0x20, 0x32] = none
    ∧ (parseTop [0x20, 0x5B, 0x0A, 0x31, 0x09, 0x5D, 0x0D]).map printJ = some [0x5B, 0x31, 0x5D] := by
  decide +kernel

end Bytes

end Props.C17
