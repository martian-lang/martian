/-
C15 — re-attach is refused iff the invocation's meaning (not merely its text) changed.
Property theorems (lemmas: Proofs/Equiv.lean, EquivStructs.lean, EquivLockLTS.lean, SortKeys.lean).

`equivCall`/`equivalentCall` is `Ast.EquivalentCall` of martian/syntax/equivalence.go
on compiled ASTs; `semCall` is the specification: the call tree unfolded through
the callable tables with locations, comments, include structure, callable
names, scalar file-type names, stage output file names, volatile, retain,
resources, src and chunk parameters erased and all tables sorted.
The second half is the pipestance lock: the atomic model `lockStep` (`at_most_one_writer`) and the
transition system `Martian.LockLTS` over all interleavings (`lts_*`); `Martian.LockLTSOld` serves one negative witness.
The facts `Gen.c15SelfCompare`, `Gen.c15StructsCompared` (the struct-definition pass of the comparison exists),
`Gen.c15RegisterFirst`, `Gen.c15LockExclusive`, `Gen.c15RefusedStartRemovesDir` and `Gen.c15LockCreateErrorIgnored`
are regenerated from the source on every run.
-/
import Proofs.EquivStructs
import Proofs.EquivLockLTS
import Gen.Facts

namespace Props.C15
open Martian.Equiv Martian.SortKeys

/-- Regenerated obligation: in `Modifiers.EquivalentTo` the binding compared
with the receiver's `disabled` binding is read from the *other* modifier set.
(False on a tree where it is read from the receiver itself — defect F11; the
negative witness is `selfCompare_accepts_changed_condition`.) -/
theorem disabled_lookup_reads_other :
    Gen.c15SelfCompare_extracted = true ∧ Gen.c15SelfCompare = false := by decide

/-- Re-attach is accepted exactly when the meaning is unchanged: at every
unfolding depth `n`, `CallStm.EquivalentTo` holds iff the two calls have the
same meaning. -/
theorem equivCall_iff_sem_eq (n : Nat) (T U : Tab) (c d : Call)
    (hT : T.wf = true) (hU : U.wf = true) (hc : c.wf = true) (hd : d.wf = true)
    (hcc : c.completeIn T = true) (hdc : d.completeIn U = true) :
    equivCall Gen.c15SelfCompare n T U c d = true ↔ semCall n T c = semCall n U d := by
  rw [disabled_lookup_reads_other.2]
  exact equivCall_iff n T U hT hU c d hc hd hcc hdc

/-- `Ast.EquivalentCall` on two compiled programs. -/
theorem equiv_iff_sem_eq (a b : Prog) (ha : a.wf = true) (hb : b.wf = true) :
    equivalentCall Gen.c15SelfCompare a b = true ↔
      semCall (Prog.fuel a b) a.tab a.call = semCall (Prog.fuel a b) b.tab b.call := by
  simp only [Prog.wf, Bool.and_eq_true] at ha hb
  exact equivCall_iff_sem_eq _ _ _ _ _ ha.1.1 hb.1.1 ha.1.2 hb.1.2 ha.2 hb.2

/-- Regenerated obligation: after the call comparison
`Ast.EquivalentCall` runs the second pass `structComparer.call`, which compares
the DEFINITIONS of the struct types used by the compared parameters, and refuses
when it fails.  (False on a tree without that pass — struct types are then
compared by name only; negative witness `struct_definition_change_accepted_without_second_pass`.) -/
theorem struct_definitions_compared :
    Gen.c15StructsCompared_extracted = true ∧ Gen.c15StructsCompared = true := by decide

/-- THE statement at the level of the full meaning (`Martian.Equiv.meaning`: the
call graph unfolded from the top-level call with all callable bodies, parameter
types, modifiers, bindings, AND the unfolded definitions of the struct types of
all those parameters — member names, what is compared of each member, the
definitions of the members' own struct types, recursively — plus every aspect
listed in `Ignored`): re-attach is accepted iff the COMPARED part of the meaning
is unchanged.  `equivalentCallFull` is `Ast.EquivalentCall` with both passes:
`CallStm.EquivalentTo` on the top-level calls, then `structComparer.call`.
What it ignores, as the Go code does, is the `ignored` component —
constructor by constructor `Ignored.calleeName`, `.volatile`, `.stageSrc`,
`.resources`, `.retain`, `.chunkParams`, `.fileTypeName` (scalar file kinds
only), `.outName` (stage outputs, non-file pipeline outputs), `.help` — and what
is not meaning at all (comments, whitespace, every ordering, include structure,
unreachable callables and types).  The enumeration covers the CALL tree; in the
struct-definition pass the code also ignores the help strings and output file names
of struct MEMBERS (and the file-type name of a scalar file member): those are left
out of `tyTree` but are NOT `Ignored` constructors — the `ignored` component is a
lower bound of what Go ignores, not an exact list.  Each ignored aspect has its own edit class
in the correspondence harness, which checks that the real code accepts it AND
that the model sees exactly that aspect change.  Hypotheses (checked by the
driver on every real AST): the compiled ASTs are well formed; member names of
a struct are distinct. -/
theorem equiv_iff_compared_meaning_eq (a b : FullProg) (ha : a.core.wf = true) (hb : b.core.wf = true)
    (hsa : structsWf a.structs = true) (hsb : structsWf b.structs = true) :
    equivalentCallFull Gen.c15SelfCompare Gen.c15StructsCompared a b = true ↔
      (meaning (Prog.fuel a.core b.core) (sfuel a b) a).compared
        = (meaning (Prog.fuel a.core b.core) (sfuel a b) b).compared := by
  have h1 := equiv_iff_sem_eq a.core b.core ha hb
  simp only [Prog.wf, Bool.and_eq_true] at ha hb
  have h2 := typesCall_iff a.structs b.structs hsa hsb (sfuel a b) (Prog.fuel a.core b.core)
    a.core.tab b.core.tab ha.1.1 hb.1.1 a.core.call b.core.call
  rw [struct_definitions_compared.2]
  simp only [equivalentCallFull, meaning, Bool.and_eq_true, Bool.not_true, Bool.false_or, Prod.mk.injEq]
  exact and_congr h1 h2

theorem equiv_refl (n : Nat) (T : Tab) (c : Call) (hT : T.wf = true) (hc : c.wf = true)
    (hcc : c.completeIn T = true) :
    equivCall Gen.c15SelfCompare n T T c c = true :=
  (equivCall_iff_sem_eq n T T c c hT hT hc hc hcc hcc).mpr rfl

theorem equiv_symm (n : Nat) (T U : Tab) (c d : Call)
    (hT : T.wf = true) (hU : U.wf = true) (hc : c.wf = true) (hd : d.wf = true)
    (hcc : c.completeIn T = true) (hdc : d.completeIn U = true)
    (h : equivCall Gen.c15SelfCompare n T U c d = true) :
    equivCall Gen.c15SelfCompare n U T d c = true :=
  (equivCall_iff_sem_eq n U T d c hU hT hd hc hdc hcc).mpr
    ((equivCall_iff_sem_eq n T U c d hT hU hc hd hcc hdc).mp h).symm

theorem equiv_trans (n : Nat) (T U W : Tab) (c d e : Call)
    (hT : T.wf = true) (hU : U.wf = true) (hW : W.wf = true)
    (hc : c.wf = true) (hd : d.wf = true) (he : e.wf = true)
    (hcc : c.completeIn T = true) (hdc : d.completeIn U = true) (hec : e.completeIn W = true)
    (h1 : equivCall Gen.c15SelfCompare n T U c d = true)
    (h2 : equivCall Gen.c15SelfCompare n U W d e = true) :
    equivCall Gen.c15SelfCompare n T W c e = true :=
  (equivCall_iff_sem_eq n T W c e hT hW hc he hcc hec).mpr
    (((equivCall_iff_sem_eq n T U c d hT hU hc hd hcc hdc).mp h1).trans
      ((equivCall_iff_sem_eq n U W d e hU hW hd he hdc hec).mp h2))

/-- Fuel adequacy.  `semCall` is fuel-bounded and is
`.cut` at fuel 0.  Whenever the unfolding with EXPLICIT fuel exhaustion (`semCallO`)
succeeds at a fuel `n` — nothing was cut — `semCall` is that meaning at `n` and at
every larger fuel.  The driver evaluates `semCallO (Prog.fuel a b)` for both programs
of every pair (7th field of `C15.equiv`); a `none` is a violation of the tie. -/
theorem sem_fuel_stable (n k : Nat) (T : Tab) (c : Call) (s : Sem) (h : semCallO n T c = some s) :
    semCall (n + k) T c = s :=
  semCall_stable n k T c s h

/-- …and so is the verdict of the comparison: more fuel never changes it. -/
theorem equiv_fuel_stable (n k : Nat) (T U : Tab) (c d : Call) (s t : Sem)
    (hT : T.wf = true) (hU : U.wf = true) (hc : c.wf = true) (hd : d.wf = true)
    (hcc : c.completeIn T = true) (hdc : d.completeIn U = true)
    (h1 : semCallO n T c = some s) (h2 : semCallO n U d = some t) :
    equivCall Gen.c15SelfCompare (n + k) T U c d = equivCall Gen.c15SelfCompare n T U c d := by
  have e1 := equivCall_iff_sem_eq (n + k) T U c d hT hU hc hd hcc hdc
  have e0 := equivCall_iff_sem_eq n T U c d hT hU hc hd hcc hdc
  rw [semCall_stable n k T c s h1, semCall_stable n k U d t h2] at e1
  have z1 := semCall_stable n 0 T c s h1
  have z2 := semCall_stable n 0 U d t h2
  simp only [Nat.add_zero] at z1 z2
  rw [z1, z2] at e0
  exact Bool.eq_iff_iff.mpr (e1.trans e0.symm)

/-! Non-vacuity: a well-formed program with a pipeline, a stage, a map literal,
a disabled condition; it is equivalent to itself with a renamed scalar file type
and the stage declared under another name (aliased back), and not to itself
with another argument value. -/

private def kA : Key := [65]
private def kB : Key := [66]
private def kX : Key := [120]
private def kY : Key := [121]
private def pFile (t : Key) : Param := { tname := t, arrayDim := 0, mapDim := 0, fileKind := 2, outName := [] }
private def pInt : Param := { tname := [105], arrayDim := 0, mapDim := 0, fileKind := 0, outName := [] }
private def mods0 : Mods := { isLocal := false, preflight := false, volatile := false, hasTable := false, disabled := none }
private def modsD (e : Exp) (vol : Bool) : Mods :=
  { isLocal := false, preflight := false, volatile := vol, hasTable := true, disabled := some e }
private def stageCall (dec : Key) (vol : Bool) : Call :=
  { id := kA, decId := dec, binds := [(kX, .atom (.ref 0 kX [])), (kY, .mcons kA (.atom (.int 1)) (.mcons kB (.atom .null) .mnil))],
    mods := modsD (.atom (.ref 0 kY [])) vol }
private def demoTab (stageName ft : Key) (vol : Bool) : Tab :=
  [(stageName, .stage true [(kX, pInt), (kY, pInt)] [(kA, pFile ft)]),
   (kB, .pipeline [(kX, pInt), (kY, pInt)] [(kA, pFile ft)] [stageCall stageName vol] [(kA, .atom (.ref 1 kA kA))])]
private def topCall (v : Int) : Call :=
  { id := kB, decId := kB, binds := [(kY, .atom (.bool true)), (kX, .atom (.int v))], mods := mods0 }

example : (Prog.mk (demoTab kA [116] false) (topCall 1)).wf = true := by decide +kernel
example : (Prog.mk (demoTab [67] [117] true) (topCall 1)).wf = true := by decide +kernel
example : (semCallO 2 (demoTab kA [116] false) (topCall 1)).isSome = true
    ∧ (semCallO 1 (demoTab kA [116] false) (topCall 1)).isSome = false := by decide
example : equivCall false 3 (demoTab kA [116] false) (demoTab [67] [117] true) (topCall 1) (topCall 1) = true := by
  decide +kernel
example : equivCall false 3 (demoTab kA [116] false) (demoTab kA [116] false) (topCall 1) (topCall 2) = false := by
  decide

/-! Struct definitions: stage `A(in Pt p)` called from the
top level; `struct Pt(int x)` versus `struct Pt(int x, int w)`. -/
private def kPt : Key := [80, 116]
private def pPt : Param := { tname := kPt, arrayDim := 0, mapDim := 0, fileKind := 0, outName := [] }
private def ptProg (fields : List (Key × Param)) : FullProg :=
  { core := { tab := [(kA, .stage false [(kX, pPt)] [])],
              call := { id := kA, decId := kA, binds := [(kX, .atom .null)], mods := mods0 } },
    extras := [], structs := [(kPt, fields)] }

/-- non-vacuity of `equiv_iff_compared_meaning_eq`, and the point of the second pass:
a member added to a struct type that a reachable parameter uses changes the
compared meaning and is refused (both directions); the unchanged definition is
accepted. -/
theorem struct_definition_change_refused :
    (ptProg [(kX, pInt)]).core.wf = true ∧ structsWf (ptProg [(kX, pInt)]).structs = true
    ∧ structsWf (ptProg [(kX, pInt), (kY, pInt)]).structs = true
    ∧ equivalentCallFull false true (ptProg [(kX, pInt)]) (ptProg [(kX, pInt)]) = true
    ∧ equivalentCallFull false true (ptProg [(kX, pInt)]) (ptProg [(kX, pInt), (kY, pInt)]) = false
    ∧ equivalentCallFull false true (ptProg [(kX, pInt), (kY, pInt)]) (ptProg [(kX, pInt)]) = false := by
  decide +kernel

/-! The same through NESTING: stage `A(in Box[] x)`,
`struct Box(map<Pt> A, int y)`, and the member is added to `Pt` — reached through an
array, a struct member and a typed map. -/
private def kBox : Key := [66, 111, 120]
private def pPtMap : Param := { tname := kPt, arrayDim := 0, mapDim := 1, fileKind := 0, outName := [] }
private def pBoxArr : Param := { tname := kBox, arrayDim := 1, mapDim := 0, fileKind := 0, outName := [] }
private def boxProg (fields : List (Key × Param)) : FullProg :=
  { core := { tab := [(kA, .stage false [(kX, pBoxArr)] [])],
              call := { id := kA, decId := kA, binds := [(kX, .atom .null)], mods := mods0 } },
    extras := [], structs := [(kBox, [(kA, pPtMap), (kY, pInt)]), (kPt, fields)] }

example :
    (boxProg [(kX, pInt)]).core.wf = true ∧ structsWf (boxProg [(kX, pInt)]).structs = true
    ∧ structsWf (boxProg [(kX, pInt), (kY, pInt)]).structs = true
    ∧ equivalentCallFull false true (boxProg [(kX, pInt)]) (boxProg [(kX, pInt)]) = true
    ∧ equivalentCallFull false true (boxProg [(kX, pInt)]) (boxProg [(kX, pInt), (kY, pInt)]) = false
    ∧ equivalentCallFull false true (boxProg [(kX, pInt), (kY, pInt)]) (boxProg [(kX, pInt)]) = false
    ∧ equivalentCallFull false false (boxProg [(kX, pInt)]) (boxProg [(kX, pInt), (kY, pInt)]) = true := by
  decide +kernel

/-- Negative witness (F20): without the second pass the same change is accepted. -/
theorem struct_definition_change_accepted_without_second_pass :
    equivalentCallFull false false (ptProg [(kX, pInt)]) (ptProg [(kX, pInt), (kY, pInt)]) = true := by
  decide

/-- Negative witness (F11): when the second lookup reads the receiver's own
table, a call whose disabling condition changed from `true` to `false` is
accepted although its meaning differs. -/
theorem selfCompare_accepts_changed_condition :
    let c : Call := { id := kA, decId := kA, binds := [], mods := modsD (.atom (.bool true)) false }
    let d : Call := { id := kA, decId := kA, binds := [], mods := modsD (.atom (.bool false)) false }
    c.wf = true ∧ d.wf = true ∧ equivCall true 1 [] [] c d = true ∧ semCall 1 [] c ≠ semCall 1 [] d := by
  refine ⟨by decide +kernel, by decide +kernel, by decide +kernel, ?_⟩
  simp [semCall, modsD, Exp.sem, Atom.sem]

/-- A wildcard binding is compared through what it expands to: `* = A` and
`* = B` (same parameter names) are NOT equivalent, although the `*` entries
themselves are skipped. -/
private def wildCall (src : Key) : Call :=
  { id := kA, decId := kA, mods := mods0,
    binds := [(star, .atom (.ref 1 src [])), (kX, .atom (.ref 1 src kX)), (kY, .atom (.ref 1 src kY))] }
example : (wildCall kA).wf = true ∧ equivCall false 1 [] [] (wildCall kA) (wildCall kA) = true ∧
    equivCall false 1 [] [] (wildCall kA) (wildCall kB) = false := by decide +kernel

/-! ## the lock -/

/-- Regenerated obligation: `Pipestance.Lock` registers its signal handler only
AFTER the `_lock`-exists check, so an attacher that is refused is not
registered. (Negative witness otherwise: `registerFirst_lets_third_writer_in`.) -/
theorem handler_registered_after_check :
    Gen.c15RegisterFirst_extracted = true ∧ Gen.c15RegisterFirst = false := by decide

/-- While `_lock` exists every `Lock()` fails and leaves the lock file and the holders alone. -/
theorem lock_exclusive (s : LockState) (p : Nat) (h : s.lockFile = true) :
    (lockStep Gen.c15RegisterFirst s (.lock p)) = (s, false) := by
  rw [handler_registered_after_check.2]
  cases s
  simp_all [lockStep]

/-- In every history in which processes only unlock what they hold — and in which
ANY process, including attachers that were refused, may die through the
signal-handler path at any time — at most one process holds the pipestance for
writing, while one does every further `Lock()` (a second, third, … mrp) is
refused, and the death of a process that does not hold the lock never removes it. -/
theorem at_most_one_writer (ops : List LockOp) (s : LockState)
    (h : lockRun Gen.c15RegisterFirst lockInit ops = some s) :
    s.holders.length ≤ 1 ∧
    (∀ p q, p ∈ s.holders → (lockStep Gen.c15RegisterFirst s (.lock q)).2 = false) ∧
    (∀ p, p ∉ s.holders → (lockStep Gen.c15RegisterFirst s (.signal p)).1.lockFile = s.lockFile ∧
      (lockStep Gen.c15RegisterFirst s (.signal p)).1.holders = s.holders) := by
  rw [handler_registered_after_check.2] at h ⊢
  obtain ⟨hr, h0, h1⟩ := lockInv_run ops lockInit s lockInv_init h
  cases hl : s.lockFile
  · simp [h0 hl, lockStep, hl, hr]
  · obtain ⟨r, hr'⟩ := h1 hl
    refine ⟨by simp [hr'], by simp [hr', lockStep, hl], ?_⟩
    intro p hp
    have hne : ¬ p = r := by simpa [hr'] using hp
    have hne' : ¬ r = p := fun h => hne h.symm
    simp [lockStep, hr, hr', hl, hne, hne']

/-- SIGINT/SIGTERM handling in a process that has the handler registered removes the lock file. -/
theorem signal_unlocks (s : LockState) (p : Nat) (h : p ∈ s.registered) :
    (lockStep Gen.c15RegisterFirst s (.signal p)).1.lockFile = false := by
  simp [lockStep, h]

/-- Negative witness: if the handler were registered before the check, a refused
second mrp that dies removes the first one's lock and a third mrp attaches. -/
theorem registerFirst_lets_third_writer_in :
    ∃ s, lockRun true lockInit [.lock 1, .lock 2, .signal 2, .lock 3] = some s ∧ s.holders.length = 2 := by
  exact ⟨_, rfl, rfl⟩

example : lockRun false lockInit [.lock 1, .lock 2, .signal 2, .lock 3, .unlock 1, .lock 2, .signal 2, .lock 3]
    = some { lockFile := true, holders := [3], registered := [3] } := by decide +kernel

/-! ## the lock protocol as a transition system

`Martian.LockLTS`: actors = any number of mrp processes; actions `acquire p`
(the exclusive create of `_lock`: one atomic test-and-set), `register p` (the
signal handler, registered only once the lock is owned), `unlock p`, `signal p`
(death through the handler path), `kill p` (SIGKILL: nothing runs), `rmLock`
(an operator deletes the file).  No heartbeat and no automatic stale-lock
takeover exist in the code.  All theorems are over ALL traces / interleavings. -/

/-- Regenerated obligation: `Pipestance.Lock` creates `_lock` with
`os.OpenFile(…, O_CREATE|O_EXCL, …)`, which is what makes `acquire` ONE atomic
action.  (False on a tree where the lock is written after a separate existence
check: see `lts_check_then_write_race` for what then goes wrong.) -/
theorem lock_file_created_exclusively :
    Gen.c15LockExclusive_extracted = true ∧ Gen.c15LockExclusive = true := by decide

/-- Regenerated obligation (a refused start does not delete the running
pipestance): the error branch of `Runtime.InvokePipeline` after
`instantiatePipeline` — where a start that lost the race for the lock arrives with
PipestanceLockedError, or that failed even before `Lock()` — removes the pipestance
directory only under the guard "this call took the lock".
(False on a tree where it does: negative witness `lts_refused_start_removes_owners_lock`.) -/
theorem refused_start_keeps_directory :
    Gen.c15RefusedStartRemovesDir_extracted = true ∧ Gen.c15RefusedStartRemovesDir = false := by decide

/-- Regenerated obligation (a lock-file create error is not ignored): when the
exclusive create of `_lock` fails with an error other than "exists", `Pipestance.Lock`
RETURNS that error instead of logging it and going on (registering the handler, writing
the file non-exclusively, returning nil).
(False on a tree where it goes on: negative witness `lts_create_error_breaks_exclusion`.) -/
theorem lock_create_error_is_returned :
    Gen.c15LockCreateErrorIgnored_extracted = true ∧ Gen.c15LockCreateErrorIgnored = false := by decide

open Martian.LockLTS in
/-- Mutual exclusion for EVERY interleaving of attach attempts, unlocks, graceful
and ungraceful deaths — `Lock()` calls may overlap arbitrarily — provided the
operator removes `_lock` only when no process owns the pipestance: at most one
process owns the pipestance, and while one does the lock file exists.
(Without the operator assumption: `lts_rmLock_under_live_owner`.)  `disciplined` also
excludes `acquireErr` — a lock-file create error that `Lock()` IGNORES; the code
returns such an error (`acquireFail`, allowed; obligation `lock_create_error_is_returned`,
`lts_create_error_changes_nothing`), starts that are refused (`start`) or fail before
`Lock()` (`startFail`) are allowed too.  With `acquireErr`: `lts_create_error_breaks_exclusion`. -/
theorem lts_mutual_exclusion (tr : List Act) (s : St)
    (h : run Gen.c15RegisterFirst Gen.c15RefusedStartRemovesDir disciplined init tr = some s) :
    s.holders.length ≤ 1 ∧ (s.holders ≠ [] → s.lockFile = true) := by
  rw [handler_registered_after_check.2, refused_start_keeps_directory.2] at h
  have hi := inv_run tr init s inv_init h
  rcases hi.owner with h0 | ⟨x, hx, hl⟩
  · simp [h0]
  · simp [hx, hl]

open Martian.LockLTS in
/-- An attach that is refused changes nothing at all — in ANY state, reachable or not. -/
theorem lts_refused_attach_changes_nothing (s : St) (p : Nat) (h : s.lockFile = true) :
    step Gen.c15RegisterFirst Gen.c15RefusedStartRemovesDir s (.acquire p) = (s, false) := by
  rw [handler_registered_after_check.2, refused_start_keeps_directory.2]
  cases s; simp_all [step]


open Martian.LockLTS in
/-- A START (`Runtime.InvokePipeline` by a second mrp which saw the directory still
empty) that is refused because another mrp holds the pipestance changes nothing
either — because `InvokePipeline` does not run `os.RemoveAll(pipestancePath)` on an
instantiation error unless this call took the lock (regenerated fact
`refused_start_keeps_directory`). -/
theorem lts_refused_start_changes_nothing (s : St) (p : Nat) (h : s.lockFile = true) :
    step Gen.c15RegisterFirst Gen.c15RefusedStartRemovesDir s (.start p) = (s, false) := by
  rw [handler_registered_after_check.2, refused_start_keeps_directory.2]
  cases s; simp_all [step]

open Martian.LockLTS in
/-- Negative witness (`InvokePipeline` that removes the directory on every instantiation
error): a refused start that removes the directory removes the owner's lock, and a third mrp
becomes a second owner. -/
theorem lts_refused_start_removes_owners_lock :
    ∃ s, run false true disciplined init [.start 1, .register 1, .start 2, .start 3] = some s
      ∧ s.holders = [3, 1] := by
  exact ⟨_, rfl, rfl⟩

open Martian.LockLTS in
/-- A start that FAILS before it reaches `Lock()` (its own source does not parse / compile,
call-graph error) changes nothing either, in ANY state: `InvokePipeline` removes the contents of the
folder only when this call took the lock. -/
theorem lts_failed_start_changes_nothing (s : St) (p : Nat) :
    step Gen.c15RegisterFirst Gen.c15RefusedStartRemovesDir s (.startFail p) = (s, false) := by
  rw [handler_registered_after_check.2, refused_start_keeps_directory.2]
  simp [step]

open Martian.LockLTS in
/-- Negative witness (the residual defect, reproduced by the start-race stream with a second
starter whose source does not compile): a failed start that removes the directory removes
the owner's lock, and a third mrp becomes a second owner. -/
theorem lts_failed_start_removes_owners_lock :
    ∃ s, run false true disciplined init [.start 1, .register 1, .startFail 2, .start 3] = some s
      ∧ s.holders = [3, 1] := by
  exact ⟨_, rfl, rfl⟩

open Martian.LockLTS in
/-- Negative witness for the exclusion of `acquireErr` in `lts_mutual_exclusion` (`disciplined`
excludes `acquireErr`): when the create of `_lock` fails with an error other than
"exists", `Lock()` logs it, REGISTERS the signal handler and returns nil; if that
process later dies through the handler path it removes the lock of whoever owns the
pipestance by then, and a further mrp attaches.  This is `Lock()` that ignores the create error
(excluded by the obligation `lock_create_error_is_returned`).  (Through `ReattachToPipestance` the
callers of `Lock()` then fail on the next operation — "Pipestance is in read only
mode" — and `Unlock()`, which unregisters the handler; through `InvokePipeline` the
start goes on WITHOUT a lock file: reproduced by the start-race stream when a failing
second starter removes the still-empty directory under the winner, ENOENT.) -/
theorem lts_create_error_breaks_exclusion :
    ∃ s, run false false anything init [.acquireErr 1, .acquire 2, .register 2, .signal 1, .acquire 3] = some s
      ∧ s.holders = [3, 2] := by
  exact ⟨_, rfl, rfl⟩

open Martian.LockLTS in
/-- Under the regenerated fact the outcome "create fails with another error" of the code
(`createErr Gen.c15LockCreateErrorIgnored p`) changes nothing in any state and is an
action `disciplined` allows: `lts_mutual_exclusion` therefore covers every history of the
code in which lock-file creates fail with arbitrary errors; its exclusion of
`acquireErr` excludes a behaviour the code does not have. -/
theorem lts_create_error_changes_nothing (s : St) (p : Nat) :
    step Gen.c15RegisterFirst Gen.c15RefusedStartRemovesDir s (createErr Gen.c15LockCreateErrorIgnored p) = (s, false)
    ∧ disciplined s (createErr Gen.c15LockCreateErrorIgnored p) = true := by
  rw [lock_create_error_is_returned.2]
  simp [createErr, step, Martian.LockLTS.disciplined]

open Martian.LockLTS in
/-- …and neither does the later death (graceful or not) of a process that does
not own the pipestance — e.g. an attacher that was refused. -/
theorem lts_death_of_bystander_changes_nothing (tr : List Act) (s : St) (p : Nat)
    (h : run Gen.c15RegisterFirst Gen.c15RefusedStartRemovesDir disciplined init tr = some s) (hh : p ∉ s.holders) :
    (step Gen.c15RegisterFirst Gen.c15RefusedStartRemovesDir s (.signal p)).1 = s ∧ (step Gen.c15RegisterFirst Gen.c15RefusedStartRemovesDir s (.kill p)).1 = s := by
  rw [handler_registered_after_check.2, refused_start_keeps_directory.2] at h ⊢
  have hi := inv_run tr init s inv_init h
  have hr : p ∉ s.registered := fun hm => hh (hi.reg p hm)
  have hrc : s.registered.contains p = false := by
    cases hcn : s.registered.contains p
    · rfl
    · exact absurd (List.contains_iff_mem.mp hcn) hr
  cases s
  simp_all [step, drop_of_not_mem]

open Martian.LockLTS in
/-- The window between the exclusive create and the handler registration is
safe: an owner signalled there leaves the lock file in place (a stale lock). -/
theorem lts_signal_before_register_leaves_stale_lock :
    run false false disciplined init [.acquire 1, .signal 1] = some { lockFile := true, holders := [], registered := [] } := by
  decide

open Martian.LockLTS in
/-- Negative witness: deleting `_lock` while its owner is alive lets a second owner in. -/
theorem lts_rmLock_under_live_owner :
    ∃ s, run false false anything init [.acquire 1, .register 1, .rmLock, .acquire 2] = some s ∧ s.holders = [2, 1] := by
  exact ⟨_, rfl, rfl⟩

open Martian.LockLTSOld in
/-- NEGATIVE WITNESS — a theorem about the check-then-write protocol
(`Martian.LockLTSOld`: `Lock()` = existence check, then `os.WriteFile`), i.e.
`Lock()` that does not create the pipestance lock file exclusively: two
overlapping `Lock()` calls both succeed.  This is what
`lock_file_created_exclusively` guards against. -/
theorem lts_check_then_write_race :
    ∃ s, run false anything init [.check 1, .check 2, .write 1, .write 2] = some s ∧ s.holders = [2, 1] := by
  exact ⟨_, rfl, rfl⟩

open Martian.LockLTS in
example : run false false disciplined init
    [.acquire 1, .acquire 2, .register 1, .acquire 2, .signal 2, .acquire 3, .kill 1, .acquire 2, .rmLock,
     .acquire 2, .acquire 3, .register 2, .unlock 2]
    = some { lockFile := false, holders := [], registered := [] } := by decide +kernel

/-! ### definitional unfoldings (documentation of the model, not guarantees)

The statements below restate modelling decisions: a field that the model's
comparison functions do not mention does not influence them.  That the Go code
does not read these components either is tied by the edit classes of the
harness (one class per `Ignored` constructor), not by these statements. -/

/-- Nothing in `Extra` (src, resources, retain, chunk parameters, help) can
change the verdict: neither pass of the comparison reads it.  (It does not hold for struct
definitions: `struct_definition_change_refused`.) -/
theorem ignored_components_do_not_matter (a a' b : FullProg) (h : a.core = a'.core)
    (hs : a.structs = a'.structs) (sc tc : Bool) :
    equivalentCallFull sc tc a b = equivalentCallFull sc tc a' b ∧
    equivalentCallFull sc tc b a = equivalentCallFull sc tc b a' := by
  simp only [equivalentCallFull, sfuel, h, hs, and_self]

/-- `volatile` is ignored by `Modifiers.EquivalentTo` (both sides). -/
theorem volatile_is_ignored (sc : Bool) (m o : Mods) (v : Bool) :
    Mods.equiv sc { m with volatile := v } o = Mods.equiv sc m o ∧
    Mods.equiv sc m { o with volatile := v } = Mods.equiv sc m o := by
  simp [Mods.equiv]

/-- the type NAME of a parameter of scalar file kind is ignored -/
theorem scalar_file_type_name_is_ignored (x y : Param) (t : Key) (hx : x.fileKind = 2) :
    inParamEq { x with tname := t } y = inParamEq x y ∧
    inParamEq y { x with tname := t } = inParamEq y x := by
  constructor
  · simp [inParamEq, hx]
  · simp only [inParamEq]
    by_cases hy : y.fileKind = 2
    · simp [hy]
    · have : (y.fileKind == x.fileKind) = false := by simpa [hx] using hy
      simp [this]

/-- the output file name of a STAGE output is ignored (`checkOutNames = false`) -/
theorem stage_out_name_is_ignored (x y : Param) (n : Key) :
    outParamEq false { x with outName := n } y = outParamEq false x y := by
  simp [outParamEq, inParamEq]

/-- …but not that of a pipeline output of file or directory kind -/
example : outParamEq true { tname := [116], arrayDim := 0, mapDim := 0, fileKind := 2, outName := [] }
    { tname := [116], arrayDim := 0, mapDim := 0, fileKind := 2, outName := [1] } = false := by decide


open Martian.LockLTS in
/-- A lock left behind by a killed owner — or by an owner signalled between its
`acquire` and its `register` — is never taken over: every attach is refused until
the file is removed (there is no stale-lock rule in the code). -/
theorem lts_stale_lock_blocks (s : St) (p q : Nat) (h : s.lockFile = true) :
    (step Gen.c15RegisterFirst Gen.c15RefusedStartRemovesDir (step Gen.c15RegisterFirst Gen.c15RefusedStartRemovesDir s (.kill p)).1 (.acquire q)).2 = false := by
  simp [step, h]


end Props.C15
