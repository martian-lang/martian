/-
C06 — a failing job fails the pipestance, blocks only its dependents, is reported.
PROPERTY THEOREMS ONLY (model: Martian/Sched.lean, lemmas: Proofs/Sched*.lean).

What is NOT true of the code (negative witness `failed_fork_can_be_masked`):
"a node is Failed as soon as one of its forks is Failed".  `Node.getState`
leaves its fork loop (`break`) at the first fork that is neither complete nor
disabled, so a failed fork *behind* an unfinished one is not reported until the
earlier forks finish.  The node can however never be reported Complete
(`complete_needs_no_failure`), and nothing depending on it is started
(`dependents_blocked`).
-/
import Martian.Sched
import Proofs.Sched
import Proofs.SchedTrans
import Martian.SchedProgress
import Proofs.SchedProgress
import Proofs.SchedFail
import Proofs.SchedFailReach
import Proofs.SchedRun

/-! ### definitional unfoldings (documentation of the model, not guarantees)
The theorems whose docstring starts with DEFINITIONAL UNFOLDING (failed_fork_meta_fails_fork, complete_needs_no_failure, failed_first_fork_reported, independent_unaffected) restate a guard
or a definition of the model; they stay where later theorems use them and are not cited as guarantees. -/
namespace Props.C06
open Martian.Sched

/-- `fail_sticks` (object level): once mrp has seen `_errors`/`_assert` in an
object, that object's state is failed after every further event except the
restart-time reset of this very object (also across crash/restart). -/
theorem fail_sticks {g : List NodeInfo} {s : State} {e : Ev} {o : Obj} (hr : Reach g s)
    (hne : e ≠ .reset o) (hf : s.st o = some .failed) : (apply s e).st o = some .failed := by
  exact st_failed_mono (reach_objsInv hr) hne hf

/-- DEFINITIONAL UNFOLDING (documentation of the model / of a guard, not a guarantee). a failure marker in the fork's own metadata makes the fork failed … -/
theorem failed_fork_meta_fails_fork {s : State} {n f : Nat}
    (h : s.st ⟨n, f, .fork⟩ = some .failed) : forkState s n f = .failed := by
  simp [forkState, forkStateOf, h]

/-- … for ever: the fork's own metadata is never reset (only job objects are). -/
theorem failed_fork_sticks {g : List NodeInfo} {s : State} {e : Ev} {n f : Nat} (hr : Reach g s)
    (hen : enabled s e = true) (h : s.st ⟨n, f, .fork⟩ = some .failed) :
    forkState (apply s e) n f = .failed := by
  apply failed_fork_meta_fails_fork
  apply fail_sticks hr _ h
  intro he; subst he
  have := reset_isJob (reach_full hr) hen; simp [Role.isJob] at this

/-- a failed job object fails its fork unless the fork's own metadata already
says complete/disabled or a later phase object hides it: precisely, a failed
join always does, failed chunks do when no join state exists, a failed split
does when no join/chunk summary exists.  Stated for the most common case: -/
theorem failed_chunk_fails_fork {s : State} {n f i : Nat} (hi : i < s.nch n f)
    (hc : s.st ⟨n, f, .chunk i⟩ = some .failed) (hfm : fmDone s n f = false)
    (hj : s.st ⟨n, f, .join⟩ = none) : forkState s n f = .failed :=
  Martian.Sched.failed_chunk_fails_fork hi hc hfm hj

/-- DEFINITIONAL UNFOLDING (documentation of the model / of a guard, not a guarantee). `complete_needs_no_failure`: a node whose state is Complete (or Disabled)
has no failed fork — all its forks are complete or disabled. -/
theorem complete_needs_no_failure {s : State} {n : Nat}
    (h : nodeState s n = .complete ∨ nodeState s n = .disabled) :
    ∀ f ∈ s.forksOf n, forkState s n f = .complete ∨ forkState s n f = .disabled := by
  intro f hf
  exact forkState_done.mpr (nodeDone_iff.mp (nodeDone_iff_state.mpr h) f hf)

/-- `dependents_blocked`: a job of a node is submitted only while none of its
prenodes is failed — every prenode is finished (all forks complete/disabled). -/
theorem dependents_blocked {g : List NodeInfo} {s : State} {o : Obj} (hr : Reach g s)
    (hen : enabled s (.launch o) = true) :
    ∀ p ∈ s.pre o.n, nodeDone s p = true ∧ nodeState s p ≠ .failed := by
  intro p hp
  have hd := launch_pre_done hr hen p hp
  refine ⟨hd, fun hf => ?_⟩
  rcases nodeDone_iff_state.mp hd with h | h <;> simp [hf] at h

/-- PARTIAL (hypothesis `reopened = false`, which fails on real histories after a restart that
re-opens a finished node; negative witness `reopened_breaks_blocking`).
"a node with an unfinished prenode is never complete": while some prenode `p`
of `q` is not finished, no fork of `q` has a `_complete` and `q` is not Complete.
Hypothesis `reopened = false`: no restart so far gave an already finished node
new forks (`RestoreForks` does that to a Disabled mapped call whose placeholder
fork had been disabled before its forks were known — seen on real histories; the
node is then unfinished again for a moment although its consumers may be
complete).  The flag is sticky, so the theorem covers every history up to the
first such restart, in particular every uninterrupted run. -/
theorem unfinished_prenode_blocks_completion_partial {g : List NodeInfo} {s : State} {q p : Nat}
    (hr : Reach g s) (hro : s.reopened = false) (hp : p ∈ s.pre q) (hnd : nodeDone s p = false) :
    (∀ f, (s.m ⟨q, f, .fork⟩).disk.has .complete = false) ∧ nodeState s q ≠ .complete :=
  unfinished_prenode_blocks (reach_objsInv hr) (reach_inv hr).complete hro hp hnd

/-- when a job of a node is submitted, EVERY upstream node (transitively through
prenode edges; see `Upstream`: intermediate nodes that are Disabled do not
propagate, exactly as in `Node.getState`) is finished -/
theorem launch_after_upstream_partial {g : List NodeInfo} {s : State} {o : Obj} {p : Nat}
    (hr : Reach g s) (hro : s.reopened = false) (hen : enabled s (.launch o) = true)
    (hu : Upstream s o.n p) : nodeDone s p = true := by
  apply upstream_done (reach_objsInv hr) (reach_inv hr).complete hro hu
  intro q hq
  exact (dependents_blocked hr hen q hq).1

/-- `dependents_blocked_transitive_partial`: while an upstream node `p` of `n` has a failed
fork, no job of `n` can be submitted. -/
theorem dependents_blocked_transitive_partial {g : List NodeInfo} {s : State} {o : Obj} {p f : Nat}
    (hr : Reach g s) (hro : s.reopened = false) (hu : Upstream s o.n p) (hf : f ∈ s.forksOf p)
    (hfail : forkState s p f = .failed) : enabled s (.launch o) = false :=
  Bool.eq_false_iff.mpr fun hen => by
    have := failed_fork_not_done hf hfail
    simp [launch_after_upstream_partial hr hro hen hu] at this

/-- `dependents_never_complete_transitive_partial`: while an upstream node `p` of `n` (transitively,
`Upstream`) is unfinished — in particular while it has a failed fork — no fork of `n` has a
`_complete` and `n` is not Complete: the failure cannot be overtaken, the pipestance cannot
report success for anything that consumes the failed call. -/
theorem dependents_never_complete_transitive_partial {g : List NodeInfo} {s : State} {n p : Nat}
    (hr : Reach g s) (hro : s.reopened = false) (hu : Upstream s n p)
    (hnd : nodeDone s p = false) :
    (∀ f, (s.m ⟨n, f, .fork⟩).disk.has .complete = false) ∧ nodeState s n ≠ .complete :=
  upstream_blocks_completion (reach_objsInv hr) (reach_inv hr).complete hro hu hnd

/-- a node with a failed fork is unfinished (so the two theorems above apply to it) -/
theorem failed_fork_unfinished {s : State} {p f : Nat} (hf : f ∈ s.forksOf p)
    (hfail : forkState s p f = .failed) : nodeDone s p = false :=
  failed_fork_not_done hf hfail

/-- `independent_unaffected` (progress half; the guard half is below): in ANY reachable
state — whatever has failed elsewhere in the pipestance — a node whose own objects carry
no failure marker and whose own submitted jobs are alive, whose prenodes are finished and
whose cached state is current is either finished or can take a step OF ITS OWN: some event `e`
of the scheduler/job/journal alphabet with `e.node = some n` (stub/fork `_complete`, chunk
definition, job submission, start, end, journal read of an object of `n`) is enabled and
lowers the progress measure.  (One state, one step: that the node then runs to completion
next to the failure needs fairness towards that node and is not stated.) -/
theorem independent_node_can_progress {g : List NodeInfo} {s : State} {n : Nat} (hr : Reach g s)
    (hn : n < s.nodes.length) (hph : s.phase = .normal)
    (hfresh : s.cachedOf n = nodeState s n) (hpre : ∀ p ∈ s.pre n, nodeDone s p = true)
    (hclean : ∀ f r, (s.m ⟨n, f, r⟩).disk.has .errors = false ∧
      (s.m ⟨n, f, r⟩).disk.has .assert = false)
    (halive : AliveNode s n) :
    nodeDone s n = true ∨ ∃ e, Progress s e ∧ e.node = some n := by
  cases hd : nodeDone s n
  · exact Or.inr (node_progress (reach_objsInv hr) (reach_roleInv hr) (reach_launchInv hr) hn hph
      hfresh hpre hclean halive hd)
  · exact Or.inl rfl

/-- `failed_block_never_reports_success` (the
invariant form of the headline theorem `failed_job_never_reports_success` below): let job object
`o` of stage fork (n, f) be SEEN failed while the fork is unfinished, where `o` is the join; or a
chunk the split defined, the join not having been submitted; or the split, no chunk and no join
having been submitted (`FailedBlock`).  Then along EVERY continuation (any events: interruptions,
other failures, restarts, resets of other objects, fork-structure events) in which `o` itself is
not reset, the fork never becomes complete or disabled and stays in its node's fork list
(re-attaching drops a fork from the list only when its job directories are empty:
`unlist_failed_fork_rejected`) — so its node is never Complete/Disabled and the pipestance is
never `Finished`.  The side conditions of `FailedBlock` are consequences of reachability
(`failedBlock_of_reach`, Proofs/SchedFailReach.lean): that is the headline theorem.
The histories that would reach `Finished` with a failed object (a `silentfail`
after completion, `_errors` then `_complete` of one job, a failed chunk forgotten by redefining
the chunk count at re-attach, the failed fork unlisted by `forkorder` at re-attach, the split
failed by mrp after its chunks were submitted) are rejected:
`late_silentfail_rejected`, `errors_then_complete_rejected`, `forget_failed_chunk_rejected`,
`unlist_failed_fork_rejected`, `split_failed_after_chunks_rejected`. -/
theorem failed_block_never_reports_success {g : List NodeInfo} {s0 : State}
    {σ : Nat → State} {es : Nat → Ev} {n f : Nat} {o : Obj} (hr : Reach g s0)
    (hrun : Run s0 σ es) (hnr : ∀ i, es i ≠ .reset o) (h0 : FailedBlock s0 n f o)
    (hn : n < s0.nodes.length) (hf : f ∈ s0.forksOf n) :
    ∀ j, (σ j).st o = some .failed ∧ fmDone (σ j) n f = false ∧ f ∈ (σ j).forksOf n ∧
      nodeDone (σ j) n = false ∧ ¬ Finished (σ j) := by
  have key := hrun.inv (P := fun s => Reach g s ∧ FailedBlock s n f o ∧ f ∈ s.forksOf n ∧
      s.nodes = s0.nodes) ⟨hr, h0, hf, rfl⟩ fun j ih =>
    ⟨Reach.step ih.1 (hrun.en j), failedBlock_step ih.1 (hrun.en j) (hnr j) ih.2.1,
      failedBlock_listed ih.1 (hrun.en j) ih.2.1 ih.2.2.1, by rw [apply_nodes]; exact ih.2.2.2⟩
  intro j
  obtain ⟨_, hb, hfj, hnodes⟩ := key j
  have hnd : nodeDone (σ j) n = false := by
    cases hd : nodeDone (σ j) n
    · rfl
    · have := nodeDone_iff.mp hd f hfj
      rw [hb.unfinished] at this; cases this
  exact ⟨hb.failed, hb.unfinished, hfj, hnd,
    fun hfin => by rw [(hfin.2 n (by rw [hnodes]; exact hn)).1] at hnd; cases hnd⟩

/-- `failed_job_never_reports_success` (the headline "a pipestance with a failed, un-reset job never
reports success", for EVERY reachable state, no side condition assumed): in a state reached by
any accepted history (default reset mode) let a job object `⟨n, f, r⟩` — split, chunk or join —
of a listed, unfinished fork of a stage node be seen failed by mrp.  Then along EVERY
continuation (any events: interruptions, other failures, restarts, resets of other objects,
fork-structure events) in which this object is not reset, it stays failed, the fork never becomes
complete or disabled and stays listed, its node is never Complete/Disabled and the pipestance is
never `Finished`.  The premises are what is observed (the object's state in mrp's cache, the fork
being listed and unfinished, the node being a stage); that a failed chunk lies in the defined
range with the join directory still empty, and that a failed split means no chunk and no join
submitted, is PROVED for reachable states (`failedBlock_of_reach`: the completion chain under
failures, invariants `EndInv` and `ChainF`).
What this does not say: liveness (mrp eventually reports Failed: `failed_fork_can_be_masked`);
a failure that is only on disk and not yet read by mrp; FullStageReset mode; fork-level failure
markers are covered by `failed_fork_sticks`; pipelines have no job objects. -/
theorem failed_job_never_reports_success {g : List NodeInfo} {s0 : State}
    {σ : Nat → State} {es : Nat → Ev} {n f : Nat} {r : Role} (hr : Reach g s0)
    (hrun : Run s0 σ es) (hnr : ∀ i, es i ≠ .reset ⟨n, f, r⟩)
    (hk : s0.kind n ≠ .pipeline) (hrole : r ≠ .fork)
    (hfail : s0.st ⟨n, f, r⟩ = some .failed) (hopen : fmDone s0 n f = false)
    (hn : n < s0.nodes.length) (hf : f ∈ s0.forksOf n) :
    ∀ j, (σ j).st ⟨n, f, r⟩ = some .failed ∧ fmDone (σ j) n f = false ∧
      f ∈ (σ j).forksOf n ∧ nodeDone (σ j) n = false ∧ ¬ Finished (σ j) :=
  failed_block_never_reports_success hr hrun hnr
    (failedBlock_of_reach hr hk hrole hfail hopen) hn hf

/-- its instance for the join (`FailSite.join` has no side condition) -/
theorem failed_join_never_reports_success {g : List NodeInfo} {s0 : State}
    {σ : Nat → State} {es : Nat → Ev} {n f : Nat} (hr : Reach g s0)
    (hrun : Run s0 σ es) (hnr : ∀ i, es i ≠ .reset ⟨n, f, .join⟩)
    (hk : s0.kind n ≠ .pipeline) (hfail : s0.st ⟨n, f, .join⟩ = some .failed)
    (hopen : fmDone s0 n f = false) (hn : n < s0.nodes.length) (hf : f ∈ s0.forksOf n) :
    ∀ j, (σ j).st ⟨n, f, .join⟩ = some .failed ∧ fmDone (σ j) n f = false ∧
      f ∈ (σ j).forksOf n ∧ nodeDone (σ j) n = false ∧ ¬ Finished (σ j) :=
  failed_block_never_reports_success hr hrun hnr ⟨hk, hfail, hopen, .join⟩ hn hf

/-- one step of it, in any reachable state -/
theorem failed_blocks_fork {g : List NodeInfo} {s : State} {e : Ev} {n f : Nat} {o : Obj}
    (hr : Reach g s) (hen : enabled s e = true) (hne : e ≠ .reset o) (h : FailedBlock s n f o) :
    FailedBlock (apply s e) n f o :=
  failedBlock_step hr hen hne h

/-- `error_names_stage`: what `Node.getFatalError` (model `fatalError`: the first metadata in
`collectMetadatas` order whose state is failed; `_errors` before `_assert`) reports is a
metadata object OF THE FAILED NODE — one of its forks' own metadata, split, join or a chunk
the split defined — whose state is failed and which does contain the reported file. -/
theorem error_names_stage {s : State} {n : Nat} {o : Obj} {x : Sentinel}
    (h : fatalError s n = some (o, x)) :
    o.n = n ∧ o.f ∈ s.forksOf n ∧ (∀ i, o.r = .chunk i → i < s.nch n o.f) ∧
    s.st o = some .failed ∧ (s.m o).seen.has x = true ∧
    (x = .errors ∨ (x = .assert ∧ (s.m o).seen.has .errors = false)) := by
  obtain ⟨hm, hst, hx, hk⟩ := fatalErrorIn_spec h
  obtain ⟨a, b, c⟩ := collect_mem hm
  exact ⟨a, b, c, hst, hx, hk⟩

/-- … and it is complete: a node whose state is Failed always has something to report -/
theorem failed_node_reports {s : State} {n : Nat} (h : nodeState s n = .failed) :
    ∃ o x, fatalError s n = some (o, x) := by
  obtain ⟨o, hm, hf⟩ := failed_node_has_failed_obj h
  obtain ⟨⟨o', x⟩, hr⟩ := fatalErrorIn_some hm hf
  exact ⟨o', x, hr⟩

/-- two states that agree on everything belonging to node `n` -/
structure SameNode (n : Nat) (s s' : State) : Prop where
  phase : s.phase = s'.phase
  inc : s.inc = s'.inc
  launches : s.launches = s'.launches
  nodes : s.nodes = s'.nodes
  forks : s.forksOf n = s'.forksOf n
  cached : s.cachedOf n = s'.cachedOf n
  nch : ∀ f, s.nch n f = s'.nch n f
  metas : ∀ f r, s.m ⟨n, f, r⟩ = s'.m ⟨n, f, r⟩

/-- DEFINITIONAL UNFOLDING (documentation of the model / of a guard, not a guarantee). `independent_unaffected`: whether a job of node `n` may be submitted depends
only on node `n`'s own forks/objects and on its cached state (which itself was
computed from `n` and its prenodes): failures elsewhere do not block it. -/
theorem independent_unaffected {s s' : State} {o : Obj} (h : SameNode o.n s s') :
    launchOk s o = launchOk s' o := by
  obtain ⟨h1, h2, h3, h4, h5, h6, h7, h8⟩ := h
  have hst : ∀ f r, s.st ⟨o.n, f, r⟩ = s'.st ⟨o.n, f, r⟩ := fun f r => by simp [State.st, h8]
  have hk : s.kind o.n = s'.kind o.n := by simp [State.kind, h4]
  have hcs : chunkStates s o.n o.f = chunkStates s' o.n o.f := by
    simp [chunkStates, chunkState, h7, hst]
  simp only [launchOk, State.hasObj, fmDone, forkState, allChunksComplete, h1, h2, h3, h4, h5, h6,
    h7, hst, hk, hcs]


/-- Negative witness (the `break` in `Node.getState`): forks [chunks running, failed]
with finished prenodes give Running, not Failed. -/
theorem failed_fork_can_be_masked : nodeStateOf [.chunksRunning, .failed] true = .running := by
  decide +kernel

/-- DEFINITIONAL UNFOLDING (documentation of the model / of a guard, not a guarantee). … whereas a failed fork in front is reported at once -/
theorem failed_first_fork_reported (r : List FState) (b : Bool) :
    nodeStateOf (.failed :: r) b = .failed := rfl

/-! ### non-vacuity -/

def g2 : List NodeInfo := [{ kind := .stage, pre := [] }, { kind := .stage, pre := [0] }]

/-- the chunk of node 0 fails: node 0 becomes failed, node 1 can never be told to run -/
def h2 : List Ev :=
  [.fork 0 0, .nodestate 0 .running, .fork 1 0, .refresh,
   .W ⟨0, 0, .split⟩ .complete, .mkchunks 0 0 1, .launch ⟨0, 0, .chunk 0⟩,
   .joblog ⟨0, 0, .chunk 0⟩, .jobend ⟨0, 0, .chunk 0⟩ .errors, .refresh,
   .R ⟨0, 0, .chunk 0⟩ .errors, .nodestate 0 .failed]

example : (match replay (init g2) h2 with
    | .ok s => forkState s 0 0 == .failed && nodeState s 0 == .failed &&
               !enabled s (.nodestate 1 .running) && !enabled s (.launch ⟨1, 0, .chunk 0⟩) &&
               s.st ⟨0, 0, .chunk 0⟩ == some .failed
    | .error _ => false) = true := by decide +kernel

/-- a chain 0 → 1 → 2 of stages; the chunk of node 0 fails -/
def g3 : List NodeInfo :=
  [{ kind := .stage, pre := [] }, { kind := .stage, pre := [0] }, { kind := .stage, pre := [1] }]

def h3 : List Ev :=
  [.fork 0 0, .nodestate 0 .running, .fork 1 0, .fork 2 0, .refresh,
   .W ⟨0, 0, .split⟩ .complete, .mkchunks 0 0 1, .launch ⟨0, 0, .chunk 0⟩,
   .joblog ⟨0, 0, .chunk 0⟩, .jobend ⟨0, 0, .chunk 0⟩ .errors, .refresh,
   .R ⟨0, 0, .chunk 0⟩ .errors, .nodestate 0 .failed]

def s3 : State := match replay (init g3) h3 with
  | .ok s => s
  | .error _ => init g3

example : (match replay (init g3) h3 with | .ok _ => true | .error _ => false) = true := by decide +kernel

/-- node 0 is upstream of node 2 (through node 1, which is waiting, not disabled),
node 0 has a failed fork, and indeed nothing of node 2 can be launched -/
example : s3.reopened = false := by decide +kernel
example : Upstream s3 2 0 := .step (q := 1) (by decide +kernel) (by decide +kernel) (.direct (by decide +kernel))
example : 0 ∈ s3.forksOf 0 ∧ forkState s3 0 0 = .failed ∧
    enabled s3 (.launch ⟨2, 0, .chunk 0⟩) = false := by decide +kernel

/-- in the chain 0 → 1 → 2 with node 0 failed: node 2 has no complete fork and is not
Complete (transitively), node 0 is Failed and `getFatalError` names its chunk and `_errors` -/
example : (∀ f, (s3.m ⟨2, f, .fork⟩).disk.has .complete = false) ∧ nodeState s3 2 ≠ .complete :=
  dependents_never_complete_transitive_partial (g := g3) (p := 0) (reach_of_match g3 h3) (by decide +kernel)
    (.step (q := 1) (by decide +kernel) (by decide +kernel) (.direct (by decide +kernel))) (by decide +kernel)

example : nodeState s3 0 = .failed ∧ fatalError s3 0 = some (⟨0, 0, .chunk 0⟩, .errors) := by decide +kernel

/-- an independent node goes on: two stages without a dependency between them, the chunk of
node 0 has failed; node 1 satisfies the hypotheses of `independent_node_can_progress` and
its stub `_complete` can be written -/
def g4 : List NodeInfo := [{ kind := .stage, pre := [] }, { kind := .stage, pre := [] }]

def h4 : List Ev :=
  [.fork 0 0, .nodestate 0 .running, .fork 1 0, .nodestate 1 .running, .refresh,
   .W ⟨0, 0, .split⟩ .complete, .mkchunks 0 0 1, .launch ⟨0, 0, .chunk 0⟩,
   .joblog ⟨0, 0, .chunk 0⟩, .jobend ⟨0, 0, .chunk 0⟩ .errors, .refresh,
   .R ⟨0, 0, .chunk 0⟩ .errors, .nodestate 0 .failed]

def s4 : State := match replay (init g4) h4 with
  | .ok s => s
  | .error _ => init g4

example : (match replay (init g4) h4 with | .ok _ => true | .error _ => false) = true := by decide +kernel
example : nodeState s4 0 = .failed ∧ s4.phase = .normal ∧ s4.cachedOf 1 = nodeState s4 1 ∧
    nodeDone s4 1 = false ∧ s4.pre 1 = [] := by decide +kernel
example : Progress s4 (.W ⟨1, 0, .split⟩ .complete) ∧
    (Ev.W ⟨1, 0, .split⟩ .complete).node = some 1 := ⟨⟨by decide +kernel, by decide +kernel, by decide +kernel⟩, rfl⟩

/-! ### five histories that would reach `Finished` with a failed, never reset job object
are rejected by the guards of the real system -/

def gS : List NodeInfo := [{ kind := .splitstage, pre := [] }]

def rejectedAt (g : List NodeInfo) (evs : List Ev) : Option (Nat × String) :=
  match replay (init g) evs with
  | .ok _ => none
  | .error r => some r

/-- a job that has ended cannot die silently afterwards (`silentfail` needs a live job) -/
theorem late_silentfail_rejected :
    rejectedAt gS
      [.fork 0 0, .nodestate 0 .running, .refresh, .launch ⟨0, 0, .split⟩,
       .joblog ⟨0, 0, .split⟩, .jobend ⟨0, 0, .split⟩ .complete, .R ⟨0, 0, .split⟩ .complete,
       .launch ⟨0, 0, .join⟩, .joblog ⟨0, 0, .join⟩, .jobend ⟨0, 0, .join⟩ .complete,
       .R ⟨0, 0, .join⟩ .complete, .W ⟨0, 0, .fork⟩ .complete, .nodestate 0 .complete,
       .silentfail ⟨0, 0, .split⟩] = some (13, "job-dead") := by decide +kernel

/-- a job ends once: `_errors` and then `_complete` from the same job is not a history -/
theorem errors_then_complete_rejected :
    rejectedAt gS
      [.fork 0 0, .nodestate 0 .running, .refresh, .launch ⟨0, 0, .split⟩,
       .joblog ⟨0, 0, .split⟩, .jobend ⟨0, 0, .split⟩ .errors, .jobend ⟨0, 0, .split⟩ .complete]
      = some (6, "job-dead") := by decide +kernel

/-- re-attaching cannot forget a failed chunk by redefining the chunk count: a chunk object is
only dropped when its directory is empty -/
theorem forget_failed_chunk_rejected :
    rejectedAt gS
      [.fork 0 0, .nodestate 0 .running, .refresh, .launch ⟨0, 0, .split⟩,
       .joblog ⟨0, 0, .split⟩, .jobend ⟨0, 0, .split⟩ .complete, .R ⟨0, 0, .split⟩ .complete,
       .mkchunks 0 0 1, .launch ⟨0, 0, .chunk 0⟩, .joblog ⟨0, 0, .chunk 0⟩,
       .jobend ⟨0, 0, .chunk 0⟩ .errors, .R ⟨0, 0, .chunk 0⟩ .errors, .nodestate 0 .failed,
       .crash, .restart, .mkchunks 0 0 0] = some (15, "chunks-redefined-at-reattach") := by decide +kernel

/-- re-attaching cannot unlist the fork of a failed chunk either -/
theorem unlist_failed_fork_rejected :
    rejectedAt gS
      [.fork 0 0, .nodestate 0 .running, .refresh, .launch ⟨0, 0, .split⟩,
       .joblog ⟨0, 0, .split⟩, .jobend ⟨0, 0, .split⟩ .complete, .R ⟨0, 0, .split⟩ .complete,
       .mkchunks 0 0 1, .launch ⟨0, 0, .chunk 0⟩, .joblog ⟨0, 0, .chunk 0⟩,
       .jobend ⟨0, 0, .chunk 0⟩ .errors, .R ⟨0, 0, .chunk 0⟩ .errors, .nodestate 0 .failed,
       .crash, .restart, .forkorder 0 []] = some (15, "dropped-fork-not-empty") := by decide +kernel

/-- … and that state satisfies `FailedBlock`: the chunk is seen failed, in range, the join has
not been submitted — as `failedBlock_of_reach` proves for every reachable state -/
def hFailedChunk : List Ev :=
  [.fork 0 0, .nodestate 0 .running, .refresh, .launch ⟨0, 0, .split⟩,
   .joblog ⟨0, 0, .split⟩, .jobend ⟨0, 0, .split⟩ .complete, .R ⟨0, 0, .split⟩ .complete,
   .mkchunks 0 0 1, .launch ⟨0, 0, .chunk 0⟩, .joblog ⟨0, 0, .chunk 0⟩,
   .jobend ⟨0, 0, .chunk 0⟩ .errors, .R ⟨0, 0, .chunk 0⟩ .errors]
def sFailedChunk : State := prefixState (init gS) hFailedChunk 12

example : FailedBlock sFailedChunk 0 0 ⟨0, 0, .chunk 0⟩ :=
  ⟨by decide +kernel, by decide +kernel, by decide +kernel, .chunk 0 (by decide +kernel) ⟨by decide +kernel, by decide +kernel⟩⟩

/-- the premises of `failed_job_never_reports_success` for a failed CHUNK in a reachable state -/
example : Reach gS sFailedChunk := run_reach (run_of_list _ hFailedChunk (by decide +kernel)) 12
example : sFailedChunk.kind 0 ≠ .pipeline ∧ sFailedChunk.st ⟨0, 0, .chunk 0⟩ = some .failed ∧
    fmDone sFailedChunk 0 0 = false ∧ 0 < sFailedChunk.nodes.length ∧
    0 ∈ sFailedChunk.forksOf 0 := by decide +kernel

/-- … and for a failed SPLIT (its job reports `_errors`, mrp reads it) -/
def hFailedSplit : List Ev :=
  [.fork 0 0, .nodestate 0 .running, .refresh, .launch ⟨0, 0, .split⟩,
   .joblog ⟨0, 0, .split⟩, .jobend ⟨0, 0, .split⟩ .errors, .R ⟨0, 0, .split⟩ .errors]
def sFailedSplit : State := prefixState (init gS) hFailedSplit hFailedSplit.length

example : Reach gS sFailedSplit := run_reach (run_of_list _ hFailedSplit (by decide +kernel)) _
example : sFailedSplit.kind 0 ≠ .pipeline ∧ sFailedSplit.st ⟨0, 0, .split⟩ = some .failed ∧
    fmDone sFailedSplit 0 0 = false ∧ 0 < sFailedSplit.nodes.length ∧
    0 ∈ sFailedSplit.forksOf 0 := by decide +kernel

/-- the fifth history by which a pipestance could have finished past a failed job: mrp fails the
SPLIT after its chunks have been submitted (`Fork.getState` looks at the chunks before the split:
complete chunks would carry the fork past the failed split).  The real mrp writes a split's
`_errors` only while the split runs or when `_stage_defs` cannot be read, i.e. before any chunk
exists; the model's guard says so, and `failedBlock_of_reach` rests on it. -/
theorem split_failed_after_chunks_rejected :
    rejectedAt gS
      [.fork 0 0, .nodestate 0 .running, .refresh, .launch ⟨0, 0, .split⟩,
       .joblog ⟨0, 0, .split⟩, .jobend ⟨0, 0, .split⟩ .complete, .R ⟨0, 0, .split⟩ .complete,
       .mkchunks 0 0 1, .launch ⟨0, 0, .chunk 0⟩, .W ⟨0, 0, .split⟩ .errors]
      = some (9, "write-not-enabled") := by decide +kernel

/-- the premises of `failed_join_never_reports_success` in a reachable state: the chunk completes,
the join is submitted and fails -/
def hFailedJoin : List Ev :=
  [.fork 0 0, .nodestate 0 .running, .refresh, .launch ⟨0, 0, .split⟩,
   .joblog ⟨0, 0, .split⟩, .jobend ⟨0, 0, .split⟩ .complete, .R ⟨0, 0, .split⟩ .complete,
   .mkchunks 0 0 1, .launch ⟨0, 0, .chunk 0⟩, .joblog ⟨0, 0, .chunk 0⟩,
   .jobend ⟨0, 0, .chunk 0⟩ .complete, .R ⟨0, 0, .chunk 0⟩ .complete, .launch ⟨0, 0, .join⟩,
   .joblog ⟨0, 0, .join⟩, .jobend ⟨0, 0, .join⟩ .errors, .R ⟨0, 0, .join⟩ .errors]
def sFailedJoin : State := prefixState (init gS) hFailedJoin hFailedJoin.length

example : Reach gS sFailedJoin := run_reach (run_of_list _ hFailedJoin (by decide +kernel)) _
example : sFailedJoin.kind 0 ≠ .pipeline ∧ sFailedJoin.st ⟨0, 0, .join⟩ = some .failed ∧
    fmDone sFailedJoin 0 0 = false ∧ 0 < sFailedJoin.nodes.length ∧ 0 ∈ sFailedJoin.forksOf 0 := by
  decide +kernel

/-- Negative witness for the hypothesis `reopened = false` of the `…_partial` theorems above:
node 0 has no fork at first (it counts as Disabled), its consumer node 1 runs and completes;
mrp is restarted and `RestoreForks` gives node 0 a fork: now the prenode is unfinished while the
consumer is complete. -/
def g2r : List NodeInfo := [{ kind := .stage, pre := [] }, { kind := .stage, pre := [0] }]
def sReopened : State :=
  prefixState (init g2r)
    [.nodestate 0 .disabled, .fork 1 0, .nodestate 1 .running, .refresh,
     .W ⟨1, 0, .split⟩ .complete, .mkchunks 1 0 1, .launch ⟨1, 0, .chunk 0⟩,
     .joblog ⟨1, 0, .chunk 0⟩, .jobend ⟨1, 0, .chunk 0⟩ .complete, .R ⟨1, 0, .chunk 0⟩ .complete,
     .W ⟨1, 0, .join⟩ .complete, .W ⟨1, 0, .fork⟩ .complete, .nodestate 1 .complete,
     .crash, .restart, .fork 0 0] 16

theorem reopened_breaks_blocking :
    sReopened.reopened = true ∧ 0 ∈ sReopened.pre 1 ∧ nodeDone sReopened 0 = false ∧
    (sReopened.m ⟨1, 0, .fork⟩).disk.has .complete = true ∧ nodeState sReopened 1 = .complete := by
  decide +kernel

example : (match replay (init g2r)
    [.nodestate 0 .disabled, .fork 1 0, .nodestate 1 .running, .refresh,
     .W ⟨1, 0, .split⟩ .complete, .mkchunks 1 0 1, .launch ⟨1, 0, .chunk 0⟩,
     .joblog ⟨1, 0, .chunk 0⟩, .jobend ⟨1, 0, .chunk 0⟩ .complete, .R ⟨1, 0, .chunk 0⟩ .complete,
     .W ⟨1, 0, .join⟩ .complete, .W ⟨1, 0, .fork⟩ .complete, .nodestate 1 .complete,
     .crash, .restart, .fork 0 0] with | .ok _ => true | .error _ => false) = true := by decide +kernel

end Props.C06
