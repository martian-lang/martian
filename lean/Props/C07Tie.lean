/-
C07 / C17 tie: `syntax.IsLegalUnixFilename` TRANSLATED from
martian/syntax/compile_params.go on every run (`Gen.tr_IsLegalUnixFilename`,
error ↦ `Option String`, the `for _, c := range name` loop as a left fold with
early return, read byte-wise) accepts exactly the names the type model's
`legalName` accepts – the rule for the keys of directory-like typed maps.
-/
import Martian.Types
import Gen.Facts
import Proofs.TieDefs

namespace Props.C07
open Martian.Types Proofs.Tie

/-- for ALL byte strings: the translated Go function returns `nil` exactly when
the model's `legalName` holds -/
theorem tr_IsLegalUnixFilename_eq_model (name : List UInt8) :
    (Gen.tr_IsLegalUnixFilename name).isNone = legalName name := by
  simp only [Gen.tr_IsLegalUnixFilename, legalName]
  by_cases h1 : name.length ≤ 255
  · have hc1 : decide ((Int.ofNat name.length) > (255 : Int)) = false := by
      simp only [decide_eq_false_iff_not, Int.ofNat_eq_natCast]; omega
    by_cases h2 : name = []
    · simp [h2]
    by_cases h3 : name = [0x2E]
    · simp [h3]
    by_cases h4 : name = [0x2E, 0x2E]
    · simp [h4]
    have hc2 : (name == ([] : List UInt8)) = false := by simpa using h2
    have hc3 : ((name == ([0x2E] : List UInt8)) || (name == ([0x2E, 0x2E] : List UInt8))) = false := by
      simp [h3, h4]
    have hr : (decide (name.length ≤ 255) && !name.isEmpty && name != [0x2E] && name != [0x2E, 0x2E]) = true := by
      simp [h1, h2, h3, h4]
    simp only [hc1, hc2, hc3, Bool.false_eq_true, if_false]
    rw [Bool.and_assoc, hr, Bool.true_and, scan_getD_isNone, all_no_slash_nul]
    intro x r h
    split at h
    · cases h; rfl
    · split at h
      · cases h; rfl
      · cases h
  · have hc1 : decide ((Int.ofNat name.length) > (255 : Int)) = true := by
      simp only [decide_eq_true_eq, Int.ofNat_eq_natCast]; omega
    simp only [hc1, if_true]
    simp [h1]

example : Gen.tr_IsLegalUnixFilename [0x61, 0x2F, 0x62] = some "'/' is not allowed in filenames" ∧
    Gen.tr_IsLegalUnixFilename [0x2E, 0x2E] = some "reserved name" ∧
    Gen.tr_IsLegalUnixFilename [0x61, 0x2E, 0x62] = none := by decide

/-- FAIL CLOSED: the tie theorems of this file are about the
definition(s) TRANSLATED FROM THE TREE UNDER TEST, not about the committed default the
extractor falls back to when the source leaves the translated subset – in that
case this obligation breaks and `./check` reports it (besides the note). -/
theorem translated_from_tree_under_test : Gen.tr_IsLegalUnixFilename_extracted = true := by decide

end Props.C07
