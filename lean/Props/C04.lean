/-
C04 — volatile data removal never deletes a file that is still needed.
PROPERTY THEOREMS ONLY (lemmas: Proofs/Vdr*.lean; model: Martian/Vdr*.lean).

The theorems quantify over ALL event lists (`run c s0 evs`): every
interleaving of consumer completions (`nodeDone`), failures and resets of a
consumer (`nodeFailed`, `nodeReset`), a restart of mrp (`restart`),
`removeEmptyFileArgs`, `cacheParamFileMap`, early temp cleaning and
`partialVdrKill` in state complete (the rolling trigger and the final
`Pipestance.VDRKill` alike), from any fresh fork state `s0`.
-/
import Proofs.VdrExample
import Proofs.VdrFs
import Proofs.VdrBuild
import Proofs.VdrVal
import Proofs.VdrShrink
import Proofs.VdrHyp

namespace Props.C04
open Martian.Vdr

/-- `anyOverlap` detects exactly "equal, ancestor or descendant" (paths
without a trailing separator, which is what `filepath.Clean` produces). -/
theorem anyOverlap_iff (ns fs : List Path)
    (hn : ∀ n ∈ ns, NoTrailingSlash n) (hf : ∀ f ∈ fs, NoTrailingSlash f) :
    anyOverlap ns fs = true ↔ ∃ n ∈ ns, ∃ f ∈ fs, Related n f :=
  anyOverlap_iff' ns fs hn hf

theorem pathIsInside_spec (d k : Path) : pathIsInside d k = true ↔ (d = k ∨ (k ++ ['/']) <+: d) :=
  pathIsInside_iff d k

/-- Collapsing kill paths is sound: whatever names something below a
directory names the directory, so a directory whose own entry is kept alive
by no argument has nothing below it that is kept alive. -/
theorem overlap_mono {d k f : Path} (hin : pathIsInside d k = true) (hr : Related d f) : Related k f :=
  related_mono hin hr

/-- **kill_safe.**  For a volatile fork, under every interleaving: an entry
below a files/ directory that has been removed is referenced by no argument
that has a holder other than a consumer node that is already complete — in
particular by no argument held by the top level or a retain (`none`). -/
theorem kill_safe (c : Cfg) (s0 : St) (evs : List Ev) (ok : CfgOK c s0) (fr : Fresh s0)
    (hv : c.volatile = true) :
    ∀ d ∈ (run c s0 evs).removed, isTmp d.kind = false →
      ∀ a h, Holds s0 a h → refs c a d.path = true →
        ∃ n, h = some n ∧ n ∈ (run c s0 evs).doneNodes :=
  fun d hd ht a h hh hr => ((Inv.init c s0 fr).run ok hv evs).safe d hd ht a h hh hr

/-- Files named by a top-level output or a retain declaration of a volatile fork are never removed. -/
theorem top_level_and_retained_never_removed (c : Cfg) (s0 : St) (evs : List Ev) (ok : CfgOK c s0)
    (fr : Fresh s0) (hv : c.volatile = true) (a : Arg) (hh : Holds s0 a none) :
    ∀ d ∈ (run c s0 evs).removed, isTmp d.kind = false → refs c a d.path = false := by
  intro d hd ht
  cases hr : refs c a d.path with
  | false => rfl
  | true =>
    obtain ⟨n, e, _⟩ := kill_safe c s0 evs ok fr hv d hd ht a none hh hr
    cases e

/-- **args_present_at_start.**  As long as consumer `n` has not completed,
everything its argument `a` names is still on disk: it finds its files when
it starts, however long after the producer finished. -/
theorem args_present_at_start (c : Cfg) (s0 : St) (evs : List Ev) (ok : CfgOK c s0) (fr : Fresh s0)
    (hv : c.volatile = true) (a : Arg) (n : Node) (hh : Holds s0 a (some n))
    (hn : n ∉ (run c s0 evs).doneNodes) :
    ∀ d ∈ s0.disk, isTmp d.kind = false → refs c a d.path = true → d ∈ (run c s0 evs).disk :=
  ((Inv.init c s0 fr).run ok hv evs).kept hh (fun _ e => Option.some.inj e ▸ hn)

/-- A non-volatile fork loses nothing but temp entries and — when the stage
splits — chunk-level files (removed by `vdrKill`, which runs only in state
complete, i.e. after the join). -/
theorem nonvolatile_loses_only_tmp_and_chunk_files (c : Cfg) (s0 : St) (evs : List Ev)
    (fr : Fresh s0) (hv : c.volatile = false) (hs : c.strict = false) :
    ∀ d ∈ (run c s0 evs).removed, isTmp d.kind = true ∨ (c.splits = true ∧ d.kind = .chunk) := by
  intro d hd
  rcases run_removed_nonvol c s0 hv hs evs d hd with h | h
  · rw [fr.removed] at h; cases h
  · exact h

/-- … and a non-volatile stage that does not split loses only temp entries. -/
theorem nonvolatile_nonsplitting_loses_nothing (c : Cfg) (s0 : St) (evs : List Ev)
    (fr : Fresh s0) (hv : c.volatile = false) (hs : c.strict = false) (hsp : c.splits = false) :
    ∀ d ∈ (run c s0 evs).removed, isTmp d.kind = true := by
  intro d hd
  rcases nonvolatile_loses_only_tmp_and_chunk_files c s0 evs fr hv hs d hd with h | ⟨h, _⟩
  · exact h
  · rw [hsp] at h; cases h

/-! ### uncleaned paths and symbolic links -/

/-- `filepath.Clean` (rooted paths) delivers what `anyOverlap_iff` assumes:
the result is the root or has no trailing separator. -/
theorem cleanAbs_clean (p : Path) : cleanAbs p = ['/'] ∨ NoTrailingSlash (cleanAbs p) :=
  cleanAbs_clean' p

/-- `pathIsInside` on arbitrary spellings (`//`, `/./`, `/../`, trailing `/`)
decides "equal or below" on the cleaned forms. -/
theorem pathIsInsideRaw_spec (t p : Path) :
    pathIsInsideRaw t p = true ↔ (t = p ∨ pathIsInside (cleanAbs t) (cleanAbs p) = true) := by
  unfold pathIsInsideRaw pathIsInside
  simp

/-- `anyOverlap` fed with cleaned names (as `getLogicalFileNames` does) detects
exactly equal / ancestor / descendant, whatever the spelling was. -/
theorem anyOverlap_cleaned_iff (ns fs : List Path)
    (hn : ∀ n ∈ ns, cleanAbs n ≠ ['/']) (hf : ∀ f ∈ fs, cleanAbs f ≠ ['/']) :
    anyOverlap (ns.map cleanAbs) (fs.map cleanAbs) = true ↔
      ∃ n ∈ ns, ∃ f ∈ fs, Related (cleanAbs n) (cleanAbs f) := by
  rw [anyOverlap_iff]
  · constructor
    · rintro ⟨n, hn', f, hf', r⟩
      obtain ⟨n0, h0, rfl⟩ := List.mem_map.mp hn'
      obtain ⟨f0, h1, rfl⟩ := List.mem_map.mp hf'
      exact ⟨n0, h0, f0, h1, r⟩
    · rintro ⟨n, hn', f, hf', r⟩
      exact ⟨_, List.mem_map.mpr ⟨n, hn', rfl⟩, _, List.mem_map.mpr ⟨f, hf', rfl⟩, r⟩
  · intro n hn'
    obtain ⟨n0, h0, rfl⟩ := List.mem_map.mp hn'
    exact (cleanAbs_clean n0).resolve_left (hn n0 h0)
  · intro f hf'
    obtain ⟨f0, h1, rfl⟩ := List.mem_map.mp hf'
    exact (cleanAbs_clean f0).resolve_left (hf f0 h1)

/-- An output that names a symbolic link also names the link's target:
`getLogicalFileNames` contains it … -/
theorem logicalNames_target (fs : List FsEnt) (name t : Path) (e : FsEnt)
    (hclean : cleanAbs name = name) (hf : lfind fs name = some e) (hl : e.link = some t)
    (habs : isAbs t = true) : t ∈ logicalNames fs name := by
  unfold logicalNames
  rw [hclean, hf]
  exact chase_target fs 39 name t e _ hf hl habs

/-- … so the argument references the target, and by `kill_safe` the target is
not removed while the argument is held (a stage that writes its data under
files/real/ and hands out a link to it keeps the data). -/
theorem link_target_referenced (c : Cfg) (a : Arg) (fs : List FsEnt) (name t : Path) (e : FsEnt)
    (hfiles : ∀ x ∈ logicalNames fs name, x ∈ c.filesOf a)
    (hclean : cleanAbs name = name) (hf : lfind fs name = some e) (hl : e.link = some t)
    (habs : isAbs t = true) : refs c a t = true :=
  refs_of_mem (hfiles t (logicalNames_target fs name t e hclean hf hl habs))

/-- A name that leads through linked PARENT components (a stage that returns
`files/current/part.txt` with `files/current -> data`, or the canonical path
of a pipestance reached through a symlinked directory) also names the fully
resolved location: `getLogicalFileNames` contains it … -/
theorem logicalNames_resolved (fs : List FsEnt) (name r : Path) (e : FsEnt)
    (hf : lfind fs (cleanAbs name) = some e) (hr : evalSymlinks fs (cleanAbs name) = some r) :
    r ∈ logicalNames fs name :=
  logicalNames_resolved' fs name r e hf hr

/-- … so the argument references the real file and its real directories, and
by `kill_safe` they are not removed while the argument is held. -/
theorem resolved_location_referenced (c : Cfg) (a : Arg) (fs : List FsEnt) (name r : Path) (e : FsEnt)
    (hfiles : ∀ x ∈ logicalNames fs name, x ∈ c.filesOf a)
    (hf : lfind fs (cleanAbs name) = some e) (hr : evalSymlinks fs (cleanAbs name) = some r) :
    refs c a r = true :=
  refs_of_mem (hfiles r (logicalNames_resolved fs name r e hf hr))

/-! ### the holder sets are those the construction builds

`kill_safe` and its corollaries take the holder sets (`Holds s0 a h`) as given.
The theorems below derive them from the construction of the pipestance:
`opsOf tr` is the sequence of `attachToFileParents` / `buildForks` / retain
steps `NewPipestance` performs for the node tree `tr` with its resolved
bindings, `build` executes them, `typedRefs` is the typed reference walk
(`Exp.FindTypedRefs`, entered through `ResolvedBinding.FindRefs`).  `wfOps [] [] (opsOf tr)` — forks are built
once and before they are referred to, a stage attaches once — is decided by
the driver for every pipestance the harness builds, and the tables `build`
yields are compared with the real ones on every run. -/

/-- **consumer_registered** (soundness of the holder sets).  Every stage `n`
of the tree one of whose resolved inputs contains, at a type that may name
files, a reference to output `a` of node `p`, is a holder of `a` in THE table
every fork of `p` starts with — and a post node of `p` listing `a`. -/
theorem consumer_registered (tr : PTree) (w : wfOps [] [] (opsOf tr) = true) (n : Node) (ins : List Binding)
    (hs : HasStage tr n ins) (b : Binding) (hb : b ∈ ins) (p : Node) (a : Arg)
    (hr : (p, a, true) ∈ typedRefs b.1 b.2) :
    ∃ t, (p, t) ∈ build (opsOf tr) ∧ (∀ t', (p, t') ∈ build (opsOf tr) → t' = t) ∧
      (∀ disk, Holds (t.st disk) a (some n)) ∧
      ∃ as, t.postNodes.lookup n = some as ∧ a ∈ as := by
  obtain ⟨t, ht, hh⟩ := build_holds_mem w hs.mem (mem_fileRefs hb hr)
  refine ⟨t, ht, fun t' h' => build_unique w h' ht, fun d => hh.st d, ?_⟩
  obtain ⟨hs', hm, hin⟩ := hh
  exact (build_bk w ht).cons a hs' hm n hin

/-- … the outputs the top-level pipeline returns carry the nil holder … -/
theorem top_level_registered (tr : PTree) (w : wfOps [] [] (opsOf tr) = true) (ret : List Binding)
    (hs : HasTop tr ret) (b : Binding) (hb : b ∈ ret) (p : Node) (a : Arg)
    (hr : (p, a, true) ∈ typedRefs b.1 b.2) :
    ∃ t, (p, t) ∈ build (opsOf tr) ∧ ∀ disk, Holds (t.st disk) a none := by
  obtain ⟨t, ht, hh⟩ := build_holds_mem w hs.mem (mem_fileRefs hb hr)
  exact ⟨t, ht, fun d => hh.st d⟩

/-- … and so does every output named by a `retain` of a stage or a pipeline. -/
theorem retained_registered (tr : PTree) (w : wfOps [] [] (opsOf tr) = true) (p : Node) (a : Arg)
    (hs : HasRetain tr p a) : ∃ t, (p, t) ∈ build (opsOf tr) ∧ ∀ disk, Holds (t.st disk) a none := by
  obtain ⟨t, ht, hh⟩ := build_retained_mem w hs.mem
  exact ⟨t, ht, fun d => hh.st d⟩

/-- **args_present_at_start_built.**  End to end, without assuming the holder
sets: a producer fork that starts with the tables the construction gives it
keeps, under every interleaving, everything output `a` references for as long
as a consuming stage bound to `a` (at a type that may name files) has not
completed. -/
theorem args_present_at_start_built (tr : PTree) (w : wfOps [] [] (opsOf tr) = true) (n : Node)
    (ins : List Binding) (hs : HasStage tr n ins) (b : Binding) (hb : b ∈ ins) (p : Node) (a : Arg)
    (hr : (p, a, true) ∈ typedRefs b.1 b.2) :
    ∃ t, (p, t) ∈ build (opsOf tr) ∧
      ∀ (c : Cfg) (disk : List DiskEnt) (evs : List Ev), CfgOK c (t.st disk) → c.volatile = true →
        n ∉ (run c (t.st disk) evs).doneNodes →
        ∀ d ∈ disk, isTmp d.kind = false → refs c a d.path = true → d ∈ (run c (t.st disk) evs).disk := by
  obtain ⟨t, ht, _, hh, _⟩ := consumer_registered tr w n ins hs b hb p a hr
  refine ⟨t, ht, ?_⟩
  intro c disk evs ok hv hn d hd
  exact args_present_at_start c (t.st disk) evs ok ⟨rfl, rfl⟩ hv a n (hh disk) hn d hd

/-- **top_level_and_retained_never_removed_built.**  Likewise for what the
top-level pipeline returns and for retained outputs: nothing they reference
is ever removed from a fork that starts with the constructed tables. -/
theorem top_level_and_retained_never_removed_built (tr : PTree) (w : wfOps [] [] (opsOf tr) = true)
    (p : Node) (a : Arg)
    (h : (∃ ret b, HasTop tr ret ∧ b ∈ ret ∧ (p, a, true) ∈ typedRefs b.1 b.2) ∨ HasRetain tr p a) :
    ∃ t, (p, t) ∈ build (opsOf tr) ∧
      ∀ (c : Cfg) (disk : List DiskEnt) (evs : List Ev), CfgOK c (t.st disk) → c.volatile = true →
        ∀ d ∈ (run c (t.st disk) evs).removed, isTmp d.kind = false → refs c a d.path = false := by
  have key : ∃ t, (p, t) ∈ build (opsOf tr) ∧ ∀ disk, Holds (t.st disk) a none := by
    rcases h with ⟨ret, b, ht, hb, hr⟩ | hrt
    · exact top_level_registered tr w ret ht b hb p a hr
    · exact retained_registered tr w p a hrt
  obtain ⟨t, ht, hh⟩ := key
  refine ⟨t, ht, ?_⟩
  intro c disk evs ok hv
  exact top_level_and_retained_never_removed c (t.st disk) evs ok ⟨rfl, rfl⟩ hv a (hh disk)

/-- **holders_sound.**  No reference through which a value reaches a consuming
stage is overlooked: for every reference `p.a` in a value position of a
resolved input of stage `n` (a binding the typed walk accepts: `wellTyped`,
decided by the driver for every binding of every pipestance built), either
`n` is registered as a holder of `a` in the table of `p`, or the walk binds
the reference at a type that cannot name files — and a value of such a type
names no file (`notfile_value_names_nothing`). -/
theorem holders_sound (tr : PTree) (w : wfOps [] [] (opsOf tr) = true) (n : Node) (ins : List Binding)
    (hs : HasStage tr n ins) (b : Binding) (hb : b ∈ ins) (hw : wellTyped b.1 b.2 = true) (p : Node) (a : Arg)
    (hr : (p, a) ∈ b.1.valueRefs) :
    (∃ t, (p, t) ∈ build (opsOf tr) ∧ ∀ disk, Holds (t.st disk) a (some n)) ∨
    (p, a, false) ∈ typedRefs b.1 b.2 := by
  obtain ⟨f, hf⟩ := (walk_covers b.1).1 b.2 hw (p, a) hr
  cases f with
  | false => exact Or.inr hf
  | true =>
    obtain ⟨t, ht, _, hh, _⟩ := consumer_registered tr w n ins hs b hb p a hf
    exact Or.inl ⟨t, ht, hh⟩

/-- A value that conforms to a type that cannot name files (`IsFile() ==
KindIsNotFile`: int, float, bool and arrays, typed maps and structs of such;
typed-map keys of such maps not being paths) contains nothing
`getMaybeFileNames` would report. -/
theorem notfile_value_names_nothing (v : Val) (t : Ty) (hc : conforms v t = true) (hf : t.isFile = false) :
    v.names = [] :=
  (notFile_names v).1 t hc hf

/-- **delivered_files_are_held.**  With an evaluation semantics of the binding
expressions (`Delivers`: a reference delivers what any fork of the producer
produced, a split any element of its source, a merge a collection of values
of its body, a disabled binding null or its value; literals name nothing):
every file name in ANY value a resolved input of stage `n` can deliver is a
file name of what some fork of a node `p` produced for an output `a`, such
that `n` is registered as a holder of `a` on `p` — or the walk binds `p.a` at
a type that cannot name files. -/
theorem delivered_files_are_held (tr : PTree) (w : wfOps [] [] (opsOf tr) = true) (n : Node) (ins : List Binding)
    (hs : HasStage tr n ins) (b : Binding) (hb : b ∈ ins) (hw : wellTyped b.1 b.2 = true)
    (env : Env) (v : Val) (hd : Delivers env false b.1 v) (s : String) (hn : s ∈ v.names) :
    ∃ p a, (∃ x ∈ env p a, s ∈ x.names) ∧
      ((∃ t, (p, t) ∈ build (opsOf tr) ∧ ∀ disk, Holds (t.st disk) a (some n)) ∨
       (p, a, false) ∈ typedRefs b.1 b.2) := by
  obtain ⟨r, hr, x, hx, hsx⟩ := delivers_names hd s hn
  exact ⟨r.1, r.2, ⟨x, hx, hsx⟩, holders_sound tr w n ins hs b hb hw r.1 r.2 hr⟩

/-- **expanded_fork_safe.**  The moment of dynamic fork expansion: whenever
in the life of a fork (`evs`) `cloneFork` makes a new fork of it, the new
fork — with its own files, under every interleaving of its own later events
`evs'` — never loses an entry referenced by an argument that a holder of the
clone holds and that is not a completed consumer; and every holder the clone
has was registered for the original at construction. -/
theorem expanded_fork_safe (c c' : Cfg) (s0 : St) (evs evs' : List Ev) (disk : List DiskEnt)
    (ok' : CfgOK c' (cloneFork (run c s0 evs) disk)) (hv' : c'.volatile = true)
    (ok : CfgOK c s0) (fr : Fresh s0)
    (hv : c.volatile = true) (bk : BK s0) (hf : s0.final = false) :
    (∀ a h, Holds (cloneFork (run c s0 evs) disk) a h → Holds s0 a h) ∧
    ∀ d ∈ (run c' (cloneFork (run c s0 evs) disk) evs').removed, isTmp d.kind = false →
      ∀ a h, Holds (cloneFork (run c s0 evs) disk) a h → refs c' a d.path = true →
        ∃ n, h = some n ∧ n ∈ (run c' (cloneFork (run c s0 evs) disk) evs').doneNodes := by
  obtain ⟨_, r⟩ := VR.run ok hv bk (VInv.init s0 fr) (RInv.init c s0 fr bk hf) evs
  refine ⟨?_, ?_⟩
  · intro a h hh
    exact r.sh.holds a h ((cloneFork_holds _ disk a h).mp hh)
  · exact kill_safe c' (cloneFork (run c s0 evs) disk) evs' ok' ⟨rfl, rfl⟩ hv'

/-- **construction_well_ordered.**  The hypothesis `wfOps` of the construction
theorems follows from the shape of the call graph (`Scoped`: node ids are
new when the node is constructed; the file references of inputs, the
top-level return and the retains point to nodes constructed before). -/
theorem construction_well_ordered (tr : PTree) (a : List Node) (sc : Scoped [] tr a) :
    wfOps [] [] (opsOf tr) = true :=
  wfOps_of_scoped sc

/-- `Scoped` is decided by `scopedB` (evaluated by the driver for every pipestance built). -/
theorem scoped_decided (tr : PTree) (a : List Node) (h : scopedB [] tr = some a) : Scoped [] tr a :=
  scopedB_sound tr [] a h

/-- `args_present_at_start_built` from the shape of the call graph alone. -/
theorem args_present_at_start_scoped (tr : PTree) (known : List Node) (sc : Scoped [] tr known) (n : Node)
    (ins : List Binding) (hs : HasStage tr n ins) (b : Binding) (hb : b ∈ ins) (p : Node) (a : Arg)
    (hr : (p, a, true) ∈ typedRefs b.1 b.2) :
    ∃ t, (p, t) ∈ build (opsOf tr) ∧
      ∀ (c : Cfg) (disk : List DiskEnt) (evs : List Ev), CfgOK c (t.st disk) → c.volatile = true →
        n ∉ (run c (t.st disk) evs).doneNodes →
        ∀ d ∈ disk, isTmp d.kind = false → refs c a d.path = true → d ∈ (run c (t.st disk) evs).disk :=
  args_present_at_start_built tr (wfOps_of_scoped sc) n ins hs b hb p a hr

/-- Whatever a binding delivers names only files among `reach env e` — the
names in the recorded values of the outputs it references; the driver
evaluates `reach` against the `_args` of real jobs (every file name in a
delivered argument must be in it). -/
theorem delivered_names_reachable (env : Env) (e : BExp) (v : Val) (h : Delivers env false e v) :
    ∀ s ∈ v.names, s ∈ reach env e :=
  delivers_reach h

/-! ### consumers that fail and are retried -/

/-- A consumer counts as done only through its completion (`nodeDone`: the
post node is found Complete or Disabled): no pass of the producer, no failure
of the consumer (`nodeFailed`) and no reset for a retry (`nodeReset`) adds it
to the done set `partialVdrKill` consults. -/
theorem done_only_by_completion (c : Cfg) (s0 : St) (evs : List Ev) :
    ∀ n ∈ (run c s0 evs).doneNodes, n ∈ s0.doneNodes ∨ Ev.nodeDone n ∈ evs :=
  run_done c s0 evs

/-- **failed_consumer_keeps_inputs.**  Under every interleaving in which
consumer `n` has not completed — however often it has failed and been reset
for a retry in between, and whatever else completed meanwhile — everything
its argument `a` references is still on disk: the retried job finds its
files at every launch. -/
theorem failed_consumer_keeps_inputs (c : Cfg) (s0 : St) (evs : List Ev) (ok : CfgOK c s0) (fr : Fresh s0)
    (hv : c.volatile = true) (a : Arg) (n : Node) (hh : Holds s0 a (some n))
    (h0 : n ∉ s0.doneNodes) (hnot : Ev.nodeDone n ∉ evs) :
    ∀ d ∈ s0.disk, isTmp d.kind = false → refs c a d.path = true → d ∈ (run c s0 evs).disk := by
  apply args_present_at_start c s0 evs ok fr hv a n hh
  intro hn
  rcases run_done c s0 evs n hn with h | h
  · exact h0 h
  · exact hnot h

/-- Counting a failed post node as done is
unsafe: had the failure of `C` released its arguments the way a completion
does, `b`'s file would be gone when `C` is retried; in the model it stays. -/
theorem failure_is_not_completion :
    ((run exCfg exSt [.removeEmpty, .cacheMap, .nodeFailed "C", .kill, .nodeReset "C", .kill]).disk.map (·.path) =
      ["/p/files/a.txt".toList, "/p/files/sub".toList, "/p/files/sub/b.txt".toList]) ∧
    ((run exCfg exSt [.removeEmpty, .cacheMap, .nodeDone "C", .kill]).disk.map (·.path) =
      ["/p/files/a.txt".toList]) := by
  constructor <;> eval_paths [exCfg, exSt]

/-! ### content -/

/-- **content_preserved_until_done.**  The model's entries carry the content of
the file (`DiskEnt.hash`), and no event of the language writes: as long as
consumer `n` has not completed, every entry its argument references is still
there WITH ITS CONTENT (the very same entry); likewise for what the top level
or a retain holds (`h = none`), for ever.  (A stage job writing into its files
after the fork completed is outside the event language — Martian's contract;
at run time the content of the survivors is compared through the replay's
`kepthash` and by the monitors.) -/
theorem content_preserved_until_done (c : Cfg) (s0 : St) (evs : List Ev) (ok : CfgOK c s0) (fr : Fresh s0)
    (hv : c.volatile = true) (a : Arg) (h : Holder) (hh : Holds s0 a h)
    (hn : ∀ n, h = some n → n ∉ (run c s0 evs).doneNodes) :
    (∀ d ∈ s0.disk, isTmp d.kind = false → refs c a d.path = true →
      ∃ d' ∈ (run c s0 evs).disk, d'.path = d.path ∧ d'.hash = d.hash ∧ d'.size = d.size) ∧
    (∀ d' ∈ (run c s0 evs).disk, ∃ d ∈ s0.disk, d' = d) := by
  refine ⟨?_, fun d' hd' => ⟨d', (shr_run c s0 evs).disk d' hd', rfl⟩⟩
  intro d hd ht hr
  exact ⟨d, ((Inv.init c s0 fr).run ok hv evs).kept hh hn d hd ht hr, rfl, rfl, rfl⟩

/-! ### the whole pipestance -/

/-- **kill_safe_pipestance.**  All producer forks of a pipestance side by
side, their events interleaved in any way, consumer completions seen by all
of them (`grun`): after every global history every fork is exactly where its
own projection of the history takes it, and for every volatile fork whatever
it has removed below its files/ directories is referenced only by arguments
whose every holder is a consumer that has completed. -/
theorem kill_safe_pipestance (fs : List PFork) (evs : List GEv) :
    grun fs evs = fs.map (fun f => { f with st := run f.cfg f.st (proj f.id evs) }) ∧
    ∀ f ∈ fs, CfgOK f.cfg f.st → Fresh f.st → f.cfg.volatile = true →
      ∀ d ∈ (run f.cfg f.st (proj f.id evs)).removed, isTmp d.kind = false →
        ∀ a h, Holds f.st a h → refs f.cfg a d.path = true →
          ∃ n, h = some n ∧ n ∈ (run f.cfg f.st (proj f.id evs)).doneNodes :=
  ⟨grun_eq fs evs, fun f _ ok fr hv => kill_safe f.cfg f.st (proj f.id evs) ok fr hv⟩

/-- … in particular every fork of the product keeps what an unfinished
consumer's argument references, and what the top level or a retain holds. -/
theorem args_present_at_start_pipestance (fs : List PFork) (evs : List GEv) (f : PFork) (hf : f ∈ fs)
    (ok : CfgOK f.cfg f.st) (fr : Fresh f.st) (hv : f.cfg.volatile = true) (a : Arg) (h : Holder)
    (hh : Holds f.st a h) (hn : ∀ n, h = some n → n ∉ (run f.cfg f.st (proj f.id evs)).doneNodes) :
    ∃ f' ∈ grun fs evs, f'.id = f.id ∧
      ∀ d ∈ f.st.disk, isTmp d.kind = false → refs f.cfg a d.path = true → d ∈ f'.st.disk := by
  refine ⟨{ f with st := run f.cfg f.st (proj f.id evs) }, ?_, rfl, ?_⟩
  · rw [grun_eq]; exact List.mem_map.mpr ⟨f, hf, rfl⟩
  · exact ((Inv.init f.cfg f.st fr).run ok hv (proj f.id evs)).kept hh hn

/-- **args_present_at_start_tree.**  The product system instantiated with what
the construction builds: for a scoped node tree `tr`, the forks
`build (opsOf tr)` of ALL its nodes side by side (each with its own
configuration and files), under every global history: as long as the
consuming stage `n` — a node of the same tree — has not completed (no global
`nodeDone n`), everything a file-typed reference `p.a` of one of its resolved
inputs references is still among the files of `p`'s fork in the product.
(The forks' disks are separate entry lists here — a fork's passes filter its own
list; for one file system under all forks see `args_present_on_one_disk`.) -/
theorem args_present_at_start_tree (tr : PTree) (known : List Node) (sc : Scoped [] tr known)
    (cfg : Node → Cfg) (disk : Node → List DiskEnt) (evs : List GEv) (n : Node) (ins : List Binding)
    (hs : HasStage tr n ins) (b : Binding) (hb : b ∈ ins) (p : Node) (a : Arg)
    (hr : (p, a, true) ∈ typedRefs b.1 b.2) :
    ∃ t, (p, t) ∈ build (opsOf tr) ∧
      (CfgOK (cfg p) (t.st (disk p)) → (cfg p).volatile = true →
        GEv.nodeDone n ∉ evs → GEv.fork p (.nodeDone n) ∉ evs →
        ∃ f' ∈ grun ((build (opsOf tr)).map fun pt => (⟨pt.1, cfg pt.1, pt.2.st (disk pt.1)⟩ : PFork)) evs,
          f'.id = p ∧ ∀ d ∈ disk p, isTmp d.kind = false → refs (cfg p) a d.path = true → d ∈ f'.st.disk) := by
  obtain ⟨t, ht, _, hh, _⟩ := consumer_registered tr (wfOps_of_scoped sc) n ins hs b hb p a hr
  refine ⟨t, ht, ?_⟩
  intro ok hv hg hl
  have hf : (⟨p, cfg p, t.st (disk p)⟩ : PFork) ∈
      (build (opsOf tr)).map fun pt => (⟨pt.1, cfg pt.1, pt.2.st (disk pt.1)⟩ : PFork) :=
    List.mem_map.mpr ⟨(p, t), ht, rfl⟩
  apply args_present_at_start_pipestance _ evs ⟨p, cfg p, t.st (disk p)⟩ hf ok ⟨rfl, rfl⟩ hv a (some n) (hh (disk p))
  intro m e hm
  cases e
  rcases run_done (cfg p) (t.st (disk p)) (proj p evs) n hm with h | h
  · cases h
  · rcases mem_proj h with ⟨m, e1, e2⟩ | h2
    · cases e1; exact hg e2
    · exact hl h2

/-! ### definitional unfoldings (documentation of the model, not guarantees) -/

/-- `cloneFork` copies the two tables (by definition of the model: a value copy; that the
real copy does not share Go maps with the original is probed on real forks, not proved). -/
theorem clone_keeps_holders (s : St) (disk : List DiskEnt) :
    (∀ a h, Holds (cloneFork s disk) a h ↔ Holds s a h) ∧ Fresh (cloneFork s disk) :=
  ⟨fun a h => cloneFork_holds s disk a h, ⟨rfl, rfl⟩⟩

/-- **args_present_on_one_disk.**  All forks over ONE file system
(`sharedDisk`: an entry is gone as soon as it lies at or below a path ANY fork
has removed).  With the forks laid out as Martian lays them out (`Layout`:
every fork's entries inside its own directory, the directories of different
forks not inside one another, ids unique — distinctness of the fork
directories of a node is `forkDir_injective` of Props/C11.lean; that they do
not nest is assumed here), under every global history: what the argument of a
holder that is not a completed consumer references in fork `q` is still on
that one disk — no pass of `q` itself (the directory of a kept file is not
removed: `refs_mono`) and no pass of any other fork takes it.  `hsep`: the
entries below files/ are not below temp entries. -/
theorem args_present_on_one_disk (dir : ForkId → Path) (fs : List PFork) (evs : List GEv)
    (lay : Layout dir fs) (q : PFork) (hq : q ∈ fs) (ok : CfgOK q.cfg q.st) (fr : Fresh q.st)
    (hv : q.cfg.volatile = true)
    (hsep : ∀ g ∈ q.st.disk, isTmp g.kind = true → ∀ d ∈ q.st.disk, isTmp d.kind = false →
      pathIsInside d.path g.path = false)
    (a : Arg) (h : Holder) (hh : Holds q.st a h)
    (hn : ∀ n, h = some n → n ∉ (run q.cfg q.st (proj q.id evs)).doneNodes) :
    ∀ d ∈ q.st.disk, isTmp d.kind = false → refs q.cfg a d.path = true → d ∈ sharedDisk fs evs := by
  intro d hd ht hr
  unfold sharedDisk
  rw [List.mem_filter]
  refine ⟨List.mem_flatMap.mpr ⟨q, hq, hd⟩, ?_⟩
  rw [Bool.not_eq_true', List.any_eq_false]
  intro f hf
  rw [Bool.not_eq_true, List.any_eq_false]
  intro g hg
  rw [Bool.not_eq_true]
  by_cases hid : f.id = q.id
  · have e := lay.uniq f hf q hq hid
    subst e
    have i := (Inv.init f.cfg f.st fr).run ok hv (proj f.id evs)
    have hg0 : g ∈ f.st.disk := i.rsub g hg
    cases hin : pathIsInside d.path g.path with
    | false => rfl
    | true =>
      exfalso
      cases hgt : isTmp g.kind with
      | true => have := hsep g hg0 hgt d hd ht; rw [hin] at this; cases this
      | false =>
        have hrg : refs f.cfg a g.path = true :=
          refs_mono (ok.cleanD d hd) (ok.cleanD g hg0) (ok.noDbl d hd) (ok.noDbl g hg0) (ok.cleanF a) hin hr
        obtain ⟨m, e, hm⟩ := i.safe g hg hgt a h hh hrg
        exact hn m e hm
  · exact no_cross_fork_removal lay evs hf hq hid g hg d hd

/-! ### non-vacuity -/

/-- two forks on one disk in their own directories: a history in which both run their passes;
`P2` completes its consumer, `P1` does not; `P1`'s held files are on the shared disk -/
example :
    let c1 : Cfg := { volatile := true, strict := true, splits := false
                      argNames := [("a", ["/ps/P/fork1/files/a".toList])], argFiles := [("a", ["/ps/P/fork1/files/a".toList])]
                      initArgs := [("a", [some "C"])], initPost := [("C", ["a"])] }
    let c2 : Cfg := { c1 with argNames := [("a", ["/ps/P/fork2/files/a".toList])], argFiles := [("a", ["/ps/P/fork2/files/a".toList])] }
    let s1 : St := { fileArgs := [("a", [some "C"])], postNodes := [("C", ["a"])],
                     disk := [⟨"/ps/P/fork1/files/a".toList, 1, .out, [], 7⟩, ⟨"/ps/P/fork1/files/junk".toList, 2, .out, [], 8⟩] }
    let s2 : St := { s1 with disk := [⟨"/ps/P/fork2/files/a".toList, 1, .out, [], 9⟩] }
    let fs : List PFork := [⟨"P.fork1", c1, s1⟩, ⟨"P.fork2", c2, s2⟩]
    let evs : List GEv := [.fork "P.fork1" .cacheMap, .fork "P.fork2" .cacheMap, .fork "P.fork1" .kill, .fork "P.fork2" .kill]
    (sharedDisk fs evs).map (·.path) = ["/ps/P/fork1/files/a".toList, "/ps/P/fork2/files/a".toList] ∧
    (sharedDisk fs (evs ++ [.nodeDone "C", .fork "P.fork2" .kill])).map (·.path) = ["/ps/P/fork1/files/a".toList] := by
  eval_paths []

/-- a nested tree: `TOP` calls `P`, the sub-pipeline `SUB` (not top-level, retaining `P.keep`)
with the consumers `C1` (bound to a split of `P.xs`) and `C2` (bound to the struct field
`P.bag.f` inside a struct literal, and to the integer `P.bag.n`), and returns `SUB.C2.o` -/
def bigTree : PTree :=
  .pipe "TOP" true []
    (.stage "P" [] []
      (.pipe "SUB" false []
        (.stage "C1" [(.split false (.ref "P" "xs"), .prim true)] []
          (.stage "C2" [(.map (.cons "f" (.ref "P" "bag.f") (.cons "n" (.ref "P" "bag.n") .nil)),
                          .struct (.mcons "f" (.prim true) (.mcons "n" (.prim false) .mnil)))] [] .nil))
        [] [("P", "keep")] .nil))
    [(.map (.cons "o" (.ref "C2" "o") .nil), .struct (.mcons "o" (.prim true) .mnil))] [] .nil

/-- the nested tree is scoped; `P` gets both consumers, the pipeline-level retain and not the
integer projection; and a run on the BUILT table of `P`: `bag.f`'s file stays while `C2` has
not completed — through a restart — and goes afterwards, `keep`'s file stays -/
example :
    (scopedB [] bigTree).isSome = true ∧
    HasStage bigTree "C2" [(.map (.cons "f" (.ref "P" "bag.f") (.cons "n" (.ref "P" "bag.n") .nil)),
                          .struct (.mcons "f" (.prim true) (.mcons "n" (.prim false) .mnil)))] ∧
    HasRetain bigTree "P" "keep" ∧
    ((build (opsOf bigTree)).lookup "P").map (·.fileArgs) =
      some [("xs", [some "C1"]), ("bag.f", [some "C2"]), ("keep", [none])] ∧
    (let t := ((build (opsOf bigTree)).lookup "P").getD {}
     let c : Cfg := { volatile := true, strict := true, splits := false
                      argNames := [("xs", ["/p/f/x0".toList]), ("bag.f", ["/p/f/b".toList]), ("keep", ["/p/f/k".toList])]
                      argFiles := [("xs", ["/p/f/x0".toList]), ("bag.f", ["/p/f/b".toList]), ("keep", ["/p/f/k".toList])]
                      initArgs := t.fileArgs, initPost := t.postNodes }
     let s := t.st [⟨"/p/f/x0".toList, 1, .out, [], 0⟩, ⟨"/p/f/b".toList, 2, .out, [], 0⟩, ⟨"/p/f/k".toList, 3, .out, [], 0⟩,
                    ⟨"/p/f/junk".toList, 4, .out, [], 0⟩]
     (run c s [.removeEmpty, .cacheMap, .kill, .nodeDone "C1", .restart, .kill]).disk.map (·.path) =
       ["/p/f/b".toList, "/p/f/k".toList] ∧
     (run c s [.removeEmpty, .cacheMap, .kill, .nodeDone "C1", .restart, .kill, .nodeDone "C2", .kill]).disk.map (·.path) =
       ["/p/f/k".toList]) := by
  refine ⟨by decide +kernel, .child (.next (.child (.next .here))), .child (.next (.pipe (by simp))), by decide +kernel, by eval_paths []⟩

/-- `args_present_at_start_tree` instantiated on the nested tree: consumer `C2`, reference
`P.bag.f` (the file-typed member of the struct literal), every node with the same configuration -/
example : ∃ t, ("P", t) ∈ build (opsOf bigTree) := by
  have hsc : scopedB [] bigTree = some ["TOP", "SUB", "C2", "C1", "P"] := by decide +kernel
  have sc : Scoped [] bigTree ["TOP", "SUB", "C2", "C1", "P"] := scoped_decided bigTree _ hsc
  have hst : HasStage bigTree "C2" [(.map (.cons "f" (.ref "P" "bag.f") (.cons "n" (.ref "P" "bag.n") .nil)),
      .struct (.mcons "f" (.prim true) (.mcons "n" (.prim false) .mnil)))] :=
    .child (.next (.child (.next .here)))
  obtain ⟨t, ht, _⟩ := args_present_at_start_tree bigTree _ sc (fun _ => exCfg) (fun _ => []) []
    "C2" _ hst _ List.mem_cons_self "P" "bag.f" (by decide +kernel)
  exact ⟨t, ht⟩

/-- two forks, interleaved: the completion of `C` is seen by both -/
example :
    let fs : List PFork := [⟨"P1", exCfg, exSt⟩, ⟨"P2", exCfg, exSt⟩]
    let evs : List GEv := [.fork "P1" .removeEmpty, .fork "P2" .cacheMap, .fork "P1" .cacheMap, .fork "P1" .kill,
                           .nodeDone "C", .fork "P2" .kill]
    proj "P1" evs = [.removeEmpty, .cacheMap, .kill, .nodeDone "C"] ∧
    proj "P2" evs = [.cacheMap, .nodeDone "C", .kill] ∧
    (grun fs evs).map (fun f => f.st.disk.length) = [3, 1] := by
  refine ⟨rfl, rfl, by eval_paths [exCfg, exSt]⟩


/-- the construction hypotheses are satisfiable and the conclusions are not
vacuous: `B` is registered for `A.o` (a file) but not for `A.n` (an int), the
top level holds `B.o`, the retain holds `A.r` -/
example :
    wfOps [] [] (opsOf exTree) = true ∧
    HasStage exTree "B" [(.ref "A" "o", .prim true), (.ref "A" "n", .prim false)] ∧
    HasRetain exTree "A" "r" ∧
    ((build (opsOf exTree)).lookup "A").map (·.fileArgs) = some [("r", [none]), ("o", [some "B"])] ∧
    ((build (opsOf exTree)).lookup "A").map (·.postNodes) = some [("B", ["o"])] ∧
    ((build (opsOf exTree)).lookup "B").map (·.fileArgs) = some [("o", [none])] := by
  refine ⟨by decide +kernel, .child (.next .here), .child (.stage (by simp)), by decide +kernel, by decide +kernel, by decide +kernel⟩

/-- the example tree is scoped -/
example : scopedB [] exTree = some ["TOP", "B", "A"] := by decide +kernel

/-- delivery: a split of a reference delivers an element of what a fork produced, a merge collects -/
example :
    let env : Env := fun n o => if n = "P" ∧ o = "xs" then [.arr (.vcons "" (.str "/p/f1") (.vcons "" (.str "/p/f2") .vnil))] else []
    Delivers env false (.split false (.ref "P" "xs")) (.str "/p/f2") ∧
    Delivers env false (.merge (.split false (.ref "P" "xs"))) (.arr (.vcons "" (.str "/p/f1") .vnil)) := by
  intro env
  have h : Delivers env false (.ref "P" "xs") (.arr (.vcons "" (.str "/p/f1") (.vcons "" (.str "/p/f2") .vnil))) :=
    .ref (by simp [env])
  exact ⟨.splitArr h (.there .here), .mergeArr (.allCons (by decide) (.splitArr h .here) .allNil)⟩

/-- values: names are found in strings and keys at any depth; an `int[]` value names nothing -/
example :
    (Val.obj (.vcons "/p/k" (.arr (.vcons "" (.str "/p/f") (.vcons "" (.str "rel") .vnil))) .vnil)).names
      = ["/p/k", "/p/f"] ∧
    conforms (.arr (.vcons "" .atom (.vcons "" .null .vnil))) (.arr (.prim false)) = true ∧
    wellTyped (.map (.cons "f" (.ref "P" "x") .nil)) (.struct (.mcons "f" (.prim true) .mnil)) = true := by decide +kernel

/-- the typed walk: a struct literal bound at a struct type, a split, a merge -/
example :
    typedRefs (.map (.cons "f" (.ref "P" "x") (.cons "n" (.ref "P" "y") .nil)))
      (.struct (.mcons "f" (.prim true) (.mcons "n" (.prim false) .mnil))) = [("P", "x", true), ("P", "y", false)] ∧
    typedRefs (.split false (.ref "P" "xs")) (.prim true) = [("P", "xs", true)] ∧
    typedRefs (.merge (.ref "P" "x")) (.arr (.prim true)) = [("P", "x", true)] := by decide +kernel


/-- the hypotheses of `kill_safe` are satisfiable -/
example : CfgOK exCfg exSt ∧ Fresh exSt ∧ exCfg.volatile = true :=
  ⟨cfgOKB_sound (by eval_paths [exCfg, exSt]), ⟨rfl, rfl⟩, rfl⟩

/-- a raw spelling with a trailing separator next to its cleaned form is admitted by `CfgOK`
(what `getLogicalFileNames` returns for an output spelled `…/outdir/`), and the directory is
kept while the consumer has not completed -/
example :
    let c : Cfg := { volatile := true, strict := true, splits := false
                     argNames := [("d", ["/p/files/outdir/".toList])]
                     argFiles := [("d", ["/p/files/outdir/".toList, "/p/files/outdir".toList])]
                     initArgs := [("d", [some "C"])], initPost := [("C", ["d"])] }
    let s : St := { fileArgs := [("d", [some "C"])], postNodes := [("C", ["d"])],
                    disk := [⟨"/p/files/outdir".toList, 4096, .out, [], 0⟩, ⟨"/p/files/outdir/x".toList, 1, .out, [], 0⟩,
                             ⟨"/p/files/junk".toList, 2, .out, [], 0⟩] }
    cfgOKB c s = true ∧
    (run c s [.removeEmpty, .cacheMap, .kill]).disk.map (·.path) = ["/p/files/outdir".toList, "/p/files/outdir/x".toList] := by
  eval_paths []

/-- … and the conclusion is not vacuous: while `C` runs a kill removes the
scratch file only; once `C` is done, `b`'s file and directory go as well and
`a`'s file (top level) stays. -/
example :
    ((run exCfg exSt [.removeEmpty, .cacheMap, .kill]).removed.map (·.path) =
        ["/p/tmp/t".toList, "/p/files/scratch".toList]) ∧
    ((run exCfg exSt [.removeEmpty, .cacheMap, .kill, .nodeDone "C", .kill]).disk.map (·.path) =
        ["/p/files/a.txt".toList]) := by
  constructor <;> eval_paths [exCfg, exSt]

/-- links, chains, unclean link texts, and a linked parent directory: the model
computes what the code computes -/
example :
    let fs : List FsEnt :=
      [⟨"/p".toList, none⟩, ⟨"/p/f".toList, none⟩, ⟨"/p/f/real".toList, none⟩,
       ⟨"/p/f/lnk".toList, some "/p/f/real//x".toList⟩, ⟨"/p/f/real/x".toList, some "y".toList⟩,
       ⟨"/p/f/real/y".toList, none⟩, ⟨"/p/f/current".toList, some "real".toList⟩]
    logicalNames fs "/p/f/./lnk".toList
      = ["/p/f/./lnk".toList, "/p/f/lnk".toList, "/p/f/real/y".toList, "/p/f/real/x".toList,
         "/p/f/real//x".toList] ∧
    logicalNames fs "/p/f/current/y".toList = ["/p/f/current/y".toList, "/p/f/real/y".toList] := by eval_paths []

end Props.C04
