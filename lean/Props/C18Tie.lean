/-
C18 tie: the `switch r` of `appendShellSafeQuote` (what is appended for a rune
of width 1) TRANSLATED from martian/core/shell_quote.go on every run
(`Gen.tr_shellEscape r s0 buf`, with `r` the decoded rune, `s0 = s[0]`) is the
model's `escOf` over the regenerated escape table for an ASCII byte, and the
model's `octal` for an invalid byte (`r = utf8.RuneError`).
-/
import Martian.ShellQuote
import Gen.Facts

namespace Props.C18
open Martian.ShellQuote

/-- the switch only appends -/
theorem tr_shellEscape_appends (r : Int) (s0 : UInt8) (buf : List UInt8) :
    Gen.tr_shellEscape r s0 buf = buf ++ Gen.tr_shellEscape r s0 [] := by
  simp only [Gen.tr_shellEscape, List.nil_append, List.append_assoc, apply_ite (buf ++ ·)]

/-- all 128 ASCII bytes (`r = rune(s[0])`): what the switch appends is the
model's escape of the byte under the regenerated table -/
theorem tr_shellEscape_ascii_table :
    ∀ b : Fin 128, Gen.tr_shellEscape (b.val : Int) (UInt8.ofNat b.val) [] =
      escOf Gen.shellEscapes (UInt8.ofNat b.val) := by decide +kernel

/-- for every ASCII byte and every buffer -/
theorem tr_shellEscape_eq_model (b : UInt8) (hb : b < 0x80) (buf : List UInt8) :
    Gen.tr_shellEscape (b.toNat : Int) b buf = buf ++ escOf Gen.shellEscapes b := by
  rw [tr_shellEscape_appends]
  have hlt : b.toNat < 128 := by
    have := UInt8.lt_iff_toNat_lt.mp hb
    simpa using this
  have := tr_shellEscape_ascii_table ⟨b.toNat, hlt⟩
  simp only [UInt8.ofNat_toNat] at this
  rw [this]

/-- an invalid byte (`DecodeRuneInString` returned `(RuneError, 1)`) is written
as a backslash and three octal digits – the model's `octal` -/
theorem tr_shellEscape_invalid (s0 : UInt8) (buf : List UInt8) :
    Gen.tr_shellEscape 0xFFFD s0 buf = buf ++ octal s0 := by
  simp [Gen.tr_shellEscape, octal]

example : Gen.tr_shellEscape 36 36 [1] = [1, 0x5C, 0x24] ∧ Gen.tr_shellEscape 65 65 [] = [65] ∧
    Gen.tr_shellEscape 0xFFFD 0xFF [] = [0x5C, 0x33, 0x37, 0x37] := by decide

/-- FAIL CLOSED: the tie theorems of this file are about the
definition(s) TRANSLATED FROM THE TREE UNDER TEST, not about the committed default the
extractor falls back to when the source leaves the translated subset – in that
case this obligation breaks and `./check` reports it. -/
theorem translated_from_tree_under_test : Gen.tr_shellEscape_extracted = true := by decide

end Props.C18
