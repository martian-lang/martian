/-
C01 — stage arguments and pipeline outputs equal the MRO dataflow semantics.
The property theorems (helper lemmas: Proofs/Dataflow*.lean, Proofs/ResolverStatic*.lean,
Proofs/ResolverForks.lean, Proofs/ResolverForkOrder.lean; many theorems here are a lemma of those modules
under the name the documents use, a few short proofs are done in place).

Groups:
* kernel laws of the resolver model (Martian/Resolver.lean, ResolverForks.lean) against the
  specification's value operations: projection distributes through arrays and typed maps, struct
  narrowing keeps exactly the declared fields and is idempotent, chunk arguments = bindings
  overridden by the chunk def, static projection of resolved expressions (split / merge / disabled /
  fork) commutes with evaluation;
* meta-theorems about the specification `den`: instance `ix` of a mapped call receives what the
  unmapped call would receive with the `ix`-th element, renaming call ids changes nothing but the
  instance keys, den does not depend on the call-depth fuel; (the statements that are unfoldings of
  den's definition — no schedule, disabled = `dnull`, empty map = `dnull`, a sub-pipeline call
  denotes its body, `_chunk_outs` in chunk order — are collected under "definitional unfoldings" at
  the end: documentation, not guarantees);
* THE REFINEMENT "two-phase resolver model = den", proved per fragment, every theorem named
  `…_partial` with the shapes outside listed: plain programs; map calls of stages over literals;
  sizes known after resolution; mapped pipelines and nested map calls; run-time `disabled` controls
  (modulo the rendering of `dnull`: `J.erase` / `J.approx`); map calls of run-time size given the
  recorded index sets, and typed-map mode.  `…_checked_partial` are the versions with decidable
  hypotheses, which the driver evaluates and replays on every run.  The model is tied to the code per
  run (static phase against the real `MakeCallGraph` incl. the chosen fork node of run-time merges,
  run-time phase against the delivered arguments); outside the proved fragment the refinement
  "real resolver = den" is established per run by trace checking (harness/c01.go ↔ Driver/C01.lean
  `C01.check`).
-/
import Martian.Dataflow
import Martian.Resolver
import Proofs.Dataflow
import Proofs.DataflowAlias
import Proofs.DataflowAliasKeys
import Proofs.ResolverForks
import Proofs.ResolverStaticCheck
import Proofs.ResolverStaticMapCheck
import Proofs.ResolverStaticMapGCheck
import Proofs.ResolverStaticTreeCheck
import Proofs.ResolverStaticDisCheck
import Proofs.ResolverStaticRun
import Proofs.ResolverStaticRunCheck
import Proofs.ResolverForkOrder
import Proofs.ResolverStaticApprox
import Proofs.DataflowApprox
import Proofs.ResolverStaticEvalR
import Proofs.ResolverStaticExample
import Proofs.ResolverStaticTree3

namespace Props.C01
open Martian.Dataflow Martian.Resolver Martian.ResolverForks Proofs.Dataflow Proofs.DataflowAlias
  Proofs.ResolverForks Martian.ResolverStatic Proofs.ResolverStatic

/-! ## kernel laws -/

/-- Projection along any path distributes through an array level:
projecting an array value of type `b…[n+1]` is projecting each element at type `b…[n]`. -/
theorem project_distributes (st : StructTable) (b : String) (m n : Nat) (path : List String)
    (xs : List J) :
    projPath st ⟨b, m, n+1⟩ path (.arr xs) = .arr (xs.map (projPath st ⟨b, m, n⟩ path)) :=
  projPath_arr st path b m n xs

/-- One projection step distributes through a typed map `map<b[k]>`. -/
theorem project_distributes_map_step (b : String) (k : Nat) (f : String) (kvs : List (String × J)) :
    proj1 ⟨b, k+1, 0⟩ f (.obj kvs) = .obj (kvs.map fun kv => (kv.1, proj1 ⟨b, 0, k⟩ f kv.2)) :=
  proj1_obj b k f kvs

/-- Projection along a path distributes through a typed map `map<b[k]>`: it is the
map of the per-value projections at the element type `b[k]` — provided no field
on the path is itself a typed map (the compiler rejects such programs:
"invalid projection through nested maps"). -/
theorem project_distributes_map (st : StructTable) (b : String) (k : Nat) (path : List String)
    (kvs : List (String × J)) (h : NoMapFields st ⟨b, 0, k⟩ path) :
    projPath st ⟨b, k+1, 0⟩ path (.obj kvs)
      = .obj (kvs.map fun kv => (kv.1, projPath st ⟨b, 0, k⟩ path kv.2)) :=
  projPath_obj st path b k kvs h

/-- the hypothesis of `project_distributes_map` is satisfiable on a real path -/
example : NoMapFields [("PAIR", [⟨"a", ⟨"int", 0, 0⟩⟩])] ⟨"PAIR", 0, 1⟩ ["a"] := by
  refine ⟨?_, trivial⟩
  intro ft h
  simp [fieldTy] at h
  subst h
  rfl

/-- A null intermediate projects to null (and `dnull` to `dnull`), whatever the type and path. -/
theorem project_null (st : StructTable) (path : List String) :
    ∀ t : Ty, projPath st t path .null = .null ∧ projPath st t path .dnull = .dnull := by
  induction path with
  | nil => intro t; simp [projPath]
  | cons f r ih =>
    intro t
    have h1 := proj1_null t f
    have h2 := proj1_dnull t f
    simp only [projPath, h1, h2]
    exact ih _

/-- Struct narrowing is idempotent (binding an already narrowed value again changes nothing). -/
theorem filter_narrow (st : StructTable) (hst : StructsOk st) (fuel : Nat) (t : Ty) (v : J) :
    narrow st fuel t (narrow st fuel t v) = narrow st fuel t v :=
  narrow_idem st hst fuel t v

/-- Struct narrowing = dropping fields: narrowing an object to struct `s` yields
exactly the declared members of `s`, in declaration order. -/
theorem filter_narrow_fields (st : StructTable) (fuel : Nat) (s : String) (ps : List Param)
    (kvs : List (String × J)) (h : st.lookup s = some ps) :
    ∃ vs, narrow st (fuel+1) ⟨s, 0, 0⟩ (.obj kvs) = .obj vs ∧ vs.map (·.1) = ps.map (·.name) := by
  refine ⟨ps.map fun p => (p.name, narrow st fuel p.ty ((J.obj kvs).field p.name)), ?_, ?_⟩
  · simp [narrow, atBase, mapArr, h]
  · simp [List.map_map, Function.comp_def]

/-- `ChunkDef.Merge`: a chunk-def argument overrides the binding of the same name. -/
theorem chunk_merge_override (bindings chunkDef : List (String × J)) (k : String) (v : J)
    (h : chunkDef.lookup k = some v) : (chunkMerge bindings chunkDef).lookup k = some v := by
  unfold chunkMerge
  rw [List.lookup_append, lookup_filter_none bindings chunkDef k (by simp [h])]
  simp [h]

/-- `ChunkDef.Merge`: every other parameter keeps the stage's binding. -/
theorem chunk_merge_keep (bindings chunkDef : List (String × J)) (k : String)
    (h : chunkDef.lookup k = none) : (chunkMerge bindings chunkDef).lookup k = bindings.lookup k := by
  unfold chunkMerge
  rw [List.lookup_append, lookup_filter_keep bindings chunkDef k h, h]
  simp

/--
PARTIAL.  Static projection commutes with evaluation: projecting a binding
expression by a field *before* evaluation (`*Exp.BindingPath`: array literals
element-wise, typed-map literals value-wise, struct literals by member
selection, references by path extension) denotes the projection of its value.
Longer paths follow by iteration (`projPath` is the iteration of `proj1`).

Excluded shape: expressions that only exist after static resolution — references carrying
fork indices (`RefExp.Forks`), `MergeExp`, `DisabledExp` and nested `SplitExp`; those are covered
by `bindingPath_sound_forks` (resolved expressions).
-/
theorem bindingPath_sound_partial (st : StructTable) (env : Env) (f : String) (e : Exp) (t : Ty)
    (h : wt st env t e = true) :
    eval st env (bindingPath1 f e) = proj1 t f (eval st env e) :=
  bp_sound st env f e t h

/-- Static projection on RESOLVED expressions (the output of the static phase:
references evaluated against a fork assignment, `split` = the element of the
current fork of a mapped call, `merge` = the collection over all forks of a
mapped call, array and typed-map mode): `bpR` pushes the projection inside
`split` and `merge` (`SplitExp.BindingPath`, `MergeExp.BindingPath`) and the
result denotes the projection of the value, for every fork assignment.
`DisabledExp` and `fork` annotations are covered too (`RExp.disabled`, `RExp.fork`).  This is a
law of the UNTYPED evaluation `evalR`; the typed evaluation `evalRT` used by the refinement is
`narrow ∘ evalR` on well-typed expressions (`runtime_typed_is_narrowed_untyped`), and its typed
form is `static_projection_typed`.  The static CHOICE of the `ForkNode` of a run-time merge is
modelled and tied (`mergeForkNode`); its run-time USE (mergePartCall / mergeMatchFork / getParts,
where F14 / F32 / F33 live) is abstracted to the recorded index sets `ρ.idx`, which are a free
component of the store in THIS law (the refinement theorems take them from the run: `storeOfRun`,
`idxOkTList`). -/
theorem bindingPath_sound_forks (st : StructTable) (ρ : Store) (fld : String) (e : RExp) (t : Ty)
    (f : ForkAssign) (h : wtR st t e = true) :
    evalR st ρ f (bpR fld e) = proj1 t fld (evalR st ρ f e) :=
  bpR_sound st ρ fld e t f h

/-- `split` over a call of a `merge` over the same call cancels: inside fork `k`
the `k`-th element of the collection of per-fork values is the value of fork `k`
(array mode; `n` forks). -/
theorem split_merge_cancel (st : StructTable) (ρ : Store) (f : ForkAssign) (c : String)
    (e : RExp) (n k : Nat) (hk : k < n)
    (hidx : ρ.idx c (fset f c (.i k)) = (List.range n).map .i) :
    evalR st ρ (fset f c (.i k)) (.split c false (.merge c false e))
      = evalR st ρ (fset f c (.i k)) e :=
  split_merge_cancel_arr st ρ f c e n k hk hidx

/-- … and for a call mapped over a typed map with distinct keys. -/
theorem split_merge_cancel_keys (st : StructTable) (ρ : Store) (f : ForkAssign) (c : String)
    (e : RExp) (keys : List String) (s : String) (hs : s ∈ keys) (hn : keys.Nodup)
    (hidx : ρ.idx c (fset f c (.k s)) = keys.map .k) :
    evalR st ρ (fset f c (.k s)) (.split c true (.merge c true e))
      = evalR st ρ (fset f c (.k s)) e :=
  split_merge_cancel_map st ρ f c e keys s hs hn hidx

/-- `DisabledExp` in the resolved-expression language: `makeDisabledExp(d, v)` denotes
"null if the control `d` is true, else the value `v`" for every fork assignment
(a null value stays null, a constant control is decided statically, any other
control wraps the value). -/
theorem makeDisabled_sound (st : StructTable) (ρ : Store) (f : ForkAssign) (d v : RExp) :
    evalR st ρ f (mkDisabled d v)
      = if Martian.Dataflow.isTrue (evalR st ρ f d) then .null else evalR st ρ f v :=
  evalR_mkDisabled st ρ f d v

/-- nesting two wrappers on the same control changes nothing (the Go code's
pointer-equality shortcut "already disabled on the same control, no need to nest"). -/
theorem disabled_idem (st : StructTable) (ρ : Store) (f : ForkAssign) (d v : RExp) :
    evalR st ρ f (.disabled d (.disabled d v)) = evalR st ρ f (.disabled d v) := by
  simp only [evalR]
  split <;> simp_all

/-- `split` of a `merge` of a conditionally disabled value cancels like any other
(`split_merge_cancel` is stated for every `RExp`, so also for `DisabledExp`), and the
wrapper can be moved out of the pair. -/
theorem split_merge_cancel_disabled (st : StructTable) (ρ : Store) (f : ForkAssign) (c : String)
    (d e : RExp) (n k : Nat) (hk : k < n)
    (hidx : ρ.idx c (fset f c (.i k)) = (List.range n).map .i) :
    evalR st ρ (fset f c (.i k)) (.split c false (.merge c false (.disabled d e)))
      = evalR st ρ (fset f c (.i k)) (.disabled d (.split c false (.merge c false e))) := by
  rw [split_merge_cancel_arr st ρ f c (.disabled d e) n k hk hidx]
  simp only [evalR]
  split
  · rfl
  · have := split_merge_cancel_arr st ρ f c e n k hk hidx
    simp only [evalR] at this
    exact this.symm

/-- non-vacuity of `bindingPath_sound_forks` on a `DisabledExp`: the projection is pushed
inside the wrapper, and the wrapped expression is well shaped -/
example :
    wtR [("R", [⟨"r", ⟨"int", 0, 0⟩⟩])] ⟨"R", 0, 1⟩
      (.disabled (.ref "FLAG" ⟨"FLAG", 0, 0⟩ ["on"])
        (.merge "INNER" false (.struct [("r", .ref "INNER.W" ⟨"W", 0, 0⟩ ["y"])]))) = true
    ∧ bpR "r" (.disabled (.ref "FLAG" ⟨"FLAG", 0, 0⟩ ["on"]) (.ref "GEN" ⟨"GEN", 0, 0⟩ ["o"]))
      = .disabled (.ref "FLAG" ⟨"FLAG", 0, 0⟩ ["on"]) (.ref "GEN" ⟨"GEN", 0, 0⟩ ["o", "r"]) := by
  constructor
  · decide
  · simp [bpR, mkDisabled]

/-- non-vacuity: a merge over `INNER` of a struct of references to a node inside it, projected by
a member, is a merge of the projected reference -/
example :
    wtR [("R", [⟨"r", ⟨"int", 0, 0⟩⟩])] ⟨"R", 0, 1⟩
      (.merge "INNER" false (.struct [("r", .ref "INNER.W" ⟨"W", 0, 0⟩ ["y"])])) = true ∧
    bpR "r" (.merge "INNER" false (.struct [("r", .ref "INNER.W" ⟨"W", 0, 0⟩ ["y"])]))
      = .merge "INNER" false (.ref "INNER.W" ⟨"W", 0, 0⟩ ["y"]) := by
  constructor
  · decide
  · simp [bpR, mkMerge]

/-- `MergeExp.BindingPath` on the A.1 shape (a mapped pipeline that returns its split input):
"merging the elements of a collection which was split over the very same call gives back the
collection" — the projection of the merge is the split SOURCE, not a merge (`mkMerge`).  Such a
merge is excluded from `wtR` (the shape discipline of `bindingPath_sound_forks`): the
cancellation is sound exactly for the stores in which the index set of the call is that of the
collection and the collection does not vary with the call's fork: -/
theorem merge_split_cancel_sound (st : StructTable) (ρ : Store) (f : ForkAssign) (c : String) (v : RExp)
    (xs : List J) (hv : evalR st ρ f v = .arr xs)
    (hind : ∀ k, k < xs.length → evalR st ρ (fset f c (.i k)) v = .arr xs)
    (hidx : ρ.idx c f = (List.range xs.length).map .i) :
    evalR st ρ f (.merge c false (.split c false v)) = evalR st ρ f v :=
  merge_split_cancel_arr st ρ f c v xs hv hind hidx

example :
    bpR "r" (.merge "INNER" false (.struct [("r", .split "INNER" false (.ref "GEN" ⟨"GEN", 0, 0⟩ ["xs"]))]))
      = .ref "GEN" ⟨"GEN", 0, 0⟩ ["xs"] ∧
    -- … but not when the collection itself is an element of an enclosing split
    bpR "r" (.merge "INNER" false (.struct [("r", .split "INNER" false
        (.split "OUTER" false (.ref "GEN" ⟨"GEN", 0, 0⟩ ["xss"])))]))
      = .merge "INNER" false (.split "INNER" false (.split "OUTER" false (.ref "GEN" ⟨"GEN", 0, 0⟩ ["xss"]))) := by
  constructor <;> simp [bpR, mkMerge, hasSplitR]

/-- Fork-index substitution on a split literal: the expression selected for fork
`ix` denotes the `ix`-th element of the collection the literal denotes. -/
theorem split_literal_sound (st : StructTable) (env : Env) (xs : List Exp)
    (kvs : List (String × Exp)) (n : Nat) (k : String) :
    eval st env (selectFork (.i n) (.arr xs)) = elemAt (eval st env (.arr xs)) (.i n) ∧
    eval st env (selectFork (.k k) (.map kvs)) = elemAt (eval st env (.map kvs)) (.k k) := by
  constructor
  · simp only [selectFork, eval, elemAt]
    exact (evalList_getD st env xs n).symm
  · simp only [selectFork, eval, elemAt, J.field, lookup_evalFields]
    cases kvs.lookup k <;> simp [eval]

/-! ## meta-theorems about the specification -/

/-- Instance `ix` of a mapped call receives exactly the argument record the
unmapped call would receive with the `ix`-th element of every split collection. -/
theorem den_map_pointwise (st : StructTable) (nf : Nat) (env : Env) (ins : List Param) (c : Call)
    (ix : Idx) :
    mkArgs st nf (argVals st env ins c) (some ix)
      = mkArgs st nf (argVals st env ins (atIndex st env c ix)) none := by
  simp only [mkArgs, argVals, atIndex, List.map_map, J.obj.injEq]
  apply List.map_congr_left
  intro p _
  simp only [Function.comp_apply, List.find?_map]
  have hf : ((fun b : Bind => b.param == p.name) ∘ fun b : Bind =>
      if b.split then (⟨b.param, false, .lit (elemAt (eval st env b.exp) ix)⟩ : Bind) else b)
      = fun b : Bind => b.param == p.name := by
    funext b
    simp only [Function.comp_apply]
    split <;> rfl
  rw [hf]
  cases List.find? (fun b : Bind => b.param == p.name) c.binds with
  | none => simp
  | some b =>
    cases hs : b.split <;> simp [hs, eval]

/-- Renaming call ids inside a pipeline body changes nothing but the ids — UP TO THE RENAMING OF
THE INSTANCE KEYS (den's callee denotation puts the call path, and for a mapped call
the call id of its fork entry, into every instance key, so the instances below a renamed call
move).  `swapCall a b` exchanges the ids `a` and `b` consistently (in the call statements and in
every reference of every binding / `disabled` expression; a transposition, so no freshness
condition is needed — renaming `a` to a fresh `b` is the special case where `b` does not occur).
If the callees' denotations are related accordingly (`RunnerRelK`: on the renamed path / fork
entry they answer the same VALUE as the original ones on the original path, and the same
instances with every key renamed by `renKey` — satisfied by den's own callee denotation with the
re-keyed oracle: `den_alias_runner`), then evaluating the renamed body yields the same environment
up to the renaming of its keys — the same type and value for every call —, the same stage
instances with the same argument records each under its renamed key, and every renamed return
expression denotes the same value. -/
theorem den_alias (st : StructTable) (nf : Nat) (insOf : String → List Param) (a b : String)
    (run run' : Runner) (path : List String) (forks : List (String × Idx)) (mf : String → Bool)
    (hrel : RunnerRelK a b path forks mf run run') (cs : List Call) (env : Env) (acc : List Inst)
    (hmf : ∀ c ∈ cs, mf c.id = c.mapped) :
    evalCalls st nf insOf run' path forks (cs.map (swapCall a b)) (swapEnv a b env)
        (acc.map (renInst a b path.length forks.length mf))
      = (swapEnv a b (evalCalls st nf insOf run path forks cs env acc).1,
         (evalCalls st nf insOf run path forks cs env acc).2.map (renInst a b path.length forks.length mf))
    ∧ ∀ e : Exp,
        eval st (swapEnv a b (evalCalls st nf insOf run path forks cs env acc).1) (swapExp a b e)
          = eval st (evalCalls st nf insOf run path forks cs env acc).1 e :=
  ⟨evalCalls_swapK st nf insOf a b run run' path forks mf hrel cs env acc hmf,
   fun e => eval_swap st a b _ e⟩

/-- The hypothesis of `den_alias` holds for den's OWN callee denotation, for every program (stage
callees included: the renamed key is where the recorded outs are looked up): `runCallable P O`
against `runCallable P (O ∘ renKey)`. -/
theorem den_alias_runner (P : Program) (O : Oracle) (nf fuel : Nat) (a b : String)
    (path : List String) (forks : List (String × Idx)) (mf : String → Bool) :
    RunnerRelK a b path forks mf (runCallable P O nf fuel)
      (runCallable P (fun k => O (renKey a b path.length forks.length (fun y => mf (swapId a b y)) k)) nf fuel) :=
  runnerRelK_runCallable P O nf fuel a b path forks mf

/--
PARTIAL (whole-program `den_alias`, for the body of the TOP-LEVEL pipeline).  Swapping the call
ids `a` and `b` in the body of the top-level pipeline (`swapTop`) and looking the recorded stage
outputs up under the renamed keys (`O ∘ renKey`: path component at depth 1, and the fork entry of
the renamed call when it is a map call) yields the same top-level outputs and exactly the stage
instances of the original program with the same argument records, each under its renamed key.
Hypotheses (decidable): the top callable is a pipeline whose call ids are distinct, and no
callable calls the top-level pipeline.

Full statement NOT proved: the same for the body of ANY pipeline of the program (a pipeline that is
instantiated at several call paths needs the renaming of keys at every one of them: `renKey`
along a walk of the program; `den_alias` + `den_alias_runner` are the per-instantiation step).
-/
theorem den_alias_top_partial (a b : String) (P : Program) (O : Oracle)
    (pins outs : List Param) (calls : List Call) (ret : List (String × Exp))
    (htop : P.callables.lookup P.top.callee = some (.pipeline pins outs calls ret))
    (hids : (calls.map (·.id)).Nodup) (hnocall : noCallToTopB P = true) :
    den (swapTop a b P) (fun k => O (renKey a b 1 0 (fun y => mappedOf calls (swapId a b y)) k))
      = renRes a b 1 0 (mappedOf calls) (den P O) :=
  den_alias_top a b P O pins outs calls ret htop hids (noCallToTopB_sound P hnocall)

/-- non-vacuity on a program with STAGE callees (plain and mapped): the example program `exMap`
(GEN, a map call W of WORK over three elements, USE): hypotheses hold … -/
example : exMap.callables.lookup exMap.top.callee =
      some (.pipeline [⟨"v", xInt⟩] [⟨"ys", ⟨"int", 0, 1⟩⟩, ⟨"r", xInt⟩]
        (match exMap.callables.lookup "TOP" with | some (.pipeline _ _ cs _) => cs | _ => [])
        (match exMap.callables.lookup "TOP" with | some (.pipeline _ _ _ r) => r | _ => []))
    ∧ noCallToTopB exMap = true := ⟨rfl, by decide +kernel⟩

/-- … and the keys really move: after swapping `GEN` and `W` the instance that was
`TOP.W[W=1]` is `TOP.GEN[GEN=1]` (path component AND fork entry renamed), the plain stage
`TOP.GEN` is `TOP.W`, with the same argument records -/
example :
    let calls := match exMap.callables.lookup "TOP" with | some (.pipeline _ _ cs _) => cs | _ => []
    let O' : Oracle := fun k => exMapOracle (renKey "GEN" "W" 1 0 (fun y => mappedOf calls (swapId "GEN" "W" y)) k)
    (den (swapTop "GEN" "W" exMap) O').2.map (·.key)
      = [⟨["TOP", "W"], []⟩, ⟨["TOP", "GEN"], [("GEN", .i 0)]⟩, ⟨["TOP", "GEN"], [("GEN", .i 1)]⟩,
         ⟨["TOP", "GEN"], [("GEN", .i 2)]⟩, ⟨["TOP", "USE"], []⟩]
    ∧ ((den (swapTop "GEN" "W" exMap) O').2.zip (den exMap exMapOracle).2).all
        (fun p => p.1.args.matches p.2.args) = true
    ∧ (den (swapTop "GEN" "W" exMap) O').1.matches (den exMap exMapOracle).1 = true := by decide +kernel

example : swapCall "A" "B" (exAliasCall "A" "A") = exAliasCall "B" "B" := by
  simp [swapCall, swapExp, swapId, exAliasCall]

/-! ## non-vacuity: a concrete nested mapped program (DESIGN Appendix A.1, the F14 shape) -/

/-- the denotation is `r = [[1,1,1],[2,2,2]]` (two rows, not six), with 1 + 2×3 stage instances -/
example :
    (den exProg exOracle).1.matches
      (.obj [("r", .arr [.arr [.atom "1", .atom "1", .atom "1"], .arr [.atom "2", .atom "2", .atom "2"]])])
      = true ∧ (den exProg exOracle).2.length = 7 := by decide +kernel

/-- the instance (outer index 1, inner index 2) receives `what = 2, k = 30` -/
example :
    ((den exProg exOracle).2.find? fun i =>
        i.key == ⟨["TOP", "INNER", "ECHO"], [("INNER", .i 1), ("ECHO", .i 2)]⟩).map
      (fun i => i.args.matches (.obj [("what", .atom "2"), ("k", .atom "30")])) = some true := by decide +kernel

/-- hypotheses of `den_schedule_free` are satisfiable: two different completion orders -/
example :
    let h1 : List (InstKey × J) := [(⟨["TOP", "GEN"], []⟩, .null), (⟨["TOP", "X"], []⟩, .atom "1")]
    let h2 : List (InstKey × J) := [(⟨["TOP", "X"], []⟩, .atom "1"), (⟨["TOP", "GEN"], []⟩, .null)]
    h1.Perm h2 ∧ (h1.map (·.1)).Nodup ∧ h1 ≠ h2 := by
  refine ⟨List.Perm.swap _ _ _, by decide +kernel, by simp⟩

/-- hypotheses of `filter_narrow` / `den_disabled_null` / `den_map_collects` /
`den_empty_map_null` / `den_inline_partial` are satisfiable on the example program -/
example : StructsOk exProg.table := by
  intro name ps h
  simp only [Program.table, exProg, List.nil_append, List.map_cons, List.map_nil, Callable.outs] at h
  simp only [List.lookup_cons, List.lookup_nil] at h
  repeat (first | (split at h <;> first | (cases h; decide) | skip) | cases h)

example : Martian.Dataflow.isTrue (eval [] ⟨[], .null, []⟩ (.lit (.atom "true"))) = true := by decide +kernel

example :
    let env : Env := ⟨[⟨"v", tInt⟩], .obj [("v", .atom "1")], []⟩
    let c : Call := { id := "ECHO", callee := "ECHO", mapped := true,
                      binds := [⟨"what", false, .self "v" []⟩,
                                ⟨"k", true, .arr [.lit (.atom "10"), .lit (.atom "20")]⟩],
                      disabled := none }
    (callIndices [] env c).isEmpty = false ∧ splitsAgree [] env c = true ∧
    (callIndices [] env { c with binds := [⟨"k", true, .arr []⟩] }).isEmpty = true := by decide +kernel

example : exProg.callables.lookup "INNER" =
    some (.pipeline [⟨"v", tInt⟩] [⟨"r", tInts⟩]
          [ { id := "ECHO", callee := "ECHO", mapped := true,
              binds := [⟨"what", false, .self "v" []⟩,
                        ⟨"k", true, .arr [.lit (.atom "10"), .lit (.atom "20"), .lit (.atom "30")]⟩],
              disabled := none } ]
          [("r", .ref "ECHO" ["result"])]) := by rfl

/-- struct narrowing really drops a field: WIDE → PAIR -/
example :
    (narrow [("PAIR", [⟨"a", tInt⟩, ⟨"b", ⟨"string", 0, 0⟩⟩])] 3 ⟨"PAIR", 0, 1⟩
      (.arr [.obj [("a", .atom "1"), ("b", .atom "\"x\""), ("c", .atom "1.5")]])).matches
      (.arr [.obj [("a", .atom "1"), ("b", .atom "\"x\"")]]) = true := by decide +kernel

/-- `bindingPath_sound_partial`: a well-shaped expression mixing all literal kinds and a reference -/
example :
    wt [("PAIR", [⟨"a", tInt⟩])] ⟨[⟨"x", ⟨"PAIR", 1, 0⟩⟩], .null, []⟩ ⟨"PAIR", 1, 1⟩
      (.arr [.map [("k", .struct [("a", .lit (.atom "1"))])], .self "x" [], .lit .null]) = true := by decide +kernel

/-- chunk-def arguments override bindings -/
example : (chunkMerge [("x", .atom "1"), ("ci", .null)] [("ci", .atom "5")]).lookup "ci" = some (.atom "5")
    ∧ (chunkMerge [("x", .atom "1"), ("ci", .null)] [("ci", .atom "5")]).lookup "x" = some (.atom "1") := by
  constructor <;> rfl

/-! ## the two-phase resolver refines den (model of martian/syntax resolve_* + martian/core/resolve.go) -/

/-- Narrowing composes across boundaries: narrowing a value to `t` (at a sub-pipeline
boundary) and then to an assignable `t'` (at the stage parameter) is narrowing to `t'`.
`NarrowFix`: the fuel of `narrow` is enough for the struct table (`narrowFix_acyclic`). -/
theorem narrow_compose (st : StructTable) (hst : StructsOk st) (F : Nat) (hF : NarrowFix st F)
    (t t' : Ty) (h : Sub st t t') (v : J) :
    narrow st F t' (narrow st F t v) = narrow st F t' v :=
  narrow_narrow hst hF h v

/-- Projection commutes with narrowing: a member of a narrowed value is the narrowed member. -/
theorem project_narrow_commute (st : StructTable) (F : Nat) (hF : NarrowFix st F) (t : Ty) (f : String)
    (ft : Ty) (h : fieldTy st t.base f = some ft) (hm : t.mapDim ≠ 0 → ft.mapDim = 0) (v : J) :
    proj1 t f (narrow st F t v) = narrow st F (projTy1 st t f) (proj1 t f v) :=
  proj1_narrow hF t f ft h hm v

/-- `Program.nfuel` is enough fuel for every acyclic struct table (decidable check). -/
theorem narrowFix_acyclic (P : Program) (h : acyclicB P.table = true) : NarrowFix P.table P.nfuel :=
  narrowFix_of_acyclicB P.table h

/-- The static struct filter of literals (`Exp.filter`) is invisible to the type-directed
run-time evaluation (`TopNode.resolve`), and keeps the expression well typed.  Domain of the
three typed laws (`HasTyR`): literals (incl. reference-free JSON literals at an untyped map),
array / typed-map / struct literals, references, `fork` annotations, `DisabledExp`, `split` nodes
in array and typed-map mode (typed-map mode: the element type has no typed map below,
`NoMapBelow`), `merge` nodes in both modes whose value does not contain the call's own split (the
cancelling shape of `mkMerge`: for it only `merge_split_cancel_sound` holds). -/
theorem static_filter_invisible (st : StructTable) (hst : StructsOk st) (nf : Nat) (ρ : Store)
    (f : ForkAssign) (r : RExp) (t : Ty) (h : HasTyR st t r) :
    evalRT st nf ρ f t (filterR st t r) = evalRT st nf ρ f t r ∧ HasTyR st t (filterR st t r) :=
  evalRT_filterR st hst nf ρ f r t h

/-- Evaluating a resolved expression at run time at type `t` and narrowing the result to an
assignable `t'` is evaluating it at `t'` (what lets a resolved expression cross a
sub-pipeline boundary un-narrowed). -/
theorem runtime_narrow_assignable (st : StructTable) (hst : StructsOk st) (F : Nat) (hF : NarrowFix st F)
    (ρ : Store) (f : ForkAssign) (r : RExp) (t t' : Ty) (h : HasTyR st t r) (hs : Sub st t t') :
    narrow st F t' (evalRT st F ρ f t r) = evalRT st F ρ f t' r ∧ HasTyR st t' r :=
  narrow_evalRT st hst F hF ρ r t t' f h hs

/-- Static projection along a whole path (`BindingPath`) commutes with the TYPED run-time
evaluation, the types moving along (`bindingPath_sound_forks` is the untyped law). -/
theorem static_projection_typed (st : StructTable) (hst : StructsOk st) (F : Nat) (hF : NarrowFix st F)
    (ρ : Store) (f : ForkAssign) (path : List String) (r : RExp) (t : Ty) (h : HasTyR st t r)
    (hp : PathOk st t path) :
    projPath st t path (evalRT st F ρ f t r) = evalRT st F ρ f (pathTy st t path) (bpPath path r) ∧
    HasTyR st (pathTy st t path) (bpPath path r) :=
  projPath_evalRT st hst F hF ρ f path r t h hp

/-- One binding: for a source expression typed in an environment whose entries are related
to the static environment (in every fork assignment of `Fs`), den's (narrowed) value is the
run-time evaluation, in any such fork assignment, of what `resolveExp` (= `resolveRefs`,
then `filter`) produces. -/
theorem resolveExp_refines_eval (st : StructTable) (hst : StructsOk st) (F : Nat) (hF : NarrowFix st F)
    (ρ : Store) (Fs : ForkAssign → Prop) (env : Env) (self sib : RBMap)
    (hrel : EnvRel st F ρ Fs env self sib) (f : ForkAssign) (hf : Fs f) (e : Exp) (t : Ty)
    (h : HasTy st env.selfTy env.callTy t e) :
    narrow st F t (eval st env e) = evalRT st F ρ f t (filterR st t (resolveRefs self sib e)) :=
  (eval_resolveExp st hst F hF ρ Fs env self sib hrel f hf e t h).1

/--
PARTIAL (the refinement, for the plain fragment).  For every well-typed PLAIN program
(`WellTyped`: no map call, no `disabled` modifier; every binding / return
expression assignable to its parameter: literals of scalar type, array / typed-map
/ struct literals member-wise, references and projections through nested
sub-pipelines, struct narrowing `Sub`; aliases = call ids differ from callee names),
every struct table on which `narrow` has enough fuel, every naming `nm` of the
nodes and every store that holds the recorded outs under those names:
the STATIC phase (`staticProgram`: the resolved inputs of every stage node and the
resolved outputs of the top node) followed by the RUN-TIME phase (`evalRT`:
type-directed evaluation over the recorded outs) yields exactly `den`: the same
top-level outputs, the same stage instances in the same order, each with the same
argument record.

About `StoreOf nm O ρ`: it quantifies over ALL call paths, so it demands that the oracle
does not distinguish two paths with the same name.  For an injective `nm` that is no restriction;
for the "."-join used by the examples and the driver it holds for oracles given by node NAME
(`exPlainOracleN`, full example below) but not for `exPlainOracle`, which distinguishes
["TOP","GEN"] from ["TOP.GEN"].  The node-wise hypothesis `StoreAtNode` of
`resolver_refines_den_staticmap_*` / `_mapstatic_*` / `_mappedpipes_*` (which cover plain programs
as well, are what the driver replays, and whose store `storeOfNodes` is proved to satisfy it) has no
such side effect.

Full statement (NOT proved): the same for every compiling program, `twoPhase`
extended by split / merge wrapping of map calls, fork matching and `DisabledExp`
wrapping, equality up to `dnull` ~ null / empty.  Excluded shapes: map calls
(statically or dynamically sized), `disabled`, a struct bound to an untyped `map`
parameter (den narrows at the boundary type, the code does not), ill-typed
programs.  For those the refinement is checked per run against the real code.
-/
theorem resolver_refines_den_plain_partial (P : Program) (nm : List String → String) (O : Oracle)
    (ρ : Store) (hw : WellTyped P) (hfix : NarrowFix P.table P.nfuel) (hρ : StoreOf nm O ρ) :
    den P O = twoPhase P nm ρ :=
  twoPhase_eq_den_F P hw P.nfuel hfix nm O ρ hρ

/-- The same with DECIDABLE hypotheses (the driver evaluates them on every generated
program: `C01.static`): the checks `wellTypedB` and `acyclicB` pass. -/
theorem resolver_refines_den_plain_checked_partial (P : Program) (nm : List String → String) (O : Oracle)
    (ρ : Store) (h1 : wellTypedB P = true) (h2 : acyclicB P.table = true) (hρ : StoreOf nm O ρ) :
    den P O = twoPhase P nm ρ :=
  twoPhase_eq_den_F P (wellTypedB_sound P h1) P.nfuel (narrowFix_of_acyclicB P.table h2) nm O ρ hρ

/--
PARTIAL (the refinement, with statically sized map calls).  The same for programs in which,
besides plain calls, STAGES are called by `map call` over ARRAY LITERALS (`WellTypedM`: every
split binding is an array literal, all of one non-zero length; elements may be constants,
pipeline inputs, upstream outputs, struct literals; no `disabled`, no mapped pipeline).  Static
phase: the split bindings become `split` nodes over the resolved literal, the node forks
over the call, the call's outputs are the unrolled merge (`MergeExp.BindingPath` with a known
length: the array of the node's reference read in fork 0, 1, …, written `fork`); run-time
phase: fork `k` of the node evaluates its inputs in the fork assignment `[(call, k)]`, the
consumers in the empty one.  The store is described node by node (`StoreAtNode`: the outs of
a node read in a fork assignment are those of the fork of THAT node the assignment selects);
the resolved expressions of an environment denote the same value in EVERY fork assignment
(`EnvRel … FsT`), which is the invariant of the induction.  Result: den's top-level outputs,
and den's stage instances — one per fork of every mapped stage, in den's order, each with its
argument record (split parameters: the `k`-th element, narrowed) — are exactly what the two
phases compute.

Still excluded (full statement in the comment of `resolver_refines_den_plain_partial`): split
sources that are not array literals in the source (typed-map literals; a literal handed down
as a pipeline input; references of run-time size: `merge` nodes stay), mapped pipelines,
nested map calls, `disabled`.  The static model and the per-run tie cover the first two of
these as well (`C01.static`), unproved.
-/
theorem resolver_refines_den_staticmap_partial (P : Program) (nm : List String → String) (O : Oracle)
    (ρ : Store) (hw : WellTypedM P) (hfix : NarrowFix P.table P.nfuel)
    (hρ : ∀ n ∈ (staticProgram P nm).2, StoreAtNode nm O ρ n) :
    den P O = twoPhaseM P nm ρ :=
  twoPhaseM_eq_den_F P hw P.nfuel hfix nm O ρ hρ

/-- … with DECIDABLE hypotheses and the store built from the oracle and the call graph: the
checks `wellTypedMB`, `acyclicB` pass and the node names are distinct. -/
theorem resolver_refines_den_staticmap_checked_partial (P : Program) (nm : List String → String) (O : Oracle)
    (h1 : wellTypedMB P = true) (h2 : acyclicB P.table = true)
    (h3 : ((staticProgram P nm).2.map fun n => nm n.path).Nodup) :
    den P O = twoPhaseM P nm (storeOfNodes nm (staticProgram P nm).2 O) :=
  twoPhaseM_eq_den_F P (wellTypedMB_sound P h1) P.nfuel (narrowFix_of_acyclicB P.table h2) nm O _
    (storeOfNodes_ok nm _ O h3)

/--
PARTIAL (the refinement, with every map call of a STAGE whose size is known after resolution).
Generalises `resolver_refines_den_staticmap_partial`: the split sources may be array OR
typed-map literals, written at the call OR handed down through pipeline inputs (`split
self.xs` where an enclosing call binds `xs` to a literal, possibly through several pipeline
boundaries, narrowed on the way).  The typing (`WellTypedG`) does not speak about sizes; that
every map call INSTANCE of the call graph has a statically known, non-zero size on which all
its split inputs agree is a decidable condition on the static phase itself (`staticProgramOk`:
what the compiler's `KnownLength` / `unifyMapSources` decide), and den's index set is recovered
from den's VALUE of the split source by inverting the narrowing.  In typed-map mode the
call's outputs are the typed map key ↦ the node's outputs read in fork `key`, fork `key` receives
the value at `key` of every split parameter.

Still excluded: mapped pipelines, nested map calls, split sources of run-time size (`merge` nodes
stay), a map call over the merged output of another map call, `disabled`.
-/
theorem resolver_refines_den_mapstatic_partial (P : Program) (nm : List String → String) (O : Oracle)
    (ρ : Store) (hw : WellTypedG P) (hfix : NarrowFix P.table P.nfuel)
    (hρ : ∀ n ∈ (staticProgram P nm).2, StoreAtNode nm O ρ n) (hok : staticProgramOk P nm = true) :
    den P O = twoPhaseM P nm ρ :=
  twoPhaseG_eq_den_F P hw P.nfuel hfix nm O ρ hρ hok

/-- … with DECIDABLE hypotheses and the store built from the oracle and the call graph. -/
theorem resolver_refines_den_mapstatic_checked_partial (P : Program) (nm : List String → String) (O : Oracle)
    (h1 : wellTypedGB P = true) (h2 : acyclicB P.table = true) (h3 : staticProgramOk P nm = true)
    (h4 : ((staticProgram P nm).2.map fun n => nm n.path).Nodup) :
    den P O = twoPhaseM P nm (storeOfNodes nm (staticProgram P nm).2 O) :=
  twoPhaseG_eq_den_F P (wellTypedGB_sound P h1) P.nfuel (narrowFix_of_acyclicB P.table h2) nm O _
    (storeOfNodes_ok nm _ O h4) h3

/-- Narrowing can be inverted on shapes: a value whose narrowing at an array type is an array IS an
array of that length (what recovers den's index set of a split source from the static literal). -/
theorem narrow_array_shape (st : StructTable) (F : Nat) (hF : NarrowFix st F) (b : String) (m a : Nat)
    (v : J) (ys : List J) (h : narrow st F ⟨b, m, a + 1⟩ v = .arr ys) :
    ∃ xs, v = .arr xs ∧ xs.length = ys.length :=
  narrow_arr_inv hF b m a v ys h

/-- … and at a typed-map type: a typed map with the same keys -/
theorem narrow_map_shape (st : StructTable) (F : Nat) (hF : NarrowFix st F) (b : String) (k : Nat)
    (v : J) (L : List (String × J)) (h : narrow st F ⟨b, k + 1, 0⟩ v = .obj L) :
    ∃ kvs, v = .obj kvs ∧ kvs.map (·.1) = L.map (·.1) :=
  narrow_obj_inv hF b k v L h

/-- non-vacuity: a pipeline called with array literals that it splits inside (`split self.xs`,
`split self.ps` narrowed WIDE → PAIR on the way) and a map call over a typed-map literal pass
all the checks … -/
example : wellTypedGB exMapG = true ∧ acyclicB exMapG.table = true ∧ staticProgramOk exMapG exNm = true ∧
    ((staticProgram exMapG exNm).2.map fun n => exNm n.path).Nodup := by decide +kernel

/-- … 1 + 2 + 2 + 1 instances; fork "kb" of `W2` receives `x = 3` (GEN's output), fork 1 of the
inner `WORK` the struct literal that came through the pipeline input -/
example :
    (twoPhaseM exMapG exNm exMapGStore).2.length = 6 ∧
    ((twoPhaseM exMapG exNm exMapGStore).2.find? fun i => i.key == ⟨["TOP", "W2"], [("W2", .k "kb")]⟩).map
      (fun i => (i.args.field "x").matches (.atom "3")) = some true ∧
    ((twoPhaseM exMapG exNm exMapGStore).2.find? fun i => i.key == ⟨["TOP", "IN", "WORK"], [("WORK", .i 1)]⟩).map
      (fun i => (i.args.field "p").matches (.obj [("a", .atom "2"), ("b", .atom "\"t\"")])) = some true := by
  decide +kernel

/--
PARTIAL (the refinement, with MAPPED PIPELINES and NESTED map calls).  Array-mode map calls of
stages AND of pipelines, nested to any depth, every size known after resolution (`treeOkList`:
decidable on the static phase; also: no call id repeats along a nesting chain).  The static
phase is tree shaped (`staticProgramT`): below a mapped call the split inputs reach the callee's
environment as `split` nodes (projected by `BindingPath`, filtered by `SplitExp.filter`, narrowed
at run time), the call's outputs are the callee's outputs SPECIALISED to every fork (`pushFork`
= `BindingPath` with a known fork index: references get the index, a `split` over the call
selects its element statically; `pushFork_evalRT`: that is evaluation in that fork).  The
run-time phase evaluates everything below mapped calls `c₁ … cₙ` in fork assignments that agree
with den's fork list `[(c₁,i₁) … (cₙ,iₙ)]` (two or more roots; the value does not depend on which:
`evalRT_congr`, the store reads an assignment through its lookups only).  Result: den's top-level
outputs and den's stage instances — for every mapped call, for each index in order, everything
below — each with its argument record.

Still excluded: typed-map mode below mapped pipelines (map calls of STAGES in typed-map mode are
in `resolver_refines_den_mapstatic_partial`), split sources of run-time size, a map call over the
merged output of another map call (lockstep roots), `disabled`.
-/
theorem resolver_refines_den_mappedpipes_partial (P : Program) (nm : List String → String) (O : Oracle)
    (ρ : Store) (hw : WellTypedT P) (hfix : NarrowFix P.table P.nfuel) (hext : StoreExt ρ)
    (hρ : ∀ n ∈ flattenTList [] (staticProgramT P nm).2, StoreAtNode nm O ρ n)
    (hok : treeOkList [] (staticProgramT P nm).2 = true) :
    den P O = twoPhaseT P nm ρ :=
  twoPhaseT_eq_den_F P hw P.nfuel hfix nm O ρ hext hρ hok

/-- … with DECIDABLE hypotheses and the store built from the oracle and the call graph. -/
theorem resolver_refines_den_mappedpipes_checked_partial (P : Program) (nm : List String → String) (O : Oracle)
    (h1 : wellTypedTB P = true) (h2 : acyclicB P.table = true)
    (h3 : treeOkList [] (staticProgramT P nm).2 = true)
    (h4 : ((flattenTList [] (staticProgramT P nm).2).map fun n => nm n.path).Nodup) :
    den P O = twoPhaseT P nm (storeOfNodes nm (flattenTList [] (staticProgramT P nm).2) O) :=
  twoPhaseT_eq_den_F P (wellTypedTB_sound P h1) P.nfuel (narrowFix_of_acyclicB P.table h2) nm O _
    (storeOfNodes_ext nm _ O) (storeOfNodes_ok nm _ O h4) h3

/-- Specialising a resolved expression to one fork of a mapped call (`BindingPath` with a known fork
index: array index `.i k` of an array-mode call, key `.k s` of a typed-map mode call) is evaluating
it in that fork — for every store that reads fork assignments through their lookups — and keeps it
well typed.  `hok` (`pushOk c m e`): the expression contains no merge over `c` itself (the outputs
of `c`'s callee never do: for such a merge the compiler returns the merged value of that fork
instead) and every split over `c` in it is in the mode `m` of the call (`HasTyR` admits `merge`
nodes and typed-map splits; on expressions without typed-map splits `pushOk c false` is
`noMergeOf c`). -/
theorem specialise_to_fork_sound (st : StructTable) (hst : StructsOk st) (F : Nat) (ρ : Store)
    (hρ : StoreExt ρ) (c : String) (ix : Idx) (m : Bool) (hix : IdxMode ix m) (e : RExp) (t : Ty)
    (f : ForkAssign) (h : HasTyR st t e) (hok : pushOk c m e = true) :
    evalRT st F ρ f t (pushFork c ix e) = evalRT st F ρ (fset f c ix) t e ∧
    HasTyR st t (pushFork c ix e) :=
  pushFork_evalRT st hst F ρ hρ c ix m hix e t f h hok

example : IdxMode (.i 2) false ∧ IdxMode (.k "a") true ∧ ¬ IdxMode (.k "a") false ∧ ¬ IdxMode .none true := by
  simp [IdxMode]

/-- The run-time phase depends on a fork assignment only through its lookups (the order in which
the roots were bound does not matter). -/
theorem runtime_fork_assignment_ext (st : StructTable) (F : Nat) (ρ : Store) (hρ : StoreExt ρ)
    (e : RExp) (t : Ty) (f g : ForkAssign) (h : FEq f g) :
    evalRT st F ρ f t e = evalRT st F ρ g t e :=
  evalRT_congr st F ρ hρ e t f g h

/-- non-vacuity: a pipeline mapped over an array literal of length 3 with a nested map call of
length 2 inside passes the checks … -/
example : wellTypedTB exPipe = true ∧ acyclicB exPipe.table = true ∧
    treeOkList [] (staticProgramT exPipe exNm).2 = true ∧
    ((flattenTList [] (staticProgramT exPipe exNm).2).map fun n => exNm n.path).Nodup := by decide +kernel

/-- … 1 + 3·(1 + 1 + 2) + 1 instances in den's order; the instance (outer 1, inner 0) of the nested
call receives the outer split value `x = 5`, `k` from the sibling stage of ITS outer fork -/
example :
    (twoPhaseT exPipe exNm exPipeStore).2.length = 14 ∧
    ((twoPhaseT exPipe exNm exPipeStore).2.find? fun i =>
        i.key == ⟨["TOP", "INNER", "W2"], [("INNER", .i 1), ("W2", .i 0)]⟩).map
      (fun i => i.args.matches (.obj [("x", .atom "5"), ("k", .atom "11")])) = some true := by decide +kernel

example (nodes : List SNode) (O : Oracle) : StoreExt (storeOfNodes exNm nodes O) := storeOfNodes_ext _ _ _

/-! ### run-time `disabled` controls: the refinement modulo the rendering of "no value"

den writes `dnull` for every output of a disabled call ("no value"); the property text lets an
implementation render it as null, an empty collection or a collection of nulls.  `e ≈ o`
(`J.approx e o`) says exactly that: `o` is `e` with every `dnull` replaced by such a value, and
everything else equal.  `≈` is a congruence for the value operations downstream of the disabled
call, it is equality on values without `dnull`, and the model of the code renders `dnull` as JSON
null (`J.erase`). -/

example : J.approx .dnull .null = true ∧ J.approx .dnull (.arr []) = true ∧ J.approx .dnull (.obj []) = true ∧
    J.approx .dnull (.arr [.null, .null]) = true ∧ J.approx .dnull (.obj [("a", .null)]) = true ∧
    J.approx .dnull (.atom "0") = false ∧ J.approx .dnull (.arr [.atom "0"]) = false ∧
    J.approx (.arr [.atom "1", .dnull]) (.arr [.atom "1", .arr []]) = true ∧
    J.approx (.arr [.atom "1", .dnull]) (.arr [.atom "2", .null]) = false ∧
    J.approx .null (.arr []) = false := by decide +kernel

theorem approx_refl (v : J) : J.approx v v = true := Proofs.Approx.approx_refl v

/-- rendering every `dnull` as JSON null is one of the allowed renderings -/
theorem approx_erase (v : J) : J.approx v (J.erase v) = true := Proofs.Approx.approx_erase v

/-- where den has a value (no `dnull` inside), `≈` leaves no freedom -/
theorem approx_is_eq_on_values (e o : J) (hc : J.clean e = true) (h : J.approx e o = true) : e = o :=
  Proofs.Approx.approx_clean e o hc h

/-- `≈` is a congruence for projection (one step at a type, through arrays and typed maps; a path) … -/
theorem approx_project (st : StructTable) (t : Ty) (path : List String) (e o : J)
    (h : J.approx e o = true) : J.approx (projPath st t path e) (projPath st t path o) = true :=
  (Proofs.Approx.cong_projPath st path t).2 e o h

/-- … for narrowing to a declared type … -/
theorem approx_narrow (st : StructTable) (F : Nat) (t : Ty) (e o : J) (h : J.approx e o = true) :
    J.approx (narrow st F t e) (narrow st F t o) = true :=
  (Proofs.Approx.cong_narrow st F t).2 e o h

/-- … for collection building (arrays, typed maps / structs: same keys, `≈` members) … -/
theorem approx_collect (ixs : List Idx) (g g' : Idx → J) (h : ∀ ix ∈ ixs, J.approx (g ix) (g' ix) = true) :
    J.approx (.arr (ixs.map g)) (.arr (ixs.map g')) = true ∧
    J.approx (.obj (ixs.map fun ix => (ix.keyText, g ix))) (.obj (ixs.map fun ix => (ix.keyText, g' ix))) = true := by
  simp only [J.approx]
  induction ixs with
  | nil => simp [J.approxList, J.approxFields]
  | cons ix ixs ih =>
    simp only [List.map_cons, J.approxList, J.approxFields, Bool.and_eq_true, beq_self_eq_true, true_and]
    have := ih fun i hi => h i (by simp [hi])
    exact ⟨⟨h ix (by simp), this.1⟩, h ix (by simp), this.2⟩

/-- … and hence for the evaluation of every binding expression in `≈` environments. -/
theorem approx_eval (st : StructTable) (env env' : Env) (h : Proofs.Approx.EnvApprox env env') (e : Exp) :
    J.approx (eval st env e) (eval st env' e) = true :=
  Proofs.Approx.approx_eval st env env' h e

/-- `≈` keeps "is null-like" (so a `disabled` control / an emptiness test downstream agrees) -/
theorem approx_nullish (e o : J) (h : J.approx e o = true) : o.nullish = e.nullish :=
  Proofs.Approx.approx_nullish e o h

/--
THE REFINEMENT WITH RUN-TIME `disabled` CONTROLS ON PLAIN CALLS, anywhere in a call graph with
mapped pipelines and nested map calls of statically known size (array mode): the model of the
code delivers den's top-level outputs and, for every stage instance of den in den's order (the
instances below a disabled call are absent on both sides), den's arguments — with every `dnull`
rendered as JSON null.

Additional hypotheses over `resolver_refines_den_mappedpipes_partial`: every literal of the
program is null or a scalar (`Exp.clean`; what the parser produces) and the recorded outputs are
JSON values.  NOT COVERED: `disabled` on a map call, a control that is itself an element of a split
collection; everything not covered by `resolver_refines_den_mappedpipes_partial`.
FULL STATEMENT aimed at: the same for every well-typed program.
-/
theorem resolver_refines_den_disabled_partial (P : Program) (nm : List String → String) (O : Oracle)
    (ρ : Store) (hw : WellTypedE P) (hfix : NarrowFix P.table P.nfuel) (hext : StoreExt ρ)
    (hO : OracleClean O)
    (hρ : ∀ n ∈ flattenTList [] (staticProgramT P nm).2, StoreAtNode nm O ρ n)
    (hok : treeOkList [] (staticProgramT P nm).2 = true) :
    eraseRun (den P O) = twoPhaseT P nm ρ :=
  twoPhaseE_eq_den_F P hw P.nfuel hfix nm O hO ρ hext hρ hok

/-- … with DECIDABLE hypotheses (`h5`: for an oracle given by a finite record, a check of every
recorded value) and the store built from the oracle and the call graph.  `h6` is not used by the
proof: it cuts the statement down to the DOMAIN on which the static model is the compiler's
— no control is an element of a split collection (there the compiler simplifies the
control, `resolveDisableExp`; the static model is not compared with it).  (A control
without a value counts as "not disabled" in den and in the model.  The code agrees for a null
SCALAR output — `Fork.disabled`: `json.Unmarshal` of the raw `null` into a bool leaves false — and
rejects at compile time a control bound to an output of a call that may itself be disabled.  It does
NOT agree for a control that is a member projected from a NULL STRUCT value (`disabled = S.s.flag`,
`S.s = null`): the compiler accepts, the fork fails "disabled is bound to a null value" — known
finding C01-F39 (fail-stop).  Such programs satisfy every hypothesis below: on
that shape this theorem is about the model only.  All observed on the real code: family
null-control.) -/
theorem resolver_refines_den_disabled_checked_partial (P : Program) (nm : List String → String) (O : Oracle)
    (h1 : wellTypedEB P = true) (h2 : acyclicB P.table = true)
    (h3 : treeOkList [] (staticProgramT P nm).2 = true)
    (h4 : ((flattenTList [] (staticProgramT P nm).2).map fun n => nm n.path).Nodup)
    (h5 : ∀ k v, O k = some v → J.clean v = true)
    (_h6 : ctlNoSplitList (staticProgramT P nm).2 = true) :
    eraseRun (den P O)
      = twoPhaseT P nm (storeOfNodes nm (flattenTList [] (staticProgramT P nm).2) O) :=
  twoPhaseE_eq_den_F P (wellTypedEB_sound P h1) P.nfuel (narrowFix_of_acyclicB P.table h2) nm O h5 _
    (storeOfNodes_ext nm _ O) (storeOfNodes_ok nm _ O h4) h3

/-- … stated with `≈`: the outputs are a rendering of den's, the instances are den's (same keys, same
order) and each receives a rendering of den's arguments. -/
theorem resolver_refines_den_disabled_approx_partial (P : Program) (nm : List String → String) (O : Oracle)
    (h1 : wellTypedEB P = true) (h2 : acyclicB P.table = true)
    (h3 : treeOkList [] (staticProgramT P nm).2 = true)
    (h4 : ((flattenTList [] (staticProgramT P nm).2).map fun n => nm n.path).Nodup)
    (h5 : ∀ k v, O k = some v → J.clean v = true)
    (h6 : ctlNoSplitList (staticProgramT P nm).2 = true) :
    let t := twoPhaseT P nm (storeOfNodes nm (flattenTList [] (staticProgramT P nm).2) O)
    J.approx (den P O).1 t.1 = true ∧ t.2.length = (den P O).2.length ∧
    ∀ p ∈ (den P O).2.zip t.2, p.2.key = p.1.key ∧ J.approx p.1.args p.2.args = true := by
  have h := resolver_refines_den_disabled_checked_partial P nm O h1 h2 h3 h4 h5 h6
  intro t
  have ht : t = (J.erase (den P O).1, (den P O).2.map eraseInst) := h.symm.trans rfl
  rw [ht]
  exact ⟨Proofs.Approx.approx_erase _, by simp, zip_map_eraseInst _⟩

/-- the recorded outputs of a finite history are JSON values if each recorded value is -/
theorem oracle_clean_of_history (h : List (InstKey × J)) (hc : h.all (fun e => J.clean e.2) = true) :
    ∀ k v, oracleOfHistory h k = some v → J.clean v = true := by
  intro k v hv
  simp only [oracleOfHistory, Option.map_eq_some_iff] at hv
  obtain ⟨e, he, rfl⟩ := hv
  exact List.all_eq_true.mp hc e (List.mem_of_find?_eq_some he)

/-- non-vacuity: a mapped pipeline whose body disables a call by a per-fork output of a sibling
stage passes the checks … -/
example : wellTypedEB exDis = true ∧ acyclicB exDis.table = true ∧
    treeOkList [] (staticProgramT exDis exNm).2 = true ∧
    ((flattenTList [] (staticProgramT exDis exNm).2).map fun n => exNm n.path).Nodup ∧
    noGuardList (staticProgramT exDis exNm).2 = false ∧
    ctlNoSplitList (staticProgramT exDis exNm).2 = true := by decide +kernel

/-- … den's outputs contain `dnull` (fork 1 of `q.a`), the model renders it as null; the disabled
instance is absent: 3 + 2 + 3 + 1 instances; the consumer inside fork 1 receives nulls -/
example :
    J.clean (den exDis exDisOracle).1 = false ∧
    (den exDis exDisOracle).1.approx (twoPhaseT exDis exNm exDisStore).1 = true ∧
    (twoPhaseT exDis exNm exDisStore).1.matches
      (.obj [("ys", .arr [.atom "40", .atom "41", .atom "42"]), ("qa", .arr [.atom "30", .null, .atom "32"]),
             ("r", .atom "99")]) = true ∧
    (twoPhaseT exDis exNm exDisStore).2.length = 9 ∧ (den exDis exDisOracle).2.length = 9 ∧
    ((twoPhaseT exDis exNm exDisStore).2.find? fun i =>
        i.key == ⟨["TOP", "INNER", "W2"], [("INNER", .i 1)]⟩).map
      (fun i => i.args.matches (.obj [("x", .null), ("p", .null)])) = some true := by decide +kernel

/-! ### map calls of run-time size -/

/--
THE REFINEMENT WITH MAP CALLS OF RUN-TIME SIZE AND WITH TYPED-MAP MODE: map calls whose
split sources are references (the size is known when the upstream stage has run) and map calls in
typed-map mode (over typed-map literals or typed-map references), of stages and pipelines, nested in
each other and in statically sized array-mode map calls, next to everything of
`resolver_refines_den_disabled_partial`, modulo `dnull ↦ null`.  The static phase resolves the
outputs of a run-time sized call to a `merge` node and the run-time phase enumerates its elements
from the index sets `ρ.idx` the run recorded.  GIVEN about those: `hidx` (decidable: checked along
the forks that exist) they are the index sets (lengths / key lists) of the collections the calls were
split over, and not empty; `hloc` they depend only on the forks of the mapped calls around the call.
Typing (`WellTypedR`): a map call is in array mode (`MappedOkT`) or in typed-map mode (`MappedOkK`:
the element types have no typed map below — a typed map of typed maps is not a type); later
bindings see `CALL` at the array / typed-map type of its mode (`callTyS`).

NOT COVERED: an empty / null source (den: `dnull` and optional instances); a callee that returns its
split input (the cancelling `merge` of `merge_split_cancel_sound`); a source that is an element of a
split over a STATICALLY sized call (the compiler then knows the size per fork); map calls in lockstep
over the merged output of another map call; `disabled` on a map call.
FULL STATEMENT aimed at: the same for every well-typed program.
-/
theorem resolver_refines_den_runtime_partial (P : Program) (nm : List String → String) (O : Oracle)
    (ρ : Store) (hw : WellTypedR P) (hfix : NarrowFix P.table P.nfuel) (hext : StoreExt ρ)
    (hO : OracleClean O)
    (hρ : ∀ n ∈ flattenTList [] (staticProgramT P nm).2, StoreAtNode nm O ρ n)
    (hok : treeOkPList [] (staticProgramT P nm).2 = true)
    (hidx : idxOkTList P.table P.nfuel ρ [] (staticProgramT P nm).2 = true)
    (hloc : ∀ o ∈ subROccList [] (staticProgramT P nm).2, IdxLocal ρ o.1 o.2.2) :
    eraseRun (den P O) = twoPhaseT P nm ρ :=
  twoPhaseR_eq_den_F P hw P.nfuel hfix nm O hO ρ hext ⟨hρ, hok, hidx, hloc⟩

/-- … with DECIDABLE hypotheses, for the store built from the recorded outs `O` and the recorded
index sets `I` of the run (`h6`: the run-time sized map calls have distinct call ids — the index sets
of the model's store and the fork assignments are keyed by call-id STRING, the code keys by call
statement: a pipeline with a run-time sized map call that is instantiated twice is outside).
`h8`, `h9` are not used by the proof: they cut the statement down to the domain on which
the static model is the compiler's — `h8` no run-time sized source is an element of a
split over a STATICALLY sized enclosing call (the compiler then unrolls per fork, `sourceForFork`),
`h9` no control is an element of a split collection. -/
theorem resolver_refines_den_runtime_checked_partial (P : Program) (nm : List String → String) (O : Oracle)
    (I : IdxRec)
    (h1 : wellTypedRB P = true) (h2 : acyclicB P.table = true)
    (h3 : treeOkPList [] (staticProgramT P nm).2 = true)
    (h4 : ((flattenTList [] (staticProgramT P nm).2).map fun n => nm n.path).Nodup)
    (h5 : ∀ k v, O k = some v → J.clean v = true)
    (h6 : ((subROccList [] (staticProgramT P nm).2).map (·.1)).Nodup)
    (h7 : idxOkTList P.table P.nfuel
      (storeOfRun nm (flattenTList [] (staticProgramT P nm).2) (subROccList [] (staticProgramT P nm).2) O I) []
      (staticProgramT P nm).2 = true)
    (_h8 : treeOkRList [] [] (staticProgramT P nm).2 = true)
    (_h9 : ctlNoSplitList (staticProgramT P nm).2 = true) :
    eraseRun (den P O)
      = twoPhaseT P nm
          (storeOfRun nm (flattenTList [] (staticProgramT P nm).2) (subROccList [] (staticProgramT P nm).2) O I) :=
  twoPhaseR_eq_den_F P (wellTypedRB_sound P h1) P.nfuel (narrowFix_of_acyclicB P.table h2) nm O h5 _
    (storeOfRun_ext nm _ _ O I)
    ⟨storeOfRun_ok nm _ _ O I h4, h3, h7, storeOfRun_local nm _ _ O I h6⟩

/-- the decidable condition on the element type of a typed-map mode map call -/
theorem no_map_below_checked (st : StructTable) (hst : StructsOk st) (n : Nat) (t : Ty)
    (h : noMapBelowB st n t = true) : NoMapBelow st t :=
  noMapBelowB_sound st hst n t h

/-- non-vacuity, typed-map mode: a pipeline mapped over the typed-map output of a stage (run-time key
set) with a nested map call over a typed-map literal passes the checks … -/
example : wellTypedRB exRunK = true ∧ wellTypedEB exRunK = false ∧ acyclicB exRunK.table = true ∧
    treeOkPList [] (staticProgramT exRunK exNm).2 = true ∧
    ((flattenTList [] (staticProgramT exRunK exNm).2).map fun n => exNm n.path).Nodup ∧
    ((subROccList [] (staticProgramT exRunK exNm).2).map (·.1)).Nodup ∧
    idxOkTList exRunK.table exRunK.nfuel exRunKStore [] (staticProgramT exRunK exNm).2 = true := by decide +kernel

/-- … 1 + 2·(1 + 2 + 1) instances; the outputs are typed maps over the recorded keys; the nested
instance (b, p) receives the split value of ITS outer fork -/
example :
    (twoPhaseT exRunK exNm exRunKStore).2.length = 9 ∧
    (twoPhaseT exRunK exNm exRunKStore).1.matches
      (.obj [("ys", .obj [("a", .atom "\"ya\""), ("b", .atom "\"yb\"")]),
             ("rs", .obj [("a", .atom "\"ra\""), ("b", .atom "\"rb\"")])]) = true ∧
    ((twoPhaseT exRunK exNm exRunKStore).2.find? fun i =>
        i.key == ⟨["TOP", "INNER", "W2"], [("INNER", .k "b"), ("W2", .k "p")]⟩).map
      (fun i => i.args.matches (.obj [("x", .atom "6"), ("k", .atom "\"yb\"")])) = some true := by decide +kernel

/-- the fragment of the statically sized theorems is inside this one: a call graph without run-time
sized calls needs nothing about index sets -/
theorem runtime_fragment_extends_static (st : StructTable) (nf : Nat) (ρ : Store) :
    ∀ (ts : List STree) (above : List String) (f : ForkAssign), treeOkList above ts = true →
      treeOkPList above ts = true ∧ idxOkTList st nf ρ f ts = true ∧ ∀ dims, subROccList dims ts = [] :=
  treeOk_implies_P st nf ρ

/-- non-vacuity: a pipeline mapped over the array output of a stage, with a nested map call over an
array output of a stage of its own fork, passes the checks for the recorded index sets … -/
example : wellTypedRB exRun = true ∧ acyclicB exRun.table = true ∧
    treeOkPList [] (staticProgramT exRun exNm).2 = true ∧
    treeOkList [] (staticProgramT exRun exNm).2 = false ∧
    ((flattenTList [] (staticProgramT exRun exNm).2).map fun n => exNm n.path).Nodup ∧
    ((subROccList [] (staticProgramT exRun exNm).2).map (·.1)).Nodup ∧
    idxOkTList exRun.table exRun.nfuel exRunStore [] (staticProgramT exRun exNm).2 = true ∧
    treeOkRList [] [] (staticProgramT exRun exNm).2 = true ∧
    ctlNoSplitList (staticProgramT exRun exNm).2 = true := by decide +kernel

/-- … 1 + 3·2 + (1 + 2 + 3) + 1 instances; the nested call's outputs arrive as a ragged array of arrays;
the second nested instance of fork 2 receives element 1 of `zs` of ITS fork and the split value of the
outer call -/
example :
    (twoPhaseT exRun exNm exRunStore).2.length = 14 ∧
    (twoPhaseT exRun exNm exRunStore).1.matches
      (.obj [("ys", .arr [.atom "10", .atom "11", .atom "12"]),
             ("yss", .arr [.arr [.atom "1000"], .arr [.atom "1010", .atom "1011"],
                           .arr [.atom "1020", .atom "1021", .atom "1022"]]),
             ("r", .atom "99")]) = true ∧
    ((twoPhaseT exRun exNm exRunStore).2.find? fun i =>
        i.key == ⟨["TOP", "INNER", "W2"], [("INNER", .i 2), ("W2", .i 1)]⟩).map
      (fun i => i.args.matches (.obj [("x", .atom "201"), ("k", .atom "7")])) = some true := by decide +kernel

/-- non-vacuity: a map call of a stage over two array literals of length 3 (constants, a pipeline
input, upstream outputs, a struct literal next to references that are narrowed WIDE → PAIR),
consumed whole, projected and narrowed, passes the checks; the node names are distinct -/
example : wellTypedMB exMap = true ∧ acyclicB exMap.table = true ∧
    ((staticProgram exMap exNm).2.map fun n => exNm n.path).Nodup := by decide +kernel

/-- … there are 1 + 3 + 1 stage instances, and fork 1 of `W` receives `x = 5` (the pipeline
input) and the struct literal narrowed to PAIR -/
example :
    (twoPhaseM exMap exNm exMapStore).2.length = 5 ∧
    ((twoPhaseM exMap exNm exMapStore).2.find? fun i => i.key == ⟨["TOP", "W"], [("W", .i 1)]⟩).map
      (fun i => i.args.matches (.obj [("x", .atom "5"), ("p", .obj [("a", .atom "1"), ("b", .atom "\"s\"")]),
        ("k", .atom "3")])) = some true := by decide +kernel

/-- FULL non-vacuity of `resolver_refines_den_plain_checked_partial`: all three hypotheses at once, for the
"."-join naming and the oracle given by node name -/
example : wellTypedB exPlain = true ∧ acyclicB exPlain.table = true ∧
    StoreOf exNm exPlainOracleN exPlainStoreN :=
  ⟨by decide +kernel, by decide +kernel, fun _ _ => rfl⟩

/-- … hence (by the theorem, no evaluation) den = the two phases on that oracle -/
example : den exPlain exPlainOracleN = twoPhase exPlain exNm exPlainStoreN :=
  resolver_refines_den_plain_checked_partial exPlain exNm exPlainOracleN exPlainStoreN (by decide +kernel) (by decide +kernel)
    (fun _ _ => rfl)

/-- non-vacuity: a nested, aliased program with struct narrowing WIDE → PAIR across the
pipeline boundary, projections through the boundary, struct / array literals mixing
references and constants passes both checks -/
example : wellTypedB exPlain = true ∧ acyclicB exPlain.table = true := by decide +kernel

/-- … its store holds the oracle's outs under the nodes' fully qualified ids … -/
example : ∀ f, exPlainStore.outs (exNm ["TOP", "GEN"]) f = (exPlainOracle ⟨["TOP", "GEN"], f⟩).getD .null :=
  fun _ => rfl

/-- … and the narrowing is real: GEN's recorded `w` has three members and an undeclared
output, the instance `TOP.INNER.USE` receives the two members of PAIR -/
example :
    ((twoPhase exPlain exNm exPlainStore).2.find? fun i => i.key == ⟨["TOP", "INNER", "USE"], []⟩).map
      (fun i => (i.args.field "p").matches (.obj [("a", .atom "1"), ("b", .atom "\"x\"")])) = some true := by
  decide +kernel

/-- hypotheses of `narrow_compose` / `runtime_narrow_assignable`: WIDE is assignable to PAIR -/
example : Sub exPlain.table ⟨"WIDE", 0, 1⟩ ⟨"PAIR", 0, 1⟩ := subB_sound _ 3 _ _ (by decide +kernel)

example : HasTyR exPlain.table ⟨"PAIR", 0, 0⟩ (.ref "TOP.GEN" ⟨"GEN", 0, 0⟩ ["w"]) := by
  simp only [HasTyR]
  exact subB_sound _ 3 _ _ (by decide +kernel)

example : PathOk exPlain.table ⟨"GEN", 0, 0⟩ ["ws", "b"] := pathOkB_sound _ _ _ (by decide +kernel)

/-- `doJoin`, with the READ of every chunk's `_outs` modelled (`none` = unreadable): the join is
launched only if every read succeeded, and then `_chunk_outs` holds exactly the chunks' outs,
complete and in chunk order; if some read fails the join is not launched (the fork fails) — the
readable outs that `doJoin` still writes are never delivered to a join.  (The per-run tie is the
fault stream of harness/c01.go: one chunk writes unreadable `_outs`; the driver's prediction
`C01.joinread` must agree with what happened.) -/
theorem join_complete_or_failed (reads : List (Option J)) :
    ((doJoinRead reads).2 = true →
      ∃ outs, reads = outs.map some ∧ (doJoinRead reads).1 = joinChunkOuts outs ∧
        ∀ i (h : i < outs.length), elemAt (doJoinRead reads).1 (.i i) = outs[i]) ∧
    ((∃ r ∈ reads, r = none) → (doJoinRead reads).2 = false) := by
  constructor
  · intro h
    simp only [doJoinRead, List.all_eq_true] at h
    refine ⟨reads.filterMap id, ?_, rfl, ?_⟩
    · induction reads with
      | nil => rfl
      | cons r rs ih =>
        have hr := h r (by simp)
        cases r with
        | none => simp at hr
        | some v =>
          simp only [List.filterMap_cons, id, List.map_cons, List.cons.injEq, true_and]
          exact ih fun x hx => h x (by simp [hx])
    · intro i hi
      simp [doJoinRead, elemAt, List.getD_eq_getElem?_getD, hi]
  · rintro ⟨r, hr, rfl⟩
    simp only [doJoinRead]
    cases hall : reads.all Option.isSome with
    | false => rfl
    | true =>
      simp only [List.all_eq_true] at hall
      have := hall none hr
      simp at this

/-- non-vacuity: three chunks, the middle one unreadable: not launched; all readable: the list -/
example : (doJoinRead [some (.atom "1"), none, some (.atom "3")]).2 = false ∧
    doJoinRead [some (.atom "1"), some (.atom "2")] = (.arr [.atom "1", .atom "2"], true) := ⟨rfl, rfl⟩

/-- The TYPED run-time evaluation (`evalRT`: what the refinement theorems and the driver use) is the
UNTYPED evaluation (`evalR`: what the split / merge / projection kernel laws are stated in)
followed by narrowing to the type — on every well-typed resolved expression (`HasTyR`: see
`static_filter_invisible`; split / merge in both modes and `DisabledExp` included). -/
theorem runtime_typed_is_narrowed_untyped (st : StructTable) (hst : StructsOk st) (F : Nat)
    (hF : NarrowFix st F) (ρ : Store) (r : RExp) (t : Ty) (f : ForkAssign) (h : HasTyR st t r) :
    evalRT st F ρ f t r = narrow st F t (evalR st ρ f r) :=
  evalRT_eq_narrow_evalR st hst F hF ρ r t f h

/-- non-vacuity of `split_merge_cancel` / `_keys`: a hand-made store whose merge index sets are
what the hypotheses ask for (the stores of the driver have none) -/
example : ∃ ρ : Store, ∀ f, ρ.idx "C" (fset f "C" (.i 1)) = (List.range 3).map .i :=
  ⟨⟨fun _ _ => .null, fun _ _ => (List.range 3).map .i⟩, fun _ => rfl⟩

example : ∃ ρ : Store, ∀ f, ρ.idx "C" (fset f "C" (.k "b")) = ["a", "b"].map .k ∧ ["a", "b"].Nodup :=
  ⟨⟨fun _ _ => .null, fun _ _ => ["a", "b"].map .k⟩, fun _ => ⟨rfl, by decide +kernel⟩⟩

/-- den does not depend on the call-depth fuel for programs whose call graph is acyclic
(`callGraphAcyclicB`: decidable, evaluated by the driver): more fuel than `Program.fuel` changes
nothing, so `den` is a specification and not an artefact of the cut-off.  (Recursive
programs — rejected by the compiler — pass `wellTypedB` and are excluded by this check.) -/
theorem den_fuel_independent_checked (P : Program) (O : Oracle) (h : callGraphAcyclicB P = true) (k : Nat) :
    runCallable P O P.nfuel (P.fuel + k) P.top.callee [P.top.id] [] P.topArgs = den P O :=
  den_fuel_independent P O _ (callRankOk_of_B P h).1 (callRankOk_of_B P h).2 k

example : callGraphAcyclicB exPlain = true ∧ callGraphAcyclicB exPipe = true := by decide +kernel

/-! ### towards the refinement modulo `≈` (empty / null run-time sources) -/

/--
PARTIAL: THE EXPRESSION STEP OF THE REFINEMENT MODULO `≈`.  If den's environment `env`
is `≈` an environment `env'` of the same types (`EnvApprox`: `env'` renders every `dnull` of `env`)
which the static environment refines EXACTLY (`EnvRel`), then for every well-typed binding
expression den's value, narrowed to the expected type, is `≈` the run-time evaluation of the
statically resolved expression — and so is the whole argument record of a call
(`args_approx_partial`).  This is the step the empty / null run-time source shape needs (den:
`dnull` and optional instances; code and model: the empty collection of the call's mode,
`merge_empty_renders_dnull`; the model lists the instances below such a call once, at "no element",
marked optional: `instsT_subR_empty`).

GAP to a refinement theorem for that shape: the induction `refine_calls_of_step` with `EnvRel` replaced
by "`EnvApprox env env'` for some `env'` with `EnvRel env'`" (after an empty map call the witness is
den's environment with that call's `dnull` replaced by the model's empty collection); agreement of
`indicesOf` / `isTrue` on `≈` values of the shapes that occur (`dnull` against the EMPTY collection
or null — for arbitrary null-like renderings the index sets differ); the arguments of the optional
instances (the model's `split` at "no element" is `dnull`, not null).
-/
theorem resolveExp_refines_eval_approx_partial (st : StructTable) (hst : StructsOk st) (F : Nat)
    (hF : NarrowFix st F) (ρ : Store) (Fs : ForkAssign → Prop) (env env' : Env) (self sib : RBMap)
    (hA : Proofs.Approx.EnvApprox env env') (hrel : EnvRel st F ρ Fs env' self sib) (f : ForkAssign)
    (hf : Fs f) (e : Exp) (t : Ty) (hty : HasTy st env.selfTy env.callTy t e) :
    J.approx (narrow st F t (eval st env e)) (evalRT st F ρ f t (resolveRefs self sib e)) = true :=
  (eval_resolveRefs_approx st hst F hF ρ Fs env env' self sib hA hrel f hf e t hty).1

/-- … the argument record of a call (plain, or fork `ix` of a map call) respects `≈` of the
environments: element selection (`elemAt`) is a congruence too. -/
theorem args_approx_partial (st : StructTable) (F : Nat) (env env' : Env)
    (h : Proofs.Approx.EnvApprox env env') (ins : List Param) (c : Call) (ix : Option Idx) :
    J.approx (mkArgs st F (argVals st env ins c) ix) (mkArgs st F (argVals st env' ins c) ix) = true :=
  approx_mkArgs st F env env' h ins c ix

/-- the model's value of a `merge` over an EMPTY recorded index set is the empty collection of its
mode — a rendering of den's `dnull` -/
theorem merge_empty_renders_dnull_partial (st : StructTable) (F : Nat) (ρ : Store) (f : ForkAssign) (t : Ty)
    (c : String) (m : Bool) (e : RExp) (h : ρ.idx c f = []) :
    evalRT st F ρ f t (.merge c m e) = (if m then .obj [] else .arr []) ∧
    J.approx .dnull (evalRT st F ρ f t (.merge c m e)) = true :=
  merge_empty_renders_dnull st F ρ f t c m e h

/-- non-vacuity: an environment whose call value is `dnull` against one that holds the empty array -/
example : Proofs.Approx.EnvApprox ⟨[], .null, [("C", ⟨"S", 0, 1⟩, .dnull)]⟩ ⟨[], .null, [("C", ⟨"S", 0, 1⟩, .arr [])]⟩ := by
  refine ⟨rfl, by decide +kernel, fun c => ?_, fun c => ?_⟩
  · simp only [Env.callTy, List.lookup_cons, List.lookup_nil]
    cases (c == "C") <;> rfl
  · simp only [Env.callVal, List.lookup_cons, List.lookup_nil]
    cases (c == "C") <;> decide

/-! ### the order of the stage instances below nested map calls -/

/-- The model enumerates the instances of a stage node below nested statically sized map calls
(`dims`: the calls with their index sets, outermost first) in den's order: for each index of the
outer call, everything below it (`denForks`: outermost call slowest). -/
theorem instances_in_den_order (st : StructTable) (F : Nat) (ρ : Store) (n : SNode)
    (dims : List (String × List Idx)) (forks : List (String × Idx)) (f : ForkAssign) :
    (instsT st F ρ forks f (chainT dims n)).map (·.key) =
      (denForks dims).map fun fk => ⟨n.path, forks ++ fk⟩ :=
  instsT_chain_keys st F ρ n dims forks f

/-- den's order against `ForkIdSet.MakeForkIds` (the cartesian product with the FIRST fork root
fastest: `prodFF`, which is C11's model `Martian.ForkName.makeForkIds` — `makeForkIds_is_prodFF`;
the tie of that model to the real `MakeForkIds` is C11's, on compiled nests): the
fork roots of a node are listed outermost first, so `MakeForkIds` varies the OUTERMOST call fastest
while den varies it slowest.  The two enumerations are the same list up to reversing the root list
and every fork id; "instances in den's order" is therefore NOT the order of the node's fork list
(nothing in the property depends on it: instances are compared by key). -/
theorem den_order_vs_makeForkIds (dims : List (String × List Idx)) :
    denForks dims
      = (prodFF ((dims.map fun d => d.2.map fun ix => (d.1, ix)).reverse)).map List.reverse := by
  rw [denForks_eq_prodFS, prodFS_eq_prodFF_reverse]

theorem makeForkIds_is_prodFF (srcs : List Martian.ForkName.Src) :
    Martian.ForkName.makeForkIds srcs = prodFF (srcs.map Martian.ForkName.srcParts) :=
  makeForkIds_eq_prodFF srcs

/-- two nested calls of sizes 2 and 3: den lists (0,0) (0,1) (0,2) (1,0) …, `MakeForkIds` for the
roots [INNER, W2] lists (0,0) (1,0) (0,1) (1,1) … -/
example :
    denForks [("INNER", [.i 0, .i 1]), ("W2", [.i 0, .i 1, .i 2])]
      = [[("INNER", .i 0), ("W2", .i 0)], [("INNER", .i 0), ("W2", .i 1)], [("INNER", .i 0), ("W2", .i 2)],
         [("INNER", .i 1), ("W2", .i 0)], [("INNER", .i 1), ("W2", .i 1)], [("INNER", .i 1), ("W2", .i 2)]] ∧
    prodFF [["I0", "I1"], ["W0", "W1", "W2"]]
      = [["I0", "W0"], ["I1", "W0"], ["I0", "W1"], ["I1", "W1"], ["I0", "W2"], ["I1", "W2"]] := by decide +kernel

/-! ### definitional unfoldings (documentation of the model, not guarantees) -/

/-
The theorems of this section restate one branch of a definition of the model (`evalCall`,
`runCallable`, `joinChunkOuts`, `resolvePath`) or hold by construction (`den` takes no schedule).
They document how the specification reads; the manifest does not cite them as guarantees about
the code.
-/

/-- `dnull ≈ o` iff `o` is null, or a collection of such values (in particular an empty one): the
first clause of the definition of `J.approx`. -/
theorem approx_dnull_iff (o : J) : J.approx .dnull o = o.nullish := Proofs.Approx.approx_dnull o

/-- The run-time formulation of projection (`LazyArgumentMap.Path` / `resolvePath`:
descend the value element by element) computes the specification's projection. -/
theorem resolver_path_refines (st : StructTable) (t : Ty) (path : List String) (v : J) :
    resolvePath st t path v = projPath st t path v :=
  resolvePath_eq st path t v

/-- `doJoin`: `_chunk_outs` holds every chunk's outs, complete and in chunk order. -/
theorem chunk_outs_in_order (outs : List J) (i : Nat) (h : i < outs.length) :
    elemAt (joinChunkOuts outs) (.i i) = outs[i] ∧
    indicesOf (joinChunkOuts outs) = (List.range outs.length).map .i := by
  simp [joinChunkOuts, elemAt, indicesOf, List.getD_eq_getElem?_getD, h]

/-- `den` does not depend on the order in which jobs finish: two histories that
record the same stage outputs in different completion orders give the same
arguments for every stage instance and the same pipeline outputs. -/
theorem den_schedule_free (P : Program) (h1 h2 : List (InstKey × J)) (hp : h1.Perm h2)
    (hn : (h1.map (·.1)).Nodup) :
    den P (oracleOfHistory h1) = den P (oracleOfHistory h2) := by
  have : oracleOfHistory h1 = oracleOfHistory h2 := by
    funext k
    simp only [oracleOfHistory]
    rw [find_perm h1 h2 hp hn k]
  rw [this]

/-- A disabled call runs nothing and every output of it is `dnull`. -/
theorem den_disabled_null (st : StructTable) (nf : Nat) (insOf : String → List Param) (run : Runner)
    (path : List String) (forks : List (String × Idx)) (env : Env) (c : Call) (e : Exp)
    (hd : c.disabled = some (false, e)) (ht : Martian.Dataflow.isTrue (eval st env e) = true) :
    evalCall st nf insOf run path forks env c = (liftTy c.callee (callMode st env c), .dnull, []) := by
  simp [evalCall, hd, ht]

/-- The mapped call as a whole: one run of the callee per index, outputs collected
in index order, instances concatenated in index order. -/
theorem den_map_collects (st : StructTable) (nf : Nat) (insOf : String → List Param) (run : Runner)
    (path : List String) (forks : List (String × Idx)) (env : Env) (c : Call)
    (hm : c.mapped = true) (hd : c.disabled = none) (hs : splitsAgree st env c = true)
    (hne : (callIndices st env c).isEmpty = false) :
    evalCall st nf insOf run path forks env c =
      (liftTy c.callee (callMode st env c),
       collect (callMode st env c) (callIndices st env c)
         ((callIndices st env c).map fun ix =>
           (run c.callee (path ++ [c.id]) (forks ++ [(c.id, ix)])
             (mkArgs st nf (argVals st env (insOf c.callee) (atIndex st env c ix)) none)).1),
       (callIndices st env c).flatMap fun ix =>
           (run c.callee (path ++ [c.id]) (forks ++ [(c.id, ix)])
             (mkArgs st nf (argVals st env (insOf c.callee) (atIndex st env c ix)) none)).2) := by
  have hnull : ∀ ix, Martian.Dataflow.isTrue (elemAt .null ix) = false := by
    intro ix; cases ix <;> rfl
  simp only [evalCall, hd, hm, hne, hs, Bool.not_true, Bool.false_eq_true, if_false, hnull,
    List.map_map, Function.comp_def, ← den_map_pointwise, List.flatMap_map]

/-- A mapped call over an empty (or null) collection: every output is `dnull`
and no instance below it is required to run. -/
theorem den_empty_map_null (st : StructTable) (nf : Nat) (insOf : String → List Param) (run : Runner)
    (path : List String) (forks : List (String × Idx)) (env : Env) (c : Call)
    (hm : c.mapped = true) (hd : c.disabled = none) (he : (callIndices st env c).isEmpty = true) :
    (evalCall st nf insOf run path forks env c).2.1 = .dnull ∧
    ∀ i ∈ (evalCall st nf insOf run path forks env c).2.2, i.optional = true := by
  simp only [evalCall, hd, hm, he, Bool.not_true, Bool.false_eq_true, if_false, if_true]
  split
  · refine ⟨rfl, ?_⟩
    intro i hi
    simp only [List.mem_singleton] at hi
    subst hi
    rfl
  · constructor
    · trivial
    · intro i hi
      simp only [List.mem_map] at hi
      obtain ⟨j, _, rfl⟩ := hi
      rfl

/--
PARTIAL (the compositional half of `den_inline`).  A call of a sub-pipeline
denotes its body: the value of the (enabled, unmapped) call is the return
struct of the body evaluated under the call's argument record, and the stage
instances below it are exactly the body's instances, with the call id appended
to the path.  Hence nothing in `den` can observe whether a group of calls is
written inline or wrapped in a sub-pipeline other than through this equation.

Full statement NOT proved here: for the syntactic transformation `inline P c`
(replace call `c` of sub-pipeline `Q` by `Q`'s calls with identifiers renamed
apart, `self.x` replaced by `c`'s binding expressions and `c.out` by `Q`'s
return expressions), `den (inline P c) O' = den P O` up to the renaming of
instance paths.  Missing: the substitution lemma for expressions and the
fuel/narrowing composition lemmas (narrow at the boundary followed by narrow at
the stage parameter = narrow at the stage parameter).  The check exercises it
instead: generated programs nest the same stages at different depths.
-/
theorem den_inline_partial (P : Program) (O : Oracle) (nf fuel : Nat) (env : Env)
    (path : List String) (forks : List (String × Idx)) (c : Call)
    (ins outs : List Param) (calls : List Call) (ret : List (String × Exp))
    (hq : P.callables.lookup c.callee = some (.pipeline ins outs calls ret))
    (hm : c.mapped = false) (hd : c.disabled = none) :
    let args := mkArgs P.table nf (argVals P.table env (P.insOf c.callee) c) none
    let body := evalCalls P.table nf P.insOf (runCallable P O nf fuel) (path ++ [c.id]) forks calls
        ⟨ins, args, []⟩ []
    evalCall P.table nf P.insOf (runCallable P O nf (fuel+1)) path forks env c =
      (⟨c.callee, 0, 0⟩,
       .obj (outs.map fun p =>
          (p.name, narrow P.table nf p.ty
            (match ret.lookup p.name with
             | some e => eval P.table body.1 e
             | none => .null))),
       body.2) := by
  simp [evalCall, hd, hm, runCallable, hq, callMode, liftTy]
  intro a _
  rfl

/-- den on a map call of a stage over array literals of length `n`: one run of the callee per
index, in index order (the den-side half of the refinement; cf. `den_map_collects`) -/
theorem den_map_literal (st : StructTable) (F : Nat) (insOf : String → List Param) (run : Runner)
    (path : List String) (env : Env) (c : Call) (n : Nat) (hn : 0 < n)
    (hm : c.mapped = true) (hd : c.disabled = none) (hex : ∃ b ∈ c.binds, b.split = true)
    (h : ∀ b ∈ c.binds, b.split = true → ∃ es, b.exp = .arr es ∧ es.length = n) :
    evalCall st F insOf run path [] env c =
      (⟨c.callee, 0, 1⟩,
       .arr ((List.range n).map fun k =>
          (run c.callee (path ++ [c.id]) [(c.id, .i k)]
            (mkArgs st F (argVals st env (insOf c.callee) c) (some (.i k)))).1),
       (List.range n).flatMap fun k =>
          (run c.callee (path ++ [c.id]) [(c.id, .i k)]
            (mkArgs st F (argVals st env (insOf c.callee) c) (some (.i k)))).2) :=
  evalCall_mapped st F insOf run path env c n hn hm hd hex h

end Props.C01
