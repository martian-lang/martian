/-
C02 tie: `Metadata._getStateNoLock` TRANSLATED from martian/core/metadata.go on
every run (`Gen.tr_getStateNoLock`, extract/translate*.go) is the model's
`metaState`.  The translated term is a function of the predicate "this sentinel
file exists" (Go: `self._existsNoLock(Name)`, names as strings) to the pair
`(MetadataState name, found)`.
-/
import Martian.Sched
import Gen.Facts
import Proofs.TieDefs

namespace Props.C02
open Martian.Sched Proofs.Tie

/-- For EVERY existence predicate: the translated Go function returns the state
the model computes from the set of sentinels the predicate makes present
(`ssetOf`), in the Go spelling (`goState`; `none` ↦ `(Waiting, false)`). -/
theorem tr_getStateNoLock_eq_model (present : String → Bool) :
    Gen.tr_getStateNoLock present = goState (metaState (ssetOf present)) := by
  unfold Gen.tr_getStateNoLock metaState ssetOf
  simp only [apply_ite goState]
  rfl

/-- … and every set of sentinels arises that way (`presentIn`), so the equality
covers all 2^7 subsets -/
theorem tr_getStateNoLock_all_sets (x : SSet) :
    Gen.tr_getStateNoLock (presentIn x) = goState (metaState x) := by
  rw [tr_getStateNoLock_eq_model, ssetOf_presentIn]

example : Gen.tr_getStateNoLock (presentIn { complete := true, log := true, jobinfo := true }) = ("Complete", true) ∧
    Gen.tr_getStateNoLock (presentIn {}) = ("Waiting", false) := by decide +kernel

/-- FAIL CLOSED: the tie theorems of this file are about the
definition(s) TRANSLATED FROM THE TREE UNDER TEST, not about the committed default the
extractor falls back to when the source leaves the translated subset – in that
case this obligation breaks and `./check` reports it (besides the note). -/
theorem translated_from_tree_under_test : Gen.tr_getStateNoLock_extracted = true := by decide +kernel

end Props.C02
