/-
C14 — VDR reclaims what it may and reports exactly what it removed.
PROPERTY THEOREMS ONLY (lemmas: Proofs/Vdr*.lean; model: Martian/Vdr*.lean).
-/
import Proofs.VdrExample
import Proofs.VdrFinal
import Proofs.VdrBuild
import Proofs.VdrHyp
import Proofs.VdrWalk

namespace Props.C14
open Martian.Vdr

/-- **merge_preserves_totals.**  `mergeVDRKillReports` (nil entries skipped):
count and size are the sums, the paths the concatenation, and the byte
deltas of the merged events add up to those of all input events. -/
theorem merge_preserves_totals (rs : List (Option KReport)) :
    (mergeReports rs).count = ((present rs).map (·.count)).sum ∧
    (mergeReports rs).size = ((present rs).map (·.size)).sum ∧
    (mergeReports rs).paths = ((present rs).map (·.paths)).flatten ∧
    sumDelta (mergeReports rs).events = ((present rs).map (fun r => sumDelta r.events)).sum := by
  obtain ⟨h1, h2, h3, h4⟩ := foldl_mergeAcc rs {}
  unfold mergeReports
  refine ⟨?_, ?_, ?_, ?_⟩
  · simpa using h1
  · simpa using h2
  · simpa using h3
  · show sumDelta (mergeEvents (rs.foldl mergeAcc {}).events) = _
    rw [sumDelta_mergeEvents, h4]; simp

/-- `mergeEvents` (sort, then fuse events of the same second and sign) keeps the total. -/
theorem mergeEvents_preserves_total (l : List VEvent) : sumDelta (mergeEvents l) = sumDelta l :=
  sumDelta_mergeEvents l

/-- **inside_pipestance**, on the resolved location (for entry lists of ANY origin, with the
shape of the enumeration as a hypothesis — the statement transports `h`/`hreal` along
`removed ⊆ s0.disk`; for what the walk enumerates `inside_pipestance_walked` and
`removed_in_place_or_nothing` need no such hypothesis).  Under every
interleaving and for every configuration, whatever is removed was an entry of
the fork's own files/ or tmp/ directories, as enumerated by the walk.
ASSUMED about that enumeration (this is what `util.Walk` not following links
provides; checked at run time by the sentinels behind
links to outside directories and files below files/ and tmp/): the entries
lie lexically inside the pipestance directory, and no symbolic link is a
proper ancestor of an entry (`ParentsReal`: a link is an entry of its own and
is never descended into).  Then every removed path still has only real
directories as parent components — `os.RemoveAll` acts exactly where the path
is written (`throughLink e p = p` for every link `e`: `parentsReal_acts_in_place`),
removing a link as a link — and that place is inside the pipestance directory.
(That what is removed was an entry of the fork's own directories holds by
construction of the model: the passes filter the fork's entry list.) -/
theorem inside_pipestance (c : Cfg) (s0 : St) (evs : List Ev) (root : Path) (fs : List FsEnt)
    (fr : s0.removed = []) (h : ∀ d ∈ s0.disk, pathIsInside d.path root = true)
    (hreal : ∀ d ∈ s0.disk, ParentsReal fs d.path) :
    ∀ d ∈ (run c s0 evs).removed, pathIsInside d.path root = true ∧ ParentsReal fs d.path ∧
      ∀ e ∈ fs, pathIsInside (throughLink e d.path) root = true := by
  intro d hd
  rcases (shr_run c s0 evs).removed d hd with h1 | h1
  · rw [fr] at h1; cases h1
  · refine ⟨h d h1, hreal d h1, ?_⟩
    intro e he
    rw [parentsReal_acts_in_place fs d.path (hreal d h1) e he]
    exact h d h1

/-- **inside_pipestance_walked.**  `ParentsReal` is not an assumption for what the
walk enumerates: if the fork's entries are what `util.Walk` reports below a
directory `root` whose content is the (well-formed: names non-empty, without
separator, pairwise different) tree `t` — the walk reports a symbolic link as
a link and descends into real directories only —, then under every
interleaving every removed path has only real directories between `root` and
itself, is therefore acted on where it is written (`throughLink e p = p` for
every link `e` below `root`), and that place is inside `root`.  (Links ABOVE
`root`: the node's directory and the pipelines' above it are checked by
`Node.vdrCheckSymlink` — a fork below a link is refused,
`removed_in_place_or_nothing` —; the fork and job directories between the
node directory and the walk roots are the rest of `guardChain`: `removed_in_place_or_nothing_fork`.) -/
theorem inside_pipestance_walked (c : Cfg) (s0 : St) (evs : List Ev) (root : Path) (t : FsTree)
    (hw : t.wf = true) (fr : s0.removed = [])
    (hdisk : ∀ d ∈ s0.disk, ∃ k, (d.path, k) ∈ walkBelow root t) :
    ∀ d ∈ (run c s0 evs).removed,
      pathIsInside d.path root = true ∧ ParentsReal (entsBelow root t) d.path ∧
      ∀ e ∈ entsBelow root t, throughLink e d.path = d.path :=
  walked_removed_in_place (chain := []) hw fr hdisk (fun _ he _ => Or.inr (Or.inl he)) (by simp [refusedBy])

/-- **removed_in_place_or_nothing.**  The dichotomy, PROVED, with the guard in
the model: `refusedBy fs chain` is what `Fork.vdrAcrossSymlink` computes — is
one of the directories the code lstats on the way to the fork's files (`chain`:
the node's directory and the pipelines' above it, the fork directory, every
job's directory, files and temp directory) a symbolic link of the file system `fs` —, and
`runG` is a history under that guard (refused: the removing passes return at
once).  If the fork's entries are what the walk reports below `root` (tree
`t`, well-formed) and every link of the file system is either one of the
guarded directories or lies below `root`, then EITHER the fork is refused and
nothing at all is removed, reported or made final, OR every removed path has
only real directories above it — no link of `fs` is a proper ancestor —, is
acted on where it is written and lies inside `root`.  (`chain` is a parameter
here; `removed_in_place_or_nothing_fork` fixes it to the directories the Go
guard lstats and weakens the link hypothesis to the decided `hfsB`.  One walk
root; a fork has several — each job's files and temp directory —: links below
ANOTHER root of the same fork are covered only if the roots do not nest, which
is not modelled.) -/
theorem removed_in_place_or_nothing (c : Cfg) (s0 : St) (evs : List Ev) (root : Path) (t : FsTree)
    (fs : List FsEnt) (chain : List Path) (hw : t.wf = true) (fr : s0.removed = [])
    (hdisk : ∀ d ∈ s0.disk, ∃ k, (d.path, k) ∈ walkBelow root t)
    (hfs : ∀ e ∈ fs, e.link ≠ none → e.path ∈ chain ∨ e ∈ entsBelow root t) :
    (refusedBy fs chain = true ∧ (runG true c s0 evs).removed = [] ∧ (runG true c s0 evs).disk = s0.disk ∧
      (runG true c s0 evs).report = s0.report ∧ (runG true c s0 evs).final = s0.final) ∨
    (refusedBy fs chain = false ∧
      ∀ d ∈ (runG (refusedBy fs chain) c s0 evs).removed,
        pathIsInside d.path root = true ∧ ParentsReal fs d.path ∧ ∀ e ∈ fs, throughLink e d.path = d.path) := by
  cases hr : refusedBy fs chain with
  | true =>
    obtain ⟨h1, h2, h3, h4⟩ := runG_true_removed c s0 evs
    exact Or.inl ⟨rfl, by rw [h1, fr], h2, h3, h4⟩
  | false =>
    refine Or.inr ⟨rfl, ?_⟩
    rw [runG_false]
    exact walked_removed_in_place hw fr hdisk (fun e he hl => (hfs e he hl).imp_right Or.inl) hr

/-- **removed_in_place_or_nothing_fork.**  The dichotomy for the chain the Go
guard REALLY lstats — `guardChain nodeDirs forkDir jobDirs`, a function of the
fork (node directory and the pipelines' above it, the fork directory, every
job's directory with its files/ and tmp/) — and for the shape of the file
system as it really is (`hfsB`, decided; evaluated by the driver on the
independently lstat'ed directory trees of real runs, relocation runs included,
and required there): every link is one of those directories, or lies below the
walk's root, or is elsewhere (neither the root or above it nor lexically below
it — mrp's own `chnk0 -> chnk0-u…` links).  Then either the fork is refused
and nothing is removed, reported or made final, or every removed path has no
link of the file system above it, is acted on in place and lies inside the root. -/
theorem removed_in_place_or_nothing_fork (c : Cfg) (s0 : St) (evs : List Ev) (root : Path) (t : FsTree)
    (fs : List FsEnt) (nodeDirs : List Path) (forkDir : Path) (jobDirs : List Path)
    (hw : t.wf = true) (fr : s0.removed = [])
    (hdisk : ∀ d ∈ s0.disk, ∃ k, (d.path, k) ∈ walkBelow root t)
    (hfs : hfsB fs (guardChain nodeDirs forkDir jobDirs) root t = true) :
    (refusedBy fs (guardChain nodeDirs forkDir jobDirs) = true ∧ (runG true c s0 evs).removed = [] ∧
      (runG true c s0 evs).disk = s0.disk ∧ (runG true c s0 evs).report = s0.report ∧
      (runG true c s0 evs).final = s0.final) ∨
    (refusedBy fs (guardChain nodeDirs forkDir jobDirs) = false ∧
      ∀ d ∈ (runG (refusedBy fs (guardChain nodeDirs forkDir jobDirs)) c s0 evs).removed,
        pathIsInside d.path root = true ∧ ParentsReal fs d.path ∧ ∀ e ∈ fs, throughLink e d.path = d.path) := by
  cases hr : refusedBy fs (guardChain nodeDirs forkDir jobDirs) with
  | true =>
    obtain ⟨h1, h2, h3, h4⟩ := runG_true_removed c s0 evs
    exact Or.inl ⟨rfl, by rw [h1, fr], h2, h3, h4⟩
  | false =>
    refine Or.inr ⟨rfl, ?_⟩
    rw [runG_false]
    exact walked_removed_in_place hw fr hdisk (hfsB_spec hfs) hr

/-- the hypotheses on a fork as mrp lays it out: its own `chnk0 -> chnk0-u1` link is
"elsewhere", a link below the walk root is admitted, the fork is not refused; with the
files directory linked the fork is refused -/
theorem fork_layout_admitted :
    let nodeDirs := ["/ps/TOP".toList, "/ps/TOP/N".toList]
    let jobs := ["/ps/TOP/N/fork0/chnk0-u1".toList]
    let root := "/ps/TOP/N/fork0/chnk0-u1/files".toList
    let t : FsTree := .file "a".toList 1 (.link "l".toList "/elsewhere".toList .nil)
    let fs : List FsEnt := [⟨"/ps/TOP/N/fork0/chnk0".toList, some "chnk0-u1".toList⟩,
                            ⟨"/ps/TOP/N/fork0/chnk0-u1/files/l".toList, some "/elsewhere".toList⟩]
    hfsB fs (guardChain nodeDirs "/ps/TOP/N/fork0".toList jobs) root t = true ∧
    refusedBy fs (guardChain nodeDirs "/ps/TOP/N/fork0".toList jobs) = false ∧
    refusedBy (⟨root, some "/other/volume".toList⟩ :: fs) (guardChain nodeDirs "/ps/TOP/N/fork0".toList jobs) = true := by
  eval_paths [guardChain]

/-- the guard is not vacuous either way: a linked files directory refuses the fork, a link
below the walk root does not -/
theorem guard_refuses_linked_files_dir :
    refusedBy [⟨"/ps/N/fork0/chnk0-u1/files".toList, some "/elsewhere".toList⟩]
      ["/ps/N".toList, "/ps/N/fork0".toList, "/ps/N/fork0/chnk0-u1".toList, "/ps/N/fork0/chnk0-u1/files".toList] = true ∧
    refusedBy [⟨"/ps/N/fork0/chnk0-u1/files/l".toList, some "/elsewhere".toList⟩]
      ["/ps/N".toList, "/ps/N/fork0".toList, "/ps/N/fork0/chnk0-u1".toList, "/ps/N/fork0/chnk0-u1/files".toList] = false := by
  eval_paths []

/-- the walk does not follow a link at its root nor below it: a tree with a
directory, a link to a directory outside, a cycle and a dangling link -/
theorem walk_reports_links_as_links :
    let t : FsTree := .dir "d".toList (.file "x".toList 1 (.link "up".toList "..".toList .nil))
      (.link "ext".toList "/outside".toList (.link "gone".toList "nowhere".toList .nil))
    t.wf = true ∧
    (walk "/r".toList (.dir t)).map (fun x => String.ofList x.1) = ["/r", "/r/d", "/r/d/x", "/r/d/up", "/r/ext", "/r/gone"] ∧
    (walk "/r/ext".toList (.link "/outside".toList)) = [("/r/ext".toList, .link)] := by eval_paths []

/-- Without `ParentsReal` the lexical statement is worthless — what a walk
that followed a link at its root records: the entry `/ps/files/ref/x.txt`
recorded below the link `/ps/files/ref -> /ext` is lexically inside `/ps`,
but removing it acts on `/ext/x.txt`, outside. -/
theorem followed_link_leaves_pipestance :
    let e : FsEnt := ⟨"/ps/files/ref".toList, some "/ext".toList⟩
    pathIsInside "/ps/files/ref/x.txt".toList "/ps".toList = true ∧
    throughLink e "/ps/files/ref/x.txt".toList = "/ext/x.txt".toList ∧
    pathIsInside (throughLink e "/ps/files/ref/x.txt".toList) "/ps".toList = false := by eval_paths []

/-- … and nothing reappears: the disk only shrinks. -/
theorem disk_only_shrinks (c : Cfg) (s0 : St) (evs : List Ev) :
    ∀ d ∈ (run c s0 evs).disk, d ∈ s0.disk := (shr_run c s0 evs).disk

/-- **report_exact_partial.**  (Partial: needs `DiskWF`, in particular `LinksTop` — no
symbolic link below another entry of the files/ directories — which is inside
the property's domain; the full statement without it is FALSE in code and
model alike, see `report_undercounts_nested_link`.  For temp cleaning and the
passes of non-volatile forks the equality holds by definition of the model's
accounting; the content is the per-file pass `vdrKillSome`.)  For every configuration (volatile, strict, splitting
or not) and under every interleaving: the report's count is the number of
entries removed and its size the sum of their sizes.  The proof maintains the
one-to-one alignment between the file -> arguments cache and the entries
below the files/ directories (`Aligned`), and that a directory entry lists at
least the arguments of everything below it (`Mono`), through
cacheParamFileMap / updateParamFileCache / vdrKillSome / temp cleaning.
`DiskWF` also asks that temp entries are not below files/ entries (`Sep`). -/
theorem report_exact_partial (c : Cfg) (s0 : St) (evs : List Ev) (ok : CfgOK c s0) (wf : DiskWF s0.disk)
    (fr : Fresh s0) (h0 : s0.report.count = 0 ∧ s0.report.size = 0) :
    (run c s0 evs).report.count = (run c s0 evs).removed.length ∧
    (run c s0 evs).report.size = sumSize (run c s0 evs).removed :=
  ((XInv.init s0 fr h0).run ok wf evs).exact

/-- Without `LinksTop` exactness fails in the code as in the model: a link
below an otherwise unreferenced directory, pointing to a file an argument
names, is kept alive by that argument (walked-side name expansion) while its
directory is not; the directory is removed with the link in it, and the link
is not counted. -/
theorem report_undercounts_nested_link :
    let c : Cfg := { volatile := true, strict := true, splits := false
                     argNames := [("a", ["/p/f/t".toList])], argFiles := [("a", ["/p/f/t".toList])] }
    let s : St := { fileArgs := [("a", [none])], postNodes := [],
                    disk := [⟨"/p/f/t".toList, 1, .out, [], 0⟩, ⟨"/p/f/sub".toList, 4096, .out, [], 0⟩,
                             ⟨"/p/f/sub/l".toList, 6, .out, ["/p/f/t".toList], 0⟩] }
    (run c s [.cacheMap, .kill]).removed.length = 2 ∧ (run c s [.cacheMap, .kill]).report.count = 1 := by
  eval_paths []

/-- **reclaims_all_unreferenced.**  A volatile fork whose two bookkeeping maps
are consistent (`BK`: a node that holds an argument is a post node listing
it; no argument without holders): after ANY history in which every post node
has completed, the complete-state pass (`Pipestance.VDRKill`) makes the fork
final and every entry left below its files/ directories is referenced (equal,
ancestor or descendant; for a symbolic link also through what it points to)
by an argument the top level or a retain holds.  For ANY shape of the disk:
no `DiskWF` (nested links, temp entries anywhere) and no assumption on the
report — the proof keeps only that every entry below files/ has a cache entry
describing it (`Covered`, Proofs/VdrReclaim.lean), not the one-to-one alignment
the accounting needs. -/
theorem reclaims_all_unreferenced (c : Cfg) (s0 : St) (evs : List Ev) (ok : CfgOK c s0) (fr : Fresh s0)
    (hv : c.volatile = true) (bk : BK s0) (hf : s0.final = false)
    (hdone : ∀ p ∈ s0.postNodes, p.1 ∈ (run c s0 evs).doneNodes) :
    (run c s0 (evs ++ [.kill])).final = true ∧
    ∀ d ∈ (run c s0 (evs ++ [.kill])).disk, isTmp d.kind = false →
      ∃ a, Holds s0 a none ∧ refsN c a (d.path :: d.alts) = true := by
  obtain ⟨v, r⟩ := VR.run ok hv bk (VInv.init s0 fr) (RInv.init c s0 fr bk hf) evs
  have hrun : run c s0 (evs ++ [.kill]) = kill c (run c s0 evs) := by
    unfold run; rw [List.foldl_append]; rfl
  rw [hrun]
  have hfin : (kill c (run c s0 evs)).final = true := by
    apply kill_final_any
    intro p hp
    obtain ⟨q, hq, e⟩ := r.sh.keys p hp
    rw [← e]; exact hdone q hq
  exact ⟨hfin, (VR.kill hv v r).2.fin hfin⟩

/-- **tmp_gone_when_final.**  For every configuration and interleaving: once
the fork's final report is written, no entry of the split / chunk / join temp
directories is left (the split phase only counts for stages that split). -/
theorem tmp_gone_when_final (c : Cfg) (s0 : St) (evs : List Ev) (hr : s0.ran = []) (hf : s0.final = false)
    (hfin : (run c s0 evs).final = true) :
    ∀ d ∈ (run c s0 evs).disk, ∀ ph, ph < 3 → (ph ≠ 0 ∨ c.splits = true) → d.kind ≠ .tmp ph := by
  have t0 : TInv c s0 := by
    refine ⟨?_, ?_⟩
    · intro ph hp; rw [hr] at hp; cases hp
    · intro h; rw [hf] at h; cases h
  have t := t0.run evs
  intro d hd ph hlt hne
  exact t.clean ph (t.fin hfin ph ⟨hlt, hne⟩) d hd

/-- Without the consistency `BK` that `reclaims_all_unreferenced` assumes, its statement fails — a post-node
argument set shared between static forks is exactly a violation of `BK`: post node `C` no longer lists `a`,
`C` completes, and the file stays although nobody but the finished `C` holds it. -/
theorem reclaim_needs_consistency :
    let c : Cfg := { volatile := true, strict := true, splits := false
                     argNames := [("a", ["/p/files/a".toList])], argFiles := [("a", ["/p/files/a".toList])] }
    let s : St := { fileArgs := [("a", [some "C"])], postNodes := [("C", [])],
                    disk := [⟨"/p/files/a".toList, 1, .out, [], 0⟩] }
    (run c s [.removeEmpty, .cacheMap, .nodeDone "C", .kill]).disk.map (·.path) = ["/p/files/a".toList] := by
  eval_paths []

/-! ### listed paths are gone -/

/-- **listed_paths_gone.**  For every configuration (volatile, strict,
splitting or not) and under every interleaving: no entry with a path listed
in the kill report is left on disk (temp cleaning lists the top-level entries
of the phase's temp directories, `vdrKillSome` the collapsed kill paths,
`vdrKill` the chunk-level files).  `PathKinds`: a path is one entry (entries
with equal paths are of the same kind). -/
theorem listed_paths_gone (c : Cfg) (s0 : St) (evs : List Ev) (h0 : s0.report.paths = [])
    (hu : PathKinds s0.disk) :
    ∀ p ∈ (run c s0 evs).report.paths, ∀ d ∈ (run c s0 evs).disk, d.path ≠ p := by
  have l0 : LInv s0 := ⟨fun p hp => (by rw [h0] at hp; cases hp), hu⟩
  exact (l0.run evs).gone

/-- … and they stay gone whatever happens afterwards (the model's event
language has no event that writes; a retry that re-creates a path is a reset
of the fork, after which a new report is begun). -/
theorem listed_paths_stay_gone (c : Cfg) (s0 : St) (evs more : List Ev) (h0 : s0.report.paths = [])
    (hu : PathKinds s0.disk) :
    ∀ p ∈ (run c s0 evs).report.paths, ∀ d ∈ (run c s0 (evs ++ more)).disk, d.path ≠ p := by
  intro p hp d hd
  have hrun : run c s0 (evs ++ more) = run c (run c s0 evs) more := by
    unfold run; rw [List.foldl_append]
  rw [hrun] at hd
  exact listed_paths_gone c s0 evs h0 hu p hp d ((shr_run c (run c s0 evs) more).disk d hd)

/-- a listed path is removed together with everything below it when it was
listed by `vdrKillSome` (the per-file pass of volatile forks): collapsing the
kill paths loses nothing, no entry at or below a listed path is left. -/
theorem killed_paths_gone_with_contents (s : St) (es : List Entry) :
    ∀ p ∈ collapse [] (((es.filter (fun e => e.args.isEmpty)).map (·.path)).mergeSort pathLe),
      ∀ d ∈ (killCore s es).disk, pathIsInside d.path p = false := by
  intro p hp d hd
  obtain ⟨k, hk, rfl⟩ := List.mem_map.mp (mem_collapse_sorted hp)
  have hk := List.mem_filter.mp hk
  cases hin : pathIsInside d.path k.path with
  | false => rfl
  | true => exact absurd (killed_iff.mpr ⟨k, hk.1, hk.2, hin⟩) (by simp [(killCore_disk hd).2])

/-- `PathKinds` is needed in the model only because its disk is a list: with
two entries of one path and different kinds, cleaning one kind lists the path
while the other entry stays (a file system has one entry per path). -/
theorem listed_needs_one_entry_per_path :
    let c : Cfg := { volatile := false, strict := false, splits := false, argNames := [], argFiles := [] }
    let s : St := { fileArgs := [], postNodes := [],
                    disk := [⟨"/p/x".toList, 1, .tmp 1, [], 0⟩, ⟨"/p/x".toList, 1, .out, [], 0⟩] }
    (run c s [.early 2]).report.paths = ["/p/x".toList] ∧
    (run c s [.early 2]).disk.map (·.path) = ["/p/x".toList] := by eval_paths []

/-- **refused_fork_untouched.**  A fork VDR refuses (its node lies below a
symbolic link: `Node.vdrCheckSymlink`; no temp cleaning and no kill pass is
performed for it): whatever else happens — consumers complete, fail, are
reset, its bookkeeping is pruned, its cache is built — nothing of it is
removed, nothing is reported and it never becomes final. -/
theorem refused_fork_untouched (c : Cfg) (s0 : St) (evs : List Ev) (h : ∀ e ∈ evs, e.removes = false) :
    (run c s0 evs).disk = s0.disk ∧ (run c s0 evs).removed = s0.removed ∧
    (run c s0 evs).report = s0.report ∧ (run c s0 evs).final = s0.final :=
  run_refused c s0 evs h

/-! ### completion: final for every configuration, temp directories and chunk files gone -/

/-- **final_when_all_done.**  For EVERY configuration (volatile or not, strict or
not): a complete-state pass at a moment when every remaining post node has
completed makes the fork final. -/
theorem final_when_all_done (c : Cfg) (s0 : St) (evs : List Ev)
    (hdone : ∀ p ∈ (run c s0 evs).postNodes, p.1 ∈ (run c s0 evs).doneNodes) :
    (run c s0 (evs ++ [.kill])).final = true := by
  have hrun : run c s0 (evs ++ [.kill]) = kill c (run c s0 evs) := by
    unfold run; rw [List.foldl_append]; rfl
  rw [hrun]
  exact kill_final_any hdone

/-- **tmp_and_chunk_files_gone_at_completion.**  When that pass has run — for a
non-volatile fork as for any other — no entry of the split / chunk / join temp
directories is left, and for a non-volatile (non-strict) splitting stage no
chunk-level file is left either. -/
theorem tmp_and_chunk_files_gone_at_completion (c : Cfg) (s0 : St) (evs : List Ev) (hr : s0.ran = [])
    (hf : s0.final = false)
    (hdone : ∀ p ∈ (run c s0 evs).postNodes, p.1 ∈ (run c s0 evs).doneNodes) :
    (∀ d ∈ (run c s0 (evs ++ [.kill])).disk, ∀ ph, ph < 3 → (ph ≠ 0 ∨ c.splits = true) → d.kind ≠ .tmp ph) ∧
    (c.volatile = false → c.strict = false → c.splits = true →
      ∀ d ∈ (run c s0 (evs ++ [.kill])).disk, d.kind ≠ .chunk) := by
  have hfin := final_when_all_done c s0 evs hdone
  refine ⟨tmp_gone_when_final c s0 (evs ++ [.kill]) hr hf hfin, ?_⟩
  intro hv hs hsp d hd hk
  have i0 : CInv c s0 := fun h => by rw [hf] at h; cases h
  exact (i0.run hv hs (evs ++ [.kill])) hfin d hd ⟨hsp, hk⟩

/-! ### `BK` is what the construction establishes -/

/-- **built_bookkeeping_consistent.**  The tables `attachToFileParents` /
`setupRetains` / `buildForks` give the forks of any node of a pipestance
(model: `build (opsOf tr)`, compared with the real tables on every run)
satisfy the bookkeeping invariant `BK`; a fork starting with them is fresh
and not final.  (`wfOps`: decided by the driver for every pipestance built.) -/
theorem built_bookkeeping_consistent (tr : PTree) (w : wfOps [] [] (opsOf tr) = true) (p : Node) (t : Tab)
    (h : (p, t) ∈ build (opsOf tr)) (disk : List DiskEnt) :
    BK (t.st disk) ∧ Fresh (t.st disk) ∧ (t.st disk).final = false ∧
      (t.st disk).report.count = 0 ∧ (t.st disk).report.size = 0 :=
  ⟨(build_bk w h).st disk, ⟨rfl, rfl⟩, rfl, rfl, rfl⟩

/-- **reclaims_all_unreferenced_built.**  `reclaims_all_unreferenced` without
the assumption `BK`: for a volatile fork that starts with the constructed
tables, after any history in which its post nodes completed, the
complete-state pass leaves only what the top level or a retain references. -/
theorem reclaims_all_unreferenced_built (tr : PTree) (w : wfOps [] [] (opsOf tr) = true) (p : Node) (t : Tab)
    (h : (p, t) ∈ build (opsOf tr)) (c : Cfg) (disk : List DiskEnt) (evs : List Ev)
    (ok : CfgOK c (t.st disk)) (hv : c.volatile = true)
    (hdone : ∀ q ∈ t.postNodes, q.1 ∈ (run c (t.st disk) evs).doneNodes) :
    (run c (t.st disk) (evs ++ [.kill])).final = true ∧
    ∀ d ∈ (run c (t.st disk) (evs ++ [.kill])).disk, isTmp d.kind = false →
      ∃ a, Holds (t.st disk) a none ∧ refsN c a (d.path :: d.alts) = true :=
  reclaims_all_unreferenced c (t.st disk) evs ok ⟨rfl, rfl⟩ hv ((build_bk w h).st disk) rfl hdone

theorem clone_after_history_consistent (c : Cfg) (s0 : St) (evs : List Ev) (ok : CfgOK c s0)
    (fr : Fresh s0) (hv : c.volatile = true) (bk : BK s0) (hf : s0.final = false) (disk : List DiskEnt) :
    BK (cloneFork (run c s0 evs) disk) := by
  obtain ⟨_, r⟩ := VR.run ok hv bk (VInv.init s0 fr) (RInv.init c s0 fr bk hf) evs
  exact cloneFork_bk r.bk disk

/-! ### definitional unfoldings (documentation of the model, not guarantees) -/

/-- The dichotomy with the case distinction as a HYPOTHESIS (`hcase`; the proved dichotomy is
`removed_in_place_or_nothing`): when a directory ABOVE the fork is a link (a relocated sub-pipeline
directory: `ParentsReal` fails for every entry of the fork), VDR refuses the fork —
`Node.vdrCheckSymlink`, applied to the fork's own transitions too —, i.e. no temp cleaning and no kill
pass runs, and then nothing at all is removed (`refused_fork_untouched` above).  So for every fork: either
every removed path is acted on in place, inside the pipestance, or nothing is removed. -/
theorem removed_in_place_or_nothing_cases (c : Cfg) (s0 : St) (evs : List Ev) (root : Path) (fs : List FsEnt)
    (fr : s0.removed = []) (h : ∀ d ∈ s0.disk, pathIsInside d.path root = true)
    (hcase : (∀ d ∈ s0.disk, ParentsReal fs d.path) ∨ (∀ e ∈ evs, e.removes = false)) :
    ∀ d ∈ (run c s0 evs).removed, ∀ e ∈ fs, pathIsInside (throughLink e d.path) root = true := by
  rcases hcase with hreal | href
  · intro d hd
    exact (inside_pipestance c s0 evs root fs fr h hreal d hd).2.2
  · intro d hd
    rw [(run_refused c s0 evs href).2.1, fr] at hd
    cases hd


/-- `cloneFork` is a value copy of the two tables in the model, so `BK` transfers by rewriting
(non-sharing of the real Go maps is probed on real forks, not proved).  Dynamic fork expansion: the fork `cloneFork`
makes of a consistent fork — at construction or after any history of the
original — is consistent, fresh and not final. -/
theorem clone_keeps_consistency (s : St) (disk : List DiskEnt) (k : BK s) :
    BK (cloneFork s disk) ∧ Fresh (cloneFork s disk) ∧ (cloneFork s disk).final = false :=
  ⟨cloneFork_bk k disk, ⟨rfl, rfl⟩, rfl⟩

/-! ### non-vacuity -/

/-- `listed_paths_gone` is not vacuous: a non-volatile splitting fork lists the
temp entries and the chunk file it removed -/
example :
    let c : Cfg := { volatile := false, strict := false, splits := true, argNames := [], argFiles := [] }
    let s : St := { fileArgs := [], postNodes := [],
                    disk := [⟨"/p/c0/files/x".toList, 4, .chunk, [], 0⟩, ⟨"/p/j/files/o".toList, 9, .out, [], 0⟩,
                             ⟨"/p/j/tmp/t".toList, 3, .tmp 2, [], 0⟩, ⟨"/p/c0/tmp/d".toList, 4096, .tmp 1, [], 0⟩] }
    s.report.paths = [] ∧ PathKinds s.disk ∧
    (run c s [.early 2, .kill]).report.paths =
      ["/p/c0/tmp/d".toList, "/p/j/tmp/t".toList, "/p/c0/files/x".toList] := by
  exact ⟨rfl, pathKindsB_sound (by eval_paths []), by eval_paths []⟩

/-- a symbolic link at the top of files/ (`LinksTop` holds non-trivially): the junk goes, the
link is kept through the name of what it points to, and the report is exact -/
example :
    let c : Cfg := { volatile := true, strict := true, splits := false
                     argNames := [("a", ["/p/f/real/x".toList])], argFiles := [("a", ["/p/f/real/x".toList])]
                     initArgs := [("a", [none])] }
    let s : St := { fileArgs := [("a", [none])], postNodes := [],
                    disk := [⟨"/p/f/real".toList, 4096, .out, [], 0⟩, ⟨"/p/f/real/x".toList, 1, .out, [], 0⟩,
                             ⟨"/p/f/lnk".toList, 6, .out, ["/p/f/real/x".toList], 0⟩, ⟨"/p/f/junk".toList, 3, .out, [], 0⟩] }
    cfgOKB c s = true ∧ sepB s.disk = true ∧ linksTopB s.disk = true ∧
    (run c s [.cacheMap, .kill]).disk.map (·.path) = ["/p/f/real".toList, "/p/f/real/x".toList, "/p/f/lnk".toList] ∧
    (run c s [.cacheMap, .kill]).report.count = 1 ∧ (run c s [.cacheMap, .kill]).removed.length = 1 := by
  eval_paths []

/-- a non-volatile splitting fork with entries in all three temp phases: all gone and final
after the complete-state pass, chunk files too; a partial cleanup, a RESTART of mrp and the
final cleanup give the same -/
example :
    let c : Cfg := { volatile := false, strict := false, splits := true, argNames := [], argFiles := [] }
    let s : St := { fileArgs := [], postNodes := [],
                    disk := [⟨"/p/s/tmp/a".toList, 2, .tmp 0, [], 0⟩, ⟨"/p/c0/tmp/d".toList, 4096, .tmp 1, [], 0⟩,
                             ⟨"/p/j/tmp/t".toList, 3, .tmp 2, [], 0⟩, ⟨"/p/c0/files/x".toList, 4, .chunk, [], 0⟩,
                             ⟨"/p/j/files/o".toList, 9, .out, [], 0⟩] }
    (run c s [.kill]).final = true ∧ (run c s [.kill]).disk.map (·.path) = ["/p/j/files/o".toList] ∧
    (run c s [.early 1, .restart, .kill]).disk.map (·.path) = ["/p/j/files/o".toList] ∧
    (run c s [.early 1, .restart, .kill]).report.count = 4 ∧
    (run c s [.early 1, .restart, .kill]).removed.length = 4 := by
  eval_paths []

/-- restart between partial and final cleanup of the volatile fork of Props/C04.lean's example:
the consumer completes after the restart; count and removed agree, `a`'s file stays -/
example :
    (run exCfg exSt [.removeEmpty, .cacheMap, .kill, .restart, .nodeDone "C", .kill]).report.count = 4 ∧
    (run exCfg exSt [.removeEmpty, .cacheMap, .kill, .restart, .nodeDone "C", .kill]).removed.length = 4 ∧
    (run exCfg exSt [.removeEmpty, .cacheMap, .kill, .restart, .nodeDone "C", .kill]).disk.map (·.path) =
      ["/p/files/a.txt".toList] ∧
    (cloneFork (run exCfg exSt [.removeEmpty, .cacheMap, .kill]) []).postNodes = [("C", ["a", "b"])] := by
  eval_paths [exCfg, exSt]

/-- reclaim on a disk that violates `LinksTop` (a link nested below an unreferenced directory,
pointing to a named file — the disk of `report_undercounts_nested_link`): final, and what is left
is referenced -/
example :
    let c : Cfg := { volatile := true, strict := true, splits := false
                     argNames := [("a", ["/p/f/t".toList])], argFiles := [("a", ["/p/f/t".toList])]
                     initArgs := [("a", [none])] }
    let s : St := { fileArgs := [("a", [none])], postNodes := [],
                    disk := [⟨"/p/f/t".toList, 1, .out, [], 0⟩, ⟨"/p/f/sub".toList, 4096, .out, [], 0⟩,
                             ⟨"/p/f/sub/l".toList, 6, .out, ["/p/f/t".toList], 0⟩] }
    linksTopB s.disk = false ∧ cfgOKB c s = true ∧
    (run c s [.cacheMap, .kill]).final = true ∧ (run c s [.cacheMap, .kill]).disk.map (·.path) = ["/p/f/t".toList] := by
  eval_paths []

/-- a refused fork: the history of Props/C04.lean's example without its kill passes removes nothing -/
example : (∀ e ∈ [Ev.removeEmpty, .cacheMap, .nodeDone "C"], e.removes = false) ∧
    (run exCfg exSt [.removeEmpty, .cacheMap, .nodeDone "C"]).removed = [] := by
  constructor
  · intro e he
    simp at he
    rcases he with rfl | rfl | rfl <;> rfl
  · eval_paths [exCfg, exSt]

/-- the construction yields tables (for node `A` of `exTree`: one consumer, one retain) -/
example : wfOps [] [] (opsOf exTree) = true ∧ ((build (opsOf exTree)).lookup "A").isSome = true := by
  constructor <;> decide +kernel


example :
    mergeEvents [⟨3000000000, -5⟩, ⟨1000000000, 7⟩, ⟨1000000500, 2⟩, ⟨3000000001, -1⟩] =
      [⟨1000000000, 9⟩, ⟨3000000000, -6⟩] := by decide +kernel

example :
    (mergeReports [some { count := 2, size := 10, paths := [['a']] }, none,
                   some { count := 3, size := 5, paths := [['b']] }]).count = 5 := by decide +kernel

/-- a non-volatile splitting fork: temp entries and chunk files go, the join's output stays,
and the report says 3 entries / 4103 bytes -/
example :
    let c : Cfg := { volatile := false, strict := false, splits := true, argNames := [], argFiles := [] }
    let s : St := { fileArgs := [], postNodes := [],
                    disk := [⟨"/p/c0/files/x".toList, 4, .chunk, [], 0⟩, ⟨"/p/j/files/o".toList, 9, .out, [], 0⟩,
                             ⟨"/p/j/tmp/t".toList, 3, .tmp 2, [], 0⟩, ⟨"/p/c0/tmp/d".toList, 4096, .tmp 1, [], 0⟩] }
    ((run c s [.early 2, .kill]).disk.map (·.path) = ["/p/j/files/o".toList]) ∧
    (run c s [.early 2, .kill]).report.count = 3 ∧ (run c s [.early 2, .kill]).report.size = 4103 := by
  eval_paths []

/-- the hypotheses of `report_exact_partial` / `reclaims_all_unreferenced` are satisfiable
(the fork of Props/C04.lean's example) and the conclusions are not vacuous -/
example : DiskWF exSt.disk ∧ BK exSt ∧ exSt.final = false ∧
    (run exCfg exSt [.removeEmpty, .cacheMap, .kill, .nodeDone "C", .kill]).report.count = 4 ∧
    (run exCfg exSt [.removeEmpty, .cacheMap, .kill, .nodeDone "C", .kill]).removed.length = 4 := by
  refine ⟨diskWFB_sound (by eval_paths [exSt]) (by eval_paths [exSt]), ⟨?_, ?_⟩, rfl, by eval_paths [exCfg, exSt], by eval_paths [exCfg, exSt]⟩
  · intro a hs hm n hn
    simp [exSt] at hm
    rcases hm with ⟨rfl, rfl⟩ | ⟨rfl, rfl⟩
    · simp at hn; subst hn; exact ⟨["a", "b"], by decide, by decide⟩
    · simp at hn; subst hn; exact ⟨["a", "b"], by decide, by decide⟩
  · intro a hs hm
    simp [exSt] at hm
    rcases hm with ⟨rfl, rfl⟩ | ⟨rfl, rfl⟩ <;> simp

end Props.C14
