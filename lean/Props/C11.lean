/-
C11 — fork identities are unique; job notifications reach exactly their owner.
PROPERTY THEOREMS ONLY (helper lemmas: Proofs/ForkName.lean, ForkNameDiv.lean,
ForkRoute.lean, ForkNameBatch.lean; model: Martian/ForkName.lean, ForkNameBatch.lean,
ForkNameSet.lean, predicates of the statements in ForkNameSpec.lean).  Stated against
the facts regenerated from the working tree: `Gen.journalPairs` (encodeJournalName),
`Gen.jobJournalRe`, `Gen.metadataFileNames`, `Gen.journalPrefixes`, `Gen.forkIdReenters`,
`Gen.forkIdSkipsEmpty` (the two switches of `ForkId.forkId`) and `Gen.tr_WidthForInt_extracted`.
-/
import Martian.ForkName
import Martian.ForkNameSpec
import Proofs.ForkName
import Proofs.ForkNameDiv
import Proofs.ForkRoute
import Proofs.ForkNameBatch
import Gen.Facts

namespace Props.C11
open Martian.ForkName

/-! ### Regenerated obligations -/

/-- Every fact this file is stated against was really EXTRACTED from the
working tree (not the committed fall-back value): if a refactoring defeats one
of the go/ast patterns this obligation breaks instead of leaving the others
true by default. -/
theorem facts_really_extracted :
    Gen.journalPairs_extracted = true ∧ Gen.jobJournalRe_extracted = true ∧
    Gen.metadataFileNames_extracted = true ∧ Gen.journalPrefixes_extracted = true ∧
    Gen.forkIdReenters_extracted = true ∧ Gen.forkIdSkipsEmpty_extracted = true := by decide

/-- The TRANSLATED tie of this property (Props/C11Tie.lean: `util.WidthForInt`
translated from util.go on every run and proved equal to the model's
`widthForInt` below 100000) was really produced by the translator, not taken
from the committed fall-back. -/
theorem translated_ties_extracted : Gen.tr_WidthForInt_extracted = true := by decide

/-- The journal regex in the source is the one `parseRun` was written for. -/
theorem journal_regex_is_the_modelled_one :
    Gen.jobJournalRe = "(.*)\\.fork([^.]+)(?:\\.chnk(\\d+))?(?:\\.u([a-f0-9]{10}))?\\.(.*)$" := by
  decide +kernel

/-- `encodeJournalName` replaces `.` and `/` and no replacement re-introduces either. -/
theorem journal_table_clean : TableOK Gen.journalPairs = true := by decide

/-- `encodeJournalName` is a percent-encoding that encodes the escape character
`%` as well (every pair is `c ↦ %XX`, and `%` has a pair).  Fails on a tree
whose replacer leaves `%` alone (F7). -/
theorem journal_table_percent_encoding : TablePct Gen.journalPairs = true := by decide

/-- After flushing an array index in front of a map part, `ForkId.forkId`
continues *at* the map part (`start+i`), so the map key is written.  Fails on a
tree where it continues after it (`start+i+1`: the key is dropped and the forks
of the inner map call share one directory). -/
theorem forkId_reenters_at_map_part : Gen.forkIdReenters = true := by decide

/-- A part whose range is empty is skipped by `ForkId.forkId` (`continue`), it
does not end the id.  Fails on a tree where the id stops there (all static
forks below an empty run-time outer fork were then named `fork0`). -/
theorem forkId_skips_empty_parts : Gen.forkIdSkipsEmpty = true := by decide

/-- `fork` itself is not touched by the replacer, so what follows `<fqid>.fork`
in a fork's fqname is the encoding of what follows `fork` in its id. -/
theorem journal_keeps_fork_prefix (t : Bytes) :
    journalEnc Gen.journalPairs (sFork ++ t) = sFork ++ journalEnc Gen.journalPairs t := by
  rw [journalEnc_append]; rfl

/-- Every metadata file name, bare or with the `split_` / `join_` prefix a job
of that phase writes, is unambiguous after a fork part: it contains no `.fork`,
and cannot be read as a `.chnkN` or `.u<10 hex>` component. -/
theorem metadata_file_names_unambiguous :
    (Gen.metadataFileNames.all fun n =>
      fileOK n && Gen.journalPrefixes.all fun p => fileOK (p ++ n)) = true := by decide +kernel

/-! ### Key encoding -/

/-- `makeKeySafe` (= `url.PathEscape`) is inverted by `url.PathUnescape` on
every byte string … -/
theorem pathEscape_roundtrip (k : Bytes) : pathUnescape (pathEscape k) = some k :=
  pathUnescape_pathEscape k

/-- … hence distinct keys (dots, slashes, percent signs, spaces, non-ASCII,
text that looks like an encoded key, anything) get distinct safe names. -/
theorem pathEscape_injective (a b : Bytes) (h : pathEscape a = pathEscape b) : a = b :=
  pathEscape_inj h

/-- A safe key contains no `/` (it is a single path component). -/
theorem pathEscape_no_slash (k : Bytes) : cSlash ∉ pathEscape k := slash_not_in_pathEscape k

/-! ### Journal-name encoding -/

/-- No `.` and no `/` in an encoded journal component, for every input: the
regex's `[^.]+` sees the whole component and `path.Base` in mrjob keeps it. -/
theorem journal_component_clean (s : Bytes) :
    cDot ∉ journalEnc Gen.journalPairs s ∧ cSlash ∉ journalEnc Gen.journalPairs s :=
  journalEnc_clean journal_table_clean s

/-- The journal encoding is injective on ALL strings: two forks whose ids
(directories) differ have different journal names, whatever the nesting and
whatever the keys contain. -/
theorem journal_name_injective (a b : Bytes)
    (h : journalEnc Gen.journalPairs a = journalEnc Gen.journalPairs b) : a = b :=
  journalEnc_inj journal_table_percent_encoding h

/-- Negative witness (F7, the replacer as found: `.`→`%2E`, `/`→`%2F`, `%` kept):
the ids `fork_a%2Ffork_b/fork_c` (keys `a/fork_b`, `c`) and
`fork_a/fork_b%2Ffork_c` (keys `a`, `b/fork_c`) are different directories with
the same journal name. -/
theorem journal_collision_with_replacer_as_found :
    let old : Pairs := [(0x2E, [0x25, 0x32, 0x45]), (0x2F, [0x25, 0x32, 0x46])]
    let k1 : Bytes := [0x61, 0x2F, 0x66, 0x6F, 0x72, 0x6B, 0x5F, 0x62]   -- a/fork_b
    let k2 : Bytes := [0x63]                                             -- c
    let k3 : Bytes := [0x61]                                             -- a
    let k4 : Bytes := [0x62, 0x2F, 0x66, 0x6F, 0x72, 0x6B, 0x5F, 0x63]   -- b/fork_c
    mapsId [k1, k2] ≠ mapsId [k3, k4] ∧
    journalEnc old (mapsId [k1, k2]) = journalEnc old (mapsId [k3, k4]) := by decide +kernel

/-! ### Fork directory names -/

/-- Forks of an array-mapped call: distinct indices give distinct directories
(`fork<i>`; all widths). -/
theorem array_fork_dirs_distinct (i j len len' : Nat) (st st' : Bool) (x : Bytes)
    (hi : singleId (.arr i len st) = some x) (hj : singleId (.arr j len' st') = some x) : i = j := by
  have h1 := singleId_arr i len st x hi
  have h2 := singleId_arr j len' st' x hj
  rw [h1] at h2
  exact itoa_inj (List.append_cancel_left h2)

example : singleId (.arr 9 11 true) = some (sFork ++ itoa 9) ∧
    singleId (.arr 10 11 true) = some (sFork ++ itoa 10) := by decide

/-- Forks of a map call: distinct keys give distinct directories (`fork_<safe key>`). -/
theorem map_fork_dirs_distinct (k k' : Bytes) (keys keys' : List Bytes) (st st' : Bool) (x : Bytes)
    (h : singleId (.key k keys st) = some x) (h' : singleId (.key k' keys' st') = some x) : k = k' := by
  have h1 := singleId_key k keys st x h
  have h2 := singleId_key k' keys' st' x h'
  rw [h1] at h2
  exact pathEscape_inj (List.append_cancel_left h2)

example : singleId (.key [0x2E] [[0x2E], [0x25, 0x32, 0x45]] true) = some (sForkU ++ [0x2E]) ∧
    singleId (.key [0x25, 0x32, 0x45] [[0x2E], [0x25, 0x32, 0x45]] true)
      = some (sForkU ++ [0x25, 0x32, 0x35, 0x32, 0x45]) := by decide

/-- Flat indices of nested array parts (`writeForkIndex`, zero padded to the
width of the largest index): the index is recoverable from the string for every
dimension, so distinct flat indices give distinct names across all decimal
width boundaries. -/
theorem fork_index_string_distinct (dim dim' i j : Nat)
    (h : forkIndexStr dim i = forkIndexStr dim' j) : i = j :=
  forkIndexStr_inj h

/-- Chunk names `chnk%0*d` of one fork: distinct indices give distinct names. -/
theorem chunk_names_distinct (n i j : Nat) (h : chunkName n i = chunkName n j) : i = j :=
  padded_inj (List.append_cancel_left h)

/-- **Fork names are injective in the fork-part tuple**, for every nesting
of array and map parts: any depth, statically or run-time sized arrays of any
length (flat indices, `_`-separated groups, zero padding at every width), map
keys over all byte strings, with unresolved parts and parts of empty range
anywhere in between (they are skipped).  Two forks of the same shape
(`sameShape`: the same kinds, lengths, key sets and static-ness position by
position) whose indices / keys are in range (`partOk`) and whose id strings are
equal are the same fork.  Stated against the regenerated recursion target and
empty-part behaviour of `ForkId.forkId`.

What still shares a name, exactly: (1) part lists that differ only in the
*payload of skipped parts* — `sameShape` demands equal payload there, so they
are outside the theorem: `[undet, x, …]`, `[empty, x, …]` and `[arr i of 0, x, …]` all
render alike, whichever of the three the skipped part is (`skipped_parts_share_names`).  These are one and the
same fork at different stages of resolution (unresolved → found empty); the
runtime renames the fork (`updateId`) instead of creating a second one, so they
never coexist.  (2) a list consisting of a single unresolved / empty part is
`fork0` (`ForkSourcePart.ForkIdString`), as is the fork with all indices 0:
again the same fork before and after resolution. -/
theorem forkName_injective (a b : List Part) (hs : sameShape a b = true)
    (hva : a.all partOk = true) (hvb : b.all partOk = true)
    (h1 : a.length = 1 → a.all partValid = true) (h1' : b.length = 1 → b.all partValid = true)
    (h : forkIdString Gen.forkIdReenters Gen.forkIdSkipsEmpty a
        = forkIdString Gen.forkIdReenters Gen.forkIdSkipsEmpty b) : a = b := by
  rw [forkId_reenters_at_map_part, forkId_skips_empty_parts] at h
  exact forkIdString_inj a b hs hva hvb h

/-- **Forks of one call never share a name, also when their ids have different
shapes.**  Under a run-time sized call the inner parts of two forks may differ
in length, key set or emptiness from one outer fork to the next, so the forks
of a node are not all of the same shape.  But any two of them agree on a
(possibly empty) prefix `p` of parts and then name a different index of the
same array call or a different key of the same map call (`diverge x y`).  Then
their id strings differ, whatever parts `ra`, `rb` follow on either side
(resolved parts in range, parts found empty, unresolved parts; the two tails
need not have the same shape, only the same number of parts). -/
theorem forkName_distinct_after_divergence (p : List Part) (x y : Part) (ra rb : List Part)
    (hd : diverge x y = true) (hp : p.all partOk = true) (hra : ra.all partOk = true) (hrb : rb.all partOk = true)
    (hlen : ra.length = rb.length) :
    forkIdString Gen.forkIdReenters Gen.forkIdSkipsEmpty (p ++ x :: ra)
      ≠ forkIdString Gen.forkIdReenters Gen.forkIdSkipsEmpty (p ++ y :: rb) := by
  rw [forkId_reenters_at_map_part, forkId_skips_empty_parts]
  exact forkIdString_diverge p x y ra rb hd hp hra hrb hlen

/-- … and so do their journal names. -/
theorem forkJournalName_distinct_after_divergence (p : List Part) (x y : Part) (ra rb : List Part) (ia ib : Bytes)
    (hd : diverge x y = true) (hp : p.all partOk = true) (hra : ra.all partOk = true) (hrb : rb.all partOk = true)
    (hlen : ra.length = rb.length)
    (ha : forkIdString Gen.forkIdReenters Gen.forkIdSkipsEmpty (p ++ x :: ra) = some ia)
    (hb : forkIdString Gen.forkIdReenters Gen.forkIdSkipsEmpty (p ++ y :: rb) = some ib) :
    journalEnc Gen.journalPairs ia ≠ journalEnc Gen.journalPairs ib := by
  intro h
  have := journal_name_injective ia ib h
  exact forkName_distinct_after_divergence p x y ra rb hd hp hra hrb hlen (by rw [ha, hb, this])

-- under outer fork 0 the inner run-time source is empty, under outer fork 1 it has 3 elements and a map call follows
example :
    let ks : List Bytes := [[0x61], [0x62]]
    diverge (.arr 0 2 true) (.arr 1 2 true) = true ∧
    ([.empty, .undet] : List Part).all partOk = true ∧
    ([.arr 2 3 false, .key [0x62] ks false] : List Part).all partOk = true := by decide

/-- Skipped parts contribute nothing: an unresolved outer part, an outer part
found empty, and an outer array part of length 0 give the inner forks the same
names — the names they had before the outer source was known. -/
theorem skipped_parts_share_names (x : Part) :
    forkIdString true true [.undet, x, .undet] = forkIdString true true [.empty, x, .undet] ∧
    forkIdString true true [.undet, x, .undet] = forkIdString true true [.arr 5 0 false, x, .undet] := by
  exact ⟨rfl, rfl⟩

/-- Negative witness (an empty part as found: the id stopped there): under an
outer fork whose run-time source is empty, the inner static forks 1 and 2 of 3
are both `fork0`; skipping the empty part they are `fork1` and `fork2`. -/
theorem forks_under_empty_outer_collide_as_found :
    forkIdString true false [.empty, .arr 1 3 true] = some sFork0 ∧
    forkIdString true false [.empty, .arr 2 3 true] = some sFork0 ∧
    forkIdString true true [.empty, .arr 1 3 true] ≠ forkIdString true true [.empty, .arr 2 3 true] := by decide +kernel

/-- From `forkName_injective`: the fork directories `<node path>/<fork id>` are injective in the
fork-part tuple … -/
theorem forkDir_injective (nodePath : Bytes) (a b : List Part) (ia ib : Bytes)
    (hs : sameShape a b = true) (hva : a.all partOk = true) (hvb : b.all partOk = true)
    (h1 : a.length = 1 → a.all partValid = true) (h1' : b.length = 1 → b.all partValid = true)
    (ha : forkIdString Gen.forkIdReenters Gen.forkIdSkipsEmpty a = some ia) (hb : forkIdString Gen.forkIdReenters Gen.forkIdSkipsEmpty b = some ib)
    (h : nodePath ++ cSlash :: ia = nodePath ++ cSlash :: ib) : a = b := by
  have : ia = ib := by simpa using List.append_cancel_left h
  exact forkName_injective a b hs hva hvb h1 h1' (by rw [ha, hb, this])

/-- … and the fork parts of the journal names `<fqid>.<journalEnc id>` (the
replacer pairs as regenerated). -/
theorem forkJournalName_injective (a b : List Part) (ia ib : Bytes)
    (hs : sameShape a b = true) (hva : a.all partOk = true) (hvb : b.all partOk = true)
    (h1 : a.length = 1 → a.all partValid = true) (h1' : b.length = 1 → b.all partValid = true)
    (ha : forkIdString Gen.forkIdReenters Gen.forkIdSkipsEmpty a = some ia) (hb : forkIdString Gen.forkIdReenters Gen.forkIdSkipsEmpty b = some ib)
    (h : journalEnc Gen.journalPairs ia = journalEnc Gen.journalPairs ib) : a = b := by
  have := journal_name_injective ia ib h
  exact forkName_injective a b hs hva hvb h1 h1' (by rw [ha, hb, this])

-- non-vacuity: a run-time sized array over a map over a static array of 12, two forks of the same shape
example :
    let ks : List Bytes := [[0x61, 0x2F, 0x62], [0x2E]]
    let a : List Part := [.empty, .arr 2 3 false, .key [0x2E] ks true, .arr 11 12 true]
    let b : List Part := [.empty, .arr 1 3 false, .key [0x61, 0x2F, 0x62] ks true, .arr 0 12 true]
    sameShape a b = true ∧ a.all partOk = true ∧ b.all partOk = true ∧
    forkIdString true true a ≠ forkIdString true true b := by decide +kernel

/-- Negative witness (the `forkId` recursion as found, `start+i+1`): under an
array part, the map part is skipped, so the forks for keys `a` and `b` of the
inner map call get the same directory `fork1/fork0`. -/
theorem array_over_map_dirs_collide_as_found :
    forkIdString false false [.arr 1 3 true, .key [0x61] [[0x61], [0x62]] true] = some [0x66, 0x6F, 0x72, 0x6B, 0x31, 0x2F, 0x66, 0x6F, 0x72, 0x6B, 0x30] ∧
    forkIdString false false [.arr 1 3 true, .key [0x62] [[0x61], [0x62]] true] = some [0x66, 0x6F, 0x72, 0x6B, 0x31, 0x2F, 0x66, 0x6F, 0x72, 0x6B, 0x30] := by
  decide +kernel

/-- With the recursion as it is in the working tree the same two forks get
different directories (`fork1/fork_a`, `fork1/fork_b`). -/
theorem array_over_map_dirs_differ :
    forkIdString Gen.forkIdReenters Gen.forkIdSkipsEmpty [.arr 1 3 true, .key [0x61] [[0x61], [0x62]] true]
      ≠ forkIdString Gen.forkIdReenters Gen.forkIdSkipsEmpty [.arr 1 3 true, .key [0x62] [[0x61], [0x62]] true] := by decide

/-! ### The fork set of one node -/

/-- **The forks of ONE node, as `ForkIdSet.MakeForkIds` builds them for
statically sized sources (the cartesian product of the sources' index / key
ranges, any number of nested array and map calls and unresolved sources, map
key sets without repetition), get pairwise distinct names**: the list of their
id strings has no duplicate.  Stated against the regenerated recursion target
and empty-part behaviour of `ForkId.forkId`.  (Forks added later by run-time
expansion have dependent shapes: `forkName_distinct_after_divergence`.) -/
theorem forkSet_names_nodup (srcs : List Src) (h : ∀ s ∈ srcs, srcOk s) :
    ((makeForkIds srcs).map (forkIdString Gen.forkIdReenters Gen.forkIdSkipsEmpty)).Nodup := by
  rw [forkId_reenters_at_map_part, forkId_skips_empty_parts]
  exact forkSet_names_nodup_tt srcs h

/-- … hence pairwise distinct directories and journal names: whenever two
positions of the fork set carry ids `ia`, `ib` with the same journal encoding,
they are the same position. -/
theorem forkSet_journal_names_distinct (srcs : List Src) (h : ∀ s ∈ srcs, srcOk s) (i j : Nat) (ia ib : Bytes)
    (hi : ((makeForkIds srcs).map (forkIdString Gen.forkIdReenters Gen.forkIdSkipsEmpty))[i]? = some (some ia))
    (hj : ((makeForkIds srcs).map (forkIdString Gen.forkIdReenters Gen.forkIdSkipsEmpty))[j]? = some (some ib))
    (he : journalEnc Gen.journalPairs ia = journalEnc Gen.journalPairs ib) : i = j := by
  have hid := journal_name_injective ia ib he
  subst hid
  exact (List.getElem?_inj (List.getElem?_eq_some_iff.mp hi).1 (forkSet_names_nodup srcs h)).mp (hi.trans hj.symm)

-- non-vacuity: a map call (keys `a/b`, `.`) around an array call of 12 around an unresolved source: 24 forks, sources are legal,
-- first source fastest
example :
    let srcs : List Src := [.arr 12, .keys [[0x2E], [0x61, 0x2F, 0x62]], .undet]
    (∀ s ∈ srcs, srcOk s) ∧ (makeForkIds srcs).length = 24 ∧
    (makeForkIds srcs)[13]? = some [.arr 1 12 true, .key [0x61, 0x2F, 0x62] [[0x2E], [0x61, 0x2F, 0x62]] true, .undet] := by
  refine ⟨?_, by decide, by decide⟩
  intro s hs
  simp only [List.mem_cons, List.mem_nil_iff, or_false] at hs
  rcases hs with rfl | rfl | rfl <;> simp [srcOk]

/-! ### Journal file names are parsed back exactly -/

/-- `parseRunFilename (journal name of x) = x` for every well-formed name:
any fqid (even one containing `.fork…` components), any dot-free non-empty fork
part, optional chunk digits, optional 10-hex uniquifier, and a file name that
satisfies `fileOK` (all of martian's do: `metadata_file_names_unambiguous`). -/
theorem parse_render (x : JName) (wf : WellFormed x) : parseRun x.render = some x :=
  parseRun_render x wf

example : WellFormed ⟨[0x41, 0x2E, 0x66, 0x6F, 0x72, 0x6B, 0x31, 0x2E, 0x42],   -- A.fork1.B
    [0x5F, 0x61, 0x25, 0x32, 0x46, 0x62],                                         -- _a%2Fb
    some [0x30, 0x37], some [0x30, 0x31, 0x32, 0x33, 0x34, 0x35, 0x36, 0x37, 0x38, 0x39],
    [0x73, 0x70, 0x6C, 0x69, 0x74, 0x5F, 0x63, 0x6F, 0x6D, 0x70, 0x6C, 0x65, 0x74, 0x65]⟩ :=
  ⟨by decide, by decide, by intro d h; cases h; decide, by intro u h; cases h; decide, by decide⟩

/-- Distinct (node, fork, chunk, attempt, file) records have distinct journal
file names: in particular two attempts of one job (different uniquifiers) never
share a journal name. -/
theorem render_injective (x y : JName) (wx : WellFormed x) (wy : WellFormed y)
    (h : x.render = y.render) : x = y := by
  have hx := parseRun_render x wx
  have hy := parseRun_render y wy
  rw [h, hy] at hx
  exact (Option.some.inj hx).symm

/-! ### Routing to the node -/

/-- `Node.find` returns the node with exactly the requested path: for a tree
whose nodes have pairwise distinct fully-qualified ids `top.fqname.<path>`, the
journal name `<path>` of node `i` is routed to node `i`, in whatever order the
nodes are visited (Go map order), provided no node's full id is itself `<path>`
(true in martian: every full id starts with `ID.<pipestance>.`, no path does).
A name that merely shares a suffix or prefix with another node's id does not
match it. -/
theorem find_routes (top : Bytes) (fqids : List Bytes) (i : Nat) (n : Bytes)
    (hnd : fqids.Nodup) (hi : fqids[i]? = some (top ++ cDot :: n)) (hno : ∀ f ∈ fqids, f ≠ n) :
    findNode top fqids n = some i :=
  findNode_routes top fqids i n hnd hi hno

/-- and the node it returns has exactly that id (with or without the
pipestance prefix), never one that only ends in it. -/
theorem find_exact (top : Bytes) (fqids : List Bytes) (name : Bytes) (j : Nat)
    (h : findNode top fqids name = some j) :
    ∃ f, fqids[j]? = some f ∧ (f = top ++ cDot :: name ∨ f = name) :=
  findNode_sound top fqids name j h

-- TOP.WORK_A vs TOP.SUBTOP.WORK_A under pipestance ID.ps: hypotheses of find_routes are satisfiable
example :
    let top : Bytes := [0x49, 0x44, 0x2E, 0x70, 0x73]                        -- ID.ps
    let a : Bytes := [0x54, 0x4F, 0x50, 0x2E, 0x41]                          -- TOP.A
    let b : Bytes := [0x54, 0x4F, 0x50, 0x2E, 0x53, 0x55, 0x42, 0x54, 0x4F, 0x50, 0x2E, 0x41]  -- TOP.SUBTOP.A
    let fqids := [top ++ cDot :: b, top ++ cDot :: a]
    fqids.Nodup ∧ (∀ f ∈ fqids, f ≠ a) ∧ findNode top fqids a = some 1 := by decide +kernel

/-! ### Routing to the fork -/

/-- `getFork` returns the fork whose name was asked for: for a node whose forks
have pairwise distinct names, the name of fork `i` is routed to position `i`,
whatever the list order and whether or not the name looks like a number. -/
theorem getFork_routes (names : List Bytes) (i : Nat) (n : Bytes)
    (hnd : names.Nodup) (hi : names[i]? = some n) (hne : n ≠ []) :
    getForkNew names n = some i :=
  getForkNew_routes names i n hnd hi hne

/-- and it never returns a fork with a different name (no notification is
attributed to a fork that did not write it). -/
theorem getFork_exact (names : List Bytes) (index : Bytes) (j : Nat)
    (h : getForkNew names index = some j) : names[j]? = some index :=
  (getForkNew_sound names index j h).1

-- fork table of TOP.INNER.ECHO in DESIGN Appendix A.1: positions 0..5 carry fork0, fork2, fork4, fork1, fork3, fork5
example : ([[0x30], [0x32], [0x34], [0x31], [0x33], [0x35]] : List Bytes).Nodup := by decide

/-- Negative witness (F8, `getFork` as found: `Atoi(index)` taken as a list
position first): with that fork table a notification for `fork2` (position 1)
is given to position 2, which is `fork4`. -/
theorem getFork_misroutes_as_found :
    let names : List Bytes := [[0x30], [0x32], [0x34], [0x31], [0x33], [0x35]]
    getForkOld names [0x32] = some 2 ∧ names[2]? = some [0x34] ∧
    getForkNew names [0x32] = some 1 := by decide +kernel

/-- Illustration of a defect CLASS, not a witness about the code: `getForkFold`
is a strawman lookup that compares the fork name up to letter case; no such
code exists in the tree and nothing ties it to any (untied by design).  With that fork
table the notification of fork `s1` (position 2) is given to fork `S1`
(position 0), which sorts first. -/
theorem getFork_case_folding_misroutes :
    let names : List Bytes := [[0x5F, 0x53, 0x31], [0x5F, 0x70, 0x6C, 0x61, 0x69, 0x6E], [0x5F, 0x73, 0x31]]
    getForkFold names [0x5F, 0x73, 0x31] = some 0 ∧ getForkNew names [0x5F, 0x73, 0x31] = some 2 := by decide +kernel

/-- End to end on the model: forks of one node with pairwise distinct ids
`fork ++ tᵢ`; a notification rendered for fork `i` (any chunk, any attempt, any
metadata file) is parsed back to exactly that record and routed to position `i`. -/
theorem notification_reaches_owner (ts : List Bytes) (i : Nat) (t : Bytes)
    (hnd : ts.Nodup) (hi : ts[i]? = some t) (hne : t ≠ [])
    (fqid : Bytes) (chunk uniq : Option Bytes) (file : Bytes)
    (hch : ∀ d, chunk = some d → d ≠ [] ∧ ∀ c ∈ d, isDigit c = true)
    (huq : ∀ u, uniq = some u → u.length = 10 ∧ u.all isLowerHex = true)
    (hfile : fileOK file = true) :
    let x : JName := ⟨fqid, journalEnc Gen.journalPairs t, chunk, uniq, file⟩
    parseRun x.render = some x ∧
    getForkNew (ts.map (journalEnc Gen.journalPairs)) x.forkPart = some i := by
  intro x
  have hne' : journalEnc Gen.journalPairs t ≠ [] :=
    fun h => hne (journalEnc_inj journal_table_percent_encoding (b := []) h)
  refine ⟨parseRun_render x ⟨hne', ?_, hch, huq, hfile⟩, ?_⟩
  · intro c hc hd
    exact (journalEnc_clean journal_table_clean t).1 (hd ▸ hc)
  · apply getForkNew_routes _ i _ (nodup_map_journalEnc journal_table_percent_encoding ts hnd) _ hne'
    simp [hi]

/-! ### Routing: `route (journalName n f j) = (n, f, j)` and nothing else routes -/

/-- Round trip through the regenerated replacer pairs and the regex: in a
pipestance whose nodes have pairwise distinct ids `top.<path>`, the journal
name written for node `n` (path `p`), fork `f` (name `nm`) and job record
(chunk digits, uniquifier, metadata file) is routed to exactly `(n, f, chunk,
uniq, file)`. -/
theorem route_roundtrip (top : Bytes) (nodes : List NodeM) (n f : Nat) (nd : NodeM) (p nm : Bytes)
    (chunk uniq : Option Bytes) (file : Bytes)
    (hnd : (nodes.map (·.fqid)).Nodup) (hn : nodes[n]? = some nd) (hfq : nd.fqid = top ++ cDot :: p)
    (hp : p ≠ []) (hno : ∀ m ∈ nodes, m.fqid ≠ p)
    (hfnd : nd.forks.Nodup) (hf : nd.forks[f]? = some nm)
    (wf : WellFormed ⟨p, nm, chunk, uniq, file⟩) :
    route top nodes (JName.render ⟨p, nm, chunk, uniq, file⟩) = some (n, f, chunk, uniq, file) :=
  route_of_render top nodes n f nd p nm chunk uniq file hnd hn hfq hp hno hfnd hf wf

/-- The fork names of the round trip can be the encoded fork ids: forks of one
node with pairwise distinct id tails get pairwise distinct, dot-free names, as
`route_roundtrip` demands of `nd.forks` (a non-empty tail also gives a non-empty name:
`notification_reaches_owner`). -/
theorem route_fork_names_ok (ts : List Bytes) (hnd : ts.Nodup) :
    (ts.map (journalEnc Gen.journalPairs)).Nodup ∧
    ∀ nm ∈ ts.map (journalEnc Gen.journalPairs), ∀ c ∈ nm, c ≠ cDot := by
  refine ⟨nodup_map_journalEnc journal_table_percent_encoding ts hnd, ?_⟩
  intro nm hnm c hc hd
  obtain ⟨t, _, rfl⟩ := List.mem_map.mp hnm
  exact (journalEnc_clean journal_table_clean t).1 (hd ▸ hc)

/-- Conversely, whatever is routed is the journal name of the job it is routed
to: if `s` is routed to node `n`, fork `f` and a job record, then `s` is exactly
the rendering of (that node's path, that fork's name, that record).  No
prefix, suffix or numeric-position confusion is possible. -/
theorem route_exact (top : Bytes) (nodes : List NodeM) (s : Bytes) (n f : Nat)
    (chunk uniq : Option Bytes) (file : Bytes)
    (h : route top nodes s = some (n, f, chunk, uniq, file)) :
    ∃ nd p nm, nodes[n]? = some nd ∧ (nd.fqid = top ++ cDot :: p ∨ nd.fqid = p) ∧ p ≠ [] ∧
      nd.forks[f]? = some nm ∧ s = JName.render ⟨p, nm, chunk, uniq, file⟩ :=
  route_sound top nodes s n f chunk uniq file h

/-- A name that no (node, fork, job record) of the pipestance produces routes
nowhere. -/
theorem route_nowhere (top : Bytes) (nodes : List NodeM) (s : Bytes)
    (h : ∀ (n : Nat) (nd : NodeM) (f : Nat) (nm p : Bytes) (chunk uniq : Option Bytes) (file : Bytes), nodes[n]? = some nd → (nd.fqid = top ++ cDot :: p ∨ nd.fqid = p) →
      nd.forks[f]? = some nm → s ≠ JName.render ⟨p, nm, chunk, uniq, file⟩) :
    route top nodes s = none := by
  cases hr : route top nodes s with
  | none => rfl
  | some r =>
    obtain ⟨n, f, chunk, uniq, file⟩ := r
    obtain ⟨nd, p, nm, hn, hfq, _, hf, hs⟩ := route_sound top nodes s n f chunk uniq file hr
    exact absurd hs (h n nd f nm p chunk uniq file hn hfq hf)

-- ID.ps with nodes TOP.A (forks 0, 1) and TOP.SUBTOP.A (fork 0): TOP.A.fork1.chnk0.complete goes to (node 1, fork 1);
-- the suffix-cut OP.A.fork1.chnk0.complete and the padded TOP.A.fork01.chnk0.complete route nowhere
example :
    let top : Bytes := [0x49, 0x44, 0x2E, 0x70, 0x73]
    let a : Bytes := [0x54, 0x4F, 0x50, 0x2E, 0x41]
    let b : Bytes := [0x54, 0x4F, 0x50, 0x2E, 0x53, 0x55, 0x42, 0x54, 0x4F, 0x50, 0x2E, 0x41]
    let nodes : List NodeM := [⟨top ++ cDot :: b, [[0x30]]⟩, ⟨top ++ cDot :: a, [[0x30], [0x31]]⟩]
    let file : Bytes := [0x63, 0x6F, 0x6D, 0x70, 0x6C, 0x65, 0x74, 0x65]
    (route top nodes (JName.render ⟨a, [0x31], some [0x30], none, file⟩)).map (fun r => (r.1, r.2.1)) = some (1, 1) ∧
    route top nodes (JName.render ⟨a.drop 1, [0x31], some [0x30], none, file⟩) = none ∧
    route top nodes (JName.render ⟨a, [0x30, 0x31], some [0x30], none, file⟩) = none := by decide +kernel

/-! ### Attempt identity -/

/-- A job is (re)started any number of times; attempt `k` is given the
uniquifier `draw k`, and every notification written by a process of attempt `k`
carries it.  ASSUMPTION (freshness): `draw` is injective — no two attempts of
one job get the same uniquifier.  Then, for every history of resets and
notifications (stragglers of older attempts included, in any order), every
notification in the metadata cache is credited to the current attempt and was
written by that attempt. -/
theorem attempt_exact {U : Type} [DecidableEq U] (draw : Nat → U)
    (fresh : ∀ a b, draw a = draw b → a = b) (evs : List JobEv) :
    ∀ q ∈ (jobRun draw ⟨0, draw 0, []⟩ evs).recorded,
      q.1 = (jobRun draw ⟨0, draw 0, []⟩ evs).attempt ∧ JobEv.notify q.1 q.2 ∈ evs := by
  intro q hq
  have := jobRun_exact draw fresh evs ⟨0, draw 0, []⟩ rfl (by simp) q hq
  refine ⟨this.1, ?_⟩
  rcases this.2 with h | h
  · exact h
  · simp at h

/-- Freshness as the code provides it within one process: the time part of the
uniquifier of a retry is `nextTime old now` (`nextUniquifier`), strictly above
the previous attempt's whatever the clock reads — also within the same second
— so the sequence is injective and `attempt_exact` applies.  (Across processes
freshness rests on the process id + wall clock; the 24-bit time field wraps
after ~194 days.) -/
theorem attempt_exact_same_process (now : Nat → Nat) (evs : List JobEv) :
    ∀ q ∈ (jobRun (attemptTime now) ⟨0, attemptTime now 0, []⟩ evs).recorded,
      q.1 = (jobRun (attemptTime now) ⟨0, attemptTime now 0, []⟩ evs).attempt ∧ JobEv.notify q.1 q.2 ∈ evs :=
  attempt_exact (attemptTime now) (attemptTime_inj now) evs

-- the clock stands still for three attempts: the uniquifier times still differ
example : (attemptTime (fun _ => 7) 0, attemptTime (fun _ => 7) 1, attemptTime (fun _ => 7) 2) = (7, 8, 9) := by decide

/-- Negative witness (uniquifier by clock second alone, or kept across the
reset): when attempts 0 and 1 get the same uniquifier, a straggler of attempt 0
reporting after the reset is credited to attempt 1. -/
theorem stale_attempt_credited_without_freshness :
    let evs := [JobEv.reset, JobEv.notify 0 [0x63]]
    (1, [0x63]) ∈ (jobRun (fun _ : Nat => (7 : Nat)) ⟨0, 7, []⟩ evs).recorded := by decide

/-! ### One refresh cycle over a batch of journal entries

`Node.refreshState` reads the whole journal directory in one cycle.  The model
of a cycle is the entry-by-entry map (`routeBatch`, `creditTable`): nothing is
carried from one entry to the next.  The harness feeds batches through the real
`refreshState` in ONE cycle and compares the credit table; a cache or any other
state that makes the result for an entry depend on the entries read before it
is a correspondence violation (`routeBatch_stateless`, `creditTable_stateless`
say what the model promises). -/

/-- Batch lift of `route_roundtrip`: whatever set of jobs of the tree wrote a
notification between two cycles (any nodes — also ones whose names are
prefixes of each other —, any forks, split / join / chunk jobs, any attempts,
any metadata files, in any order and multiplicity), every entry is routed to
exactly the (node, fork, chunk digits, uniquifier, file) that wrote it. -/
theorem routeBatch_roundtrip (top : Bytes) (nodes : List NodeM) (nch : Nat → Nat → Nat)
    (hnd : (nodes.map (·.fqid)).Nodup) (recs : List JobRec) (hv : ∀ r ∈ recs, ValidJob top nodes nch r) :
    routeBatch top nodes (recs.map JobRec.name) = recs.map fun r => some r.target :=
  routeBatch_jobNames top nodes nch hnd recs hv

/-- Down to the metadata object: the journal name a job writes is delivered to
exactly that job's object (fork / split / join / chunk `i`, the chunk index
read back from its zero-padded decimal rendering at every width), with the
uniquifier it carries and the bare metadata file name. -/
theorem deliver_roundtrip (top : Bytes) (nodes : List NodeM) (nch : Nat → Nat → Nat)
    (hnd : (nodes.map (·.fqid)).Nodup) (r : JobRec) (v : ValidJob top nodes nch r) :
    deliver top nodes nch r.name = some ⟨r.owner, r.uniq.getD [], r.file⟩ :=
  deliver_jobName top nodes nch hnd r v

/-- **Credit table of a cycle**: for every batch of notifications written by
jobs of the tree, each metadata object `o` is credited exactly the files that
`o` itself wrote under its current uniquifier — in the batch's order, with
multiplicity — and nothing else. -/
theorem creditTable_exact (top : Bytes) (nodes : List NodeM) (nch : Nat → Nat → Nat) (uq : Owner → Bytes)
    (hnd : (nodes.map (·.fqid)).Nodup) (recs : List JobRec) (hv : ∀ r ∈ recs, ValidJob top nodes nch r) (o : Owner) :
    creditedTo top nodes nch uq (recs.map JobRec.name) o
      = ((recs.filter (JobRec.current uq)).filter (fun r => r.owner = o)).map (·.file) :=
  creditedTo_jobNames top nodes nch uq hnd recs hv o

-- non-vacuity: ID.ps with nodes P.X (forks 0..10, 2 chunks each) and P.X1 (fork 0): the chunk-1 job of P.X fork 10 and
-- the split job of P.X1 fork 0 are valid job records ("P.X"+"10" = "P.X1"+"0" as plain concatenations)
example :
    let top : Bytes := [0x49, 0x44, 0x2E, 0x70, 0x73]
    let px : Bytes := [0x50, 0x2E, 0x58]
    let px1 : Bytes := [0x50, 0x2E, 0x58, 0x31]
    let file : Bytes := [0x63, 0x6F, 0x6D, 0x70, 0x6C, 0x65, 0x74, 0x65]
    let nodes : List NodeM := [⟨top ++ cDot :: px, [[0x30], [0x31], [0x32], [0x33], [0x34], [0x35], [0x36], [0x37], [0x38], [0x39], [0x31, 0x30]]⟩,
      ⟨top ++ cDot :: px1, [[0x30]]⟩]
    (nodes.map (·.fqid)).Nodup ∧
    ValidJob top nodes (fun _ _ => 2) ⟨0, 10, .chunk 1, none, file, px, [0x31, 0x30], 1⟩ ∧
    ValidJob top nodes (fun _ _ => 2) ⟨1, 0, .split, none, file, px1, [0x30], 1⟩ := by
  refine ⟨by decide, ⟨⟨_, rfl, rfl, by decide, rfl⟩, by decide, by decide, by decide, by decide, (by intro u h; cases h), ?_⟩,
    ⟨⟨_, rfl, rfl, by decide, rfl⟩, by decide, by decide, by decide, by decide, (by intro u h; cases h), ?_⟩⟩
  · simp only [slotValid]; decide
  · simp only [slotValid]; decide

/-- … nobody else receives anything: whatever a cycle credits to an object `o`
(for ANY directory content, valid names or not) is an entry of the batch that is
literally the journal name of `o`'s node and fork, whose chunk digits / file
prefix select `o`'s slot, and that carries `o`'s current uniquifier. -/
theorem creditTable_nobody_else (top : Bytes) (nodes : List NodeM) (nch : Nat → Nat → Nat) (uq : Owner → Bytes)
    (batch : List Bytes) (o : Owner) (name : Bytes) (h : (o, name) ∈ creditTable top nodes nch uq batch) :
    ∃ s ∈ batch, ∃ nd p nm ch u file, nodes[o.node]? = some nd ∧ (nd.fqid = top ++ cDot :: p ∨ nd.fqid = p) ∧ p ≠ [] ∧
      nd.forks[o.fork]? = some nm ∧ s = JName.render ⟨p, nm, ch, u, file⟩ ∧
      slotOf (nch o.node o.fork) ch file = some (o.slot, name) ∧ uq o = u.getD [] := by
  obtain ⟨s, hs, d, hd, ho, hf, hu⟩ := creditTable_mem top nodes nch uq batch o name h
  obtain ⟨nd, p, nm, ch, u, file, h1, h2, h3, h4, h5, h6, h7⟩ := deliver_sound top nodes nch s d hd
  subst ho
  subst hf
  exact ⟨s, hs, nd, p, nm, ch, u, file, h1, h2, h3, h4, h5, h6, by rw [hu, h7]⟩

/-- Illustration of a defect CLASS, not a witness about the code
(`routeMemoConcat` is a strawman, untied by design): a cycle that memoises the
(node, fork) lookup under the plain concatenation `fqid ++ forkPart` is NOT
the map of `route`.  With nodes
`P.X` (11 forks) and `P.X1` (1 fork), the entries `P.X.fork10.chnk0.complete`
and `P.X1.fork0.chnk0.log` read in one cycle share the key `P.X10`: the second
one is handed to node 0 / fork 10 instead of node 1 / fork 0.  (The harness's
batch stream sends such pairs through the real `refreshState`.) -/
theorem memo_by_concatenation_misroutes :
    let top : Bytes := [0x49, 0x44, 0x2E, 0x70, 0x73]
    let px : Bytes := [0x50, 0x2E, 0x58]
    let px1 : Bytes := [0x50, 0x2E, 0x58, 0x31]
    let nodes : List NodeM := [⟨top ++ cDot :: px, [[0x30], [0x31], [0x32], [0x33], [0x34], [0x35], [0x36], [0x37], [0x38], [0x39], [0x31, 0x30]]⟩,
      ⟨top ++ cDot :: px1, [[0x30]]⟩]
    let e1 := JName.render ⟨px, [0x31, 0x30], some [0x30], none, [0x63, 0x6F, 0x6D, 0x70, 0x6C, 0x65, 0x74, 0x65]⟩
    let e2 := JName.render ⟨px1, [0x30], some [0x30], none, [0x6C, 0x6F, 0x67]⟩
    (routeBatch top nodes [e1, e2]).map (Option.map fun t => (t.1, t.2.1)) = [some (0, 10), some (1, 0)] ∧
    (routeMemoConcat top nodes [] [e1, e2]).map (Option.map fun t => (t.1, t.2.1)) = [some (0, 10), some (0, 10)] := by
  decide +kernel

/-! ### Name lengths (keys used as directory and journal names) -/

/-- `makeKeySafe` lengthens a key by exactly two bytes per escaped byte … -/
theorem pathEscape_length_exact (k : Bytes) : (pathEscape k).length = k.length + 2 * escCount k :=
  pathEscape_length k

/-- … so a safe key is between one and three times as long as the key, and
exactly as long when no byte needs escaping. -/
theorem pathEscape_length_bounds (k : Bytes) :
    k.length ≤ (pathEscape k).length ∧ (pathEscape k).length ≤ 3 * k.length ∧
    (k.all (fun c => !shouldEscape c) = true → (pathEscape k).length = k.length) := by
  have h := pathEscape_length k
  have h2 := escCount_le k
  refine ⟨by omega, by omega, ?_⟩
  intro hall
  rw [h, escCount_zero k hall]; rfl

/-- The fork directory of map key `k` is `fork_` + safe key: `5 + |k| + 2·(escaped bytes)`. -/
theorem mapForkDir_length_exact (k : Bytes) : (mapForkDir k).length = 5 + k.length + 2 * escCount k :=
  mapForkDir_length k

/-- Whatever its bytes, a key of at most 83 bytes gets a directory name within
`NAME_MAX` = 255; a key without escaped bytes may have 250. -/
theorem mapForkDir_fits (k : Bytes) :
    (k.length ≤ 83 → (mapForkDir k).length ≤ nameMax) ∧
    (k.all (fun c => !shouldEscape c) = true → k.length ≤ 250 → (mapForkDir k).length ≤ nameMax) := by
  have h := mapForkDir_length k
  have h2 := escCount_le k
  refine ⟨fun hk => by unfold nameMax; omega, fun hall hk => ?_⟩
  rw [h, escCount_zero k hall]; unfold nameMax; omega

/-- Both bounds are sharp: 84 bytes `0xFF` (a key of 84 bytes, well within the
255 bytes a file name may have) give a 257-byte directory name, and 251 letters
give 256 — `mkdir` fails with ENAMETOOLONG for a legal map key. -/
theorem mapForkDir_exceeds_name_max :
    (List.replicate 84 (0xFF : UInt8)).length ≤ nameMax ∧ (mapForkDir (List.replicate 84 0xFF)).length = 257 ∧
    (List.replicate 251 (0x61 : UInt8)).length ≤ nameMax ∧ (mapForkDir (List.replicate 251 0x61)).length = 256 := by
  simp only [mapForkDir_length, escCount, List.countP_replicate, List.length_replicate]
  decide

/-- The fork part of the journal name (`encodeJournalName` of the directory
name, replacer pairs as regenerated) is at most `5 + 5·|k|` bytes: an escaped
byte `%XX` becomes `%25XX`. -/
theorem journal_forkpart_length (k : Bytes) :
    (journalEnc Gen.journalPairs (mapForkDir k)).length ≤ 5 + 5 * k.length :=
  journalEnc_mapForkDir_length k

/-- Length of a journal file name; it is ONE path component (the journal is a
flat directory), so it too must stay within `NAME_MAX`. -/
theorem journal_name_length (x : JName) :
    x.render.length = x.fqid.length + 5 + x.forkPart.length +
      (match x.chunk with | some d => 5 + d.length | none => 0) +
      (match x.uniq with | some u => 2 + u.length | none => 0) + 1 + x.file.length :=
  render_length x

/-- The journal name of a chunk job of the fork for key `k` fits `NAME_MAX`
when `|fqid| + 5·|k| + |digits| + |file| ≤ 228` (uniquifier present). -/
theorem journal_name_fits (fqid k d u file : Bytes) (hu : u.length = 10)
    (h : fqid.length + 5 * k.length + d.length + file.length ≤ 228) :
    (JName.render ⟨fqid, (journalEnc Gen.journalPairs (mapForkDir k)).drop 4, some d, some u, file⟩).length ≤ nameMax := by
  rw [render_length]
  have := journalEnc_mapForkDir_length k
  simp only [List.length_drop, hu]
  unfold nameMax
  omega

-- the hypothesis of journal_name_fits holds for a 40-byte key of bytes 0xFF under TOP.S (one digit, file `complete`)
example : ([0x54, 0x4F, 0x50, 0x2E, 0x53] : Bytes).length + 5 * (List.replicate 40 (0xFF : UInt8)).length + 1 + 8 ≤ 228 := by decide

/-! ### definitional unfoldings (documentation of the model, not guarantees)

`routeBatch` / `creditTable` are DEFINED as the entry-by-entry map (see the section "One refresh cycle" above),
so `routeBatch_stateless`, `creditTable_stateless`, `routeBatch_perm`, `creditedTo_perm` hold by unfolding;
`stale_uniquifier_ignored` unfolds `cacheAccepts`, and `getFork_distinguishes_near_equal` is `getFork_routes`
applied twice. -/

/-- A cycle carries no state between entries: the routes of a batch are the
routes of its parts, whatever was read before … -/
theorem routeBatch_stateless (top : Bytes) (nodes : List NodeM) (a b : List Bytes) :
    routeBatch top nodes (a ++ b) = routeBatch top nodes a ++ routeBatch top nodes b := by
  simp [routeBatch]

/-- … and so is the credit table. -/
theorem creditTable_stateless (top : Bytes) (nodes : List NodeM) (nch : Nat → Nat → Nat) (uq : Owner → Bytes)
    (a b : List Bytes) :
    creditTable top nodes nch uq (a ++ b) = creditTable top nodes nch uq a ++ creditTable top nodes nch uq b := by
  simp [creditTable]

/-- The order of the directory listing does not matter: permuting the batch
permutes the routes … -/
theorem routeBatch_perm (top : Bytes) (nodes : List NodeM) (a b : List Bytes) (h : a.Perm b) :
    (routeBatch top nodes a).Perm (routeBatch top nodes b) := h.map _

/-- … and every object is credited the same multiset of files. -/
theorem creditedTo_perm (top : Bytes) (nodes : List NodeM) (nch : Nat → Nat → Nat) (uq : Owner → Bytes)
    (a b : List Bytes) (h : a.Perm b) (o : Owner) :
    (creditedTo top nodes nch uq a o).Perm (creditedTo top nodes nch uq b o) :=
  (h.filterMap _).filterMap _

/-- `Metadata.cache`: a notification is recorded iff it carries the current
attempt's uniquifier (a stale attempt's notification is ignored). -/
theorem stale_uniquifier_ignored (own seen : Bytes) : cacheAccepts own seen = true ↔ own = seen := by
  simp [cacheAccepts]

/-- **The lookup is exact, so near-equal names are routed apart**: two forks of
one node whose names differ — in the case of one letter, a trailing space, the
normal form of an accent, the hex case of an escape, a leading zero, anything —
are each found under their own name, at different positions.  No equivalence
coarser than byte equality is applied.  (A corollary: `getFork_routes` applied
twice; the guarantee is `getFork_routes` / `getFork_exact`.) -/
theorem getFork_distinguishes_near_equal (names : List Bytes) (i j : Nat) (a b : Bytes)
    (hnd : names.Nodup) (hi : names[i]? = some a) (hj : names[j]? = some b) (ha : a ≠ []) (hb : b ≠ []) (hab : a ≠ b) :
    getForkNew names a = some i ∧ getForkNew names b = some j ∧ i ≠ j := by
  refine ⟨getForkNew_routes names i a hnd hi ha, getForkNew_routes names j b hnd hj hb, ?_⟩
  intro e
  subst e
  rw [hi] at hj
  exact hab (Option.some.inj hj)

-- the fork table of a map call over the keys S1, plain, s1 (names `_S1`, `_plain`, `_s1`): hypotheses satisfiable, and the
-- two case-distinct keys are found at their own positions 0 and 2
example :
    let names : List Bytes := [[0x5F, 0x53, 0x31], [0x5F, 0x70, 0x6C, 0x61, 0x69, 0x6E], [0x5F, 0x73, 0x31]]
    names.Nodup ∧ getForkNew names [0x5F, 0x53, 0x31] = some 0 ∧ getForkNew names [0x5F, 0x73, 0x31] = some 2 := by decide +kernel

end Props.C11
