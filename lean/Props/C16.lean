/-
C16 — MRO call text and invocation JSON convert into each other without loss.
The property theorems (and `dataOf_reparse`, a helper of three of them; lemmas: Proofs/Invocation*.lean,
Proofs/JsonBytes*.lean; model:
Martian/Invocation*.lean; Martian/Invocation.lean says what is abstracted: string escape syntax,
float printing by strconv, Go map order).

What "survives unchanged" means for numbers (the documented "≈"):
* the numeric value (as a real number) of every number survives EXACTLY, in
  both directions and through the text leg (`float_value_preserved`,
  `format_parse_preserves_json`);
* the int-vs-float SYNTAX of an integral value is not preserved: JSON has one
  number type, `FloatExp.appendJSON` writes a float that is integral and within
  int64 as a JSON integer (`1234567.0`, `1e6` ↦ `1234567`, `1000000`) and the
  MRO printer writes integral floats below 10^6 without `.`; read back they are
  integers (`float_syntax_not_preserved`).  Integer → float is an implicit
  conversion of the language, so the call is equivalent for float / untyped
  parameters.  `normJ` / `normE` / `encLit` are this normalisation;
* the sign of a floating-point zero is lost (`negative_zero_sign_lost`):
  recorded as known finding C16:negative-zero.
Struct-vs-map flags of map literals are dictated by the parameter type (`wt`);
`erase` forgets them.
-/
import Martian.Invocation
import Proofs.Invocation
import Martian.InvocationStr
import Proofs.InvocationStr
import Martian.InvocationText
import Proofs.InvocationText
import Martian.JsonBytes
import Proofs.JsonBytes
import Proofs.JsonBytesFilter
import Martian.InvocationSort
import Proofs.InvocationSort
import Martian.InvocationFork
import Proofs.InvocationFork
import Proofs.InvocationForkTyped
import Gen.Facts

namespace Props.C16
open Martian.Invocation

/-- Regenerated obligation: the JSON key `convertToExp` reads a split operand
from (struct tag) and `SplitExp.encodeJSON` writes it under are the model's
`splitKey`. -/
theorem facts_split_key : Gen.invocationSplitKey = splitKey := by decide

/-- Regenerated obligation: `FloatExp.format` (MRO text) and
`FloatExp.appendJSON` (JSON) fall back to `strconv.AppendFloat(_, v, 'g', -1, 64)`
— the rule `Flt.textAsInt` models (shortest digits, `%e` iff exponent < -4 or ≥ 6). -/
theorem facts_float_format : Gen.floatExpFormat = [(0x67, -1, 64), (0x67, -1, 64)] := by decide

/-- Regenerated obligation: the shape of `FloatExp.appendJSON` that
`Flt.jsonAsInt` models — range check `-2^63 ≤ v < 2^63` (the conversion
of an out-of-range float is implementation-defined, so it is never performed),
guard `i := int64(e.Value); float64(i) == e.Value`,
then `strconv.AppendInt(buf, i, 10)` — and both `MarshalJSON` and `EncodeJSON`
of `FloatExp` go through it.  The ORDER "range check before the conversion" is observable by no run on
amd64 (the out-of-range conversion is implementation-defined, not wrong here), so this fact is its only
tie: the obligation includes `_extracted = true`, i.e. a defeated extraction pattern breaks it instead of
falling back to the committed default.  `facts_split_key` and
`facts_float_format` may fall back: the binding correspondence on split arguments and the float
token-class stream detect a semantic change of either. -/
theorem facts_float_json_shape : Gen.floatJsonShape_extracted = true ∧ Gen.floatJsonShape =
    ["range e.Value >= -9223372036854775808.0 && e.Value < 9223372036854775808.0",
     "init i := int64(e.Value)", "cond float64(i) == e.Value", "then strconv.AppendInt(buf, i, 10)",
     "caller EncodeJSON", "caller MarshalJSON"] := ⟨rfl, rfl⟩

/-- The numeric value of a scalar survives the JSON printer exactly: the only
thing that changes is that a float whose value is integral and within int64
becomes the integer `± m·2^e`, which IS its value (for `0 ≤ e` or `m = 0`). -/
theorem float_value_preserved (l : Lit) :
    encLit l = l ∨ ∃ f, l = .flt f ∧ f.isIntegral = true ∧ inInt64 f.intVal = true
      ∧ encLit l = .int f.intVal := by
  cases l with
  | flt f =>
    by_cases h : f.jsonAsInt = true
    · refine Or.inr ⟨f, rfl, ?_, jsonAsInt_inInt64 f h, by simp [encLit, h]⟩
      simp only [Flt.jsonAsInt, Bool.or_eq_true, beq_iff_eq, Bool.and_eq_true,
        decide_eq_true_eq] at h
      simp only [Flt.isIntegral, Bool.or_eq_true, beq_iff_eq, decide_eq_true_eq]
      rcases h with h | h
      · exact Or.inl h
      · exact Or.inr h.1
    · exact Or.inl (by simp [encLit, h])
  | _ => exact Or.inl rfl

/-- … and likewise for the MRO text printer followed by the lexer. -/
theorem float_value_preserved_text (l : Lit) :
    textLit l = l ∨ ∃ f, l = .flt f ∧ f.isIntegral = true ∧ textLit l = .int f.intVal := by
  rcases textLit_cases l with h | h
  · exact .inl h
  · rw [h]
    exact (float_value_preserved l).imp_right fun ⟨f, e, hi, _, he⟩ => ⟨f, e, hi, he⟩

/-- THE NUMERIC VALUE SURVIVES: with `Lit.val` = the exact dyadic value `n·2^e` of a
number literal (`Flt.val`: an exact rational, zero of either sign is `(0,0)`), neither printer
changes the value of any number – only, for integral values, its int-vs-float syntax class. -/
theorem number_value_preserved_json (l : Lit) : (encLit l).val = l.val := by
  cases l with
  | flt f =>
    by_cases h : f.jsonAsInt = true
    · simp only [encLit, h, ↓reduceIte, Lit.val]
      simp only [Flt.jsonAsInt, Bool.or_eq_true, beq_iff_eq, Bool.and_eq_true, decide_eq_true_eq] at h
      rw [Flt.val_of_integral f (h.imp id (fun hh => hh.1))]
    · simp [encLit, h]
  | _ => rfl

/-- … and the same for the MRO text printer followed by the lexer -/
theorem number_value_preserved_text (l : Lit) : (textLit l).val = l.val := by
  rcases textLit_cases l with h | h <;> rw [h]; exact number_value_preserved_json l

/-- `Lit.val` really computes values: 2.5 = 5·2^-1, 1234567.0 = 1234567, -0.0 = 0, -2^63 -/
example : Lit.val (.flt ⟨false, 5, -1⟩) = some (5, -1) ∧ Lit.val (.flt ⟨false, 1234567, 0⟩) = some (1234567, 0)
    ∧ Lit.val (.flt ⟨true, 0, 0⟩) = some (0, 0) ∧ Lit.val (.flt ⟨true, 1, 63⟩) = some (-9223372036854775808, 0)
    ∧ Lit.val (.int 7) = some (7, 0) ∧ Lit.val (.str []) = none := by decide

/-- the ∀-statements range over every representative; the float64 decomposition is the canonical
one (`m` odd): `4·2^-2` is a non-canonical spelling of `1.0` which `isIntegral` does not recognise -/
example : Flt.canonical ⟨false, 4, -2⟩ = false ∧ Flt.canonical ⟨false, 5, -1⟩ = true
    ∧ Flt.isIntegral ⟨false, 4, -2⟩ = false := by decide

/-- What is really lost, 1: the float syntax of an integral value.  The MRO
literal `1234567.0` (a `FloatExp`) is marshalled as `1234567` and read back as
an integer; `2.5` stays a float; 2^63 (outside int64) stays a float. -/
theorem float_syntax_not_preserved :
    encLit (.flt ⟨false, 1234567, 0⟩) = .int 1234567
    ∧ encLit (.flt ⟨false, 5, -1⟩) = .flt ⟨false, 5, -1⟩
    ∧ encLit (.flt ⟨false, 1, 63⟩) = .flt ⟨false, 1, 63⟩
    ∧ encLit (.flt ⟨true, 1, 63⟩) = .int (-9223372036854775808) := by decide

/-- What is really lost, 2 (known finding C16:negative-zero): `-0.0` comes
back as the integer `0` from either printer — the sign of zero is gone. -/
theorem negative_zero_sign_lost :
    encLit (.flt ⟨true, 0, 0⟩) = .int 0 ∧ textLit (.flt ⟨true, 0, 0⟩) = .int 0 := by decide

/-- The tree function `reparse` (what the text leg returns: `text_leg_is_format_parse_partial` below proves
that it IS formatter ∘ lexer ∘ parser) does not change the JSON a call marshals to — although the
two printers use different rules for integer syntax (10^6 vs int64).  On its own this is a
statement about the tree function only. -/
theorem format_parse_preserves_json (e : Exp) : encode (reparse e) = encode e :=
  encode_reparse e

/-- JSON → expression → JSON (any parameter type, any JSON value): whenever
`convertToExp` yields an expression, marshalling it gives back the JSON value
up to float normalisation — in particular the result does not depend on the
type used for the struct-vs-map decision. -/
theorem encode_convert (t : TypeId) (j : J) (e : Exp) (h : convert t j = some e) :
    encode e = normJ j :=
  encode_convert' t j e h

/-- … and `convertToExp` does yield an expression whenever every integer
literal fits int64; for JSON already in normal form the round trip is the
identity. 
`_partial`: the hypothesis `jIntsOk` (integer-syntax numbers fit int64) restricts the domain; without it
the statement is false: `int_2_63_not_convertible` (2^63 has no expression: the tokenizer turns an integer
token that does not fit 64 bits into INVALID). -/
theorem encode_convert_exact_partial (t : TypeId) (j : J) (hi : jIntsOk j = true) :
    ∃ e, convert t j = some e ∧ encode e = normJ j ∧ (normJ j = j → encode e = j) := by
  obtain ⟨e0, h0⟩ := ofJ_isSome j hi
  refine ⟨fix t.base t.arrayDim t.mapDim e0, by simp [convert, h0], ?_, ?_⟩
  · rw [encode_fix, encode_ofJ j e0 h0]
  · intro hn; rw [encode_fix, encode_ofJ j e0 h0, hn]

/-- The first direction on one argument at TREE level: invocation JSON → `convertToExp` → the tree
function `reparse` → `MarshalJSON` gives the JSON value back (up to the normalisation above).  The
statement with the real text in the middle – print the call, lex, parse – is
`source_roundtrip_text_partial` below. -/
theorem source_roundtrip (t : TypeId) (j : J) (e : Exp) (h : convert t j = some e) :
    encode (reparse e) = normJ j := by
  rw [encode_reparse, encode_convert t j e h]

/-- The hypothesis on integers is necessary: `9223372036854775808`
(2^63, 19 digits: accepted by the int token rule) has no expression. -/
theorem int_2_63_not_convertible (t : TypeId) :
    convert t (.lit (.int 9223372036854775808)) = none := by
  simp [convert, ofJ, litOk, inInt64]

/-- Expression → JSON → expression: a literal that is well-typed at the
parameter's type `t` (shape and struct-vs-map flags as the type dictates)
comes back unchanged up to float normalisation. 
`_partial`: `intsOk` (integer literals fit int64 – true of anything the MRO parser built) restricts the
domain of "all values"; `wt` is the property's own quantifier (values of the declared type). -/
theorem convert_encode_partial (t : TypeId) (e : Exp)
    (hw : wt t.base t.arrayDim t.mapDim e = true) (hi : intsOk e = true) :
    convert t (encode e) = some (normE e) := by
  simp only [convert, ofJ_encode e hi, Option.map_some, erase_normE, fix_normE,
    fix_erase_wt e _ _ _ hw]

/-- JSON OF THE DECLARED TYPE CONVERTS TO A WELL-TYPED LITERAL: if the JSON value has
the shape of the parameter's type (`jWt`: arrays under array dims, objects under typed maps, objects
with declared members only under struct types, any object under the untyped `map`, scalars or `null`
elsewhere) and its integers fit int64, then `convertToExp` yields an expression that is well-typed at
that type – it carries exactly the struct-vs-map flags the compiler demands, so the printed call
type-checks as far as literal shapes go – and that marshals back to the value.  (This is the direction
in which the type-directed decision matters; `encode_convert` alone does not exercise it.) -/
theorem convert_wt (t : TypeId) (j : J) (hi : jIntsOk j = true)
    (hw : jWt t.base t.arrayDim t.mapDim j = true) :
    ∃ e, convert t j = some e ∧ wt t.base t.arrayDim t.mapDim e = true ∧ encode e = normJ j := by
  obtain ⟨e0, h0⟩ := ofJ_isSome j hi
  refine ⟨fix t.base t.arrayDim t.mapDim e0, by simp [convert, h0], wt_fix_ofJ j e0 _ _ _ h0 hw, ?_⟩
  rw [encode_fix, encode_ofJ j e0 h0]

/-- the typing hypothesis is necessary: a struct value with an undeclared key converts to an
expression the compiler rejects (`wt` false) -/
theorem convert_undeclared_member_not_wt :
    jWt (.struct (.cons [0x61] .scalar 0 0 .nil)) 0 0 (.obj (.cons [0x78] (.lit (.int 1)) .nil)) = false
    ∧ (convert ⟨.struct (.cons [0x61] .scalar 0 0 .nil), 0, 0⟩ (.obj (.cons [0x78] (.lit (.int 1)) .nil))).map
        (wt (.struct (.cons [0x61] .scalar 0 0 .nil)) 0 0) = some false := by
  constructor <;> rfl

/-- Without any typing hypothesis the values still survive: the result differs
from the original at most in struct-vs-map flags (and float normalisation). -/
theorem convert_encode_values (t : TypeId) (e : Exp) (hi : intsOk e = true) :
    ∃ e', convert t (encode e) = some e' ∧ erase e' = erase (normE e) := by
  refine ⟨_, by simp only [convert, ofJ_encode e hi, Option.map_some]; rfl, ?_⟩
  rw [erase_fix, erase_erase]

/-- One round trip reaches a fixed point of the JSON side (second conversion
changes nothing): the analogue of "formatting the regenerated source again
gives the same text". -/
theorem roundtrip_stable (t : TypeId) (e e' : Exp) (h' : convert t (encode e) = some e') :
    encode e' = encode e := by
  rw [encode_convert t (encode e) e' h', normJ_encode]

/-- Split status survives JSON → call → JSON: an argument is listed in the
regenerated `splitargs` iff it was listed in the input, and its value comes
back as exactly `{"split": v}` with `v` preserved (`canonArg`). -/
theorem split_status_roundtrip (s : Bool) (t : TypeId) (j : J) (a : Arg)
    (h : buildBinding s t j = some a) :
    dataOfBinding a = (s, canonArg s j) := by
  obtain ⟨h1, h2⟩ := dataOfBinding_buildBinding s t j a h
  rw [dataOfBinding, h1, h2]

/-- Split status survives call → JSON → call: a plain binding well-typed at the
parameter's type `t`, or a split binding whose operand is what the compiler
accepts for a split over `t` (`splitOperandOk`: an array of `t`-values or a map
literal of `t`-values – also when `t` is itself a typed map – or `null`), is rebuilt with the same split status and the
same value (up to float normalisation). 
`_partial`: as `convert_encode_partial` (`intsOk`). -/
theorem binding_roundtrip_partial (t : TypeId) (a : Arg)
    (hw : match a with
      | .plain e => wt t.base t.arrayDim t.mapDim e = true
      | .split e => splitOperandOk t e = true)
    (hi : intsOk a.value = true) :
    buildBinding (dataOfBinding a).1 t (dataOfBinding a).2 =
      some (match a with | .plain e => .plain (normE e) | .split e => .split (normE e)) := by
  cases a with
  | plain e =>
    simp [dataOfBinding, Arg.isSplit, encodeArg, buildBinding, convert_encode_partial t e hw hi]
  | split e =>
    simp only [Arg.value] at hi
    cases e with
    | lit l =>
      dsimp only [splitOperandOk] at hw
      have := convert_encode_partial t (.lit l) hw hi
      simp only [dataOfBinding, Arg.isSplit, encodeArg, buildBinding, if_true, JKvs.findSplit, isSplitKey_splitKey]
      simp only [encode] at this ⊢
      simp [convertSplit, splitSourceType, this]
    | arr xs =>
      dsimp only [splitOperandOk] at hw
      have hw' : wt t.base (t.arrayDim + 1) t.mapDim (.arr xs) = true := by simp [wt, hw]
      have : convert t (encode (.arr xs)) = some (normE (.arr xs)) := by
        simp only [convert, ofJ_encode _ hi, Option.map_some, erase_normE, fix_normE,
          fix_erase_wt_succ _ _ _ _ hw']
      simp only [dataOfBinding, Arg.isSplit, encodeArg, buildBinding, if_true, JKvs.findSplit, isSplitKey_splitKey]
      simp only [encode] at this ⊢
      simp [convertSplit, splitSourceType, this]
    | map k kvs =>
      simp only [splitOperandOk, Bool.and_eq_true, Bool.not_eq_true'] at hw
      obtain ⟨hk, hv⟩ := hw
      subst hk
      simp only [intsOk] at hi
      simp only [dataOfBinding, Arg.isSplit, encodeArg, buildBinding, if_true, JKvs.findSplit, isSplitKey_splitKey, encode,
        convertSplit_obj, ofJKvs_encodeKvs kvs hi, Option.map_some, eraseKvs_normEKvs,
        fixVals_normEKvs, fixVals_erase_wt kvs _ _ _ hv, normE]

/-- `splitOperandOk t e` and "the operand is well-typed at `collectionType t e`"
(`T[]` for an array operand, `map<T>` for a map operand)
are the same condition wherever `collectionType` can express the type, i.e.
for every operand unless it is a map and the parameter is itself a typed map. -/
theorem splitOperandOk_eq_collectionType (t : TypeId) (e : Exp)
    (h : t.mapDim = 0 ∨ ∀ k kvs, e ≠ .map k kvs) :
    splitOperandOk t e = wt (collectionType t e).base (collectionType t e).arrayDim
      (collectionType t e).mapDim e := by
  cases e with
  | lit l => rfl
  | arr xs => simp [splitOperandOk, collectionType, wt]
  | map k kvs =>
    rcases h with h | h
    · simp [splitOperandOk, collectionType, wt, h, mapAction]
    · exact absurd rfl (h k kvs)

/-- For `map<STRUCT> m` the argument
`m = split {"k": {"a": {a: 1}}}` (accepted by the compiler) comes back as
itself: outer literal and per-key values stay maps, the innermost literal is a
struct.  Under a rule that converts the operand at `map<STRUCT>`
itself the per-key value `{"a": …}` becomes a struct literal `{a: {"a": 1}}`,
which the compiler rejects ("cannot assign struct literal to map"). -/
theorem split_typed_map_over_map :
    buildBinding true ⟨.struct (.cons [0x61] .scalar 0 0 .nil), 0, 1⟩
      (.obj (.cons splitKey (.obj (.cons [0x6B] (.obj (.cons [0x61]
        (.obj (.cons [0x61] (.lit (.int 1)) .nil)) .nil)) .nil)) .nil))
    = some (.split (.map false (.cons [0x6B] (.map false (.cons [0x61]
        (.map true (.cons [0x61] (.lit (.int 1)) .nil)) .nil)) .nil)))
    ∧ convert ⟨.struct (.cons [0x61] .scalar 0 0 .nil), 0, 1⟩
        (.obj (.cons [0x6B] (.obj (.cons [0x61] (.obj (.cons [0x61] (.lit (.int 1)) .nil)) .nil)) .nil))
      = some (.map false (.cons [0x6B] (.map true (.cons [0x61]
          (.map false (.cons [0x61] (.lit (.int 1)) .nil)) .nil)) .nil)) := by
  constructor <;> rfl

/-- In general: the operand of a split over a JSON object is a map literal
whose values are converted at the parameter's type, whatever that type is. -/
theorem split_over_map_values_at_param_type (t : TypeId) (kvs : JKvs) (a : Arg)
    (h : buildBinding true t (.obj (.cons splitKey (.obj kvs) .nil)) = some a) :
    ∃ es, ofJKvs kvs = some es ∧ a = .split (.map false (fixVals t.base t.arrayDim t.mapDim es)) := by
  simp only [buildBinding, if_true, JKvs.findSplit, isSplitKey_splitKey, convertSplit_obj] at h
  cases hk : ofJKvs kvs with
  | none => simp [hk] at h
  | some es =>
    simp only [hk, Option.map_some, Option.some.injEq] at h
    exact ⟨es, rfl, h.symm⟩

/-- The split operand is found the way `json.Unmarshal` into `struct{Split … `json:"split"`}` finds
it: keys are matched case-folded, and of several matching members the LAST wins:
`{"split": [1], "SPLIT": [2], "x": 0}` splits over `[2]`; `{"Split": [1]}` is a split argument;
`{"splat": [1]}` is not. -/
theorem split_key_fold_last_wins :
    (buildBinding true ⟨.scalar, 0, 0⟩ (.obj (.cons splitKey (.arr (.cons (.lit (.int 1)) .nil))
      (.cons [0x53, 0x50, 0x4C, 0x49, 0x54] (.arr (.cons (.lit (.int 2)) .nil)) (.cons [0x78] (.lit (.int 0)) .nil))))).map Arg.printable
      = some true
    ∧ (JKvs.cons splitKey (J.arr (.cons (.lit (.int 1)) .nil))
        (.cons [0x53, 0x50, 0x4C, 0x49, 0x54] (J.arr (.cons (.lit (.int 2)) .nil))
          (.cons [0x78] (.lit (.int 0)) .nil))).findSplit = some (J.arr (.cons (.lit (.int 2)) .nil))
    ∧ (buildBinding true ⟨.scalar, 0, 0⟩ (.obj (.cons splitKey (.arr (.cons (.lit (.int 1)) .nil))
      (.cons [0x53, 0x50, 0x4C, 0x49, 0x54] (.arr (.cons (.lit (.int 2)) .nil)) (.cons [0x78] (.lit (.int 0)) .nil))))).map encodeArg
      = some (.obj (.cons splitKey (.arr (.cons (.lit (.int 2)) .nil)) .nil))
    ∧ isSplitKey [0x53, 0x70, 0x6C, 0x69, 0x74] = true ∧ isSplitKey [0xC5, 0xBF, 0x70, 0x6C, 0x69, 0x74] = true
    ∧ isSplitKey [0x73, 0x70, 0x6C, 0x61, 0x74] = false := by
  refine ⟨by rfl, by rfl, by rfl, by decide, by decide, by decide⟩

/-- A parameter of struct type split over a map (`x = split {"k": {a: 1}}`)
is converted at `map<STRUCT>`: the outer literal stays a map literal and every
value becomes a struct literal (an outer literal marked as a struct would be
printed with bare keys). -/
theorem split_map_over_struct (fs : Fields) (kvs : JKvs) (a : Arg)
    (h : buildBinding true ⟨.struct fs, 0, 0⟩ (.obj (.cons splitKey (.obj kvs) .nil)) = some a) :
    ∃ es, ofJKvs kvs = some es ∧ a = .split (.map false (fixVals (.struct fs) 0 0 es)) := by
  exact split_over_map_values_at_param_type ⟨.struct fs, 0, 0⟩ kvs a h

/-- Whole call, JSON → bindings → JSON (`BuildCallAst` then `BuildDataForAst`):
the regenerated invocation data is the canonical form of the input — every
declared parameter present (absent ones `null`), values preserved, and
`splitargs` = the split parameters that were given, in declaration order. -/
theorem call_roundtrip (sig : Sig) (d : Data) (bs : List (Str × Arg))
    (h : buildCall sig d = some bs) : dataOf bs = canonData sig d := by
  induction sig generalizing bs with
  | nil =>
    simp only [buildCall] at h; cases h
    simp [dataOf, canonData]
  | cons pt ps ih =>
    obtain ⟨p, t⟩ := pt
    simp only [buildCall] at h
    split at h
    · rename_i a bs' ha hbs
      cases h
      rw [dataOf_cons, canonData_cons, ih bs' hbs]
      by_cases hp : d.args.any (fun q => q.1 = p) = true
      · simp only [hp, if_true] at ha
        have hb := split_status_roundtrip _ t _ a ha
        simp only [dataOfBinding, Prod.mk.injEq] at hb
        simp only [hp, if_true, hb.1, hb.2, Bool.true_and]
      · simp only [hp, Bool.false_eq_true, if_false, Option.some.injEq] at ha
        subst ha
        simp [hp, encodeArg, encode, encLit, Arg.isSplit]
    · cases h

/-- What the grammar can print: a split binding built from a non-empty JSON
array is always expressible as `x = split [...]`. -/
theorem split_array_printable (t : TypeId) (v : J) (r : JList) (a : Arg)
    (h : buildBinding true t (.obj (.cons splitKey (.arr (.cons v r)) .nil)) = some a) :
    a.printable = true := by
  simp only [buildBinding, if_true, JKvs.findSplit, isSplitKey_splitKey, convertSplit, splitSourceType, convert, ofJ, ofJList] at h
  split at h
  · simp only [Option.map_some, fix, fixList, Option.some.injEq] at h
    subst h; rfl
  · simp at h

/-! ### non-vacuity and negative witnesses -/

private def kA : Str := [0x61]          -- "a"
private def kK : Str := [0x6B]          -- "k"
private def kX : Str := [0x78]          -- "x"
private def kY : Str := [0x79]          -- "y"
private def kName : Str := [0x6E, 0x61, 0x6D, 0x65]         -- "name"
private def kInner : Str := [0x69, 0x6E, 0x6E, 0x65, 0x72]  -- "inner"
private def kM : Str := [0x6D]          -- "m"
private def kGrid : Str := [0x67, 0x72, 0x69, 0x64]         -- "grid"
private def kAB : Str := [0x61, 0x20, 0x62]                 -- "a b"

/-- struct INNER(int a), struct S(string name, INNER inner, map<INNER> m, int[][] grid) -/
private def innerT : Fields := .cons kA .scalar 0 0 .nil
private def sT : Fields :=
  .cons kName .scalar 0 0 (.cons kInner (.struct innerT) 0 0
    (.cons kM (.struct innerT) 0 1 (.cons kGrid .scalar 2 0 .nil)))

/-- `{name: "n", inner: {a: 1}, m: {"k": {a: 2.5}}, grid: [[1, null], []]}` -/
private def sV : Exp :=
  .map true (.cons kName (.lit (.str kA))
    (.cons kInner (.map true (.cons kA (.lit (.int 1)) .nil))
    (.cons kM (.map false (.cons kK
        (.map true (.cons kA (.lit (.flt ⟨false, 5, -1⟩)) .nil)) .nil))
    (.cons kGrid (.arr (.cons (.arr (.cons (.lit (.int 1)) (.cons (.lit .null) .nil)))
        (.cons (.arr .nil) .nil))) .nil))))

/-- `convert_encode_partial`'s hypotheses hold for a nested struct with a typed map of
structs and a two-dimensional array (also inside an array of such structs). -/
example : wt (.struct sT) 0 0 sV = true ∧ intsOk sV = true := by decide
example : wt (.struct sT) 1 0 (.arr (.cons sV (.cons (.lit .null) .nil))) = true := by decide
/-- typed map of arrays of structs: `map<S[]>` -/
example : wt (.struct sT) 0 2 (.map false (.cons kK (.arr (.cons sV .nil)) .nil)) = true := by
  decide
/-- untyped map holding arbitrary JSON-like content -/
example : wt .umap 0 0 (.map false (.cons kAB (.map false (.cons kX
    (.arr (.cons (.lit (.flt ⟨true, 1, 300⟩)) .nil)) .nil)) .nil)) = true := by decide
/-- the conversion really decides struct-vs-map by type on this value -/
example : convert ⟨.struct sT, 0, 0⟩ (encode sV) = some sV := by rfl
/-- `1.0` comes back as `1`, `2.5` stays a float -/
example : encode (.arr (.cons (.lit (.flt ⟨false, 1, 0⟩)) (.cons (.lit (.flt ⟨false, 5, -1⟩)) .nil)))
    = .arr (.cons (.lit (.int 1)) (.cons (.lit (.flt ⟨false, 5, -1⟩)) .nil)) := by rfl
/-- `split_status_roundtrip` / `call_roundtrip` hypotheses are satisfiable with a split argument -/
example : ∃ bs, buildCall [(kX, ⟨.scalar, 0, 0⟩), (kY, ⟨.struct innerT, 0, 0⟩)]
    { args := [(kX, .obj (.cons splitKey (.arr (.cons (.lit (.int 1)) .nil)) .nil))],
      splitargs := [kX] } = some bs ∧ (dataOf bs).splitargs = [kX] :=
  ⟨[(kX, .split (.arr (.cons (.lit (.int 1)) .nil))), (kY, .plain (.lit .null))], by rfl, by rfl⟩

/-- `split_map_over_struct`'s hypothesis is satisfiable: `x = split {"k": {a: 1}}` for `INNER x` -/
example : buildBinding true ⟨.struct innerT, 0, 0⟩
    (.obj (.cons splitKey (.obj (.cons kK (.obj (.cons kA (.lit (.int 1)) .nil)) .nil)) .nil))
    = some (.split (.map false (.cons kK (.map true (.cons kA (.lit (.int 1)) .nil)) .nil))) := by rfl
/-- `binding_roundtrip_partial`'s hypothesis for a split operand: `int x` split over `[1, 2]` and over `{"k": 1}` -/
example : wt (collectionType ⟨.scalar, 0, 0⟩ (.arr (.cons (.lit (.int 1)) .nil))).base
    (collectionType ⟨.scalar, 0, 0⟩ (.arr (.cons (.lit (.int 1)) .nil))).arrayDim
    (collectionType ⟨.scalar, 0, 0⟩ (.arr (.cons (.lit (.int 1)) .nil))).mapDim
    (.arr (.cons (.lit (.int 1)) .nil)) = true := by decide

/-- Negative witness (finding C16-N3): `{"split": []}` is a legal split
argument for `BuildCallAst`, but `split []` is not expressible in MRO text. -/
theorem split_empty_not_printable :
    (buildBinding true ⟨.scalar, 0, 0⟩ (.obj (.cons splitKey (.arr .nil) .nil))).map Arg.printable
      = some false := by rfl

/-- … and so is `{"split": null}` (`split null`). -/
theorem split_null_not_printable :
    (buildBinding true ⟨.scalar, 0, 0⟩ (.obj (.cons splitKey (.lit .null) .nil))).map Arg.printable
      = some false := by rfl


/-! ## references and aliased calls: outside the round trip, and why

* A reference in an argument of a top-level call does not compile ("this
  binding cannot be resolved outside of a stage or pipeline": checked on the
  real compiler every run for a reference at top level, inside an array, inside
  a map and under `split`), so "the call compiles" – a decidable hypothesis on
  the text – excludes it.  What the conversions do with one anyway is a
  theorem: the text → JSON leg writes `{"__reference__": "ID.out"}` and the
  JSON → text leg has no reader for it, so a map (or struct) literal comes back,
  never a reference (`reference_not_restored`).  The JSON side is still a fixed
  point (`encode_convert`).
* `call X as Y(...)`: invocation data records the callable (`DecId`), not the
  alias; text → data → text' gives `call X(...)` and the data is unchanged
  (`alias_not_in_data`, `alias_roundtrip_data`). -/

/-- whatever `convertToExp` makes of a marshalled reference is a map literal
with the single key `__reference__` holding the reference text as a string -/
theorem reference_not_restored (t : TypeId) (id : Str) (e : Exp)
    (h : convert t (encodeRef id) = some e) :
    ∃ k v, e = .map k (.cons refKey v .nil) ∧ erase v = .lit (.str id) := by
  simp only [convert, encodeRef, ofJ, ofJKvs, litOk, if_true, Option.map_some,
    Option.some.injEq] at h
  subst h
  simp only [fix]
  split
  · exact ⟨false, .lit (.str id), by simp [fixVals, fix], rfl⟩
  · exact ⟨true, .lit (.str id), by simp [fixFields, fix], rfl⟩
  · exact ⟨true, _, rfl, rfl⟩
  · exact ⟨false, _, rfl, rfl⟩

/-- … while its JSON is unchanged by the round trip -/
theorem reference_json_fixed_point (t : TypeId) (id : Str) (e : Exp)
    (h : convert t (encodeRef id) = some e) : encode e = encodeRef id := by
  rw [encode_convert t _ e h]; rfl

/-- the alias of a call is not part of the invocation data -/
theorem alias_not_in_data (alias name : Str) (bs : List (Str × Arg)) :
    dataOfCall ⟨alias, name, bs⟩ = dataOfCall ⟨name, name, bs⟩ := rfl

/-- text (aliased or not) → data → call: the callable and the data survive, the
regenerated call carries the callable's own name as its id -/
theorem alias_roundtrip_data (alias name : Str) (bs : List (Str × Arg)) :
    (callOfData (dataOfCall ⟨alias, name, bs⟩).1 bs).id = name
    ∧ dataOfCall (callOfData (dataOfCall ⟨alias, name, bs⟩).1 bs) = dataOfCall ⟨alias, name, bs⟩ :=
  ⟨rfl, rfl⟩

/-- `reference_not_restored`'s hypothesis holds at every type: e.g. at a struct
type the result is the (unparseable) struct literal `{__reference__: "A.b"}` -/
example : convert ⟨.struct innerT, 0, 0⟩ (encodeRef [0x41, 0x2E, 0x62])
    = some (.map true (.cons refKey (.lit (.str [0x41, 0x2E, 0x62])) .nil)) := by rfl

/-- `binding_roundtrip_partial` for a typed-map parameter split over a map: `map<INNER> m = split {"k": {"a": {a: 1}}}` -/
example : splitOperandOk ⟨.struct innerT, 0, 1⟩
    (.map false (.cons kK (.map false (.cons kA (.map true (.cons kA (.lit (.int 1)) .nil)) .nil)) .nil))
    = true := by decide

/-! ## the text leg is the real formatter ∘ lexer ∘ parser

`Martian.FormatExp` / `Martian.FormatCall` (C09) are byte-exact models of `Exp.format` /
`CallStm.format`, of the MRO tokenizer and of the `val_exp` / `call_stm` grammar, tied to the real
FormatExp / ParseValExp / UncheckedParse / FormatSrcBytes on every run, with
`parse_format_exp` / `parse_format_call` proved for them.  `InvocationText.toF` / `ofF` translate
between the invocation expressions and C09's expression type; `textLeg g e` =
`(parseValExp (fmt [] (toF g e))).map (ofF g)` is print → lex → parse on BYTES.  The only thing not
computed is strconv: the 'g' text of a float enters as the oracle `g`, and `floatsOk g e` states
per float of `e` (decidably; evaluated by the driver on the real strconv output of every case) the
two facts used – integer-syntax text exactly when `Flt.textAsInt`, else a NUM_FLOAT token that reads
back as the same float64.  `wfText` / `wfCallText` = C09's well-formedness of what is printed
(strings and keys valid UTF-8, keys ascending, struct keys and binding ids identifiers, integers in
int64, a split operand a non-empty collection): what the formatter can print and the grammar
accept back; for `-0.0` the real strconv text `-0` fails `wfText` (it is neither a NUM_FLOAT token nor a
canonical integer; `floatsOk` holds) – known finding C16-N5; the theorems are silent there.
MEMBER ORDER: `wfText` demands the keys of every map in strictly ascending
order (C09's `sortedKeys`), i.e. the theorems are about expressions as a Go map is PRINTED; `convert`
keeps the JSON's source order.  Section MemberOrder below closes the gap: `sortE` (sort by key, last
duplicate wins = the Go map read out through `sort.Strings`) always satisfies the order component. -/
section TextLeg
open Martian.InvocationText

/-- `_partial`: restricted to `wfText g e` (keys of every map strictly ascending – see MemberOrder –,
struct keys identifiers, strings valid UTF-8, integers in int64) and `floatsOk`; for an unsorted or
duplicated key the model parser returns the members sorted, so the statement without `wfText` is
false (`sortE_changes_unsorted` below).
EXPRESSION: printing with the formatter, lexing and parsing with `ParseValExp` returns exactly
the tree `reparse e` – for every printable expression (nested structs, typed maps, arrays, strings
with any escapes, big integers, floats) -/
theorem text_leg_is_format_parse_partial (g : G) (e : Exp) (hw : wfText g e = true) (hf : floatsOk g e = true) :
    textLeg g e = some (reparse e) :=
  text_leg_exp g e hw hf

/-- `_partial`: as above, plus: a split operand must be a non-empty collection
(`split_empty_not_printable`, `split_null_not_printable`: findings C16-N3a/b).
CALL: `Ast.Format()` of the call `BuildCallAst` built, lexed and parsed as a `call_stm`, gives
the same callable and the same bindings with every value `reparse`d and every split status kept -/
theorem text_leg_call_is_format_parse_partial (g : G) (name : Str) (bs : List (Str × Arg))
    (hw : wfCallText g name bs = true) (hf : floatsOkBinds g bs = true) :
    callTextLeg g name bs = some (name, bs.map fun b => (b.1, b.2.reparse)) :=
  text_leg_call g name bs hw hf

/-- marshalling the re-read bindings gives the data of the original bindings -/
theorem dataOf_reparse (bs : List (Str × Arg)) :
    dataOf (bs.map fun b => (b.1, b.2.reparse)) = dataOf bs := by
  rw [dataOf_map Arg.reparse id fun a => by cases a <;> simp [Arg.reparse, encodeArg, Arg.isSplit, encode_reparse]]
  simp

/-- `_partial`: hypothesis `wfCallText` (sorted keys at every depth – for invocation JSON in ANY member
order use `source_roundtrip_text_any_order` below –, printable split operands: C16-N3a/b).
SOURCE ROUND TRIP OVER THE REAL TEXT: invocation data →
`BuildCallAst` (`buildCall`) → `Ast.Format()` BYTES (`printCall`) → tokenizer → `call_stm` parser →
`BuildDataForAst` (`dataOf`) returns the callable and the canonical form of the data – every
declared parameter present, values preserved up to float normalisation, `splitargs` preserved –
for every signature and all data whose call is printable (`wfCallText`, e.g. no split over an empty
collection: findings C16-N3a/b) with strconv behaving as `floatsOkBinds` says. -/
theorem source_roundtrip_text_partial (g : G) (name : Str) (sig : Sig) (d : Data) (bs : List (Str × Arg))
    (h : buildCall sig d = some bs) (hw : wfCallText g name bs = true) (hf : floatsOkBinds g bs = true) :
    (callTextLeg g name bs).map (fun p => (p.1, dataOf p.2)) = some (name, canonData sig d) := by
  rw [text_leg_call g name bs hw hf]
  simp only [Option.map_some, dataOf_reparse, call_roundtrip sig d bs h]

/-- second round: the regenerated text is a fixed point (printing what was read back prints the
same bytes) -/
theorem text_fixed_point (g : G) (name : Str) (bs : List (Str × Arg)) (hw : wfCallText g name bs = true) :
    Martian.FormatCall.fmtCall (Martian.FormatCall.normCall (toFCall g name bs)) = printCall g name bs :=
  Martian.FormatCall.fmtCall_norm (toFCall g name bs) hw

/-! non-vacuity: a struct of a struct, a typed map of structs, a two-dimensional array, a float, a
string needing escapes, keys in sorted order; strconv oracle for the one float: `2.5` -/
private def gEx : G :=
  { text := fun f => if f = ⟨false, 5, -1⟩ then [0x32, 0x2E, 0x35] else [0x30],
    val := fun _ => ⟨false, 5, -1⟩ }
private def tV : Exp :=
  .map true (.cons kGrid (.arr (.cons (.arr (.cons (.lit (.int 1)) (.cons (.lit .null) .nil)))
        (.cons (.arr .nil) .nil)))
    (.cons kInner (.map true (.cons kA (.lit (.int 1)) .nil))
    (.cons kM (.map false (.cons kAB
        (.map true (.cons kA (.lit (.flt ⟨false, 5, -1⟩)) .nil)) .nil))
    (.cons kName (.lit (.str [0x6E, 0x22, 0xC3, 0xA9])) .nil))))
example : wfText gEx tV = true ∧ floatsOk gEx tV = true := by decide +kernel
/-- … and on it the bytes are really printed and read back -/
example : textLeg gEx tV = some (reparse tV) ∧ (textLeg gEx tV).isSome = true :=
  ⟨text_leg_is_format_parse_partial gEx tV (by decide +kernel) (by decide +kernel), by decide +kernel⟩
/-- a split call over that value and a scalar: `map call ST(x = split [1], y = {…},)` -/
example : wfCallText gEx [0x53, 0x54] [(kX, .split (.arr (.cons (.lit (.int 1)) .nil))), (kY, .plain tV)] = true
    ∧ floatsOkBinds gEx [(kX, .split (.arr (.cons (.lit (.int 1)) .nil))), (kY, .plain tV)] = true := by
  decide +kernel
/-- the empty struct literal `{}` reads back as a map -/
example : textLeg gEx (.map true .nil) = some (.map false .nil) :=
  text_leg_is_format_parse_partial gEx (.map true .nil) (by decide +kernel) (by decide +kernel)
/-- `-0.0`: with the real strconv text `-0` the hypothesis `wfText` fails, `floatsOk` holds (finding C16-N5) -/
example : floatsOk { text := fun _ => [0x2D, 0x30], val := fun _ => ⟨true, 0, 0⟩ } (.lit (.flt ⟨true, 0, 0⟩)) = true
    ∧ wfText { text := fun _ => [0x2D, 0x30], val := fun _ => ⟨true, 0, 0⟩ } (.lit (.flt ⟨true, 0, 0⟩)) = false := by
  decide +kernel

end TextLeg

/-! ## member order

`ParseValExp` builds a Go map of a JSON object's members (a later duplicate replaces an earlier one)
and every printer writes the keys through `sort.Strings`; the model's `convert` keeps source order.
`Martian.InvocationSort.sortE` / `sortJ` = the Go map read out in printing order.  What Go prints for
the call `buildCall` built is `printCall g name (sortBinds bs)`. -/
section MemberOrder
open Martian.InvocationText Martian.InvocationSort

/-- THE SORTEDNESS LEMMA: whatever the member order and duplicates of `e`, in `sortE e` the keys of
every map at every depth are strictly ascending – the order component (`sortedKeys`) of the text-leg
hypothesis `wfText` always holds for what Go prints -/
theorem printed_keys_sorted (g : G) (e : Exp) :
    sortedE (sortE e) = true ∧
    ∀ s kvs, sortE e = .map s kvs → Martian.FormatExp.sortedKeys (toFKvs g kvs) = true := by
  refine ⟨sortedE_sortE e, fun s kvs h => ?_⟩
  have hs := sortedE_sortE e
  rw [h] at hs
  simp only [sortedE, Bool.and_eq_true] at hs
  rw [sortedKeys_toFKvs]; exact hs.1

/-- on an expression already in printing order (what the harness reads off a real `MapExp`, a Go map,
through sorted keys) `sortE` changes nothing -/
theorem sortE_of_sorted_id (e : Exp) (h : sortedE e = true) : sortE e = e := sortE_of_sorted e h

/-- the marshalled JSON of the sorted expression is the sorted JSON: values, nesting and which
duplicate survives are those of the input -/
theorem sort_commutes_with_marshal (e : Exp) : encode (sortE e) = sortJ (encode e) := encode_sortE e

/-- SOURCE ROUND TRIP FOR INVOCATION JSON IN ANY MEMBER ORDER: data → `BuildCallAst` (`buildCall`, members
in source order) → the text Go prints (keys sorted, last duplicate kept: `sortBinds`) → tokenizer →
`call_stm` parser → `BuildDataForAst` returns the callable and the canonical data with every object
read as a Go map (`sortData`).  The remaining hypotheses are about strings, identifiers, integers
and split operands of the PRINTED call, not about member order. -/
theorem source_roundtrip_text_any_order (g : G) (name : Str) (sig : Sig) (d : Data) (bs : List (Str × Arg))
    (h : buildCall sig d = some bs) (hw : wfCallText g name (sortBinds bs) = true)
    (hf : floatsOkBinds g (sortBinds bs) = true) :
    (callTextLeg g name (sortBinds bs)).map (fun p => (p.1, dataOf p.2))
      = some (name, sortData (canonData sig d)) := by
  rw [text_leg_call g name (sortBinds bs) hw hf]
  simp only [Option.map_some, dataOf_reparse, dataOf_sortBinds, call_roundtrip sig d bs h]

/-- witness for the `_partial` text-leg theorems: `{"b": 1, "a": 2}` is not in printing order
(`wfText` false), Go prints and reads back `{"a": 2, "b": 1}`; `{"a": 1, "a": 2}` is the map `{"a": 2}` -/
theorem sortE_changes_unsorted :
    wfText gEx (.map false (.cons [0x62] (.lit (.int 1)) (.cons [0x61] (.lit (.int 2)) .nil))) = false
    ∧ wfText gEx (sortE (.map false (.cons [0x62] (.lit (.int 1)) (.cons [0x61] (.lit (.int 2)) .nil)))) = true
    ∧ textLeg gEx (sortE (.map false (.cons [0x62] (.lit (.int 1)) (.cons [0x61] (.lit (.int 2)) .nil))))
        = some (.map false (.cons [0x61] (.lit (.int 2)) (.cons [0x62] (.lit (.int 1)) .nil)))
    ∧ encode (sortE (.map false (.cons [0x61] (.lit (.int 1)) (.cons [0x61] (.lit (.int 2)) .nil))))
        = .obj (.cons [0x61] (.lit (.int 2)) .nil) := by
  refine ⟨by decide +kernel, by decide +kernel, ?_, by rfl⟩
  exact text_leg_is_format_parse_partial gEx _ (by decide +kernel) (by decide +kernel)

end MemberOrder

/-! ## every fork's `_invocation`: `Fork.writeInvocation`

`writeInvocation` = `BuildCallSource(call.Id, resolveInputs(forkId, keepSplit = true), callable, …)`.
`Martian.InvocationFork`: `MV` are the values `resolveInputs` returns in their dynamic types (`nil`,
a `ValExp` of the compiled source – possibly a `SplitExp` no fork index resolves –, `RawMessage`,
`LazyArgumentMap`, `MarshalerMap`, `marshallerArray`), `marshal` their `MarshalJSON` (what `_args`
receives), `convertMV` the cases of `convertToExp`, `invocationOf sig mapped args` the loop of
`BuildCallAst` (`none` = the error after which an EMPTY `_invocation` is written), `printFork` /
`forkTextLeg` the real formatter / lexer / parser models of C09 on the call (`Id ≠ DecId` for
`call X as Y`), `forkData` the invocation data the call stands for.  WHICH value a fork gets is C01's
model (`ResolverStatic.evalRT` / `runtimeArgs`, tied to the real `_args` per run);
`argsOfNode` reads it.  Tie per run (harness/c16_fork.go, Tier A): for every fork of every node
the model's text = the call statement of the real `_invocation` bytes, `forkCompiles` = "the real
`_invocation` compiles", and for stage forks the data of the re-read text = the delivered `_args`. -/
section ForkInvocation
open Martian.InvocationText Martian.InvocationFork Martian.InvocationSort

/-- THE STRUCTURED CASES OF `convertToExp` ARE THE RAW CASE: a run-time value (no source literal
inside) that is well-typed at `t` converts – member by member through `LazyArgumentMap` /
`MarshalerMap` / `marshallerArray` / `nil`, with `possibleStructType` and `structMemberType` – to
exactly the expression `convertToExp` makes of its marshalled JSON (`ParseValExp` +
`fixExpressionTypes`).  (Ill-typed values differ: an undeclared key of a struct is converted at the
struct's own type by the structured cases and left alone by `fixExpressionTypes`.) -/
theorem fork_values_convert_as_json (v : MV) (t : TypeId) (hn : noVal v = true)
    (hw : jWt t.base t.arrayDim t.mapDim (marshal v) = true) :
    convertMV t.base t.arrayDim t.mapDim v = (convert t (marshal v)).map ofExp :=
  convertMV_eq_convert v t.base t.arrayDim t.mapDim hn hw

/-- … and the binding of such a value (integers in range) is a plain binding of a WELL-TYPED
expression: shape and struct-vs-map flags as the compiler demands for the parameter -/
theorem stage_fork_binding_well_typed (v : MV) (t : TypeId) (hn : noVal v = true)
    (hw : jWt t.base t.arrayDim t.mapDim (marshal v) = true) (hi : mvIntsOk v = true) :
    ∃ e, bindingOf false t v = some (.plain (ofExp e)) ∧ wt t.base t.arrayDim t.mapDim e = true := by
  obtain ⟨e, he, hc, hwt, _⟩ := convertMV_wt v t.base t.arrayDim t.mapDim hn hw hi
  have hwrap : wrapBinding false (ofExp e) = .plain (ofExp e) := by cases e <;> rfl
  cases v with
  | nil =>
    refine ⟨.lit .null, rfl, by simp [wt, Lit.isNull]⟩
  | raw j => exact ⟨e, by simp [bindingOf, buildBinding, marshal] at hc ⊢; simp [hc, ofArg], hwt⟩
  | val x => simp [noVal] at hn
  | lazy kvs => exact ⟨e, by simp [bindingOf, he, hwrap], hwt⟩
  | mmap kvs => exact ⟨e, by simp [bindingOf, he, hwrap], hwt⟩
  | marr xs => exact ⟨e, by simp [bindingOf, he, hwrap], hwt⟩

/-- the data of the call built from a fork's resolved inputs: every declared parameter, the
marshalled value (floats normalised), `{"split": collection}` and a `splitargs` entry for a
parameter left split -/
theorem fork_invocation_data (sig : Sig) (mapped : List Str) (args : List (Str × MV))
    (ibs : List (Str × IArg)) (bs : List (Str × Arg))
    (h : invocationOf sig mapped args = some ibs) (hp : plainBinds ibs = some bs) :
    dataOf bs = forkData sig mapped args :=
  dataOf_invocationOf sig mapped args ibs bs h hp

/-- ANY FORK (stage, top-level pipeline, sub-pipeline) whose invocation has one of the shapes that
compile (`forkCompiles`: not the placeholder `map call` without a split binding, no `split` inside a
value, every split operand a non-empty array / map literal, all of one length / key set): the
`_invocation` text – members of every map printed through the Go map, `sortBinds`: raw / lazy
values keep SOURCE order in `bs`, the printers sort –, lexed and parsed, is a call
of the node's callable under the node's call id whose data is exactly the fork's resolved inputs,
every object read as a Go map (`sortData`). -/
theorem fork_invocation_roundtrip (g : G) (decId id : Str) (sig : Sig) (mapped : List Str)
    (args : List (Str × MV)) (ibs : List (Str × IArg))
    (h : invocationOf sig mapped args = some ibs) (hc : forkCompiles g decId id mapped ibs = true) :
    ∃ bs, plainBinds ibs = some bs ∧ (floatsOkBinds g (sortBinds bs) = true →
      (forkTextLeg g decId id (sortBinds bs)).map (fun c => (c.1, c.2.1, dataOf c.2.2))
        = some (decId, id, sortData (forkData sig mapped args))) := by
  unfold forkCompiles at hc
  cases hp : plainBinds ibs with
  | none => simp [hp] at hc
  | some bs =>
    simp only [hp, Bool.and_eq_true] at hc
    refine ⟨bs, rfl, fun hf => ?_⟩
    rw [fork_text_leg g decId id (sortBinds bs) hc.2.1 hf]
    simp only [Option.map_some, dataOf_reparse, dataOf_sortBinds, dataOf_invocationOf sig mapped args ibs bs h hp]

/-- STAGE FORKS whose split arguments agree.  The fork id of a stage fork has an index for every
enclosing map call, so every split is resolved (`splitFree`) and no parameter is left split
(`mapped = []` – when the split sources of the call DISAGREE, `resolveInputs` fails for one of them
and `mapped ≠ []`: see `disagreeing_splits_do_not_compile`, known finding C16-N8).  With the
integers of the resolved values in range `BuildCallAst` succeeds, nothing of the call has a split
inside, and – the text as Go prints it (`sortBinds`) being printable (`wfForkText`: identifiers,
valid UTF-8; the key order is taken care of by `sortBinds`, `printed_keys_sorted`) and strconv
behaving (`floatsOkBinds`) – `_invocation`, lexed and parsed with the real grammar, is
`call <callable> [as <id>](…)` whose data is `canonData` of the fork's marshalled arguments (every
object read as a Go map): every declared parameter, the value `_args` has (integral floats as
integers), no split argument. -/
theorem stage_fork_invocation_roundtrip (g : G) (decId id : Str) (sig : Sig) (args : List (Str × MV))
    (hs : ∀ p v, lookupMV args p = some v → splitFree v = true)
    (hi : ∀ p v, lookupMV args p = some v → mvIntsOk v = true) :
    ∃ ibs bs, invocationOf sig [] args = some ibs ∧ plainBinds ibs = some bs ∧
      (wfForkText g decId id (sortBinds bs) = true → floatsOkBinds g (sortBinds bs) = true →
        (forkTextLeg g decId id (sortBinds bs)).map (fun c => (c.1, c.2.1, dataOf c.2.2))
          = some (decId, id, sortData (canonData sig ⟨marshalArgs args, []⟩))) := by
  obtain ⟨ibs, h⟩ := invocationOf_isSome args hi sig
  obtain ⟨bs, hp⟩ := plainBinds_of_splitFree args hs sig ibs h
  refine ⟨ibs, bs, h, hp, fun hw hf => ?_⟩
  rw [fork_text_leg g decId id (sortBinds bs) hw hf]
  simp only [Option.map_some, dataOf_reparse, dataOf_sortBinds, dataOf_invocationOf sig [] args ibs bs h hp,
    forkData_stage args hs sig]

/-- THE TOP-LEVEL PIPELINE'S FORK.  Its fork id is empty; its inputs are the literals of the
invocation source, a `split` argument of a top-level `map call` arriving as the `SplitExp` itself
(`topOk`).  The `_invocation` is then a `map call` again, and read back it is the callable with
`forkData`: the plain arguments as they are and `{"split": collection}` + a `splitargs` entry for
each split one (objects read as Go maps: `sortBinds` / `sortData`). -/
theorem top_fork_invocation_roundtrip (g : G) (decId id : Str) (sig : Sig) (args : List (Str × MV))
    (hs : ∀ p v, lookupMV args p = some v → topOk v = true)
    (ibs : List (Str × IArg)) (h : invocationOf sig [] args = some ibs) :
    ∃ bs, plainBinds ibs = some bs ∧
      (wfForkText g decId id (sortBinds bs) = true → floatsOkBinds g (sortBinds bs) = true →
        (forkTextLeg g decId id (sortBinds bs)).map (fun c => (c.1, c.2.1, dataOf c.2.2))
          = some (decId, id, sortData (forkData sig [] args))) := by
  obtain ⟨bs, hp⟩ := plainBinds_of_topOk args hs sig ibs h
  refine ⟨bs, hp, fun hw hf => ?_⟩
  rw [fork_text_leg g decId id (sortBinds bs) hw hf]
  simp only [Option.map_some, dataOf_reparse, dataOf_sortBinds, dataOf_invocationOf sig [] args ibs bs h hp]

/-- ON TOP OF C01's RESOLVER: for fork `f` of stage node `n` of the static phase, the arguments
`argsOfNode` reads off `evalRT` marshal to exactly the argument record `runtimeArgs` (the model of
the fork's `_args`), and the `_invocation` built from them round-trips to `canonData` of them. -/
theorem resolver_fork_invocation_roundtrip (st : Martian.Dataflow.StructTable) (nf fuel : Nat)
    (ρ : Martian.ResolverForks.Store) (f : Martian.ResolverForks.ForkAssign)
    (n : Martian.ResolverStatic.SNode) (g : G) (decId id : Str) (args : List (Str × MV))
    (ha : argsOfNode st nf ρ f n = some args)
    (hi : ∀ p v, lookupMV args p = some v → mvIntsOk v = true) :
    ofDJ (Martian.ResolverStatic.runtimeArgs st nf ρ f n) = some (.obj (kvsOfList (marshalArgs args))) ∧
    ∃ ibs bs, invocationOf (sigOfNode st fuel n) [] args = some ibs ∧ plainBinds ibs = some bs ∧
      (wfForkText g decId id (sortBinds bs) = true → floatsOkBinds g (sortBinds bs) = true →
        (forkTextLeg g decId id (sortBinds bs)).map (fun c => (c.1, c.2.1, dataOf c.2.2))
          = some (decId, id, sortData (canonData (sigOfNode st fuel n) ⟨marshalArgs args, []⟩))) := by
  refine ⟨?_, stage_fork_invocation_roundtrip g decId id _ args (fun p v hv => ?_) hi⟩
  · simp only [Martian.ResolverStatic.runtimeArgs, ofDJ, marshalArgs_argsOfInputs st nf ρ f n.inputs args ha,
      Option.map_some]
  · obtain ⟨j, rfl⟩ := argsOfInputs_raw st nf ρ f n.inputs args ha p v hv
    rfl

/-- SUB-PIPELINE FORKS (known finding C16-N6), the shapes that do NOT compile.  A sub-pipeline's
fork id is empty ("pipelines only sort-of fork"), so the splits of enclosing map calls in its
bindings are unresolved and stay in place.  (1) A split INSIDE a value has no syntax: whatever the
rest, `forkCompiles` is false. -/
theorem nested_split_does_not_compile (g : G) (decId id : Str) (mapped : List Str) (ibs : List (Str × IArg))
    (h : plainBinds ibs = none) : forkCompiles g decId id mapped ibs = false := by
  simp [forkCompiles, h]

/-- STAGE FORKS WHOSE SPLIT ARGUMENTS DISAGREE (known finding C16-N8).  When one split
source of a map call disagrees with the fork (a disabled / null producer, another length or key set)
`resolveInputs(fork, keepSplit)` fails for that parameter and lists it in `mapped` – with the value
`nil` when its source turned out null.  `nil` gives a plain `null` binding, no binding is split, and
`BuildCallAst` sets the placeholder mapping: the text is `map call X(…)` without any `split`, which
the grammar rejects – whatever the rest of the call. -/
theorem disagreeing_splits_do_not_compile (g : G) (decId id : Str) (mapped : List Str) (ibs : List (Str × IArg))
    (h : mapPlaceholder mapped ibs = true) : forkCompiles g decId id mapped ibs = false := by
  simp [forkCompiles, h]

private def nST : Str := [0x53, 0x54]   -- "ST"
/-- witness (1), Tier A `call PL9(items = [13, split [null, null]])`: the resolver returns the array
with the enclosing call's `SplitExp` as an element; `BuildCallAst` succeeds, the call does not compile -/
example : (invocationOf [(kX, ⟨.scalar, 1, 0⟩)] []
      [(kX, .marr (.cons (.val (.lit (.int 13)))
        (.cons (.val (.split (.arr (.cons (.lit .null) (.cons (.lit .null) .nil))))) .nil)))]).map
      (forkCompiles gEx nST nST []) = some false := by decide +kernel
/-- witness (2), `map call PL8(enable = split [])`: a map call over a run-time EMPTY collection -/
example : (invocationOf [(kX, ⟨.scalar, 0, 0⟩)] [] [(kX, .val (.split (.arr .nil)))]).map
      (forkCompiles gEx nST nST []) = some false := by decide +kernel
/-- witness (3), `map call PL8(x = split [true], y = split [[16, 0], [16, 0]])`: the split of the
enclosing call (one element in this fork) next to the pipeline's own split of another length –
each alone compiles, together "inconsistent split inputs" -/
example :
    (invocationOf [(kX, ⟨.scalar, 0, 0⟩), (kY, ⟨.scalar, 1, 0⟩)] []
      [(kX, .val (.split (.arr (.cons (.lit (.bool true)) .nil)))),
       (kY, .val (.split (.arr (.cons (.arr (.cons (.lit (.int 16)) .nil))
          (.cons (.arr (.cons (.lit (.int 16)) .nil)) .nil)))))]).map (forkCompiles gEx nST nST []) = some false
    ∧ (invocationOf [(kX, ⟨.scalar, 0, 0⟩), (kY, ⟨.scalar, 1, 0⟩)] []
      [(kX, .val (.split (.arr (.cons (.lit (.bool true)) .nil))))]).map (forkCompiles gEx nST nST []) = some true := by
  decide +kernel
/-- witness of C16-N8, the real fork `ID.P.ADD fork0` of `map call ADD(what = split [1, 2], other = split
GEN2.result, konst = 7)` with GEN2 disabled: inputs `what ↦ 1`, `other ↦ nil` listed as left split,
`konst ↦ 7`; `BuildCallAst` succeeds, the text starts `map call` and does not compile – and with
`other` not listed (the splits agree) the same bindings compile -/
example :
    (invocationOf [(kX, ⟨.scalar, 0, 0⟩), (kY, ⟨.scalar, 0, 0⟩), (kK, ⟨.scalar, 0, 0⟩)] [kY]
      [(kX, .val (.lit (.int 1))), (kY, .nil), (kK, .val (.lit (.int 7)))]).map
        (fun ibs => (mapPlaceholder [kY] ibs, forkCompiles gEx nST nST [kY] ibs, forkCompiles gEx nST nST [] ibs))
      = some (true, false, true) := by decide +kernel
/-- … and a raw value with members in source order `{"b": 1, "a": 2}` at an untyped map compiles: Go
prints the keys sorted (A6) -/
example : (invocationOf [(kX, ⟨.umap, 0, 0⟩)] []
      [(kX, .raw (.obj (.cons [0x62] (.lit (.int 1)) (.cons [0x61] (.lit (.int 2)) .nil))))]).map
      (forkCompiles gEx nST nST []) = some true := by decide +kernel
/-- non-vacuity, the top-level fork of `map call ST(x = split ["a", "b"], y = {…})` (a `SplitExp`
argument, a struct from run-time data): compiles, and the theorem's hypotheses hold -/
example :
    (invocationOf [(kX, ⟨.scalar, 0, 0⟩), (kY, ⟨.struct innerT, 0, 0⟩)] []
      [(kX, .val (.split (.arr (.cons (.lit (.str kA)) (.cons (.lit (.str kK)) .nil))))),
       (kY, .lazy (.cons kA (.lit (.int 1)) .nil))]).map (forkCompiles gEx nST nST []) = some true
    ∧ topOk (.val (.split (.arr (.cons (.lit (.str kA)) (.cons (.lit (.str kK)) .nil))))) = true
    ∧ topOk (.lazy (.cons kA (.lit (.int 1)) .nil)) = true := by decide +kernel
/-- non-vacuity, a stage fork: a struct assembled member by member (`MarshalerMap` with a
`LazyArgumentMap`, a `marshallerArray` and a source literal inside) is converted with the struct
flags of `S` and marshals to the JSON `_args` has -/
example :
    (convertMV (.struct sT) 0 0 (.mmap (.cons kGrid (.marr (.cons (.raw (.arr (.cons (.lit (.int 1)) .nil))) .nil))
        (.cons kInner (.lazy (.cons kA (.lit (.int 1)) .nil))
        (.cons kName (.val (.lit (.str kA))) .nil))))).bind plainE
      = some (.map true (.cons kGrid (.arr (.cons (.arr (.cons (.lit (.int 1)) .nil)) .nil))
          (.cons kInner (.map true (.cons kA (.lit (.int 1)) .nil))
          (.cons kName (.lit (.str kA)) .nil)))) := by rfl
/-- non-vacuity of the resolver reading: an int and a string atom of C01's value type -/
example : ofDJ (.obj [("x", .atom "1"), ("s", .arr [.atom "\"a\"", .dnull])])
    = some (.obj (.cons kX (.lit (.int 1))
        (.cons [0x73] (.arr (.cons (.lit (.str kA)) (.cons (.lit .null) .nil))) .nil))) := by rfl

end ForkInvocation

/-! ## the string leaf at byte level

`Lit.str s` above is the decoded byte string; the theorems below are about the
TEXT that carries it in either direction (models: Martian/InvocationStr.lean
for `encoding/json`'s encoder/decoder and Python's `json.dumps`,
Martian/Lexer.lean `unquoteBytes`, Martian/Format.lean `quoteString`; each is
compared with the real function on every run). -/
section StringLeaf
open Martian.InvocationStr
open Martian.Lexer (unquoteBytes)
open Martian.Format (quoteString)
open Martian.ShellQuote (validUtf8)

/-- JSON → MRO, (a): `convertToExp` hands the JSON text to the MRO parser; what
`encoding/json` writes for a valid UTF-8 string – with HTML escaping
(`json.Marshal`, also when it re-compacts a `RawMessage`) or without
(`SetEscapeHTML(false)`) – is read back exactly by `unquoteBytes`.  For ALL
valid UTF-8 strings. 
`_partial`: for valid UTF-8 only; for other byte strings the statement is false (`invalid_utf8_not_preserved`:
each offending byte becomes U+FFFD). -/
theorem string_leaf_json_to_mro_partial (html : Bool) (s : Str) (h : validUtf8 s = true) :
    unquoteBytes (jsonEncodeString html s) = some s :=
  unquote_jsonEncode html s h

/-- Any other writer: whatever produced the token, if it is valid UTF-8 and
`encoding/json` decodes it to `s`, the MRO path reads the same `s` – every JSON
escape form (`\/`, upper/lower-case hex, surrogate pairs for non-BMP runes as
Python's `ensure_ascii` writes them); lone or mis-paired surrogate escapes are
U+FFFD on both paths. -/
theorem string_leaf_any_json_writer (body s : Str) (hv : validUtf8 body = true)
    (h : jsonDecodeString (0x22 :: (body ++ [0x22])) = some s) :
    unquoteBytes (0x22 :: (body ++ [0x22])) = some s :=
  unquote_of_jsonDecode body s hv h

/-- … and in particular Python's `json.dumps` (what a Python stage writes into
`_outs`, whose string tokens reach the MRO lexer unchanged through
`Fork.writeInvocation`): `\\uXXXX` for everything outside `' '..'~'`, a
surrogate pair of escapes for every non-BMP rune.  For ALL valid UTF-8
strings. 
`_partial`: for valid UTF-8 only; for other byte strings the statement is false (`invalid_utf8_not_preserved`:
each offending byte becomes U+FFFD). -/
theorem string_leaf_python_writer_partial (s : Str) (h : validUtf8 s = true) :
    unquoteBytes (pyEncodeString s) = some s :=
  unquote_pyEncode s h

/-- Python → Go: `encoding/json` reads what Python's `json.dumps` writes (a stage's
`_outs` read by mrp) as the string, for ALL valid UTF-8 strings. 
`_partial`: for valid UTF-8 only; for other byte strings the statement is false (`invalid_utf8_not_preserved`:
each offending byte becomes U+FFFD). -/
theorem string_leaf_python_to_go_partial (s : Str) (h : validUtf8 s = true) :
    jsonDecodeString (pyEncodeString s) = some s :=
  jsonDecode_pyEncode s h

/-- MRO → JSON, (b): `MarshalJSON`/`EncodeJSON` print every string and map key
with `quoteString`; a JSON reader decodes that text to the string. 
`_partial`: for valid UTF-8 only; for other byte strings the statement is false (`invalid_utf8_not_preserved`:
each offending byte becomes U+FFFD). -/
theorem string_leaf_mro_to_json_partial (s : Str) (h : validUtf8 s = true) :
    jsonDecodeString (quoteString s) = some s :=
  jsonDecode_quoteString s h

/-- `quoteString` IS `encoding/json`'s string encoder without HTML escaping,
byte for byte, for every byte string (invalid UTF-8 included: `\ufffd`). -/
theorem quoteString_is_json_encoder (s : Str) : jsonEncodeString false s = quoteString s :=
  jsonEncode_false_eq s

/-- `encoding/json` reads its own output back. 
`_partial`: for valid UTF-8 only; for other byte strings the statement is false (`invalid_utf8_not_preserved`:
each offending byte becomes U+FFFD). -/
theorem json_encode_decode_partial (html : Bool) (s : Str) (h : validUtf8 s = true) :
    jsonDecodeString (jsonEncodeString html s) = some s :=
  jsonDecode_jsonEncode html s h

/-- (c): the string leaf of `source_roundtrip` / `encode_convert` at byte level.
JSON text (either Go writer) → MRO lexer → `quoteString` (the formatter's and
`MarshalJSON`'s printer) → MRO lexer again and → JSON decoder: every leg
returns the same string, and the text reaches a fixed point (`quoteString s`)
after one leg. 
`_partial`: for valid UTF-8 only; for other byte strings the statement is false (`invalid_utf8_not_preserved`:
each offending byte becomes U+FFFD). -/
theorem string_leaf_roundtrip_partial (html : Bool) (s : Str) (h : validUtf8 s = true) :
    ∃ s1, unquoteBytes (jsonEncodeString html s) = some s1
      ∧ unquoteBytes (quoteString s1) = some s
      ∧ jsonDecodeString (quoteString s1) = some s
      ∧ quoteString s1 = jsonEncodeString false s :=
  ⟨s, unquote_jsonEncode html s h, Martian.Format.unquote_quoteString s h,
    jsonDecode_quoteString s h, (jsonEncode_false_eq s).symm⟩

/-- Not preserved, stated: a string that is NOT valid UTF-8 does not survive –
the writers replace each offending byte by U+FFFD (`"\xff"` ↦ `"\ufffd"`). -/
theorem invalid_utf8_not_preserved :
    unquoteBytes (jsonEncodeString true [0x61, 0xFF]) = some [0x61, 0xEF, 0xBF, 0xBD]
    ∧ jsonDecodeString (quoteString [0xFF]) = some [0xEF, 0xBF, 0xBD] := by decide

/-! non-vacuity / witnesses: `<é😀\u2028\x7f"` -/
private def sample : Str :=
  [0x3C, 0xC3, 0xA9, 0xF0, 0x9F, 0x98, 0x80, 0xE2, 0x80, 0xA8, 0x7F, 0x22]
example : validUtf8 sample = true := by decide
/-- HTML mode writes `\u003c`, U+2028 is always escaped, DEL and runes are literal -/
example : jsonEncodeString true sample =
    [0x22, 0x5C, 0x75, 0x30, 0x30, 0x33, 0x63, 0xC3, 0xA9, 0xF0, 0x9F, 0x98, 0x80,
     0x5C, 0x75, 0x32, 0x30, 0x32, 0x38, 0x7F, 0x5C, 0x22, 0x22] := by decide
/-- Python writes the non-BMP rune as a surrogate pair `\ud83d\ude00`, DEL as `\u007f` -/
example : pyEncodeString [0xF0, 0x9F, 0x98, 0x80, 0x7F] =
    [0x22, 0x5C, 0x75, 0x64, 0x38, 0x33, 0x64, 0x5C, 0x75, 0x64, 0x65, 0x30, 0x30,
     0x5C, 0x75, 0x30, 0x30, 0x37, 0x66, 0x22] := by decide
/-- … which both decoders read as the rune (hypothesis of `string_leaf_any_json_writer`) -/
example : jsonDecodeString (pyEncodeString sample) = some sample
    ∧ unquoteBytes (pyEncodeString sample) = some sample := by decide
/-- upper-case hex surrogate pair, `\/`, and a lone surrogate (U+FFFD on both paths) -/
example : jsonDecodeString [0x22, 0x5C, 0x75, 0x44, 0x38, 0x33, 0x44, 0x5C, 0x75, 0x44, 0x45, 0x30, 0x30, 0x5C, 0x2F, 0x22]
      = some [0xF0, 0x9F, 0x98, 0x80, 0x2F]
    ∧ unquoteBytes [0x22, 0x5C, 0x75, 0x44, 0x38, 0x33, 0x44, 0x5C, 0x75, 0x44, 0x45, 0x30, 0x30, 0x5C, 0x2F, 0x22]
      = some [0xF0, 0x9F, 0x98, 0x80, 0x2F]
    ∧ jsonDecodeString [0x22, 0x5C, 0x75, 0x64, 0x38, 0x30, 0x30, 0x41, 0x22] = some [0xEF, 0xBF, 0xBD, 0x41]
    ∧ unquoteBytes [0x22, 0x5C, 0x75, 0x64, 0x38, 0x30, 0x30, 0x41, 0x22] = some [0xEF, 0xBF, 0xBD, 0x41] := by
  decide
/-- the agreement is one-directional: `\x41` and a raw control byte are MRO-only -/
example : jsonDecodeString [0x22, 0x5C, 0x78, 0x34, 0x31, 0x22] = none
    ∧ unquoteBytes [0x22, 0x5C, 0x78, 0x34, 0x31, 0x22] = some [0x41]
    ∧ jsonDecodeString [0x22, 0x01, 0x22] = none := by decide

end StringLeaf


/-! ## invocation bytes: the raw-message writers

Arguments travel between stages as `json.RawMessage` and are written into `_args`, `_outs`,
`_invocation` data by concatenation: `LazyArgumentMap.encodeJSON` / `MarshalerMap.encodeJSON`
(`{`, keys in `sort.Strings` order written by `json.Marshal`, `:`, the raw value, `,`, `}`),
`marshallerArray.encodeJSON`, and `MapExp` / `ResolvedBindingMap` `encodeJSON` (keys by
`quoteString`).  Models: `JsonBytes.encodeRawMap html`, `encodeRawArr`; `Den p j` = the bytes `p`
are read (by the byte-level model of `encoding/json`'s value grammar, `JsonBytes.parseV`) as the
tree `j`. -/
section InvocationBytes
open Martian.JsonBytes
open Martian.ShellQuote (validUtf8)

/-- a map of raw messages, each of which denotes a tree, written with sorted keys – by either key
writer – denotes the object of those trees under the same keys in sorted order: nothing is lost
or altered by the splicing -/
theorem invocation_map_bytes (html : Bool) (m : List (Martian.Lexer.Bytes × Martian.Lexer.Bytes))
    (tree : Martian.Lexer.Bytes × Martian.Lexer.Bytes → Martian.Json.J)
    (h : ∀ kv, kv ∈ m → validUtf8 kv.1 = true ∧ Den kv.2 (tree kv)) :
    Den (encodeRawMap html m) (.obj ((sortByKey m).map fun kv => (kv.1, tree kv))) :=
  den_encodeRawMap html m tree h

/-- … and a slice of raw messages denotes the array of their trees (`marshallerArray.encodeJSON`,
`ArrayExp.encodeJSON`) -/
theorem invocation_array_bytes (xs : List Martian.Lexer.Bytes) (tree : Martian.Lexer.Bytes → Martian.Json.J)
    (h : ∀ p, p ∈ xs → Den p (tree p)) : Den (encodeRawArr xs) (.arr (xs.map tree)) := by
  have := All2.map (R := Den) id tree xs h
  rw [List.map_id] at this
  exact den_spliceArr _ _ this

/-- the written bytes are a whole JSON document for that tree (`json.Unmarshal` succeeds on them) -/
theorem invocation_map_parses (html : Bool) (m : List (Martian.Lexer.Bytes × Martian.Lexer.Bytes))
    (tree : Martian.Lexer.Bytes × Martian.Lexer.Bytes → Martian.Json.J)
    (h : ∀ kv, kv ∈ m → validUtf8 kv.1 = true ∧ Den kv.2 (tree kv)) :
    parseTop (encodeRawMap html m) = some (.obj ((sortByKey m).map fun kv => (kv.1, tree kv))) :=
  parseTop_of_den (den_encodeRawMap html m tree h)

/-- non-vacuity: `{"b":[1, 2],"a<":null}` as `LazyArgumentMap` writes it: keys sorted, `<` escaped
by `json.Marshal`, the raw value `[1, 2]` spliced with its white space -/
example : encodeRawMap true [([0x62], [0x5B, 0x31, 0x2C, 0x20, 0x32, 0x5D]), ([0x61, 0x3C], [0x6E, 0x75, 0x6C, 0x6C])]
    = [0x7B, 0x22, 0x61, 0x5C, 0x75, 0x30, 0x30, 0x33, 0x63, 0x22, 0x3A, 0x6E, 0x75, 0x6C, 0x6C, 0x2C,
       0x22, 0x62, 0x22, 0x3A, 0x5B, 0x31, 0x2C, 0x20, 0x32, 0x5D, 0x7D] := by decide +kernel
example : (parseTop (encodeRawMap true [([0x62], [0x5B, 0x31, 0x2C, 0x20, 0x32, 0x5D]), ([0x61, 0x3C], [0x6E, 0x75, 0x6C, 0x6C])])).map printJ
    = some (printJ (.obj [([0x61, 0x3C], .null), ([0x62], .arr [.num (.int 1), .num (.int 2)])])) := by
  decide +kernel

end InvocationBytes

end Props.C16
