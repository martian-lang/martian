/-
C18 — cluster job scripts reproduce commands, paths and environment exactly.
Property theorems (lemmas: Proofs/Shell*.lean; one list fact, `mem_of_lookup`, is restated here).
Stated against the escape table regenerated from /repo (`Gen.shellEscapes`).
-/
import Proofs.ShellWords
import Proofs.ShellJob
import Proofs.ListFacts
import Gen.Facts

namespace Props.C18
open Martian.ShellQuote Martian.JobTemplate

/-- Regenerated obligation: the escape table found in the current source is
sound for POSIX double quotes (covers `$`, `` ` ``, `"`, `\`; escapes nothing a
backslash does not quote). Fails on a tree whose `switch` lacks one of them. -/
theorem table_ok : TableOK Gen.shellEscapes = true := by decide +kernel

/-- Every NUL-free valid-UTF-8 string survives quoting followed by POSIX
double-quote evaluation, and no expansion is ever triggered. -/
theorem dq_roundtrip (s : Bytes) (hv : validUtf8 s = true) (h0 : (0 : UInt8) ∉ s) :
    dqEval (quote Gen.shellEscapes s) = some s := by
  unfold dqEval quote
  simp only [quoteBody, dqEvalBody_quoteFrom table_ok s 0 [] hv (by simp) h0]

/-- Non-vacuity: a string containing every special character meets the hypotheses. -/
example : validUtf8 [0x61, 0x22, 0x24, 0x60, 0x5C, 0x0A, 0xE2, 0x98, 0xBA] = true
    ∧ (0 : UInt8) ∉ [0x61, 0x22, 0x24, 0x60, 0x5C, 0x0A, 0xE2, 0x98, 0xBA] := by decide

/-- Negative witness for the "arbitrary bytes" extension (F13): an invalid
UTF-8 byte is written as a backslash-octal escape, which `sh` does not
interpret inside double quotes, so the byte is *not* reproduced. -/
theorem invalid_byte_not_reproduced :
    dqEval (quote Gen.shellEscapes [0xBF]) ≠ some [0xBF] := by decide

/-- `formatArgs` (environment assignments in the order given, command, arguments,
joined by ` \⏎  `): a POSIX shell splits the text into exactly the words
`KEY=value`…, `cmd`, `arg`… — every value is reproduced byte for byte and the
number of words does not depend on the values (no injection). Keys are
names (`A-Za-z0-9_`, as environment variable names are); values, command and
arguments are arbitrary NUL-free valid UTF-8. -/
theorem formatArgs_words (envs : List (Bytes × Bytes)) (cmd : Bytes) (argv : List Bytes)
    (hk : ∀ kv ∈ envs, (∀ b ∈ kv.1, isPlain b = true) ∧ validUtf8 kv.2 = true ∧ (0 : UInt8) ∉ kv.2)
    (hc : validUtf8 cmd = true ∧ (0 : UInt8) ∉ cmd)
    (ha : ∀ a ∈ argv, validUtf8 a = true ∧ (0 : UInt8) ∉ a) :
    shWords (formatArgsOrdered Gen.shellEscapes envs cmd argv)
      = some (envs.map assignWord ++ cmd :: argv) := by
  unfold shWords formatArgsOrdered
  rw [List.append_assoc, sw_envs table_ok envs _ [] hk,
    sw_quote table_ok cmd _ [] false _ hc.1 hc.2,
    sw_args table_ok argv _ _ ha]
  simp

/-- `formatArgs` sorts the rendered assignments; sorting only permutes them, so
the multiset of words is independent of the (unordered) Go map's iteration. -/
theorem formatArgs_sorted_words (envs : List (Bytes × Bytes)) (cmd : Bytes) (argv : List Bytes)
    (hk : ∀ kv ∈ sortEnvs Gen.shellEscapes envs,
      (∀ b ∈ kv.1, isPlain b = true) ∧ validUtf8 kv.2 = true ∧ (0 : UInt8) ∉ kv.2)
    (hc : validUtf8 cmd = true ∧ (0 : UInt8) ∉ cmd)
    (ha : ∀ a ∈ argv, validUtf8 a = true ∧ (0 : UInt8) ∉ a) :
    shWords (formatArgs Gen.shellEscapes envs cmd argv)
      = some ((sortEnvs Gen.shellEscapes envs).map assignWord ++ cmd :: argv) :=
  formatArgs_words (sortEnvs Gen.shellEscapes envs) cmd argv hk hc ha

/-- Non-vacuity: hypotheses are met by a concrete command line with metacharacters. -/
example : (∀ kv ∈ [([0x41, 0x5F, 0x31], [0x24, 0x28, 0x69, 0x64, 0x29])],
      (∀ b ∈ (kv : Bytes × Bytes).1, isPlain b = true) ∧ validUtf8 kv.2 = true ∧ (0 : UInt8) ∉ kv.2)
    ∧ (validUtf8 [0x60, 0x22] = true ∧ (0 : UInt8) ∉ [0x60, 0x22]) := by decide

/-! ## Whole job scripts (template substitution of `RemoteJobManager.jobScript`)

`Martian.JobTemplate.run/shToks` is a POSIX shell line lexer (state machine:
blanks, newline, backslash, double and single quotes, comments, `>` `N>` `&`,
`$!`, assignment prefixes; anything else is refused).  `renderScript` is the
substitution on a template cut into lines and segments (the regenerated fact
`Gen.jobTemplates`), `params` the parameter table of `jobScript`. -/

/-- Regenerated obligation: names, order and KINDS of the `jobScript` parameters are those of
the model — STDOUT, STDERR, JOB_WORKDIR go through `shellSafeQuote`, CMD is `formatArgs`, the
numbers are `strconv.Itoa`, and exactly JOB_NAME, ACCOUNT, RESOURCES are substituted raw.
Fails on a tree that stops quoting one of them or adds a parameter. -/
theorem job_params_match_source : paramSpec = Gen.jobScriptParams := by decide +kernel

/-- Regenerated obligation: every line of every shipped template (with a command line) has a
shape the theorems below cover: empty, a `#` line not holding the command, `__MRO_CMD__` alone,
`__MRO_RESOURCES__` alone, `cd __MRO_JOB_WORKDIR__`, or the fake_remote line
`/usr/bin/env __MRO_CMD__ > __MRO_STDOUT__ 2> __MRO_STDERR__ & echo $!`; its literal text holds
no newline and its variables are parameters.  In particular no raw parameter and no variable
inside template quotes occurs on a command line.  Fails when a template gains another shape. -/
theorem shipped_templates_covered : Gen.jobTemplates.all (fun t => t.2.all lineOK) = true := by
  decide +kernel

/-- Non-vacuity: templates were found, each holds exactly one command line with `__MRO_CMD__`. -/
example : Gen.jobTemplates.length ≥ 8 ∧ Gen.jobTemplates.all (fun t =>
    (t.2.filter fun l => shapeOf l == .cmdAlone || shapeOf l == .envCmdBg).length == 1) = true := by
  decide +kernel

/-- Regenerated obligation: every `resopt` of jobmanagers/config.json (the text that, with the
mapped resource, replaces `__MRO_RESOURCES__`) is a one-line `#` directive. -/
theorem resopts_are_directives :
    Gen.jobResOpts.all (fun p => match p.2 with
      | 0x23 :: r => !r.contains 0x0A
      | _ => false) = true := by decide

example : Gen.jobResOpts ≠ [] := by decide

/-- Putting a newline-free resource `res` into a one-line `#` directive with `replaceFirst resKey` gives a one-line `#`
directive again: the step from `resopts_are_directives` to the hypothesis `JobOK.res`
(`shipped_resopt_gives_JobOK_res` below). -/
theorem resources_option_is_comment (res r : Bytes) (hr : (0x0A : UInt8) ∉ r)
    (hres : (0x0A : UInt8) ∉ res) :
    ∃ r', replaceFirst resKey res (0x23 :: r) = 0x23 :: r' ∧ (0x0A : UInt8) ∉ r' := by
  refine ⟨replaceFirst resKey res r, replaceFirst_hash res r, ?_⟩
  intro h
  rcases replaceFirst_mem resKey res r _ h with h | h
  · exact hres h
  · exact hr h

/-- `formatArgs` in the state machine: the lexer `shToks` reads the whole text as exactly the words
`KEY=value`… (marked as assignments), `cmd`, `arg`….  Values arbitrary NUL-free valid UTF-8. -/
theorem formatArgs_tokens (envs : List (Bytes × Bytes)) (cmd : Bytes) (argv : List Bytes)
    (hk : ∀ kv ∈ envs, isName kv.1 = true ∧ validUtf8 kv.2 = true ∧ (0 : UInt8) ∉ kv.2)
    (hc : validUtf8 cmd = true ∧ (0 : UInt8) ∉ cmd)
    (ha : ∀ a ∈ argv, validUtf8 a = true ∧ (0 : UInt8) ∉ a) :
    shToks (formatArgsOrdered Gen.shellEscapes envs cmd argv)
      = some (envs.map (fun kv => Tok.word (assignWord kv) true) ++ w cmd :: argv.map w) := by
  unfold shToks
  rw [run_formatArgsOrdered table_ok envs cmd argv hk hc ha]
  exact congrArg some (cmdWords_eq ⟨envs, cmd, argv, [], [], []⟩)

/-- no_injection, whole script, general form: for ANY template made of covered lines and ANY
values — command, arguments, environment (names are names), paths: arbitrary NUL-free valid
UTF-8 — the shell's token list of the rendered script is `expectedToks`: per line the
assignments in the order of `g.envs`, the command and the arguments, each reproduced byte for byte
(plus the template's own words and operators), separated by newline tokens; number and
boundaries of the tokens do not depend on the values.  Comment lines need their values to be
newline-free (`hnl`). -/
theorem script_tokens (vals : String → Bytes) (g : Given) (hv : ValsOK Gen.shellEscapes vals g)
    (ls : List SegLine) (hs : ∀ l ∈ ls, shapeOf l ≠ .other)
    (hnl : ∀ l ∈ ls, shapeOf l = .inert →
      ∀ s ∈ l, (0x0A : UInt8) ∉ (if segIsVar s then vals s.1 else s.2)) :
    shToks (renderScript vals ls) = some (expectedToks g ls) :=
  script_tokens_of_lines table_ok hv ls hs hnl

/-- no_injection for every SHIPPED template and the parameter values `jobScript` computes
(`params`: quoted paths, `formatArgs` of the thread variables merged with the job's
environment, decimal numbers, raw job name / account / resources option). -/
theorem jobScript_tokens (t : String × List SegLine) (ht : t ∈ Gen.jobTemplates)
    (j : JobIn) (hj : JobOK j) (hn : NoNl j) :
    shToks (renderScript (valsOf (params Gen.shellEscapes j)) t.2)
      = some (expectedToks (givenOf Gen.shellEscapes j) t.2) := by
  have := shipped_templates_covered
  rw [List.all_eq_true] at this
  exact job_tokens_of_lines table_ok j hj hn t.2 (this t ht)

/-- Templates whose comment lines hold no variable (fake_remote.template): the same without
any newline hypothesis — paths with newlines are reproduced too. -/
theorem jobScript_tokens_no_comment_vars (t : String × List SegLine) (ht : t ∈ Gen.jobTemplates)
    (hnv : noVarsInComments t.2 = true) (j : JobIn) (hj : JobOK j) :
    shToks (renderScript (valsOf (params Gen.shellEscapes j)) t.2)
      = some (expectedToks (givenOf Gen.shellEscapes j) t.2) := by
  have := shipped_templates_covered
  rw [List.all_eq_true] at this
  exact job_tokens_no_comment_vars table_ok j hj t.2 (this t ht) hnv

/-- Non-vacuity: such a template is shipped. -/
example : ∃ t ∈ Gen.jobTemplates, noVarsInComments t.2 = true := by decide

/-- Non-vacuity of `JobOK`/`NoNl`: a job with metacharacters in command, argument, environment
value and paths (`$(id)`, backtick, quote, backslash, blank) is inside the domain. -/
example : ∃ j : JobIn, JobOK j ∧ NoNl j ∧ j.cmd = [0x2F, 0x24, 0x28, 0x69, 0x64, 0x29] :=
  ⟨sampleJob [], (sampleJob_ok []).1, (sampleJob_ok []).2, rfl⟩

/-- Negative witness (F31): the newline hypothesis cannot be dropped for templates that carry a
path on a scheduler-directive line.  `#$ -o ` followed by the correctly quoted path
`/p⏎id #`: the newline ends the comment and the shell reads the command `id`. -/
theorem newline_in_directive_path_is_code :
    shToks ([0x23, 0x24, 0x20, 0x2D, 0x6F, 0x20] ++
        quote Gen.shellEscapes [0x2F, 0x70, 0x0A, 0x69, 0x64, 0x20, 0x23])
      = some [Tok.nl, Tok.word [0x69, 0x64] false] := by decide

/-- Values substituted RAW (JOB_NAME, ACCOUNT, RESOURCES): in every shipped template they sit
on `#` lines only (`shipped_templates_covered`), where every byte but newline is harmless.  On a
command line a raw byte `b` between two letters stays part of one literal word exactly when it
is a letter, digit, `_` or one of `/ . - + : , @ % #` (`=` keeps one word but gives it the
shape of an assignment; every other byte — blank, quote, `$`, `&`, `;`, `|`, `<`, `>`, `(`,
`*`, `?`, `~`, backslash, control and non-ASCII bytes … — is split, interpreted or refused): -/
theorem raw_byte_safe_iff :
    (List.range 256).all (fun n =>
      let b := n.toUInt8
      (shToks [0x78, b, 0x78] == some [Tok.word [0x78, b, 0x78] false])
        == (isNameCh b || isBareExtra b || b == 0x23)) = true := by decide +kernel

/-- Negative witness for a raw value on a command line: the fork name of the map key `a&b`
(`url.PathEscape` leaves `$ & + = : @` alone) would be split into two commands. -/
theorem raw_job_name_on_command_line_splits :
    shToks [0x65, 0x63, 0x68, 0x6F, 0x20, 0x61, 0x26, 0x62]
      = some [Tok.word [0x65, 0x63, 0x68, 0x6F] false, Tok.word [0x61] false, Tok.op [0x26],
              Tok.word [0x62] false] := by decide

/-! ## The byte-level replacer IS the segment-level rendering

`jobScript` builds the script with `strings.NewReplacer` on the raw template text
(`replaceGo`, `replArgs`: key ↦ value pairs, and for an empty value every line holding the key
↦ ""); the theorems above speak about `renderScript` on the template cut into segments.
`wfTemplate` is a decidable condition on the segmentation (no key and no removable line text
starts inside literal text, exactly the variable's key starts at a variable, a removable line
starts with literal text or is one variable alone, …) under which the two agree for ALL values. -/

/-- Regenerated obligation: the key table of the model is the source's (`__MRO_` name `__`). -/
theorem job_keys_match_source : paramKeys = Gen.jobScriptKeys := by
  -- the kernel decodes a string literal slowly; `bytesOf_ofList` hands it the characters instead
  simp only [paramKeys, paramSpec, params, List.map, varKey_eq]
  repeat rw [bytesOf_ofList]
  decide +kernel

/-- Regenerated obligation: every shipped template, as cut by verif-extract, is well formed
(checked at every byte position of every template; kernel evaluation). -/
theorem shipped_templates_wellformed :
    Gen.jobTemplates.all (fun t => wfTemplate Gen.jobScriptKeys maybeEmptyParams t.2) = true := by
  decide +kernel

/-- General form: for any key table, any well-formed segmented template and ANY values of which
only the `maybeEmpty` parameters may be empty, Go's replacer applied to the template text
yields exactly `renderScript`. -/
theorem replacer_is_renderScript (keys : Keys) (maybeEmpty : List String) (ls : List SegLine)
    (vals : String → Bytes) (hwf : wfTemplate keys maybeEmpty ls = true)
    (hne : ∀ nk ∈ keys, nk.1 ∉ maybeEmpty → vals nk.1 ≠ []) :
    replaceGo (pairsOf keys vals ls) 0 (templateTextK keys ls) = renderScript vals ls :=
  (Setting.mk hwf hne).replace_eq_render

/-- Non-vacuity: a template with a removable line and two variables is well formed. -/
example : wfTemplate [("A", [0x5F, 0x41]), ("B", [0x5F, 0x42])] ["B"]
    [[("", [0x23, 0x20]), ("B", [])], [("", [0x78, 0x20]), ("A", []), ("", [0x79])], []] = true := by
  decide

/-- `jobScript` on the text of a shipped template = `renderScript` on its segments, for every
job (the quoted, numeric and command parameters are never empty: `job_vals_ne`). -/
theorem jobScript_is_renderScript (t : String × List SegLine) (ht : t ∈ Gen.jobTemplates)
    (j : JobIn) (hT : j.tmpl = templateTextK Gen.jobScriptKeys t.2) :
    jobScript Gen.shellEscapes j = renderScript (valsOf (params Gen.shellEscapes j)) t.2 := by
  have h := shipped_templates_wellformed
  rw [List.all_eq_true] at h
  have hw := h t ht
  rw [← job_keys_match_source] at hw hT
  exact jobScript_eq_render t.2 hw j hT

/-- no_injection for the script `jobScript` really produces (byte-level replacer model) from the
text of any shipped template: its shell tokens are the value-independent skeleton with every
given string reproduced as exactly one word. -/
theorem jobScript_no_injection (t : String × List SegLine) (ht : t ∈ Gen.jobTemplates)
    (j : JobIn) (hT : j.tmpl = templateTextK Gen.jobScriptKeys t.2) (hj : JobOK j) (hn : NoNl j) :
    shToks (jobScript Gen.shellEscapes j)
      = some (expectedToks (givenOf Gen.shellEscapes j) t.2) := by
  rw [jobScript_is_renderScript t ht j hT]
  exact jobScript_tokens t ht j hj hn

/-! ## The hypotheses of the job-script theorems hold for the shipped templates and configuration -/

/-- The regenerated facts the job-script theorems rest on were really extracted from the tree
(none of them may silently fall back to a committed default). -/
theorem job_facts_extracted :
    Gen.shellEscapes_extracted = true ∧ Gen.jobScriptParams_extracted = true ∧
    Gen.jobScriptKeys_extracted = true ∧ Gen.jobTemplates_extracted = true ∧
    Gen.jobResOpts_extracted = true := by decide

theorem mem_of_lookup {k v : Bytes} : ∀ {l : List (Bytes × Bytes)}, l.lookup k = some v → (k, v) ∈ l :=
  Proofs.ListFacts.mem_of_lookup

/-- The hypothesis `JobOK.res` (the substituted resources option is absent or a
one-line comment) HOLDS for every job whose `resopt` is one of the shipped `config.json` and
whose MRO_JOBRESOURCES mapping values contain no newline (`resources_option_is_comment` is the
`replaceFirst` step of it). -/
theorem shipped_resopt_gives_JobOK_res (j : JobIn) (h : ∃ p ∈ Gen.jobResOpts, p.2 = j.resOpt)
    (hm : ∀ kv ∈ j.mappings, (0x0A : UInt8) ∉ kv.2) :
    mappedResources j = [] ∨ ∃ r, mappedResources j = 0x23 :: r ∧ (0x0A : UInt8) ∉ r := by
  unfold mappedResources
  split
  · exact Or.inl rfl
  · split
    · rename_i res hl
      right
      obtain ⟨p, hp, he⟩ := h
      have hd := resopts_are_directives
      rw [List.all_eq_true] at hd
      have := hd p hp
      rw [he] at this
      split at this
      · rename_i r heq
        have hr : (0x0A : UInt8) ∉ r := by simpa using this
        rw [heq]
        exact resources_option_is_comment res r hr (hm _ (mem_of_lookup hl))
      · cases this
    · exact Or.inl rfl

/-- Non-vacuity with a MAPPED resources option (`__special = highmem`, MRO_JOBRESOURCES
`highmem:mem_free=64G`, the shipped sge `resopt`): the job is inside the domain and the raw text
lands in the script as the directive `#$ -l mem_free=64G`. -/
example : ∃ j : JobIn, JobOK j ∧ NoNl j ∧
    mappedResources j = [0x23, 0x24, 0x20, 0x2D, 0x6C, 0x20, 0x6D, 0x65, 0x6D, 0x5F, 0x66, 0x72, 0x65,
      0x65, 0x3D, 0x36, 0x34, 0x47] :=
  ⟨{ tmpl := [], fqname := [0x49, 0x44], shellName := [0x6D], stdout := [0x2F, 0x6F],
     stderr := [0x2F, 0x65], workdir := [0x2F, 0x77], threadEnvs := [],
     envs := [], cmd := [0x2F, 0x70], argv := [], threads := 1, memGB := 1, vmemGB := 0,
     threadsPerJob := 1, memGBPerJob := 1, extraVmemGB := 0, memGBPerCore := 0, alwaysVmem := false,
     account := [0x61], special := [0x68, 0x69, 0x67, 0x68, 0x6D, 0x65, 0x6D],
     mappings := [([0x68, 0x69, 0x67, 0x68, 0x6D, 0x65, 0x6D],
       [0x6D, 0x65, 0x6D, 0x5F, 0x66, 0x72, 0x65, 0x65, 0x3D, 0x36, 0x34, 0x47])],
     resOpt := [0x23, 0x24, 0x20, 0x2D, 0x6C, 0x20, 0x5F, 0x5F, 0x52, 0x45, 0x53, 0x4F, 0x55, 0x52, 0x43,
       0x45, 0x53, 0x5F, 0x5F] },
   { threadEnvs := by decide, envs := by decide, cmd := by decide, argv := by decide,
     stdout := by decide, stderr := by decide, workdir := by decide,
     res := Or.inr ⟨[0x24, 0x20, 0x2D, 0x6C, 0x20, 0x6D, 0x65, 0x6D, 0x5F, 0x66, 0x72, 0x65, 0x65, 0x3D, 0x36,
       0x34, 0x47], by decide, by decide⟩ },
   { fqname := by decide, shellName := by decide, stdout := by decide, stderr := by decide,
     workdir := by decide, account := by decide }, by decide⟩

/-- Non-vacuity of the JOINT hypotheses of `jobScript_no_injection`: for
EVERY shipped template there is a job on that template's own text, with metacharacters in the
command, an argument, an environment value and the paths, inside `JobOK` and `NoNl`. -/
example : ∀ t ∈ Gen.jobTemplates, ∃ j : JobIn,
    j.tmpl = templateTextK Gen.jobScriptKeys t.2 ∧ JobOK j ∧ NoNl j :=
  fun t _ => ⟨sampleJob _, rfl, (sampleJob_ok _).1, (sampleJob_ok _).2⟩

end Props.C18
