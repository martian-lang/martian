/-
C09 — formatting is idempotent and preserves the program.
PROPERTY THEOREMS ONLY.  Models: Martian/Format.lean (quoteString, topoSort),
Martian/FormatExp.lean (value expressions, tokenizer, reader), FormatExpText.lean
(accepted texts), FormatCall.lean / FormatCall2.lean (call statements, return,
retain, pipeline bodies), FormatDecl.lean (types, parameter lists, struct,
filetype), FormatRes.lean (src line, resources incl. formatGB, stage retain),
FormatStage.lean, FormatPipe.lean, FormatFile.lean.  Lemmas: Proofs/Format*.lean.

Sections (each: round trip `parse (format x) = some (norm x)` for every
well-formed x of the modelled AST, idempotence `format (norm x) = format x`,
stability of the normal form, lexing statement, non-vacuity examples by
`decide +kernel`, negative witnesses):
  (top)               quote/unquote of strings; topoSort (permutation; closure is
                      a fixed point and transitive for every graph; dependency
                      order and idempotence with the only hypothesis "no cycle");
                      regenerated keyword table / id production (fail closed)
  ValueExpressions    parse_format_exp, format_exp_idem, …          (from an AST)
  CallStatements      calls without modifiers
  Declarations        types, parameter lists, struct, filetype
  StageClauses        formatGB_roundtrip, resources, retain, src line
  PipelineStatements  full call statements, return, retain, bodies
  StageDeclarations   parse_format_stage
  PipelineDeclarations parse_format_pipeline, format_pipeline_idem (incl. the
                      reordering of calls: closedDeps_least, relabelling)
  WholeFile           parse_format_file, parse_source_any_order,
                      format_preserves_program (comment-free files)
  AcceptedTexts       from an ACCEPTED SOURCE TEXT (value expressions): the range
                      of lexer and reader, parse_produces_wf_partial,
                      format_preserves_accepted_exp_partial (the two hypotheses
                      are the recorded findings F6b and F26)
  AcceptedDeclTexts   from an accepted source text of a filetype, struct, parameter
                      list or stage: format_preserves_accepted_stage32_partial (the
                      output is accepted, denotes the same stage, is a fixed point;
                      hypotheses F6b, F29), and the same for the other three
  AcceptedCallTexts   from an accepted source text of a call statement or pipeline:
                      format_preserves_accepted_call2_partial,
                      format_preserves_accepted_pipeline_partial (same pipeline up to
                      the reordering of calls; hypotheses F6b, F26, F40, F34)
  AcceptedFileTexts   from an accepted source text of a whole file (comments dropped):
                      format_preserves_accepted_file32_partial (the output is
                      accepted, denotes `normFile` of the file, is a fixed point;
                      hypothesis `fileHyps32`: F6b, F26, F29, F40, F34)
  ResourceDomain      `wfMB` is `gbRoundTrips` (gbRoundTrips_spec: the real reader
                      inverts `formatGB`); it holds below 256 GB and for whole GB up
                      to 64 TB
The sections before AcceptedTexts start from an AST satisfying the stated `wf…`
predicate (print → read → print).
Not proved: comments, include expansion (monitors only); strconv float
printing/parsing (abstract: texts / `GOK`); the goyacc automaton (the readers
are recursive-descent models tied by correspondence on generated, respelled
and near-miss texts).  Theorems below a header `definitional unfoldings` are
documentation of the model, not guarantees.
-/
import Martian.Format
import Proofs.FormatTopo
import Proofs.FormatClosure
import Proofs.FormatQuote
import Proofs.FormatExpRound
import Proofs.FormatExpLex
import Proofs.FormatCallWords
import Martian.FormatExp
import Gen.Facts
import Proofs.FormatDeclLex

import Proofs.FormatResGB
import Proofs.FormatStageLex

import Proofs.FormatCall2Lex



import Proofs.FormatPipeParse
import Proofs.FormatFileLex
import Proofs.FormatExpRangeText
import Proofs.FormatStageRangeText
import Proofs.FormatStageRangeGB32
import Proofs.FormatCallRange

import Proofs.FormatPipeRangeText
import Proofs.FormatFileRangeText

namespace Props.C09
open Martian.Format

/-- The reordering of calls never loses, duplicates or invents a call, for any
number of calls and any dependency edges (cyclic ones included). -/
theorem topoSort_perm (n : Nat) (edges : List (Nat × Nat)) :
    (topoSort n edges).Perm (List.range n) :=
  topoSort_perm' n edges

/-- The shift loop leaves an order alone in which no call depends on a later
one — for every dependency relation and every fuel: a formatted pipeline is a
fixed point of the reordering.  (This is "identity on sorted input", NOT the
stability the Go comment speaks of — the relative order of independent calls
being preserved when something does move — for which there is no theorem.) -/
theorem topoSort_stable (d : Dep) (f : Nat) (l : List Nat) (h : sortedFrom d l = true) :
    loop d f l 0 = l :=
  loop_sorted d f l 0 (by simpa using h)

/-- The closure `topoSort` computes before sorting contains the direct
dependencies. -/
theorem closedDeps_contains_edges (n : Nat) (edges : List (Nat × Nat)) (a b : Nat)
    (ha : a < n) (hb : b < n) (h : (a, b) ∈ edges) : closedDeps n edges a b = true :=
  closedDeps_contains_edges' n edges a b ha hb h

/-- **The closure loop terminates in a fixed point.**  `closedTable` runs rounds
of `addNextDeps` until a round adds nothing, with fuel `n² + 1`; for every
number of calls and every edge list that fuel is never exhausted: one more
round leaves the result unchanged. -/
theorem closedTable_is_fixpoint (n : Nat) (edges : List (Nat × Nat)) :
    tabulate n (closeOnce n (ofTable (closedTable n edges))) = closedTable n edges :=
  closedTable_fix n edges

/-- non-vacuity: on a chain of 5 calls the loop really iterates: the first and
the second round both change the table (paths of length ≤ 2, then ≤ 4), the
third is the round that adds nothing and ends the loop -/
example :
    let e := [(0, 1), (1, 2), (2, 3), (3, 4)]
    let t0 := tabulate 5 (depOfEdges e)
    t0 ≠ closeTab 5 1 t0 ∧ closeTab 5 1 t0 ≠ closeTab 5 2 t0 ∧
    closeTab 5 2 t0 = closeTab 5 3 t0 ∧ closeTab 5 2 t0 = closedTable 5 e := by decide +kernel

/-- **The closed relation is transitive** on the calls, for every number of
calls and every set of direct dependencies (cyclic ones included): what
`addNextDeps` is there to establish, and what the shift loop needs. -/
theorem closedDeps_transitive (n : Nat) (edges : List (Nat × Nat)) :
    transOn (List.range n) (closedDeps n edges) = true :=
  closedDeps_trans n edges

/-- non-vacuity: on the chain of 5 calls the direct dependencies, and the
relation after one round, are not transitive; the closed relation holds
exactly the 10 pairs `a < b` of the chain -/
example :
    let e := [(0, 1), (1, 2), (2, 3), (3, 4)]
    let t0 := tabulate 5 (depOfEdges e)
    transOn (List.range 5) (ofTable t0) = false ∧
    transOn (List.range 5) (ofTable (closeTab 5 1 t0)) = false ∧
    closedDeps 5 e 0 4 = true ∧ closedDeps 5 e 4 0 = false ∧
    tabulate 5 (closedDeps 5 e) = tabulate 5 (fun a b => decide (a < b)) := by decide +kernel

/-- **Respects dependencies.**  When the closed dependency relation has no
cycle (otherwise the Go code returns an error and leaves the order alone), no
call in the result is followed by a call it depends on (transitivity:
`closedDeps_transitive`) — with `topoSort_perm`: every call comes after all its
dependencies.  The fuel `n² + n + 1` of the model is never exhausted (the loop
needs at most `2n` iterations). -/
theorem topoSort_respects_deps (n : Nat) (edges : List (Nat × Nat))
    (hcyc : hasCycle n (closedDeps n edges) = false)
    (a b : Nat) (ha : a < n) (hb : b < n) (hab : (a, b) ∈ edges)
    (A B : List Nat) (hl : topoSort n edges = A ++ a :: B) : b ∉ B :=
  sorted_no_later_dep _ _ A B a b (topoSort_sorted' n edges hcyc) hl
    (closedDeps_contains_edges n edges a b ha hb hab)

/-- the same for transitive dependencies: the result is in dependency order
for the whole closed relation (no transitivity hypothesis: `closedDeps_transitive`) -/
theorem topoSort_sorted_closed (n : Nat) (edges : List (Nat × Nat))
    (hcyc : hasCycle n (closedDeps n edges) = false) :
    sortedFrom (closedDeps n edges) (topoSort n edges) = true :=
  topoSort_sorted' n edges hcyc

/-- **Idempotent.**  Running the shift loop again on the result, with any
fuel, returns it unchanged (for every acyclic graph; transitivity is proved,
`closedDeps_transitive`). -/
theorem topoSort_idem (n : Nat) (edges : List (Nat × Nat)) (f : Nat)
    (hcyc : hasCycle n (closedDeps n edges) = false) :
    loop (closedDeps n edges) f (topoSort n edges) 0 = topoSort n edges :=
  topoSort_stable _ f _ (topoSort_sorted' n edges hcyc)

/-- the general loop statement: any call list, any relation that is transitive
and irreflexive on it, fuel above twice the length -/
theorem loop_sorts (d : Dep) (l : List Nat) (f : Nat)
    (htr : transOn l d = true) (hirr : irreflOn l d = true) (hf : 2 * l.length < f) :
    sortedFrom d (loop d f l 0) = true :=
  loop_sorted_of_closed d l f htr hirr hf

/-- non-vacuity: the hypotheses hold on a graph where three of four calls must
move, and on a 5-call graph with a forward chain -/
example : hasCycle 4 (closedDeps 4 [(0, 1), (1, 3), (2, 3)]) = false ∧
    transOn (List.range 4) (closedDeps 4 [(0, 1), (1, 3), (2, 3)]) = true ∧
    topoSort 4 [(0, 1), (1, 3), (2, 3)] = [3, 2, 1, 0] ∧
    hasCycle 5 (closedDeps 5 [(0, 4), (4, 2), (1, 0), (3, 1)]) = false ∧
    transOn (List.range 5) (closedDeps 5 [(0, 4), (4, 2), (1, 0), (3, 1)]) = true := by decide +kernel

/-- a dependency cycle is detected and leaves the order unchanged -/
theorem topoSort_cycle_sample :
    hasCycle 3 (closedDeps 3 [(0, 1), (1, 0)]) = true ∧ topoSort 3 [(0, 1), (1, 0)] = [0, 1, 2] := by decide +kernel

/-- **String round trip.**  For every valid UTF-8 byte string the lexer's
`unquoteBytes` returns exactly what `quoteString` was given (every escape
class of `quoteString`: `\\ \" \b \f \n \r \t \u00XX`, DEL and printable
ASCII verbatim, multi-byte runes verbatim, U+2028/U+2029 escaped). -/
theorem unquote_quote (s : List UInt8) (h : Martian.ShellQuote.validUtf8 s = true) :
    Martian.Lexer.unquoteBytes (quoteString s) = some s :=
  unquote_quoteString s h

/-- non-vacuity: a valid string with every class of character -/
example : Martian.ShellQuote.validUtf8
    [0x61, 0x22, 0x5C, 0x0A, 0x01, 0x7F, 0xE2, 0x80, 0xA8, 0xC3, 0xA9, 0xF0, 0x9F, 0x98, 0x80] = true := by decide +kernel

/-- Negative witness F6b: a byte that is not valid UTF-8 is replaced by
U+FFFD. -/
theorem invalid_byte_not_preserved :
    Martian.Lexer.unquoteBytes (quoteString [0xFF]) = some [0xEF, 0xBF, 0xBD] := by decide +kernel

/-- Negative witness F6, about a formatter that writes `src` commands and include
paths between bare quotes (`emitRaw`; in the code under test `SrcParam.format`
and the `@include` lines call `quoteString`): written between bare quotes, `a"b`
is not even a string token; quoted it is. -/
theorem raw_emission_breaks :
    Martian.Lexer.matchString (emitRaw [0x61, 0x22, 0x62] ++ [0x2C]) = some [0x22, 0x61, 0x22] ∧
    Martian.Lexer.matchString (quoteString [0x61, 0x22, 0x62] ++ [0x2C]) = some (quoteString [0x61, 0x22, 0x62]) := by
  decide +kernel

/-- the keyword table the tokenizer model uses is the one in tokenizer.go now:
`Gen.tokKeywords` is re-read on every run from the `bytesPrefixString(b, X)` calls
of `keywordToken` (text, token constant; source order; without `@include`).  The first conjunct makes
the obligation fail when the extractor no longer finds the pattern (it would otherwise fall back to
the committed default, which is this very table): a new keyword is detected by this fact only. -/
theorem keyword_table_current :
    Gen.tokKeywords_extracted = true ∧ Gen.tokKeywords = Martian.FormatExp.keywordTable := by decide +kernel

/-- … and the tokens the grammar's `id` production accepts besides `ID` are the
alternatives of that production in grammar.y now (`Gen.idTokens`, source order) -/
theorem id_tokens_current :
    Gen.idTokens_extracted = true ∧ Gen.idTokens = Martian.FormatExp.idTokens := by decide +kernel


/-! ## value expressions: printer / reader round trip

Model: `Martian.FormatExp` (`fmt` = `Exp.format` as run by `FormatExp`;
`parseValExp` = tokenizer + `val_exp` grammar as run by `Parser.ParseValExp`;
`wf` = the expressions the claim is made for; `norm` = the documented
normalisations).  Tied on every run: `fmt` vs `syntax.FormatExp` byte for byte,
`parseValExp` vs `Parser.ParseValExp` (AST dump) on printed and near-miss
texts, and the three statements below monitored on the real code
(harness/c09exp.go). -/
section ValueExpressions
open Martian.FormatExp

/-- **Round trip.**  For EVERY well-formed value expression (any nesting of
arrays, maps, struct literals, references inside collections, strings with any
valid UTF-8 content, any `int64`, floats given by their 'g' text), the reader
accepts the printed text and returns the expression up to the normalisations
`norm` (a nil array prints as `null`; an integral float prints without `.`/`e`
and reads back as an int; an empty struct literal reads back as an empty map). -/
theorem parse_format_exp (e : Exp) (hw : wf e = true) (hv : isVal e = true) :
    -- (starts from an AST: `wf` excludes two things the PARSER can produce - a string that is
    -- not valid UTF-8 (F6b, `invalid_byte_not_preserved`) and the float `-0` (F26,
    -- `negative_zero_not_wf`); the statement for accepted source TEXTS, with exactly these two
    -- exceptions as hypotheses, is `format_preserves_accepted_exp_partial` in section AcceptedTexts;
    -- the name is kept without `_partial` because other properties build on it)
    parseValExp (fmt [] e) = some (norm e) :=
  parseValExp_fmt e [] hw hv rfl

/-- the same for any indentation prefix made of white space (`FormatExp(e, prefix)`) -/
theorem parse_format_exp_prefix (e : Exp) (p : List UInt8) (hw : wf e = true) (hv : isVal e = true)
    (hp : p.all isSp = true) : parseValExp (fmt p e) = some (norm e) :=
  parseValExp_fmt e p hw hv hp

/-- references are covered wherever the grammar allows them (inside a
collection): `[e]` for any well-formed `e`, a reference included -/
theorem parse_format_exp_nested (e : Exp) (hw : wf e = true) :
    parseValExp (fmt [] (.arr [e])) = some (.arr [norm e]) := by
  have := parse_format_exp (.arr [e]) (by simp [wf, wfL, hw]) rfl
  simpa [norm, normL] using this

/-- **Idempotent.**  Printing what was read back gives the same text: the
printed form of a well-formed expression is a fixed point of read-then-print. -/
theorem format_exp_idem (e : Exp) (p : List UInt8) (hw : wf e = true) : fmt p (norm e) = fmt p e :=
  fmt_norm e p hw

/-- read-then-print, in one statement -/
theorem format_parse_format_exp (e e' : Exp) (hw : wf e = true) (hv : isVal e = true)
    (h : parseValExp (fmt [] e) = some e') : fmt [] e' = fmt [] e ∧ wf e' = true ∧ parseValExp (fmt [] e') = some e' :=
  have ⟨e1, e2, e3⟩ := Martian.FormatDecl.roundtrip_norm (print := fmt []) (parse_format_exp e hw hv) (fmt_norm e [] hw) h
  ⟨e2, e1 ▸ wf_norm e hw, e3⟩

/-- the normal form is well-formed and normal: after one round trip nothing changes any more -/
theorem norm_stable (e : Exp) (hw : wf e = true) : wf (norm e) = true ∧ norm (norm e) = norm e :=
  ⟨wf_norm e hw, norm_norm e⟩

/-- the lexer sees exactly the intended tokens, also in nested position (any
white-space prefix; followed by `,` `]` `}` newline, space or the end) -/
theorem lex_format_exp (e : Exp) (p rest : List UInt8) (hw : wf e = true) (hp : p.all isSp = true)
    (hr : TermStart rest) : lexAll (fmt p e ++ rest) = (lexAll rest).map (toks e ++ ·) :=
  lexAll_fmt e p rest hw hp hr

/-- non-vacuity: a well-formed expression with every construct — negative and
extreme ints, a float with exponent and an integral float, strings needing
every escape class, nested and empty collections, a one-element array (single
line) and one of a multi-line element, map keys needing escapes, struct keys of
different lengths incl. an id-like keyword, call and self references with
paths, `X.default`, a nil array -/
example : wf (.arr [
    .int (-9223372036854775808), .int 9223372036854775807, .null, .nilArr, .bool true,
    .float [0x31, 0x65, 0x2B, 0x30, 0x36], .float [0x2D, 0x32, 0x2E, 0x35], .float [0x31, 0x30, 0x30],
    .str [0x61, 0x22, 0x5C, 0x0A, 0x01, 0x7F, 0xE2, 0x80, 0xA8, 0xC3, 0xA9, 0xF0, 0x9F, 0x98, 0x80],
    .arr [], .map [], .struct [], .arr [.arr [.int 1]], .arr [.map [([0x6B], .null)]],
    .map [([0x22], .int 1), ([0x61, 0x0A], .arr [.int 1, .int 2])],
    .struct [([0x61], .int 1), ([0x73, 0x70, 0x6C, 0x69, 0x74], .arr [.int 1, .int 2]), ([0x7A, 0x7A, 0x7A], .str [])],
    .ref false [0x58] [], .ref false [0x58] [[0x61], [0x62]], .ref false [0x58] [sDefault],
    .ref true [0x78] [], .ref true [0x78] [[0x79]]]) = true := by decide +kernel

/-- Negative witness (F26): the float `-0.0` prints as `-0`, which is not the
canonical text of an integer, so it is outside `wf`; the text lexes as the
integer token `-0`, whose value prints as `0`. -/
theorem negative_zero_not_wf :
    wf (.float [0x2D, 0x30]) = false ∧
    Martian.Lexer.numTok false [0x2D, 0x30] = .int [0x2D, 0x30] ∧
    Martian.Lexer.parseInt [0x2D, 0x30] = some 0 ∧ fmt [] (.int 0) = [0x30] := by decide +kernel

/-- Negative witness: outside `wf` the round trip can fail — a struct field or
reference named like a reserved word (`in`) is printed bare and is then a
keyword token, not an `id` -/
theorem reserved_word_not_ident :
    isIdent [0x69, 0x6E] = false ∧ wordLexeme [0x69, 0x6E] = .tok (.reserved [0x69, 0x6E]) ∧
    parseToks [.punct 0x7B, .reserved [0x69, 0x6E], .punct 0x3A, .kNull, .punct 0x2C, .punct 0x7D] = none := by
  decide +kernel

end ValueExpressions

/-! ## call statements: printer / reader round trip

Model: `Martian.FormatCall` (`fmtCall` = `CallStm.format(printer, "")` for a
call without modifiers, wildcard binding and comments: with nothing else in the
file, the whole output of `FormatSrcBytes`; `parseCall` = tokenizer + the
first two alternatives of `call_stm`; `wfCall` = the calls the claim is made
for; `normCall` = `norm` on every binding expression).  Tied on every run:
`fmtCall` vs the real formatter byte for byte, `parseCall` vs
`Parser.UncheckedParse` (dump of `Ast.Call`) on printed, respelled and
near-miss texts (harness/c09call.go). -/
section CallStatements
open Martian.FormatExp Martian.FormatCall

/-- **Round trip.**  For EVERY well-formed call statement (`call` / `map call`,
with or without `as`, any number of bindings, split bindings of non-empty
arrays, non-empty maps and references, plain bindings of any well-formed
expression, ids of any length incl. the 30-byte alignment cut-off), the reader
accepts the printed text and returns the call up to `norm` of the values. -/
theorem parse_format_call (c : Call) (hw : wfCall c = true) :
    parseCall (fmtCall c) = some (normCall c) :=
  parseCall_fmtCall c hw

/-- **Idempotent.**  Printing what was read back gives the same text. -/
theorem format_call_idem (c : Call) (hw : wfCall c = true) : fmtCall (normCall c) = fmtCall c :=
  fmtCall_norm c hw

/-- read-then-print, in one statement: the result is well-formed, prints the same and reads back
as itself -/
theorem format_parse_format_call (c c' : Call) (hw : wfCall c = true)
    (h : parseCall (fmtCall c) = some c') :
    fmtCall c' = fmtCall c ∧ wfCall c' = true ∧ parseCall (fmtCall c') = some c' :=
  have ⟨e1, e2, e3⟩ := Martian.FormatDecl.roundtrip_norm (parse_format_call c hw) (fmtCall_norm c hw) h
  ⟨e2, e1 ▸ wfCall_norm c hw, e3⟩

/-- the lexer sees exactly the intended tokens -/
theorem lex_format_call (c : Call) (hw : wfCall c = true) : lexAll (fmtCall c) = some (toksCall c) :=
  lexAll_fmtCall c hw

/-- non-vacuity: a well-formed map call with an `as`, a split array, a split
reference, a plain struct value (with an integral float, which `norm`
changes), a plain reference to a call named `split`, and ids of different
lengths (one of 31 bytes, beyond the alignment cut-off) -/
example :
    let c : Call := ⟨[0x53, 0x54], [0x61, 0x6C, 0x69, 0x61, 0x73],
      [⟨[0x61], true, .arr [.int 1, .str [0x78]]⟩,
       ⟨[0x62, 0x62, 0x62], true, .ref false [0x58] [[0x6F, 0x78]]⟩,
       ⟨[0x73, 0x70, 0x6C, 0x69, 0x74], false,
         .struct [([0x6B], .float [0x31, 0x30, 0x30]), ([0x6C, 0x6F, 0x6E, 0x67], .arr [.null, .bool true])]⟩,
       ⟨List.replicate 31 0x71, false, .ref false sSplit []⟩,
       ⟨[0x64, 0x64], true, .map [([0x6B], .ref true [0x70] [])]⟩]⟩
    wfCall c = true ∧ isMap c = true ∧ idWidth c.binds = 5 ∧ c.id ≠ c.decId ∧
      (parseCallToks (toksCall c)).map toksCall = some (toksCall (normCall c)) := by decide +kernel

/-- Negative witnesses: the split forms the grammar does not have are outside
`wfCall` (empty array, struct literal, a number), `split` before a comma or a
dot is an identifier, and `map call` without a split binding / `call` with one
are rejected -/
theorem split_near_misses :
    wfBind ⟨[0x61], true, .arr []⟩ = false ∧ wfBind ⟨[0x61], true, .struct [([0x6B], .int 1)]⟩ = false ∧
    wfBind ⟨[0x61], true, .int 1⟩ = false ∧
    -- call X(a = split,)
    (parseCallToks [.reserved sCall, .id [0x58], .punct 0x28, .id [0x61], .punct 0x3D, .id sSplit,
      .punct 0x2C, .punct 0x29]).map toksCall =
      some (toksCall ⟨[0x58], [0x58], [⟨[0x61], false, .ref false sSplit []⟩]⟩) ∧
    -- map call X(a = split,)
    (parseCallToks [.reserved sMap, .reserved sCall, .id [0x58], .punct 0x28, .id [0x61], .punct 0x3D,
      .id sSplit, .punct 0x2C, .punct 0x29]).isNone = true ∧
    -- call X(a = split [1],)
    (parseCallToks [.reserved sCall, .id [0x58], .punct 0x28, .id [0x61], .punct 0x3D, .id sSplit,
      .punct 0x5B, .int [0x31], .punct 0x5D, .punct 0x2C, .punct 0x29]).isNone = true ∧
    -- map call X(a = 1,)
    (parseCallToks [.reserved sMap, .reserved sCall, .id [0x58], .punct 0x28, .id [0x61], .punct 0x3D,
      .int [0x31], .punct 0x2C, .punct 0x29]).isNone = true := by decide +kernel

end CallStatements

/-! ## type names, parameter lists, `struct` and `filetype` declarations

Model: `Martian.FormatDecl` (`fmtParam mw tw iw hw` = `paramFormat` for ARBITRARY
column widths, `widths` = `getWidths`, `maxWidths` = `measureParamsWidths`,
`fmtStruct` = `StructType.format`, `fmtFiletype` = `UserType.format`; readers
`pType`, `pInParams`, `pOutParams`, `pMembers`, `parseStruct`, `parseFiletype`,
`parseParams` for the grammar's `type_id`, `in_param_list`, `out_param_list`,
`struct_field_list`, `struct`, `dec: FILETYPE id_list ';'`; `wfParam`,
`wfMember`, `wfStruct`, `wfFiletype` = the values the parser can produce).  No
normal form is needed: the AST is preserved exactly.  Tied on every run
(harness/c09decl.go): `fmtStruct`/`fmtFiletype` vs `FormatSrcBytes` byte for
byte, `parseStruct`/`parseFiletype` vs `Parser.UncheckedParse`, parameter blocks
inside a minimal stage (printer, `widths`, reader), respelled and near-miss texts. -/
section Declarations
open Martian.FormatExp Martian.FormatDecl

/-- **Round trip, `struct`.**  For EVERY well-formed struct declaration (any
number ≥ 1 of members; builtin, user-defined and dotted type names, arrays,
typed maps `map<T[]>[]`; ids of any length incl. id-like keywords; help texts and
out names with any valid UTF-8 content, empty help with an out name), the reader
accepts the printed text and returns exactly the declaration. -/
theorem parse_format_struct (s : Struct) (hw : wfStruct s = true) :
    parseStruct (fmtStruct s) = some s :=
  parseStruct_fmtStruct s hw

/-- **Round trip, `filetype`.** -/
theorem parse_format_filetype (t : Filetype) (hw : wfFiletype t = true) :
    parseFiletype (fmtFiletype t) = some t :=
  parseFiletype_fmtFiletype t hw

/-- **Round trip, parameter block.**  Input parameters followed by output
parameters, printed with ANY column widths (whatever lists `measureParamsWidths`
was run over), read back by `in_param_list out_param_list` as exactly the same
parameters: named and unnamed (`default`) outputs, help present or absent, an out
name with or without help text (the `""` placeholder). -/
theorem parse_format_params (mw tw iw hw : Nat) (ins outs : List Param)
    (hwi : ins.all Martian.FormatDecl.wfParam = true) (hwo : outs.all Martian.FormatDecl.wfParam = true)
    (hi : ins.all (fun p => !p.out) = true) (ho : outs.all (fun p => p.out) = true) :
    parseParams (fmtParams mw tw iw hw (ins ++ outs)) = some (ins ++ outs) :=
  parseParams_fmtParams mw tw iw hw ins outs hwi hwo hi ho

/-- **Idempotent.**  Read-then-print of a printed declaration gives the same
text (the reader returns the declaration itself). -/
theorem format_struct_idem (s : Struct) (hw : wfStruct s = true) :
    (parseStruct (fmtStruct s)).map fmtStruct = some (fmtStruct s) := by
  rw [parse_format_struct s hw]; rfl

theorem format_params_idem (mw tw iw hw : Nat) (ins outs : List Param)
    (hwi : ins.all Martian.FormatDecl.wfParam = true) (hwo : outs.all Martian.FormatDecl.wfParam = true)
    (hi : ins.all (fun p => !p.out) = true) (ho : outs.all (fun p => p.out) = true) :
    (parseParams (fmtParams mw tw iw hw (ins ++ outs))).map (fmtParams mw tw iw hw) =
      some (fmtParams mw tw iw hw (ins ++ outs)) := by
  rw [parse_format_params mw tw iw hw ins outs hwi hwo hi ho]; rfl

/-- the lexer sees exactly the intended tokens of a parameter list, in any
context: any widths, any following text (which is lexed on its own) -/
theorem lex_format_params (mw tw iw hw : Nat) (ps : List Param) (h : ps.all Martian.FormatDecl.wfParam = true)
    (rest : List UInt8) :
    lexAll (fmtParams mw tw iw hw ps ++ rest) = (lexAll rest).map (toksParams ps ++ ·) :=
  lexOK_fmtParams mw tw iw hw ps h rest trivial

/-- … and of a type name followed by the end of the input or a byte that is not a word character -/
theorem lex_format_type (t : TypeId) (h : wfType t = true) (rest : List UInt8) (hr : WordEnd rest) :
    lexAll (fmtType t ++ rest) = (lexAll rest).map (toksType t ++ ·) :=
  lexOK_fmtType t h rest hr

/-- the readers of the two halves of a parameter block, in any context: any
following tokens that do not start with IN (resp. OUT), any fuel above the
number of tokens of the list -/
theorem read_in_params (ps : List Param) (f : Nat) (rest : List Tok) (hw : ps.all Martian.FormatDecl.wfParam = true)
    (hm : ps.all (fun p => !p.out) = true) (hf : (toksParams ps).length < f)
    (hr : headKw sIn rest = false) : pInParams f (toksParams ps ++ rest) = some (ps, rest) :=
  pInParams_toks ps f rest hw hm hf hr

theorem read_out_params (ps : List Param) (f : Nat) (rest : List Tok) (hw : ps.all Martian.FormatDecl.wfParam = true)
    (hm : ps.all (fun p => p.out) = true) (hf : (toksParams ps).length < f)
    (hr : headKw sOut rest = false) : pOutParams f (toksParams ps ++ rest) = some (ps, rest) :=
  pOutParams_toks ps f rest hw hm hf hr

/-! ### definitional unfoldings (documentation of the model, not guarantees) -/
/-- `TypeId.strlen` is the length of what `TypeId.writeTo` prints -/
theorem typeLen_is_length (t : TypeId) : typeLen t = (fmtType t).length := by
  simp only [typeLen, fmtType]
  split <;> simp [brackets_length, sMap] <;> omega

/-- `measureParamsWidths` over several lists is `getWidths` of their concatenation,
and the type column is wide enough for every parameter measured -/
theorem measure_is_widths (pss : List (List Param)) :
    maxWidths (pss.map widths) = widths pss.flatten ∧
    ∀ p ∈ pss.flatten, typeLen p.type ≤ (widths pss.flatten).2.1 :=
  ⟨maxWidths_widths pss, fun p hp => typeLen_le_widths _ p hp⟩

/-! ### guarantees (continued) -/
/-- non-vacuity: a well-formed struct with a typed map of arrays of a dotted user
type, a builtin, `map[]`, an id-like keyword as id and as type, help with an
escape, an out name without help, a 40-byte id; the reader returns it from its
tokens; its column widths are plain maxima (40: no cut-off) -/
example :
    let s : Struct := ⟨[0x53],
      [⟨⟨[[0x6A, 0x73, 0x6F, 0x6E], [0x67, 0x7A]], 1, 2⟩, [0x61], [0x68, 0x22, 0x0A], [0x6F]⟩,
       ⟨⟨[sInt], 3, 0⟩, sStruct, [], [0x6F, 0x6E]⟩,
       ⟨⟨[sMap], 1, 0⟩, List.replicate 40 0x71, [], []⟩,
       ⟨⟨[sFiletype], 0, 1⟩, [0x5F, 0x78], [0xC3, 0xA9], []⟩]⟩
    wfStruct s = true ∧ parseStructToks (toksStruct s) = some s ∧
      structWidths s.members = (16, 40, 3) := by decide +kernel

/-- non-vacuity: a well-formed parameter block — inputs with and without help,
an unnamed output, an unnamed output with help and out name, an unnamed output
with an out name only, a named output with an out name only, ids of 34 and 35
bytes and help texts of 24 and 25 bytes (the cut-offs of `widths`) -/
example :
    let ins : List Param :=
      [⟨⟨⟨[sInt], 0, 0⟩, [0x61], [], []⟩, false⟩,
       ⟨⟨⟨[[0x62, 0x61, 0x6D]], 2, 0⟩, List.replicate 34 0x62, List.replicate 24 0x68, []⟩, false⟩,
       ⟨⟨⟨[sPath], 0, 3⟩, List.replicate 35 0x63, List.replicate 25 0x68, []⟩, false⟩]
    let outs : List Param :=
      [⟨⟨⟨[sInt], 0, 0⟩, sDefault, [], []⟩, true⟩,
       ⟨⟨⟨[sFloat], 1, 0⟩, sDefault, [0x68], [0x6F]⟩, true⟩,
       ⟨⟨⟨[sBool], 0, 0⟩, sDefault, [], [0x6F]⟩, true⟩,
       ⟨⟨⟨[sString], 0, 0⟩, [0x78], [], [0x6F, 0x32]⟩, true⟩]
    (ins ++ outs).all Martian.FormatDecl.wfParam = true ∧ ins.all (fun p => !p.out) = true ∧ outs.all (fun p => p.out) = true ∧
      parseParamsToks (toksParams (ins ++ outs)) = some (ins ++ outs) ∧
      widths (ins ++ outs) = (3, 13, 34, 24) := by decide +kernel

/-- non-vacuity: a dotted filetype whose components are id-like keywords -/
example : wfFiletype ⟨[[0x6A, 0x73, 0x6F, 0x6E], sFiletype, sStruct]⟩ = true ∧
    parseFiletypeToks (toksFiletype ⟨[[0x6A, 0x73, 0x6F, 0x6E], sFiletype, sStruct]⟩) =
      some ⟨[[0x6A, 0x73, 0x6F, 0x6E], sFiletype, sStruct]⟩ := by decide +kernel

/-- Negative witnesses: outside `wf` the claim fails or the text is not in the
language — a struct member named like a reserved word (`in`) is printed bare and
is then a keyword token; `struct S()` has no member; `map<map>` is not a type
(but `map` alone is); `filetype a..b;`; an out name on an input parameter is
neither printed (`GetOutName()` is `""`) nor accepted by the grammar; `default`
is not an identifier, an unnamed output is written without id -/
theorem decl_near_misses :
    wfMember ⟨⟨[sInt], 0, 0⟩, sIn, [], []⟩ = false ∧
    parseStructToks [.id sStruct, .id [0x53], .punct 0x28, .reserved sInt, .reserved sIn, .punct 0x2C,
      .punct 0x29] = none ∧
    wfStruct ⟨[0x53], []⟩ = false ∧ parseStructToks [.id sStruct, .id [0x53], .punct 0x28, .punct 0x29] = none ∧
    wfType ⟨[sMap], 0, 1⟩ = false ∧ wfType ⟨[sMap], 2, 0⟩ = true ∧
    pType 9 [.reserved sMap, .punct 0x3C, .reserved sMap, .punct 0x3E, .id [0x78]] = none ∧
    parseFiletypeToks [.id sFiletype, .id [0x61], .punct 0x2E, .punct 0x2E, .id [0x62], .punct 0x3B] = none ∧
    Martian.FormatDecl.wfParam ⟨⟨⟨[sInt], 0, 0⟩, [0x78], [0x68], [0x6F]⟩, false⟩ = false ∧
    parseParamsToks (toksParams [⟨⟨⟨[sInt], 0, 0⟩, [0x78], [0x68], [0x6F]⟩, false⟩]) =
      some [⟨⟨⟨[sInt], 0, 0⟩, [0x78], [0x68], []⟩, false⟩] ∧
    parseParamsToks [.reserved sIn, .reserved sInt, .id [0x78], .str [0x22, 0x68, 0x22], .str [0x22, 0x6F, 0x22],
      .punct 0x2C] = none ∧
    parseParamsToks [.reserved sOut, .kDefault, .reserved sInt, .id [0x78], .punct 0x2C] = none ∧
    wfMember ⟨⟨[sInt], 0, 0⟩, sDefault, [], []⟩ = false ∧
    fmtParam 3 3 0 0 ⟨⟨⟨[sInt], 0, 0⟩, sDefault, [], []⟩, true⟩ =
      [0x20, 0x20, 0x20, 0x20, 0x6F, 0x75, 0x74, 0x20, 0x69, 0x6E, 0x74, 0x2C, 0x0A] := by decide +kernel

end Declarations

/-! ## The trailing clauses of a stage declaration: `src` line, `using (…)`, `retain (…)`

Model: Martian/FormatRes.lean (`fmtGB` = `formatGB`, `fmtRes` = `Resources.format`, `fmtRetain` =
`RetainParams.format`, `fmtSrc` = `SrcParam.format`; readers for `float_32` + `roundUpTo`,
`resources`/`resource_list`, `stage_retain`, `src_stm`); tied to the real formatter and parser by
harness/c09res.go on every run.  Each clause is stated for an arbitrary following text / token
list, so that whole stage declarations can be assembled from them. -/
section StageClauses
open Martian.FormatExp Martian.FormatRes
open Martian.FormatCall (tLP tRP)
open Martian.Lexer (Bytes)

/-- **formatGB round trip.**  For every `int64`-sized number of MB the text `formatGB` prints is
exactly one numeric token (NUM_INT for a whole number of GB, NUM_FLOAT otherwise), also when a
terminator byte (`,` …) and anything else follow, and reading the token back with
`roundUpTo(·, 1024)` (exact decimal value, rounded away from zero) gives the same number of MB.
This is a statement about the DIGITS `formatGB` prints (enough of them for the exact value to round
back), not about the real parser, which rounds the literal to float32 first: that reading agrees
below 256 GB (`readGB32_inverts_formatGB`) and differs for some values from there on (F29), which is
why `wfMB` (`gbRoundTrips`) is a smaller domain. -/
theorem formatGB_roundtrip (mb : Int) (hb : mb.natAbs < 2 ^ 63) :
    readGB (fmtGB mb) = some mb ∧ readGBTok (tokGB mb) = some mb ∧
    (∀ c r, isTerm c = true → Martian.Lexer.numTok false (fmtGB mb ++ c :: r) =
      if mb.natAbs % 1024 = 0 then .int (fmtGB mb) else .float (fmtGB mb)) :=
  ⟨readGB_fmtGB mb hb, readGBTok_fmtGB mb hb,
    fun c r hc => by rw [numTok_append _ c r hc]; exact numTok_fmtGB mb hb⟩

/-- non-vacuity: 1.5 GB, -1/1024 GB (`-0.0009`), 307/1024 GB (`0.299`), 0, the largest value -/
example : fmtGB 1536 = [0x31, 0x2E, 0x35] ∧ fmtGB (-1) = [0x2D, 0x30, 0x2E, 0x30, 0x30, 0x30, 0x39] ∧
    fmtGB 307 = [0x30, 0x2E, 0x32, 0x39, 0x39] ∧ fmtGB 0 = [0x30] ∧ readGB (fmtGB 307) = some 307 ∧
    readGB (fmtGB (2 ^ 63 - 1)) = some (2 ^ 63 - 1) ∧
    readGB [0x31, 0x65, 0x2D, 0x35] = some 1 ∧                -- 1e-5 rounds up to 1/1024
    readGB [0x2D, 0x30, 0x2E, 0x30] = some 0 := by decide +kernel

/-- **F25 (known finding), negative witness.**  `int64(gb*1024)` overflows for `gb ≥ 2^53`
(amd64: the conversion yields `MinInt64`): a huge positive value is printed as a negative number,
a huge negative one as `--9007199254740992`, which is not even a token.  Below `2^63` MB the Go
arithmetic is the exact one. -/
theorem formatGB_overflow :
    fmtGBgo (2 ^ 63) = [0x2D, 0x39, 0x30, 0x30, 0x37, 0x31, 0x39, 0x39, 0x32, 0x35, 0x34, 0x37, 0x34,
      0x30, 0x39, 0x39, 0x32] ∧
    readGB (fmtGBgo (2 ^ 63)) = some (-(2 ^ 63)) ∧
    fmtGBgo (-(2 ^ 63)) = 0x2D :: fmtGBgo (2 ^ 63) ∧
    Martian.Lexer.numTok false (fmtGBgo (-(2 ^ 63))) = .nomatch ∧
    readGB (fmtGBgo (-(2 ^ 63))) = none ∧
    (∀ x : Int, x.natAbs < 2 ^ 63 → fmtGBgo x = fmtGB x) :=
  ⟨by decide +kernel, by decide +kernel, by decide +kernel, by decide +kernel, by decide +kernel,
    fmtGBgo_eq⟩

/-- **F29 (finding), negative witness.**  The round trip above is about the exact decimal value
of the printed text.  The real parser first rounds the literal to the nearest float32
(`readGB32`: `tryParseFloat32`, then `roundUpTo`); from 256 GB on that rounding eats the margin
`formatGB` relies on: 256 GB + 44 MB is printed as `256.042`, whose float32 is exactly
256 GB + 43 MB, so the value read back is 1 MB smaller (and is then printed as `256.0419`).
Below 256 GB no value fails: `readGB32_inverts_formatGB`. -/
theorem formatGB_float32_witness :
    fmtGB 262188 = [0x32, 0x35, 0x36, 0x2E, 0x30, 0x34, 0x32] ∧
    readGB (fmtGB 262188) = some 262188 ∧ readGB32 (fmtGB 262188) = some 262187 ∧
    fmtGB 262187 = [0x32, 0x35, 0x36, 0x2E, 0x30, 0x34, 0x31, 0x39] ∧
    -- values below 256 GB with the same fraction are read back correctly
    readGB32 (fmtGB (262188 - 1024)) = some (262188 - 1024) ∧ readGB32 (fmtGB 44) = some 44 ∧
    -- the float32 rounding of a literal: 0.5000000001 is 0.5 (exactly 512 MB), not 513 MB
    readGB32 [0x30, 0x2E, 0x35, 0x30, 0x30, 0x30, 0x30, 0x30, 0x30, 0x30, 0x30, 0x31] = some 512 ∧
    readGB [0x30, 0x2E, 0x35, 0x30, 0x30, 0x30, 0x30, 0x30, 0x30, 0x30, 0x30, 0x31] = some 513 := by
  decide +kernel

/-- **Resources.**  For every well-formed `Resources` (`mem_gb` / `vmem_gb` in `wfMB`, see Domain
below, `special` valid UTF-8, `threads` a NUM_FLOAT in the float32 range or a canonical NUM_INT; any subset of the five
entries, including none): the printed block, followed by any text, lexes as `) using (` + its
entries and then the tokens of that text; and `resources` reads these tokens, closed by `)`, back
as the same `Resources`, leaving what follows.  (The printed order is the canonical one, so the
result is identical, not just equal up to a normal form; printing it again gives the same text.)
Domain: mem_gb / vmem_gb satisfying `gbRoundTrips` (`wfMB`, section ResourceDomain: every value below 256 GB, every whole number of GB up to 64 TB; exactly the values the real float32 reading of formatGB's text gives back): the range where the model's exact reading and the
real parser's float32 reading agree (`readGB32_inverts_formatGB`); above it the real formatter is not a
fixed point (F29, `formatGB_float32_witness`). -/
theorem parse_format_resources (r : Res) (hw : wfRes r = true) :
    (∀ rest, lexAll (fmtRes r ++ rest) = (lexAll rest).map (toksRes r ++ ·)) ∧
    toksRes r = tRP :: .id sUsing :: tLP :: toksResBody r ∧
    (∀ ts, pResources (.id sUsing :: tLP :: (toksResBody r ++ tRP :: ts)) = some (some r, ts)) :=
  ⟨fun rest => lexOK_fmtRes r hw rest trivial, rfl, pResources_toks r hw⟩

/-- **Retain.** -/
theorem parse_format_retain (ids : List Bytes) (hw : wfRetain ids = true) :
    (∀ rest, lexAll (fmtRetain ids ++ rest) = (lexAll rest).map (toksRetain ids ++ ·)) ∧
    toksRetain ids = tRP :: .id sRetain :: tLP :: toksRetainBody ids ∧
    (∀ ts, pRetain (.id sRetain :: tLP :: (toksRetainBody ids ++ tRP :: ts)) = some (some ids, ts)) :=
  ⟨fun rest => lexOK_fmtRetain ids hw rest trivial, rfl, pRetain_toks ids⟩

/-- **The src line**, whatever the two column widths handed down by `Stage.format`: the reader
gives back the language, the path and the arguments (`strings.Fields` inverts the
`strings.Join(·, " ")` of the printer on fields without white space). -/
theorem parse_format_src (mw tw : Nat) (lang : Lang) (path : Bytes) (args : List Bytes)
    (hw : wfSrc path args = true) :
    (∀ rest, lexAll (fmtSrc mw tw lang path args ++ rest) =
      (lexAll rest).map (toksSrc lang path args ++ ·)) ∧
    (∀ ts, pSrc (toksSrc lang path args ++ ts) = some ((lang, path, args), ts)) :=
  ⟨fun rest => lexOK_fmtSrc mw tw lang path args hw rest trivial, pSrc_toks lang path args hw⟩

/-- **Both clauses and the closing parenthesis** (a stage that is not split), before a token list
that does not itself begin with `using`/`retain`. -/
theorem parse_format_stage_tail (res : Option Res) (ret : Option (List Bytes))
    (hw1 : (match res with | some r => wfRes r | none => true) = true)
    (hw2 : (match ret with | some ids => wfRetain ids | none => true) = true) :
    (∀ rest, lexAll (fmtTail res ret ++ rest) = (lexAll rest).map (toksTail res ret ++ ·)) ∧
    (∀ ts, NotId sUsing ts → NotId sRetain ts →
      pTail (toksTail res ret ++ ts) = some ((res, ret), ts)) :=
  ⟨fun rest => lexOK_fmtTail res ret hw1 hw2 rest trivial, pTail_toks res ret hw1⟩

/-- **A whole declaration**: the text of a stage without parameters carrying all three clauses
reads back as the same stage; hence formatting is idempotent on it.
Domain: mem_gb / vmem_gb satisfying `gbRoundTrips` (`wfMB`, section ResourceDomain: every value below 256 GB, every whole number of GB up to 64 TB; exactly the values the real float32 reading of formatGB's text gives back): the range where the model's exact reading and the
real parser's float32 reading agree (`readGB32_inverts_formatGB`); above it the real formatter is not a
fixed point (F29, `formatGB_float32_witness`). -/
theorem parse_format_stage0 (s : Stage0) (hw : wfStage0 s = true) :
    parseStage0 (fmtStage0 s) = some s ∧
    (∀ s', parseStage0 (fmtStage0 s) = some s' → fmtStage0 s' = fmtStage0 s) := by
  exact Martian.FormatDecl.roundtrip_fixed (parseStage0_fmtStage0 s hw)

/-- non-vacuity: a well-formed stage with `exec`, two arguments, all five resources and two
retained ids; the padding (`mem_gb   =`, `special  =`) and the fixed order -/
example :
    let s : Stage0 := ⟨[0x53], .exec, [0x61, 0x2E, 0x70, 0x79], [[0x2D, 0x78], [0x79]],
      some ⟨some (-1537), some [0x68, 0x69], some [0x31, 0x65, 0x2B, 0x30, 0x36], some 1024, some true⟩,
      some [[0x61], sRetain]⟩
    wfStage0 s = true ∧ (pStage0 (toksStage0 s) == some s) = true ∧
    (fmtRes ⟨some 1536, none, some [0x32], none, some false⟩ ==
      sUsingOpen ++ indent ++ sMemGb ++ [0x20, 0x20] ++ sEq ++ [0x31, 0x2E, 0x35] ++ sEnd ++
        indent ++ sThreads ++ [0x20] ++ sEq ++ [0x32] ++ sEnd ++
        indent ++ sVolatile ++ sEq ++ sFalse ++ sEnd) = true ∧
    fmtRes {} = sUsingOpen ∧ wfRes {} = true := by decide +kernel

/-- Negative witnesses: entries in any order and repeated are accepted and the last value wins
(`threads = 1, mem_gb = 1, threads = 2,`), `memgb` is `mem_gb`; `volatile = true`, a string for
`threads`, an identifier for `special`, a missing comma and a float beyond the float32 range are
rejected; an empty command and a command of blanks are rejected; a field with a no-break space
is not well-formed (it would be split) -/
theorem stage_clause_near_misses :
    pResList [.id sThreads, .punct 0x3D, .int [0x31], .punct 0x2C, .id sMemgb, .punct 0x3D, .int [0x31],
      .punct 0x2C, .id sThreads, .punct 0x3D, .int [0x32], .punct 0x2C, .punct 0x29] {} =
      some (⟨some 1024, none, some [0x32], none, none⟩, []) ∧
    pResList [.id sVolatile, .punct 0x3D, .kTrue, .punct 0x2C, .punct 0x29] {} = none ∧
    pResList [.id sThreads, .punct 0x3D, .str [0x22, 0x32, 0x22], .punct 0x2C, .punct 0x29] {} = none ∧
    pResList [.id sSpecial, .punct 0x3D, .id [0x78], .punct 0x2C, .punct 0x29] {} = none ∧
    pResList [.id sMemGb, .punct 0x3D, .int [0x31], .punct 0x29] {} = none ∧
    pResList [.id sMemGb, .punct 0x3D, .float [0x31, 0x65, 0x34, 0x30], .punct 0x2C, .punct 0x29] {} = none ∧
    readCmd [0x22, 0x22] = none ∧ readCmd [0x22, 0x20, 0x20, 0x22] = none ∧
    pRetainList [.id [0x61], .punct 0x29] = none ∧
    wfField [0x78, 0xC2, 0xA0, 0x79] = false ∧
    fieldsU [0x78, 0xC2, 0xA0, 0x79, 0x09, 0x7A] = [[0x78], [0x79], [0x7A]] := by decide +kernel

end StageClauses

/-! ## the full call statement and the other statements of a pipeline body

Model: `Martian.FormatCall2`.  `fmtCall2 p c` = `CallStm.format(printer, p)` (`p` = `""` for the
top-level call of a file, INDENT inside a pipeline) with `map`, `as`, the wildcard binding
`* = self` / `* = REF` (after which `BindStms.format` stops), the `) using (` block (keyword
modifiers converted to `= true` bindings unless bound, sorted by id, aligned); `fmtReturn`,
`fmtPRetain`, `fmtBody` = `ReturnStm.format`, `PipelineRetains.format`, the statement part of
`Pipeline.format`.  Readers `pCall2` / `pReturn` / `pPRetain` / `pBody` on tokens (they return the
remaining tokens), `parseCall2` / `parseBody` on source text.  `wfCall2`: ids are identifiers,
binding values well-formed (`wfBind`), the wildcard value is `self` or a well-formed reference,
the `using` block holds distinct ids out of local/preflight/volatile (boolean) and disabled
(well-formed reference).  `normCall2`: `norm` on the binding values, keyword modifiers converted,
block sorted.  Tied on every run (harness/c09call2.go): printed, respelled and near-miss texts of
top-level calls and of pipeline bodies against `UncheckedParse` and `FormatSrcBytes`, and
`Ast.Format` on an AST whose wildcard binding was moved off the last position. -/
section PipelineStatements
open Martian.FormatExp Martian.FormatCall Martian.FormatCall2

/-- **Round trip, call statement.**  For EVERY well-formed call statement (`call` / `map call`, any
callee name incl. `local`/`preflight`/`volatile`, `as`, explicit and split bindings, a final
wildcard binding, keyword modifiers, a `using` block, or both), the reader accepts the printed
text of a file holding just the call and returns the call in normal form. -/
theorem parse_format_call2 (c : Call2) (hw : wfCall2 c = true) :
    parseCall2 (fmtCall2 [] c) = some (normCall2 c) :=
  parseCall2_fmtCall2 c hw

/-- **Round trip inside a pipeline**: whatever the (white-space) indentation and whatever text
follows, as long as that text lexes and its first token is not `using`: the reader returns the
normal form of the call and the tokens of the following text. -/
theorem parse_format_call2_in_context (p : List UInt8) (c : Call2) (rest : List UInt8) (ts : List Tok)
    (hp : p.all isSp = true) (hw : wfCall2 c = true) (hrest : lexAll rest = some ts)
    (hr : ∀ r, ts ≠ .id sUsing :: r) :
    (lexAll (fmtCall2 p c ++ rest)).bind pCall2 = some (normCall2 c, ts) :=
  pCall2_fmtCall2 p c rest ts hp hw hrest hr

/-- **Idempotent, call statement.**  Printing what was read back gives the same text, with any prefix. -/
theorem format_call2_idem (p : List UInt8) (c : Call2) (hw : wfCall2 c = true) :
    fmtCall2 p (normCall2 c) = fmtCall2 p c :=
  fmtCall2_norm p c hw

/-- the normal form is well formed and a fixed point of `normCall2` (the latter for every call) -/
theorem normCall2_stable (c : Call2) (hw : wfCall2 c = true) :
    wfCall2 (normCall2 c) = true ∧ normCall2 (normCall2 c) = normCall2 c :=
  ⟨wfCall2_norm c hw, normCall2_idem c⟩

/-- read-then-print-then-read: the call read back prints the same and reads back as itself -/
theorem format_parse_format_call2 (c c' : Call2) (hw : wfCall2 c = true)
    (h : parseCall2 (fmtCall2 [] c) = some c') :
    fmtCall2 [] c' = fmtCall2 [] c ∧ wfCall2 c' = true ∧ parseCall2 (fmtCall2 [] c') = some c' :=
  have ⟨e1, e2, e3⟩ := Martian.FormatDecl.roundtrip_norm (print := fmtCall2 []) (parse_format_call2 c hw)
    (fmtCall2_norm [] c hw) h
  ⟨e2, e1 ▸ wfCall2_norm c hw, e3⟩

/-- what the `using` block of the printed call holds: the bindings of the block and `= true` for
every keyword modifier that has no binding, in ascending order of the ids; it is printed iff it is
not empty; all of it is well formed with distinct ids -/
theorem using_block_normal_form (m : Mods) (hw : wfMods m = true) :
    sortedMods (modList m) = true ∧ (modList m).all wfMod = true ∧ distinctIds (modList m) = true ∧
    usingPrinted m = !(modList m).isEmpty ∧
    (∀ k, hasId k (modList m) = (hasId k m.binds || (m.loc && k == sLocal) ||
      (m.pre && k == sPreflight) || (m.vol && k == sVolatile))) :=
  ⟨sortMods_sorted _, (modList_wf m hw).1, (modList_wf m hw).2, usingPrinted_eq m, hasId_modList m⟩

/-- the lexer sees exactly the intended tokens, whatever follows -/
theorem lex_format_call2 (p : List UInt8) (c : Call2) (rest : List UInt8) (hp : p.all isSp = true)
    (hw : wfCall2 c = true) :
    lexAll (fmtCall2 p c ++ rest) = (lexAll rest).map (toksCall2 c ++ ·) :=
  (lexOK_fmtCall2 p c hp hw).lexAll rest

/-- `BindStms.format` on a list the parser does not build: nothing after the wildcard binding is
printed (or measured for the alignment) -/
theorem wildcard_ends_bindings (p : List UInt8) (bs : List Bind) (e : Exp) (junk : List Bind)
    (h : ∀ b ∈ bs, b.id ≠ sStar) :
    fmtBindStms p (bs ++ wildBind e :: junk) = fmtBindStms p (bs ++ [wildBind e]) := by
  have ⟨hw, hf⟩ := bindStms_congr_tail p (t1 := wildBind e :: junk) (t2 := [wildBind e])
    (by simp [idWidthGo, wildBind]) (fun w => by simp [fmtBindsGo, wildBind]) bs h
  rw [fmtBindStms, fmtBindStms, hw, hf]

/-! ### definitional unfoldings (documentation of the model, not guarantees) -/
/-- the model extends `Martian.FormatCall`: same text for a call without wildcard and modifiers -/
theorem format_call2_extends_call (c : Call) (h : c.binds.all wfBind = true) :
    fmtCall2 [] ⟨c.decId, c.id, c.binds, none, noMods⟩ = fmtCall c :=
  fmtCall2_plain c h

/-! ### guarantees (continued) -/
/-- **Round trip, `return (…)`**, followed by any text that lexes -/
theorem parse_format_return (r : Ret) (rest : List UInt8) (ts : List Tok) (hw : wfRet r = true)
    (hrest : lexAll rest = some ts) :
    (lexAll (fmtReturn r ++ rest)).bind pReturn = some (normRet r, ts) := by
  rw [bind_lexAll_of_lexOK (lexOK_fmtReturn r hw) hrest]
  exact pReturn_toks r ts hw

/-- **Idempotent, `return (…)`**; the normal form is stable -/
theorem format_return_idem (r : Ret) (hw : wfRet r = true) :
    fmtReturn (normRet r) = fmtReturn r ∧ wfRet (normRet r) = true ∧ normRet (normRet r) = normRet r :=
  ⟨fmtReturn_norm r hw, wfRet_norm r hw, normRet_idem r⟩

/-- **Round trip, `retain (…)`**, followed by any text that lexes: the references come back
unchanged (so printing them again gives the same text) -/
theorem parse_format_pipeline_retain (rs : List Exp) (rest : List UInt8) (ts : List Tok)
    (hw : wfPRetain rs = true) (hrest : lexAll rest = some ts) :
    (lexAll (fmtPRetain rs ++ rest)).bind pPRetain = some (some rs, ts) := by
  rw [bind_lexAll_of_lexOK (lexOK_fmtPRetain rs hw) hrest]
  exact pPRetain_toks rs ts hw

/-- **Round trip, the statements of a pipeline** (what `Pipeline.format` writes after `")\n{"`: `call`s in the order the formatter leaves them in,
`return`, optional `retain`, the closing brace), followed by any text that lexes (the next
declaration, the top-level call) -/
theorem parse_format_body (b : Body) (rest : List UInt8) (ts : List Tok) (hw : wfBody b = true)
    (hrest : lexAll rest = some ts) :
    (lexAll (fmtBody b ++ rest)).bind pBody = some (normBody b, ts) := by
  rw [bind_lexAll_of_lexOK (lexOK_fmtBody b hw) hrest]
  exact pBody_toks b ts hw

/-- **Idempotent, the statements of a pipeline**; the normal form is stable -/
theorem format_body_idem (b : Body) (hw : wfBody b = true) :
    fmtBody (normBody b) = fmtBody b ∧ wfBody (normBody b) = true ∧ normBody (normBody b) = normBody b :=
  ⟨fmtBody_norm b hw, wfBody_norm b hw, normBody_idem b⟩

/-- non-vacuity: a well-formed map call of a callee named `local`, with `as`, a split binding, a
plain binding whose value `norm` changes, a wildcard binding `* = self`, the keyword modifiers
`local` and `volatile`, and a `using` block `volatile = false, disabled = D.x` (so `volatile` keeps
its binding, `local = true` is added, and the block is re-ordered) -/
example :
    let c : Call2 := ⟨sLocal, [0x59],
      [⟨[0x61], true, .ref true [0x70] []⟩, ⟨[0x62, 0x62], false, .struct [([0x6B], .float [0x31, 0x30, 0x30])]⟩],
      some (.ref true [] []),
      ⟨true, false, true, [(sVolatile, .bool false), (sDisabled, .ref false [0x44] [[0x78]])]⟩⟩
    wfCall2 c = true ∧ isMap2 c = true ∧ usingPrinted c.mods = true ∧
      toksMods (modList c.mods) = [.id sDisabled, .punct 0x3D, .id [0x44], .punct 0x2E, .id [0x78], .punct 0x2C,
        .id sLocal, .punct 0x3D, .kTrue, .punct 0x2C, .id sVolatile, .punct 0x3D, .kFalse, .punct 0x2C] ∧
      (pCall2 (toksCall2 c ++ [.reserved sReturn])).map (fun x => (toksCall2 x.1, x.2)) =
        some (toksCall2 (normCall2 c), [.reserved sReturn]) := by decide +kernel

/-- non-vacuity: a well-formed body: two calls, `return` with a wildcard, `retain` -/
example :
    let b : Body := ⟨[⟨[0x41], [0x41], [], none, ⟨false, true, false, []⟩⟩,
        ⟨[0x42], [0x42], [⟨[0x78], false, .ref false [0x41] [[0x6F]]⟩], some (.ref false [0x41] []), noMods⟩],
      ⟨[⟨[0x72], false, .ref false [0x42] [[0x6F]]⟩], some (.ref true [] [])⟩,
      some [.ref false [0x42] [[0x6F]], .ref true [0x61] []]⟩
    wfBody b = true ∧
      (pBody (toksBody b)).map (fun x => (toksBody x.1, x.2)) = some (toksBody (normBody b), []) := by
  decide +kernel

/-- Negative witnesses.  (1) keyword `local` together with the binding `local = false`: the printer
keeps the binding and drops the keyword (the block holds `local = false` only); (2) two `using`
blocks: the reader keeps the second (`Modifiers.Bindings` is replaced); (3) a modifier keyword
before `(` is the callee's name, twice it is a modifier and a name; (4) a binding after the
wildcard, a wildcard that is not a reference, and `map call` with only a wildcard are rejected;
(5) outside `wfCall2`: duplicate modifier ids, `disabled = true`, `local = 1`, a wildcard `* = 1`,
a wildcard reference `self` with an output path but no parameter name. -/
theorem call2_near_misses :
    -- (1)
    toksMods (modList ⟨true, false, false, [(sLocal, .bool false)]⟩) =
      [.id sLocal, .punct 0x3D, .kFalse, .punct 0x2C] ∧
    -- (2) call X() using (local = true,) using (volatile = true,)
    (pCall2 [.reserved sCall, .id [0x58], .punct 0x28, .punct 0x29, .id sUsing, .punct 0x28, .id sLocal,
      .punct 0x3D, .kTrue, .punct 0x2C, .punct 0x29, .id sUsing, .punct 0x28, .id sVolatile, .punct 0x3D,
      .kTrue, .punct 0x2C, .punct 0x29]).map (fun x => (toksCall2 x.1, x.2)) =
      some (toksCall2 ⟨[0x58], [0x58], [], none, ⟨false, false, false, [(sVolatile, .bool true)]⟩⟩, []) ∧
    -- (3) call local()   /   call local local()
    (pCall2 [.reserved sCall, .id sLocal, .punct 0x28, .punct 0x29]).map (fun x => (x.1.mods.loc, x.1.decId)) =
      some (false, sLocal) ∧
    (pCall2 [.reserved sCall, .id sLocal, .id sLocal, .punct 0x28, .punct 0x29]).map
      (fun x => (x.1.mods.loc, x.1.decId)) = some (true, sLocal) ∧
    -- (4) call X(* = self, a = 1,)   /   call X(* = 1,)   /   map call X(* = self,)
    (pCall2 [.reserved sCall, .id [0x58], .punct 0x28, .punct 0x2A, .punct 0x3D, .kSelf, .punct 0x2C,
      .id [0x61], .punct 0x3D, .int [0x31], .punct 0x2C, .punct 0x29]).isNone = true ∧
    (pCall2 [.reserved sCall, .id [0x58], .punct 0x28, .punct 0x2A, .punct 0x3D, .int [0x31], .punct 0x2C,
      .punct 0x29]).isNone = true ∧
    (pCall2 [.reserved sMap, .reserved sCall, .id [0x58], .punct 0x28, .punct 0x2A, .punct 0x3D, .kSelf,
      .punct 0x2C, .punct 0x29]).isNone = true ∧
    -- (5)
    wfMods ⟨false, false, false, [(sLocal, .bool true), (sLocal, .bool false)]⟩ = false ∧
    wfMod (sDisabled, .bool true) = false ∧ wfMod (sLocal, .int 1) = false ∧
    wfWild (.int 1) = false ∧ wfWild (.ref true [] [[0x78]]) = false := by decide +kernel

end PipelineStatements

/-! ## Whole `stage` declarations

Model: Martian/FormatStage.lean (`fmtStage` = `Stage.format` without comments: the column widths
of `measureParamsWidths` over all four parameter lists, `modeWidth = max(·, len "src")`, the src
line, the quirk that re-measures the id and help columns over the chunk lists alone when the
overall id column is wider than 30 or the help column wider than 20, `) split (`, the `using` and
`retain` clauses; `pStage` = the grammar's `stage` production with `split_param_list` in both
spellings, on a token list, returning the tokens after the declaration; `parseStage` = a file
that is one stage declaration; `wfStage` = what the parser can produce).  The round trip is the
identity on well-formed stages: the only normalisations (`split using (` → `split (`, the order
and spelling of the resource entries, white space) are on the text side.  Tied on every run by
harness/c09stage.go: `fmtStage` vs `FormatSrcBytes` byte for byte, `parseStage` vs every field of
the `syntax.Stage` read by `Parser.UncheckedParse`, on generated, respelled and near-miss texts. -/
section StageDeclarations
open Martian.FormatExp Martian.FormatDecl Martian.FormatRes Martian.FormatStage
open Martian.FormatCall (tLP tRP)
open Martian.Lexer (Bytes)

/-- **Round trip, whole stage declarations.**  For EVERY well-formed stage (any number of in,
out, chunk-in and chunk-out parameters of every shape `parse_format_params` covers, ids and help
texts of any length — hence whichever way the 35/25 cut-offs of `getWidths` and the 30/20 quirk of
`Stage.format` fall —, every language, a command with arguments, split or not, any `Resources`
incl. negative and fractional `mem_gb`, any retain list) the reader accepts the printed text and
returns exactly the stage.
Domain: mem_gb / vmem_gb satisfying `gbRoundTrips` (`wfMB`, section ResourceDomain: every value below 256 GB, every whole number of GB up to 64 TB; exactly the values the real float32 reading of formatGB's text gives back): the range where the model's exact reading and the
real parser's float32 reading agree (`readGB32_inverts_formatGB`); above it the real formatter is not a
fixed point (F29, `formatGB_float32_witness`).  The same statement for the
reader with the REAL float32 reading: `parse32_format_stage` below. -/
theorem parse_format_stage (s : Stage) (hw : wfStage s = true) : parseStage (fmtStage s) = some s :=
  parseStage_fmtStage s hw

/-- **Idempotence (AST side).**  This is `parse_format_stage` plus the fixed point: for a well-formed
stage `s` the printed text reads as `s`, and whatever the printed text reads as prints to the same
text again.  The hypothesis `_h` is not used: the statement is about `wfStage s`.  The TEXT-side statement (for every source text the
real parser accepts, under explicit exception hypotheses, with the real float32 reading) is
`format_preserves_accepted_stage32_partial`.
Domain: mem_gb / vmem_gb satisfying `gbRoundTrips` (`wfMB`, section ResourceDomain: every value below 256 GB, every whole number of GB up to 64 TB; exactly the values the real float32 reading of formatGB's text gives back): the range where the model's exact reading and the
real parser's float32 reading agree (`readGB32_inverts_formatGB`); above it the real formatter is not a
fixed point (F29, `formatGB_float32_witness`). -/
theorem format_stage_idem (t : Bytes) (s : Stage) (_h : parseStage t = some s) (hw : wfStage s = true) :
    parseStage (fmtStage s) = some s ∧
    (∀ s', parseStage (fmtStage s) = some s' → fmtStage s' = fmtStage s) := by
  exact Martian.FormatDecl.roundtrip_fixed (parseStage_fmtStage s hw)

/-- the resource conjunct of `wfStage` is `stageMB32Valid` (`wfMB` on both values) -/
theorem wfStage_below_256GB (s : Stage) (hw : wfStage s = true) : stageMB32Valid s = true :=
  stageMB32Valid_of_wf s hw

/-- **Round trip, whole stage declarations, with the REAL reading of `mem_gb` / `vmem_gb`.**  The same
as `parse_format_stage` for the reader that rounds the literal to the nearest float32 first, as the
real parser does (`parseStage32`, model `readGB32Tok`): on the domain `wfStage` the two readers
return the same stage. -/
theorem parse32_format_stage (s : Stage) (hw : wfStage s = true) : parseStage32 (fmtStage s) = some s :=
  parseStage32_fmtStage s hw

/-- **Negative witness, the resource conjunct of `wfStage` (F29).**  The stage `S` with `mem_gb` =
262188 MB (256 GB + 44 MB, the value of `formatGB_float32_witness`) is NOT `wfStage`, and only
because of that value (with 262143 MB, the largest value below 256 GB, it is): the exact reading
of the printed text is 262188 MB, the real parser's float32 reading is 262187 MB — the model reader
`parseStage` accepts the printed text as the same stage, the real-reader model `parseStage32` reads
a different stage, whose printed form differs (the real formatter is not a fixed point there). -/
theorem stage_above_256GB_not_wf :
    let big : Stage := ⟨[0x53], [], [], .py, [0x78], [], false, [], [],
      some ⟨some 262188, none, none, none, none⟩, none⟩
    let top : Stage := { big with res := some ⟨some 262143, none, none, some (-262143), none⟩ }
    wfStage big = false ∧ stageMB32Valid big = false ∧ stageMBValid big = true ∧
    wfStage top = true ∧ parseStage32 (fmtStage top) = some top ∧
    readGB (fmtGB 262188) = some 262188 ∧ readGB32 (fmtGB 262188) = some 262187 ∧
    parseStage (fmtStage big) = some big ∧
    parseStage32 (fmtStage big) = some { big with res := some ⟨some 262187, none, none, none, none⟩ } ∧
    (parseStage32 (fmtStage big)).map fmtStage ≠ some (fmtStage big) := by
  decide +kernel

/-- **Lexing layer.**  The printed declaration followed by ANY text lexes as its token sequence
followed by the tokens of that text (a file is a sequence of declarations). -/
theorem lex_format_stage (s : Stage) (hw : wfStage s = true) :
    lexAll (fmtStage s) = some (toksStage s) ∧
    (∀ rest, lexAll (fmtStage s ++ rest) = (lexAll rest).map (toksStage s ++ ·)) :=
  ⟨lexAll_fmtStage s hw, (lexOK_fmtStage s hw).lexAll⟩

/-- **Token layer.**  `pStage` reads the tokens of the declaration and returns the token list
that follows, provided that list does not begin with `split`, `using` or `retain` (`stageEnd`;
every declaration keyword and the end of the input qualify). -/
theorem read_stage (s : Stage) (hw : wfStage s = true) (rest : List Tok) (hr : stageEnd rest = true) :
    pStage (toksStage s ++ rest) = some (s, rest) := by
  rw [← pStageR_exact]
  exact pStageR_toks _ s hw (readsBack_exact hw) rest hr

/-- what may follow: the end of the input and the keywords that start a declaration -/
example : stageEnd [] = true ∧ stageEnd [.reserved sStage] = true ∧ stageEnd [.id sStruct] = true ∧
    stageEnd [.id sFiletype] = true ∧ stageEnd [.reserved [0x70, 0x69, 0x70, 0x65, 0x6C, 0x69, 0x6E, 0x65]] = true ∧
    stageEnd [.reserved [0x63, 0x61, 0x6C, 0x6C]] = true ∧ stageEnd [.id sUsing] = false := by decide +kernel

/-! ### definitional unfoldings (documentation of the model, not guarantees) -/
/-- the `split using (` spelling reads as `split (` -/
theorem read_split_using (f : Nat) (ts : List Tok) :
    pSplit f (tRP :: .id sSplit :: .id sUsing :: tLP :: ts) = pSplit f (tRP :: .id sSplit :: tLP :: ts) := by
  simp [pSplit, skipUsing]

/-! ### guarantees (continued) -/
/-- non-vacuity: `exampleStage` (defined with `exampleStage30` in Proofs/FormatStageParse.lean), a
well-formed stage that uses every clause — in and out parameters (named and unnamed, help, out name), chunk parameters, an id of 31 bytes and a help text of 21 bytes (over
the 30/20 thresholds: the chunk parameters are laid out with the widths of the chunk lists alone,
id column 7 = `default`, help column 1, not 31 and 21), all five resources with `mem_gb = -0.5`,
a retain list, a command with arguments; the whole text reads back as the stage, and so do its
tokens before another declaration.  With an id of 30 and a help text of 20 bytes the chunk
parameters share the columns of the others (30, 20). -/
example :
    wfStage exampleStage = true ∧
    stageWidths exampleStage = (3, 16, 31, 21) ∧ chunkW exampleStage = (7, 1) ∧ modeW exampleStage = 3 ∧
    parseStage (fmtStage exampleStage) = some exampleStage ∧
    pStage (toksStage exampleStage ++ [.reserved sStage]) = some (exampleStage, [.reserved sStage]) ∧
    wfStage exampleStage30 = true ∧ stageWidths exampleStage30 = (3, 6, 30, 20) ∧
    chunkW exampleStage30 = (30, 20) ∧ parseStage (fmtStage exampleStage30) = some exampleStage30 := by
  have hw : wfStage exampleStage = true := by decide +kernel
  have hw30 : wfStage exampleStage30 = true := by decide +kernel
  exact ⟨hw, by decide +kernel, by decide +kernel, by decide +kernel, parse_format_stage _ hw,
    read_stage _ hw _ rfl, hw30, by decide +kernel, by decide +kernel, parse_format_stage _ hw30⟩

/-- Negative witnesses and spelling normalisations.  `split using (` is accepted and printed as
`split (` (with `py` padded to the type column, 3); `split ()` is a split stage without chunk parameters (both lists may be empty); a
stage that is not split cannot hold chunk parameters (`wfStage` false: they would not be
printed); an in parameter named like a reserved word (`src`) is outside `wfStage`, and its
printed form is not in the language; `) using (…) split (…)`, `retain` before `using`, an out
parameter before an in parameter, an in parameter after the chunk outs, a missing `src` line and
two `src` lines are all rejected. -/
theorem stage_near_misses :
    let srcX : List Tok := [.reserved sSrc, .reserved sPy, .str [0x22, 0x78, 0x22], tComma]
    let hd : List Tok := [.reserved sStage, .id [0x53], tLP]
    let inC : List Tok := [.reserved sIn, .reserved sInt, .id [0x63], tComma]
    let outD : List Tok := [.reserved sOut, .reserved sInt, tComma]
    let sC : Stage := ⟨[0x53], [], [], .py, [0x78], [], true, [⟨⟨⟨[sInt], 0, 0⟩, [0x63], [], []⟩, false⟩], [],
      none, none⟩
    pStageAll (hd ++ srcX ++ [tRP, .id sSplit, .id sUsing, tLP] ++ inC ++ [tRP]) = some sC ∧
    pStageAll (hd ++ srcX ++ [tRP, .id sSplit, tLP] ++ inC ++ [tRP]) = some sC ∧
    fmtStage sC = [0x73, 0x74, 0x61, 0x67, 0x65, 0x20, 0x53, 0x28, 0x0A, 0x20, 0x20, 0x20, 0x20, 0x73, 0x72,
      0x63, 0x20, 0x70, 0x79, 0x20, 0x20, 0x22, 0x78, 0x22, 0x2C, 0x0A, 0x29, 0x20, 0x73, 0x70, 0x6C, 0x69, 0x74, 0x20,
      0x28, 0x0A, 0x20, 0x20, 0x20, 0x20, 0x69, 0x6E, 0x20, 0x20, 0x69, 0x6E, 0x74, 0x20, 0x63, 0x2C, 0x0A, 0x29,
      0x0A] ∧
    pStageAll (hd ++ srcX ++ [tRP, .id sSplit, tLP, tRP]) = some { sC with chunkIns := [] } ∧
    wfStage { sC with chunkIns := [] } = true ∧
    wfStage { sC with split := false } = false ∧
    pStageAll (toksStage { sC with split := false }) = some { sC with split := false, chunkIns := [] } ∧
    wfStage { sC with ins := [⟨⟨⟨[sInt], 0, 0⟩, sSrc, [], []⟩, false⟩] } = false ∧
    pStageAll (hd ++ [.reserved sIn, .reserved sInt, .reserved sSrc, tComma] ++ srcX ++ [tRP]) = none ∧
    wfStage { sC with id := sStage } = false ∧
    pStageAll (hd ++ srcX ++ [tRP, .id sUsing, tLP, tRP, .id sSplit, tLP] ++ inC ++ [tRP]) = none ∧
    pStageAll (hd ++ srcX ++ [tRP, .id sRetain, tLP, tRP, .id sUsing, tLP, tRP]) = none ∧
    pStageAll (hd ++ srcX ++ [tRP, .id sUsing, tLP, tRP, .id sRetain, tLP, tRP]) =
      some ⟨[0x53], [], [], .py, [0x78], [], false, [], [], some {}, some []⟩ ∧
    pStageAll (hd ++ outD ++ inC ++ srcX ++ [tRP]) = none ∧
    pStageAll (hd ++ inC ++ outD ++ srcX ++ [tRP]) ≠ none ∧
    pStageAll (hd ++ srcX ++ [tRP, .id sSplit, tLP] ++ outD ++ inC ++ [tRP]) = none ∧
    pStageAll (hd ++ inC ++ [tRP]) = none ∧
    pStageAll (hd ++ srcX ++ srcX ++ [tRP]) = none ∧
    pStageAll (hd ++ srcX ++ [tRP, .id sSplit, .id sUsing, .id sUsing, tLP, tRP]) = none := by
  decide +kernel

end StageDeclarations

/-! ## Whole pipeline declarations, including the reordering of calls

Model `Martian.FormatPipe`: `Pipeline.format` (format_callable.go), `directDepsMap` / `topoSort`
(compile_pipelines.go), the production `pipeline` (grammar.y).  `callEdges` is `directDepsMap` on
positions, `sortCalls` is `Pipeline.Calls` after `topoSort()` (unchanged when `directDepsMap`
reports an error or `addNextDeps` a cycle), `fmtPipeline` prints the sorted calls.  Tied to the
real code by harness/c09pipe.go: the model's text with the calls in SOURCE order, fed to the real
`FormatSrcBytes`, gives the model's `fmtPipeline` byte for byte. -/
section PipelineDeclarations
open Martian.FormatExp Martian.FormatCall Martian.FormatCall2 Martian.FormatPipe

/-- **The closure is the least one.**  The dependency relation `topoSort` sorts by is contained
in every transitive relation on the calls that contains the direct dependencies: the `for
changes` loop of `addNextDeps` adds nothing but consequences of transitivity.  (With
`closedDeps_contains_edges` and `closedDeps_transitive`: it IS the transitive closure.) -/
theorem closedDeps_least (n : Nat) (edges : List (Nat × Nat)) (R : Nat → Nat → Prop)
    (hE : ∀ a b, a < n → b < n → (a, b) ∈ edges → R a b)
    (htr : ∀ a b c, a < n → b < n → c < n → R a b → R b c → R a c)
    (a b : Nat) (ha : a < n) (hb : b < n) (h : closedDeps n edges a b = true) : R a b :=
  closedDeps_least' n edges R hE htr a b ha hb h

/-- non-vacuity: on the chain of 5 calls the closure relates 0 to 4 and not 4 to 0 (it is the relation
`a < b`: example after `closedDeps_transitive`) -/
example : closedDeps 5 [(0, 1), (1, 2), (2, 3), (3, 4)] 0 4 = true ∧
    closedDeps 5 [(0, 1), (1, 2), (2, 3), (3, 4)] 4 0 = false := by decide +kernel

/-- **A sorted arrangement stays where it is.**  If `L` arranges the calls `0 … n-1` in
dependency order (closed relation of `edges`), and `edges'` are dependencies between positions of
`L` that all come from `edges`, then `topoSort` on the positions moves nothing — whether or not
`edges'` is cyclic. -/
theorem topoSort_of_sorted_arrangement (n : Nat) (edges edges' : List (Nat × Nat)) (L : List Nat)
    (hp : L.Perm (List.range n)) (hs : sortedFrom (closedDeps n edges) L = true)
    (he : ∀ i j, i < n → j < n → (i, j) ∈ edges' → (L.getD i 0, L.getD j 0) ∈ edges) :
    topoSort n edges' = List.range n :=
  topoSort_relabel n edges edges' L hp hs he

/-- **`directDepsMap` on positions.**  Call `a` depends on call `b` iff a binding value or a
modifier binding value of `a` holds a reference (kind call) to an id which `callMap` resolves to
`b` (the last call with that id). -/
theorem callEdges_spec (cs : List Call2) (a b : Nat) :
    (a, b) ∈ callEdges cs ↔ ∃ c, cs[a]? = some c ∧ ∃ x ∈ callRefs c, lastPos x cs = some b :=
  mem_callEdges cs a b

/-- **The reordering is a permutation** of the calls of the pipeline (any pipeline: errors,
cycles, duplicate ids included). -/
theorem sortCalls_perm (pid : List UInt8) (cs : List Call2) : (sortCalls pid cs).Perm cs :=
  sortCalls_perm' pid cs

/-- **The reordering respects dependencies.**  When `directDepsMap` reports no error and there
is no cycle, no call is printed before a call whose id it refers to (distinct call ids). -/
theorem sortCalls_respects_deps (pid : List UInt8) (cs : List Call2) (hd : distinctCallIds cs = true)
    (herr : depsError pid cs = false) (hcyc : callCycle cs = false)
    (A B : List Call2) (c : Call2) (hl : sortCalls pid cs = A ++ c :: B) :
    ∀ c' ∈ B, c'.id ∉ callRefs c :=
  sortCalls_respects_deps' pid cs hd herr hcyc A B c hl

/-- **The reordering is idempotent** (distinct call ids; errors and cycles included), and it
commutes with the normal form of the calls (the normal form keeps ids and references). -/
theorem sortCalls_idempotent (pid : List UInt8) (cs : List Call2) (hd : distinctCallIds cs = true) :
    sortCalls pid (sortCalls pid cs) = sortCalls pid cs ∧
      sortCalls pid (cs.map normCall2) = (sortCalls pid cs).map normCall2 :=
  ⟨sortCalls_idem pid cs hd, sortCalls_norm pid cs⟩

/-- **Round trip, whole pipeline**: for every well-formed pipeline, whatever the order of its
calls, the printed text reads back as the pipeline with its calls in `topoSort` order, each in
normal form. -/
theorem parse_format_pipeline (p : Pipeline) (hw : wfPipeline p = true) :
    parsePipeline (fmtPipeline p) = some (normPipeline p) :=
  parsePipeline_fmtPipeline p hw

/-- the same followed by any text (the next declaration of the file) -/
theorem parse_format_pipeline_in_context (p : Pipeline) (rest : List UInt8) (ts : List Tok)
    (hw : wfPipeline p = true) (hrest : lexAll rest = some ts) :
    (lexAll (fmtPipeline p ++ rest)).bind pPipeline = some (normPipeline p, ts) :=
  pPipeline_fmtPipeline p rest ts hw hrest

/-- **Idempotent, whole pipeline**: printing what was read back gives the same text.  (The
printed calls are in `topoSort` order; the second `topoSort` sees the relabelled dependency
graph and moves nothing: `topoSort_of_sorted_arrangement`, by `closedDeps_least`.) -/
theorem format_pipeline_idem (p : Pipeline) (hw : wfPipeline p = true) :
    fmtPipeline (normPipeline p) = fmtPipeline p :=
  fmtPipeline_norm p hw

/-- the normal form is well formed and a fixed point -/
theorem normPipeline_stable (p : Pipeline) (hw : wfPipeline p = true) :
    wfPipeline (normPipeline p) = true ∧ normPipeline (normPipeline p) = normPipeline p :=
  normPipeline_stable' p hw

/-- `format ∘ parse ∘ format = format` -/
theorem format_parse_format_pipeline (p q : Pipeline) (hw : wfPipeline p = true)
    (hq : parsePipeline (fmtPipeline p) = some q) : fmtPipeline q = fmtPipeline p :=
  (Martian.FormatDecl.roundtrip_norm (parse_format_pipeline p hw) (format_pipeline_idem p hw) hq).2.1

/-- **The formatter on calls in any order.**  The text of a well-formed pipeline with its calls
in SOURCE order reads as that pipeline (calls in source order, each in normal form), and
formatting what was read gives `fmtPipeline p`. -/
theorem format_source_order (p : Pipeline) (hw : wfPipeline p = true) :
    ∃ q, parsePipeline (fmtPipelineRaw p) = some q ∧ fmtPipeline q = fmtPipeline p :=
  ⟨_, parsePipeline_fmtPipelineRaw p hw, fmtPipeline_of_raw p hw⟩

/-- the printed pipeline lexes as `toksPipeline p`, whatever text follows -/
theorem lex_format_pipeline (p : Pipeline) (rest : List UInt8) (hw : wfPipeline p = true) :
    lexAll (fmtPipeline p ++ rest) = (lexAll rest).map (toksPipeline p ++ ·) :=
  (lexOK_fmtPipeline p hw).lexAll rest

/-- the token-level reader on the tokens of the printed pipeline, followed by any tokens -/
theorem read_pipeline (p : Pipeline) (rest : List Tok) (hw : wfPipeline p = true) :
    pPipeline (toksPipeline p ++ rest) = some (normPipeline p, rest) :=
  pPipeline_toks p rest hw

/-- the pipeline of the examples: `pipeline P(in int a, out int r "h",)` with the calls, in
source order, `map call C(x = split B.o, * = self,) using (disabled = A.d,)`,
`call local B(y = [A.o],)`, `call A(z = self.a,)`, `return (r = C.o,)`, `retain (C.o,)` -/
def samplePipeline : Pipeline :=
  ⟨[0x50],
    [⟨⟨⟨[Martian.FormatDecl.sInt], 0, 0⟩, [0x61], [], []⟩, false⟩],
    [⟨⟨⟨[Martian.FormatDecl.sInt], 0, 0⟩, [0x72], [0x68], []⟩, true⟩],
    ⟨[⟨[0x43], [0x43], [⟨[0x78], true, .ref false [0x42] [[0x6F]]⟩], some (.ref true [] []),
        ⟨false, false, false, [(sDisabled, .ref false [0x41] [[0x64]])]⟩⟩,
      ⟨[0x42], [0x42], [⟨[0x79], false, .arr [.ref false [0x41] [[0x6F]]]⟩], none, ⟨true, false, false, []⟩⟩,
      ⟨[0x41], [0x41], [⟨[0x7A], false, .ref true [0x61] []⟩], none, noMods⟩],
     ⟨[⟨[0x72], false, .ref false [0x43] [[0x6F]]⟩], none⟩,
     some [.ref false [0x43] [[0x6F]]]⟩⟩

/-- non-vacuity: a well-formed pipeline whose three calls must all move: `C` depends on `B`
through a split binding and on `A` through `disabled = A.d`, `B` on `A` through an array;
`self.a` and the wildcard `* = self` are no dependencies.  The reader on the tokens of the
printed pipeline returns the normal form (calls `A, B, C`); on the tokens of the text in source
order it returns the calls in source order. -/
example :
    wfPipeline samplePipeline = true ∧
    callEdges samplePipeline.body.calls = [(0, 1), (0, 2), (1, 2)] ∧
    depsError samplePipeline.id samplePipeline.body.calls = false ∧
    callCycle samplePipeline.body.calls = false ∧
    (sortCalls samplePipeline.id samplePipeline.body.calls).map (·.id) = [[0x41], [0x42], [0x43]] ∧
    (pPipeline (toksPipeline samplePipeline ++ [.reserved sPipeline])).map
        (fun x => (toksPipeline x.1, x.2)) =
      some (toksPipeline (normPipeline samplePipeline), [.reserved sPipeline]) ∧
    (pPipeline (toksPipelineRaw samplePipeline)).map (fun x => x.1.body.calls.map (·.id)) =
      some [[0x43], [0x42], [0x41]] ∧
    toksPipeline (normPipeline samplePipeline) ≠ toksPipelineRaw samplePipeline := by decide +kernel

/-- Negative witnesses.  (1) a dependency cycle: the calls are printed in source order;
(2) a pipeline that calls itself: `directDepsMap` returns an error, nothing is reordered although
`B` refers to the later `A`; (3) a call bound to its own output: the same; (4) a reference to an
id no call has is no dependency, nor is `self.A`; (5) with duplicate ids the LAST call wins
(`callMap`), and such a pipeline is outside `wfPipeline`; (6) a pipeline without calls is read
(second alternative of the production) and printed; (7) `return` is required, `retain` comes
after it, outputs come after inputs. -/
theorem pipeline_near_misses :
    let call (id : List UInt8) (refs : List (List UInt8)) : Call2 :=
      ⟨id, id, refs.map (fun r => ⟨[0x78], false, .ref false r [[0x6F]]⟩), none, noMods⟩
    let ids (cs : List Call2) : List (List UInt8) := cs.map (·.id)
    -- (1) call A(x = B.o)  call B(x = A.o)
    callCycle [call [0x41] [[0x42]], call [0x42] [[0x41]]] = true ∧
    depsError [0x50] [call [0x41] [[0x42]], call [0x42] [[0x41]]] = false ∧
    ids (sortCalls [0x50] [call [0x41] [[0x42]], call [0x42] [[0x41]]]) = [[0x41], [0x42]] ∧
    -- (2) call B(x = A.o)  call A()  call P()      inside pipeline P / inside pipeline Q
    depsError [0x50] [call [0x42] [[0x41]], call [0x41] [], call [0x50] []] = true ∧
    ids (sortCalls [0x50] [call [0x42] [[0x41]], call [0x41] [], call [0x50] []]) = [[0x42], [0x41], [0x50]] ∧
    ids (sortCalls [0x51] [call [0x42] [[0x41]], call [0x41] [], call [0x50] []]) = [[0x41], [0x42], [0x50]] ∧
    -- (3) call B(x = A.o)  call A(x = A.o)
    depsError [0x50] [call [0x42] [[0x41]], call [0x41] [[0x41]]] = true ∧
    ids (sortCalls [0x50] [call [0x42] [[0x41]], call [0x41] [[0x41]]]) = [[0x42], [0x41]] ∧
    -- (4) call B(x = Z.o)  /  self.A
    callEdges [call [0x42] [[0x5A]], call [0x41] []] = [] ∧
    callEdges [⟨[0x42], [0x42], [⟨[0x78], false, .ref true [0x41] []⟩], none, noMods⟩, call [0x41] []] = [] ∧
    -- (5) call B(x = A.o)  call A()  call A()
    callEdges [call [0x42] [[0x41]], call [0x41] [], call [0x41] []] = [(0, 2)] ∧
    distinctCallIds [call [0x42] [[0x41]], call [0x41] [], call [0x41] []] = false ∧
    -- (6) pipeline P() { return () }
    (pPipeline [.reserved sPipeline, .id [0x50], .punct 0x28, .punct 0x29, .punct 0x7B, .reserved sReturn,
      .punct 0x28, .punct 0x29, .punct 0x7D]).map (fun x => (x.1.body.calls.length, x.2)) = some (0, []) ∧
    wfPipeline ⟨[0x50], [], [], ⟨[], ⟨[], none⟩, none⟩⟩ = true ∧
    -- (7) pipeline P() { }   /   … { retain () return () }   /   pipeline P(out int r, in int a,) { return () }
    (pPipeline [.reserved sPipeline, .id [0x50], .punct 0x28, .punct 0x29, .punct 0x7B, .punct 0x7D]).isNone = true ∧
    (pPipeline [.reserved sPipeline, .id [0x50], .punct 0x28, .punct 0x29, .punct 0x7B, .id sRetain, .punct 0x28,
      .punct 0x29, .reserved sReturn, .punct 0x28, .punct 0x29, .punct 0x7D]).isNone = true ∧
    (pPipeline [.reserved sPipeline, .id [0x50], .punct 0x28, .reserved Martian.FormatDecl.sOut,
      .reserved Martian.FormatDecl.sInt, .id [0x72], .punct 0x2C, .reserved Martian.FormatDecl.sIn,
      .reserved Martian.FormatDecl.sInt, .id [0x61], .punct 0x2C, .punct 0x29, .punct 0x7B, .reserved sReturn,
      .punct 0x28, .punct 0x29, .punct 0x7D]).isNone = true := by decide +kernel

end PipelineDeclarations

/-! ## Whole files (model `Martian.FormatFile`; lemmas `Proofs/FormatFileParse.lean`, `Proofs/FormatFileLex.lean`; the text side, section AcceptedFileTexts below, rests on `Proofs/FormatFileRangeText.lean`)

`File` is the Go `Ast` after `NewAst` for a comment-free source: include directives, `UserTypes`,
`StructTypes`, `Callables.List` (stages and pipelines in source order), `Call`.  `fmtFile` is
`Ast.format(true)` (what `FormatSrcBytes` returns), `parseFile` is `UncheckedParse`.

COVERED by the theorems: every `File` whose parts are well formed (`wfFile`; every shape of
parameter list, struct, stage, pipeline and call the earlier sections cover), any number of each
kind of part; sources with the declarations of the four kinds in ANY order and any white space
(blank lines) between the pieces, the calls of every pipeline in any order, in the CANONICAL
SPELLING of the tokens (the spelling the printers of the parts use: `using (local = true,)` for a
call modifier, `mem_gb`, …).  NOT covered: comments (the modelled fragment has none: `DumpComments`
writes nothing); non-canonical spellings of tokens and other white space INSIDE a declaration
(covered by the respelling cases of the harness of the parts, and by the harness of this part on
the real code); `fixIncludes = true`; the expansion of `@include` (the included files are not
read by `UncheckedParse`/`FormatSrcBytes` with `fixIncludes = false`); invalid UTF-8 in an include
path (F6b). -/

section WholeFile
open Martian.FormatExp Martian.FormatDecl Martian.FormatCall2 Martian.FormatStage Martian.FormatPipe
open Martian.FormatFile
open Martian.Lexer (Bytes)

/-- **Round trip, whole file.**  For EVERY well-formed file (any include lines, filetypes, structs,
stages and pipelines, with or without a top-level call; at least a declaration or the call) the
reader accepts the printed text and returns the file up to the documented normalisations
(`normFile`: the calls of every pipeline in `topoSort` order, calls and `return` in normal form;
everything else exactly).
Domain: mem_gb / vmem_gb satisfying `gbRoundTrips` (`wfMB`, section ResourceDomain: every value below 256 GB, every whole number of GB up to 64 TB; exactly the values the real float32 reading of formatGB's text gives back): the range where the model's exact reading and the
real parser's float32 reading agree (`readGB32_inverts_formatGB`); above it the real formatter is not a
fixed point (F29, `formatGB_float32_witness`).  The same statement for the
reader with the REAL float32 reading: `parse32_format_file` below. -/
theorem parse_format_file (f : File) (hw : wfFile f = true) : parseFile (fmtFile f) = some (normFile f) :=
  parseFile_fmtFile f hw

/-- **Idempotent, whole file.**  Printing what was read gives the same text.
Domain: mem_gb / vmem_gb satisfying `gbRoundTrips` (`wfMB`, section ResourceDomain: every value below 256 GB, every whole number of GB up to 64 TB; exactly the values the real float32 reading of formatGB's text gives back): the range where the model's exact reading and the
real parser's float32 reading agree (`readGB32_inverts_formatGB`); above it the real formatter is not a
fixed point (F29, `formatGB_float32_witness`). -/
theorem format_file_idem (f : File) (hw : wfFile f = true) : fmtFile (normFile f) = fmtFile f :=
  fmtFile_norm f hw

/-- every stage of a well-formed file has `mem_gb` / `vmem_gb` in `wfMB` (`gbRoundTrips`) -/
theorem wfFile_below_256GB (f : File) (hw : wfFile f = true) : fileMB32Valid f = true :=
  fileMB32Valid_of_wf f hw

/-- **Round trip, whole file, with the REAL reading of `mem_gb` / `vmem_gb`** (`parseFile32`: the
literal rounded to the nearest float32 first, as the real parser does): on the domain `wfFile` it
returns the same file as the exact reader of `parse_format_file`. -/
theorem parse32_format_file (f : File) (hw : wfFile f = true) : parseFile32 (fmtFile f) = some (normFile f) :=
  parseFile32_fmtFile f hw

/-- the normal form is well formed and a fixed point -/
theorem normFile_stable (f : File) (hw : wfFile f = true) :
    wfFile (normFile f) = true ∧ normFile (normFile f) = normFile f :=
  normFile_stable' f hw

/-- `format ∘ parse ∘ format = format` -/
theorem format_parse_format_file (f g : File) (hw : wfFile f = true)
    (hg : parseFile (fmtFile f) = some g) : fmtFile g = fmtFile f :=
  (Martian.FormatDecl.roundtrip_norm (parse_format_file f hw) (format_file_idem f hw) hg).2.1

/-- **The reader accepts the declarations in any order; `NewAst` regroups them.**  A source that
consists of include lines, well-formed declarations `ds` of the four kinds in ANY order (each in
the printer's spelling, pipelines with their calls in `topoSort` order) and optionally the call,
with any white space `w k` after piece number `k`, reads as the normal form of the file which
`NewAst` builds (`distribute`: all filetypes, all structs, all callables, each group in source
order).  Domain: `mem_gb` / `vmem_gb` of every stage in `wfMB` (`gbRoundTrips`; F29 lies outside). -/
theorem parse_source_any_order (w : Nat → Bytes) (hws : ∀ k, (w k).all isSp = true)
    (incs : List Bytes) (ds : List Decl) (call : Option Call2) (hw : wfSource incs ds call = true) :
    parseFile (fmtSource false w incs ds call) = some (normFile (distribute incs ds call)) := by
  have hl := (lexOK_fmtSource false w hws incs ds call hw).lexAll_nil
  have hp := pFile_toks false incs ds call hw
  rw [distribute_read_false] at hp
  simp only [parseFile, hl, Option.bind_some, hp]

/-- **Formatting preserves the program, for every accepted comment-free source in canonical token
spelling.**  Let the source hold the declarations in any order and the calls of every pipeline in
any order (`fmtSource true`).  Then (1) the reader accepts it and returns `g`: the distributed
file with every pipeline's calls where they stand, calls in normal form; (2) the formatter's
output for it, `fmtFile g`, is the printed form of the distributed file; (3) that output reads as
the normal form of the distributed file — the same includes, filetypes, structs and stages, the
same pipelines up to the order of their calls (`normPipeline`), the same call; and (4) formatting
again changes nothing.
Domain (`wfSource`: every declaration well formed): mem_gb / vmem_gb satisfying `gbRoundTrips` (`wfMB`, section ResourceDomain: every value below 256 GB, every whole number of GB up to 64 TB; exactly the values the real float32 reading of formatGB's text gives back): the range where the model's exact reading and the
real parser's float32 reading agree (`readGB32_inverts_formatGB`); above it the real formatter is not a
fixed point (F29, `formatGB_float32_witness`). -/
theorem format_preserves_program (w : Nat → Bytes) (hws : ∀ k, (w k).all isSp = true)
    (incs : List Bytes) (ds : List Decl) (call : Option Call2) (hw : wfSource incs ds call = true) :
    let g := distribute incs (ds.map readDecl) (call.map normCall2)
    parseFile (fmtSource true w incs ds call) = some g ∧
    fmtFile g = fmtFile (distribute incs ds call) ∧
    parseFile (fmtFile g) = some (normFile (distribute incs ds call)) ∧
    fmtFile (normFile (distribute incs ds call)) = fmtFile g := by
  have hwf := wfFile_distribute incs ds call hw
  have h2 := fmtFile_read incs ds call hw
  refine ⟨parseFile_fmtSource_raw w hws incs ds call hw, h2, ?_, ?_⟩
  · rw [h2]; exact parseFile_fmtFile _ hwf
  · rw [h2]; exact fmtFile_norm _ hwf

/-! ### definitional unfoldings (documentation of the model, not guarantees) -/
/-- a well-formed source distributes to a well-formed file, and the declarations of a file in
printing order distribute back to it -/
theorem distribute_facts (incs : List Bytes) (ds : List Decl) (call : Option Call2) (f : File) :
    (wfSource incs ds call = true → wfFile (distribute incs ds call) = true) ∧
    distribute f.includes (declsOf f) f.call = f :=
  ⟨wfFile_distribute incs ds call, distribute_declsOf f⟩

/-! ### guarantees (continued) -/
/-- the printed file lexes as `toksFile f`, whatever text follows -/
theorem lex_format_file (f : File) (rest : Bytes) (hw : wfFile f = true) :
    lexAll (fmtFile f ++ rest) = (lexAll rest).map (toksFile f ++ ·) :=
  (lexOK_fmtFile f hw).lexAll rest

/-- the token-level reader on the tokens of the pieces of a source -/
theorem read_file (raw : Bool) (incs : List Bytes) (ds : List Decl) (call : Option Call2)
    (hw : wfSource incs ds call = true) :
    pFile (toksIncludes incs ++ (toksDecls raw ds ++ toksCallOpt call)) =
      some (distribute incs (ds.map (readDeclB raw)) (call.map normCall2)) :=
  pFile_toks raw incs ds call hw

/-! ### definitional unfoldings (documentation of the model, not guarantees) -/
/-- `@include` is one token when a non-word byte (or the end of the input) follows -/
theorem lex_include (rest : Bytes) (hr : WordEnd rest) :
    lexAll (sAtInclude ++ rest) = (lexAll rest).map (Tok.reserved sAtInclude :: ·) :=
  lexOK_atInclude rest hr

/-! ### guarantees (continued) -/
/-- ASCII text as bytes (for the examples) -/
def ascii (s : String) : List UInt8 := s.toList.map fun c => UInt8.ofNat c.toNat

/-- the parts of the example file: `filetype json;`, `filetype tar.gz;`, `struct S(int a "h", …)`,
`struct T(map<S[]>[] m,)`, the stage `exampleStage` (split, all five resources, retain), the
pipeline `samplePipeline` (its three calls all move), the call
`call volatile P(a = 1, * = self,) using (local = true,)` -/
def sampleDecls : List Decl :=
  [.struct ⟨[0x53], [⟨⟨[sInt], 0, 0⟩, [0x61], [0x68], []⟩, ⟨⟨[[0x6A, 0x73, 0x6F, 0x6E]], 1, 0⟩, [0x62], [], [0x6F]⟩]⟩,
   .pipeline samplePipeline,
   .filetype ⟨[[0x6A, 0x73, 0x6F, 0x6E]]⟩,
   .stage exampleStage,
   .struct ⟨[0x54], [⟨⟨[[0x53]], 1, 2⟩, [0x6D], [], []⟩]⟩,
   .filetype ⟨[[0x74, 0x61, 0x72], [0x67, 0x7A]]⟩]

def sampleCall : Call2 :=
  ⟨[0x50], [0x50], [⟨[0x61], false, .int 1⟩], some (.ref true [] []),
    ⟨false, false, true, [(sLocal, .bool true)]⟩⟩

def sampleIncs : List Bytes := [ascii "dir/a.mro"]

def sampleFile : File := distribute sampleIncs sampleDecls (some sampleCall)

/-- non-vacuity: a well-formed file with every kind of part (an include, two filetypes, two
structs, a split stage with resources and retain, a pipeline whose three calls get reordered, a
top-level call with a keyword modifier and a `using` block).  Its declarations stand in the
source in the order struct, pipeline, filetype, stage, struct, filetype, separated by blank
lines; the reader regroups them (2 filetypes, 2 structs, 2 callables with the pipeline first);
the source text differs from the formatted text; formatting what was read from the source gives
`fmtFile sampleFile`; the formatted text reads back as a file that prints to the same text and
has the tokens of the normal form (the calls of the pipeline are reordered); the blank lines of `Ast.format` are where the Go code puts them
(the head of the text is shown). -/
example :
    wfSource sampleIncs sampleDecls (some sampleCall) = true ∧ wfFile sampleFile = true ∧
    (sampleFile.filetypes.length, sampleFile.structs.length, sampleFile.callables.length) = (2, 2, 2) ∧
    (parseFile (fmtSource true (fun _ => [0x0A]) sampleIncs sampleDecls (some sampleCall))).map fmtFile =
      some (fmtFile sampleFile) ∧
    fmtSource true (fun _ => [0x0A]) sampleIncs sampleDecls (some sampleCall) ≠ fmtFile sampleFile ∧
    (parseFile (fmtFile sampleFile)).map (fun g => (fmtFile g, toksFile g)) =
      some (fmtFile sampleFile, toksFile (normFile sampleFile)) ∧
    toksDecls true (declsOf sampleFile) ≠ toksDecls false (declsOf sampleFile) ∧
    (fmtFile sampleFile).take 81 =
      ascii "@include \"dir/a.mro\"\n\nfiletype json;\nfiletype tar.gz;\n\nstruct S(\n    int    a \"h\"" := by
  have hs : wfSource sampleIncs sampleDecls (some sampleCall) = true := by
    simp only [sampleIncs, ascii]
    -- (here and in the examples below) a string literal is `String.ofList` of its characters by
    -- definition: the rewrite hands the kernel the characters, whereas `String.toList` of the literal
    -- would decode its UTF-8 bytes, in time quadratic in the length
    rw [String.toList_ofList]
    decide +kernel
  have hf : wfFile sampleFile = true := wfFile_distribute _ _ _ hs
  have hp := format_preserves_program (fun _ => [0x0A]) (fun _ => rfl) _ _ _ hs
  refine ⟨hs, hf, by decide +kernel, ?_, ?_, ?_, by decide +kernel, ?_⟩
  · rw [hp.1]
    exact congrArg some hp.2.1
  · simp only [sampleFile, sampleIncs, ascii]
    rw [String.toList_ofList]
    decide +kernel
  · rw [parse_format_file _ hf, Option.map_some, format_file_idem _ hf]
  · simp only [sampleFile, sampleIncs, ascii]
    repeat rw [String.toList_ofList]
    decide +kernel

/-- the blank lines of `Ast.format`, case by case: nothing before the first block whatever it is;
one blank line between blocks; filetypes on consecutive lines; a blank line between structs and
between callables; a blank line before the call iff anything precedes it. -/
example :
    let ft (n : String) : Filetype := ⟨[ascii n]⟩
    let st (n : String) : Struct := ⟨ascii n, [⟨⟨[sInt], 0, 0⟩, [0x78], [], []⟩]⟩
    let pl (n : String) : Callable := .pipeline ⟨ascii n, [], [], ⟨[], ⟨[], none⟩, none⟩⟩
    let cl : Call2 := ⟨[0x50], [0x50], [], none, noMods⟩
    fmtFile ⟨[], [ft "a", ft "b"], [], [], none⟩ = ascii "filetype a;\nfiletype b;\n" ∧
    fmtFile ⟨[ascii "i", ascii "j"], [ft "a"], [], [], none⟩ =
      ascii "@include \"i\"\n@include \"j\"\n\nfiletype a;\n" ∧
    fmtFile ⟨[], [], [st "S", st "T"], [], none⟩ = ascii "struct S(\n    int x,\n)\n\nstruct T(\n    int x,\n)\n" ∧
    fmtFile ⟨[ascii "i"], [], [st "S"], [], none⟩ = ascii "@include \"i\"\n\nstruct S(\n    int x,\n)\n" ∧
    fmtFile ⟨[], [ft "a"], [st "S"], [], some cl⟩ =
      ascii "filetype a;\n\nstruct S(\n    int x,\n)\n\ncall P()\n" ∧
    fmtFile ⟨[], [], [], [pl "P", pl "Q"], some cl⟩ =
      ascii "pipeline P(\n)\n{\n    return (\n    )\n}\n\npipeline Q(\n)\n{\n    return (\n    )\n}\n\ncall P()\n" ∧
    fmtFile ⟨[], [ft "a"], [], [pl "P"], none⟩ =
      ascii "filetype a;\n\npipeline P(\n)\n{\n    return (\n    )\n}\n" ∧
    fmtFile ⟨[], [], [], [], some cl⟩ = ascii "call P()\n" ∧
    fmtFile ⟨[ascii "i"], [], [], [], some cl⟩ = ascii "@include \"i\"\n\ncall P()\n" := by
  simp only [ascii]
  repeat rw [String.toList_ofList]
  decide +kernel

/-- Negative witnesses.  (1) the empty file and a file of white space are rejected (`file` has no
empty alternative), and the file without parts — which prints as the empty text — is outside
`wfFile`; (2) so is a file that consists of `@include` lines only (no alternative `includes`
alone); (3) a file that is only a value expression is not a file although `ParseValExp` reads it
(the `val_exp` alternative sets `exp`, `yaccParse` then returns an error); (4) declarations after
the top-level call are rejected, and so is a second call; (5) `@include` after a declaration is
rejected; (6) `@include` must be followed by a string; `@includex` and a lone `@` are not tokens;
`@include"a"` (no space) is fine; (7) accepted: a call alone; includes and a call; a declaration
and a call; `filetype` and `struct` are not reserved: `struct filetype(int struct,)` is a struct. -/
theorem file_near_misses :
    parseFile [] = none ∧ parseFile (ascii "\n \n") = none ∧
    fmtFile ⟨[], [], [], [], none⟩ = [] ∧ wfFile ⟨[], [], [], [], none⟩ = false ∧
    parseFile (ascii "@include \"a.mro\"\n") = none ∧ wfFile ⟨[ascii "a.mro"], [], [], [], none⟩ = false ∧
    parseFile (ascii "[1]") = none ∧ (parseValExp (ascii "[1]")).isSome = true ∧
    parseFile (ascii "1\n") = none ∧ parseFile (ascii "@include \"a\"\n[1]") = none ∧
    parseFile (ascii "call A()\nfiletype a;\n") = none ∧
    (parseFile (ascii "filetype a;\ncall A()\n")).isSome = true ∧
    parseFile (ascii "call A()\ncall B()\n") = none ∧
    parseFile (ascii "filetype a;\n@include \"a\"\n") = none ∧
    (parseFile (ascii "@include \"a\"\nfiletype a;\n")).isSome = true ∧
    parseFile (ascii "@include\nfiletype a;\n") = none ∧
    parseFile (ascii "@include a\nfiletype a;\n") = none ∧
    lexAll (ascii "@includex \"a\"\nfiletype a;\n") = none ∧ lexAll (ascii "@ include") = none ∧
    lexAll (ascii "@include_") = none ∧ lexAll (ascii "@includ") = none ∧
    lexAll (ascii "@include") = some [.reserved sAtInclude] ∧
    (parseFile (ascii "@include\"a\"filetype a;")).map (·.includes) = some [ascii "a"] ∧
    (parseFile (ascii "call A()\n")).isSome = true ∧
    (parseFile (ascii "@include \"a\"\n@include \"b\"\ncall A()\n")).map (·.includes.length) = some 2 ∧
    (parseFile (ascii "struct filetype(int struct,)")).map (·.structs) =
      some [⟨sFiletype, [⟨⟨[sInt], 0, 0⟩, sStruct, [], []⟩]⟩] ∧
    parseFile (ascii "filetype a\nfiletype b;") = none ∧ parseFile (ascii "filetype;") = none ∧
    parseFile (ascii "struct S()") = none := by
  simp only [ascii]
  repeat rw [String.toList_ofList]
  decide +kernel

end WholeFile

/-! ## value expressions: ACCEPTED SOURCE TEXTS

The theorems of section ValueExpressions quantify over expressions satisfying `wf`.  This
section closes the gap to "every source text the parser accepts": the RANGE of the tokenizer
(`range_lex`, `numTok_prefix`) and of the reader (`parse_produces_wfRaw`: no hypothesis at all)
show that whatever `ParseValExp` returns is `wf` — up to exactly the two recorded findings:
F6b (a string literal with an escape for an invalid UTF-8 byte, `"\xff"`) and F26 (a float
literal denoting negative zero, `-0.0`), which are GENUINE exceptions of the real code (negative
witnesses below), so they appear as the hypotheses `strsValid e` and `noNegZero e`.

Model: `Martian.FormatExpText`.  `parseValExp` is the raw reader (float leaves keep the token
text); Go builds a `float64` and prints it with `strconv.AppendFloat(v, 'g', -1, 64)`.  strconv is
trusted: `g` stands for `fun t => FormatFloat(ParseFloat(t, 64), 'g', -1, 64)` and only `GOK g` is
assumed about it; `parseValExpG g` = `Parser.ParseValExp` with the float leaves as Go holds them. -/
section AcceptedTexts
open Martian.FormatExp

/-- **Range of the tokenizer.**  For EVERY input the tokenizer accepts, every token it returns is
in `tokOK`: a NUM_INT text is, on its own, one NUM_INT token whose value `parseInt` accepts (an
`int64`); a NUM_FLOAT text is, on its own, one NUM_FLOAT token the range check accepts; a
LITSTRING text is unquoted by `unquoteBytes` without a panic; an `id` text is an identifier
(`isIdent`: not a reserved word); a punctuation byte is one of the 14. -/
theorem range_lex (src : List UInt8) (ts : List Tok) (h : lexAll src = some ts) :
    ∀ tok ∈ ts, tokOK tok = true :=
  range_lexAll src ts h

/-- **Prefix lemma.**  The numeric token found at the head of ANY text is, run on its own, the
same token (the regexp rules end at a `\b`; re-run on the match alone they take the same
branches), so the text kept in a `.float`/`.int` token satisfies `isFloatTok` / is one NUM_INT. -/
theorem numTok_prefix (b t : List UInt8) :
    (Martian.Lexer.numTok false b = .float t → isFloatTok t = true) ∧
    (Martian.Lexer.numTok false b = .int t → Martian.Lexer.numTok false t = .int t) :=
  ⟨fun h => by simp [isFloatTok, numTok_prefix_float h], fun h => numTok_prefix_int h⟩

/-- non-vacuity: the float token of `1.5.3,` is `1.5`, of `2e5+3` is `2e5`; the int token of
`007]` is `007` — followed by a byte that is not a terminator of the printer -/
example :
    Martian.Lexer.numTok false [0x31, 0x2E, 0x35, 0x2E, 0x33, 0x2C] = .float [0x31, 0x2E, 0x35] ∧
    Martian.Lexer.numTok false [0x32, 0x65, 0x35, 0x2B, 0x33] = .float [0x32, 0x65, 0x35] ∧
    Martian.Lexer.numTok false [0x30, 0x30, 0x37, 0x5D] = .int [0x30, 0x30, 0x37] := by decide +kernel

/-- **Range of the reader** (NO exception
hypothesis).  For EVERY source text the raw reader accepts, the expression it returns is in
`wfRaw`: integers fit `int64`; every float leaf is the text of a NUM_FLOAT token; map and struct
keys are strictly ascending whatever their order and multiplicity in the source (`mkMap`); struct
keys and reference components are identifiers; references have one of the shapes `X`, `X.a.b`,
`X.default`, `self.x`, `self.x.a`; and the top level is not a reference (`isVal`). -/
theorem parse_produces_wfRaw (src : List UInt8) (e : Exp) (h : parseValExp src = some e) :
    wfRaw e = true ∧ isVal e = true :=
  parseValExp_range src e h

/-- `GOK` is satisfiable: the identity (a reader that keeps the token text: both clauses hold
trivially), and the sample `gSample` which does what strconv does on `1e3` (↦ `1000`, a canonical
integer) and on `-0.0` (↦ `-0`, the third alternative of clause `range`) -/
theorem gok_instances : GOK id ∧ GOK gSample := ⟨gok_id, gok_gSample⟩

/-- **The parser produces well-formed expressions** — partial: the FULL statement is "for every
source text `ParseValExp` accepts, the expression it returns satisfies `wf`" (then
`parse_format_exp` and `format_exp_idem` apply to every accepted text).  The full statement is
FALSE for the code as it is; the two hypotheses `hs`, `hz` are exactly the recorded findings:
F6b (`strsValid`: `"\xff"` is accepted and denotes a string that is not valid UTF-8; the printer
rewrites the byte to U+FFFD — `invalid_byte_not_preserved`, `accepted_text_invalid_utf8` below)
and F26 (`noNegZero`: `-0.0` is accepted, printed `-0`, read back as the integer 0 —
`negative_zero_not_wf`, `accepted_text_negative_zero` below).  Everything else the parser can
return is covered: `g` is any canonicaliser with `GOK g` (what is trusted about strconv). -/
theorem parse_produces_wf_partial (g : List UInt8 → List UInt8) (hg : GOK g) (src : List UInt8) (e : Exp)
    (h : parseValExpG g src = some e) (hs : strsValid e = true) (hz : noNegZero e = true) :
    wf e = true ∧ isVal e = true := by
  obtain ⟨e0, h0, rfl⟩ := Option.map_eq_some_iff.mp h
  have ⟨hr, hv0⟩ := parseValExp_range src e0 h0
  exact ⟨wf_canon g hg e0 hr hs hz, by rw [isVal_canon]; exact hv0⟩

/-- **Formatting preserves every accepted text** — partial in the same sense (hypotheses `hs`, `hz`
= findings F6b, F26; without them the statement is FALSE for the code as it is, see the two
negative witnesses below).  For every source text the parser accepts (any spacing, comments, key
order, duplicate keys, leading zeros, trailing commas, escapes): the formatter's output is
accepted; it denotes the same expression up to `norm` (an integral float prints without
`.`/`e` and reads back as an int; `norm` changes nothing else in an expression that was read); the
output is a fixed point of the formatter; and formatting the re-read expression is accepted again
with the same result. -/
theorem format_preserves_accepted_exp_partial (g : List UInt8 → List UInt8) (hg : GOK g)
    (src : List UInt8) (e : Exp) (h : parseValExpG g src = some e) (hs : strsValid e = true)
    (hz : noNegZero e = true) :
    parseValExpG g (fmt [] e) = some (norm e) ∧ fmt [] (norm e) = fmt [] e ∧
      parseValExpG g (fmt [] (norm e)) = some (norm e) := by
  obtain ⟨e0, h0, rfl⟩ := Option.map_eq_some_iff.mp h
  have ⟨hr, hv0⟩ := parseValExp_range src e0 h0
  have hw := wf_canon g hg e0 hr hs hz
  have hv : isVal (canon g e0) = true := by rw [isVal_canon]; exact hv0
  have hfix := canon_norm_fixed g hg e0 hr hw
  have h1 : parseValExpG g (fmt [] (canon g e0)) = some (norm (canon g e0)) := by
    simp only [parseValExpG, parse_format_exp _ hw hv, Option.map_some, hfix]
  refine ⟨h1, fmt_norm _ [] hw, ?_⟩
  rw [fmt_norm _ [] hw]
  exact h1

/-- a source text with non-canonical spacing, unsorted and duplicate keys (`"b"`, `"a"` twice: the
later entry wins), a comment, leading zeros (`007` is the int 7), a float with exponent (`1e3`,
which Go holds as 1000), escapes, nested empty collections, a struct literal with unsorted fields
and references, trailing commas -/
def sampleText : List UInt8 :=
  ascii "{ \"b\" : 007 ,\"a\":[ ],  # c\n \"b\": [1e3, {}, [[]], -12,\"\\t\\u0041\"], \"a\": 2.5, \"\": {x:{},aa : self.p.q , b:[ X.default,Y.o ]}, }"

/-- non-vacuity: the hypotheses of the two theorems hold for `sampleText` (with `g = gSample`, and
with `g = id`), and the formatted text is the canonical one -/
example :
    (parseValExpG gSample sampleText).map (fun e => (strsValid e, noNegZero e)) = some (true, true) ∧
    (parseValExpG id sampleText).map (fun e => (strsValid e, noNegZero e)) = some (true, true) ∧
    (parseValExpG gSample sampleText).map (fmt []) = some (ascii
      "{\n    \"\": {\n        aa: self.p.q,\n        b: [\n            X.default,\n            Y.o,\n        ],\n        x:  {},\n    },\n    \"a\": 2.5,\n    \"b\": [\n        1000,\n        {},\n        [[]],\n        -12,\n        \"\\tA\",\n    ],\n}") := by
  simp only [sampleText, ascii]
  repeat rw [String.toList_ofList]
  decide +kernel

/-- Negative witness F6b on an ACCEPTED TEXT: `"\xff"` is accepted, the string it denotes is the
single byte FF (`strsValid` fails); the printer writes `"\ufffd"`, which reads back as U+FFFD —
another string.  So "format preserves every accepted text" is false without `strsValid`. -/
theorem accepted_text_invalid_utf8 :
    (match parseValExp (ascii "\"\\xff\"") with
      | some (.str s) => s == [0xFF] && !strsValid (.str s) && fmt [] (.str s) == ascii "\"\\ufffd\""
      | _ => false) = true ∧
    (match parseValExp (ascii "\"\\ufffd\"") with
      | some (.str s) => s == [0xEF, 0xBF, 0xBD]
      | _ => false) = true := by
  simp only [ascii]
  repeat rw [String.toList_ofList]
  decide +kernel

/-- Negative witness F26 on an ACCEPTED TEXT: `-0.0` is accepted; Go holds the float negative
zero, which prints as `-0` (`noNegZero` fails); `-0` is accepted and is the INTEGER 0, which prints
as `0`: the formatter's output is not a fixed point and does not denote the same expression.  So
the statement is false without `noNegZero`. -/
theorem accepted_text_negative_zero :
    (match parseValExpG gSample (ascii "-0.0") with
      | some (.float t) => t == sNegZero && !noNegZero (.float t) && fmt [] (.float t) == ascii "-0"
      | _ => false) = true ∧
    (match parseValExpG gSample (ascii "-0") with
      | some (.int i) => i == 0 && fmt [] (.int i) == ascii "0"
      | _ => false) = true := by
  simp only [ascii]
  repeat rw [String.toList_ofList]
  decide +kernel

end AcceptedTexts

/-! ## declarations below pipelines: ACCEPTED SOURCE TEXTS

The theorems of sections Declarations, StageClauses and StageDeclarations quantify over ASTs
satisfying `wfFiletype` / `wfStruct` / `wfParam` / `wfStage`.  This section closes the gap to "every
source text the parser accepts", as section AcceptedTexts does for value expressions: the RANGE
of the readers on the range of the tokenizer (`range_lex`) — whatever `parseFiletype`,
`parseStruct`, `parseParams`, `parseStage` return for ANY source text is well-formed, up to exactly
the recorded exceptions, which are GENUINE exceptions of the real code and appear as Bool
hypotheses (negative witnesses below; the driver evaluates them on what the real parser returns,
harness/c09decl.go, c09stage.go, key `C09:accepted-decl-not-wf`):

* F6b — `declStrsValid` / `paramsStrsValid` / `stageStrsValid`: a help text, out name, `special`
  value or src command written with an escape for an invalid UTF-8 byte (`"\xff"`);
* F29 — `stageMB32Valid` (= `wfMB` on both values; `wfMB`: the values on which `readGB32 ∘ fmtGB`
  is the identity, `gbRoundTrips`; contains everything below 256 GB): excluded are `mem_gb` /
  `vmem_gb` from 256 GB on for which the real parser's float32 reading of what `formatGB` prints
  differs from the value printed.  This is the resource bound of `wfStage`, hence a hypothesis of the
  theorems about BOTH readers.  F25 — `stageMBValid`: 2^53 GB or more (`formatGB`'s
  `int64(gb*1024)`) — is subsumed (`stageMBValid_of_32`); no theorem has it as a hypothesis.

Model: `Martian.FormatDeclText`.  `threads`: the model reader keeps the token text, Go stores
`roundUpTo(float32(text), 100)` and prints it with `%g`; strconv/fmt and `roundUpTo` are trusted:
`h` stands for `fun t => Sprintf("%g", roundUpTo(float_32(t), 100))` and only `HOK h` is assumed
(clause `fixed` is the idempotence of `roundUpTo` on its own output, which the harness
checks exhaustively on 0.01 … 64.00, key `C09:threads-hundredths`); `parseStageH h` = the `Stage` of
the reader with the EXACT reading of `mem_gb` / `vmem_gb`, threads as Go holds them; the real parser's
`Stage` is `parseStage32H h` (next paragraph).

`mem_gb` / `vmem_gb` (F29, stated, not hidden): `parseStage` reads them by `readGBTok`, the EXACT
decimal value of the literal rounded up to 1/1024; the real parser rounds the literal to the nearest
float32 first (`readGB32Tok`; `0.5000000001` is 512 MB for the real parser, 513 MB exactly).  BOTH
readers are covered, under the SAME hypothesis `stageMB32Valid` (`wfMB` = `gbRoundTrips`: the real
reading of a printed value is the value; it contains everything below 256 GB, where the two readings
of a printed value agree — `readGB32_inverts_formatGB`, by a binade argument — and is the domain of
`wfStage`): `parseStage` (`…_stage_partial`) and
`parseStage32` = the same reader with `readGB32Tok` (`…_stage32_partial`; this is the statement
about the real code).  From 256 GB + 44 MB on the real formatter's output does NOT read back as the
same value: `accepted_stage_float32_resource`, finding F29.  The harness ties `readGB32` to the real
parser on every literal and every printed value it samples (streams `C09.readgb` / `C09.readgb32`,
harness/c09res.go). -/
section AcceptedDeclTexts
open Martian.FormatExp Martian.FormatDecl Martian.FormatRes Martian.FormatStage
open Martian.Lexer (Bytes)

/-- **Range of the `filetype` reader** — no exception: for EVERY source text `parseFiletype`
accepts, the declaration it returns is well-formed (its components come from `id` tokens, which
are identifiers by `range_lex`). -/
theorem parse_produces_wf_filetype (src : Bytes) (t : Filetype) (h : parseFiletype src = some t) :
    wfFiletype t = true :=
  parseFiletype_range src t h

/-- **Range of the `struct` reader** — partial: the hypothesis `hs` is finding F6b (a help text or
out name `"\xff"` is accepted and denotes a string that is not valid UTF-8:
`accepted_struct_invalid_utf8` below); nothing else the reader returns is outside `wfStruct`: the
ids are identifiers, there is at least one member, type names are builtin keywords (`map` only
without argument) or dotted identifiers, array dimensions ≤ 32767 and a map dimension ≤ 32767
(the reader rejects beyond, like the grammar actions: `arr_list` at 32767, and the inner dimensions
of a typed map at 32767; reader and `wfType` agree at the boundary). -/
theorem parse_produces_wf_struct_partial (src : Bytes) (s : Struct) (h : parseStruct src = some s)
    (hs : declStrsValid s = true) : wfStruct s = true :=
  parseStruct_range src s h hs

/-- **Range of the parameter-block reader** — partial (`hs` = F6b): the block is a list of inputs
followed by a list of outputs, each parameter well-formed (`in_param_list out_param_list`). -/
theorem parse_produces_wf_params_partial (src : Bytes) (ps : List Param) (h : parseParams src = some ps)
    (hs : paramsStrsValid ps = true) :
    ∃ ins outs, ps = ins ++ outs ∧ ins.all Martian.FormatDecl.wfParam = true ∧
      outs.all Martian.FormatDecl.wfParam = true ∧
      ins.all (fun p => !p.out) = true ∧ outs.all (fun p => p.out) = true :=
  parseParams_range src ps h hs

/-- **Range of the `stage` reader** (NO exception hypothesis).  For EVERY source text the model
reader accepts, the stage it returns is in `stageRaw`: `wfStage` without the validity of the
strings and the `int64` bound on `mem_gb` / `vmem_gb`, and with the threads text a NUM_INT or
NUM_FLOAT token that `float_32` accepts (`threadsTokOK`): ids and retained ids are identifiers,
parameters are of the mode of their list and shaped as the grammar says, a stage that is not split
has no chunk parameters, and every field of the src command is free of white space
(`strings.Fields`, ASCII and Unicode). -/
theorem parse_produces_stageRaw (src : Bytes) (s : Stage) (h : parseStage src = some s) :
    stageRaw s = true :=
  parseStage_range src s h

/-- `HOK` is satisfiable: `hSample` does what Go does on `0.50` (↦ `0.5`), `1e0` (↦ `1`), `007`
(↦ `7`) and leaves every text in printed form alone -/
theorem hok_instance : HOK hSample := hok_hSample

/-- **The parser produces well-formed stages** — partial: `hs` is finding F6b, `hm` excludes F29
(`mem_gb`, `vmem_gb` in `wfMB` = `gbRoundTrips`: the resource conjunct of `wfStage`, the values whose
printed text the real parser reads back as the value; `accepted_stage_float32_resource`
below).  F25 is subsumed (`accepted_stage_huge_resource` below: `mem_gb = 9007199254740992` is
accepted; the real `formatGB` prints `-9007199254740992` for it).  Everything else the parser can return is covered:
`h` is any canonicaliser with `HOK h` (what is trusted about `roundUpTo`, `float32` and `%g`);
without `h` the statement is false (`threads = 007` is accepted: `accepted_stage_threads_text`). -/
theorem parse_produces_wf_stage_partial (h : Bytes → Bytes) (hh : HOK h) (src : Bytes) (s : Stage)
    (hp : parseStageH h src = some s) (hs : stageStrsValid s = true) (hm : stageMB32Valid s = true) :
    wfStage s = true :=
  (accepted_of_reader parseStage parseStage_range parseStage_fmtStage h hh src s hp hs hm).1

/-- **Formatting preserves every accepted `filetype` text**: for every source text the reader
accepts (any white space and comments between the tokens, also around the dots) the formatter's
output is accepted and denotes the same declaration; hence it is a fixed point. -/
theorem format_preserves_accepted_filetype (src : Bytes) (t : Filetype) (h : parseFiletype src = some t) :
    parseFiletype (fmtFiletype t) = some t ∧
    ∀ t', parseFiletype (fmtFiletype t) = some t' → fmtFiletype t' = fmtFiletype t := by
  exact roundtrip_fixed (parseFiletype_fmtFiletype t (parseFiletype_range src t h))

/-- **Formatting preserves every accepted `struct` text** — partial (`hs` = F6b; without it the
statement is FALSE for the code as it is: `accepted_struct_invalid_utf8`). -/
theorem format_preserves_accepted_struct_partial (src : Bytes) (s : Struct) (h : parseStruct src = some s)
    (hs : declStrsValid s = true) :
    parseStruct (fmtStruct s) = some s ∧
    ∀ s', parseStruct (fmtStruct s) = some s' → fmtStruct s' = fmtStruct s := by
  exact roundtrip_fixed (parseStruct_fmtStruct s (parseStruct_range src s h hs))

/-- **Formatting preserves every accepted parameter block** — partial (`hs` = F6b), printed with
ANY column widths, in particular those `getWidths` computes for the block (`widths ps`): the
output is accepted, reads as the same parameters and is a fixed point. -/
theorem format_preserves_accepted_params_partial (src : Bytes) (ps : List Param)
    (h : parseParams src = some ps) (hs : paramsStrsValid ps = true) (mw tw iw hw : Nat) :
    parseParams (fmtParams mw tw iw hw ps) = some ps ∧
    parseParams (fmtParams (widths ps).1 (widths ps).2.1 (widths ps).2.2.1 (widths ps).2.2.2 ps) = some ps ∧
    ∀ ps', parseParams (fmtParams mw tw iw hw ps) = some ps' →
      fmtParams mw tw iw hw ps' = fmtParams mw tw iw hw ps := by
  have h1 := roundtrip_fixed (print := fmtParams mw tw iw hw) (parseParams_fmt_accepted src ps h hs mw tw iw hw)
  exact ⟨h1.1, parseParams_fmt_accepted src ps h hs _ _ _ _, h1.2⟩

/-- **Formatting preserves every accepted `stage` text** — partial: `hs` = F6b, `hm` = `wfMB` on both values
(excludes F29; F25 subsumed); this is
the reader with the EXACT reading of `mem_gb` / `vmem_gb` (section header; the real reading, under
the same hypotheses: `format_preserves_accepted_stage32_partial`).  For every
source text the parser accepts (any spacing, comments between tokens, `split using (`, resource
entries in any order, repeated, in either spelling, numerals in any spelling): the formatter's
output is accepted, denotes the same stage, and whatever it is read as prints to the same text. -/
theorem format_preserves_accepted_stage_partial (h : Bytes → Bytes) (hh : HOK h) (src : Bytes) (s : Stage)
    (hp : parseStageH h src = some s) (hs : stageStrsValid s = true) (hm : stageMB32Valid s = true) :
    parseStageH h (fmtStage s) = some s ∧
    ∀ s', parseStageH h (fmtStage s) = some s' → fmtStage s' = fmtStage s :=
  (accepted_of_reader parseStage parseStage_range parseStage_fmtStage h hh src s hp hs hm).2

/-! ### the same with `mem_gb` / `vmem_gb` as the REAL parser reads them (float32) -/

/-- `wfMB` is inside F25's range (`gbRoundTrips` demands `formatGB`'s `int64` range) -/
theorem stageMB32_implies (s : Stage) (hm : stageMB32Valid s = true) : stageMBValid s = true :=
  stageMBValid_of_32 s hm

/-- **The real reading inverts `formatGB` below 256 GB**: for `|mb| < 256·1024` the text `formatGB`
prints, rounded to the nearest float32 and then up to 1/1024 (`readGB32` = `tryParseFloat32` +
`roundUpTo`), is `mb` again, and the exact reader agrees.  (The float32 mantissa of `I.DDDD` is
`I·2^(23−j)` plus a rounded term that does not depend on `I`, and every fraction `formatGB` prints
exceeds `(m−1)/1024` by more than `2^-17`, half the float32 spacing below 256:
Proofs/FormatStageRangeGB32.lean.)  Sharp:
`formatGB_float32_witness` is 256 GB + 44 MB. -/
theorem readGB32_inverts_formatGB (mb : Int) (hb : mb.natAbs < 262144) :
    readGB32 (fmtGB mb) = some mb ∧ readGB32 (fmtGB mb) = readGB (fmtGB mb) := by
  have hb63 : mb.natAbs < 2 ^ 63 := Nat.lt_of_lt_of_le hb (by decide)
  have h1 : readGB32 (fmtGB mb) = some mb := by
    rw [(readGB_fmtGB_tok mb hb63).2, readGB32Tok_fmtGB mb hb]
  exact ⟨h1, by rw [h1, readGB_fmtGB mb hb63]⟩

/-- definitional: `parseStage` is the parameterised stage reader with the exact reading of the two
values; `parseStage32` is the same reader with the real one -/
theorem parseStage_readers (src : Bytes) :
    parseStage src = (lexAll src).bind (pStageAllR readGBTok) ∧
    parseStage32 src = (lexAll src).bind (pStageAllR readGB32Tok) :=
  ⟨parseStage_eq src, rfl⟩

/-- **Range of the stage reader with the real reading** (no exception hypothesis) -/
theorem parse32_produces_stageRaw (src : Bytes) (s : Stage) (h : parseStage32 src = some s) :
    stageRaw s = true :=
  parseStage32_range src s h

/-- **The real parser produces well-formed stages** — partial: `hs` = F6b; `hm` (`mem_gb`, `vmem_gb`
in `wfMB` = `gbRoundTrips`) is the resource conjunct of `wfStage` and what
`format_preserves_accepted_stage32_partial` needs (F29); F25 is subsumed (`stageMB32_implies`). -/
theorem parse_produces_wf_stage32_partial (h : Bytes → Bytes) (hh : HOK h) (src : Bytes) (s : Stage)
    (hp : parseStage32H h src = some s) (hs : stageStrsValid s = true) (hm : stageMB32Valid s = true) :
    wfStage s = true :=
  (accepted_of_reader parseStage32 parseStage32_range
    parseStage32_fmtStage h hh src s hp hs hm).1

/-- **Formatting preserves every stage text the REAL parser accepts** — partial: `hs` = F6b, `hm` =
F29/F25 (`mem_gb`, `vmem_gb` in `wfMB`; without it the statement is FALSE for the
code as it is: `accepted_stage_float32_resource`).  The reader is `parseStage32H h`: every
clause of the grammar's `stage` production, `mem_gb` / `vmem_gb` through the float32 rounding of the
literal, `threads` through `h`. -/
theorem format_preserves_accepted_stage32_partial (h : Bytes → Bytes) (hh : HOK h) (src : Bytes) (s : Stage)
    (hp : parseStage32H h src = some s) (hs : stageStrsValid s = true) (hm : stageMB32Valid s = true) :
    parseStage32H h (fmtStage s) = some s ∧
    ∀ s', parseStage32H h (fmtStage s) = some s' → fmtStage s' = fmtStage s :=
  (accepted_of_reader parseStage32 parseStage32_range
    parseStage32_fmtStage h hh src s hp hs hm).2

/-! ### non-vacuity: concrete SOURCE TEXTS in non-canonical spelling -/

/-- white space around the dots, a comment after the semicolon -/
def sampleFiletypeText : Bytes := ascii "filetype  json . gz ;# c\n"

example : (parseFiletype sampleFiletypeText).map (fun t => (fmtFiletype t, fmtFiletype t != sampleFiletypeText)) =
    some (ascii "filetype json.gz;\n", true) := by
  simp only [sampleFiletypeText, ascii]
  repeat rw [String.toList_ofList]
  decide +kernel

/-- odd white space, `[ ]`, a help string with escapes (`\x41`, `\n`), an empty help with an out
name, a comment between members, an id-like keyword as id -/
def sampleStructText : Bytes :=
  ascii "struct  S ( int a \"h\\x41\\n\" ,map<json.gz[ ]>[] b  \"\"  \"o\",\n# c\n string[ ] struct , )"

example : (parseStruct sampleStructText).map
      (fun s => (declStrsValid s, fmtStruct s != sampleStructText, fmtStruct s)) =
    some (true, true, ascii
      "struct S(\n    int              a      \"hA\\n\",\n    map<json.gz[]>[] b      \"\"    \"o\",\n    string[]         struct,\n)\n") := by
  simp only [sampleStructText, ascii]
  repeat rw [String.toList_ofList]
  decide +kernel

/-- inputs then outputs on one line, an unnamed output, the `""` placeholder -/
def sampleParamsText : Bytes := ascii "in int a\"x\", in  map b ,out float , out path p \"\" \"o\","

example : (parseParams sampleParamsText).map (fun ps => (paramsStrsValid ps, widths ps,
      fmtParams (widths ps).1 (widths ps).2.1 (widths ps).2.2.1 (widths ps).2.2.2 ps)) =
    some (true, (3, 5, 7, 1), ascii
      "    in  int   a        \"x\",\n    in  map   b,\n    out float,\n    out path  p        \"\"   \"o\",\n") := by
  simp only [sampleParamsText, ascii]
  repeat rw [String.toList_ofList]
  decide +kernel

/-- a stage on two lines: a help text with a `\u` escape, a command with two blanks, a comment,
`split using (`, the resources in source order `threads, memgb, volatile, threads, vmem_gb,
special` (repeated key: the last wins; `memgb` is `mem_gb`), the numerals `007`, `1e0`, `0.50`,
trailing commas before `)` -/
def sampleStageText : Bytes :=
  ascii "stage S ( in int a \"\\u0041\" , out float , src py \"x.py  -v\" ,# c\n ) split using ( in int c , ) using ( threads = 007 , memgb = 1e0 , volatile = strict , threads=0.50, vmem_gb = 0.50, special = \"a\\tb\" ,) retain ( a , )"

example : (parseStageH hSample sampleStageText).map
      (fun s => (stageStrsValid s, stageMB32Valid s, fmtStage s != sampleStageText, fmtStage s)) =
    some (true, true, true, ascii
      "stage S(\n    in  int   a        \"A\",\n    out float,\n    src py    \"x.py -v\",\n) split (\n    in  int   c,\n) using (\n    mem_gb   = 1,\n    special  = \"a\\tb\",\n    threads  = 0.5,\n    vmem_gb  = 0.5,\n    volatile = strict,\n) retain (\n    a,\n)\n") := by
  simp only [sampleStageText, ascii]
  repeat rw [String.toList_ofList]
  decide +kernel

/-! ### negative witnesses: each exception hypothesis excludes something the parser produces -/

/-- Negative witness F6b on an ACCEPTED struct text: the help text `"\xff"` is accepted and is
the single byte FF (`declStrsValid` and `wfStruct` fail); the printer writes `"\ufffd"`, which reads
back as U+FFFD — another declaration. -/
theorem accepted_struct_invalid_utf8 :
    (match parseStruct (ascii "struct S(int a \"\\xff\",)") with
      | some s => !declStrsValid s && !wfStruct s && (s.members.map (·.help) == [[0xFF]]) &&
          fmtStruct s == ascii "struct S(\n    int a \"\\ufffd\",\n)\n" &&
          (parseStruct (fmtStruct s)).map (fun s' => s'.members.map (·.help)) == some [[0xEF, 0xBF, 0xBD]]
      | none => false) = true := by
  simp only [ascii]
  repeat rw [String.toList_ofList]
  decide +kernel

/-- Negative witness F25 on an ACCEPTED stage text: `mem_gb = 9007199254740992` (2^53 GB) is
accepted and stored as 2^63 MB (`stageMBValid`, `stageMB32Valid` and `wfStage` fail); the real `formatGB` (`fmtGBgo`:
`int64` overflow) prints `-9007199254740992` for it, not what the model printer `fmtGB` prints. -/
theorem accepted_stage_huge_resource :
    (match parseStageH hSample (ascii "stage S(src py \"x\",) using (mem_gb = 9007199254740992,)") with
      | some s => !stageMBValid s && !stageMB32Valid s && !wfStage s && stageStrsValid s &&
          ((s.res.bind (·.mem)) == some (2 ^ 63 : Int))
      | none => false) = true ∧
    fmtGBgo (2 ^ 63) ≠ fmtGB (2 ^ 63) := by
  simp only [ascii]
  repeat rw [String.toList_ofList]
  decide +kernel

/-- Why `h` is needed: `threads = 007` is accepted; the raw reader keeps `007`, which is neither a
NUM_FLOAT token nor a canonical integer (`wfStage` fails for the RAW stage); Go holds 7 and prints
`7` (`hSample`), and the stage as Go holds it is well-formed. -/
theorem accepted_stage_threads_text :
    (parseStage (ascii "stage S(src py \"x\",) using (threads = 007,)")).map
      (fun s => (stageRaw s, wfStage s, s.res.bind (·.threads))) = some (true, false, some (ascii "007")) ∧
    (parseStageH hSample (ascii "stage S(src py \"x\",) using (threads = 007,)")).map
      (fun s => (wfStage s, s.res.bind (·.threads))) = some (true, some (ascii "7")) := by
  simp only [ascii]
  repeat rw [String.toList_ofList]
  decide +kernel

/-- non-vacuity for the real reading: `sampleStageText` is read alike by both readers and
satisfies `stageMB32Valid`; `mem_gb = 0.5000000001` is 512 MB for the real parser (the float32
nearest to the literal is 0.5) and 513 MB for the exact reader -/
example :
    parseStage32H hSample sampleStageText = parseStageH hSample sampleStageText ∧
    (parseStage32H hSample sampleStageText).map stageMB32Valid = some true ∧
    (parseStage32 (ascii "stage S(src py \"x\",) using (mem_gb = 0.5000000001,)")).map (fun s => s.res.bind (·.mem)) =
      some (some 512) ∧
    (parseStage (ascii "stage S(src py \"x\",) using (mem_gb = 0.5000000001,)")).map (fun s => s.res.bind (·.mem)) =
      some (some 513) := by
  simp only [sampleStageText, ascii]
  repeat rw [String.toList_ofList]
  decide +kernel

/-- Negative witness F29 on an ACCEPTED stage text: `mem_gb = 256.04296875` (256 GB + 44 MB, a
float32) is accepted by the real reader as 262188 MB (`stageMB32Valid` and hence `wfStage` fail —
the value is outside `gbRoundTrips` —, `stageMBValid`, F25's range, holds); the
formatter prints `256.042`, which the real reader reads as 262187 MB — the output does not denote
the same stage (the exact reader of the model reads 262188 back: above 256 GB the model reader is
NOT the real parser, which is why `wfStage` excludes it). -/
theorem accepted_stage_float32_resource :
    (match parseStage32 (ascii "stage S(src py \"x\",) using (mem_gb = 256.04296875,)") with
      | some s => !stageMB32Valid s && stageMBValid s && !wfStage s &&
          ((s.res.bind (·.mem)) == some (262188 : Int)) &&
          fmtStage s == ascii "stage S(\n    src py \"x\",\n) using (\n    mem_gb = 256.042,\n)\n" &&
          ((parseStage32 (fmtStage s)).map (fun s' => s'.res.bind (·.mem)) == some (some (262187 : Int))) &&
          ((parseStage (fmtStage s)).map (fun s' => s'.res.bind (·.mem)) == some (some (262188 : Int)))
      | none => false) = true := by
  simp only [ascii]
  repeat rw [String.toList_ofList]
  decide +kernel

end AcceptedDeclTexts

/-! ## call statements and pipelines: ACCEPTED SOURCE TEXTS

The theorems of sections CallStatements, PipelineStatements and PipelineDeclarations quantify over
ASTs satisfying `wfCall` / `wfCall2` / `wfBody` / `wfPipeline` (print → read → print).  This section
closes the gap to "every source text the parser accepts", as section AcceptedTexts does for value
expressions: the RANGE of the readers `pCall2`, `pReturn`, `pPRetain`, `pBody`, `pInParams`,
`pOutParams`, `pPipeline` on tokens in the range of the tokenizer (`range_lex`) is `wfCall2Raw` …
`wfPipelineRaw` (NO exception hypothesis), and from there everything `UncheckedParse` can return
for a file that is one call / one pipeline is well formed, up to exactly these exceptions, each an
explicit Bool hypothesis with a negative witness on an accepted text below:

* F6b `call2StrsValid` / `pipeStrsValid`: a string (binding value, help text, out name) that is not
  valid UTF-8;  F26 `call2NoNegZero` / `pipeNoNegZero`: a float leaf `-0`;
* F40 `modsDistinct` / `pipeModsDistinct`: the same modifier id twice in one `using` block
  (`using (local = true, local = false,)` is grammatical; the compiler rejects it later with
  `DuplicateBinding`).  The model's `sortMods` is a STABLE sort, Go's `sort.Slice` is not: on 13 or
  more entries with repeated ids the real formatter permutes entries with equal ids (found with the
  real code; the output is still a fixed point there, pdqsort leaves sorted input alone), so the
  model describes the real printer only for distinct ids;
* F34 `pipeCallsDistinct`: two calls with the same id in one pipeline (`pipeline-not-idempotent`).

What the parser does NOT guarantee but `wfCall2` does not demand either (so no hypothesis; witnesses
below): a keyword modifier together with a binding of the same id (`call local X() using (local =
false,)`, F41: the compiler rejects the source with `ConflictingModifiers`, the formatter prints the
binding alone, which compiles), and two `using` blocks (the PARSER keeps the last one only, so the
AST the formatter sees never held the first).

Model: `Martian.FormatCallText`.  `parseCall2G g` / `parsePipelineG g` = `UncheckedParse` with every
float leaf as Go holds it (`canonCall2 g` / `canonPipeline g` of the raw result; `g` abstract with
`GOK g`, see section AcceptedTexts).  Tied on every run by harness/c09call2.go and
harness/c09pipe.go: every hypothesis and `wfCall2` / `wfPipeline` are evaluated (driver ops
`call2hyps`, `pipehyps`) on what the REAL parser returned for every accepted text; an accepted text
that satisfies all hypotheses but not `wf…` is the violation `C09:accepted-call-not-wf`. -/
section AcceptedCallTexts
open Martian.FormatExp Martian.FormatCall Martian.FormatCall2 Martian.FormatPipe Martian.FormatCallText

/-- **Range of the call reader** (no exception hypothesis).  On tokens in the range of the
tokenizer, whatever `pCall2` returns satisfies `wfCall2Raw`: callee name and call id are `id`
tokens, hence identifiers (`local`/`preflight`/`volatile` before `(` or `as` is the name); every
binding id is an identifier and every binding value is in the range of the expression reader
(`wfRaw`); a split binding holds a non-empty array, a non-empty map or a reference (and is only
read inside a `map call`: `isMap2` is DEFINED as "some binding is split", and `pCall2` rejects a
`map call` without one); the wildcard value (always last: it ends the list) is `self` or a
reference; the `using` block holds `local|preflight|volatile = true|false` and `disabled = REF`. -/
theorem range_call2_reader (ts : List Tok) (c : Call2) (rest : List Tok)
    (h : pCall2 ts = some (c, rest)) (hts : ∀ tok ∈ ts, tokOK tok = true) :
    wfCall2Raw c = true ∧ ∀ tok ∈ rest, tokOK tok = true :=
  ⟨(pCall2_range' ts c rest (List.all_eq_true.mpr hts) h).1,
    List.all_eq_true.mp (pCall2_range' ts c rest (List.all_eq_true.mpr hts) h).2⟩

/-- **Range of `return (…)`, `retain (…)` and of the statements of a pipeline**: `return` has no
split binding, `retain` holds references. -/
theorem range_body_readers (ts : List Tok) (hts : ∀ tok ∈ ts, tokOK tok = true) :
    (∀ r rest, pReturn ts = some (r, rest) → wfRetRaw r = true) ∧
    (∀ rs rest, pPRetain ts = some (some rs, rest) → wfPRetainRaw rs = true) ∧
    (∀ b rest, pBody ts = some (b, rest) → wfBodyRaw b = true) :=
  ⟨fun r rest h => (pReturn_range ts r rest (List.all_eq_true.mpr hts) h).1,
   fun rs rest h => (pPRetain_range ts (some rs) rest (List.all_eq_true.mpr hts) h).1 rs rfl,
   fun b rest h => (pBody_range ts b rest (List.all_eq_true.mpr hts) h).1⟩

/-- **Range of the parameter-list readers** as `pipeline` uses them: every parameter satisfies
`pipeParamRaw` (= `wfParam` without the validity of help text and out name: the type is a builtin
keyword or a dotted list of identifiers with dimensions in `int16`, the id is an identifier — or
`default` for an unnamed output —, an input has no out name), inputs are inputs, outputs outputs. -/
theorem range_param_readers (f : Nat) (ts : List Tok) (ps : List Martian.FormatDecl.Param) (rest : List Tok)
    (hts : ∀ tok ∈ ts, tokOK tok = true) :
    (Martian.FormatDecl.pInParams f ts = some (ps, rest) →
      ps.all pipeParamRaw = true ∧ ps.all (fun q => !q.out) = true) ∧
    (Martian.FormatDecl.pOutParams f ts = some (ps, rest) →
      ps.all pipeParamRaw = true ∧ ps.all (fun q => q.out) = true) :=
  ⟨fun h => ⟨(pInParams_range f ts ps rest (List.all_eq_true.mpr hts) h).1,
      (pInParams_range f ts ps rest (List.all_eq_true.mpr hts) h).2.1⟩,
   fun h => ⟨(pOutParams_range f ts ps rest (List.all_eq_true.mpr hts) h).1,
      (pOutParams_range f ts ps rest (List.all_eq_true.mpr hts) h).2.1⟩⟩

/-- with valid help texts and out names, `pipeParamRaw` is `wfParam` -/
theorem params_wf_of_raw (ps : List Martian.FormatDecl.Param) (hr : ps.all pipeParamRaw = true)
    (hs : paramsStrsValid ps = true) : ps.all Martian.FormatDecl.wfParam = true :=
  all_wfParam_of_raw ps hr hs

/-- **Range of the pipeline reader** (no exception hypothesis) -/
theorem range_pipeline_reader (ts : List Tok) (p : Pipeline) (rest : List Tok)
    (h : pPipeline ts = some (p, rest)) (hts : ∀ tok ∈ ts, tokOK tok = true) : wfPipelineRaw p = true :=
  pPipeline_range ts p rest hts h

/-- **Every accepted source text** (any spelling): what the raw readers return is in the range -/
theorem parse_produces_raw_call_pipeline (src : List UInt8) :
    (∀ c, parseCall src = some c → wfCallRaw c = true) ∧
    (∀ c, parseCall2 src = some c → wfCall2Raw c = true) ∧
    (∀ b, parseBody src = some b → wfBodyRaw b = true) ∧
    (∀ p, parsePipeline src = some p → wfPipelineRaw p = true) :=
  ⟨parseCall_range src, parseCall2_range src, parseBody_range src, parsePipeline_range src⟩

/-- **The parser produces well-formed call statements** — partial: hypotheses `hs` (F6b), `hz` (F26),
`hd` (F40: a modifier id bound twice in the `using` block); without any of them the statement is
false (`accepted_call_invalid_utf8_negative_zero`, `accepted_call_duplicate_modifier`). -/
theorem parse_produces_wf_call2_partial (g : List UInt8 → List UInt8) (hg : GOK g) (src : List UInt8)
    (c : Call2) (h : parseCall2G g src = some c) (hs : call2StrsValid c = true)
    (hz : call2NoNegZero c = true) (hd : modsDistinct c = true) : wfCall2 c = true := by
  obtain ⟨c0, h0, rfl⟩ := Option.map_eq_some_iff.mp h
  exact wfCall2_canon g hg c0 (parseCall2_range src c0 h0) hs hz hd

/-- **Formatting preserves every accepted call statement** — partial in the same sense (F6b, F26,
F40).  For every source text of a call statement the parser accepts — keyword modifiers
(`call local volatile X(…)`), a `using` block in any order, both, `as`, `map call` with split
bindings, a wildcard binding, comments, any white space, any spelling of the values — the
formatter's output is accepted; it denotes the same call up to `normCall2` (keyword modifiers
become `= true` bindings, the `using` block is sorted by id, integral floats become ints); it is a
fixed point of the formatter; and formatting what was re-read is accepted again, same result. -/
theorem format_preserves_accepted_call2_partial (g : List UInt8 → List UInt8) (hg : GOK g)
    (src : List UInt8) (c : Call2) (h : parseCall2G g src = some c) (hs : call2StrsValid c = true)
    (hz : call2NoNegZero c = true) (hd : modsDistinct c = true) :
    parseCall2G g (fmtCall2 [] c) = some (normCall2 c) ∧ fmtCall2 [] (normCall2 c) = fmtCall2 [] c ∧
      parseCall2G g (fmtCall2 [] (normCall2 c)) = some (normCall2 c) :=
  format_accepted_call2 g hg src c h hs hz hd

/-- the same for the modifier-less slice `parseCall` / `fmtCall` of section CallStatements (F6b, F26) -/
theorem format_preserves_accepted_call_partial (g : List UInt8 → List UInt8) (hg : GOK g)
    (src : List UInt8) (c : Call) (h : parseCallG g src = some c) (hs : callStrsValid c = true)
    (hz : callNoNegZero c = true) :
    wfCall c = true ∧ parseCallG g (fmtCall c) = some (normCall c) ∧ fmtCall (normCall c) = fmtCall c ∧
      parseCallG g (fmtCall (normCall c)) = some (normCall c) :=
  ⟨parseCallG_wf g hg src c h hs hz, format_accepted_call g hg src c h hs hz⟩

/-- **The parser produces well-formed pipelines** — partial: F6b, F26, F40 and F34 (`hc`: two calls
with the same id; `accepted_pipeline_duplicate_call_ids`). -/
theorem parse_produces_wf_pipeline_partial (g : List UInt8 → List UInt8) (hg : GOK g) (src : List UInt8)
    (p : Pipeline) (h : parsePipelineG g src = some p) (hs : pipeStrsValid p = true)
    (hz : pipeNoNegZero p = true) (hd : pipeModsDistinct p = true) (hc : pipeCallsDistinct p = true) :
    wfPipeline p = true := by
  obtain ⟨p0, h0, rfl⟩ := Option.map_eq_some_iff.mp h
  exact wfPipeline_canon g hg p0 (parsePipeline_range src p0 h0) hs hz hd hc

/-- **Formatting preserves every accepted pipeline** — partial (F6b, F26, F40, F34).  For every
source text of a pipeline declaration the parser accepts, with its calls in ANY order and every
token in any spelling: the formatter's output is accepted; it denotes the same pipeline up to the
documented reordering of the calls (`sortBody`: `topoSort` order) and the normal form of each call
(`normPipeline`); the output is a fixed point of the formatter; and formatting what was re-read is
accepted again with the same result. -/
theorem format_preserves_accepted_pipeline_partial (g : List UInt8 → List UInt8) (hg : GOK g)
    (src : List UInt8) (p : Pipeline) (h : parsePipelineG g src = some p) (hs : pipeStrsValid p = true)
    (hz : pipeNoNegZero p = true) (hd : pipeModsDistinct p = true) (hc : pipeCallsDistinct p = true) :
    parsePipelineG g (fmtPipeline p) = some (normPipeline p) ∧
      fmtPipeline (normPipeline p) = fmtPipeline p ∧
      parsePipelineG g (fmtPipeline (normPipeline p)) = some (normPipeline p) := by
  obtain ⟨p0, h0, rfl⟩ := Option.map_eq_some_iff.mp h
  have hr := parsePipeline_range src p0 h0
  have hw := wfPipeline_canon g hg p0 hr hs hz hd hc
  exact accepted_fixed (parsePipeline_fmtPipeline _ hw) (canonPipeline_norm_fixed g hg p0 hr hw)
    (fmtPipeline_norm _ hw)

/-- a call statement in non-canonical spelling: double spaces, a comment, keyword modifiers `local`
and `volatile`, `as`, a split binding of an array with `1e3` (Go holds 1000) and `007`, a map with
unsorted and duplicate keys (`"k"` twice: the later wins), a wildcard binding, an unsorted `using`
block without the closing newline -/
def sampleCallText : List UInt8 :=
  ascii "map  call local volatile X as Y (  # c\n  b = split [1e3, 007 ,],  a={ \"k\":2.5, \"a\":[], \"k\": 1 },\n  * = self ,\n) using ( preflight = false , disabled = D.x, )"

/-- a modifier-less call: struct literal with unsorted and duplicate fields, an escape, a comment -/
def samplePlainCallText : List UInt8 :=
  ascii "call X(y = {b: 1e3, a: [ ], b: 2,}, # c\n x=\"\\x41\",)"

/-- a pipeline whose three calls are all out of dependency order (`C` needs `B` and `A`, `B` needs
`A`), on few lines, with a comment, a keyword-modified call, `1e3`, `007`, duplicate map keys, an
unnamed output and a typed-map parameter -/
def samplePipelineText : List UInt8 :=
  ascii "pipeline P(in int a \"h\", out map<int[]>[] r,out bam,){ # c\n  map call C(x = split B.o, * = self,) using (disabled = A.d,)\n call local volatile B(y = [A.o, 1e3],) call A(z = {\"b\":self.a, \"a\":007, \"b\":null},)\n return (r = C.o,) retain (C.o,) }"

/-- non-vacuity: the sample texts are accepted, satisfy every hypothesis (and are free of the
modifier conflict F41), and the formatted text differs from the source: for the call the `using`
block of the normal form is `disabled, local, preflight, volatile` (keywords converted, sorted),
for the modifier-less call the whole canonical text is shown.  (The canonical texts of
`sampleCallText` and `samplePipelineText` are compared with the real formatter's output on every
run: harness/c09calltext.go.) -/
example :
    (parseCall2G gSample sampleCallText).map
        (fun c => call2StrsValid c && call2NoNegZero c && modsDistinct c && !modsConflict c.mods &&
          (normCall2 c).mods.binds.map (·.1) == [sDisabled, sLocal, sPreflight, sVolatile] &&
          !(fmtCall2 [] c == sampleCallText)) = some true ∧
    (parseCallG gSample samplePlainCallText).map (fun c => callStrsValid c && callNoNegZero c &&
        fmtCall c == ascii "call X(\n    y = {\n        a: [],\n        b: 2,\n    },\n    x = \"A\",\n)\n") =
      some true := by
  simp only [sampleCallText, samplePlainCallText, ascii]
  repeat rw [String.toList_ofList]
  decide +kernel

/-- non-vacuity, pipeline: accepted, every hypothesis holds, the calls are read in source order
`C, B, A` and come out in dependency order `A, B, C`; the formatted text differs from the source -/
example :
    (parsePipelineG gSample samplePipelineText).map
        (fun p => pipeStrsValid p && pipeNoNegZero p && pipeModsDistinct p && pipeCallsDistinct p &&
          p.body.calls.map (·.id) == [[0x43], [0x42], [0x41]] &&
          (normPipeline p).body.calls.map (·.id) == [[0x41], [0x42], [0x43]] &&
          !(fmtPipeline p == samplePipelineText)) = some true := by
  simp only [samplePipelineText, ascii]
  repeat rw [String.toList_ofList]
  decide +kernel

/-- Negative witness F40 on an ACCEPTED TEXT: `call X() using (local = true, local = false,)` is
accepted; the `using` block holds the id `local` twice (`modsDistinct` fails), which is outside
`wfCall2`.  (The MODEL still prints both entries in source order — a stable sort; the real
`sort.Slice` is not stable from 13 entries on, so the model does not speak for the real printer
here: harness histogram `accepted-call2 dup-mods`.) -/
theorem accepted_call_duplicate_modifier :
    (parseCall2G gSample (ascii "call X() using (local = true, local = false,)")).map
      (fun c => (call2StrsValid c, call2NoNegZero c, modsDistinct c, wfCall2 c, wfCall2Raw c)) =
      some (true, true, false, false, true) := by
  simp only [ascii]
  repeat rw [String.toList_ofList]
  decide +kernel

/-- Negative witness F34 on an ACCEPTED TEXT: two calls with the id `X` (`call X`, `call Y as X`).
The text is accepted, every other hypothesis holds; the formatter moves `X` behind `C` (the LAST
call with id `X` wins in `callMap`), and formatting the output moves `C` again (the calls of
`normPipeline (normPipeline p)`, which `fmtPipeline` prints in that order, are not those of
`normPipeline p`): the output is not a fixed point. -/
theorem accepted_pipeline_duplicate_call_ids :
    (parsePipelineG gSample (ascii
      "pipeline P(in int a, out int r,) { call X(a = B.o,) call Y as X() call C(c = X.o,) call B() return (r = C.o,) }")).map
      (fun p => pipeStrsValid p && pipeNoNegZero p && pipeModsDistinct p && !pipeCallsDistinct p &&
        p.body.calls.map (·.decId) == [[0x58], [0x59], [0x43], [0x42]] &&
        (normPipeline p).body.calls.map (·.decId) == [[0x59], [0x43], [0x42], [0x58]] &&
        (normPipeline (normPipeline p)).body.calls.map (·.decId) == [[0x59], [0x42], [0x58], [0x43]]) =
      some true := by
  simp only [ascii]
  repeat rw [String.toList_ofList]
  decide +kernel

/-- Witness F41 on an ACCEPTED TEXT, inside the theorem (no hypothesis excludes it):
`call local X() using (local = false,)` — a keyword modifier together with a binding of the same
id, which `Modifiers.compile` rejects (`ConflictingModifiers`).  The formatter prints the binding
alone: `call X() using (local = false,)`, free of the conflict: formatting turns a source the
compiler rejects into one it accepts (the value the compiler would have used, the binding's, is
kept).  Two `using` blocks: the PARSER keeps the last one, so `disabled = A.x` never reaches the
formatter. -/
theorem accepted_call_conflicting_modifiers :
    (parseCall2G gSample (ascii "call local X() using (local = false,)")).map
      (fun c => (modsConflict c.mods, modsConflict (normCall2 c).mods, modsDistinct c, wfCall2 c, fmtCall2 [] c)) =
      some (true, false, true, true, ascii "call X() using (\n    local = false,\n)\n") ∧
    (parseCall2G gSample (ascii "call X() using (disabled = A.x,) using (volatile = true,)")).map
      (fun c => fmtCall2 [] c) = some (ascii "call X() using (\n    volatile = true,\n)\n") := by
  simp only [ascii]
  repeat rw [String.toList_ofList]
  decide +kernel

/-- the formatter never produces a modifier conflict: the normal form has no keyword modifiers -/
theorem normCall2_no_conflict (c : Call2) : modsConflict (normCall2 c).mods = false := rfl

/-- **The normal form keeps the compiled modifiers.**  What `Modifiers.compile` computes from the
modifiers of a call — the flags `Local`, `Preflight`, `Volatile` (`modFlags`: the value of the
binding when the `using` block binds the id, else the keyword) and the `disabled` binding
(`modDisabled`) — is the same for the call read back from the formatted text as for the source's,
for every `using` block with distinct ids (conflict F41 included: there the binding's value wins
in both). -/
theorem normCall2_keeps_modifiers (c : Call2) (hd : modsDistinct c = true) :
    modFlags (normCall2 c).mods = modFlags c.mods ∧ modDisabled (normCall2 c).mods = modDisabled c.mods :=
  normMods_keeps c.mods hd

/-- non-vacuity: `sampleCallText` (`local`, `volatile` as keywords, `preflight = false` and
`disabled = D.x` bound) and the conflict text (`local` keyword, `local = false` bound) -/
example :
    (parseCall2G gSample sampleCallText).map
      (fun c => (modsDistinct c, modFlags c.mods, modFlags (normCall2 c).mods, (modDisabled c.mods).isSome,
        (modDisabled (normCall2 c).mods).isSome)) =
      some (true, (true, false, true), (true, false, true), true, true) ∧
    (parseCall2G gSample (ascii "call local X() using (local = false,)")).map
      (fun c => (modsDistinct c, modFlags c.mods, modFlags (normCall2 c).mods)) =
      some (true, (false, false, false), (false, false, false)) := by
  simp only [sampleCallText, ascii]
  repeat rw [String.toList_ofList]
  decide +kernel

/-- Negative witnesses F6b and F26 inside a call statement: `call X(a = "\xff",)` is accepted, the
string is not valid UTF-8 and is printed as `"\ufffd"`; `call X(a = -0.0,)` is accepted, printed
`a = -0`, which reads back as the integer 0 and prints `a = 0`: not a fixed point. -/
theorem accepted_call_invalid_utf8_negative_zero :
    (parseCall2G gSample (ascii "call X(a = \"\\xff\",)")).map (fun c => (call2StrsValid c, fmtCall2 [] c)) =
      some (false, ascii "call X(\n    a = \"\\ufffd\",\n)\n") ∧
    (parseCall2G gSample (ascii "call X(a = -0.0,)")).map
      (fun c => (call2NoNegZero c, fmtCall2 [] c, (parseCall2G gSample (fmtCall2 [] c)).map (fmtCall2 []))) =
      some (false, ascii "call X(\n    a = -0,\n)\n", some (ascii "call X(\n    a = 0,\n)\n")) := by
  simp only [ascii]
  repeat rw [String.toList_ofList]
  decide +kernel

end AcceptedCallTexts

/-! ## a whole comment-free file: ACCEPTED SOURCE TEXTS  (the capstone of the text-side statements)

The theorems of section WholeFile quantify over files satisfying `wfFile` (print → read → print) and
over sources in the canonical spelling of the tokens.  This section closes the gap to

  **for every source text the parser accepts, the formatter's output is accepted by the parser,
  denotes the same program (up to the documented reordering of calls and the normal form of call
  modifiers), and is a fixed point of the formatter**

by assembling the parts: the range of the tokenizer (`range_lex`, section AcceptedTexts), of the
expression reader (AcceptedTexts), of the readers of `filetype`, `struct`, parameter lists and
`stage` (AcceptedDeclTexts), of `call`, `return`, `retain` and `pipeline` (AcceptedCallTexts), and
here of `includes`, `dec_list` and `file` (`range_file_reader`: NO exception hypothesis).  The
source may have its declarations in any order (a pipeline before the filetype it uses, a struct
after a stage), the calls of every pipeline in any order, every token in any spelling the
tokenizer accepts (`split using (`, keyword modifiers, `memgb`, `1e3`, `007`, duplicate map keys,
escapes), any white space, and COMMENTS — which the model reader DROPS: the statement is about the
program; what the real formatter does with comments (it keeps and moves them) is outside the
model and covered by monitors only (harness/c09dangle.go, c09file.go; findings F27, F28).

The FULL statement is FALSE for the code as it is — not merely unproved: each of the following is
a recorded finding (known_findings.d/C09.json), a GENUINE exception of the real code with a
negative witness on a small accepted FILE text below, and appears as a conjunct of the Bool
hypothesis `fileHyps f` (model `Martian.FormatFileText`; every conjunct ranges over ALL parts of
the file):

* F6b `fileStrsValid`: a string that is not valid UTF-8 (`"\xff"`) — an `@include` path, a help
  text or out name of a struct member or of a parameter of a stage or pipeline, the `special` value
  or src command of a stage, a string in a binding value.  `quoteString` prints U+FFFD for the
  byte (`accepted_file_invalid_utf8_include`).
* F26 `fileNoNegZero`: a float leaf `-0.0` in a binding value: printed `-0`, read back as the
  integer 0, printed `0` (`accepted_file_negative_zero_duplicate_modifier`).
* F29 `fileMB32Valid`: `mem_gb` / `vmem_gb` of a stage outside `wfMB` (`gbRoundTrips`; only values of 256 GB or more): the
  real parser rounds the literal to the nearest float32 first and can read what `formatGB` printed
  one MB lower (`accepted_file_float32_resource`); below 256 GB the exact reading of the model and
  the real reading agree (`readGB32_inverts_formatGB`).  This is the resource conjunct of `wfFile`.
  It subsumes F25 `fileMBValid`: 2^53 GB or more, `formatGB`'s `int64(gb*1024)` overflows
  (`accepted_file_huge_resource`).
* F40 `fileModsDistinct`: the same modifier id twice in one `using` block of a call (the model's
  stable sort is `sort.Slice` only for distinct ids).
* F34 `fileCallsDistinct`: two calls with the same id in one pipeline: the output is not a fixed
  point (`accepted_file_duplicate_call_ids`).

Which reader of `mem_gb` / `vmem_gb`: `parseFile` (section WholeFile) reads the two values EXACTLY
(`readGBTok`); the real parser rounds the literal to the nearest float32 first (F29).  BOTH are
covered, under the SAME hypotheses (`fileHyps32 f = fileHyps f`: the domain is where the two
readings of a printed value agree): `parseFileGH g h` (exact; `…_file_partial`) and
`parseFile32GH g h` = the same reader with `pStageR readGB32Tok` for every stage
(`…_file32_partial`; this is the statement about the real code).  From 256 GB + 44 MB on the
statement is FALSE for the real reading: `accepted_file_float32_resource`.

Trusted (abstract, as in the parts): strconv's float64 print∘parse `g` with `GOK g`, and
`h = Sprintf("%g", roundUpTo(float32(·), 100))` for `threads` with `HOK h`; `canonFile g h` applies
them to every float leaf / every `threads` value, `parseFileGH g h` = `UncheckedParse` as Go holds
the result.  Tied on every run by harness/c09file.go: `fileHyps…` and `wfFile` are evaluated (driver
op `filehyps`) on what the REAL parser returned for every accepted generated, respelled and
near-miss file text; all hypotheses true but `wfFile` false (or the reverse) is the violation
`C09:accepted-file-not-wf`; the sample text below goes through the real parser and formatter. -/
section AcceptedFileTexts
open Martian.FormatExp Martian.FormatDecl Martian.FormatCall2 Martian.FormatStage Martian.FormatPipe
open Martian.FormatFile Martian.FormatCallText
open Martian.Lexer (Bytes)

/-- **Range of the file reader** (no exception hypothesis).  On tokens in the range of the
tokenizer, whatever `pFile` returns satisfies `fileRaw`: every filetype is well formed; every
struct has an identifier as id and at least one member, each with a well-formed type and an
identifier as id (`structRaw`); every stage is in `stageRaw` and every pipeline in `wfPipelineRaw`
(the ranges of sections AcceptedDeclTexts, AcceptedCallTexts); the call, if any, is in `wfCall2Raw`;
and there is at least one declaration or the call.  Nothing is claimed about the include paths:
they are whatever `unquote` returned. -/
theorem range_file_reader (ts : List Tok) (f : File) (h : pFile ts = some f)
    (hts : ∀ tok ∈ ts, tokOK tok = true) : fileRaw f = true := by
  rw [← pFileR_exact] at h
  exact pFileR_range _ ts f (List.all_eq_true.mpr hts) h

/-- the same for the reader with ANY reader `rd` of `mem_gb` / `vmem_gb`, in particular the real one -/
theorem range_file_reader_any (rd : Tok → Option Int) (ts : List Tok) (f : File) (h : pFileR rd ts = some f)
    (hts : ∀ tok ∈ ts, tokOK tok = true) : fileRaw f = true :=
  pFileR_range rd ts f (List.all_eq_true.mpr hts) h

/-- **Every accepted source text** (any order of the declarations, any spelling, comments): what
the reader returns is in the range — NO exception hypothesis. -/
theorem parse_produces_fileRaw (src : Bytes) (f : File) (h : parseFile src = some f) : fileRaw f = true :=
  parseFile_range src f h

/-- definitional: `parseFile` is the parameterised file reader with the exact reading of `mem_gb` /
`vmem_gb`; `parseFile32` is the same reader with the real one -/
theorem parseFile_readers (src : Bytes) :
    parseFile src = parseFileR Martian.FormatRes.readGBTok src ∧
    parseFile32 src = parseFileR Martian.FormatRes.readGB32Tok src :=
  ⟨parseFile_eq src, rfl⟩

/-- … and so is what the reader with the real (float32) reading of `mem_gb` / `vmem_gb` returns -/
theorem parse32_produces_fileRaw (src : Bytes) (f : File) (h : parseFile32 src = some f) : fileRaw f = true :=
  parseFile32_range src f h

/-- **The parser produces well-formed files** — partial.  The FULL statement is "for every source
text `UncheckedParse` accepts, the file it returns satisfies `wfFile`" (then `parse_format_file`,
`format_file_idem` apply to every accepted text).  It is FALSE for the code as it is; `hy` is the
conjunction of exactly the recorded findings F6b, F26, F29 (which subsumes F25), F40, F34 over all parts of the file
(section header; negative witnesses below).  Everything else the parser can return is covered;
`g`, `h`: what is trusted about strconv / `roundUpTo` (`GOK`, `HOK`). -/
theorem parse_produces_wf_file_partial (g h : Bytes → Bytes) (hg : GOK g) (hh : HOK h) (src : Bytes) (f : File)
    (hp : parseFileGH g h src = some f) (hy : fileHyps f = true) : wfFile f = true :=
  (accepted_of_reader parseFile parseFile_range parseFile_fmtFile g h hg hh src f hp hy).1

/-- **Formatting preserves every accepted file** — partial in the same sense (`hy` = F6b, F26, F29
(`wfMB`; F25 subsumed), F40, F34; without any conjunct the statement is FALSE for the code as it is).  For EVERY source
text of a whole file the parser accepts — `@include` lines, the declarations of the four kinds in
any order, the calls of every pipeline in any order, the top-level call, every token in any
spelling, any white space, comments (dropped by the model reader: the statement is about the
program; comments are covered by monitors only) —: the formatter's output is accepted; it denotes
the same file up to `normFile` (the calls of every pipeline in `topoSort` order, call modifiers as
sorted `using` bindings, integral floats as ints — nothing else changes; the regrouping of the
declarations into includes, filetypes, structs, callables, call is not visible in the AST); the
output is a fixed point of the formatter; and formatting what was re-read is accepted again with
the same result.  `mem_gb` / `vmem_gb` are read exactly here (on the domain of `hy` that is the
real reading of every printed value); the real reading of the source too:
`format_preserves_accepted_file32_partial`. -/
theorem format_preserves_accepted_file_partial (g h : Bytes → Bytes) (hg : GOK g) (hh : HOK h)
    (src : Bytes) (f : File) (hp : parseFileGH g h src = some f) (hy : fileHyps f = true) :
    parseFileGH g h (fmtFile f) = some (normFile f) ∧ fmtFile (normFile f) = fmtFile f ∧
      parseFileGH g h (fmtFile (normFile f)) = some (normFile f) :=
  format_accepted_file g h hg hh src f hp hy

/-- `fileHyps32` is `fileHyps` (both carry `fileMB32Valid`, the resource conjunct of `wfFile`) -/
theorem fileHyps32_implies (f : File) (hy : fileHyps32 f = true) : fileHyps f = true := hy

theorem fileHyps32_is_fileHyps (f : File) : fileHyps32 f = fileHyps f := fileHyps32_eq f

/-- the hypotheses put every `mem_gb` / `vmem_gb` in F25's range too (`gbRoundTrips` demands `formatGB`'s `int64` range) -/
theorem fileHyps_implies_F25 (f : File) (hy : fileHyps f = true) : fileMBValid f = true := by
  simp only [fileHyps, Bool.and_eq_true] at hy
  refine all_of_all (fun c hc => ?_) hy.1.1.2
  cases c with
  | stage s => exact stageMBValid_of_32 s hc
  | pipeline p => rfl

/-- **The REAL parser produces well-formed files** — partial (`hy` = F6b, F26, F29 ⊇ F25, F40, F34):
`parseFile32GH g h` reads `mem_gb` / `vmem_gb` of every stage through the float32 rounding of the
literal, as `UncheckedParse` does. -/
theorem parse_produces_wf_file32_partial (g h : Bytes → Bytes) (hg : GOK g) (hh : HOK h) (src : Bytes)
    (f : File) (hp : parseFile32GH g h src = some f) (hy : fileHyps32 f = true) : wfFile f = true :=
  (accepted_of_reader parseFile32 parseFile32_range
    parseFile32_fmtFile g h hg hh src f hp hy).1

/-- **Formatting preserves every file text the REAL parser accepts** — partial: `hy` = F6b, F26, F29
(`mem_gb`, `vmem_gb` of every stage in `wfMB`; without it the statement is FALSE
for the code as it is: `accepted_file_float32_resource`), F40, F34. -/
theorem format_preserves_accepted_file32_partial (g h : Bytes → Bytes) (hg : GOK g) (hh : HOK h)
    (src : Bytes) (f : File) (hp : parseFile32GH g h src = some f) (hy : fileHyps32 f = true) :
    parseFile32GH g h (fmtFile f) = some (normFile f) ∧ fmtFile (normFile f) = fmtFile f ∧
      parseFile32GH g h (fmtFile (normFile f)) = some (normFile f) :=
  (accepted_of_reader parseFile32 parseFile32_range
    parseFile32_fmtFile g h hg hh src f hp hy).2

/-! ### non-vacuity: a concrete SOURCE TEXT of a whole file in non-canonical spelling -/

/-- `Martian.FormatFile.sampleFileText` (an include; a pipeline before the filetype it uses, its
calls `C, B, A` out of dependency order, keyword modifiers, `1e3`, `007`, duplicate map keys; a
stage with `split using (`, the resources in source order with `memgb`, a repeated key, `1e0`,
`0.50`; a struct after the stage; the call; comments, tabs, blank lines) is accepted; the file Go
holds satisfies every hypothesis (`fileHyps`, `fileHyps32`) and `wfFile`; the callables are read in
source order with the calls of `P` as written and come out in dependency order; and the formatted
text is `sampleFileCanon`, which differs from the source. -/
example :
    (parseFileGH gSample hSample sampleFileText).map (fun f =>
      fileHyps f && fileHyps32 f && wfFile f && f.includes == [ascii "a.mro"] &&
      f.callables.map callableCalls == [(ascii "P", [ascii "C", ascii "B", ascii "A"]), (ascii "S", [])] &&
      (normFile f).callables.map callableCalls ==
        [(ascii "P", [ascii "A", ascii "B", ascii "C"]), (ascii "S", [])] &&
      fmtFile f == sampleFileCanon && !(sampleFileCanon == sampleFileText)) = some true := by
  simp only [sampleFileText, sampleFileCanon, asciiCat, ascii]
  repeat rw [String.toList_ofList]
  decide +kernel

/-- non-vacuity for the real reading: `sampleFileText` is accepted by the reader with the float32
reading with the same resources (`mem_gb = 1e0` is 1024 MB) and satisfies `fileHyps32`;
`mem_gb = 0.5000000001` is 512 MB for the real parser and 513 MB for the exact reader -/
example :
    (parseFile32GH gSample hSample sampleFileText).map (fun f => fileHyps32 f && wfFile f && fileMems f == [some 1024]) =
      some true ∧
    (parseFile32 (ascii "filetype a;\nstage S(src py \"x\",) using (mem_gb = 0.5000000001,)")).map fileMems =
      some [some 512] ∧
    (parseFile (ascii "filetype a;\nstage S(src py \"x\",) using (mem_gb = 0.5000000001,)")).map fileMems =
      some [some 513] := by
  simp only [sampleFileText, asciiCat, ascii]
  repeat rw [String.toList_ofList]
  decide +kernel

/-! ### negative witnesses on ACCEPTED FILE TEXTS: each conjunct of `fileHyps` excludes something the parser produces -/

/-- Negative witness F6b in an INCLUDE PATH: `@include "\xff"` is accepted, the path is the single
byte FF (`fileStrsValid` fails, every other conjunct holds, `wfFile` fails); the formatter writes
`@include "\ufffd"`, which reads back as the path U+FFFD — another file. -/
theorem accepted_file_invalid_utf8_include :
    (parseFileGH gSample hSample (ascii "@include \"\\xff\"\nfiletype a;")).map (fun f =>
      !fileStrsValid f && fileNoNegZero f && fileMB32Valid f && fileModsDistinct f && fileCallsDistinct f &&
        !wfFile f && f.includes == [[0xFF]] && fmtFile f == ascii "@include \"\\ufffd\"\n\nfiletype a;\n" &&
        ((parseFileGH gSample hSample (fmtFile f)).map (·.includes) == some [[0xEF, 0xBF, 0xBD]])) = some true := by
  simp only [ascii]
  repeat rw [String.toList_ofList]
  decide +kernel

/-- Negative witness F34 in a FILE: a pipeline with two calls of id `X` after a filetype.  The text
is accepted, only `fileCallsDistinct` fails; the formatter moves `X` behind `C`, and formatting
the output moves `C` again: the output is not a fixed point. -/
theorem accepted_file_duplicate_call_ids :
    (parseFileGH gSample hSample (ascii
      "filetype a;\npipeline P(in int a, out int r,) { call X(a = B.o,) call Y as X() call C(c = X.o,) call B() return (r = C.o,) }")).map
      (fun f => fileStrsValid f && fileNoNegZero f && fileMB32Valid f && fileModsDistinct f &&
        !fileCallsDistinct f && !wfFile f &&
        f.callables.map callableCalls == [([0x50], [[0x58], [0x59], [0x43], [0x42]])] &&
        (normFile f).callables.map callableCalls == [([0x50], [[0x59], [0x43], [0x42], [0x58]])] &&
        (normFile (normFile f)).callables.map callableCalls == [([0x50], [[0x59], [0x42], [0x58], [0x43]])]) =
      some true := by
  simp only [ascii]
  repeat rw [String.toList_ofList]
  decide +kernel

/-- Negative witness F25 in a FILE: `mem_gb = 9007199254740992` (2^53 GB) in a stage followed by a
call.  Accepted, only `fileMBValid` / `fileMB32Valid` fail (and `wfFile`); the real `formatGB` (`fmtGBgo`: `int64`
overflow) prints `-9007199254740992` for it, not what the model printer prints. -/
theorem accepted_file_huge_resource :
    (parseFileGH gSample hSample (ascii "stage S(src py \"x\",) using (mem_gb = 9007199254740992,)\ncall S()")).map
      (fun f => fileStrsValid f && fileNoNegZero f && !fileMBValid f && !fileMB32Valid f && fileModsDistinct f &&
        fileCallsDistinct f && !wfFile f && fileMems f == [some (2 ^ 63 : Int)]) = some true ∧
    Martian.FormatRes.fmtGBgo (2 ^ 63) ≠ Martian.FormatRes.fmtGB (2 ^ 63) := by
  simp only [ascii]
  repeat rw [String.toList_ofList]
  decide +kernel

/-- Negative witness F29 in a FILE, real reading: `mem_gb = 256.04296875` (256 GB + 44 MB) is read
as 262188 MB; only `fileMB32Valid` fails (F25's `fileMBValid` holds), so `fileHyps` = `fileHyps32`
and `wfFile` fail — the value is outside `gbRoundTrips`; the formatter prints
`256.042`, which the real reader reads as 262187 MB — the output does not denote the same file (the
exact reader of the model reads 262188 back: above 256 GB it is NOT the real parser). -/
theorem accepted_file_float32_resource :
    (parseFile32GH gSample hSample (ascii "filetype a;\nstage S(src py \"x\",) using (mem_gb = 256.04296875,)")).map
      (fun f => !fileHyps f && !fileHyps32 f && !wfFile f && fileMBValid f && !fileMB32Valid f &&
        fileStrsValid f && fileNoNegZero f && fileModsDistinct f && fileCallsDistinct f &&
        fileMems f == [some 262188] &&
        ((parseFile32GH gSample hSample (fmtFile f)).map fileMems == some [some 262187]) &&
        ((parseFileGH gSample hSample (fmtFile f)).map fileMems == some [some 262188])) = some true := by
  simp only [ascii]
  repeat rw [String.toList_ofList]
  decide +kernel

/-- Negative witnesses F26 and F40 in a FILE: `call X(a = -0.0,)` after a filetype (only
`fileNoNegZero` fails; printed `a = -0`, which reads back as the integer 0: not a fixed point) and
`call X() using (local = true, local = false,)` (only `fileModsDistinct` fails; in the range
`fileRaw`, outside `wfFile`). -/
theorem accepted_file_negative_zero_duplicate_modifier :
    (parseFileGH gSample hSample (ascii "filetype a;\ncall X(a = -0.0,)")).map
      (fun f => !fileNoNegZero f && fileStrsValid f && fileMB32Valid f && fileModsDistinct f &&
        fileCallsDistinct f && !wfFile f && fmtFile f == ascii "filetype a;\n\ncall X(\n    a = -0,\n)\n" &&
        ((parseFileGH gSample hSample (fmtFile f)).map fmtFile ==
          some (ascii "filetype a;\n\ncall X(\n    a = 0,\n)\n"))) = some true ∧
    (parseFileGH gSample hSample (ascii "filetype a;\ncall X() using (local = true, local = false,)")).map
      (fun f => !fileModsDistinct f && fileStrsValid f && fileNoNegZero f && fileMB32Valid f &&
        fileCallsDistinct f && !wfFile f && fileRaw f) = some true := by
  simp only [ascii]
  repeat rw [String.toList_ofList]
  decide +kernel

end AcceptedFileTexts

/-! ## The exact domain of the resource round trip

`wfMB` - the `mem_gb` / `vmem_gb` conjunct of `wfRes`, `wfStage`, `wfFile` and of the text-side
hypotheses `stageMB32Valid` / `fileMB32Valid` - is `gbRoundTrips`: the REAL reading (`readGB32`) of
`formatGB`'s text is the value again.  Every value on which the code round-trips
is covered, F29 is exactly its complement (within `formatGB`'s `int64` range, F25). -/
section ResourceDomain
open Martian.FormatRes

/-- every value below 256 GB round-trips -/
theorem gbRoundTrips_below_256GB (mb : Int) (hb : mb.natAbs < 262144) : gbRoundTrips mb = true :=
  gbRoundTrips_of_tok (Nat.lt_of_lt_of_le hb (by decide)) (readGB32Tok_fmtGB mb hb)

/-- every whole number of GB up to 64 TB, of either sign, round-trips: `formatGB` prints an integer
and float32 holds it exactly (every integer below 2^24 is a float32: `f32MB_f32Round_nat`; the bound
stated here, 65536 GB = 64 TB, lies inside that range) -/
theorem gbRoundTrips_whole_GB (k : Int) (hk : k.natAbs < 65536) : gbRoundTrips (1024 * k) = true := by
  exact gbRoundTrips_of_tok (by omega) (readGB32Tok_whole _ (by omega) (by omega))

/-- what the predicate gives: the real reader inverts `formatGB`, within its `int64` range -/
theorem gbRoundTrips_spec (mb : Int) (h : gbRoundTrips mb = true) :
    mb.natAbs < 2 ^ 63 ∧ readGB32 (fmtGB mb) = some mb ∧ readGB32Tok (tokGB mb) = some mb := by
  refine ⟨gbRoundTrips_lt63 h, ?_, gbRoundTrips_tok h⟩
  simp only [gbRoundTrips, Bool.and_eq_true, beq_iff_eq] at h
  exact h.2

/-- witnesses: `vmem_gb = 1024` of the repo's testdata/formatter_test.mro (1 TB) and 16 TB are inside
the domain; F29's value 262188 MB and its negative are outside, 262187 and 262144 inside; 2^63 MB is
outside `formatGB`'s `int64` range -/
theorem resource_domain_witnesses :
    gbRoundTrips (1024 * 1024) = true ∧ wfMB (some (1024 * 16384)) = true ∧
    gbRoundTrips 262188 = false ∧ gbRoundTrips 262187 = true ∧ gbRoundTrips 262144 = true ∧
    gbRoundTrips (-262188) = false ∧ gbRoundTrips (2 ^ 63) = false := by decide +kernel

end ResourceDomain


end Props.C09
