/-
C03 tie: `Chunk.step` TRANSLATED from martian/core/stage.go on every run
(`Gen.tr_ChunkStep`, extract/translate*.go, "effects" extension): the guard of a
chunk's job submission.  The term is a function of what `self.getState()`
returns (the name of the MetadataState) and of the field `self.hasBeenRun` to the
pair (trace of the modelled effects: `Write` of _args, `Write` of _outs,
`runChunk` = the submission; the new value of `hasBeenRun`).  Resolving the
bindings and computing the resources are ignored (they do not decide whether the
job is submitted).
-/
import Martian.Sched
import Proofs.Sched
import Gen.Facts
import Proofs.TieDefs

namespace Props.C03
open Martian.Sched Proofs.Tie

/-- what `Chunk.step` does, completely -/
theorem tr_ChunkStep_spec (state : String) (run : Bool) :
    Gen.tr_ChunkStep state run =
      if state = "Ready" ∧ run = false then (["Write", "Write", "runChunk"], true) else ([], run) := by
  cases run <;> by_cases h : state = "Ready" <;> simp [Gen.tr_ChunkStep, h]

/-- any number of calls of `step`, whatever state each of them sees -/
def steps (run : Bool) : List String → List String × Bool
  | [] => ([], run)
  | st :: r => ((Gen.tr_ChunkStep st run).1 ++ (steps (Gen.tr_ChunkStep st run).2 r).1, (steps (Gen.tr_ChunkStep st run).2 r).2)

theorem steps_after_run : ∀ (states : List String), steps true states = ([], true)
  | [] => rfl
  | st :: r => by simp [steps, tr_ChunkStep_spec, steps_after_run r]

/-- AT MOST ONCE, for the code itself ("belt and suspenders for not
double-submitting a job"): however often `step` is called and whatever state the
metadata cache shows each time – also `Ready` again, e.g. before the `_jobinfo`
of the submitted job is seen –, the job is submitted at most once until
`hasBeenRun` is reset (`Chunk.reset`, a new incarnation) -/
theorem tr_ChunkStep_at_most_once : ∀ (run : Bool) (states : List String),
    (steps run states).1.count "runChunk" ≤ 1
  | true, states => by simp [steps_after_run]
  | false, [] => by simp [steps]
  | false, st :: r => by
    by_cases h : st = "Ready"
    · simp [steps, tr_ChunkStep_spec, h, steps_after_run]
    · have := tr_ChunkStep_at_most_once false r
      simpa [steps, tr_ChunkStep_spec, h] using this

/-- `Chunk.getState`: `if state, ok := self.metadata.getState(); ok { return state } else { return Ready }`
(hand-written, three lines; `goState` is tied to `_getStateNoLock` in Props/C02Tie) -/
def goChunkState (m : Option MState) : String := if (goState m).2 then (goState m).1 else "Ready"

/-- THE TIE to the scheduler model: whenever the model allows the submission of a
chunk (`launchOk`, the guard of the event `launch`), the translated code submits it,
under the abstraction `hasBeenRun` = "submitted in this incarnation"
(`s.launches.contains (o, s.inc)`, the model's ghost history): the two conjuncts
of `launchOk` that `Chunk.step` itself checks are exactly its guard -/
theorem launchOk_chunk_code_submits {s : State} {o : Obj} {i : Nat} (h : launchOk s o = true)
    (hr : o.r = .chunk i) :
    Gen.tr_ChunkStep (goChunkState (s.st o)) (s.launches.contains (o, s.inc)) =
      (["Write", "Write", "runChunk"], true) := by
  have hst := (launchOk_facts h).2.2
  have hl : s.launches.contains (o, s.inc) = false := by
    simpa using (launchOk_common h).2.2.2.1
  rw [hst, hl, tr_ChunkStep_spec]
  simp [goChunkState, goState]

/-- … and conversely the code never submits a chunk that the model's history
already contains in this incarnation, or whose metadata shows any state
(`at_most_once` / `no_double_submission` of Props/C03 on the code side) -/
theorem code_submits_only_unsubmitted (s : State) (o : Obj)
    (h : (Gen.tr_ChunkStep (goChunkState (s.st o)) (s.launches.contains (o, s.inc))).1.contains "runChunk" = true) :
    s.st o = none ∧ (o, s.inc) ∉ s.launches := by
  rw [tr_ChunkStep_spec] at h
  by_cases hc : goChunkState (s.st o) = "Ready" ∧ s.launches.contains (o, s.inc) = false
  · refine ⟨?_, by simpa using hc.2⟩
    cases hs : s.st o with
    | none => rfl
    | some m => cases m <;> simp [goChunkState, goState, hs] at hc
  · rw [if_neg hc] at h
    simp at h

example : steps false ["Ready", "Ready", "Running", "Ready"] = (["Write", "Write", "runChunk"], true) ∧
    Gen.tr_ChunkStep "Running" false = ([], false) := by decide +kernel

/-- FAIL CLOSED: the tie theorems of this file are about the
definition(s) TRANSLATED FROM THE TREE UNDER TEST, not about the committed default the
extractor falls back to when the source leaves the translated subset – in that
case this obligation breaks and `./check` reports it (besides the note). -/
theorem translated_from_tree_under_test : Gen.tr_ChunkStep_extracted = true := by decide +kernel

end Props.C03
