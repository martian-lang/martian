/-
C07 — accepted programs are type-safe at run time; ill-typed bindings are
rejected.  PROPERTY THEOREMS ONLY (model: Martian/Typing.lean, TypingPipeline.lean,
TypingStrict.lean, TypingRun.lean and, for the whole-program theorems of §12–§13,
TypingProgram.lean, on top of the C17 type algebra Martian/Types.lean; helper lemmas:
Proofs/Typing*.lean).

Quantification: ALL types `Ty` (builtins, user file types, arrays of any
dimension, typed maps, structs of structs …), ALL expressions `Exp` (scalar /
array / map / struct literals nested arbitrarily, references `self.x.path` and
`CALL.out.path` with paths of any length), ALL type environments `Env` and
stores `Store`.  Side conditions, each guaranteed by the parser / compiler:
`Ty.wf` (distinct field names), `Exp.wf` (integer literals are int64, literal
keys are distinct).

`valid t v` is C17's clean validation (`IsValidJson`: no error, no alarm),
`filter t v` C17's `FilterJson`.

TWO run-time models.  §3 is about the VALUE-LEVEL model
`eval` / `project` followed by ONE `filter t` of the result: that is not the
order in which the run time works, and its theorems are corollaries about
values only.  §3b is about `evalT` / `pathVal` / `wholeRT`
(Martian/TypingRun.lean), a transcription of `LazyArgumentMap.Path` /
`resolvePath` / `LazyArgumentMap.filter` (martian/core/resolve.go): the
destination type is peeled while the value is projected, `FilterJson` is applied
leaf-wise, and a filter error IS the resolution error (`none`).  `pathVal` is
compared with the real `Path` on every run (harness/c07_path.go).  The soundness
statements the manifest cites are those of §3b.
-/
import Martian.Typing
import Martian.TypingPipeline
import Martian.TypingStrict
import Proofs.Typing
import Proofs.TypingPipeline
import Proofs.TypingStrict
import Martian.TypingRun
import Proofs.TypingRun
import Martian.TypingProgram
import Proofs.TypingProgram

namespace Props.C07
open Martian.Json Martian.Types Martian.Typing

/-! ### sample data for the non-vacuity examples and the witnesses -/

private abbrev ka : Bytes := [0x61]
private abbrev kb : Bytes := [0x62]
private abbrev kx : Bytes := [0x78]
private abbrev km : Bytes := [0x6D]
private abbrev ko : Bytes := [0x6F]
private abbrev kslash : Bytes := [0x61, 0x2F, 0x62]
private abbrev cP : Bytes := [0x50]

/-- `struct A(int a)` -/
private abbrev tA : Ty := .struct [0x41] (.cons ka (.base .int) .nil)
/-- `struct W(int a, file[] b)` -/
private abbrev tW : Ty := .struct [0x57] (.cons ka (.base .int) (.cons kb (.arr (.base .file)) .nil))
/-- `struct F(float a)` -/
private abbrev tF : Ty := .struct [0x46] (.cons ka (.base .float) .nil)

/-- pipeline input `self.x : W[]`, `self.m : map<W>`; a call `P` of a stage with
outputs `(W o, map<int> m)`, made singly -/
private abbrev sigP (mode : Mode) : CallSig :=
  { name := cP, mode := mode, src := none, outs := .cons ko tW (.cons km (.tmap (.base .int)) .nil) }
private abbrev Γ0 (mode : Mode) : Env :=
  { self := [(kx, .arr tW), (km, .tmap tW)], calls := [(cP, sigP mode)] }

private abbrev vW : J := .obj [(ka, .num (.int 1)), (kb, .arr [.str kx])]
private abbrev ρ0 : Store :=
  { self := [(kx, .arr [vW, .null]), (km, .obj [(ka, vW)])],
    calls := [(cP, .obj [(ko, vW), (km, .obj [(ka, .num (.int 2))])])] }

/-! ### 1. projection: `fieldType` is sound for `project` -/

/-- If `v` is a valid value of type `t` and the compiler computes `t'` as the
type of the projection `.p` (through arrays, typed maps and struct members, any
depth), then the run-time projection of `v` is defined (no resolution error)
and is a valid value of `t'` – including the legal-file-name rule for the keys
of directory-like typed maps. -/
theorem fieldType_sound (t : Ty) (v : J) (p : List Bytes) (t' : Ty)
    (hv : valid t v = true) (ht : fieldType t p = some t') :
    ∃ w, project t v p = some w ∧ valid t' w = true := by
  obtain ⟨w, hw, hs⟩ := fieldType_shape t v p t' (shape_of_valid t v hv) ht
  exact ⟨w, hw, valid_of_shape _ _ hs⟩

/-- non-vacuity: `(map<W>).b : map<file[]>`, projected from a valid value -/
example :
    fieldType (.tmap tW) [kb] = some (.tmap (.arr (.base .file))) ∧
    valid (.tmap tW) (.obj [(ka, vW)]) = true ∧
    project (.tmap tW) (.obj [(ka, vW)]) [kb] = some (.obj [(ka, .arr [.str kx])]) :=
  ⟨rfl, by decide, rfl⟩

/-- projecting through a typed map onto a member that is itself a map is
rejected ("invalid projection through nested maps"); through arrays the
dimensions add up -/
example :
    fieldType (.tmap (.struct cP (.cons km (.tmap (.base .int)) .nil))) [km] = none ∧
    fieldType (.arr (.arr tW)) [kb] = some (.arr (.arr (.arr (.base .file)))) := ⟨rfl, rfl⟩

/-! ### 2. the map-call dimension rule -/

/-! ### definitional unfoldings -/

/-- An output `o : t` of a call is seen by later bindings as `t` (plain call),
`t[]` (call mapped over arrays) or `map<t>` (call mapped over a typed map); in
the last case the reference is rejected when `t` already contains a typed map
(no map of map). -/
theorem mapcall_dim (Γ : Env) (id o : Bytes) (sig : CallSig) (t : Ty)
    (hc : Γ.calls.lookup id = some sig) (ho : sig.outs.get o = some t) :
    refType Γ (.call id [o]) =
      match sig.mode with
      | .single => some t
      | .arr => some (.arr t)
      | .map => if (dims t).2 = 0 then some (.tmap t) else none := by
  simp only [refType, hc, ho, fieldType_nil, liftMode]
  cases sig.mode <;> rfl

/-! ### guarantees (§2 continued) -/

/-- The same rule for projections of any depth: the type of `ID.o.path` is the
type of the projection out of the *lifted* struct of all outputs. -/
theorem mapcall_dim_path (Γ : Env) (id o : Bytes) (p : List Bytes) (sig : CallSig)
    (hc : Γ.calls.lookup id = some sig) :
    refType Γ (.call id (o :: p)) = fieldType sig.whole (o :: p) :=
  refType_call_eq Γ id o p sig hc

example :
    refType (Γ0 .arr) (.call cP [ko, kb]) = some (.arr (.arr (.base .file))) ∧
    refType (Γ0 .map) (.call cP [ko, ka]) = some (.tmap (.base .int)) ∧
    refType (Γ0 .map) (.call cP [km]) = none := ⟨rfl, rfl, rfl⟩

/-! ### 3. soundness: accepted bindings deliver conforming values -/

/-- Reference-free expressions (full strength, no filtering needed): a literal
the compiler accepts for a parameter of type `t` denotes – as the JSON that
`EncodeJSON` writes – a value that validates cleanly against `t`.
(`x = 1000000.0` bound to an `int` is written `1000000`; an encoder that prints
floats with `%v` writes `1e+06`, which does not validate as `int`.) -/
theorem validExp_literal_sound (Γ : Env) (ρ : Store) (t : Ty) (e : Exp)
    (ht : t.wf = true) (he : e.wf = true) (hr : e.hasRef = false)
    (hv : validExp Γ t e = true) :
    ∃ v, eval Γ ρ e = some v ∧ valid t v = true :=
  validExp_eval Γ ρ t ht e he hv fun h => by rw [hr] at h; cases h

example :
    let e : Exp := .map true (.cons ka (.float 1 6) (.cons kb (.arr (.cons (.str kx) (.cons .null .nil))) .nil))
    tW.wf = true ∧ e.wf = true ∧ e.hasRef = false ∧ validExp (Γ0 .single) tW e = true ∧
      eval (Γ0 .single) ρ0 e = some (.obj [(ka, .num (.int 1000000)), (kb, .arr [.str kx, .null])]) :=
  ⟨by decide, by decide, by decide, by decide, rfl⟩

/-- VALUE-LEVEL corollary (NOT the run time's order of operations – see §3b,
`validExp_sound_rt_partial`; and `filter_no_error_partial` for the error flag).
PARTIAL.  Full statement (false, see the two witnesses below):
  `StoreOk Γ ρ → validExp Γ t e → ∃ v, eval Γ ρ e = some v ∧ valid t (filter t v).1`.
Proved under `holeFree Γ t e`: no reference inside `e` is bound across one of
the two assignability holes of C17 (`noHole`: a directory-like typed map from a
typed map that is not directory-like, F9; a typed map from a struct, F10).

Statement: if the compiler accepts `e` for a parameter of type `t`, and every
pipeline input / every output of the calls made so far conforms to its declared
type (`StoreOk`), then evaluating `e` succeeds (no binding-resolution error) and
the delivered value – after the filter the run time applies – validates cleanly
against `t`. -/
theorem validExp_sound_partial (Γ : Env) (ρ : Store) (t : Ty) (e : Exp)
    (hρ : StoreOk Γ ρ) (ht : t.wf = true) (he : e.wf = true)
    (hv : validExp Γ t e = true) (hh : holeFree Γ t e = true) :
    ∃ v, eval Γ ρ e = some v ∧ valid t (filter t v).1 = true :=
  validExp_sound Γ ρ hρ t ht e he hv hh

/-- expressions without references never touch a hole -/
theorem holeFree_of_noRef (Γ : Env) (t : Ty) (e : Exp) (hr : e.hasRef = false) :
    refHoleFree Γ t e = true := by
  simp [refHoleFree, refType_of_noRef Γ e hr]

/-- the sample store conforms to the sample environment -/
theorem sample_store_ok : StoreOk (Γ0 .single) ρ0 :=
  storeOk_of_all _ _ (by decide)

/-- non-vacuity: a struct literal with a coercion (`float ← int`), a projection
through an array and a reference into a call, all hypotheses satisfied -/
example :
    let t : Ty := .struct [0x54] (.cons ka (.base .float) (.cons kb (.arr (.arr (.base .file))) (.cons kx tA .nil)))
    let e : Exp := .map true (.cons ka (.int 3) (.cons kb (.self kx [kb]) (.cons kx (.call cP [ko]) .nil)))
    StoreOk (Γ0 .single) ρ0 ∧ t.wf = true ∧ e.wf = true ∧
      validExp (Γ0 .single) t e = true ∧ holeFree (Γ0 .single) t e = true :=
  ⟨sample_store_ok, by decide, by decide, by decide, by decide⟩

/-- F9 at binding level (negative witness for the full soundness statement):
`x = self.m` with `self.m : map<string>` is accepted for `map<file> x`; the
conforming input `{"a/b": "x"}` is delivered unchanged and does not validate
(key is not a legal file name). -/
theorem f9_binding_witness :
    let Γ : Env := { self := [(km, .tmap (.base .string))], calls := [] }
    let ρ : Store := { self := [(km, .obj [(kslash, .str kx)])], calls := [] }
    let t : Ty := .tmap (.base .file)
    validExp Γ t (.self km []) = true ∧
    valid (.tmap (.base .string)) (.obj [(kslash, .str kx)]) = true ∧
    eval Γ ρ (.self km []) = some (.obj [(kslash, .str kx)]) ∧
    valid t (filter t (.obj [(kslash, .str kx)])).1 = false ∧
    holeFree Γ t (.self km []) = false :=
  ⟨by decide, by decide, rfl, by decide, by decide⟩

/-- F10 (`map<T> ← struct`) cannot be hit by a plain reference at top level:
every type class pre-checks the `(ArrayDim, MapDim)` shape of a reference, and
`TypedMapType.IsValidExpression` demands `MapDim ≠ 0` … -/
theorem f10_unreachable_at_top (Γ : Env) (d : Ty) (e : Exp) (n : Bytes) (fs : Fields)
    (hr : refType Γ e = some (.struct n fs)) : refOk Γ (.tmap d) e = false := by
  simp [refOk, hr, shapeOk, dims]

/-- … but it IS reachable one array level down (`ArrayType.IsAssignableFrom`
only compares the array dimension and the element types) and through `split`
(`isValidSplit` makes no shape check): `map<int>[] x = self.s` with
`self.s : A[]`, `struct A(int a)`, is accepted; the conforming input
`[{"a": 1, "x": "s"}]` (undeclared members are tolerated) is delivered with the
extra member and does not validate as `map<int>[]`.  (negative witness for the
full soundness statement) -/
theorem f10_binding_witness :
    let Γ : Env := { self := [(kx, .arr tA)], calls := [] }
    let v : J := .arr [.obj [(ka, .num (.int 1)), (kx, .str kx)]]
    let ρ : Store := { self := [(kx, v)], calls := [] }
    let t : Ty := .arr (.tmap (.base .int))
    validExp Γ t (.self kx []) = true ∧
    validBind Γ (.tmap (.base .int)) (.split (.self kx [])) = true ∧
    valid (.arr tA) v = true ∧
    valid t (filter t v).1 = false ∧
    holeFree Γ t (.self kx []) = false := by decide

/-- `x = CALL` standing for `x = CALL.default` (`rewriteToDefaultOutput`) is
sound in the same sense. -/
theorem defaultRewrite_sound_partial (Γ : Env) (ρ : Store) (t : Ty) (id : Bytes)
    (hρ : StoreOk Γ ρ) (ht : t.wf = true)
    (hv : defaultRewrite Γ t (.call id []) = true)
    (hh : refHoleFree Γ t (.call id [defaultName]) = true) :
    ∃ v, eval Γ ρ (.call id [defaultName]) = some v ∧ valid t (filter t v).1 = true := by
  simp only [defaultRewrite, Bool.and_eq_true] at hv
  simp only [refHoleFree] at hh
  cases hr : refType Γ (.call id [defaultName]) with
  | none => simp [hr] at hv
  | some s =>
    simp only [hr, Bool.and_eq_true] at hv hh
    exact ref_filter_sound Γ ρ hρ t ht _ s hr hv.2.2 hh

/-- `x = split REF`: every element handed to a fork conforms to the parameter
type (PARTIAL for the same reason: `noHole` between the parameter type and the
element type of the collection). -/
theorem split_ref_sound_partial (Γ : Env) (ρ : Store) (t s s' : Ty) (e : Exp)
    (hρ : StoreOk Γ ρ) (ht : t.wf = true)
    (hr : refType Γ e = some s) (hp : peel s = some s')
    (ha : assignable t s' = true) (hn : noHole t s' = true) :
    ∃ v xs, eval Γ ρ e = some v ∧ elems v = some xs ∧
      ∀ x ∈ xs, valid t (filter t x).1 = true :=
  split_ref_sound Γ ρ hρ t ht e s s' hr hp ha hn

example :
    refType (Γ0 .single) (.self kx []) = some (.arr tW) ∧ peel (.arr tW) = some tW ∧
    assignable tA tW = true ∧ noHole tA tW = true ∧
    validBind (Γ0 .single) tA (.split (.self kx [])) = true :=
  ⟨rfl, rfl, by decide, by decide, by decide⟩

/-- An accepted call supplies every declared parameter with exactly the
binding found for it, and that binding is valid for the parameter's type (no
"missing input parameter" at run time); conversely every binding names a
declared parameter. -/
theorem validCall_complete_args (Γ : Env) (params : List (Bytes × Ty)) (binds : List (Bytes × Bind))
    (h : validCall Γ params binds = true) :
    (∀ x t, params.lookup x = some t → ∃ b, binds.lookup x = some b ∧ validBind Γ t b = true) ∧
    (∀ x b, (x, b) ∈ binds → ∃ t, params.lookup x = some t ∧ validBind Γ t b = true) :=
  (validCall_spec h).2

example :
    validCall (Γ0 .single) [(ka, .base .float), (kb, tA)]
      [(kb, .plain (.call cP [ko])), (ka, .plain (.int 1))] = true := by decide

/-! ### 3b. soundness against the run time AS THE CODE DOES IT (`evalT`, `pathVal`) -/

/-- the program of `h1_untyped_map_dest_old_code`: `struct A(int a)`,
`stage PROD(out map<A>[] xs)`, `stage CONS(in map[] ms)`, `call CONS(ms = PROD.xs.a)` -/
private abbrev h1Γ : Env :=
  { self := [], calls := [(cP, { name := cP, mode := .single, src := none, outs := .cons kx (.arr (.tmap tA)) .nil })] }
private abbrev h1ρ : Store :=
  { self := [], calls := [(cP, .obj [(kx, .arr [.obj [(km, .obj [(ka, .num (.int 1))])]])])] }

/-- NEGATIVE WITNESS for `Path` without the untyped-`map` case of `peelMapD`
(`peelMapDOld`: an untyped `map` destination stays in place below a typed map of
the source): the binding is accepted and `holeFree`, the store conforms, and
`pathValG peelMapDOld` fails (every projected int is filtered as a map: "cannot
filter int to map"; program:
corpus/C07/projection_through_typed_map_into_untyped_map_array.mro).  With
`peelMapD` (`evalT`) the same binding delivers `[{"m": 1}]`. -/
theorem h1_untyped_map_dest_old_code :
    let t : Ty := .arr (.base .map)
    let e : Exp := .call cP [kx, ka]
    validExp h1Γ t e = true ∧ holeFree h1Γ t e = true ∧
    refType h1Γ e = some (.arr (.tmap (.base .int))) ∧
    valid (.struct cP (.cons kx (.arr (.tmap tA)) .nil)) (.obj [(kx, .arr [.obj [(km, .obj [(ka, .num (.int 1))])]])]) = true ∧
    pathValG peelMapDOld (some t) (.struct cP (.cons kx (.arr (.tmap tA)) .nil))
      (.obj [(kx, .arr [.obj [(km, .obj [(ka, .num (.int 1))])]])]) [kx, ka] = none ∧
    evalT h1Γ h1ρ t e = some (.arr [.obj [(km, .num (.int 1))]]) :=
  ⟨by decide, by decide, rfl, by decide, rfl, rfl⟩

/-- `LazyArgumentMap.Path` is sound for the binding checker (PARTIAL: `noHole`,
the two C17 holes): for a conforming value of the source type, a non-empty path
whose compile-time type `s` is assignable to the destination type `t`, the walk
with the destination peeled in lock-step SUCCEEDS (no "cannot filter", no
missing key) and delivers a valid value of `t`. -/
theorem path_sound_partial (src : Ty) (v : J) (p : List Bytes) (s t : Ty) (hp : p ≠ [])
    (hv : valid src v = true) (hf : fieldType src p = some s) (ht : t.wf = true)
    (ha : assignable t s = true) (hn : noHole t s = true) :
    ∃ w, pathVal (some t) src v p = some w ∧ valid t w = true := by
  cases p with
  | nil => exact absurd rfl hp
  | cons k p =>
    obtain ⟨w, hw, hs⟩ := pathM_sound src v (k :: p) s t (shape_of_valid src v hv) hf ht ha hn
    exact ⟨w, hw, valid_of_shape _ _ hs⟩

/-- filtering a conforming value to an assignable type reports NO error –
neither fatal nor soft (PARTIAL: `noHole`) -/
theorem filter_no_error_partial (t s : Ty) (v : J) (ht : t.wf = true) (hv : valid s v = true)
    (ha : assignable t s = true) (hn : noHole t s = true) :
    (filter t v).2 = .ok ∧ valid t (filter t v).1 = true :=
  ⟨filter_ok_of_assignable t s v (shape_of_valid s v hv) ha hn,
   valid_of_shape _ _ (shape_filter_of_assignable t ht s v (shape_of_valid s v hv) ha hn)⟩

/-- PARTIAL (hypothesis `holeFree`; the full statement is false: `f9_binding_witness`,
`f10_binding_witness`).  If the compiler accepts `e` for a parameter of type `t`
and every pipeline input / every output of the calls made so far conforms to
its declared type, then the run time – literals element-wise, references through
`Path` with the destination peeled, leaf-wise `FilterJson` – resolves `e` WITHOUT
ERROR to a value that validates cleanly against `t`. -/
theorem validExp_sound_rt_partial (Γ : Env) (ρ : Store) (t : Ty) (e : Exp)
    (hρ : StoreOk Γ ρ) (ht : t.wf = true) (he : e.wf = true)
    (hv : validExp Γ t e = true) (hh : holeFree Γ t e = true) :
    ∃ v, evalT Γ ρ t e = some v ∧ valid t v = true :=
  validExp_sound_rt Γ ρ hρ t ht e he hv hh

/-- non-vacuity: the struct literal with a coercion, a projection through an
array and a reference into a call of the §3 example; and the `h1Γ` binding -/
example :
    let t : Ty := .struct [0x54] (.cons ka (.base .float) (.cons kb (.arr (.arr (.base .file))) (.cons kx tA .nil)))
    let e : Exp := .map true (.cons ka (.int 3) (.cons kb (.self kx [kb]) (.cons kx (.call cP [ko]) .nil)))
    validExp (Γ0 .single) t e = true ∧ holeFree (Γ0 .single) t e = true ∧
    evalT (Γ0 .single) ρ0 t e = some (.obj [(ka, .num (.int 3)), (kb, .arr [.arr [.str kx], .null]),
      (kx, .obj [(ka, .num (.int 1))])]) := ⟨by decide, by decide, rfl⟩

/-- `x = split REF` (PARTIAL: `noHole` between the ELEMENT type of the collection
and `t` – weaker than `noHole` between the whole collection and `t[]` / `map<t>`,
which for a typed map would also ask for legal keys although the keys are not
delivered; `Proofs.TypingRun.refRT_tmap_elems`): the collection is resolved
without error and every element handed to a fork conforms to the parameter type. -/
theorem split_ref_sound_rt_partial (Γ : Env) (ρ : Store) (t : Ty) (e : Exp)
    (hρ : StoreOk Γ ρ) (ht : t.wf = true) (he : ∃ id p, e = .self id p ∨ e = .call id p)
    (hv : validBind Γ t (.split e) = true) (hh : bindHoleFreeT Γ t (.split e) = true) :
    ∃ vs, deliveredT Γ ρ t (.split e) = some vs ∧ ∀ v ∈ vs, valid t v = true :=
  split_ref_sound_rt Γ ρ hρ t ht e he hv hh

example :
    validBind (Γ0 .single) tA (.split (.self kx [])) = true ∧ bindHoleFreeT (Γ0 .single) tA (.split (.self kx [])) = true ∧
    deliveredT (Γ0 .single) ρ0 tA (.split (.self kx [])) = some [.obj [(ka, .num (.int 1))], .null] ∧
    validBind h1Γ (.base .map) (.split (.call cP [kx, ka])) = true ∧
    deliveredT h1Γ h1ρ (.base .map) (.split (.call cP [kx, ka])) = some [.obj [(km, .num (.int 1))]] :=
  ⟨by decide, by decide, rfl, by decide, rfl⟩

/-! ### 3c. what `StoreOk` demands of MAPPED calls -/

/-- stores for an array-called and a map-called producer conform (non-vacuity of
`StoreOk` beyond single calls) -/
theorem sample_store_ok_mapped :
    StoreOk (Γ0 .arr) { self := ρ0.self, calls := [(cP, .arr [.obj [(ko, vW), (km, .obj [])], .null])] } ∧
    StoreOk (Γ0 .map) { self := ρ0.self, calls := [(cP, .obj [(ka, .obj [(ko, vW), (km, .null)])])] } :=
  ⟨storeOk_of_all _ _ (by decide), storeOk_of_all _ _ (by decide)⟩

/-- NEGATIVE WITNESS for "stage outputs conform ⇒ StoreOk" on a MAP-called stage
with a file-typed output: the keys of the merged value come from the split
source (here `"a/b"`, legal in a `map<int>`), every fork's outputs conform to the
stage's declared output struct, and still the merged `map<struct>` is not a
valid value (the key is not a legal file name) – `StoreOk` is strictly more than
the property's premise there; nothing in the compiler enforces it. -/
theorem storeOk_map_call_key_witness :
    let outs : Fields := .cons ko (.base .file) .nil
    let sig : CallSig := { name := cP, mode := .map, src := some (.map none), outs := outs }
    valid sig.struct (.obj [(ko, .str kx)]) = true ∧
    valid (.tmap (.base .int)) (.obj [(kslash, .num (.int 1))]) = true ∧
    valid sig.whole (.obj [(kslash, .obj [(ko, .str kx)])]) = false := by decide

/-! ### definitional unfoldings -/

/-- `ref_iff` for references into calls -/
theorem ref_iff_call (Γ : Env) (t : Ty) (id : Bytes) (p : List Bytes) (s : Ty)
    (hr : refType Γ (.call id p) = some s) :
    validExp Γ t (.call id p) = (shapeOk t s && assignable t s) := by
  simp [validExp_ref Γ t _ ⟨id, p, Or.inr rfl⟩, refOk, hr]

/-! ### 4. the rejection direction: what an accepted literal / reference must look like -/

/-! The theorems under a header `definitional unfoldings` (here and in §2, §3c, §6–§10, §12) are
documentation of the model – "the model accepts iff the model's condition holds" –, not guarantees
about the code.  Their weight is the per-run differential of the model against the real compiler. -/

/-! ### definitional unfoldings -/

/-- string literals are accepted exactly for `string`, `file`, `path` and user file types -/
theorem str_literal_iff (Γ : Env) (t : Ty) (s : Bytes) :
    validExp Γ t (.str s) = true ↔
      t = .base .string ∨ t = .base .file ∨ t = .base .path ∨ ∃ n, t = .user n := by
  cases t with
  | base b => simp [validExp, validBase, or_assoc]
  | _ => simp [validExp]

/-- integer literals exactly for `int` and `float` -/
theorem int_literal_iff (Γ : Env) (t : Ty) (v : Int) :
    validExp Γ t (.int v) = true ↔ t = .base .int ∨ t = .base .float := by
  cases t with
  | base b => simp [validExp, validBase]
  | _ => simp [validExp]

/-- float literals exactly for `float`, and for `int` when the value is integral and fits int64 -/
theorem float_literal_iff (Γ : Env) (t : Ty) (m e : Int) :
    validExp Γ t (.float m e) = true ↔
      t = .base .float ∨ (t = .base .int ∧ floatIsInt64 m e = true) := by
  cases t with
  | base b => simp [validExp, validBase]
  | _ => simp [validExp]

/-- boolean literals exactly for `bool` -/
theorem bool_literal_iff (Γ : Env) (t : Ty) (b : Bool) :
    validExp Γ t (.bool b) = true ↔ t = .base .bool := by
  cases t with
  | base b' => simp [validExp, validBase]
  | _ => simp [validExp]

/-- `null` is accepted for every type -/
theorem null_literal (Γ : Env) (t : Ty) : validExp Γ t .null = true :=
  validExp_null Γ t

/-- an array literal is accepted exactly for array types, element-wise against
the element type (so one dimension too many or too few is rejected, as is an
array literal for a map / struct / scalar) -/
theorem array_literal_iff (Γ : Env) (t : Ty) (xs : Exps) :
    validExp Γ t (.arr xs) = true ↔
      ∃ t', t = .arr t' ∧ ∀ x ∈ xs.toList, validExp Γ t' x = true := by
  cases t with
  | base b => simp [validExp, validBase]
  | arr t' => simp [validExp, List.all_eq_true]
  | _ => simp [validExp]

/-- a map literal `{"k": e, …}` is accepted exactly for: the untyped `map`
(when it contains no reference), a typed map (element-wise, with legal file
names as keys if the map is directory-like), or a struct whose declared
members are all present and valid and which has no other member -/
theorem map_literal_iff (Γ : Env) (t : Ty) (kvs : KVs) :
    validExp Γ t (.map false kvs) = true ↔
      (t = .base .map ∧ kvs.hasRef = false) ∨
      (∃ t', t = .tmap t' ∧ ∀ kv ∈ kvs.toList,
          validExp Γ t' kv.2 = true ∧ (isDirMap t' = true → legalName kv.1 = true)) ∨
      (∃ n fs, t = .struct n fs ∧ validFields Γ fs kvs = true ∧
          (decide (kvs.toList.length > fs.toList.length) &&
            kvs.toList.any (fun kv => (fs.get kv.1).isNone)) = false) := by
  cases t with
  | base b => simp [validExp, validBase]
  | tmap t' =>
    simp only [validExp, List.all_eq_true, Bool.and_eq_true, Bool.or_eq_true, Bool.not_eq_true',
      reduceCtorEq, false_and, Ty.tmap.injEq, exists_eq_left', false_or]
    cases isDirMap t' <;> simp
  | struct n fs =>
    simp only [validExp, Bool.and_eq_true, Bool.not_eq_true', reduceCtorEq, false_and, false_or,
      exists_const, Ty.struct.injEq]
    constructor
    · intro h; exact ⟨n, fs, ⟨rfl, rfl⟩, h⟩
    · rintro ⟨_, _, ⟨rfl, rfl⟩, h⟩; exact h
  | _ => simp [validExp]

/-- a struct literal `{k: e, …}` is accepted for struct types only -/
theorem struct_literal_iff (Γ : Env) (t : Ty) (kvs : KVs) :
    validExp Γ t (.map true kvs) = true ↔
      ∃ n fs, t = .struct n fs ∧ validFields Γ fs kvs = true ∧
          (decide (kvs.toList.length > fs.toList.length) &&
            kvs.toList.any (fun kv => (fs.get kv.1).isNone)) = false := by
  cases t with
  | base b => simp [validExp, validBase]
  | struct n fs =>
    simp only [validExp, Bool.and_eq_true, Bool.not_eq_true', Ty.struct.injEq]
    constructor
    · intro h; exact ⟨n, fs, ⟨rfl, rfl⟩, h⟩
    · rintro ⟨_, _, ⟨rfl, rfl⟩, h⟩; exact h
  | _ => simp [validExp]

/-! ### guarantees (§4 continued) -/

/-- a literal for a struct type that lacks a declared member is rejected -/
theorem struct_missing_field_rejected (Γ : Env) (n : Bytes) (fs : Fields) (b : Bool) (kvs : KVs)
    (k : Bytes) (t : Ty) (hk : (k, t) ∈ fs.toList) (hm : kvs.get k = none) :
    validExp Γ (.struct n fs) (.map b kvs) = false := by
  cases h : validExp Γ (.struct n fs) (.map b kvs) with
  | false => rfl
  | true =>
    simp only [validExp, Bool.and_eq_true] at h
    obtain ⟨e, he, _⟩ := (validFields_iff Γ fs kvs).mp h.1 k t hk
    rw [hm] at he
    cases he

/-- a literal for a struct type with a member that is not declared is rejected -/
theorem struct_extra_field_rejected (Γ : Env) (n : Bytes) (fs : Fields) (b : Bool) (kvs : KVs)
    (hfs : (Ty.struct n fs).wf = true) (kv : Bytes × Exp) (hkv : kv ∈ kvs.toList)
    (hx : fs.get kv.1 = none) :
    validExp Γ (.struct n fs) (.map b kvs) = false := by
  cases h : validExp Γ (.struct n fs) (.map b kvs) with
  | false => rfl
  | true =>
    simp only [validExp, Bool.and_eq_true, Bool.not_eq_true'] at h
    have hwf' := Fields.wf_iff.mp (by simpa [Ty.wf] using hfs)
    obtain ⟨t, ht⟩ := struct_literal_no_extra Γ fs kvs hwf'.1 h.1 h.2 kv hkv
    rw [Fields.get_of_mem hwf'.1 ht] at hx
    cases hx

example :
    validExp (Γ0 .single) tA (.map true (.cons ka (.int 1) (.cons kb (.int 2) .nil))) = false ∧
    validExp (Γ0 .single) tW (.map true (.cons ka (.int 1) .nil)) = false ∧
    validExp (Γ0 .single) tA (.map true (.cons ka (.int 1) .nil)) = true := by decide

/-! ### definitional unfoldings -/

/-- A reference that does not resolve – unknown pipeline input, call that is
not made, non-existent output, non-existent or impossible field projection,
map of map – is rejected for every parameter type, plain or split. -/
theorem unresolved_ref_rejected (Γ : Env) (t : Ty) (e : Exp)
    (he : ∃ id p, e = .self id p ∨ e = .call id p) (hr : refType Γ e = none) :
    validExp Γ t e = false ∧ validBind Γ t (.split e) = false := by
  exact ⟨by simp [validExp_ref Γ t e he, refOk, hr], by simp [validBind_split_ref Γ t e he, hr]⟩

/-! ### guarantees (§4 continued) -/

/-- the instances of the catalogue: unknown input, call not made, no such
output, no such field, projection out of a non-struct, nested map -/
example :
    refType (Γ0 .single) (.self ka []) = none ∧
    refType (Γ0 .single) (.call ka [ko]) = none ∧
    refType (Γ0 .single) (.call cP [kx]) = none ∧
    refType (Γ0 .single) (.call cP [ko, kx]) = none ∧
    refType (Γ0 .single) (.call cP [ko, ka, ka]) = none ∧
    refType (Γ0 .map) (.call cP [km]) = none := ⟨rfl, rfl, rfl, rfl, rfl, rfl⟩

/-! ### definitional unfoldings -/

/-- a reference that resolves is accepted exactly when its type has the shape
the parameter's type class asks for and is assignable (C17's `assignable`) -/
theorem ref_iff (Γ : Env) (t : Ty) (id : Bytes) (p : List Bytes) (s : Ty)
    (hr : refType Γ (.self id p) = some s) :
    validExp Γ t (.self id p) = (shapeOk t s && assignable t s) := by
  simp [validExp_ref Γ t _ ⟨id, p, Or.inl rfl⟩, refOk, hr]

/-- a call with a binding for a name that is not a declared parameter, or
without a binding for a declared parameter, is rejected -/
theorem call_unknown_or_missing_rejected (Γ : Env) (params : List (Bytes × Ty))
    (binds : List (Bytes × Bind)) :
    ((∃ x b, (x, b) ∈ binds ∧ params.lookup x = none) → validCall Γ params binds = false) ∧
    ((∃ x t, params.lookup x = some t ∧ binds.lookup x = none) → validCall Γ params binds = false) := by
  constructor
  · rintro ⟨x, b, hb, hp⟩
    cases h : validCall Γ params binds with
    | false => rfl
    | true =>
      obtain ⟨t, ht, _⟩ := (validCall_spec h).2.2 x b hb
      rw [hp] at ht; cases ht
  · rintro ⟨x, t, hp, hb⟩
    cases h : validCall Γ params binds with
    | false => rfl
    | true =>
      obtain ⟨b, hb', _⟩ := (validCall_spec h).2.1 x t hp
      rw [hb] at hb'; cases hb'

/-! ### guarantees (§4 continued) -/

/-- split sources of one call: arrays with arrays, maps with maps; statically
known lengths must be equal, statically known key sets must be the same -/
theorem split_sources_consistent (a b : SplitShape) :
    (mergeShape a b).isSome = true ↔
      (∃ x y, a = .arr x ∧ b = .arr y ∧ (∀ n m, x = some n → y = some m → n = m)) ∨
      (∃ x y, a = .map x ∧ b = .map y ∧ (∀ k l, x = some k → y = some l → sameKeys k l = true)) := by
  have harr : ∀ x y : Option Nat, (mergeShape (.arr x) (.arr y)).isSome = true ↔
      ∀ n m, x = some n → y = some m → n = m := by
    intro x y; cases x <;> cases y <;> simp [mergeShape]
  have hmap : ∀ x y : Option (List Bytes), (mergeShape (.map x) (.map y)).isSome = true ↔
      ∀ k l, x = some k → y = some l → sameKeys k l = true := by
    intro x y; cases x <;> cases y <;> simp [mergeShape]
  cases a with
  | arr x =>
    cases b with
    | arr y => simp [harr]
    | map y => cases x <;> simp [mergeShape]
  | map x =>
    cases b with
    | arr y => cases x <;> simp [mergeShape]
    | map y => simp [hmap]

example :
    validCall (Γ0 .single) [(ka, .base .int), (kb, .base .int)]
      [(ka, .split (.arr (.cons (.int 1) (.cons (.int 2) .nil)))),
       (kb, .split (.arr (.cons (.int 1) (.cons (.int 2) (.cons (.int 3) .nil)))))] = false ∧
    validCall (Γ0 .single) [(ka, .base .int), (kb, .base .int)]
      [(ka, .split (.arr (.cons (.int 1) (.cons (.int 2) .nil)))),
       (kb, .split (.map false (.cons ka (.int 1) (.cons kb (.int 2) .nil))))] = false ∧
    validCall (Γ0 .single) [(ka, .base .int), (kb, .base .int)]
      [(ka, .split (.arr (.cons (.int 1) (.cons (.int 2) .nil)))),
       (kb, .split (.arr (.cons (.int 3) (.cons .null .nil))))] = true := by decide

/-! ### 5. the rejection direction, summarised: over-strictness is bounded -/

/-- If the compiler rejects `e` for a parameter of type `t`, then EITHER the
expression falls into one of the enumerated over-strict classes (`overStrict`,
a decidable predicate: (R) a rejected reference, (S) a struct-syntax literal
bound to a typed map / the untyped map, (U) a reference inside a literal for
the untyped map, (X) a struct literal with an undeclared extra member – each
met somewhere along the type-directed descent), OR the JSON value `e` denotes
is invalid for `t`, in every store in which `e` evaluates at all. -/
theorem rejected_invalid_or_overstrict (Γ : Env) (ρ : Store) (t : Ty) (e : Exp)
    (hr : validExp Γ t e = false) :
    overStrict Γ t e = true ∨ ∀ v, eval Γ ρ e = some v → valid t v = false := by
  cases ho : overStrict Γ t e with
  | true => exact Or.inl rfl
  | false =>
    refine Or.inr (fun v hev => ?_)
    cases hv : valid t v with
    | false => rfl
    | true =>
      have := validExp_complete Γ ρ t e v ho hev hv
      rw [hr] at this
      cases this

/-- the same as a completeness statement: outside the over-strict classes every
expression whose value validates cleanly is accepted -/
theorem validExp_complete_outside_overstrict (Γ : Env) (ρ : Store) (t : Ty) (e : Exp) (v : J)
    (ho : overStrict Γ t e = false) (hev : eval Γ ρ e = some v) (hv : valid t v = true) :
    validExp Γ t e = true :=
  validExp_complete Γ ρ t e v ho hev hv

/-- non-vacuity of both alternatives, and the classes ARE over-strict: each of
the four is inhabited by a rejected expression whose value validates -/
example :
    -- invalid value: a string for an int
    (validExp (Γ0 .single) (.base .int) (.str kx) = false ∧
      overStrict (Γ0 .single) (.base .int) (.str kx) = false ∧
      valid (.base .int) (.str kx) = false) ∧
    -- (X) extra member: `{a: 1, b: 2}` for `struct A(int a)`; the JSON validates
    (validExp (Γ0 .single) tA (.map true (.cons ka (.int 1) (.cons kb (.int 2) .nil))) = false ∧
      overStrict (Γ0 .single) tA (.map true (.cons ka (.int 1) (.cons kb (.int 2) .nil))) = true ∧
      valid tA (.obj [(ka, .num (.int 1)), (kb, .num (.int 2))]) = true) ∧
    -- (S) struct syntax for a typed map
    (validExp (Γ0 .single) (.tmap (.base .int)) (.map true (.cons ka (.int 1) .nil)) = false ∧
      overStrict (Γ0 .single) (.tmap (.base .int)) (.map true (.cons ka (.int 1) .nil)) = true ∧
      valid (.tmap (.base .int)) (.obj [(ka, .num (.int 1))]) = true) ∧
    -- (U) a reference inside a literal for the untyped map
    (validExp (Γ0 .single) (.base .map) (.map false (.cons ka (.call cP [ko]) .nil)) = false ∧
      overStrict (Γ0 .single) (.base .map) (.map false (.cons ka (.call cP [ko]) .nil)) = true) ∧
    -- (R) a rejected reference: `self.x : W[]` for an int
    (validExp (Γ0 .single) (.base .int) (.self kx []) = false ∧
      overStrict (Γ0 .single) (.base .int) (.self kx []) = true) := by decide

/-! ### 6. wildcard bindings -/

/-! ### definitional unfoldings -/

/-- What `* = self` / `* = REF` stands for: exactly the bindings `m = REF.m`
for the members `m` (pipeline inputs, resp. members of the struct type under
all array / map dimensions of the reference's type) that are parameters of the
callee. -/
theorem wildcard_expansion_iff (Γ : Env) (params : List (Bytes × Ty)) (w : Wild)
    (ex : List (Bytes × Bind)) (h : expandWild Γ params w = some ex) (x : Bytes) (b : Bind) :
    (x, b) ∈ ex ↔ ∃ ms e, wildMembers Γ w = some ms ∧ (x, e) ∈ ms ∧
      (params.lookup x).isSome = true ∧ b = .plain e :=
  mem_expandWild Γ params w ex h x b

/-- the members of `* = REF`: the reference must resolve and the type under
its dimensions must be a struct -/
theorem wildcard_members_ref_iff (Γ : Env) (e : Exp) (ms : List (Bytes × Exp)) :
    wildMembers Γ (.ref e) = some ms ↔
      ∃ t n fs, refType Γ e = some t ∧ stripDims t = .struct n fs ∧
        ms = fs.toList.map (fun m => (m.1, refAppend e m.1)) := by
  simp only [wildMembers]
  cases hr : refType Γ e with
  | none => simp
  | some t =>
    cases hs : stripDims t with
    | struct n fs =>
      constructor
      · intro h
        exact ⟨t, n, fs, rfl, hs, by simpa [hs] using h.symm⟩
      · rintro ⟨_, _, _, h, h', rfl⟩
        cases h
        rw [hs] at h'
        cases h'
        simp [hs]
    | _ => simp [hs]

/-! ### guarantees (§6 continued) -/

/-- a wildcard over something that is not a struct (or does not resolve) is rejected -/
theorem wildcard_not_struct_rejected (Γ : Env) (params : List (Bytes × Ty))
    (binds : List (Bytes × Bind)) (w : Wild) (h : wildMembers Γ w = none) :
    validCallW Γ params binds (some w) = false := by
  simp [validCallW, checkCallW, allBinds, expandWild, h]

/-- An accepted call with a wildcard: the written bindings together with the
expansion bind every declared parameter EXACTLY ONCE (names pairwise distinct),
each with a binding valid for the parameter's type, and bind nothing else. -/
theorem validCallW_complete_args (Γ : Env) (params : List (Bytes × Ty)) (binds : List (Bytes × Bind))
    (w : Option Wild) (h : validCallW Γ params binds w = true) :
    ∃ bs, allBinds Γ params binds w = some bs ∧ (bs.map Prod.fst).Nodup ∧
      (∀ x t, params.lookup x = some t → ∃ b, bs.lookup x = some b ∧ validBind Γ t b = true) ∧
      (∀ x b, (x, b) ∈ bs → ∃ t, params.lookup x = some t ∧ validBind Γ t b = true) := by
  simp only [validCallW, checkCallW] at h
  cases ha : allBinds Γ params binds w with
  | none => simp [ha] at h
  | some bs =>
    simp only [ha] at h
    exact ⟨bs, rfl, validCall_spec (by simpa [validCall] using h)⟩

/-- a parameter bound explicitly AND by the wildcard is rejected (`DuplicateBinding`) -/
theorem wildcard_duplicate_rejected (Γ : Env) (params : List (Bytes × Ty)) (binds : List (Bytes × Bind))
    (w : Wild) (ex : List (Bytes × Bind)) (hex : expandWild Γ params w = some ex)
    (x : Bytes) (b b' : Bind) (h1 : (x, b) ∈ binds) (h2 : (x, b') ∈ ex) :
    validCallW Γ params binds (some w) = false := by
  cases hv : validCallW Γ params binds (some w) with
  | false => rfl
  | true =>
    obtain ⟨bs, hbs, hnd, _, _⟩ := validCallW_complete_args Γ params binds (some w) hv
    simp only [allBinds, hex, Option.some.injEq] at hbs
    subst hbs
    rw [List.map_append, List.nodup_append] at hnd
    exact absurd rfl (hnd.2.2 x (List.mem_map.mpr ⟨(x, b), h1, rfl⟩) x (List.mem_map.mpr ⟨(x, b'), h2, rfl⟩))

/-- a declared parameter that is neither bound explicitly nor a member of the
wildcard's struct is reported missing (`ArgumentNotSuppliedError`) -/
theorem wildcard_missing_member_rejected (Γ : Env) (params : List (Bytes × Ty))
    (binds : List (Bytes × Bind)) (w : Wild) (ms : List (Bytes × Exp))
    (hms : wildMembers Γ w = some ms) (x : Bytes) (t : Ty) (hp : params.lookup x = some t)
    (hb : binds.lookup x = none) (hm : ∀ m ∈ ms, m.1 ≠ x) :
    validCallW Γ params binds (some w) = false := by
  cases hv : validCallW Γ params binds (some w) with
  | false => rfl
  | true =>
    obtain ⟨bs, hbs, _, hall, _⟩ := validCallW_complete_args Γ params binds (some w) hv
    simp only [allBinds, expandWild, hms, Option.some.injEq] at hbs
    subst hbs
    obtain ⟨b, hl, _⟩ := hall x t hp
    rw [List.lookup_append, hb, Option.none_or] at hl
    have : List.lookup x ((ms.filter fun m => (params.lookup m.1).isSome).map fun m => (m.1, Bind.plain m.2)) = none := by
      rw [List.lookup_eq_none_iff]
      intro p hpm
      obtain ⟨m, hmm, rfl⟩ := List.mem_map.mp hpm
      have := hm m (List.mem_filter.mp hmm).1
      simpa using fun h => this h.symm
    rw [this] at hl
    cases hl

/-- `* = self` for a callee whose parameters are the pipeline's inputs, and a
wildcard over a call made in array mode (the members are seen one array
dimension up, and are type-checked as such) -/
example :
    validCallW (Γ0 .single) [(kx, .arr tW), (km, .tmap tW)] [] (some .self) = true ∧
    validCallW (Γ0 .arr) [(ko, .arr tW)] [] (some (.ref (.call cP []))) = true ∧
    validCallW (Γ0 .arr) [(ko, tW)] [] (some (.ref (.call cP []))) = false ∧
    validCallW (Γ0 .single) [(ka, .base .int), (kb, .arr (.base .file))] [] (some (.ref (.call cP [ko]))) = true ∧
    validCallW (Γ0 .single) [(ka, .base .int), (kb, .arr (.base .file))] [(ka, .plain (.int 1))]
      (some (.ref (.call cP [ko]))) = false ∧
    validCallW (Γ0 .single) [(ka, .base .int), (kx, .base .int)] [] (some (.ref (.call cP [ko]))) = false ∧
    wildMembers (Γ0 .single) (.ref (.self kx [kb])) = none := by decide

/-- SOUNDNESS of a whole call (wildcard included), PARTIAL for the same reason
as `validExp_sound_partial` (`bindHoleFree`: C17's `noHole` at every reference
of every binding): in a conforming store every declared parameter receives –
through its one binding, plain, rewritten to `.default`, expanded from the
wildcard, or split – only values that, after the run time's filter, validate
cleanly against the parameter's type. -/
theorem call_sound_partial (Γ : Env) (ρ : Store) (params : List (Bytes × Ty))
    (binds : List (Bytes × Bind)) (w : Option Wild)
    (hρ : StoreOk Γ ρ) (hp : ∀ x t, params.lookup x = some t → t.wf = true)
    (h : validCallW Γ params binds w = true) :
    ∃ bs, allBinds Γ params binds w = some bs ∧
      ∀ x t, params.lookup x = some t → ∃ b, bs.lookup x = some b ∧
        (b.wf = true → bindHoleFree Γ t b = true →
          ∃ vs, delivered Γ ρ t b = some vs ∧ ∀ v ∈ vs, valid t (filter t v).1 = true) := by
  obtain ⟨bs, hbs, _, hall, _⟩ := validCallW_complete_args Γ params binds w h
  refine ⟨bs, hbs, fun x t hx => ?_⟩
  obtain ⟨b, hl, hv⟩ := hall x t hx
  exact ⟨b, hl, fun hw hh => bind_sound Γ ρ hρ t (hp x t hx) b hw hv hh⟩

example :
    let ps : List (Bytes × Ty) := [(ka, .base .float), (kb, .arr (.base .file))]
    validCallW (Γ0 .single) ps [] (some (.ref (.call cP [ko]))) = true ∧
    allBinds (Γ0 .single) ps [] (some (.ref (.call cP [ko]))) =
      some [(ka, .plain (.call cP [ko, ka])), (kb, .plain (.call cP [ko, kb]))] ∧
    bindHoleFree (Γ0 .single) (.base .float) (.plain (.call cP [ko, ka])) = true ∧
    delivered (Γ0 .single) ρ0 (.base .float) (.plain (.call cP [ko, ka])) = some [.num (.int 1)] := by
  refine ⟨by decide, rfl, by decide, rfl⟩

/-! ### 7. modifiers -/

/-! ### definitional unfoldings -/

/-- The exact acceptance condition of `Modifiers.compile`: no modifier twice in
`using`; `disabled` is a valid binding for a `bool` (a reference to a `bool`,
possibly through the `.default` rewrite); a keyword modifier is not repeated in
`using`; `local` / `preflight` / `volatile` (after `using` is folded in) only
on stages; a preflight call has no binding that IS a reference to a call (nor
its wildcard, nor `disabled`) and its callee has no outputs. -/
theorem modsOk_iff (Γ : Env) (callee : Callee) (binds : List (Bytes × Bind)) (w : Option Wild)
    (m : Mods) :
    modsOk Γ callee binds w m = true ↔
      ((m.usings.map ModItem.tag).eraseDups.length = (m.usings.map ModItem.tag).length ∧
       (∀ e, usingDisabled m.usings = some e → validBind Γ (.base .bool) (.plain e) = true) ∧
       (m.kwVolatile && (usingVal 2 m.usings).isSome) = false ∧
       (m.kwLocal && (usingVal 0 m.usings).isSome) = false ∧
       (m.kwPreflight && (usingVal 1 m.usings).isSome) = false ∧
       (!callee.isStage && (effective m.kwLocal (usingVal 0 m.usings) ||
          effective m.kwPreflight (usingVal 1 m.usings) ||
          effective m.kwVolatile (usingVal 2 m.usings))) = false ∧
       (effective m.kwPreflight (usingVal 1 m.usings) &&
          (binds.any (fun ib => bindIsCallRef ib.2) || wildIsCallRef w ||
            (match usingDisabled m.usings with | some e => isCallRef e | none => false))) = false ∧
       (effective m.kwPreflight (usingVal 1 m.usings) && !callee.outs.toList.isEmpty) = false) := by
  simp only [modsOk, List.isEmpty_iff]
  exact modErrs_nil_iff Γ callee binds w m

/-! ### guarantees (§7 continued) -/

/-- SOUNDNESS of `disabled` (FULL strength – `bool` has no assignability hole):
in a conforming store the modifier of an accepted call evaluates, and to a
valid `bool`. -/
theorem disabled_sound (Γ : Env) (ρ : Store) (callee : Callee) (binds : List (Bytes × Bind))
    (w : Option Wild) (m : Mods) (e : Exp) (hρ : StoreOk Γ ρ) (he : e.wf = true)
    (hm : modsOk Γ callee binds w m = true) (hd : usingDisabled m.usings = some e) :
    ∃ v, eval Γ ρ (bindExp Γ (.base .bool) e) = some v ∧
      valid (.base .bool) (filter (.base .bool) v).1 = true := by
  have hv := ((modsOk_iff Γ callee binds w m).mp hm).2.1 e hd
  exact plain_sound Γ ρ hρ (.base .bool) rfl e he hv (holeFree_base Γ .bool _)

/-- PARTIAL.  Intended compile-time statement: "no binding of an accepted
preflight call contains a reference to another call".  FALSE of the compiler –
see `preflight_nested_ref_witness` – and it cannot be made true: the pinned
suite contains such a call.  Proved: what `Modifiers.compile` does enforce – no
binding IS such a reference, and the callee has no outputs.  The run time does
not rely on the intended statement (the stages a preflight stage depends on do
not wait for it; checked in Tier A every run). -/
theorem preflight_isolated_partial (Γ : Env) (callee : Callee) (binds : List (Bytes × Bind))
    (w : Option Wild) (m : Mods) (hm : modsOk Γ callee binds w m = true)
    (hp : effective m.kwPreflight (usingVal 1 m.usings) = true) :
    callee.isStage = true ∧ callee.outs = .nil ∧
      (∀ x id p, (x, Bind.plain (.call id p)) ∉ binds) ∧
      (∀ id p, w ≠ some (.ref (.call id p))) := by
  obtain ⟨_, _, _, _, _, h6, h7, h8⟩ := (modsOk_iff Γ callee binds w m).mp hm
  simp only [hp, Bool.true_and, Bool.or_true, Bool.true_or, Bool.and_true, Bool.not_eq_eq_eq_not,
    Bool.not_false, Bool.or_eq_false_iff, List.any_eq_false] at h6 h7 h8
  refine ⟨by simpa using h6, ?_, ?_, ?_⟩
  · cases ho : callee.outs with
    | nil => rfl
    | cons k t r => simp [ho, Fields.toList] at h8
  · intro x id p hmem
    have := h7.1.1 (x, .plain (.call id p)) hmem
    simp [bindIsCallRef, isCallRef] at this
  · intro id p hw
    have := h7.1.2
    simp [hw, wildIsCallRef, isCallRef] at this

/-- negative witness of the intended compile-time preflight statement: `call
preflight PRE(xs = [PROD.a])` is accepted (the reference sits inside an array
literal).  Replayed on the real code every run: accepted by the compiler, and
the pipestance runs PROD, then PRE, then everything else, to completion (a run
time in which PROD waits for the preflight stage has a prenode cycle there). -/
theorem preflight_nested_ref_witness :
    let prod : CallSig := { name := cP, mode := .single, src := none, outs := .cons ka (.base .int) .nil }
    let Γ : Env := { self := [(ka, .base .int)], calls := [(cP, prod)] }
    let pre : Callee := { name := kx, isStage := true, params := [(kx, .arr (.base .int))], outs := .nil }
    let binds : List (Bytes × Bind) := [(kx, .plain (.arr (.cons (.call cP [ka]) .nil)))]
    let m : Mods := { kwLocal := false, kwPreflight := true, kwVolatile := false, usings := [] }
    modsOk Γ pre binds none m = true ∧ validCallW Γ pre.params binds none = true ∧
      (Exp.arr (.cons (.call cP [ka]) .nil)).hasRef = true := by decide

example :
    let st : Callee := { name := kx, isStage := true, params := [], outs := .nil }
    let pl : Callee := { name := kx, isStage := false, params := [], outs := .nil }
    modsOk (Γ0 .single) st [] none { kwLocal := true, kwPreflight := false, kwVolatile := false, usings := [.vol true] } = true ∧
    modErrs (Γ0 .single) st [] none { kwLocal := true, kwPreflight := false, kwVolatile := false, usings := [.loc false] } = [.conflict] ∧
    modErrs (Γ0 .single) pl [] none { kwLocal := false, kwPreflight := false, kwVolatile := true, usings := [] } = [.unsupported] ∧
    modErrs (Γ0 .single) st [(ka, .plain (.call cP [ko]))] none { kwLocal := false, kwPreflight := false, kwVolatile := false, usings := [.pre true] } = [.preBinding] ∧
    modErrs (Γ0 .single) st [] none { kwLocal := false, kwPreflight := false, kwVolatile := false, usings := [.dis (.call cP [ko])] } = [.type] := by decide

/-! ### 8. retain lists -/

/-! ### definitional unfoldings -/

/-- a stage's `retain (…)`: every name is an out parameter whose type is not `KindIsNotFile` -/
theorem stageRetain_iff (outs : Fields) (ids : List Bytes) :
    stageRetainOk outs ids = true ↔ ∀ id ∈ ids, ∃ t, outs.get id = some t ∧ fileKind t ≠ .notFile := by
  simp only [stageRetainOk, List.all_eq_true]
  exact forall₂_congr fun id _ => retainable_opt_iff _

/-- a pipeline's `retain (…)`: every reference resolves, to a type that is not `KindIsNotFile` -/
theorem pipeRetain_iff (Γ : Env) (refs : List Exp) :
    pipeRetainOk Γ refs = true ↔ ∀ e ∈ refs, ∃ t, refType Γ e = some t ∧ fileKind t ≠ .notFile := by
  simp only [pipeRetainOk, List.all_eq_true]
  exact forall₂_congr fun e _ => retainable_opt_iff _

/-! ### guarantees (§8 continued) -/

example :
    pipeRetainOk (Γ0 .single) [.call cP [ko, kb], .call cP [ko], .self kx []] = true ∧
    pipeRetainOk (Γ0 .single) [.call cP [ko, ka]] = false ∧
    pipeRetainOk (Γ0 .single) [.call cP [kx]] = false ∧
    stageRetainOk (.cons ko tW (.cons km (.tmap (.base .int)) .nil)) [ko, ko] = true ∧
    stageRetainOk (.cons ko tW (.cons km (.tmap (.base .int)) .nil)) [km] = false := by decide

/-! ### 9. pipelines: calls in dependency order, return bindings, nesting -/

/-! ### definitional unfoldings -/

/-- one step of `Pipeline.compile`: the call's name is new, its modifiers and
bindings are accepted in the environment of the calls before it, and the rest is
checked with the call added under the mode its split bindings give it -/
theorem checkCalls_cons_iff (Γ Γ' : Env) (c : CallStm) (r : List CallStm) :
    checkCalls Γ (c :: r) = some Γ' ↔
      Γ.calls.lookup c.id = none ∧ ∃ sh, modsOk Γ c.callee c.binds c.wild c.mods = true ∧
        checkCallW Γ c.callee.params c.binds c.wild = some sh ∧
        checkCalls { Γ with calls := Γ.calls ++ [(c.id, c.sig sh)] } r = some Γ' := by
  simp only [checkCalls, checkStm]
  cases hl : Γ.calls.lookup c.id with
  | some s => simp
  | none =>
    simp only [Option.isSome_none, Bool.false_eq_true, if_false, true_and]
    cases hm : modsOk Γ c.callee c.binds c.wild c.mods with
    | false => simp
    | true =>
      simp only [if_true, true_and]
      cases hc : checkCallW Γ c.callee.params c.binds c.wild <;> simp

/-- MAP-CALL DIMENSIONS THROUGH NESTING: once a call `c` (of a stage or of a
nested pipeline – only its declared outputs matter) has been accepted with
split shape `sh`, every later binding, return binding and retain entry sees its
output `o : t` as `t` / `t[]` / `map<t>` according to the shape (`map<…>` only
when `t` contains no map). -/
theorem nested_call_output_type (Γ : Env) (c : CallStm) (sh : Option SplitShape) (o : Bytes) (t : Ty)
    (hnew : Γ.calls.lookup c.id = none) (ho : c.callee.outs.get o = some t) :
    refType { Γ with calls := Γ.calls ++ [(c.id, c.sig sh)] } (.call c.id [o]) =
      match sh with
      | none => some t
      | some (.arr _) => some (.arr t)
      | some (.map _) => if (dims t).2 = 0 then some (.tmap t) else none := by
  have hl : List.lookup c.id (Γ.calls ++ [(c.id, c.sig sh)]) = some (c.sig sh) := by
    rw [List.lookup_append, hnew]; simp [List.lookup]
  rw [mapcall_dim _ c.id o (c.sig sh) t hl (by simpa [CallStm.sig] using ho)]
  cases sh with
  | none => rfl
  | some s => cases s <;> rfl

/-- exact acceptance condition of a pipeline -/
theorem validPipeline_iff (p : Pipeline) :
    validPipeline p = true ↔
      ∃ Γ, checkCalls { self := p.ins, calls := [] } p.calls = some Γ ∧
        validCallW Γ p.outs.toList p.ret p.retWild = true ∧ pipeRetainOk Γ p.retain = true := by
  simp only [validPipeline, checkPipeline, checkReturn]
  cases hc : checkCalls { self := p.ins, calls := [] } p.calls with
  | none => simp
  | some Γ =>
    cases hr : validCallW Γ p.outs.toList p.ret p.retWild <;>
      cases ht : pipeRetainOk Γ p.retain <;> simp [hr, ht]

/-! ### guarantees (§9 continued) -/

/-- RETURN BINDINGS: each declared output of an accepted pipeline is bound
exactly once, by a binding valid for its type, and nothing else is bound. -/
theorem return_complete (Γ : Env) (outs : Fields) (ret : List (Bytes × Bind)) (w : Option Wild)
    (h : checkReturn Γ outs ret w = true) :
    ∃ bs, allBinds Γ outs.toList ret w = some bs ∧ (bs.map Prod.fst).Nodup ∧
      (∀ x t, outs.toList.lookup x = some t → ∃ b, bs.lookup x = some b ∧ validBind Γ t b = true) ∧
      (∀ x b, (x, b) ∈ bs → ∃ t, outs.toList.lookup x = some t ∧ validBind Γ t b = true) :=
  validCallW_complete_args Γ outs.toList ret w h

/-- SOUNDNESS ACROSS NESTING (PARTIAL: `holeFree` at every return binding, as
in `validExp_sound_partial`).  If the values of the pipeline's inputs and of
the calls inside it conform (`StoreOk`), then the struct of outputs an accepted
pipeline delivers – every declared output with the filtered value of its return
binding – is a valid value of the pipeline's output struct type: the hypothesis
`StoreOk` made about a call in the enclosing pipeline is DISCHARGED for calls of
pipelines.  (Return bindings are plain: the grammar has no `split` there.) -/
theorem return_sound_partial (Γ : Env) (ρ : Store) (name : Bytes) (outs : Fields)
    (ret : List (Bytes × Bind)) (w : Option Wild)
    (hρ : StoreOk Γ ρ) (hwf : (Ty.struct name outs).wf = true)
    (h : checkReturn Γ outs ret w = true) :
    ∃ bs, allBinds Γ outs.toList ret w = some bs ∧
      ((∀ x e, (x, Bind.plain e) ∈ bs → e.wf = true) →
       (∀ x b, (x, b) ∈ bs → ∃ e, b = .plain e) →
       (∀ x t e, (x, t) ∈ outs.toList → bs.lookup x = some (.plain e) → holeFree Γ t (bindExp Γ t e) = true) →
        ∃ vs, retValue Γ ρ bs outs = some vs ∧ valid (.struct name outs) (.obj vs) = true) := by
  obtain ⟨bs, hbs, _, hall, _⟩ := return_complete Γ outs ret w h
  refine ⟨bs, hbs, fun hew hplain hhf => ?_⟩
  have hwf' := Fields.wf_iff.mp (by simpa [Ty.wf] using hwf)
  obtain ⟨vs, hvs, hkeys, hvals⟩ := retValue_sound Γ ρ hρ bs outs (by
    intro k t hkt
    obtain ⟨b, hl, hv⟩ := hall k t (lookup_of_mem_nodup hwf'.1 hkt)
    obtain ⟨e, rfl⟩ := hplain k b (Proofs.ListFacts.mem_of_lookup hl)
    exact ⟨hwf'.2 k t hkt, e, hl, hew k e (Proofs.ListFacts.mem_of_lookup hl), hv, hhf k t e hkt hl⟩)
  exact ⟨vs, hvs, valid_struct_of_members hwf hkeys hvals⟩

/-- a conforming store stays conforming when an accepted call is added with a
value that is valid for the (lifted) struct of its outputs – the induction step
over the calls of a pipeline -/
theorem storeOk_extend (Γ : Env) (ρ : Store) (id : Bytes) (sig : CallSig) (v : J)
    (hρ : StoreOk Γ ρ) (hnew : Γ.calls.lookup id = none) (hnew' : ρ.calls.lookup id = none)
    (hv : valid sig.whole v = true) :
    StoreOk { Γ with calls := Γ.calls ++ [(id, sig)] } { ρ with calls := ρ.calls ++ [(id, v)] } :=
  StoreOk.extend Γ ρ id sig v hρ hnew hnew' hv

/-- a nested pipeline, map-called over a literal array: the inner pipeline
returns `o = P.o` (`W`), the outer one sees `INNER.o : W[]` and can return
`INNER.o.b : file[][]` -/
example :
    let stP : Callee := { name := cP, isStage := true, params := [], outs := .cons ko tW .nil }
    let inner : Pipeline := { name := kx, ins := [(ka, .base .int)], outs := .cons ko tW .nil, calls := [{ id := cP, callee := stP, binds := [], wild := none, mods := noMods }], ret := [(ko, .plain (.call cP [ko]))], retWild := none, retain := [.call cP [ko, kb]] }
    let outer : Pipeline := { name := km, ins := [], outs := .cons kb (.arr (.arr (.base .file))) .nil, calls := [{ id := kx, callee := inner.callee, binds := [(ka, .split (.arr (.cons (.int 1) (.cons (.int 2) .nil))))], wild := none, mods := noMods }], ret := [(kb, .plain (.call kx [ko, kb]))], retWild := none, retain := [] }
    validPipeline inner = true ∧ validPipeline outer = true := by decide

/-! ### 10. unused inputs and the top-level call statement -/

/-! ### definitional unfoldings -/

/-- with the `UnusedInputError` check: accepted exactly when accepted without
it and every input is used by some call binding, modifier or return binding -/
theorem validPipelineU_iff (p : Pipeline) :
    validPipelineU p = true ↔ validPipeline p = true ∧ unusedInputs p = [] := by
  simp only [validPipelineU, checkPipelineU, validPipeline, checkPipeline]
  cases hc : checkCalls { self := p.ins, calls := [] } p.calls with
  | none => simp
  | some Γ =>
    cases hu : unusedInputs p with
    | nil =>
      cases hr : checkReturn Γ p.outs p.ret p.retWild <;>
        cases ht : pipeRetainOk Γ p.retain <;> simp [hr, ht]
    | cons a r =>
      cases hr : checkReturn Γ p.outs p.ret p.retWild <;> simp [hr]

/-- an input is reported unused exactly when it is declared and no binding of a
call, no `disabled` modifier and no return binding refers to it (at any depth of
a literal, under `split`, or through the expansion of a wildcard) -/
theorem unused_input_iff (p : Pipeline) (x : Bytes) :
    x ∈ unusedInputs p ↔ x ∈ p.ins.map Prod.fst ∧ x ∉ usedInputs p := by
  simp [unusedInputs, List.mem_filter]

/-! ### guarantees (§10 continued) -/

/-- a reference `self.x…` anywhere inside a written binding of a call uses `x`
(with or without a wildcard after the written bindings) -/
theorem binding_uses_input (p : Pipeline) (c : CallStm) (k : Bytes) (b : Bind) (x : Bytes)
    (hc : c ∈ p.calls) (hb : (k, b) ∈ c.binds) (hx : x ∈ b.selfIds) :
    x ∈ usedInputs p := by
  simp only [usedInputs, List.mem_append, List.mem_flatMap]
  refine Or.inl ⟨c, hc, Or.inl ?_⟩
  simp only [usedByBinds, List.mem_append, List.mem_flatMap]
  refine Or.inl ⟨(k, b), ?_, hx⟩
  cases hw : c.wild with
  | none => simpa [allBinds] using hb
  | some w =>
    simp only [allBinds]
    cases expandWild { self := p.ins, calls := [] } c.callee.params w with
    | none => simpa using hb
    | some ex => simpa using Or.inl hb

example :
    let st : Callee := { name := cP, isStage := true, params := [(ka, .base .int)], outs := .nil }
    let mk (e : Exp) : Pipeline := { name := kx, ins := [(ka, .base .int), (kb, .base .int)], outs := .nil, calls := [{ id := cP, callee := st, binds := [(ka, .plain e)], wild := none, mods := noMods }], ret := [], retWild := none, retain := [] }
    unusedInputs (mk (.self ka [])) = [kb] ∧ validPipeline (mk (.self ka [])) = true ∧
      validPipelineU (mk (.self ka [])) = false := by decide

/-! ### definitional unfoldings -/

/-- exact acceptance condition of a top-level `call` statement -/
theorem validTop_iff (c : CallStm) :
    validTop c = true ↔
      c.wild = none ∧ modsOk emptyEnv c.callee c.binds none c.mods = true ∧
      (c.mods.usings ≠ [] → usingDisabled c.mods.usings = none ∧
        effective c.mods.kwPreflight (usingVal 1 c.mods.usings) = false) ∧
      validCall emptyEnv c.callee.params c.binds = true := by
  simp only [validTop, checkTop, validCall]
  by_cases hc : (c.wild.isNone && modsOk emptyEnv c.callee c.binds none c.mods &&
      (c.mods.usings.isEmpty ||
        ((usingDisabled c.mods.usings).isNone &&
          !effective c.mods.kwPreflight (usingVal 1 c.mods.usings)))) = true
  · rw [if_pos hc]
    simp only [Bool.and_eq_true, Bool.or_eq_true, Option.isNone_iff_eq_none, List.isEmpty_iff,
      Bool.not_eq_true'] at hc
    exact ⟨fun h => ⟨hc.1.1, hc.1.2, fun hne => hc.2.resolve_left hne, h⟩, fun h => h.2.2.2⟩
  · rw [if_neg hc]
    simp only [Bool.and_eq_true, Bool.or_eq_true, Option.isNone_iff_eq_none, List.isEmpty_iff,
      Bool.not_eq_true'] at hc
    refine ⟨fun h => (by cases h), fun h => (hc ⟨⟨h.1, h.2.1⟩, ?_⟩).elim⟩
    by_cases hu : c.mods.usings = []
    · exact Or.inl hu
    · exact Or.inr (h.2.2.1 hu)

/-! ### guarantees (§10 continued) -/

/-- outside a pipeline nothing resolves: a top-level call with a binding that is
a reference (plain or split) is rejected -/
theorem top_reference_rejected (c : CallStm) (x : Bytes) (e : Exp)
    (he : ∃ id p, e = .self id p ∨ e = .call id p)
    (hb : (x, Bind.plain e) ∈ c.binds ∨ (x, Bind.split e) ∈ c.binds) : validTop c = false := by
  cases hv : validTop c with
  | false => rfl
  | true =>
    have hc := ((validTop_iff c).mp hv).2.2.2
    have hrej := fun t => unresolved_ref_rejected emptyEnv t e he (refType_emptyEnv e)
    rcases hb with hb | hb
    · obtain ⟨t, _, hvb⟩ := (validCall_spec hc).2.2 x _ hb
      rcases validBind_plain_cases hvb with ⟨_, h⟩ | ⟨id, s, _, hr, _⟩
      · rw [(hrej t).1] at h; cases h
      · rw [refType_emptyEnv] at hr; cases hr
    · obtain ⟨t, _, hvb⟩ := (validCall_spec hc).2.2 x _ hb
      rw [(hrej t).2] at hvb; cases hvb

/-- SOUNDNESS of the top-level call, FULL strength: no store and no hole
hypothesis – every parameter of the called pipeline receives, through its one
binding, only values that validate against its declared type. -/
theorem top_call_sound (c : CallStm) (ρ : Store)
    (hp : ∀ x t, c.callee.params.lookup x = some t → t.wf = true) (h : validTop c = true) :
    ∀ x t, c.callee.params.lookup x = some t → ∃ b, c.binds.lookup x = some b ∧
      (b.wf = true → ∃ vs, delivered emptyEnv ρ t b = some vs ∧ ∀ v ∈ vs, valid t (filter t v).1 = true) := by
  have hc := ((validTop_iff c).mp h).2.2.2
  obtain ⟨bs, hbs, hall⟩ := call_sound_partial emptyEnv ρ c.callee.params c.binds none (storeOk_emptyEnv ρ) hp
    (by simpa [validCallW, checkCallW, allBinds, validCall] using hc)
  simp only [allBinds, Option.some.injEq] at hbs
  subst hbs
  intro x t hx
  obtain ⟨b, hl, hd⟩ := hall x t hx
  exact ⟨b, hl, fun hw => hd hw (bindHoleFree_emptyEnv t b)⟩

example :
    let pl : Callee := { name := cP, isStage := false, params := [(ka, .base .float), (kb, tA)], outs := .nil }
    let c (e : Exp) : CallStm := { id := cP, callee := pl, binds := [(ka, .plain (.int 1)), (kb, .plain e)], wild := none, mods := noMods }
    validTop (c (.map false (.cons ka (.int 2) .nil))) = true ∧ validTop (c (.self kx [])) = false ∧
      validTop { c .null with mods := { noMods with usings := [.pre true] } } = false ∧
      validTop { c .null with wild := some .self } = false := by decide

/-! ### 11. calls and return statements against the run time as the code does it -/

/-- SOUNDNESS of a whole call against the run time (wildcard included; PARTIAL:
`bindHoleFreeT`): every declared parameter receives, through its one binding,
only values that the run time resolves without error and that validate cleanly
against the parameter's type. -/
theorem call_sound_rt_partial (Γ : Env) (ρ : Store) (params : List (Bytes × Ty))
    (binds : List (Bytes × Bind)) (w : Option Wild)
    (hρ : StoreOk Γ ρ) (hp : ∀ x t, params.lookup x = some t → t.wf = true)
    (h : validCallW Γ params binds w = true) :
    ∃ bs, allBinds Γ params binds w = some bs ∧
      ∀ x t, params.lookup x = some t → ∃ b, bs.lookup x = some b ∧
        (b.wf = true → bindHoleFreeT Γ t b = true →
          ∃ vs, deliveredT Γ ρ t b = some vs ∧ ∀ v ∈ vs, valid t v = true) := by
  obtain ⟨bs, hbs, _, hall, _⟩ := validCallW_complete_args Γ params binds w h
  refine ⟨bs, hbs, fun x t hx => ?_⟩
  obtain ⟨b, hl, hv⟩ := hall x t hx
  exact ⟨b, hl, fun hw hh => bind_sound_rt Γ ρ hρ t (hp x t hx) b hw hv hh⟩

example :
    let ps : List (Bytes × Ty) := [(ka, .base .float), (kb, .arr (.base .file))]
    validCallW (Γ0 .single) ps [] (some (.ref (.call cP [ko]))) = true ∧
    bindHoleFreeT (Γ0 .single) (.base .float) (.plain (.call cP [ko, ka])) = true ∧
    deliveredT (Γ0 .single) ρ0 (.base .float) (.plain (.call cP [ko, ka])) = some [.num (.int 1)] := by
  refine ⟨by decide, by decide, rfl⟩

/-- RETURN BINDINGS against the run time (PARTIAL: `holeFree` at every return
binding).  If the values of the pipeline's inputs and of the calls inside it
conform, the struct of outputs an accepted pipeline delivers – every declared
output resolved at its declared type – is produced without error and is a valid
value of the pipeline's output struct type.  This is ONE invocation of the
pipeline; that the environments `checkCalls` builds are conforming stores for
every call of every nesting level is the content of `program_sound_partial` (§12),
not of this theorem. -/
theorem return_sound_rt_partial (Γ : Env) (ρ : Store) (name : Bytes) (outs : Fields)
    (ret : List (Bytes × Bind)) (w : Option Wild)
    (hρ : StoreOk Γ ρ) (hwf : (Ty.struct name outs).wf = true)
    (h : checkReturn Γ outs ret w = true) :
    ∃ bs, allBinds Γ outs.toList ret w = some bs ∧
      ((∀ x e, (x, Bind.plain e) ∈ bs → e.wf = true) →
       (∀ x b, (x, b) ∈ bs → ∃ e, b = .plain e) →
       (∀ x t e, (x, t) ∈ outs.toList → bs.lookup x = some (.plain e) → holeFree Γ t (bindExp Γ t e) = true) →
        ∃ vs, retValueT Γ ρ bs outs = some vs ∧ valid (.struct name outs) (.obj vs) = true) := by
  obtain ⟨bs, hbs, _, hall, _⟩ := return_complete Γ outs ret w h
  refine ⟨bs, hbs, fun hew hplain hhf => ?_⟩
  have hwf' := Fields.wf_iff.mp (by simpa [Ty.wf] using hwf)
  obtain ⟨vs, hvs, hkeys, hvals⟩ := retValueT_sound Γ ρ hρ bs outs (by
    intro k t hkt
    obtain ⟨b, hl, hv⟩ := hall k t (lookup_of_mem_nodup hwf'.1 hkt)
    obtain ⟨e, rfl⟩ := hplain k b (Proofs.ListFacts.mem_of_lookup hl)
    exact ⟨hwf'.2 k t hkt, e, hl, hew k e (Proofs.ListFacts.mem_of_lookup hl), hv, hhf k t e hkt hl⟩)
  exact ⟨vs, hvs, valid_struct_of_members hwf hkeys hvals⟩

/-- non-vacuity of `return_sound_rt_partial`: a pipeline returning `r = P.o.b`
(`file[]`) and `a = P.o` narrowed to `struct A(int a)` from the sample store -/
example :
    let outs : Fields := .cons kb (.arr (.base .file)) (.cons ka tA .nil)
    let ret : List (Bytes × Bind) := [(kb, .plain (.call cP [ko, kb])), (ka, .plain (.call cP [ko]))]
    checkReturn (Γ0 .single) outs ret none = true ∧ (Ty.struct kx outs).wf = true ∧
    retValueT (Γ0 .single) ρ0 ret outs = some [(kb, .arr [.str kx]), (ka, .obj [(ka, .num (.int 1))])] ∧
    valid (.struct kx outs) (.obj [(kb, .arr [.str kx]), (ka, .obj [(ka, .num (.int 1))])]) = true :=
  ⟨by decide, by decide, rfl, by decide⟩

/-! ### 12. THE HEADLINE AS ONE THEOREM: whole programs -/

/-- PARTIAL (hypotheses inside `progOk`, all decidable and evaluated on every
accepted generated program by driver op `C07.prog`:
  * `noHole` at every reference – the C17 holes F9 / F10; for a `split`
    reference only between the ELEMENT types (`bindHoleFreeT`: the keys of a typed
    map that is split over are not delivered, their legality is not needed);
  * a MAP call of a callable with file-typed outputs (the fork keys become keys of
    a `map<struct with files>` and must be legal file names) has
    STATICALLY KNOWN LEGAL KEYS: every split argument is a map literal with
    legal keys (`staticLegalKeys`; lemma `fork_keys_static`). Map calls over
    run-time maps of callables without file-typed outputs carry no condition;
  * NO REFERENCE IS COMPOSED INTO AN UNTYPED MAP (`umapPipe`, §13): at every
    position of type untyped `map` of a destination the bound expression is
    reference-free, or a bare reference whose COMPOSED form is still a reference
    or a run-time merge: an output of a stage, an output of a nested pipeline
    whose return binding is one (recursively), an input of the top pipeline, an
    input of a nested pipeline that every call binds that way; map-mode calls only
    with keys that are run-time values in every call.  This stands in for what
    the model does NOT model: `MakePipelineCallGraph` composes bindings across
    pipeline boundaries and refuses references inside untyped maps
    (F-C07-UMAP); its adequacy is tied per run (every real refusal of a generated
    program must have `progOk = false`).)

For every program `P` (pipeline definitions) with top-level call `top` that the
compiler's rules accept – `validTop`, `validPipelineU` of every definition,
every call of every body accepted in the environment of the calls before it
(`progOk`) – and whose call graph below `top` is at most `n` deep (`fits`):

IF every invocation of every STAGE the program calls returns outputs that
conform to the stage's declared output types (`OracleOk` – the only assumption
about the outside world),

THEN the CHECKED run of the whole program DOES NOT FAIL (`Res.fail`): `run`
evaluates the `disabled` modifier of every call (`disabledRT`; a disabled call is
NOT invoked and delivers null outputs – `disabled_call_delivers_null`), resolves
every binding of every enabled call of every pipeline, in every fork of every
mapped call, at every nesting level, with the faithful run-time model
(`deliveredT` = `Path` with the destination peeled, leaf-wise `FilterJson`;
literals element-wise), FAILS if a resolution fails or if a delivered value
does not validate against the declared type of the parameter it is bound to
(`argLists`), resolves every pipeline's return bindings at the declared output
types – and EITHER the top-level outputs are a valid value of the declared
output struct (`t`, `t[]` or `map<t>` for a mapped top-level call), OR the run
stopped where the real run time stops BY DESIGN: at a call whose `disabled`
modifier resolved to NULL (`Res.nullDisabled`; `Fork.disabled`: "disabled is
bound to a null value, which is not permitted").  The theorem is WEAKER than
"no run-time error" by exactly this disjunct.  A null control has three sources:
(a) a stage returns null for the `bool` output that feeds the control, or a
top-level input is null – null conforms to `bool` as to every type, so no static
check and no assumption on the stages excludes it (`disabled_null_witness`); (b)
the control is fed by a call of the same body that is itself disabled (its outputs
are null although NO stage returned null) – excluded by the hypothesis `ctlPipe`
of `progOk` (the real code refuses such a program when it
is invoked: `disabled_fed_by_disabled_witness`); (c) the control is fed by an
output of a nested pipeline whose producing call is disabled – NOT excluded.
Programs without `disabled` modifiers never stop
(`program_sound_no_disabled_partial`).

Proof: induction over the calls of a body in dependency order
(`stepCall_sound`, `runCalls_sound`: the store invariant `StoreOk` is
established call by call, not assumed) inside an induction over the nesting
depth (`run_sound`). -/
theorem program_sound_partial (P : Prog) (O : Oracle) (top : CallStm) (n : Nat)
    (hO : OracleOk P top O) (hP : progOk P top = true) (hn : fits P n top.callee = true) :
    ∃ sh, checkStm emptyEnv top = some sh ∧
      (runProgram P O n top = .nullDisabled ∨
       ∃ out, runProgram P O n top =
          .ok ({ self := [], calls := [(top.id, top.sig sh)] }, { self := [], calls := [(top.id, out)] }) ∧
        valid (top.sig sh).whole out = true) :=
  runProgram_sound P O top n hO hP hn

/-- THE SAME WITH THE REFUSAL AS AN OUTCOME: for every program that
satisfies the hypotheses WITHOUT the one about composed bindings (`progOkCore`),
handing it to the run time has exactly three possible outcomes – it is refused
when it is invoked (by design: a reference inside an untyped map), or the run
stops at a null `disabled` value (by design), or it runs to the end and the
top-level outputs are valid.  It never fails otherwise.  (`refusedAtInvoke` is
decided by `umapPipe`, see `Outcome`.) -/
theorem program_outcomes_partial (P : Prog) (O : Oracle) (top : CallStm) (n : Nat)
    (hO : OracleOk P top O) (hP : progOkCore P top = true) (hn : fits P n top.callee = true) :
    invokeAndRun P O n top = .refusedAtInvoke ∨
    invokeAndRun P O n top = .ran .nullDisabled ∨
    ∃ sh out, checkStm emptyEnv top = some sh ∧
      invokeAndRun P O n top =
        .ran (.ok ({ self := [], calls := [(top.id, top.sig sh)] }, { self := [], calls := [(top.id, out)] })) ∧
      valid (top.sig sh).whole out = true := by
  by_cases hu : (P.pipes.all fun p => umapPipe P top.callee.name p) = true
  · have hfull : progOk P top = true := by
      simp only [progOk, progOkCore, Bool.and_eq_true] at hP ⊢
      exact ⟨⟨hP.1, hu⟩, hP.2⟩
    obtain ⟨sh, hchk, h⟩ := runProgram_sound P O top n hO hfull hn
    rcases h with hnd | ⟨out, hr, hv⟩
    · exact Or.inr (Or.inl (by simp [invokeAndRun, hu, hnd]))
    · exact Or.inr (Or.inr ⟨sh, out, hchk, by simp [invokeAndRun, hu, hr], hv⟩)
  · exact Or.inl (by simp [invokeAndRun, hu])

/-- for programs without `disabled` modifiers (`noDisabled`, decidable) the
`nullDisabled` alternative does not occur: the checked run SUCCEEDS and the
top-level outputs conform (same PARTIAL hypotheses as `program_sound_partial`) -/
theorem program_sound_no_disabled_partial (P : Prog) (O : Oracle) (top : CallStm) (n : Nat)
    (hO : OracleOk P top O) (hP : progOk P top = true) (hn : fits P n top.callee = true)
    (hd : noDisabled P top = true) :
    ∃ sh out, checkStm emptyEnv top = some sh ∧
      runProgram P O n top =
        .ok ({ self := [], calls := [(top.id, top.sig sh)] }, { self := [], calls := [(top.id, out)] }) ∧
      valid (top.sig sh).whole out = true := by
  obtain ⟨sh, hchk, h⟩ := runProgram_sound P O top n hO hP hn
  rcases h with hnd | ⟨out, hr, hv⟩
  · simp only [noDisabled, Bool.and_eq_true, List.all_eq_true, Option.isNone_iff_eq_none] at hd
    exact absurd hnd (stepCall_nd _ _ _ top hd.1 (run_nd P O hd.2 n top.callee))
  · exact ⟨sh, out, hchk, hr, hv⟩

/-- the `disabled` modifier of an accepted call never FAILS to evaluate at run
time: it resolves to a boolean – or to null, where the run time stops by design.
Part of `program_sound_partial`. -/
theorem disabled_evaluates (Γ : Env) (ρ : Store) (hρ : StoreOk Γ ρ) (c : CallStm) (sh : Option SplitShape)
    (hchk : checkStm Γ c = some sh)
    (hw : ∀ e, usingDisabled c.mods.usings = some e → e.wf = true) :
    disabledRT Γ ρ c.mods = .nullDisabled ∨ ∃ b, disabledRT Γ ρ c.mods = .ok b := by
  have hm : modsOk Γ c.callee c.binds c.wild c.mods = true := by
    by_cases hm : modsOk Γ c.callee c.binds c.wild c.mods = true
    · exact hm
    · simp [checkStm, hm] at hchk
  exact disabledRT_sound Γ ρ hρ c.callee c.binds c.wild c.mods hm hw

/-! ### definitional unfoldings -/

/-- a disabled call is not invoked (the runner `rc` does not occur on the right)
and its outputs are null – whatever the bindings of the call are -/
theorem disabled_call_delivers_null (rc : Runner) (Γ : Env) (ρ : Store) (c : CallStm) (sh : Option SplitShape)
    (bs : List (Bytes × Bind)) (hchk : checkStm Γ c = some sh)
    (hab : allBinds Γ c.callee.params c.binds c.wild = some bs) (hd : disabledRT Γ ρ c.mods = .ok true) :
    stepCall rc Γ ρ c =
      .ok ({ Γ with calls := Γ.calls ++ [(c.id, c.sig sh)] }, { ρ with calls := ρ.calls ++ [(c.id, .null)] }) := by
  simp [stepCall, hchk, hab, hd]

/-! ### guarantees (§12 continued) -/

/-- the static shape of a map call and its run-time fork keys: if every
split argument of the call is a map literal with `n` legal keys
(`staticLegalKeys`), then the key of every fork the run creates (`splitKeys`,
`nforks` of the evaluated argument lists) is a legal file name -/
theorem fork_keys_static (Γ : Env) (ρ : Store) (bs : List (Bytes × Bind)) (n : Nat)
    (params : List (Bytes × Ty)) (args : List (Bytes × Bool × List J))
    (hk : staticLegalKeys n params bs = true) (ha : argLists Γ ρ bs params = some args) :
    ∀ i, i < nforks args → legalName ((splitKeys Γ ρ params bs).getD i []) = true :=
  fork_keys_legal Γ ρ bs n params args hk ha

/-! ### definitional unfoldings -/

/-- what "the checked run succeeds" means for one call: every value in the
argument lists has been validated against its parameter's declared type
(documentation of `argLists`) -/
theorem argLists_checked (Γ : Env) (ρ : Store) (bs : List (Bytes × Bind)) :
    ∀ (params : List (Bytes × Ty)) (args : List (Bytes × Bool × List J)),
      argLists Γ ρ bs params = some args →
      ∀ a ∈ args, ∃ t, (a.1, t) ∈ params ∧ ∀ v ∈ a.2.2, valid t v = true := by
  intro params args h a ha
  obtain ⟨t, _, hm, _, _, _, hv⟩ := argLists_mem Γ ρ bs params args h a ha
  exact ⟨t, hm, hv⟩

/-! ### guarantees (§12 continued) -/

/-! a three-level program: `TOP` calls `L1`, which MAP-calls `L2` over an array
(one element is the pipeline's input), which calls the stage `P` with a WILDCARD
binding (`* = self`), returns a NARROWING (`x = P.o`: struct W → struct A) and a
PROJECTION THROUGH A TYPED MAP (`b = P.m.a`: `map<A>` → `map<int>`); `L1` hands
`L2.b` on as `map<int>[]`. -/
private abbrev nL2 : Bytes := [0x4C, 0x32]
private abbrev nL1 : Bytes := [0x4C, 0x31]
private abbrev nTop : Bytes := [0x54]
private abbrev stP : Callee :=
  { name := cP, isStage := true, params := [(ka, .base .int)], outs := .cons ko tW (.cons km (.tmap tA) .nil) }
private abbrev pL2 : Pipeline :=
  { name := nL2, ins := [(ka, .base .int)], outs := .cons kx tA (.cons kb (.tmap (.base .int)) .nil),
    calls := [{ id := cP, callee := stP, binds := [], wild := some .self, mods := noMods }],
    ret := [(kx, .plain (.call cP [ko])), (kb, .plain (.call cP [km, ka]))], retWild := none, retain := [] }
private abbrev pL1 : Pipeline :=
  { name := nL1, ins := [(ka, .base .int)], outs := .cons kb (.arr (.tmap (.base .int))) .nil,
    calls := [{ id := nL2, callee := pL2.callee, binds := [(ka, .split (.arr (.cons (.self ka []) (.cons (.int 2) .nil))))],
                wild := none, mods := noMods }],
    ret := [(kb, .plain (.call nL2 [kb]))], retWild := none, retain := [] }
private abbrev pTop : Pipeline :=
  { name := nTop, ins := [], outs := .cons kb (.arr (.tmap (.base .int))) .nil,
    calls := [{ id := nL1, callee := pL1.callee, binds := [(ka, .plain (.int 1))], wild := none, mods := noMods }],
    ret := [(kb, .plain (.call nL1 [kb]))], retWild := none, retain := [] }
private abbrev prog3 : Prog := { pipes := [pL2, pL1, pTop] }
private abbrev top3 : CallStm := { id := nTop, callee := pTop.callee, binds := [], wild := none, mods := noMods }
/-- the outside world: the stage returns `o = {a: 1, b: ["x"]}`, `m = {"x": {a: 5}}` -/
private abbrev oracle3 : Oracle := fun _ _ => .obj [(ko, vW), (km, .obj [(kx, .obj [(ka, .num (.int 5))])])]

/-- non-vacuity of `program_sound_partial`: all hypotheses hold for the
three-level program, and the checked run delivers `b = [{"x": 5}, {"x": 5}]` -/
example :
    progOk prog3 top3 = true ∧ fits prog3 4 top3.callee = true ∧ fits prog3 3 top3.callee = false ∧
    valid (.struct cP stP.outs) (oracle3 cP []) = true ∧
    (runProgram prog3 oracle3 4 top3).map (fun s => s.2.calls) =
      .ok [(nTop, .obj [(kb, .arr [.obj [(kx, .num (.int 5))], .obj [(kx, .num (.int 5))]])])] ∧
    noDisabled prog3 top3 = true :=
  ⟨by decide, by decide, by decide, by decide, rfl, by decide⟩

/-! a program with a `disabled` modifier and a map call with statically known
keys of a stage with a FILE output:
`pipeline Q(in bool d, out map<file> r) { map call F(a = split {"a": 1, "b": 2}) using (disabled = self.d)  return (r = F.f) }` -/
private abbrev nQ : Bytes := [0x51]
private abbrev nF : Bytes := [0x46]
private abbrev kd : Bytes := [0x64]
private abbrev kf : Bytes := [0x66]
private abbrev kr : Bytes := [0x72]
private abbrev stF : Callee := { name := nF, isStage := true, params := [(ka, .base .int)], outs := .cons kf (.base .file) .nil }
private abbrev litKeys (k2 : Bytes) : Exp := .map false (.cons ka (.int 1) (.cons k2 (.int 2) .nil))
private abbrev pQ (k2 : Bytes) : Pipeline :=
  { name := nQ, ins := [(kd, .base .bool)], outs := .cons kr (.tmap (.base .file)) .nil,
    calls := [{ id := nF, callee := stF, binds := [(ka, .split (litKeys k2))], wild := none, mods := { kwLocal := false, kwPreflight := false, kwVolatile := false, usings := [.dis (.self kd [])] } }],
    ret := [(kr, .plain (.call nF [kf]))], retWild := none, retain := [] }
private abbrev topQ (k2 : Bytes) (d : Exp) : CallStm := { id := nQ, callee := (pQ k2).callee, binds := [(kd, .plain d)], wild := none, mods := noMods }
private abbrev oracleF : Oracle := fun _ _ => .obj [(kf, .str kx)]
/-- the key `a/b` -/
private abbrev kSlash : Bytes := [0x61, 0x2F, 0x62]

/-- non-vacuity of `program_sound_partial` with a `disabled` modifier and a map
call of a stage with a file output: with
`d = false` the two forks run (`r = {"a": "x", "b": "x"}`, a valid `map<file>`
because the literal keys are legal names); with `d = true` the stage is not
invoked and `r = null`; and the same program
with the literal key `a/b` is accepted by the compiler's rules but is NOT `progOk`
(`staticLegalKeys` fails) – its run delivers an invalid `map<file>`. -/
example :
    progOk { pipes := [pQ kb] } (topQ kb (.bool false)) = true ∧
    progOk { pipes := [pQ kb] } (topQ kb (.bool true)) = true ∧
    (runProgram { pipes := [pQ kb] } oracleF 2 (topQ kb (.bool false))).map (fun s => s.2.calls) =
      .ok [(nQ, .obj [(kr, .obj [(ka, .str kx), (kb, .str kx)])])] ∧
    (runProgram { pipes := [pQ kb] } oracleF 2 (topQ kb (.bool true))).map (fun s => s.2.calls) =
      .ok [(nQ, .obj [(kr, .null)])] ∧
    validPipelineU (pQ kSlash) = true ∧ validTop (topQ kSlash (.bool false)) = true ∧
    progOk { pipes := [pQ kSlash] } (topQ kSlash (.bool false)) = false ∧
    (runProgram { pipes := [pQ kSlash] } oracleF 2 (topQ kSlash (.bool false))).map (fun s => s.2.calls) =
      .ok [(nQ, .obj [(kr, .obj [(ka, .str kx), (kSlash, .str kx)])])] ∧
    valid (.struct nQ (pQ kSlash).outs) (.obj [(kr, .obj [(ka, .str kx), (kSlash, .str kx)])]) = false :=
  ⟨by decide, by decide, rfl, rfl, by decide, by decide, by decide, rfl, by decide⟩

/-- the `nullDisabled` alternative of `program_sound_partial` is real: the
program satisfies every hypothesis, `d = null` conforms to `bool`, and the
run stops at the call `F` (the real run time: "disabled is bound to a null
value, which is not permitted"; a null known at invocation is refused by
`resolveDisableExp` – replayed by the harness, `c07DisabledRuntime`) -/
theorem disabled_null_witness :
    progOk { pipes := [pQ kb] } (topQ kb .null) = true ∧ fits { pipes := [pQ kb] } 2 (topQ kb .null).callee = true ∧
    valid (.base .bool) .null = true ∧
    (runProgram { pipes := [pQ kb] } oracleF 2 (topQ kb .null)).map (fun s => s.2.calls) = .nullDisabled :=
  ⟨by decide, by decide, by decide, rfl⟩

/-- NEGATIVE WITNESS for `program_sound_partial` without `ctlPipe`: the stop at a
null `disabled` value is reachable without any stage returning null –
`call G(what = true) using (disabled = self.d)`, `call E(what = 1) using (disabled = G.result)`,
`d = true`: `G` is disabled, `G.result` is null, the control of `E` is null.  `okPipe`,
`validTop` and `fits` hold, the stages echo their inputs, the model's run is
`nullDisabled`; the real `InvokePipeline` refuses the program ("disabled cannot be
bound to a null value"; with a run-time `d`: "disabled modifier cannot be bound to a
value that may be null").  `ctlPipe` keeps it out of `progOk`. -/
theorem disabled_fed_by_disabled_witness :
    let stG : Callee := { name := [0x47], isStage := true, params := [(ka, .base .bool)], outs := .cons kr (.base .bool) .nil }
    let stE : Callee := { name := [0x45], isStage := true, params := [(ka, .base .int)], outs := .cons kr (.base .int) .nil }
    let dis (e : Exp) : Mods := { kwLocal := false, kwPreflight := false, kwVolatile := false, usings := [.dis e] }
    let pP : Pipeline :=
      { name := cP, ins := [(kd, .base .bool)], outs := .cons kr (.base .int) .nil,
        calls := [
          { id := [0x47], callee := stG, binds := [(ka, .plain (.bool true))], wild := none, mods := dis (.self kd []) },
          { id := [0x45], callee := stE, binds := [(ka, .plain (.int 1))], wild := none, mods := dis (.call [0x47] [kr]) }],
        ret := [(kr, .plain (.call [0x45] [kr]))], retWild := none, retain := [] }
    let top : CallStm := { id := cP, callee := pP.callee, binds := [(kd, .plain (.bool true))], wild := none, mods := noMods }
    let echo : Oracle := fun _ ins => .obj [(kr, (ins.lookup ka).getD (.bool true))]
    [pP].all (okPipe { pipes := [pP] }) = true ∧ validTop top = true ∧ fits { pipes := [pP] } 2 top.callee = true ∧
    (runProgram { pipes := [pP] } echo 2 top).map (fun s => s.2.calls) = .nullDisabled ∧
    ctlPipe pP = false ∧ progOk { pipes := [pP] } top = false :=
  ⟨by decide, by decide, by decide, rfl, by decide, by decide⟩

/-- the split hypothesis is between element types only: splitting over a
`map<string>` INPUT into a `file` parameter needs no legal keys (the keys are
not delivered) – the hypothesis `bindHoleFreeT` holds, although `noHole (map<file>) (map<string>)` (between the
whole collections) does not -/
example :
    let Γ : Env := { self := [(km, .tmap (.base .string))], calls := [] }
    validBind Γ (.base .file) (.split (.self km [])) = true ∧
    bindHoleFreeT Γ (.base .file) (.split (.self km [])) = true ∧
    noHole (.tmap (.base .file)) (.tmap (.base .string)) = false ∧
    deliveredT Γ { self := [(km, .obj [(kSlash, .str kx)])], calls := [] } (.base .file) (.split (.self km [])) =
      some [.str kx] :=
  ⟨by decide, by decide, by decide, rfl⟩

/-! ### 13. what the whole-program theorem does NOT model: composed bindings

The program `n1Prog`:

    pipeline INNER(in map<int> xs, out map<int> r) { map call ECHO(what = split self.xs)  return (r = ECHO.r) }
    pipeline P(out map[] r) { call GEN()  map call INNER(xs = split GEN.r)
                              map call CONS(what = split INNER.r)  return (r = CONS.r) }      -- CONS(in map what)

is accepted by the compile-time rules and the model's checked run delivers
`[{"k":1},{"l":2}]`.  The run time never materialises `INNER.r`: the bindings
are composed across the pipeline boundary into a merge expression which a
second, type-directed resolver (`TopNode.resolveMerge`) resolves.  With forks
known at run time the merge resolves for an untyped-map destination, for this
program and for its variant `map[] what = INNER.r` (replayed by
harness/c07_merge.go in Tier A; a `resolveMerge` without the untyped-map case
panics there: "invalid type for merge …: map"); with STATICALLY known forks the
merge is expanded to a map literal of references, which the resolver refuses
inside an untyped map by design (known finding F-C07-UMAP).  The model does not
model the composition; `progOk` EXCLUDES (`umapPipe`) every binding into a
position of type untyped `map` whose composed form can be such a literal.
`umapPipe` follows the composition as far as it can be decided per program:
position by position (`umapT`), inputs of nested pipelines through ALL their call
sites (`selfSafeIn`), outputs of nested pipelines through their return bindings
(`pipeOutSafe`), and a map-mode call is admitted when its keys are run-time
values in every call of its pipeline (`runtimeKeys`) – so `n1Prog` is inside the
theorem (`n1_program_inside_after_repair`), and its variant with literal forks
is the refusal (`n1_static_forks_refused_witness`). -/
private abbrev n1Kwhat : Bytes := [0x77]
private abbrev n1Kres : Bytes := [0x72]
private abbrev n1Kxs : Bytes := [0x78]
private abbrev n1NGEN : Bytes := [0x47]
private abbrev n1NECHO : Bytes := [0x45]
private abbrev n1NCONS : Bytes := [0x43]
private abbrev n1NINNER : Bytes := [0x49]
private abbrev n1NP : Bytes := [0x50]
private abbrev n1TMI : Ty := .tmap (.base .int)
private abbrev n1StGEN : Callee := { name := n1NGEN, isStage := true, params := [], outs := .cons n1Kres (.arr n1TMI) .nil }
private abbrev n1StECHO : Callee := { name := n1NECHO, isStage := true, params := [(n1Kwhat, .base .int)], outs := .cons n1Kres (.base .int) .nil }
private abbrev n1StCONS : Callee := { name := n1NCONS, isStage := true, params := [(n1Kwhat, .base .map)], outs := .cons n1Kres (.base .map) .nil }
private abbrev n1PINNER : Pipeline :=
  { name := n1NINNER, ins := [(n1Kxs, n1TMI)], outs := .cons n1Kres n1TMI .nil,
    calls := [{ id := n1NECHO, callee := n1StECHO, binds := [(n1Kwhat, .split (.self n1Kxs []))], wild := none, mods := noMods }],
    ret := [(n1Kres, .plain (.call n1NECHO [n1Kres]))], retWild := none, retain := [] }
private abbrev n1PP : Pipeline :=
  { name := n1NP, ins := [], outs := .cons n1Kres (.arr (.base .map)) .nil,
    calls := [
      { id := n1NGEN, callee := n1StGEN, binds := [], wild := none, mods := noMods },
      { id := n1NINNER, callee := n1PINNER.callee, binds := [(n1Kxs, .split (.call n1NGEN [n1Kres]))], wild := none, mods := noMods },
      { id := n1NCONS, callee := n1StCONS, binds := [(n1Kwhat, .split (.call n1NINNER [n1Kres]))], wild := none, mods := noMods }],
    ret := [(n1Kres, .plain (.call n1NCONS [n1Kres]))], retWild := none, retain := [] }
private abbrev n1Prog : Prog := { pipes := [n1PINNER, n1PP] }
private abbrev n1Top : CallStm := { id := n1NP, callee := n1PP.callee, binds := [], wild := none, mods := noMods }
/-- GEN returns `[{"k":1},{"l":2}]`, ECHO and CONS return their input -/
private abbrev n1Oracle : Oracle := fun name ins =>
  if name == n1NGEN then .obj [(n1Kres, .arr [.obj [([0x6B], .num (.int 1))], .obj [([0x6C], .num (.int 2))]])]
  else .obj [(n1Kres, (ins.lookup n1Kwhat).getD .null)]

/-- `n1Prog` is INSIDE `program_sound_partial`.  Its
inner map call forks over `self.xs`, which every call of `INNER` binds to (a split
of) an output of a singly-called stage: the keys are only known at run time
(`runtimeKeys`), the composed binding is a MERGE, which `TopNode.resolveMerge`
resolves for an untyped-map destination (harness/c07_merge.go: the
run-time-fork shapes complete in Tier A, and the model's `progOk` must agree). -/
theorem n1_program_inside_after_repair :
    progOk n1Prog n1Top = true ∧ fits n1Prog 3 n1Top.callee = true ∧
    (runProgram n1Prog n1Oracle 3 n1Top).map (fun s => s.2.calls) =
      .ok [(n1NP, .obj [(n1Kres, .arr [.obj [([0x6B], .num (.int 1))], .obj [([0x6C], .num (.int 2))]])])] :=
  ⟨by decide, by decide, rfl⟩

/-- the same program with the forks of `INNER` given as a LITERAL
(`xs = split [{"k": 1}, {"l": 2}]`): the keys of the inner map call are known
when the program is invoked, the composed binding is a map literal of references,
and the real resolver REFUSES it by design ("reference … cannot be bound inside an
untyped map", known finding F-C07-UMAP; replayed by harness/c07_merge.go).
NEGATIVE WITNESS for the model: every compile-time rule and every other
hypothesis holds and the model's checked run succeeds – only `umapPipe` keeps the
program out of the theorem; it is the model's (conservative) stand-in for that
refusal. -/
theorem n1_static_forks_refused_witness :
    let pP' : Pipeline := { n1PP with calls := [
      { id := n1NGEN, callee := n1StGEN, binds := [], wild := none, mods := noMods },
      { id := n1NINNER, callee := n1PINNER.callee,
        binds := [(n1Kxs, .split (.arr (.cons (.map false (.cons [0x6B] (.int 1) .nil))
          (.cons (.map false (.cons [0x6C] (.int 2) .nil)) .nil))))], wild := none, mods := noMods },
      { id := n1NCONS, callee := n1StCONS, binds := [(n1Kwhat, .split (.call n1NINNER [n1Kres]))], wild := none, mods := noMods }] }
    let prog' : Prog := { pipes := [n1PINNER, pP'] }
    let top' : CallStm := { n1Top with callee := pP'.callee }
    prog'.pipes.all (okPipe prog') = true ∧ validTop top' = true ∧
    (match checkStm emptyEnv top' with | some sh => okStm prog' emptyEnv top' sh | none => false) = true ∧
    fits prog' 3 top'.callee = true ∧
    (runProgram prog' n1Oracle 3 top').map (fun s => s.2.calls) =
      .ok [(n1NP, .obj [(n1Kres, .arr [.obj [([0x6B], .num (.int 1))], .obj [([0x6C], .num (.int 2))]])])] ∧
    umapPipe prog' n1NP pP' = false ∧ progOk prog' top' = false :=
  ⟨by decide, by decide, by decide, by decide, rfl, by decide, by decide⟩

/-- non-vacuity of `program_outcomes_partial`: the three outcomes occur – `n1Prog`
runs to the end, its variant with literal forks is refused at invocation,
and the program of `disabled_null_witness` stops at the null `disabled` value -/
example :
    let pP' : Pipeline := { n1PP with calls := [
      { id := n1NGEN, callee := n1StGEN, binds := [], wild := none, mods := noMods },
      { id := n1NINNER, callee := n1PINNER.callee,
        binds := [(n1Kxs, .split (.arr (.cons (.map false (.cons [0x6B] (.int 1) .nil))
          (.cons (.map false (.cons [0x6C] (.int 2) .nil)) .nil))))], wild := none, mods := noMods },
      { id := n1NCONS, callee := n1StCONS, binds := [(n1Kwhat, .split (.call n1NINNER [n1Kres]))], wild := none, mods := noMods }] }
    progOkCore { pipes := [n1PINNER, pP'] } { n1Top with callee := pP'.callee } = true ∧
    (match invokeAndRun { pipes := [n1PINNER, pP'] } n1Oracle 3 { n1Top with callee := pP'.callee } with
      | .refusedAtInvoke => true | _ => false) = true ∧
    progOkCore n1Prog n1Top = true ∧
    (match invokeAndRun n1Prog n1Oracle 3 n1Top with | .ran (.ok _) => true | _ => false) = true ∧
    progOkCore { pipes := [pQ kb] } (topQ kb .null) = true ∧
    (match invokeAndRun { pipes := [pQ kb] } oracleF 2 (topQ kb .null) with | .ran .nullDisabled => true | _ => false) = true :=
  ⟨by decide, by decide, by decide, by decide, by decide, by decide⟩

/-- OPEN GAP between the model and the code (known finding F-C07-SPLITMERGE, a
genuine defect): the same program with a TYPED consumer, `in map<int> what`,
`map call CONS(what = split INNER.r)`, satisfies EVERY hypothesis and the model's
run succeeds – the real `InvokePipeline` fails with "map call generates a nested
map of map<int>".  Analysis: `SplitExp.FindTypedRefs` rebuilds the type of the
split collection from the parameter type with `AddDim(t, exp.CallMode())`, but
`SplitExp.CallMode()` is the mode of what lies BELOW the split (here: the map-mode
merge inside `INNER`), not the array mode of the split itself; with an untyped
`map` parameter the same call builds `map<map>` and goes on (using the split's
own mode instead breaks the untyped shape).  No hypothesis of
`program_sound_partial` excludes the program. -/
theorem splitmerge_gap_witness :
    let cons' : Callee := { n1StCONS with params := [(n1Kwhat, n1TMI)], outs := .cons n1Kres n1TMI .nil }
    let pP' : Pipeline := { n1PP with outs := .cons n1Kres (.arr n1TMI) .nil, calls := [
      { id := n1NGEN, callee := n1StGEN, binds := [], wild := none, mods := noMods },
      { id := n1NINNER, callee := n1PINNER.callee, binds := [(n1Kxs, .split (.call n1NGEN [n1Kres]))], wild := none, mods := noMods },
      { id := n1NCONS, callee := cons', binds := [(n1Kwhat, .split (.call n1NINNER [n1Kres]))], wild := none, mods := noMods }] }
    let prog' : Prog := { pipes := [n1PINNER, pP'] }
    let top' : CallStm := { n1Top with callee := pP'.callee }
    progOk prog' top' = true ∧ fits prog' 3 top'.callee = true ∧
    (runProgram prog' n1Oracle 3 top').map (fun s => s.2.calls) =
      .ok [(n1NP, .obj [(n1Kres, .arr [.obj [([0x6B], .num (.int 1))], .obj [([0x6C], .num (.int 2))]])])] :=
  ⟨by decide, by decide, rfl⟩

/-- the same consumer bound to an output of a STAGE (`what = split GEN.r`, which the
real `Path` resolves) stays inside the theorem -/
example :
    let pP' : Pipeline := { n1PP with calls := [
      { id := n1NGEN, callee := n1StGEN, binds := [], wild := none, mods := noMods },
      { id := n1NCONS, callee := n1StCONS, binds := [(n1Kwhat, .split (.call n1NGEN [n1Kres]))], wild := none, mods := noMods }] }
    progOk { pipes := [pP'] } { n1Top with callee := pP'.callee } = true := by decide

end Props.C07
