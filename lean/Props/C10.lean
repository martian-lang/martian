/-
C10 — compilation, formatting and call-graph resolution are deterministic.
Property theorems (lemmas: Proofs/SortKeys.lean, Proofs/Determinism.lean, Proofs/ForkOrder*.lean; the general shape
theorems of the unsorted loops carry their short proofs here).

Go maps are association lists with distinct keys in ARBITRARY order; the
theorems say that each modelled emitter gives the same bytes for every order
(`l₁.Perm l₂`, i.e. whatever order the Go runtime iterates in).  The tie to the
source is the regenerated list of every iteration over a map-typed expression (`range` and the
iterator forms, see below) in martian/syntax and martian/core (go/types) compared with the committed reviewed
classification corpus/C10/map_range_sites.json.
-/
import Martian.ForkOrder
import Proofs.ForkOrder
import Proofs.ForkOrderBij
import Proofs.ForkOrderOn
import Gen.Facts
import Proofs.Determinism

namespace Props.C10
open Martian.Determinism Martian.SortKeys List

/-- Regenerated obligation: every `range` over a map in martian/syntax and
martian/core is a site whose statement was reviewed (a new site, or a site whose
statement changed since the review, breaks this). -/
theorem all_map_range_sites_reviewed :
    Gen.c10Unreviewed_extracted = true ∧ Gen.c10Unreviewed = [] := by decide

/-- Regenerated obligation: no reviewed site lets the iteration order reach
compiler / formatter / call-graph output. -/
theorem no_order_dependent_output_site :
    Gen.c10OrderDependent_extracted = true ∧ Gen.c10OrderDependent = [] := by decide

/-- The site list is not vacuous (the type-checker found the maps). -/
theorem map_range_sites_found : 100 ≤ Gen.c10MapRangeCount := by decide

/-- The basic fact, proved once: sorting a Go map's entries by key does not
depend on the order they were collected in. -/
theorem sort_entries_order_independent {V : Type} (l₁ l₂ : List (Key × V)) (h : l₁.Perm l₂)
    (hn : nodupKeys l₁ = true) : sortK l₁ = sortK l₂ :=
  sortK_eq_of_perm h ((nodupKeys_iff l₁).mp hn)

theorem sort_keys_order_independent (l₁ l₂ : List Key) (h : l₁.Perm l₂) : sortKeys l₁ = sortKeys l₂ :=
  sortKeys_eq_of_perm h

/-- `MapExp.format` -/
theorem mapFormat_order_independent (isStruct : Bool) (pre vind : Bytes) (l₁ l₂ : List (Key × Rendered))
    (h : l₁.Perm l₂) (hn : nodupKeys l₁ = true) :
    mapFormat isStruct pre vind l₁ = mapFormat isStruct pre vind l₂ := by
  unfold mapFormat
  rw [h.isEmpty_eq, maxKeyLen_perm isStruct h, sort_entries_order_independent l₁ l₂ h hn]

/-- `encodeJSON` of `MapExp`, `marshallerMap`, `ResolvedBindingMap`,
`LazyArgumentMap`, `MarshalerMap` -/
theorem jsonObject_order_independent (l₁ l₂ : List (Key × Bytes × Bytes)) (h : l₁.Perm l₂)
    (hn : nodupKeys l₁ = true) : jsonObject l₁ = jsonObject l₂ := by
  unfold jsonObject
  rw [sort_entries_order_independent l₁ l₂ h hn]

/-- `makeForkIdParts` / `expandForkFromObj`: fork identifiers of a map call -/
theorem forkKeyParts_order_independent (k₁ k₂ : List Key) (h : k₁.Perm k₂) :
    forkKeyParts k₁ = forkKeyParts k₂ := sort_keys_order_independent k₁ k₂ h

/-- `unifyMapSources` (sortedSplitList), `findMergeForkNode`: collect, sort, fold -/
theorem foldSorted_order_independent {V β : Type} (f : β → Key × V → β) (init : β)
    (l₁ l₂ : List (Key × V)) (h : l₁.Perm l₂) (hn : nodupKeys l₁ = true) :
    foldSorted f init l₁ = foldSorted f init l₂ := by
  unfold foldSorted
  rw [sort_entries_order_independent l₁ l₂ h hn]

/-- "iterate the sorted keys, collect one error per failing entry" (the shape of
`TypedMapType.IsValidExpression`, `StructType.IsValidExpression`, `isValidSplit`;
F15): the reported error list does not depend on the map order. -/
theorem collectErrors_order_independent {V E : Type} (check : Key → V → Option E)
    (l₁ l₂ : List (Key × V)) (h : l₁.Perm l₂) (hn : nodupKeys l₁ = true) :
    collectErrors check l₁ = collectErrors check l₂ := by
  unfold collectErrors
  rw [sort_entries_order_independent l₁ l₂ h hn]

/-- "collect the offending keys, sort, report the first" (`MergeMapCallSources`):
the key named in `map key missing "k"` depends on neither map's order. -/
theorem firstMissing_order_independent (ka ka' kb kb' : List Key) (ha : ka.Perm ka') (hb : kb.Perm kb') :
    firstMissing ka kb = firstMissing ka' kb' := by
  unfold firstMissing
  have hf : (fun k => !kb.contains k) = (fun k => !kb'.contains k) := by
    funext k; rw [hb.contains_eq]
  rw [hf, sort_keys_order_independent _ _ (ha.filter _)]

/-- Nested maps (a `MapExp` inside a `MapExp`, map-valued entries of
`marshallerMap` / `ResolvedBindingMap` …): if every level is emitted in sorted
key order, the bytes do not depend on the order in which ANY object at ANY depth
was handed over. -/
theorem nested_emit_order_independent (a b : JTree) (h : JTree.Reorder a b) (hw : a.wf = true) :
    a.emit = b.emit := (reorder_aux h hw).2.2.1

/-! ## Loops that accumulate one contribution per entry

Model: `Martian/DeterminismAccum.lean`.  Four general theorems about loops that walk the Go map ITSELF
(no sort), then the loop over the sorted keys; the names per site are at the end of the file. -/

/-- GENERAL (map insert per entry): `res[k] = g(k, v)` for every entry of a Go map,
walked in any order, builds the same map - the same lookup result for every key and
the same sorted presentation.  (No sort in the loop.) -/
theorem mapInsert_order_independent {V W : Type} (g : Key → V → W) (l₁ l₂ : List (Key × V))
    (h : l₁.Perm l₂) (hn : nodupKeys l₁ = true) :
    (∀ k, lookupL k (buildMap g l₁) = lookupL k (buildMap g l₂)) ∧
      sortK (buildMap g l₁) = sortK (buildMap g l₂) := by
  have hn' := (nodupKeys_iff l₁).mp hn
  have hp := buildMap_perm g h hn'
  have hk := buildMap_keys_nodup g l₁ hn'
  exact ⟨fun k => lookupL_perm hp hk k, sortK_eq_of_perm hp hk⟩

/-- GENERAL (commutative fold): a fold whose step commutes (`&&`, `||`, `max`, counting,
inserting into a set) gives the same result for every iteration order. -/
theorem commFold_order_independent {α β : Type} (f : β → α → β)
    (hc : ∀ b x y, f (f b x) y = f (f b y) x) (l₁ l₂ : List α) (h : l₁.Perm l₂) (b : β) :
    l₁.foldl f b = l₂.foldl f b := h.foldl_eq' (fun x _ y _ z => hc z x y) b

/-- GENERAL (all / any): "every entry satisfies p" and "some entry satisfies p"
(`done = done && d`, `change = change || c`, the boolean `equal` loops). -/
theorem allAny_order_independent {α : Type} (p : α → Bool) (l₁ l₂ : List α) (h : l₁.Perm l₂) :
    l₁.all p = l₂.all p ∧ l₁.any p = l₂.any p := ⟨h.all_eq, h.any_eq⟩

/-- GENERAL (append per entry, consumer builds a set or sorts): a loop that appends
`f(entry)` to a slice in map order yields the same elements with the same
multiplicities whatever the order, hence the same set (`getBoundParamIds`, whose only
consumers insert every id into a set) and the same sorted list (append-then-sort). -/
theorem appendPerEntry_order_independent {α : Type} (f : α → List Key) (l₁ l₂ : List α)
    (h : l₁.Perm l₂) :
    (l₁.flatMap f).Perm (l₂.flatMap f) ∧ (∀ x, x ∈ l₁.flatMap f ↔ x ∈ l₂.flatMap f) ∧
      sortKeys (l₁.flatMap f) = sortKeys (l₂.flatMap f) :=
  ⟨h.flatMap_right f, fun _ => (h.flatMap_right f).mem_iff, sort_keys_order_independent _ _ (h.flatMap_right f)⟩

/-- The accumulating loop over the map ITSELF (the variant that does not sort the keys):
the two flags and the result map do not depend on the iteration order, and the error
list is the same up to order ... -/
theorem accumulateIn_order_independent_up_to_error_order (l₁ l₂ : List (Key × EntryRes))
    (h : l₁.Perm l₂) (hn : nodupKeys l₁ = true) :
    (accumulateIn l₁).done = (accumulateIn l₂).done ∧
    (accumulateIn l₁).changed = (accumulateIn l₂).changed ∧
    (∀ k, lookupL k (accumulateIn l₁).vals = lookupL k (accumulateIn l₂).vals) ∧
    sortK (accumulateIn l₁).vals = sortK (accumulateIn l₂).vals ∧
    (accumulateIn l₁).errs.Perm (accumulateIn l₂).errs := by
  simp only [accumulateIn_eq]
  have hm := mapInsert_order_independent (fun _ (e : EntryRes) => e.val) l₁ l₂ h hn
  exact ⟨h.all_eq, h.any_eq, hm.1, hm.2, h.filterMap _⟩

/-- ... but the ORDER of the error list (= the reported text) does depend on it:
negative witness, two entries that both fail.  The harness replays this on the real
functions (provocations `invertSplit`, `wrapDisabled`, … : with the sort of the keys removed the
text differs between repetitions). -/
theorem accumulateIn_error_order_dependent :
    ∃ l₁ l₂ : List (Key × EntryRes), l₁.Perm l₂ ∧ nodupKeys l₁ = true ∧
      errorListText (accumulateIn l₁).errs ≠ errorListText (accumulateIn l₂).errs :=
  ⟨[([97], ⟨true, false, some [49], []⟩), ([98], ⟨true, false, some [50], []⟩)],
   [([98], ⟨true, false, some [50], []⟩), ([97], ⟨true, false, some [49], []⟩)],
   by decide, by decide, by decide⟩

/-- The loop over the sorted keys (`accumulate`): flags, result map, error list
and hence the error text are the same for EVERY order in which the runtime hands the
map over. -/
theorem accumulate_order_independent (l₁ l₂ : List (Key × EntryRes)) (h : l₁.Perm l₂)
    (hn : nodupKeys l₁ = true) : accumulate l₁ = accumulate l₂ :=
  foldSorted_order_independent Accum.step Accum.init l₁ l₂ h hn

/-- what the sorted loop reports is "one error per failing entry, in key order" -/
theorem accumulate_errs_eq_collectErrors (l : List (Key × EntryRes)) :
    (accumulate l).errs = collectErrors (fun _ e => e.err) l := by
  rw [accumulate_eq, accumulateIn_eq]; rfl

/-- the sort changed nothing but the order of the errors: flags and result map of the
sorted loop are those of the loop over the map in any order -/
theorem accumulate_agrees_with_unsorted (l : List (Key × EntryRes)) (hn : nodupKeys l = true) :
    (accumulate l).done = (accumulateIn l).done ∧ (accumulate l).changed = (accumulateIn l).changed ∧
    (∀ k, lookupL k (accumulate l).vals = lookupL k (accumulateIn l).vals) := by
  have hp : (sortK l).Perm l := sortK_perm l
  have hn' : nodupKeys (sortK l) = true :=
    (nodupKeys_iff _).mpr ((hp.map Prod.fst).nodup_iff.mpr ((nodupKeys_iff l).mp hn))
  have := accumulateIn_order_independent_up_to_error_order (sortK l) l hp hn'
  exact ⟨this.1, this.2.1, this.2.2.1⟩


/-- `convertToExp` on a LazyArgumentMap / MarshalerMap (core/runtime.go):
the entry named in the returned error, and the partial result, are those of the
smallest failing key whatever the iteration order. -/
theorem convertToExp_order_independent {W E : Type} (conv : Key → W → Except E Bytes)
    (l₁ l₂ : List (Key × W)) (h : l₁.Perm l₂) (hn : nodupKeys l₁ = true) :
    firstFailure conv l₁ = firstFailure conv l₂ := by
  unfold firstFailure
  rw [sort_entries_order_independent l₁ l₂ h hn]

/-! Non-vacuity of the theorems about accumulating loops. -/
private def er (k : Nat) (bad : Bool) : Key × EntryRes :=
  ([107, k], { done := !bad, changed := bad, err := if bad then some [101, k] else none, val := [118, k] })
example : nodupKeys [er 51 true, er 49 false, er 50 true] = true := by decide
example : [er 51 true, er 49 false, er 50 true].Perm [er 49 false, er 50 true, er 51 true] := by decide
example : accumulate [er 51 true, er 49 false, er 50 true] = accumulate [er 49 false, er 50 true, er 51 true] :=
  accumulate_order_independent _ _ (by decide) (by decide)
/-- the loop over an already sorted map: two errors, in key order, rendered as `ErrorList.Error()` does -/
example : (accumulateIn [er 49 false, er 50 true, er 51 true]).errs = [[101, 50], [101, 51]] := by decide
example : errorListText (accumulateIn [er 49 false, er 50 true, er 51 true]).errs = [10, 9, 101, 50, 10, 9, 101, 51] := by decide
example : (accumulateIn [er 49 false, er 50 true, er 51 true]).done = false
    ∧ (accumulateIn [er 49 false, er 50 true, er 51 true]).vals = [([107, 49], [118, 49]), ([107, 50], [118, 50]), ([107, 51], [118, 51])] := by decide
example : (accumulateIn [er 51 true, er 49 false, er 50 true]).errs ≠ (accumulateIn [er 49 false, er 50 true, er 51 true]).errs := by decide
example : buildMap (fun k (v : Nat) => k.length + v) [([1], 5), ([2, 3], 7)] = [([1], 6), ([2, 3], 9)] := by decide
example : ([([1], [[5], [6]]), ([2], [[7]])] : List (Key × List Key)).flatMap (·.2) ≠ [([2], [[7]]), ([1], [[5], [6]])].flatMap (·.2) := by decide
/-- a step that does not commute is excluded by the hypothesis of `commFold_order_independent` -/
example : ¬ ∀ (b : List Nat) x y, (b ++ [x]) ++ [y] = (b ++ [y]) ++ [x] := fun h => by
  have := h [] 1 2; simp at this
example : ∀ (b : Nat) x y, max (max b x) y = max (max b y) x := fun b x y => by omega
private def cv (k : Key) (w : Nat) : Except Key Bytes := if w % 2 = 0 then .ok [w] else .error k
example : firstFailureIn cv [([97], 2), ([98], 3), ([99], 1)] = ([([97], [2])], some [98]) := by decide
example : firstFailure cv [([99], 1), ([97], 2), ([98], 3)] = firstFailure cv [([98], 3), ([99], 1), ([97], 2)] :=
  convertToExp_order_independent cv _ _ (by decide) (by decide)
/-- returning at the first failure in the order GIVEN would depend on the order -/
example : firstFailureIn cv [([99], 1), ([97], 2), ([98], 3)] ≠ firstFailureIn cv [([98], 3), ([99], 1), ([97], 2)] := by decide

/-! Non-vacuity: a three-entry map, two orders, one output. -/
private def e (k : Nat) (s : Bool) : Key × Rendered := ([k, 49], { keyText := [k, 49], single := s, text := [48 + k % 10] })
example : nodupKeys [e 99 true, e 97 false, e 98 true] = true := by decide
example : [e 99 true, e 97 false, e 98 true].Perm [e 97 false, e 98 true, e 99 true] := by decide
example : mapFormat true [] [32] [e 99 true, e 97 false, e 98 true]
    = mapFormat true [] [32] [e 97 false, e 98 true, e 99 true] :=
  mapFormat_order_independent true [] [32] _ _ (by decide) (by decide)
/-- Without the sort the output would depend on the order (the theorem is not trivial). -/
example : ([e 99 true, e 97 false].map (·.1)) ≠ ([e 97 false, e 99 true].map (·.1)) := by decide

private def inner (x y : Nat) : JTree :=
  .ocons [x] [34, x, 34] (.leaf [x]) (.ocons [y] [34, y, 34] (.leaf [y]) .onil)
example : (JTree.ocons [97] [34, 97, 34] (inner 120 121) (.ocons [98] [34, 98, 34] (.leaf [51]) .onil)).wf = true := by decide
/-- the inner object's entries swapped and the outer entries swapped: still a reordering -/
example : JTree.Reorder
    (.ocons [97] [34, 97, 34] (inner 120 121) (.ocons [98] [34, 98, 34] (.leaf [51]) .onil))
    (.ocons [98] [34, 98, 34] (.leaf [51]) (.ocons [97] [34, 97, 34] (inner 121 120) .onil)) :=
  .trans (.congr _ _ (.swap ..) (.refl _)) (.swap ..)
example : ([[99], [97], [98]] : List Key).Perm [[97], [98], [99]] := by decide

/-! ## Iterator forms of map iteration

The site list is not limited to `range` statements: `maps.Keys/Values/All/…`,
`slices.Collect(maps.…)`, `slices.Sorted(maps.Keys(..))`, `reflect` `MapKeys`/`MapRange`,
`sync.Map.Range` and `range` over a function / over an expression of unknown type are
sites too (extract/maprange.go).  A site of these forms that was not reviewed is in `c10Unreviewed` (above). -/

/-- Regenerated obligation: every reviewed site of corpus/C10/map_range_sites.json is still
found.  A reviewed loop that DISAPPEARS (deleted, or rewritten in another form such as
`slices.Collect(maps.Keys(m))`) breaks this until a reviewer moves the entry to
`resolved_sites` with the outcome. -/
theorem no_reviewed_site_vanished : Gen.c10Vanished = [] := by decide

/-- The recognisers are not vacuous: on the extractor's embedded sample package every form
is found, both with full type information (`typed`) and when no import resolves at all
(`untyped`: syntactic recognition through the import table; only `sync.Map.Range` needs the
receiver type).  Entry = `mode function:form expression [auto class]`. -/
theorem iterator_forms_recognised : Gen.c10IterFormsRecognised = [
    "typed T.Keys:maps.Keys maps.Keys(t.m) [other]",
    "typed var pkgLevel:maps.Keys slices.Collect(maps.Keys(m)) [other]",
    "typed generic:range m [other]",
    "typed anyParam:sync.Map.Range w.Range [other]",
    "typed f:maps.Keys slices.Collect(maps.Keys(m)) [other]",
    "typed f:maps.Keys slices.Sorted(maps.Keys(m)) [keys-collected-then-sorted]",
    "typed f:maps.Keys slices.SortedFunc(maps.Keys(m), strings.Compare) [keys-collected-then-sorted]",
    "typed f:maps.Values slices.Collect(maps.Values(m)) [keys-collected-then-sorted]",
    "typed f:maps.All maps.All(m) [other]",
    "typed f:maps.All maps.Collect(maps.All(m)) [map-or-set-insert]",
    "typed f:maps.All maps.Insert(e, maps.All(m)) [map-or-set-insert]",
    "typed f:reflect.MapKeys v.MapKeys() [other]",
    "typed f:reflect.MapRange v.MapRange() [other]",
    "typed f:range-func t.Keys() [other]",
    "typed f:maps.Clone maps.Clone(m) [map-or-set-insert]",
    "typed f:sync.Map.Range sm.Range [other]",
    "typed f:range m [other]",
    "typed f:maps.Keys maps.Keys [other]",
    "typed f:maps.Keys slices.Sorted(maps.Keys(m)) [keys-collected-then-sorted]",
    "untyped T.Keys:maps.Keys maps.Keys(t.m) [other]",
    "untyped var pkgLevel:maps.Keys slices.Collect(maps.Keys(m)) [other]",
    "untyped generic:range m [other]",
    "untyped f:maps.Keys slices.Collect(maps.Keys(m)) [other]",
    "untyped f:maps.Keys slices.Sorted(maps.Keys(m)) [keys-collected-then-sorted]",
    "untyped f:maps.Keys slices.SortedFunc(maps.Keys(m), strings.Compare) [keys-collected-then-sorted]",
    "untyped f:maps.Values slices.Collect(maps.Values(m)) [keys-collected-then-sorted]",
    "untyped f:maps.All maps.All(m) [other]",
    "untyped f:maps.All maps.Collect(maps.All(m)) [map-or-set-insert]",
    "untyped f:maps.All maps.Insert(e, maps.All(m)) [map-or-set-insert]",
    "untyped f:reflect.MapKeys v.MapKeys() [other]",
    "untyped f:reflect.MapRange v.MapRange() [other]",
    "untyped f:range-untyped t.Keys() [other]",
    "untyped f:maps.Clone maps.Clone(m) [map-or-set-insert]",
    "untyped f:range m [other]",
    "untyped f:maps.Keys maps.Keys [other]",
    "untyped f:maps.Keys slices.Sorted(maps.Keys(m)) [keys-collected-then-sorted]"] := by rfl

/-- Regenerated obligation: no file of martian/syntax or martian/core
uses a form of map iteration the site scanner does not follow — a DOT-import of `maps`, `slices`,
`reflect`, `sync`, `iter` or the x/exp versions (calls would be bare identifiers).  A `range`
over a TYPE PARAMETER with a map core type and `sync.Map.Range` promoted from an embedded
`sync.Map` are followed (see the `generic` / `anyParam` entries above); a type parameter whose
constraint does not pin a map is listed as `range-untyped`. -/
theorem no_unsupported_iteration_form :
    Gen.c10UnsupportedForms_extracted = true ∧ Gen.c10UnsupportedForms = [] := by decide

/-- the vanished-site obligation is about a non-empty reviewed list -/
example : ["core/fork.go:ForkId.expandStaticForkPart:range keyMap#2"] ≠ ([] : List String) := by decide

/-! ## Loops whose effect is not an error list

Model: `Martian/DeterminismAccum2.lean`.  General shape theorems (each under a condition that makes the
unsorted loop order-independent) and the sites. -/

/-- GENERAL (at most one entry): a map with at most one entry has one iteration order
(`Parser.FixIncludes` / `fixIncludes` over `source.Files` of a freshly parsed file). -/
theorem singleton_order_independent {α : Type} (l₁ l₂ : List α) (h : l₁.Perm l₂)
    (h1 : l₁.length ≤ 1) : l₁ = l₂ := by
  match l₁, l₂, h1, h with
  | [], l₂, _, h => exact (h.symm.eq_nil).symm
  | [a], l₂, _, h => exact (perm_singleton.mp h.symm).symm
  | _ :: _ :: _, _, h1, _ => simp at h1

/-- GENERAL (every entry contributes the SAME message): a list of identical messages
appended in map order is the same list in every order (`Modifiers.compile`: the message
names the call, not the binding). -/
theorem identicalMessages_order_independent {α : Type} (c : α) (l₁ l₂ : List α) (h : l₁.Perm l₂)
    (hc : ∀ x ∈ l₁, x = c) : l₁ = l₂ := by
  have h1 : l₁ = List.replicate l₁.length c := List.eq_replicate_iff.mpr ⟨rfl, hc⟩
  have h2 : l₂ = List.replicate l₂.length c :=
    List.eq_replicate_iff.mpr ⟨rfl, fun x hx => hc x (h.mem_iff.mpr hx)⟩
  rw [h1, h2, h.length_eq]

/-- GENERAL (take the first entry met, all entries agree on what is used of them):
`for _, e := range m { return g(e) }` does not depend on the order when `g` is the
same for every entry (`Ast.format`: every file leads to the same top-level file). -/
theorem firstOfEquals_order_independent {α β : Type} (g : α → β) (c : β) (l₁ l₂ : List α)
    (h : l₁.Perm l₂) (hc : ∀ x ∈ l₁, g x = c) : l₁.head?.map g = l₂.head?.map g := by
  cases l₁ with
  | nil => rw [h.symm.eq_nil]
  | cons a r =>
    cases l₂ with
    | nil => exact absurd h.eq_nil (by simp)
    | cons b r' =>
      have hb : b ∈ a :: r := h.mem_iff.mpr (by simp)
      simp [hc a (by simp), hc b hb]

/-- GENERAL (insert under a COMPUTED key): `res[kf(p)] = vf(p)` for every entry builds
the same map in every order EXACTLY WHEN entries that compute the same key carry the
same value (then no overwrite can change anything). -/
theorem insertKeyed_order_independent {α V : Type} (kf : α → Key) (vf : α → V) (l₁ l₂ : List α)
    (h : l₁.Perm l₂) (hc : ∀ p ∈ l₁, ∀ q ∈ l₁, kf p = kf q → vf p = vf q) (k : Key) :
    lookupL k (insertKeyed kf vf l₁) = lookupL k (insertKeyed kf vf l₂) := by
  unfold insertKeyed
  rw [lookupL_foldl_insertKeyed, lookupL_foldl_insertKeyed]
  apply h.foldl_eq'
  intro x hx y hy z
  by_cases h1 : (k == kf x) = true <;> by_cases h2 : (k == kf y) = true <;> simp [h1, h2]
  have e1 : k = kf x := by simpa using h1
  have e2 : k = kf y := by simpa using h2
  exact (hc x hx y hy (e1.symm.trans e2)).symm

/-- ... and when two entries compute the same key with different values, the map built
does depend on the order (the condition above is necessary). -/
theorem insertKeyed_collision_order_dependent :
    ∃ l₁ l₂ : List (Key × Nat), l₁.Perm l₂ ∧
      lookupL [1] (insertKeyed (fun _ => [1]) (·.2) l₁) ≠ lookupL [1] (insertKeyed (fun _ => [1]) (·.2) l₂) :=
  ⟨[([7], 1), ([8], 2)], [([8], 2), ([7], 1)], by decide, by decide⟩

/-- GENERAL (delete every collected key): deletes commute, so removing a set of keys
collected in map order leaves the same map (`getRequiredIncludes`: the `excess` types). -/
theorem eraseAll_order_independent {V : Type} (m : List (Key × V)) (ks₁ ks₂ : List Key)
    (h : ks₁.Perm ks₂) : eraseAll m ks₁ = eraseAll m ks₂ :=
  h.foldl_eq' (fun x _ y _ z => eraseKey_comm z x y) m

/-- `findSplitCalls` in closed form: after the walk the set holds what it held before
plus the calls the expression is split over OUTSIDE every merge over them.  (The
conditional delete after a merge removes exactly what the merge's own subtree added.) -/
theorem findSplitCalls_closed_form (t : STree) (S : List Key) (x : Key) :
    x ∈ t.walk S ↔ x ∈ S ∨ x ∈ t.free := walk_mem t S x

/-- `findSplitCalls` over a map literal, and `CallGraphStage.resolveForks` over the
inputs of a call: although the walk inserts AND deletes, the final set is the same
whatever the order in which the entries of ANY collection at ANY depth are visited. -/
theorem findSplitCalls_order_independent {a b : STree} (h : STree.Reorder a b) (S : List Key)
    (x : Key) : x ∈ a.walk S ↔ x ∈ b.walk S := by
  rw [walk_mem, walk_mem, free_reorder h x]

/-- Inserts and deletes do NOT commute in general (why `commFold_order_independent` does
not apply to `findSplitCalls` and the closed form was needed). -/
theorem insert_delete_do_not_commute :
    (setInsert ([] : List Key) [1]).filter (· != [1]) ≠ setInsert (([] : List Key).filter (· != [1])) [1] := by
  decide

/-- `SplitExp.CallMode` of split_expression.go (fold of the element modes over the sorted keys) -/
theorem callMode_order_independent (l₁ l₂ : List (Key × Option Mode)) (h : l₁.Perm l₂)
    (hn : nodupKeys l₁ = true) : callMode l₁ = callMode l₂ := by
  rw [callMode_eq_foldSorted, callMode_eq_foldSorted, h.isEmpty_eq,
    foldSorted_order_independent _ _ l₁ l₂ h hn]

/-- The fold itself is NOT symmetric: over the map in the order given the mode of
`{"a": null, "b": REF}` is null or unknown, that of `{"a": null, "b": 1}` single or
unknown (replayed on the real code by the provocations `SplitExp.CallMode(...)`; this is
why `SplitExp.CallMode` folds over the sorted keys). -/
theorem callModeIn_order_dependent :
    (callModeIn [(1, some Mode.null), (2, some Mode.unknown)] ≠ callModeIn [(2, some Mode.unknown), (1, some Mode.null)]) ∧
    (callModeIn [(1, some Mode.null), (2, none)] ≠ callModeIn [(2, (none : Option Mode)), (1, some Mode.null)]) := by
  decide

/-- GENERAL (return the first match; matches agree): `for _, e := range m { if r := f(e); r != nil { return r } }`
gives the same result in every order EXACTLY WHEN any two entries that match agree on the
result - in particular when at most one entry matches (`Node.find`: fully qualified names
are unique, so at most one subtree holds the node). -/
theorem uniqueMatch_order_independent {α β : Type} (f : α → Option β) (l₁ l₂ : List α) (h : l₁.Perm l₂)
    (hu : ∀ x ∈ l₁, ∀ y ∈ l₁, (f x).isSome → (f y).isSome → f x = f y) :
    l₁.findSome? f = l₂.findSome? f := by
  cases h1 : l₁.findSome? f with
  | none =>
    have hn := List.findSome?_eq_none_iff.mp h1
    exact (List.findSome?_eq_none_iff.mpr fun x hx => hn x (h.mem_iff.mpr hx)).symm
  | some v =>
    obtain ⟨x, hx, hfx⟩ := List.exists_of_findSome?_eq_some h1
    cases h2 : l₂.findSome? f with
    | none =>
      have := List.findSome?_eq_none_iff.mp h2 x (h.mem_iff.mp hx)
      rw [hfx] at this; cases this
    | some w =>
      obtain ⟨y, hy, hfy⟩ := List.exists_of_findSome?_eq_some h2
      have := hu x hx y (h.mem_iff.mpr hy) (by simp [hfx]) (by simp [hfy])
      rw [hfx, hfy] at this; exact this

/-- `getUnknownKeys` (core/fork.go, 4 loops): the keys of a run-time map collected in map
order; every consumer sorts them (`expandForkFromObj`, `TopNode.getParts`) or uses only
their number and membership (`checkSplitLength`, `mapKeyRange.Allow` / `Length`). -/
theorem unknownKeys_order_independent (k₁ k₂ : List Key) (h : k₁.Perm k₂) :
    sortKeys k₁ = sortKeys k₂ ∧ k₁.length = k₂.length ∧ ∀ x, k₁.contains x = k₂.contains x :=
  ⟨sort_keys_order_independent k₁ k₂ h, h.length_eq, fun _ => h.contains_eq⟩

/-! Non-vacuity of the shape theorems of this section. -/
example : [1, 2, 3].findSome? (fun n => if n = 2 then some (n * 10) else none) = some 20 := by decide
/-- two matching entries that disagree: the first match does depend on the order -/
example : [1, 2].findSome? (fun n => some n) ≠ [2, 1].findSome? (fun n => some n) := by decide
private def tA : STree := .split [1] true (.leaf [[3]])
private def tB : STree := .merge [1] (.split [1] true (.split [2] true .nil))
example : STree.Reorder (.cons tA (.cons tB .nil)) (.cons tB (.cons tA .nil)) := .swap ..
example : (STree.cons tA (.cons tB .nil)).walk [] = [[2], [3], [1]] := by decide
example : (STree.cons tB (.cons tA .nil)).walk [] = [[3], [1], [2]] := by decide
example : (STree.cons tA (.cons tB .nil)).free = [[1], [3], [2]] := by decide
/-- nested: the entries of a map inside a merge swapped -/
example : STree.Reorder (.merge [5] (.cons tA (.cons tB .nil))) (.merge [5] (.cons tB (.cons tA .nil))) :=
  .merge _ (.swap ..)
example : callModeIn [(1, some Mode.array), (2, some Mode.null), (3, some Mode.array)] = Mode.array := by decide
example : callModeIn ([] : List (Nat × Option Mode)) = Mode.null := by decide
example : ∀ p ∈ [([7], 1), ([8], 1)], ∀ q ∈ [([7], 1), ([8], 1)], (fun _ => [1]) p = (fun _ : Key × Nat => [1]) q → p.2 = q.2 := by decide
example : eraseAll [([1], 1), ([2], 2), ([3], 3)] [[3], [1]] = [([2], 2)] := by decide
example : ([5] : List Nat).length ≤ 1 := by decide


/-! ## Fork enumeration: which forks a node has, and in which ORDER they are listed

Model `Martian/ForkOrder.lean`: `MakeForkIds` (product of the fork roots, first root fastest;
static map keys sorted), `expandStaticForks` and the run-time `Node.expandForks` (breadth-first
processing of the growing list: first element in place, the others appended).  Tied to the real
`MakeForkIds` / `Node.forks` by the differential `C10.forkorder`. -/

open Martian.ForkOrder in
/-- C10: the list of forks does not depend on the order in which Go hands over the keys of any
map involved — neither those of the static roots nor those of any nested / run-time source. -/
theorem forkOrder_map_order_independent (r₁ r₂ : List Root) (i₁ i₂ : Inner)
    (hr : RootsEquiv r₁ r₂) (hi : ∀ j pre, Elems.Equiv (i₁ j pre) (i₂ j pre)) :
    forkOrder r₁ i₁ = forkOrder r₂ i₂ := forkOrder_congr hr hi

open Martian.ForkOrder in
example : RootsEquiv [Root.static (.keys [[98], [97]]), Root.dyn] [Root.static (.keys [[97], [98]]), Root.dyn] :=
  .cons (.static (.keys (by decide))) (.cons .dyn .nil)

open Martian.ForkOrder in
/-- The run-time expansion of a list of forks (`expandRuntime`) does not depend on the order in which Go hands over the
keys of any nested / run-time source either. -/
theorem expandRuntime_map_order_independent (n : Nat) (i₁ i₂ : Inner) (forks : List Fork)
    (hi : ∀ j pre, Elems.Equiv (i₁ j pre) (i₂ j pre)) :
    expandRuntime n i₁ forks = expandRuntime n i₂ forks :=
  bfsRt_congr (fun j pre => (hi j pre).parts_eq) n forks

open Martian.ForkOrder in
/-- Closed form, all roots statically known: the cartesian product with the FIRST root varying
fastest (`product (l :: rest) = for every tail of the rest, for every p of l: p :: tail`). -/
theorem forkOrder_static_closed_form (roots : List Root) (inner : Inner)
    (h : ∀ r ∈ roots, ∃ e l, r = Root.static e ∧ e.parts = some l) :
    forkOrder roots inner = product (roots.map Root.initParts) := by
  unfold forkOrder
  apply bfs_determined
  intro f hf hu
  obtain ⟨l, hl, hpl⟩ := mem_product hf Part.undet hu
  obtain ⟨r, hr, rfl⟩ := mem_map.mp hl
  obtain ⟨e, l', rfl, hl'⟩ := h r hr
  simp only [Root.initParts, hl', Option.getD_some] at hpl
  exact (parts_determined hl').1 hpl

open Martian.ForkOrder in
/-- two roots: `[a₀b₀, a₁b₀, …, a₀b₁, a₁b₁, …]` -/
theorem product_first_root_fastest (a b : List Part) :
    product [a, b] = b.flatMap fun y => a.map fun x => [x, y] := by
  simp [product, flatMap_map]

open Martian.ForkOrder in
example : forkOrder [Root.static (.arr 2), Root.static (.arr 3)] (fun _ _ => .unknown)
    = [[.idx 0, .idx 0], [.idx 1, .idx 0], [.idx 0, .idx 1], [.idx 1, .idx 1], [.idx 0, .idx 2],
       [.idx 1, .idx 2]] := by decide

open Martian.ForkOrder in
/-- Closed form, a map call nested in a map call with RAGGED inner sets: every outer element
with its first inner element (in outer order), then outer element by outer element the
remaining inner elements.  (This is what the fork-order provocations expect.) -/
theorem forkOrder_ragged_closed_form (e₀ : Elems) (outer : List Part) (inner : Inner)
    (fst : Part → Part) (more : Part → List Part) (h₀ : e₀.parts = some outer)
    (h₁ : ∀ o ∈ outer, (inner 1 [o]).parts = some (fst o :: more o)) :
    forkOrder [Root.static e₀, Root.dyn] inner
      = outer.map (fun o => [o, fst o]) ++ outer.flatMap (fun o => (more o).map fun y => [o, y]) :=
  forkOrder_ragged e₀ outer inner fst more h₀ h₁

open Martian.ForkOrder in
example : forkOrder [Root.static (.arr 2), Root.dyn]
      (fun _ pre => if pre == [.idx 0] then .arr 3 else .arr 2)
    = [[.idx 0, .idx 0], [.idx 1, .idx 0], [.idx 0, .idx 1], [.idx 0, .idx 2], [.idx 1, .idx 1]] := by
  decide

open Martian.ForkOrder in
/-- forks_bijection (also the C03 clause "one fork per element / key combination"): when every
static root is known and every nested source is known and not empty, the list of forks has NO
DUPLICATES and contains EXACTLY the combinations the sources define — `Valid`: at every root
one of the elements / keys its source has, given the picks at the earlier roots (ragged sets
included).  Any number of roots, any nesting depth. -/
theorem forks_bijection (roots : List Root) (inner : Inner) (hs : StaticKnown roots)
    (hI : InnerKnown inner)
    (hSN : ∀ r ∈ roots, ∀ e, r = Root.static e → e.KeysNodup)
    (hIN : ∀ j pre, (inner j pre).KeysNodup) :
    (forkOrder roots inner).Nodup ∧
      ∀ t, t ∈ forkOrder roots inner ↔ Valid inner 0 [] roots t := by
  have hp := forkOrder_perm_allForks roots inner hs hI
  refine ⟨hp.nodup_iff.mpr (allForks_nodup inner hIN roots 0 [] hSN), ?_⟩
  intro t
  rw [hp.mem_iff]
  exact mem_allForks inner roots 0 [] t

open Martian.ForkOrder in
/-- forks_bijection with a hypothesis a FINITE table satisfies: the nested
sources need to be known and non-empty only WHERE NEEDED — at the prefixes the enumeration
really consults (`bfsQ`) and at the prefixes valid pick sequences reach (`validKnown`);
`knownWhereNeeded` is one executable check, which the driver evaluates on every real case
(op `forkbij`).  Same conclusion: no duplicates, exactly the combinations the sources define. -/
theorem forks_bijection_where_known (roots : List Root) (inner : Inner) (hs : StaticKnown roots)
    (hK : knownWhereNeeded roots inner = true)
    (hSN : ∀ r ∈ roots, ∀ e, r = Root.static e → e.KeysNodup)
    (hIN : ∀ j pre, (inner j pre).KeysNodup) :
    (forkOrder roots inner).Nodup ∧
      ∀ t, t ∈ forkOrder roots inner ↔ Valid inner 0 [] roots t :=
  forks_bijection_on roots inner hs hK hSN hIN

open Martian.ForkOrder in
/-- Non-vacuity with a RAGGED finite table (unknown everywhere else, as every table the driver
builds): a static array of 2, the inner source has 3 elements under the first and 2 under the
second outer element. -/
example : knownWhereNeeded [Root.static (.arr 2), Root.dyn]
    (fun j pre => if j == 1 && pre == [.idx 0] then .arr 3
      else if j == 1 && pre == [.idx 1] then .arr 2 else .unknown) = true := by decide

open Martian.ForkOrder in
/-- … and the global hypothesis of `forks_bijection` fails for such a table -/
example : ¬ InnerKnown (fun j pre => if j == 1 && pre == [.idx 0] then .arr 3
      else if j == 1 && pre == [.idx 1] then .arr 2 else .unknown) := by
  intro h
  obtain ⟨x, xs, hx⟩ := h 0 []
  simp [Elems.parts] at hx

open Martian.ForkOrder in
/-- Under the hypotheses of `forks_bijection` the list of forks is a permutation of the ragged product enumerated root
by root (`allForks`). -/
theorem forks_perm_product (roots : List Root) (inner : Inner) (hs : StaticKnown roots)
    (hI : InnerKnown inner) : (forkOrder roots inner).Perm (allForks inner 0 [] roots) :=
  forkOrder_perm_allForks roots inner hs hI

open Martian.ForkOrder in
/-- non-vacuity of the hypotheses: a static array, a ragged nested map and a third level -/
example : StaticKnown [Root.static (.arr 2), Root.dyn, Root.dyn] ∧
    InnerKnown (fun j pre => if j == 1 then (if pre == [.idx 0] then .arr 3 else .arr 1)
      else .arr 2) := by
  refine ⟨?_, ?_⟩
  · intro r hr
    simp only [List.mem_cons, List.not_mem_nil, or_false] at hr
    rcases hr with rfl | rfl | rfl
    · exact Or.inr ⟨_, _, rfl, rfl⟩
    · exact Or.inl rfl
    · exact Or.inl rfl
  · intro j pre
    by_cases h1 : (j == 1) = true
    · by_cases h2 : (pre == [Part.idx 0]) = true
      · exact ⟨.idx 0, [.idx 1, .idx 2], by simp [h1, h2, Elems.parts]; decide⟩
      · exact ⟨.idx 0, [], by simp [h1, h2, Elems.parts]⟩
    · exact ⟨.idx 0, [.idx 1], by simp [h1, Elems.parts]; decide⟩


/-! ### per-site NAMES of the general theorems (documentation of the model, not guarantees)

The theorems of this section are ALIASES.  Each is the statement
`g (sortK l₁) = g (sortK l₂)` for some function `g` — true for EVERY `g` by
`function_of_sorted_order_independent` below, because the model loops over the SORTED keys —
written once more under the name of a Go loop that has this shape:
`invertSplit`, `wrapDisabled`, `MergeExp.BindingPath`, `CallGraphStage/Pipeline.unsplit`,
`Node.resolveInputs` / `TopNode.resolveMap` (= `accumulate_order_independent`);
`SplitExp.InnerMapSource` (= `foldSorted_order_independent`); `RefExp.FindRefs` over the fork
indices and `Fork.getStages` (the same statement twice); `resolveDisableMap` all-true;
`Fork.verifyPipelineOutput` (= the second half of `convertToExp_order_independent`).  Nothing
in Lean mentions the Go function: what ties a site to its shape is the reviewer's reading of the
loop, the differentials (`C10.accum` for the first four, `C10.firstfail`) and the provocations.
They document which site was read as which shape and do not count as guarantees. -/

/-- the one fact behind every alias: whatever is computed from the SORTED entries does not
depend on the order in which the map handed them over -/
theorem function_of_sorted_order_independent {V β : Type} (g : List (Key × V) → β)
    (l₁ l₂ : List (Key × V)) (h : l₁.Perm l₂) (hn : nodupKeys l₁ = true) :
    g (sortK l₁) = g (sortK l₂) := by
  rw [sort_entries_order_independent l₁ l₂ h hn]

/-- `invertSplit` (split_expression.go, MapExp branch) -/
theorem invertSplit_order_independent (l₁ l₂ : List (Key × EntryRes)) (h : l₁.Perm l₂)
    (hn : nodupKeys l₁ = true) :
    accumulate l₁ = accumulate l₂ ∧
      errorListText (accumulate l₁).errs = errorListText (accumulate l₂).errs := by
  rw [accumulate_order_independent l₁ l₂ h hn]; exact ⟨rfl, rfl⟩

/-- `wrapDisabled` (resolve_stage.go, MapExp branch) -/
theorem wrapDisabled_order_independent (l₁ l₂ : List (Key × EntryRes)) (h : l₁.Perm l₂)
    (hn : nodupKeys l₁ = true) : accumulate l₁ = accumulate l₂ :=
  accumulate_order_independent l₁ l₂ h hn

/-- `MergeExp.BindingPath`, static merge over a map (merge_exp.go) -/
theorem mergeBindingPath_order_independent (l₁ l₂ : List (Key × EntryRes)) (h : l₁.Perm l₂)
    (hn : nodupKeys l₁ = true) : accumulate l₁ = accumulate l₂ :=
  accumulate_order_independent l₁ l₂ h hn

/-- `CallGraphStage.unsplit` / `CallGraphPipeline.unsplit`, the loop over the inputs
(resolve_stage.go, resolve_pipeline.go) -/
theorem unsplit_order_independent (l₁ l₂ : List (Key × EntryRes)) (h : l₁.Perm l₂)
    (hn : nodupKeys l₁ = true) : accumulate l₁ = accumulate l₂ :=
  accumulate_order_independent l₁ l₂ h hn

/-- `Node.resolveInputs` and `TopNode.resolveMap` (core/resolve.go):
`allReady` is `done`, the MarshalerMap is `vals` -/
theorem resolveInputs_order_independent (l₁ l₂ : List (Key × EntryRes)) (h : l₁.Perm l₂)
    (hn : nodupKeys l₁ = true) : accumulate l₁ = accumulate l₂ :=
  accumulate_order_independent l₁ l₂ h hn

/-- `SplitExp.InnerMapSource` (split_expression.go) over a map literal: a fold (keep the
first source, replace it by a placeholder on a mismatch) over the sorted keys -/
theorem innerMapSource_order_independent {V β : Type} (f : β → Key × V → β) (init : β)
    (l₁ l₂ : List (Key × V)) (h : l₁.Perm l₂) (hn : nodupKeys l₁ = true) :
    foldSorted f init l₁ = foldSorted f init l₂ := foldSorted_order_independent f init l₁ l₂ h hn

/-- `RefExp.FindRefs` (expression.go) over the fork indices: the references of each
index source appended in the order of the sorted calls (key = call id, declaration id;
assumed distinct) -/
theorem refFindRefs_order_independent {V R : Type} (f : Key × V → List R) (l₁ l₂ : List (Key × V))
    (h : l₁.Perm l₂) (hn : nodupKeys l₁ = true) : (sortK l₁).flatMap f = (sortK l₂).flatMap f := by
  rw [sort_entries_order_independent l₁ l₂ h hn]

/-- `resolveDisableMap` (resolve_stage.go), all entries true: the entry with the
smallest key stands for all -/
theorem disableAllTrue_order_independent {V : Type} (l₁ l₂ : List (Key × V)) (h : l₁.Perm l₂)
    (hn : nodupKeys l₁ = true) : (sortK l₁).head? = (sortK l₂).head? := by
  rw [sort_entries_order_independent l₁ l₂ h hn]

/-- `Fork.getStages` (core/stage.go): the stages of the subnodes
appended in sorted order of the subnode names (the `stages` list of `_perf`) -/
theorem getStages_order_independent {V R : Type} (f : Key × V → List R) (l₁ l₂ : List (Key × V))
    (h : l₁.Perm l₂) (hn : nodupKeys l₁ = true) : (sortK l₁).flatMap f = (sortK l₂).flatMap f :=
  refFindRefs_order_independent f l₁ l₂ h hn

/-- `Fork.verifyPipelineOutput` (core/stage.go): the message of the first invalid
entry in sorted key order (the `_errors` text of a pipeline fork) -/
theorem verifyPipelineOutput_order_independent {W E : Type} (conv : Key → W → Except E Bytes)
    (l₁ l₂ : List (Key × W)) (h : l₁.Perm l₂) (hn : nodupKeys l₁ = true) :
    (firstFailure conv l₁).2 = (firstFailure conv l₂).2 := by
  rw [convertToExp_order_independent conv l₁ l₂ h hn]

end Props.C10
