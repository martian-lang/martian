/-
C09 tie: the round-trip theorems of Props/C09.lean are about a hand-written
recursive-descent READER (`Martian.FormatExp.parseToks` / `parseValExp`).  The
real parser is goyacc's table-driven loop; `Martian.LexerLR.parseLR` is that
loop — the model of `mmParse` on the tables re-read from grammar.go on every
run (proved memory safe and terminating for all inputs, Props/C08.lean
`lr_driver_total`; its state/action trace is compared with the real parser's own
debug trace on every run) — with the semantic actions of the value-expression
sub-grammar, recognised by their text in grammar.go, building the same AST type.

NOT proved: that the two parsers are equal on every token list THE LEXER CAN
PRODUCE (`LRAgrees`, quantified over the outputs of `lexAll`; on arbitrary lists
of token values it is false, `agreement_needs_lexable_tokens`; the
standard LR-correctness argument for this grammar is not carried out).  PROVED: the
instances for scalar expressions and empty collections (`lr_agrees_on_scalars`,
`format_then_goyacc_parse_scalar`, unconditional).  It is
CHECKED on every run of `./check C08`: ≥ 12 000 generated value expressions and
token-level mutants per quick run, model against model (`C08.lrcmp`), both also
against `Parser.ParseValExp`'s accept/reject; and EXHAUSTIVELY for every token
sequence of length ≤ 4 (thorough: ≤ 5) over an alphabet with one token of each
kind the grammar distinguishes (18 tokens, 111 151 sequences; `C08.lrexh`).  The corollaries below are
therefore `_partial`: they carry `LRAgrees` (or its instance for the token list
at hand) as an explicit hypothesis.
-/
import Proofs.FormatCallWords
import Proofs.FormatCall2Lex
import Proofs.FormatCall2Parse
import Proofs.FormatExpLex
import Proofs.FormatExpRound
import Martian.LexerLRSem
import Proofs.LexerLRScalar
import Proofs.TieC09

namespace Props.C09
open Martian.FormatExp Martian.LexerLR Martian.FormatCall Martian.FormatCall2

/-- the goyacc parser model and the recursive-descent reader return the same
result on every token list that the tokenizer `Martian.FormatExp.lexAll` produces from some
source text.  (Restricted to lexer outputs: the token TYPE has values no source
yields — `.reserved "true"`, `.punct 0` — on which the two functions differ,
see `agreement_needs_lexable_tokens`.)
What the per-run checks establish about it: `C08.lrcmp` compares the two on
`lexAll src` for ≥ 12 000 generated and mutated sources `src` per quick run —
instances of exactly this statement; `C08.lrexh` compares them on every sequence
of length ≤ 4 (thorough ≤ 5) over 18 tokens each of which the lexer produces
(one per token kind), i.e. on the lexer outputs of the sources obtained by
joining these tokens with blanks. -/
def LRAgrees : Prop := ∀ (src : List UInt8) (ts : List Tok), lexAll src = some ts → parseLR ts = parseToks ts

/- Full statement (the goal; not proved):
     theorem lr_agrees : LRAgrees -/

/-- Under `LRAgrees` the two front ends are the same function of the source text. -/
theorem goyacc_parse_eq_reader_partial (h : LRAgrees) (src : List UInt8) :
    parseValExpLR src = parseValExp src := by
  unfold parseValExpLR parseValExp
  cases hl : lexAll src with
  | none => rfl
  | some ts => exact h src ts hl

/-- **format, then the goyacc parser**: modulo `LRAgrees`, the real LR algorithm
with the real tables reads a printed well-formed value expression back as the
expression (up to the documented normalisations `norm`). -/
theorem format_then_goyacc_parse_partial (h : LRAgrees) (e : Exp) (hw : wf e = true) (hv : isVal e = true) :
    parseValExpLR (fmt [] e) = some (norm e) := by
  rw [goyacc_parse_eq_reader_partial h]
  exact parseValExp_fmt e [] hw hv rfl

/-- the same with any white-space indentation prefix -/
theorem format_prefix_then_goyacc_parse_partial (h : LRAgrees) (e : Exp) (p : List UInt8) (hw : wf e = true)
    (hv : isVal e = true) (hp : p.all isSp = true) : parseValExpLR (fmt p e) = some (norm e) := by
  rw [goyacc_parse_eq_reader_partial h]
  exact parseValExp_fmt e p hw hv hp

/-- and read-then-print through the goyacc parser is idempotent on printed texts -/
theorem goyacc_read_print_fixed_partial (h : LRAgrees) (e : Exp) (hw : wf e = true) (hv : isVal e = true) :
    (parseValExpLR (fmt [] e)).map (fmt []) = some (fmt [] e) := by
  rw [format_then_goyacc_parse_partial h e hw hv]
  simp only [Option.map_some]
  rw [fmt_norm e [] hw]

-- non-vacuity: on concrete token lists the two parsers do agree (kernel-evaluated: the LR loop on the
-- regenerated tables with the actions, against the reader), accepted and rejected alike:
-- `[1, {"a": null}, X.y]`, `{k: [true]}`, `[1,,]`, `X.y`
example :
    optExpEq (parseLR [.punct 0x5B, .int [0x31], .punct 0x2C, .punct 0x7B, .str [0x22, 0x61, 0x22], .punct 0x3A, .kNull,
        .punct 0x7D, .punct 0x2C, .id [0x58], .punct 0x2E, .id [0x79], .punct 0x5D])
      (parseToks [.punct 0x5B, .int [0x31], .punct 0x2C, .punct 0x7B, .str [0x22, 0x61, 0x22], .punct 0x3A, .kNull,
        .punct 0x7D, .punct 0x2C, .id [0x58], .punct 0x2E, .id [0x79], .punct 0x5D]) = true ∧
    (parseLR [.punct 0x7B, .id [0x6B], .punct 0x3A, .punct 0x5B, .kTrue, .punct 0x5D, .punct 0x7D]).isSome = true ∧
    optExpEq (parseLR [.punct 0x5B, .int [0x31], .punct 0x2C, .punct 0x2C, .punct 0x5D])
      (parseToks [.punct 0x5B, .int [0x31], .punct 0x2C, .punct 0x2C, .punct 0x5D]) = true ∧
    (parseLR [.id [0x58], .punct 0x2E, .id [0x79]]).isNone = true := by decide +kernel

/-! ## proved instances of `LRAgrees` -/

/-- `LRAgrees` holds on the token list of every printed SCALAR expression
(integers, floats, strings, booleans, null) and of the empty collections `[]`,
`{}`, for every token text: the driver run on the token kinds is evaluated by
the kernel on the regenerated tables, the semantic actions are replayed on the
symbolic token text. -/
theorem lr_agrees_on_scalars (e : Exp) (hs : isScalar e = true) : parseLR (toks e) = parseToks (toks e) :=
  lr_agrees_scalar e hs

/-- **format, then the goyacc parser — UNCONDITIONAL for scalar expressions and
empty collections**: no `LRAgrees` hypothesis. -/
theorem format_then_goyacc_parse_scalar (e : Exp) (hw : wf e = true) (hs : isScalar e = true) :
    parseValExpLR (fmt [] e) = some (norm e) :=
  Martian.LexerLR.format_then_goyacc_parse_scalar e hw hs

example : isScalar (.int (-5)) = true ∧ isScalar (.str [0x61]) = true ∧ isScalar (.arr []) = true ∧
    isScalar (.arr [.int 1]) = false := by decide +kernel

/-- Non-vacuity of `LRAgrees`: its instances for the printed scalar expressions
and empty collections are PROVED — the source `fmt [] e` lexes to `toks e`, and
on that token list the two parsers agree. -/
theorem lr_agrees_instances_proved (e : Exp) (hw : wf e = true) (hs : isScalar e = true) :
    lexAll (fmt [] e) = some (toks e) ∧ parseLR (toks e) = parseToks (toks e) :=
  ⟨lexAll_fmt_top e hw, lr_agrees_scalar e hs⟩

/-- Why the hypothesis is restricted to lexer outputs: on token VALUES that no
source text yields the two functions differ — the reader takes the word of a
`reserved` token or the byte of a `punct` token at face value, the goyacc model
translates them to scanner ids first (`.reserved "true"` becomes the TRUE token;
`.punct 0` becomes the end-of-input id).  (Kernel-evaluated.) -/
theorem agreement_needs_lexable_tokens :
    optExpEq (parseLR [.reserved [0x74, 0x72, 0x75, 0x65]]) (parseToks [.reserved [0x74, 0x72, 0x75, 0x65]]) = false ∧
    optExpEq (parseLR [.int [0x31], .punct 0]) (parseToks [.int [0x31], .punct 0]) = false := by decide +kernel

/-! ## call statements (`file: call_stm`) -/

/-- the goyacc parser model and the recursive-descent reader of a call statement
(`Martian.FormatCall2.pCall2`) return the
same result on every token list `lexAll` produces from some source text (NOT
proved; checked per run on `lexAll src` for ≥ 6000 generated call statements and
token-level mutants `src`, `C08.lrcmpcall`) -/
def LRCallAgrees : Prop :=
  ∀ (src : List UInt8) (ts : List Tok), lexAll src = some ts →
    parseLRCall ts = (match pCall2 ts with | some (c, []) => some c | _ => none)

/-- `ParseSourceBytes` on a file holding one call statement, through the goyacc model -/
def parseCallLR (src : List UInt8) : Option Call2 := (lexAll src).bind parseLRCall

theorem goyacc_parse_call_eq_reader_partial (h : LRCallAgrees) (src : List UInt8) :
    parseCallLR src = parseCall2 src := by
  unfold parseCallLR parseCall2
  cases hl : lexAll src with
  | none => rfl
  | some ts => simp only [Option.bind_some]; exact h src ts hl

/-- **format a call statement, then the goyacc parser**: modulo `LRCallAgrees`, the
real LR algorithm with the real tables and the real actions reads a printed
well-formed call statement (modifiers, `as`, `split` bindings, wildcard, `using`
block) back as the call in normal form. -/
theorem format_call_then_goyacc_parse_partial (h : LRCallAgrees) (c : Call2) (hw : wfCall2 c = true) :
    parseCallLR (fmtCall2 [] c) = some (normCall2 c) := by
  rw [goyacc_parse_call_eq_reader_partial h]
  exact parseCall2_fmtCall2 c hw

/-! ### translated definitions (development in Proofs/TieC09.lean)

`Gen.tr_idWidth` / `Gen.tr_BindStmFormat` are TRANSLATED from
martian/syntax/format_callable.go on every run (TRANSLATOR.md). -/

/-- the first loop of `BindStms.format` (records, `break`), on the ids of ANY list
of bindings, computes the model's `idWidthGo`; demands that the definition was
really extracted from the tree under test (not the committed default) -/
theorem tr_idWidth_eq_model (bs : List Martian.FormatCall.Bind) :
    Gen.tr_idWidth_extracted = true ∧
    Gen.tr_idWidth (bs.map (·.id)) = Int.ofNat (Martian.FormatCall2.idWidthGo bs) :=
  ⟨by decide, Proofs.TieC09.tr_idWidth_eq_model bs⟩

/-- `BindStm.format` (byte trace of the printer) with the column width `w` is the
model's `fmtBind`; extracted from the tree under test -/
theorem tr_BindStmFormat_eq_model (p : List UInt8) (w : Nat) (b : Martian.FormatCall.Bind) :
    Gen.tr_BindStmFormat_extracted = true ∧
    Gen.tr_BindStmFormat p (Int.ofNat w) b.id
        (fun q => (if b.split then Martian.FormatExp.sSplit ++ [0x20] else []) ++ Martian.FormatExp.fmt q b.exp) =
      Martian.FormatCall2.fmtBind p w b :=
  ⟨by decide, Proofs.TieC09.tr_BindStmFormat_eq_model p w b⟩


end Props.C09
