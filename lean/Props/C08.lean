/-
C08 — the parser/compiler is total.
The property theorems, and `convOK` with the two compositions `conversion_sites_total`, `front_end_total_partial`
(lemmas: Proofs/Lexer*.lean, Proofs/RegexOrder.lean, Proofs/Tokenizer*.lean; models: Martian/Lexer*.lean,
Martian/Regex.lean, Martian/RegexOrder.lean, Martian/Tokenizer.lean).

What is proved for ALL byte strings / token sequences: the token rules are their regenerated regexes;
the whole tokenizer (progress, termination, reconstruction, real line numbers); the lexer → converter
contract through the interpreted tokenizer; the modelled grammar actions are total on emitted tokens;
the goyacc DRIVER loop on the regenerated tables is memory safe, terminating and located
(`lr_checker_sound`, `lr_tables_checked`).  NOT a theorem (search only, harness/c08.go): the Go code
inside the semantic actions beyond the modelled conversions, the growth of the value stack, include
resolution, the compiler passes, and every clause about time or memory.
-/
import Martian.Lexer
import Martian.Regex
import Proofs.Lexer
import Proofs.LexerRegex
import Proofs.LexerRegexString
import Proofs.RegexOrder
import Martian.LexerId
import Proofs.LexerRegexId
import Proofs.TokenizerSpace
import Martian.LexerActions
import Proofs.LexerActions
import Martian.LexerLR
import Martian.LexerLRCheck
import Martian.LexerLRGen
import Proofs.LexerLR
import Proofs.LexerLRTables
import Proofs.LexerLRFacts
import Martian.LexerLRSem
import Martian.LexerLRSites
import Martian.Tokenizer
import Proofs.Tokenizer
import Gen.Facts

namespace Props.C08
open Martian.Lexer

/-! Regenerated obligations: the regex strings found in tokenizer.go now are
the ones the recognisers were written for (the float rule without the `(:?`
typo — on the unrepaired tree this is the obligation that breaks, F3). -/
theorem int_rule_src : Gen.tokIntRegex = intRuleSrc := rfl
theorem float_rule_src : Gen.tokFloatRegex = floatRuleSrc := rfl
theorem string_rule_src : Gen.tokStringRegex = stringRuleSrc := rfl

/-- On every token the integer rule admits (any number of leading zeros, then
at most 19 digits) `parseInt` computes the exact value when it fits in an
int64 and refuses otherwise: within the rule's bound the `uint64` accumulator
cannot wrap silently. -/
theorem int_tok_exact (b t : Bytes) (h : matchInt b = some t) :
    parseInt t = if inInt64 (intTokVal t) then some (intTokVal t) else none :=
  parseInt_exact h

example : matchInt [0x30, 0x30, 0x37, 0x29] = some [0x30, 0x30, 0x37] := by decide

/-- Negative witness F1: the rule admits 9223372036854775808 (2^63), on which
`parseInt` panics — the unchecked numeric branch (the tree before the repair)
hands it over. -/
theorem int_tok_total_unchecked_false :
    let s : Bytes := [0x39,0x32,0x32,0x33,0x33,0x37,0x32,0x30,0x33,0x36,0x38,0x35,0x34,0x37,0x37,0x35,0x38,0x30,0x38]
    numTokUnchecked false s = .int s ∧ parseInt s = none := by decide

/-- `parseInt` alone is NOT exact beyond the rule: for the 20-digit string
23058430092136939520 (= 10·2^61) the `uint64` product wraps and the overflow
test passes, returning 2^62. -/
theorem parseInt_wraps_beyond_rule :
    parseInt [0x32,0x33,0x30,0x35,0x38,0x34,0x33,0x30,0x30,0x39,0x32,0x31,0x33,0x36,0x39,0x33,0x39,0x35,0x32,0x30]
      = some 4611686018427387904 := by decide

/-- Negative witness F2: `1e999` is admitted by the float rule and rejected by
`parseFloat` (out of range). -/
theorem float_tok_total_unchecked_false :
    numTokUnchecked false [0x31, 0x65, 0x39, 0x39, 0x39] = .float [0x31, 0x65, 0x39, 0x39, 0x39] ∧
    parseFloat false [0x31, 0x65, 0x39, 0x39, 0x39] = none := by decide

/-- Negative witness F3: with the regex as shipped (`(:?`), `1:e5` is a float
token that is not even float syntax. -/
theorem float_rule_colon_typo :
    matchFloat true [0x31, 0x3A, 0x65, 0x35] = some [0x31, 0x3A, 0x65, 0x35] ∧
    goFloatSyntax [0x31, 0x3A, 0x65, 0x35] = none ∧
    matchFloat false [0x31, 0x3A, 0x65, 0x35] = none := by decide

/-- Every token the string rule admits is unquoted without a panic (every
escape form, any bytes between them). -/
theorem string_tok_unquote_total (b t : Bytes) (h : matchString b = some t) :
    ∃ out, unquoteBytes t = some out :=
  matchString_unquote h

/-- non-vacuity: `"a\x41\101é\U0001F600\"\n"` followed by other text -/
example : (matchString [0x22, 0x61, 0x5C, 0x78, 0x34, 0x31, 0x5C, 0x31, 0x30, 0x31, 0x5C, 0x75, 0x30, 0x30,
    0x65, 0x39, 0x5C, 0x55, 0x30, 0x30, 0x30, 0x31, 0x46, 0x36, 0x30, 0x30, 0x5C, 0x22, 0x5C, 0x6E, 0x22, 0x2C]).isSome = true := by
  decide +kernel

/-- Instances of the escape forms added for JSON compatibility: `"\/"` is `/`;
a high+low surrogate pair of `\u` escapes is one code point (U+1F600); a lone
or reversed surrogate is U+FFFD and the escape after it is still decoded. -/
theorem json_escape_samples :
    unquoteBytes [0x22, 0x5C, 0x2F, 0x22] = some [0x2F] ∧
    unquoteBytes [0x22, 0x5C,0x75,0x64,0x38,0x33,0x64, 0x5C,0x75,0x64,0x65,0x30,0x30, 0x22] = some [0xF0, 0x9F, 0x98, 0x80] ∧
    unquoteBytes [0x22, 0x5C,0x75,0x64,0x38,0x33,0x64, 0x61, 0x22] = some [0xEF, 0xBF, 0xBD, 0x61] ∧
    unquoteBytes [0x22, 0x5C,0x75,0x64,0x65,0x30,0x30, 0x5C,0x75,0x30,0x30,0x34,0x31, 0x22] = some [0xEF, 0xBF, 0xBD, 0x41] ∧
    (matchString [0x22, 0x5C, 0x2F, 0x22]).isSome = true := by decide +kernel

/-- `unquoteBytes` does panic outside the rule (`"\x1"`): the rule is what
protects it. -/
theorem unquote_panics_outside_rule : unquoteBytes [0x22, 0x5C, 0x78, 0x31, 0x22] = none ∧
    matchString [0x22, 0x5C, 0x78, 0x31, 0x22] = none := by decide

/-- The repaired `src_stm` action never panics, and reports an error exactly
when the unquoted command has no fields. -/
theorem src_action_total (cmd : Bytes) :
    srcAction cmd ≠ .panic ∧ (srcAction cmd = .error ↔ fields cmd = []) :=
  ⟨srcAction_no_panic cmd, srcAction_error_iff cmd⟩

example : srcAction [0x20, 0x61, 0x20, 0x62] = .ok ([0x61], [[0x62]]) ∧ srcAction [0x20, 0x09] = .error := by decide

/-- Negative witness F4: the action as shipped panics on a blank command. -/
theorem src_action_unchecked_panics : srcActionUnchecked [] = .panic ∧ srcActionUnchecked [0x20] = .panic := by
  decide

/-! ## The rules as REGULAR EXPRESSIONS: regex semantics, matcher, and the tie
of the hand-written recognisers to the regex text found in tokenizer.go -/

section regex
open Martian.Regex hiding Bytes isWord
open Martian.LexerRegex

/-- The leftmost-first matcher is sound for every regex of the AST and every
input: what it returns is a prefix of the input which the regex matches (in
the denotational semantics `Matches`, anchors evaluated in context). -/
theorem regex_matcher_sound (r : Re) (s w : Bytes) (h : pmatch r s = some w) :
    ∃ post, s = w ++ post ∧ Matches r [] w post :=
  pmatch_sound h

/-- The leftmost-first matcher is complete: it reports "no match" only when no prefix of the input
matches (backtracking is exhaustive; the fuel of the star loop suffices;
skipping empty iterations loses nothing). -/
theorem regex_matcher_complete (r : Re) (s : Bytes) :
    pmatch r s = none ↔ ¬ ∃ w post, s = w ++ post ∧ Matches r [] w post :=
  pmatch_none_iff r s

-- non-vacuity, and the leftmost-FIRST (not leftmost-longest) preference: `^(?:a|ab)` on "ab" is "a"
example : (parse "^(?:a|ab)").map (fun r => pmatch r [0x61, 0x62]) = some (some [0x61]) ∧
    (parse "^(?:ab|a)").map (fun r => pmatch r [0x61, 0x62]) = some (some [0x61, 0x62]) ∧
    (parse "^a{2,3}\\b").map (fun r => pmatch r [0x61, 0x61, 0x61, 0x61]) = some none := by
  repeat rw [parse_ofList]
  decide +kernel

/-- Regenerated obligation: the regex SYNTAX parser, run on the integer rule's
regex text as found in tokenizer.go now, yields the AST the proofs are about. -/
theorem int_rule_parses : parse Gen.tokIntRegex = some intRe := by
  rw [Gen.tokIntRegex, parse_ofList]; decide +kernel

theorem float_rule_parses : parse Gen.tokFloatRegex = some floatRe := by
  rw [Gen.tokFloatRegex, parse_ofList]; decide +kernel

/-- For EVERY input the hand-written integer recogniser returns exactly the
prefix that the leftmost-first semantics of the parsed, regenerated regex of
`tokIntRule` selects (`none` = no match).  A change of the regex in the Go
source either changes `parse Gen.tokIntRegex` (this theorem breaks at
`int_rule_parses`) or leaves the AST, hence the matched language, unchanged. -/
theorem int_rule_is_regex (s : Bytes) :
    (parse Gen.tokIntRegex).map (fun r => pmatch r s) = some (matchInt s) := by
  rw [int_rule_parses]; exact congrArg some (pmatch_intRe s)

/-- The same for the float rule (the repaired regex, `(?:` instead of `(:?`). -/
theorem float_rule_is_regex (s : Bytes) :
    (parse Gen.tokFloatRegex).map (fun r => pmatch r s) = some (matchFloat false s) := by
  rw [float_rule_parses]; exact congrArg some (pmatch_floatRe s)

example : (parse Gen.tokIntRegex).map (fun r => pmatch r [0x2D, 0x30, 0x37, 0x2C]) = some (some [0x2D, 0x30, 0x37]) ∧
    (parse Gen.tokFloatRegex).map (fun r => pmatch r [0x31, 0x2E, 0x35, 0x65, 0x2D, 0x33, 0x5D])
      = some (some [0x31, 0x2E, 0x35, 0x65, 0x2D, 0x33]) := by
  rw [int_rule_parses, float_rule_parses]; decide +kernel

/-- Every text the float rule's regex admits is accepted by the syntax of
`strconv.ParseFloat` (decimal literal: digits, optional fraction, optional
exponent): the converter can refuse a NUM_FLOAT candidate only for being out
of range — which `keywordToken` tests before it emits the token. -/
theorem float_rule_admits_only_go_syntax (s t : Bytes)
    (h : (parse Gen.tokFloatRegex).map (fun r => pmatch r s) = some (some t)) :
    (goFloatSyntax t).isSome = true := by
  rw [float_rule_is_regex] at h
  injection h with h
  exact matchFloat_goSyntax s t h

/-- Every text the integer rule's regex admits has the syntax of
`strconv.ParseInt(…, 10, 64)` (optional sign, digits). -/
theorem int_rule_admits_only_go_syntax (s t : Bytes)
    (h : (parse Gen.tokIntRegex).map (fun r => pmatch r s) = some (some t)) :
    goIntSyntax t = true := by
  rw [int_rule_is_regex] at h
  injection h with h
  exact matchInt_goSyntax s t h

example : goIntSyntax [0x2D, 0x30, 0x37] = true ∧ goIntSyntax [0x2D] = false ∧ goIntSyntax [0x31, 0x5F, 0x30] = false := by
  decide

theorem string_rule_parses : parse Gen.tokStringRegex = some stringRe := by
  rw [Gen.tokStringRegex, parse_ofList]; decide +kernel

/-- For EVERY input (invalid UTF-8 included: a negated class consumes one rune
as `utf8.DecodeRune` delimits it) the hand-written string recogniser returns
exactly the prefix that the leftmost-first semantics of the parsed, regenerated
regex of `tokStringRule` selects. -/
theorem string_rule_is_regex (s : Bytes) :
    (parse Gen.tokStringRegex).map (fun r => pmatch r s) = some (matchString s) := by
  rw [string_rule_parses]; exact congrArg some (pmatch_stringRe s)

/-- One direction of `string_rule_is_regex`: what the regex returns is what `matchString` returns. -/
theorem string_rule_regex_sound_partial (s t : Bytes)
    (h : (parse Gen.tokStringRegex).map (fun r => pmatch r s) = some (some t)) :
    matchString s = some t := by
  rw [string_rule_is_regex] at h
  exact (Option.some.inj h)

/-- Hence every LITSTRING token that Go's regexp can return for the rule's
regex is unquoted without a panic (all escape forms, any bytes). -/
theorem string_regex_tok_unquote_total (s t : Bytes)
    (h : (parse Gen.tokStringRegex).map (fun r => pmatch r s) = some (some t)) :
    ∃ out, unquoteBytes t = some out :=
  matchString_unquote (string_rule_regex_sound_partial s t h)

example : (parse Gen.tokStringRegex).map (fun r => pmatch r [0x22, 0x61, 0x5C, 0x6E, 0xC3, 0xA9, 0x22, 0x20])
    = some (some [0x22, 0x61, 0x5C, 0x6E, 0xC3, 0xA9, 0x22]) := by
  rw [string_rule_parses]; decide +kernel

theorem id_rule_parses : parse Gen.tokIdRegex = some idRe := by
  rw [Gen.tokIdRegex, parse_ofList]; decide +kernel

/-- The identifier rule: for every input the hand-written recogniser `matchId`
(optional `_`, a letter, the maximal run of word characters) returns exactly
the leftmost-first match of the parsed, regenerated regex of `tokIdRule`. -/
theorem id_rule_is_regex (s : Bytes) :
    (parse Gen.tokIdRegex).map (fun r => pmatch r s) = some (matchId s) := by
  rw [id_rule_parses]; exact congrArg some (pmatch_idRe s)

example : matchId [0x5F, 0x61, 0x31, 0x5F, 0x2E] = some [0x5F, 0x61, 0x31, 0x5F] ∧ matchId [0x5F, 0x31] = none ∧
    matchId [0x61, 0xC3, 0xA9] = some [0x61] := by decide

/-! ### leftmost-FIRST: the priority order of matches -/

/-- `ends r [] s` enumerates the matches of prefixes of `s` best-first (first
alternative before the second, more iterations of a greedy repetition before
fewer — Go's leftmost-first / Perl order).  It contains exactly the matches of
the denotational semantics … -/
theorem regex_enumeration_exact (r : Re) (s p rest : Bytes) :
    (p, rest) ∈ ends r [] s ↔ ∃ w, s = w ++ rest ∧ p = w.reverse ++ [] ∧ Matches r [] w rest :=
  mem_ends_iff r [] s p rest

/-- `pmatch` returns the FIRST element of `ends r [] s`, for every regex and input (and
with any continuation the matcher returns the first element the continuation
accepts: `Martian.Regex.m_eq_firstSome`). -/
theorem regex_matcher_first (r : Re) (s : Bytes) :
    pmatch r s = (ends r [] s).head?.map fun x => x.1.reverse :=
  pmatch_first r s

-- the order for `^(?:a|ab)(?:c|bcd)?` on "abcd": abcd, a, abc, ab (Perl order, not longest-first)
example : (parse "^(?:a|ab)(?:c|bcd)?").map (fun r => (ends r [] [0x61, 0x62, 0x63, 0x64]).map fun x => x.1.reverse) =
    some [[0x61, 0x62, 0x63, 0x64], [0x61], [0x61, 0x62, 0x63], [0x61, 0x62]] := by
  rw [parse_ofList]; decide +kernel

/-- For the three literal rules the enumeration has at most one element: the
rule theorems above hold whatever the preference order is. -/
theorem rule_match_unique (s : Bytes) :
    (∀ x ∈ ends intRe [] s, ∀ y ∈ ends intRe [] s, x = y) ∧
    (∀ x ∈ ends floatRe [] s, ∀ y ∈ ends floatRe [] s, x = y) ∧
    (∀ x ∈ ends stringRe [] s, ∀ y ∈ ends stringRe [] s, x = y) :=
  ⟨matchInt_decides.ends_unique s, matchFloat_decides.ends_unique s, matchString_decides.ends_unique s⟩

end regex

/-! ## The whole tokenizer: `nextToken` for all token kinds (interpreted from the
regenerated first-byte switch of `keywordToken` and the regenerated token
constants) and the `Lex` scanner loop -/

section tokenizer
open Martian.Tokenizer

/-- Progress, full rule set, for ANY switch table / token-id table (so also for
the ones found in the source now): the text `nextToken` returns is a prefix of
the head, and it is non-empty unless the token is INVALID — every iteration
of `Lex` consumes at least one byte or hands INVALID to the parser. -/
theorem lexer_progress_full (T : Tables) (head : Martian.Lexer.Bytes) :
    (nextTokenT T head).2 <+: head ∧
    ((nextTokenT T head).1 = invalidId T ∨ 0 < (nextTokenT T head).2.length) :=
  ⟨nextTokenT_prefix T head, nextTokenT_progress T head⟩

/-- Termination of the scanner loop for the regenerated tables: it stops on its
own (end of input or INVALID) within `length + 1` iterations — more fuel
changes nothing. -/
theorem lex_terminates (src : Martian.Lexer.Bytes) (f : Nat) (h : src.length + 1 ≤ f) :
    lexRawFuel genTables f src startLoc = lexAllRaw src :=
  lexAllRaw_fuel src f h

/-- The texts of all tokens (skipped white space and comments included), in
order, followed by the unconsumed rest, are the input; a rest remains only
after an INVALID token. -/
theorem lex_reconstructs (src : Martian.Lexer.Bytes) :
    ((lexAllRaw src).1.map Tok.text).flatten ++ (lexAllRaw src).2 = src ∧
    ((lexAllRaw src).2 ≠ [] → ∃ pre t, (lexAllRaw src).1 = pre ++ [t] ∧ t.id = invalidId genTables) :=
  lexAllRaw_reconstructs src

/-- What the reported line of a token is: 1 + the newlines in the white-space
tokens, comments and other tokens (string literals) before it. -/
theorem lex_line (src : Martian.Lexer.Bytes) (pre : List Tok) (t : Tok) (post : List Tok)
    (h : (lexAllRaw src).1 = pre ++ t :: post) : t.line = 1 + (pre.map (lineAdvance genTables)).sum :=
  lexAllRaw_line src pre t post h

-- non-vacuity: `in x\n#\n$` is IN, ID, then INVALID on line 3
example : (lexAll [0x69, 0x6E, 0x20, 0x78, 0x0A, 0x23, 0x0A, 0x24]).map (fun t => (t.id, t.line)) =
    [(57354, 1), (57378, 1), (57348, 3)] := by decide +kernel

/-- The reported line is the real line: the line of every token is 1 + the
number of newline bytes in the source before it (`lex_reconstructs`: the texts
of the tokens before it ARE the source up to it): newlines inside string literals
count, and a comment advances the line by the newline it contains. -/
theorem lex_real_line (src : Martian.Lexer.Bytes) (pre : List Tok) (t : Tok) (post : List Tok)
    (h : (lexAllRaw src).1 = pre ++ t :: post) : t.line = 1 + countNL (pre.map Tok.text).flatten :=
  lexAllRaw_real_line src pre t post h

/-- Witnesses of the line bookkeeping, replayed on the real scanner: in
`"a⏎b" x` the identifier is reported on line 2, column 4 (before the first
repair: line 1); in `#\xff` — a comment cut short by an invalid byte — the
INVALID token is reported on line 1, column 2 (before the second repair: line 2
of a one-line file). -/
theorem line_count_quirks :
    (lexAll [0x22, 0x61, 0x0A, 0x62, 0x22, 0x20, 0x78]).map (fun t => (t.line, t.col)) = [(1, 1), (2, 4)] ∧
    (lexAll [0x23, 0xFF]).map (fun t => (t.id, t.line, t.col)) = [(57348, 1, 2)] := by decide +kernel

/-- The identifier rule of the tokenizer model (which runs the generic matcher
on the parsed regenerated regex) is the hand-written recogniser. -/
theorem tokenizer_id_rule (b : Martian.Lexer.Bytes) :
    (idRule genTables b).1 = ((Martian.Lexer.matchId b).getD []) := by
  have e : genTables.idRe = some Martian.LexerRegex.idRe := id_rule_parses
  unfold idRule
  rw [e]
  simp only [Martian.LexerRegex.pmatch_idRe]
  cases Martian.Lexer.matchId b <;> rfl

/-- The white-space set of `leadingSpace` is the one of the sources: its ASCII
fast path is the case list found in tokenizer.go now, and for runes ≥ 0x80 it
is `unicode.IsSpace`, i.e. membership in the `White_Space` range table found in
the toolchain's unicode/tables.go now (lo, hi, stride). -/
theorem leading_space_set (c : UInt8) (r : Nat) (h : 0x80 ≤ r) :
    isAsciiSpace c = Gen.tokSpaceAscii.contains c.toNat ∧
    isUniSpace r = inStride Gen.unicodeWhiteSpace r :=
  ⟨asciiSpace_eq_source c, uniSpace_eq_table r h⟩

example : isUniSpace 0x2003 = true ∧ isUniSpace 0x200B = false ∧ isUniSpace 0xFEFF = false := by decide

end tokenizer

/-! ## The next layer: the grammar ACTIONS that convert token texts
(`float_32`, resource values, `val_exp`, every `unquote` site, `src`, the
`arr_list` dimension counter) as total functions on tokens -/

section actions
open Martian.LexerActions

/-- Every action site, fed with a token text that ONE `nextToken` call of the
tokenizer model can emit with the kind it needs (NUM_INT, NUM_FLOAT or
LITSTRING), yields a value or a located error — never a panic.  (Hypothesis:
one `nextToken` call on some head; `Martian.Tokenizer.lexAll_mem` says that every token the scanner loop
hands the parser is such a token, which `front_end_total_partial` uses.) -/
theorem actions_total (s : Site) (k : Kind) (head t : Martian.Lexer.Bytes) (h : emits k head t) :
    act s k t ≠ .panic :=
  Martian.LexerActions.actions_total s k head t h

/-- … and an accepted kind is refused (located error) only for a float outside
the 32-bit range at a resource/float_32 site, or at the `src` site (blank
command). -/
theorem actions_error_only (s : Site) (k : Kind) (head t : Martian.Lexer.Bytes) (h : emits k head t)
    (ha : s.accepts k = true) (he : act s k t = .error) :
    (k = .numFloat ∧ (s = .float32 ∨ s = .threads ∨ s = .memGb ∨ s = .vmemGb) ∧ parseFloat true t = none) ∨
    (s = .src ∧ k = .litString) :=
  Martian.LexerActions.actions_error_only s k head t h ha he

/-- An emitted NUM_INT in a value expression becomes exactly its value, which
fits in an int64. -/
theorem val_int_exact (head t : Martian.Lexer.Bytes) (h : emits .numInt head t) :
    valAction .numInt t = .ok (.int (intTokVal t)) ∧ inInt64 (intTokVal t) = true :=
  valAction_int_exact h

set_option exponentiation.threshold 1100 in
example : emits .numFloat [0x31, 0x65, 0x33, 0x39, 0x2C] [0x31, 0x65, 0x33, 0x39] := by unfold emits; decide +kernel

/-- The `int16` dimension counter of `arr_list` cannot wrap: k pairs of `[]`
give k (< 2^15) or a located error. -/
theorem arr_list_total (k : Nat) :
    (∃ n : Int, arrList k = .ok n ∧ 0 ≤ n ∧ n < 2 ^ 15 ∧ n = k) ∨ (arrList k = .error ∧ 32767 < k) :=
  arrList_total k

/-- Negative witnesses, replayed on the real code by the harness: without its
guard the counter wraps to −32768; `1e39` is a NUM_FLOAT on which a direct
float32 conversion would panic while the action reports an error. -/
theorem arr_list_unguarded_wraps : arrListUnguarded 32768 = .ok (-32768) ∧ arrStepUnguarded 32767 = .ok (-32768) ∧
    arrStep 32767 = .error :=
  arrListUnguarded_wraps

theorem float32_unchecked_panics :
    numTok false [0x31, 0x65, 0x33, 0x39] = .float [0x31, 0x65, 0x33, 0x39] ∧
    float32FloatUnchecked [0x31, 0x65, 0x33, 0x39] = .panic ∧
    float32Float [0x31, 0x65, 0x33, 0x39] = .error :=
  Martian.LexerActions.float32_unchecked_panics

/-- The map dimension of `type_id` (`1 +` the inner array dimension, an int16):
since the repair 96a192c it is exact and below 2^15 for every count the
`arr_list` counter can deliver, or a located error. -/
theorem map_dim_total (n : Int) (h0 : 0 ≤ n) (h1 : n ≤ 32767) :
    (mapDim n = .ok (n + 1) ∧ n + 1 < 2 ^ 15) ∨ (mapDim n = .error ∧ n = 32767) :=
  mapDim_total n h0 h1

/-- Negative witness about the UNGUARDED action (the code before the repair;
the harness replays it and checks that the real code no longer behaves so):
32767 inner array dimensions of a map type wrapped the dimension to −32768. -/
theorem map_dim_wraps : mapDimUnguarded 32767 = -32768 ∧
    (∀ n : Int, 0 ≤ n → n < 32767 → mapDimUnguarded n = n + 1) :=
  mapDimUnguarded_wraps

end actions

/-! ## The lexer → converter contract through the INTERPRETED tokenizer -/

section contract
open Martian.LexerActions Martian.Tokenizer

/-- Whatever ONE call of `nextToken` (all clauses of the regenerated switch
interpreted, not only the numeric one) returns with the id of NUM_FLOAT /
NUM_INT / LITSTRING is accepted by the converter the grammar applies to that
kind: no other clause of `Gen.tokSwitch` can produce these ids, the numeric
clause emits them only after the range check, and the string rule's texts are
all unquotable. -/
theorem tokenizer_converter_contract (head t : Martian.Lexer.Bytes) :
    (nextToken head = (lookupId Gen.tokIds "NUM_FLOAT", t) → ∃ l, parseFloat false t = some l) ∧
    (nextToken head = (lookupId Gen.tokIds "NUM_INT", t) → ∃ i, parseInt t = some i) ∧
    (nextToken head = (lookupId Gen.tokIds "LITSTRING", t) → ∃ out, unquoteBytes t = some out) :=
  ⟨fun h => emitted_float_parses (head := head) h, fun h => emitted_int_parses (head := head) h,
   fun h => emitted_string_unquotes (head := head) h⟩

/-- … and such a token is the leftmost-first match of the rule's regenerated
regex at the head. -/
theorem tokenizer_num_token_is_regex_match (head t : Martian.Lexer.Bytes) :
    (nextToken head = (lookupId Gen.tokIds "NUM_FLOAT", t) →
      (Martian.Regex.parse Gen.tokFloatRegex).map (fun r => Martian.Regex.pmatch r head) = some (some t)) ∧
    (nextToken head = (lookupId Gen.tokIds "LITSTRING", t) →
      (Martian.Regex.parse Gen.tokStringRegex).map (fun r => Martian.Regex.pmatch r head) = some (some t)) := by
  constructor
  · intro h
    rw [float_rule_is_regex, (numTok_float (emits_rule (k := .numFloat) (head := head) (t := t) h)).1]
  · intro h
    rw [string_rule_is_regex, emits_rule (k := .litString) (head := head) (t := t) h]

end contract

/-! ## Recogniser ⇔ DENOTATIONAL semantics (independent of the executable matcher) -/

section denotational
open Martian.Regex hiding Bytes isWord
open Martian.LexerRegex

/-- The hand-written recognisers decide the denotational semantics of the rule
regexes: `w` followed by `post` matches the regex (anchors evaluated in that
context) iff the recogniser, run on `w ++ post`, returns `w`.  (Hence a rule's
match is unique: `rule_match_unique`.) -/
theorem rules_decide_semantics (w post : Bytes) :
    (Matches intRe [] w post ↔ matchInt (w ++ post) = some w) ∧
    (Matches floatRe [] w post ↔ matchFloat false (w ++ post) = some w) ∧
    (Matches stringRe [] w post ↔ matchString (w ++ post) = some w) ∧
    (Matches idRe [] w post ↔ matchId (w ++ post) = some w) :=
  ⟨int_matches_iff w post, float_matches_iff w post, string_matches_iff w post, id_matches_iff w post⟩

end denotational

/-! ## The PARSER DRIVER: `mmParse` on the regenerated goyacc tables -/

section lr
open Martian.LexerLR

/-- The table checker is sound, for ANY tables and certificate: if `check T C`
evaluates to true then for every input (the ids `Lex` returns, call by call)
and every oracle for the semantic actions that can abort the parse, the driver
loop `mmParse` — shift / reduce / goto, exception table, `mmlex1`, error
recovery and `mmErrorMessage` — never indexes outside a table and never pops
the bottom of its stack (`panic`), stops within `fuelFor` rounds (`outOfFuel`),
and returns accept, an action error, or a syntax error at a lookahead token of
the input. -/
theorem lr_checker_sound (T : Tables) (C : Cert) (h : check T C = true) (fail : Nat → Bool) (input : List Int) :
    GoodOutcome input.length (runFuel T fail (fuelFor C input) (init input) [.push 0]).1 :=
  parse_total h fail input

/-- Regenerated obligation: the tables found in grammar.go now, with the
certificate the extractor computed from them (which states can lie below which
on the stack; a rank of the states that every reduction lowers), pass the
check.  Evaluated by the kernel: every (state, token) cell, every reduction
with every possible exposed state. -/
theorem lr_tables_checked : check genTables genCert = true := gen_tables_checked.1

/-- `lr_checker_sound` for the parser as generated: memory safety, termination, progress
of the error path (no state shifts `error`, so a syntax error ends the parse at
once), result located. -/
theorem lr_driver_total (fail : Nat → Bool) (input : List Int) :
    GoodOutcome input.length (runFuel genTables fail (fuelFor genCert input) (init input) [.push 0]).1 :=
  parse_total lr_tables_checked fail input

-- non-vacuity: `[1]` is accepted; `[1` is a syntax error at token 2 (the end of the input)
example : (runFuel genTables (fun _ => false) 100 (init [91, 57381, 93]) []).1 = .accept ∧
    (runFuel genTables (fun _ => false) 100 (init [91, 57381]) []).1 = .syntaxError 2 := by decide +kernel

/-- The tables are transported in chunks of 32: every table of the regenerated
facts is well chunked, so the model's `tab[i/32][i%32]` is Go's `tab[i]`. -/
theorem lr_tables_well_chunked :
    (wellChunked genTables.exca && wellChunked genTables.act && wellChunked genTables.pact &&
     wellChunked genTables.pgo && wellChunked genTables.r1 && wellChunked genTables.r2 &&
     wellChunked genTables.chk && wellChunked genTables.dfl && wellChunked genTables.tok1 &&
     wellChunked genTables.tok2 && wellChunked genTables.tok3 && wellChunked genCert.pred &&
     wellChunked genCert.rank) = true := by decide +kernel

/-- The scanner's SKIP, COMMENT and INVALID ids (and `$end`, `error`) are never
shifted by any state: after an INVALID token the driver asks for no further
token (`tokenIds` may stop there), and SKIP/COMMENT would be rejected if `Lex`
ever returned them. -/
theorem lr_invalid_never_shifted :
    ((["SKIP", "COMMENT", "INVALID"].all fun name =>
        match lex1 genTables (Martian.Tokenizer.lookupId Gen.tokIds name : Nat) with
        | some tok => neverShifted genTables tok
        | none => false) &&
      neverShifted genTables genTables.eofCode && neverShifted genTables genTables.errCode) = true := gen_tables_checked.2

/-- the oracle is consulted only at the productions whose action contains a
`return` (`Gen.mmFailProds`): even the oracle "every action aborts" cannot make
the parse of `[1]` fail -/
example : (runFuel genTables (fun _ => true) 100 (init [91, 57381, 93]) []).1 = .accept := by decide +kernel

/-- The grammar as regenerated from grammar.y (`Gen.mmProdRhs`) is the grammar of
the parser tables: as many productions, every right-hand side as long as
`mmR2` says, and left-hand side names and the nonterminal numbers of `mmR1`
correspond one to one (`lhsPairs`: the distinct (name, number) pairs). -/
theorem lr_productions_match_tables :
    Gen.mmProdRhs.length = NP genTables ∧
    ((List.range Gen.mmProdRhs.length).all fun n =>
      n == 0 || ((prodRhs n).length : Int) == (genTables.r2.get? n).getD (-1)) = true ∧
    (lhsPairs.all fun p => lhsPairs.all fun q => (p.1 == q.1) == (p.2 == q.2)) = true := gen_grammar_matches_tables.1

/-- The `mmDollar = mmS[mmpt-K : mmpt+1]` slice at the head of every action that
uses `$i` takes exactly the right-hand side: K = `mmR2[n]` for every such
production, so the slice is in range whenever the reduction does not pop below
the bottom of the stack (`lr_checker_sound`). -/
theorem lr_dollar_slices_match :
    (Gen.mmDollarLen.all fun p => (genTables.r2.get? p.1) == some (p.2 : Int)) = true ∧
    Gen.mmDollarLen.length > 0 := gen_lr_dollar_slices_match

/-- Regenerated obligation on the CONVERSION CALL SITES: the calls of parseInt /
parseFloat / tryParseFloat32 / unquote in the actions of grammar.go now are
exactly the ones the action model (Martian/LexerActions.lean `Site`) was written
for, and each is applied to a grammar symbol whose value is the text of a token
of the kind the converter is total on (NUM_INT, NUM_FLOAT, LITSTRING; `help` and
`outname` are chain productions over LITSTRING).  A new `parseInt($2)` on an ID,
or an `unquote` moved to another symbol, breaks this. -/
theorem conversion_sites_pinned :
    (Gen.mmConvSites.map fun s => (prodLhs s.1, s.2.1, siteSymbol s)) = expectedSites ∧
    (Gen.mmConvSites.all fun s => siteSymbol s == wants s.2.1 &&
      ["parseInt", "parseFloat", "tryParseFloat32", "unquote"].contains s.2.1) = true := gen_grammar_matches_tables.2

/-- what "the converter does not panic" means per converter -/
def convOK (fn : String) (t : Martian.Lexer.Bytes) : Prop :=
  (fn = "parseInt" → ∃ i, parseInt t = some i) ∧
  (fn = "parseFloat" → ∃ l, parseFloat false t = some l) ∧
  (fn = "unquote" → ∃ out, unquoteBytes t = some out) ∧
  (fn = "tryParseFloat32" → Martian.LexerActions.float32Float t ≠ .panic)

/-- Every conversion call site of grammar.go, given the text of a token that one
`nextToken` call emits with the kind of the site's grammar symbol, converts it
(or, for `tryParseFloat32`, reports a located range error) without a panic. -/
theorem conversion_sites_total (s : Nat × String × Nat) (hs : s ∈ Gen.mmConvSites)
    (head t : Martian.Lexer.Bytes)
    (h : Martian.Tokenizer.nextToken head = (Martian.Tokenizer.lookupId Gen.tokIds (siteSymbol s), t)) :
    convOK s.2.1 t := by
  have hp := (List.all_eq_true.mp conversion_sites_pinned.2) s hs
  simp only [Bool.and_eq_true, beq_iff_eq] at hp
  rw [hp.1] at h
  have hc := tokenizer_converter_contract head t
  refine ⟨?_, ?_, ?_, ?_⟩
  · intro e; rw [e] at h; exact hc.2.1 (by simpa [wants] using h)
  · intro e; rw [e] at h; exact hc.1 (by simpa [wants] using h)
  · intro e; rw [e] at h; exact hc.2.2 (by simpa [wants] using h)
  · intro _; exact Martian.LexerActions.float32Float_no_panic t

/-- Scanner, LR driver and conversion sites, for one source text (`_partial`:
see the gap below).  For every source (any bytes) and every oracle for the
aborting actions (consulted only at the productions of `Gen.mmFailProds`):
(1) the scanner loop stops on its own (more fuel changes nothing), the texts of
all its tokens followed by the unconsumed rest are the source, and a rest is
left only after an INVALID token;
(2) the parser driver, run on the ids of the scanner's tokens, returns accept, an
action error, or a syntax error at one of these tokens or at the end of the
input — never an index panic, never out of fuel;
(3) every token `t` of the stream is the result of one `nextToken` call on a
suffix of the source, and EVERY conversion call site of grammar.go whose grammar
symbol is `t`'s kind converts `t`'s text without a panic.
GAP (not proved): that the `$i` a conversion site reads during the parse is the
text of a token of the stream of the site's symbol — it is, by the LR discipline
(a terminal on the right-hand side is a shifted token, `help`/`outname` pass it
on), but the value stack is not in this model outside the value-expression
sub-grammar (`parseLR`); the position of a syntax error at the END of the input
(`endLoc`) and the columns have no theorem (`lex_real_line` covers the lines of
tokens).  OUTSIDE altogether: the Go code inside the semantic actions other than
the conversions (AST node construction, `append`, map insertion, comment
attachment), the growth of the value stack (`make`/`copy`), include resolution
and the compiler passes — search only. -/
theorem front_end_total_partial (fail : Nat → Bool) (src : Martian.Lexer.Bytes) :
    ((∀ f, src.length + 1 ≤ f →
        Martian.Tokenizer.lexRawFuel Martian.Tokenizer.genTables f src Martian.Tokenizer.startLoc
          = Martian.Tokenizer.lexAllRaw src) ∧
      (((Martian.Tokenizer.lexAllRaw src).1.map Martian.Tokenizer.Tok.text).flatten
          ++ (Martian.Tokenizer.lexAllRaw src).2 = src) ∧
      ((Martian.Tokenizer.lexAllRaw src).2 ≠ [] → ∃ pre t, (Martian.Tokenizer.lexAllRaw src).1 = pre ++ [t] ∧
          t.id = Martian.Tokenizer.invalidId Martian.Tokenizer.genTables)) ∧
    GoodOutcome (Martian.Tokenizer.lexAll src).length (parseSource fail src).1 ∧
    (∀ t ∈ Martian.Tokenizer.lexAll src,
      (∃ head, Martian.Tokenizer.nextToken head = (t.id, t.text)) ∧
      ∀ s ∈ Gen.mmConvSites, t.id = Martian.Tokenizer.lookupId Gen.tokIds (siteSymbol s) → convOK s.2.1 t.text) := by
  refine ⟨⟨fun f hf => lex_terminates src f hf, (lex_reconstructs src).1, (lex_reconstructs src).2⟩, ?_, ?_⟩
  · have := lr_driver_total fail (tokenIds src)
    simpa [parseSource, tokenIds] using this
  · intro t ht
    obtain ⟨head, hh⟩ := Martian.Tokenizer.lexAll_mem src t ht
    refine ⟨⟨head, hh⟩, ?_⟩
    intro s hs hid
    exact conversion_sites_total s hs head t.text (by rw [hh, hid])

/-- Regenerated obligation for the semantic values of the value-expression
sub-grammar (`parseLR`, Martian/LexerLRSem.lean; used by Props/C09Tie.lean):
every modelled action is found, by its text, among the actions of grammar.go
now, and no two productions with different modelled actions share a text.  A
changed action body is no longer recognised and breaks this. -/
theorem lr_value_actions_recognised :
    (semTable.all fun p => Gen.mmProdBody.any fun q => q.2 == p.1) = true ∧
    (semTable.all fun p => semTable.all fun q => p.1 != q.1 || p.2 == q.2) = true := gen_action_texts.1

end lr

/-- The regenerated facts these theorems are stated against were really found
in the sources (a fact whose pattern is no longer found is emitted from its
committed default with `_extracted := false`: this obligation then breaks
instead of the theorems silently talking about the default). -/
theorem facts_extracted :
    Gen.tokIntRegex_extracted = true ∧ Gen.tokFloatRegex_extracted = true ∧ Gen.tokStringRegex_extracted = true ∧
    Gen.tokIdRegex_extracted = true ∧ Gen.tokSwitch_extracted = true ∧ Gen.tokIds_extracted = true ∧
    Gen.tokSpaceAscii_extracted = true ∧ Gen.unicodeWhiteSpace_extracted = true ∧
    Gen.mmExca_extracted = true ∧ Gen.mmAct_extracted = true ∧ Gen.mmPact_extracted = true ∧
    Gen.mmPgo_extracted = true ∧ Gen.mmR1_extracted = true ∧ Gen.mmR2_extracted = true ∧
    Gen.mmChk_extracted = true ∧ Gen.mmDef_extracted = true ∧ Gen.mmTok1_extracted = true ∧
    Gen.mmTok2_extracted = true ∧ Gen.mmTok3_extracted = true ∧ Gen.mmLast_extracted = true ∧
    Gen.mmPrivate_extracted = true ∧ Gen.mmFlag_extracted = true ∧ Gen.mmErrCode_extracted = true ∧
    Gen.mmEofCode_extracted = true ∧ Gen.mmNToknames_extracted = true ∧ Gen.mmNErrorMessages_extracted = true ∧
    Gen.mmFailProds_extracted = true ∧ Gen.mmPred_extracted = true ∧ Gen.mmRank_extracted = true ∧
    Gen.mmProdBody_extracted = true ∧ Gen.mmProdRhs_extracted = true ∧ Gen.mmConvSites_extracted = true ∧
    Gen.mmDollarLen_extracted = true := by decide

/-! ### definitional unfoldings (documentation of the model, not guarantees) -/

/-- (By construction of `numTok`: the `if` of its definition read backwards; the
guarantee is `tokenizer_converter_contract`.)  Whatever the numeric branch of
`keywordToken` returns as NUM_INT / NUM_FLOAT is accepted by `parseInt` /
`parseFloat` (`none` = panic). -/
theorem num_tok_converts (b t : Bytes) :
    (numTok false b = .int t → (parseInt t).isSome = true) ∧
    (numTok false b = .float t → (parseFloat false t).isSome = true) :=
  ⟨fun h => (numTok_int h).2, fun h => (numTok_float h).2⟩

-- non-vacuity: both kinds of token are produced
set_option exponentiation.threshold 1100 in
example : numTok false [0x2D, 0x34, 0x32, 0x2C] = .int [0x2D, 0x34, 0x32] ∧
    numTok false [0x31, 0x2E, 0x35, 0x65, 0x33, 0x5D] = .float [0x31, 0x2E, 0x35, 0x65, 0x33] := by
  decide +kernel

/-- For ANY rule functions (the generic model `Martian.Lexer.nextToken`/`lex`):
`nextToken` returns a non-empty text with every token other than INVALID,
whatever the rule functions are; hence the `Lex` loop, which only continues
after a SKIP/COMMENT token, terminates within `length + 1` iterations. -/
theorem lexer_progress (R : Rules) (isSkip : Nat → Bool) (hskip : isSkip INVALID = false) (s : Bytes) :
    ((nextToken R s).1 ≠ INVALID → 0 < (nextToken R s).2.length) ∧
    ∃ r, lex R isSkip (s.length + 1) s = some r :=
  ⟨nextToken_progress R s, lex_total R isSkip hskip _ s (by omega)⟩


end Props.C08
