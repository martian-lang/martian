/-
C12 tie: the integer logic of `LocalJobManager.GetSystemReqs` (everything after
the float → int conversions) TRANSLATED from martian/core/jobmanager_local.go on
every run – three fragments, `Gen.tr_GSR_centi`, `Gen.tr_GSR_mem`,
`Gen.tr_GSR_vmem` – composes to the model's `normalize`.  Receiver fields and
`CurrentSize()` of the semaphores are parameters of the translated terms;
`self.vmemMBSem != nil` is the model's `maxVmemMB > 0`.

Each tie is proved the same way: once the Boolean tests of the translated term
(`==`, `decide`, `||`, `&&`) are read as propositions, the term as translated from
the source as it stands unfolds to the model's definition, statement for
statement (`rfl`).  After a rewrite of the Go text that keeps the meaning it need
not; then the two sides are compared branch by branch, which is slow to check.
-/
import Martian.Semaphore
import Gen.Facts

namespace Props.C12
open Martian.Semaphore

/-- `if centiCores == 0 {…} else if centiCores < 0 {…}`, then the cap -/
theorem tr_GSR_centi_eq_model (c : LocalCfg) (centi : Int) :
    capTo (c.maxCores * 100) (Gen.tr_GSR_centi c.threadsPerJob c.maxCores centi) = normCenti c centi := by
  simp only [Gen.tr_GSR_centi, beq_iff_eq, decide_eq_true_eq]
  first
  | rfl
  | (simp only [normCenti, capTo]
     -- model and translated function have the same `if` tree; each leaf is `rfl` or linear arithmetic
     repeat' split
     all_goals first | rfl | omega)

/-- `if memMb == 0 {…} else if memMb < 0 {adaptive}` -/
theorem tr_GSR_mem_eq_model (c : LocalCfg) (memCur m : Int) :
    Gen.tr_GSR_mem c.memGBPerJob memCur m = reqMem0 c memCur m := by
  simp only [Gen.tr_GSR_mem, beq_iff_eq, decide_eq_true_eq, Bool.or_eq_true]
  first
  | rfl
  | (simp only [reqMem0, adaptive]
     repeat' split
     all_goals first | rfl | omega)

/-- vmem default, adaptive vmem, the memory cap, the vmem cap, vmem ≥ mem –
five statements in source order -/
theorem tr_GSR_vmem_eq_model (c : LocalCfg) (vmemCur mem0 v : Int) :
    Gen.tr_GSR_vmem c.extraVmemGB (decide (c.maxVmemMB > 0)) vmemCur c.maxMemGB c.maxVmemMB mem0 v =
      (capTo (c.maxMemGB * 1024) mem0,
       reqV3 (capTo (c.maxMemGB * 1024) mem0) (reqV2 c (reqV1 c vmemCur (reqV0 c mem0 v)))) := by
  simp only [Gen.tr_GSR_vmem, beq_iff_eq, decide_eq_true_eq, Bool.or_eq_true, Bool.and_eq_true]
  first
  | rfl
  | (simp only [capTo, reqV0, reqV1, reqV2, reqV3, adaptive]
     repeat' split
     all_goals first | rfl | (simp_all; done) | (simp_all; omega) | omega)

/-- the three translated fragments, composed, ARE `normalize` -/
theorem tr_GSR_normalize (c : LocalCfg) (memCur vmemCur : Int) (r : Req) :
    normalize c memCur vmemCur r =
      let mv := Gen.tr_GSR_vmem c.extraVmemGB (decide (c.maxVmemMB > 0)) vmemCur c.maxMemGB c.maxVmemMB
        (Gen.tr_GSR_mem c.memGBPerJob memCur r.memMb) r.vmemMb
      ⟨capTo (c.maxCores * 100) (Gen.tr_GSR_centi c.threadsPerJob c.maxCores r.centi), mv.1, mv.2⟩ := by
  simp only [tr_GSR_vmem_eq_model, tr_GSR_mem_eq_model, tr_GSR_centi_eq_model, normalize]

example :
    let c : LocalCfg := { maxCores := 4, maxMemGB := 8, maxVmemMB := 0, threadsPerJob := 1, memGBPerJob := 2, extraVmemGB := 3 }
    Gen.tr_GSR_centi c.threadsPerJob c.maxCores 0 = 100 ∧ Gen.tr_GSR_centi c.threadsPerJob c.maxCores (-1) = 400 ∧
    Gen.tr_GSR_mem c.memGBPerJob 5000 (-1024) = 5000 ∧ Gen.tr_GSR_mem c.memGBPerJob 500 (-1024) = 1024 ∧
    Gen.tr_GSR_vmem c.extraVmemGB false 0 c.maxMemGB c.maxVmemMB 9000 0 = (8192, 12072) := by decide

/-- FAIL CLOSED: the tie theorems of this file are about the
definition(s) TRANSLATED FROM THE TREE UNDER TEST, not about the committed default the
extractor falls back to when the source leaves the translated subset – in that
case this obligation breaks and `./check` reports it (besides the note). -/
theorem translated_from_tree_under_test : Gen.tr_GSR_centi_extracted = true ∧ Gen.tr_GSR_mem_extracted = true ∧ Gen.tr_GSR_vmem_extracted = true := ⟨rfl, rfl, rfl⟩

end Props.C12
