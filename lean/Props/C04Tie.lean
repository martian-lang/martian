/-
C04 tie: `pathIsInside` TRANSLATED from martian/core/storage.go on every run
(`Gen.tr_pathIsInside`; `filepath.Clean` is a parameter of the translated term)
is the model's `pathIsInsideRaw` when the parameter is the model's `cleanAbs`.
-/
import Martian.Vdr
import Martian.VdrFs
import Gen.Facts

namespace Props.C04
open Martian.Vdr

/-- whatever `filepath.Clean` does: a path is inside itself, and after cleaning
the test is "equal, or longer with the parent and a slash as prefix" -/
theorem tr_pathIsInside_spec (clean : Path → Path) (test parent : Path) :
    Gen.tr_pathIsInside clean test parent =
      (test == parent || clean test == clean parent ||
        (decide ((clean parent).length < (clean test).length) &&
          (clean parent ++ ['/']).isPrefixOf (clean test))) := by
  simp only [Gen.tr_pathIsInside]
  have hslash : ([Char.ofNat 47] : List Char) = ['/'] := by decide
  by_cases h : test = parent
  · simp [h]
  · have hb : (test == parent) = false := by simpa using h
    simp [hb, hslash]

/-- for ALL paths: the translated Go function, with the model of
`filepath.Clean` plugged in, is `pathIsInsideRaw` -/
theorem tr_pathIsInside_eq_model (test parent : Path) :
    Gen.tr_pathIsInside cleanAbs test parent = pathIsInsideRaw test parent := by
  rw [tr_pathIsInside_spec, pathIsInsideRaw, Bool.or_assoc]

/-- the translated term came from the source of THIS run: if the extraction pattern is ever
defeated the committed default is used and this obligation breaks (the tie does not fail open) -/
theorem tr_pathIsInside_is_extracted : Gen.tr_pathIsInside_extracted = true := by decide

/-- **the bridge to the headline theorems.**  The passes of the model (`killCore`, `collapse`,
`topLevel`) use the clean-path `pathIsInside`; on paths `filepath.Clean` leaves alone — walked
paths: the driver evaluates `cleanAbs d.path = d.path` for every entry of every replayed state
(hypothesis flag CleanD) — the translated Go function IS that `pathIsInside`. -/
theorem tr_pathIsInside_eq_pathIsInside (d k : Path) (hd : cleanAbs d = d) (hk : cleanAbs k = k) :
    Gen.tr_pathIsInside cleanAbs d k = pathIsInside d k := by
  rw [tr_pathIsInside_eq_model]
  unfold pathIsInsideRaw pathIsInside
  simp only [hd, hk]
  cases h : (d == k) <;> simp

/-- the hypothesis matters: an unclean spelling is inside for the Go function, not for the
clean-path test -/
theorem bridge_needs_clean_paths :
    Gen.tr_pathIsInside cleanAbs "/a/./b".toList "/a/b".toList = true ∧
    pathIsInside "/a/./b".toList "/a/b".toList = false := by decide +kernel

example : Gen.tr_pathIsInside cleanAbs "/a/b/../c/d".toList "/a/c".toList = true ∧
    Gen.tr_pathIsInside cleanAbs "/a/cd".toList "/a/c".toList = false := by decide +kernel

/-- FAIL CLOSED: the tie theorems of this file are about the
definition(s) TRANSLATED FROM THE TREE UNDER TEST, not about the committed default the
extractor falls back to when the source leaves the translated subset – in that
case this obligation breaks and `./check` reports it (besides the note). -/
theorem translated_from_tree_under_test : Gen.tr_pathIsInside_extracted = true := by decide

end Props.C04
