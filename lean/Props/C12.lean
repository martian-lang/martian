/-
C12 — resource limits are never exceeded and never stall the pipestance.
The property theorems; the lemmas behind them are in Proofs/Semaphore*.lean, except for the
corollaries proved here in a few lines (`head_granted_when_fits`, `reserved_eq_sum_held`) and the
facts about Martian/SemaphoreConfig.lean, which has no Proofs module (`configured_limits_floor`,
`user_limit_respected`).

Model: Martian/Semaphore.lean — `step` is one call of the exported
ResourceSemaphore API exactly as resource_semaphore.go does it; `run` is an
arbitrary op sequence (every prefix of it is again an op sequence, so a theorem
about the state after `run` is a theorem about every instant).  `grun` is the
same under the client protocol "a caller releases what it was granted"
(`Enqueue`'s deferred releases), with the ghost list `held` of current holders.
-/
import Martian.Semaphore
import Proofs.Semaphore
import Proofs.SemaphoreClient
import Proofs.SemaphoreMJ
import Proofs.SemaphoreReqs
import Martian.SemaphoreSys
import Proofs.SemaphoreSysLive
import Proofs.SemaphoreQueue
import Martian.SemaphoreConfig
import Gen.Facts

namespace Props.C12
open Martian.Semaphore

/-! ## ResourceSemaphore: every sequence of API calls -/

/-- **A grant is only made when it fits the then-current availability.**  Any
call (Acquire fast path, Release, UpdateActual/Size/FreeUsed) that grants at
least one request leaves `reserved ≤ curSize`; all amounts, any state. -/
theorem grant_fits (s : Sem) (op : SemOp) (h : grantsOf (step s op).2 ≠ []) :
    (step s op).1.reserved ≤ (step s op).1.cur :=
  step_fits s op h

/-- **Grants are made in request order (FIFO).**  For every op sequence on a
fresh semaphore: the requests granted so far, in the order they were granted,
followed by the queue, are exactly the accepted (not rejected) requests in the
order they were made.  Nobody overtakes, nobody is dropped or duplicated. -/
theorem fifo_grants (size : Int) (ops : List SemOp) :
    grantsOf (run (Sem.init size) ops).2 ++ (run (Sem.init size) ops).1.waiters
      = acceptedRun (Sem.init size) ops := by
  simpa [Sem.init] using run_fifo (Sem.init size) ops

/-- **No lost wake-up.**  After every op sequence in which `Release` did not
panic: the queue is empty or its head does not fit the free capacity. -/
theorem no_lost_wakeup (size : Int) (ops : List SemOp)
    (hp : hasPanic (run (Sem.init size) ops).2 = false) :
    match (run (Sem.init size) ops).1.waiters with
    | [] => True
    | w :: _ => (run (Sem.init size) ops).1.cur - (run (Sem.init size) ops).1.reserved < w.2 :=
  run_noLost (Sem.init size) ops (by simp [NoLost, Sem.init]) hp

/-- **The oldest waiter is granted whenever it fits.**  For any call made while
`w` is the oldest waiter: either `w` is the first request granted by this call,
or `w` is still the oldest waiter and does not fit the capacity left after the
call. -/
theorem head_granted_when_fits (s : Sem) (op : SemOp) (w : Waiter) (ws : List Waiter)
    (hw : s.waiters = w :: ws) (hs : NoLost s) (hp : hasPanic (step s op).2 = false) :
    (∃ g, grantsOf (step s op).2 = w :: g) ∨
    (∃ ws', (step s op).1.waiters = w :: ws' ∧ (step s op).1.cur - (step s op).1.reserved < w.2) := by
  have hf := step_fifo s op
  have hn := step_noLost s op hs hp
  rw [hw] at hf
  cases hg : grantsOf (step s op).2 with
  | nil =>
    right
    rw [hg] at hf; simp only [List.nil_append, List.cons_append] at hf
    refine ⟨_, hf, ?_⟩
    unfold NoLost at hn; rw [hf] at hn; exact hn
  | cons g gs =>
    left
    rw [hg] at hf; simp only [List.cons_append, List.cons.injEq] at hf
    exact ⟨gs, by rw [hf.1]⟩

/-- **The configured limit is never exceeded** (raw API level).  After every
sequence of `Acquire` (any amount), `Release` (non-negative amount),
`UpdateActual` and `UpdateFreeUsed` (any arguments) calls: `reserved ≤ maxSize`
and `curSize ≤ maxSize`.  These are all the calls the job manager makes on the
core, memory and vmem semaphores: `UpdateSize` is called on the process
semaphore only (regenerated obligation `updateSize_called_only_in_setup`;
`procs_limit_never_exceeded` covers that caller). -/
theorem raw_limits_never_exceeded (size : Int) (hs : 0 ≤ size) (ops : List SemOp)
    (hnu : ∀ op ∈ ops, ∀ n, op ≠ .updSize n) (hrel : ∀ op ∈ ops, op.relNonneg) :
    (run (Sem.init size) ops).1.reserved ≤ size ∧ (run (Sem.init size) ops).1.cur ≤ size := by
  have hop : ∀ op ∈ ops, OpOK (Sem.init size).max op := by
    intro op h
    cases op with
    | release n => exact hrel _ h
    | updSize n => exact absurd rfl (hnu _ h n)
    | _ => trivial
  have := run_bounded (Sem.init size) ops ⟨by simp [Sem.init], by simpa [Sem.init] using hs⟩ hop
  rw [Bounded, run_max] at this
  exact ⟨this.2, this.1⟩

/-- Negative witness (API caveat, no caller does this): `UpdateSize(n)` with
`n > maxSize` is not clamped (unlike UpdateActual / UpdateFreeUsed), after which
more than `maxSize` can be reserved.  Replayed on the real semaphore by the harness. -/
theorem updSize_above_max_breaks_bound :
    (run (Sem.init 10) [.updSize 20, .acquire 1 15]).1.reserved > 10 := by decide

/-- Witness that "in use ≤ current availability" is NOT an invariant: an
availability update (here `UpdateFreeUsed(0, 0)`: the OS reports no free memory)
may put `curSize` under what is already reserved.  What the code guarantees in
that situation is `overcommit_is_transient` / `reserved_le_prev_or_cur` below;
the configured limit `maxSize` is still never exceeded. -/
theorem update_may_lower_cur_below_reserved :
    (run (Sem.init 10) [.acquire 1 8, .updFreeUsed 0 0]).1.cur
      < (run (Sem.init 10) [.acquire 1 8, .updFreeUsed 0 0]).1.reserved := by decide

/-- **What an availability drop below the reservation means.**  For every call
with a non-negative release amount: afterwards `reserved` is at most what it
was before, or at most the availability after the call.  So `reserved > curSize`
can only be the leftover of an earlier, larger availability — a call never
creates or enlarges it (and, by `grant_fits`, nothing is granted while it lasts). -/
theorem reserved_le_prev_or_cur (s : Sem) (op : SemOp) (h : op.relNonneg) :
    (step s op).1.reserved ≤ s.reserved ∨ (step s op).1.reserved ≤ (step s op).1.cur :=
  step_reserved_le s op h

/-- **The over-commitment is transient**: between two availability updates (any
sequence of Acquire / non-negative Release calls, from ANY state) the
availability does not change and the reservation stays below
max(reservation at the start, availability): it can only shrink until it fits. -/
theorem overcommit_is_transient (s : Sem) (ops : List SemOp)
    (h1 : ∀ op ∈ ops, op.isAcqRel = true) (h2 : ∀ op ∈ ops, op.relNonneg) :
    (run s ops).1.cur = s.cur ∧
    ((run s ops).1.reserved ≤ s.reserved ∨ (run s ops).1.reserved ≤ s.cur) :=
  run_overcommit_transient s ops h1 h2

/-- **A request larger than the maximum never waits**: it is granted at once
(only possible after an `UpdateSize` above the maximum) or refused with the
error; the queue is left untouched.  Hence every queued request is within the
maximum (`queued_requests_within_max`). -/
theorem oversized_request_never_waits (s : Sem) (id : Nat) (n : Int) (h : s.max < n) :
    (step s (.acquire id n)).1.waiters = s.waiters ∧
    ((step s (.acquire id n)).2 = [.grant id n] ∨ (step s (.acquire id n)).2 = [.reject id n]) := by
  simp only [step]
  by_cases hf : n ≤ s.cur - s.reserved ∧ s.waiters.isEmpty = true
  · rw [if_pos hf]; simp
  · rw [if_neg hf, if_pos h]; simp

theorem queued_requests_within_max (size : Int) (ops : List SemOp) :
    ∀ w ∈ (run (Sem.init size) ops).1.waiters, w.2 ≤ size := by
  have := run_waitersLeMax (Sem.init size) ops (by intro w hw; simp [Sem.init] at hw)
  intro w hw
  have h := this w hw
  rwa [run_max] at h

/-! ## The client protocol (callers release exactly what they were granted) -/

/-- **Bookkeeping identity.**  After every sequence of client ops (any amounts,
any updates): `reserved` is the sum of what the current holders hold. -/
theorem reserved_eq_sum_held (size : Int) (ops : List COp) :
    (grun (G.init size) ops).1.sem.reserved = sumAmt (grun (G.init size) ops).1.held := by
  suffices h : ∀ g : G, g.sem.reserved = sumAmt g.held →
      (grun g ops).1.sem.reserved = sumAmt (grun g ops).1.held from h _ rfl
  induction ops with
  | nil => intro g h; exact h
  | cons op ops ih =>
    intro g h
    rw [grun_cons]
    apply ih
    cases ht : toSemOp g op with
    | none => simp only [gstep, ht]; exact h
    | some oh =>
      simp only [gstep, ht, sumAmt_append]
      rw [step_reserved, h, (toSemOp_spec g op oh.1 oh.2 ht).1]

/-- Clients that request non-negative amounts never trigger the
"semaphore: bad release" panic, and the no-lost-wake-up invariant holds after
every op sequence. -/
theorem client_never_panics_and_no_lost_wakeup (size : Int) (ops : List COp)
    (hop : ∀ op ∈ ops, op.reqNonneg) :
    hasPanic (grun (G.init size) ops).2 = false ∧ NoLost (grun (G.init size) ops).1.sem := by
  obtain ⟨g, p, _⟩ := grun_inv (G.init size) ops (good_fresh size) hop
  exact ⟨p, g.noLost⟩

/-- **Limits are never exceeded** (cores, memory, vmem).  Under the caller
protocol of `Enqueue` (non-negative requests, every caller releases what it was
granted) with arbitrary `UpdateActual` / `UpdateFreeUsed` availability updates
interleaved — i.e. everything the job manager does to these three semaphores —
the sum of what the current holders hold, `reserved` and `curSize` are at most
the configured limit at every instant. -/
theorem limits_never_exceeded (size : Int) (hs : 0 ≤ size) (ops : List COp)
    (hop : ∀ op ∈ ops, op.reqNonneg) (hnu : ∀ op ∈ ops, op.isUpdSize = false) :
    sumAmt (grun (G.init size) ops).1.held ≤ size ∧
    (grun (G.init size) ops).1.sem.reserved ≤ size ∧ (grun (G.init size) ops).1.sem.cur ≤ size :=
  grun_held_le size hs ops hop (fun op h => sizeOK_of_not_updSize size op (hnu op h))

/-- `getrlimit` returns `rlim_cur ≤ rlim_max` as unsigned 64-bit values; whenever
both pass `setupSemaphores`' guard `> startingThreadCount` after conversion to
`int64` (which maps RLIM_INFINITY to -1), the order survives the conversion. -/
theorem rlimit_cur_le_max_int64 (c m : Nat) (hcm : c ≤ m) (hm64 : m < 2 ^ 64)
    (gc : startingThreadCount < toInt64 c) (gm : startingThreadCount < toInt64 m) :
    toInt64 c ≤ toInt64 m :=
  toInt64_le c m hcm hm64 gm

/-- **The process semaphore**, the only one `UpdateSize` is called on: after
`setupSemaphores`' calls (`procsSetup`: `Acquire(startingThreadCount)`, then
`UpdateSize(rlimCur)` or `UpdateFreeUsed(rlimCur - userProcs, startingThreadCount)`)
followed by any `Enqueue` / `refreshResources` traffic, the holdings never
exceed its size `rlimMax`. -/
theorem procs_limit_never_exceeded (rcur rmax : Nat) (u : Option Int) (hcm : rcur ≤ rmax)
    (h64 : rmax < 2 ^ 64) (m : Int) (pre : List COp) (hset : procsSetup rcur rmax u = some (m, pre))
    (ops : List COp) (hop : ∀ op ∈ ops, op.reqNonneg) (hnu : ∀ op ∈ ops, op.isUpdSize = false) :
    sumAmt (grun (G.init m) (pre ++ ops)).1.held ≤ m ∧
    (grun (G.init m) (pre ++ ops)).1.sem.reserved ≤ m := by
  obtain ⟨hm, hp1, hp2⟩ := procsSetup_ok rcur rmax u hcm h64 m pre hset
  have := grun_held_le m hm (pre ++ ops)
    (by intro op h; rcases List.mem_append.mp h with h | h; exact hp1 op h; exact hop op h)
    (by intro op h; rcases List.mem_append.mp h with h | h; exact hp2 op h
        exact sizeOK_of_not_updSize m op (hnu op h))
  exact ⟨this.1, this.2.1⟩

/-- **No stall.**  In any state reachable by clients with non-negative
requests: if every holder has released (`held = []`) and availability is back
at the maximum, nobody is left waiting. -/
theorem no_stall (size : Int) (ops : List COp) (hop : ∀ op ∈ ops, op.reqNonneg)
    (hidle : (grun (G.init size) ops).1.held = [])
    (hfull : (grun (G.init size) ops).1.sem.cur = (grun (G.init size) ops).1.sem.max) :
    (grun (G.init size) ops).1.sem.waiters = [] := by
  exact good_idle _ (grun_inv (G.init size) ops (good_fresh size) hop).1 hidle hfull

/-- **Progress.**  From any state reachable by clients with non-negative
requests, `k ≥ queue length` "drain rounds" (availability restored to the
maximum, all current holders release; no new requests) empty the queue: every
waiter — all of which asked for at most `maxSize` — is eventually granted. -/
theorem progress (size : Int) (ops : List COp) (hop : ∀ op ∈ ops, op.reqNonneg) (k : Nat)
    (hk : (grun (G.init size) ops).1.sem.waiters.length ≤ k) :
    (drain k ((grun (G.init size) ops).1.sem, (grun (G.init size) ops).1.held)).1.waiters = [] :=
  drain_empty k _ (grun_inv (G.init size) ops (good_fresh size) hop).1 hk

/-- In each drain round nobody is dropped and, unless the queue is already
empty, at least the oldest waiter is granted. -/
theorem progress_round (size : Int) (ops : List COp) (hop : ∀ op ∈ ops, op.reqNonneg) :
    let p := ((grun (G.init size) ops).1.sem, (grun (G.init size) ops).1.held)
    (round p).2 ++ (round p).1.waiters = p.1.waiters ∧
    ((round p).1.waiters = [] ∨ (round p).2 ≠ []) := by
  have := round_facts _ (grun_inv (G.init size) ops (good_fresh size) hop).1
  exact ⟨this.2.2.1, this.2.2.2⟩

/-! ## The local job manager as a system: nested acquisition never stalls

`Sys` (Martian/SemaphoreSys.lean): every job takes the semaphores in list order
(= `Gen.localAcquireOrder`), holding what it has while it waits; a refused
Acquire makes it give back what it holds; after the job process has run the
deferred releases run in reverse order (`Gen.localReleaseOrder`).  `Sys.act y j`
is the next semaphore call of job `j`; a schedule is any list of job ids.  The
theorems are about every state `(Sys.init sizes jobs).runSched js` — every
interleaving — with availability at the maximum. -/

/-- **No deadlock.**  In every reachable state, unless every job is over, some
job can act: "all remaining jobs blocked in Acquire, none running" never happens. -/
theorem local_no_deadlock (sizes : List Int) (jobs : List (Nat × List Int))
    (hnd : (jobs.map Prod.fst).Nodup) (hnn : ∀ p ∈ jobs, ∀ s, 0 ≤ p.2.getD s 0) (js : List Nat)
    (h : ((Sys.init sizes jobs).runSched js).allOver = false) :
    ∃ b ∈ ((Sys.init sizes jobs).runSched js).jobs, b.enabled = true :=
  exists_enabled _ (runSched_inv _ (init_inv sizes jobs hnd hnn) js) h

/-- **Ranking.**  Every action of a job that can act (an Acquire that is granted,
queued or refused; the end of the job process; a Release, which may wake
waiters) strictly decreases `Sys.rank`. -/
theorem local_action_decreases_rank (sizes : List Int) (jobs : List (Nat × List Int))
    (hnd : (jobs.map Prod.fst).Nodup) (hnn : ∀ p ∈ jobs, ∀ s, 0 ≤ p.2.getD s 0) (js : List Nat)
    (b : LJob) (hb : b ∈ ((Sys.init sizes jobs).runSched js).jobs) (he : b.enabled = true) :
    (((Sys.init sizes jobs).runSched js).act b.id).rank < ((Sys.init sizes jobs).runSched js).rank :=
  act_rank_lt _ (runSched_inv _ (init_inv sizes jobs hnd hnn) js) b hb he

/-- Hence no execution is infinite: a schedule in which every step is a step of
a job that can act has at most `rank` steps. -/
theorem local_schedules_are_bounded (sizes : List Int) (jobs : List (Nat × List Int))
    (hnd : (jobs.map Prod.fst).Nodup) (hnn : ∀ p ∈ jobs, ∀ s, 0 ≤ p.2.getD s 0) (js : List Nat)
    (h : (Sys.init sizes jobs).EnabledSched js) : js.length ≤ (Sys.init sizes jobs).rank := by
  have := sched_bound _ (init_inv sizes jobs hnd hnn) js h
  omega

/-- **Never stalls.**  Whatever the interleaving: when no job can act any more
(which happens after at most `rank` steps, and cannot happen earlier than the
end by `local_no_deadlock`), every job is over; every job whose amounts fit the
semaphore sizes was granted all its semaphores, ran and was never refused.
(A job that does not fit was refused by the first semaphore it does not fit —
it never waits, `oversized_request_never_waits`.) -/
theorem local_every_schedule_finishes (sizes : List Int) (jobs : List (Nat × List Int))
    (hnd : (jobs.map Prod.fst).Nodup) (hnn : ∀ p ∈ jobs, ∀ s, 0 ≤ p.2.getD s 0) (js : List Nat)
    (hmax : ∀ j, ((Sys.init sizes jobs).runSched js).enabledId j = false) :
    ((Sys.init sizes jobs).runSched js).allOver = true ∧
    ∀ p ∈ jobs, fitsSizes p.2 sizes →
      ∃ b ∈ ((Sys.init sizes jobs).runSched js).jobs,
        b.id = p.1 ∧ b.ph = .rel 0 ∧ b.ran = true ∧ b.failed = false := by
  have inv0 := init_inv sizes jobs hnd hnn
  obtain ⟨hover, hall⟩ := maximal_all_over _ (runSched_inv _ inv0 js) hmax
  refine ⟨hover, ?_⟩
  intro p hp hfit
  have hst := runSched_static (Sys.init sizes jobs) inv0 js
  rw [(init_static sizes jobs).1] at hst
  have hk : p ∈ ((Sys.init sizes jobs).runSched js).jobs.map jobKey := by
    rw [hst.2, (init_static sizes jobs).2]; exact hp
  obtain ⟨b, hb, hbk⟩ := List.mem_map.mp hk
  have hid : b.id = p.1 := by rw [← hbk]; rfl
  have ham : b.amts = p.2 := by rw [← hbk]; rfl
  obtain ⟨h1, h2, h3⟩ := hall b hb (fits_of_fitsSizes b _ sizes hst.1 (by rw [ham]; exact hfit))
  exact ⟨b, hb, hid, h1, h2, h3⟩

/-- Such a finishing execution exists from every reachable state (the
statement above is not vacuous). -/
theorem local_finishing_schedule_exists (sizes : List Int) (jobs : List (Nat × List Int))
    (hnd : (jobs.map Prod.fst).Nodup) (hnn : ∀ p ∈ jobs, ∀ s, 0 ≤ p.2.getD s 0) (js : List Nat) :
    ∃ js', ((Sys.init sizes jobs).runSched js).EnabledSched js' ∧
      (((Sys.init sizes jobs).runSched js).runSched js').allOver = true :=
  finishing_schedule _ (runSched_inv _ (init_inv sizes jobs hnd hnn) js)

/-! ## MaxJobsSemaphore -/

/-- **In cluster mode at most `limit` jobs hold the semaphore**, and each job
at most once, after every sequence of Acquire attempts (blocking or not, any
metadata state), Release, FindDone and Clear. -/
theorem maxjobs_le_limit (L : Int) (hL : 0 ≤ L) (ops : List MJOp) :
    (((MJ.init L).run ops).running.length : Int) ≤ L ∧ ((MJ.init L).run ops).running.Nodup := by
  have := MJ.run_inv L ops (MJ.init L) (MJ.init_inv L hL)
  exact ⟨this.le, this.nodup⟩

/-- A job that is still queued/waiting is admitted as soon as there is room. -/
theorem maxjobs_admits_when_room (s : MJ) (id : Nat) (st : MdState) (nb : Bool)
    (hst : st.cancelled nb = false) (hroom : (s.running.length : Int) < s.limit) :
    (s.attempt id st nb).2 = some true ∧ id ∈ (s.attempt id st nb).1.running := by
  rw [MJ.attempt_room s id st nb hst hroom]
  refine ⟨rfl, ?_⟩
  by_cases hc : s.running.contains id = true
  · rw [if_pos hc]; simpa using hc
  · rw [if_neg hc]; simp

/-- **Re-attaching after an mrp restart restores the count**: a fresh
semaphore (`resetMaxJobs`) on which `reattach` (= one non-blocking `Acquire`)
is called once for every job that is in flight on the cluster — in whichever of
the two in-flight states, Queued or RUNNING, the restarted mrp reads from disk;
distinct jobs, at most `limit` of them, which is what the previous incarnation
guaranteed — holds exactly those jobs afterwards, so new submissions wait for
them and `maxjobs_le_limit` continues to bound the jobs submitted at the same
time across the restart.  (It rests on the non-blocking `Acquire` accepting a job that is
Running; without that exception: `reattach_dropped_running_jobs_before_fix`.) -/
theorem reattach_restores_count (L : Int) (ids : List (Nat × MdState))
    (hst : ∀ p ∈ ids, p.2 = .queued ∨ p.2 = .running)
    (hnd : (ids.map (·.1)).Nodup) (hlen : (ids.length : Int) ≤ L) :
    ((MJ.init L).run (reattachOps ids)).running = ids.map (·.1) := by
  have := MJ.run_reattach L ids (MJ.init L) rfl
    (fun p hp => by rcases hst p hp with h | h <;> simp [h, MdState.inFlight])
    (by simpa [MJ.init] using hnd) (by simpa [MJ.init] using hlen)
  simpa [MJ.init] using this.1

/-- **Without the exception for a Running job, re-attaching drops the running jobs**
(negative witness for `Acquire` whose `canceled` test is `ok && st != Queued && st != Waiting`
also in the non-blocking call: `MJ.runOld`; reproduced on a tree with that test by the
cluster-restart stream: key `C12:cluster:over-maxjobs`).  That `Acquire` refuses every state
other than Queued/Waiting also when re-attaching, so two jobs Running on the cluster (the
normal in-flight state: the job has written `_log`) are not put back, the fresh
semaphore stays empty, and two MORE jobs are admitted: four jobs outstanding
with `--maxjobs 2`; the third conjunct is the same input under `Acquire` itself. -/
theorem reattach_dropped_running_jobs_before_fix :
    ((MJ.init 2).runOld [(3, .running, true), (1, .running, true)]).running = [] ∧
    ((MJ.init 2).runOld [(3, .running, true), (1, .running, true),
        (7, .waiting, false), (8, .waiting, false)]).running = [7, 8] ∧
    ((MJ.init 2).run [.attempt 3 .running true, .attempt 1 .running true,
        .attempt 7 .waiting false, .attempt 8 .waiting false]).running = [3, 1] := by
  decide

/-! ### MaxJobsSemaphore with its callers: wake-ups (model Martian/SemaphoreMJP.lean)

The callers blocked in `cond.Wait()` and the signalled ones are part of the
state; `Signal` after `Release`, `Broadcast`/`Signal` in `FindDone`, `Broadcast`
in `Clear`, and the deferred `Signal` on every return from inside `Acquire`. -/

/-- **No parked caller is forgotten.**  After every sequence of Acquire calls
(new or resumed after a wake-up, any metadata states), Release, FindDone and
Clear: if a slot is free and some caller is parked in `cond.Wait()`, then some
caller has been signalled and will look at the semaphore again. -/
theorem maxjobs_no_parked_caller_is_forgotten (L : Int) (ops : List MJPOp) :
    ((MJP.init L).run ops).NoLostWakeup :=
  MJP.run_noLost _ ops (by intro _; left; rfl)

/-- … so at quiescence (every signalled caller has run) nobody is parked while a
slot is free — what the harness monitors on the real semaphore (`lost-wakeup`). -/
theorem maxjobs_quiescent_room_nobody_parked (L : Int) (ops : List MJPOp)
    (hq : ((MJP.init L).run ops).woken = []) (hroom : ((MJP.init L).run ops).room) :
    ((MJP.init L).run ops).parked = [] := by
  rcases maxjobs_no_parked_caller_is_forgotten L ops hroom with h | h
  · exact h
  · exact absurd hq h

/-- the bound of `maxjobs_le_limit` for the model with callers (its `running`
component evolves by `MJ.attempt` / `MJ.step`) -/
theorem maxjobs_with_callers_le_limit (L : Int) (hL : 0 ≤ L) (ops : List MJPOp) :
    (((MJP.init L).run ops).running.length : Int) ≤ L ∧ ((MJP.init L).run ops).running.Nodup := by
  have := MJP.run_inv L ops (MJP.init L) (MJ.init_inv L hL)
  exact ⟨this.le, this.nodup⟩

/-! ## GetSystemReqs / Enqueue (after float → integer conversion) -/

/-- **Requests are clamped to the limits** — zero, negative ("adaptive") and
oversized requests alike; the normalised amounts are positive.  For vmem the
code guarantees `≤ maxVmemMB` or `= mem` only (see the witness below). -/
theorem clamp_le_limits (c : LocalCfg) (hc : Sane c) (memCur vmemCur : Int) (r : Req) :
    let n := normalize c memCur vmemCur r
    0 < n.centi ∧ n.centi ≤ c.maxCores * 100 ∧
    0 < n.memMb ∧ n.memMb ≤ c.maxMemGB * 1024 ∧
    (0 < c.maxVmemMB → 0 < n.vmemMb ∧ (n.vmemMb ≤ c.maxVmemMB ∨ n.vmemMb = n.memMb)) := by
  have hcen := normCenti_bounds c hc r.centi
  have hm0 := reqMem0_pos c hc memCur r.memMb
  have hm := capTo_bounds (c.maxMemGB * 1024) _ (by have := hc.2.1; omega) hm0
  simp only [normalize]
  refine ⟨hcen.1, hcen.2, hm.1, hm.2.1, ?_⟩
  exact (reqV_normal c hc vmemCur _ _ r.vmemMb hm0 hm.1).2.2

/-- **A clamped job is never refused by the core and memory semaphores**: the
amounts `Enqueue` acquires are within `maxSize` of the semaphores
`setupSemaphores` creates (`maxCores*100`, `maxMemGB*1024`), so `Acquire`
cannot return its "Tried to acquire …" error, whatever the queue state. -/
theorem cores_mem_never_rejected (c : LocalCfg) (hc : Sane c) (memCur vmemCur : Int) (r : Req)
    (sc sm : Sem) (hsc : sc.max = c.maxCores * 100) (hsm : sm.max = c.maxMemGB * 1024) (id : Nat) :
    let a := acquireAmounts (normalize c memCur vmemCur r)
    Ev.reject id a.1 ∉ (step sc (.acquire id a.1)).2 ∧
    Ev.reject id a.2.1 ∉ (step sm (.acquire id a.2.1)).2 := by
  have h := clamp_le_limits c hc memCur vmemCur r
  simp only at h
  obtain ⟨_, h2, _, h4, _⟩ := h
  have key : ∀ (s : Sem) (n : Int), n ≤ s.max → Ev.reject id n ∉ (step s (.acquire id n)).2 := by
    intro s n hn
    simp only [step]
    by_cases hf : n ≤ s.cur - s.reserved ∧ s.waiters.isEmpty = true
    · rw [if_pos hf]; simp
    · rw [if_neg hf, if_neg (by omega)]; simp
  simp only [acquireAmounts]
  exact ⟨key sc _ (by omega), key sm _ (by omega)⟩

/-- vmem: never refused when the vmem limit is not below the memory limit.
Full statement (false): without `hvm` — see `vmem_floor_exceeds_limit`. -/
theorem vmem_never_rejected_partial (c : LocalCfg) (hc : Sane c) (memCur vmemCur : Int) (r : Req)
    (hv : 0 < c.maxVmemMB) (hvm : c.maxMemGB * 1024 ≤ c.maxVmemMB) :
    (acquireAmounts (normalize c memCur vmemCur r)).2.2.1 ≤ c.maxVmemMB := by
  obtain ⟨_, _, _, h4, h5⟩ := clamp_le_limits c hc memCur vmemCur r
  obtain ⟨hp, hle⟩ := h5 hv
  have := (truncGB_bounds _ (Int.le_of_lt hp)).2
  simp only [acquireAmounts]
  omega

/-- Negative witness (`--localmem 4 --localvmem 2`, a 3 GB job): after clamping
vmem to the 2048 MB limit the code raises it back to the memory request
(`if vmemMb > 0 && vmemMb < memMb { vmemMb = memMb }`), and `Acquire(3072)` on
the 2048 MB vmem semaphore returns the error — the job fails instead of being
clamped. -/
theorem vmem_floor_exceeds_limit :
    let c : LocalCfg := ⟨4, 4, 2048, 1, 1, 0⟩
    let a := acquireAmounts (normalize c 4096 2048 ⟨100, 3072, 0⟩)
    a.2.2.1 = 3072 ∧ (step (Sem.init 2048) (.acquire 1 a.2.2.1)).2 = [Ev.reject 1 3072] := by decide

/-- `GetSystemReqs` is applied twice on the way to `Acquire` (`getJobReqs`, then
`Enqueue`): the second application changes nothing. -/
theorem normalize_idempotent (c : LocalCfg) (hc : Sane c) (m1 v1 m2 v2 : Int) (r : Req) :
    normalize c m2 v2 (normalize c m1 v1 r) = normalize c m1 v1 r := by
  have hcen := normCenti_bounds c hc r.centi
  have hm0 := reqMem0_pos c hc m1 r.memMb
  have hm := capTo_bounds (c.maxMemGB * 1024) _ (by have := hc.2.1; omega) hm0
  simp only [normalize, Req.mk.injEq]
  -- the capped memory request is positive and within the cap: both memory stages leave it alone
  have e : capTo (c.maxMemGB * 1024) (reqMem0 c m2 (capTo (c.maxMemGB * 1024) (reqMem0 c m1 r.memMb)))
      = capTo (c.maxMemGB * 1024) (reqMem0 c m1 r.memMb) := by
    rw [reqMem0_fix c m2 _ hm.1, capTo_fix _ _ hm.2.1]
  refine ⟨normCenti_fix c _ hcen.1 hcen.2, e, ?_⟩
  rw [e]
  exact reqV_fix c v2 _ _ _ (reqV_normal c hc v1 _ _ r.vmemMb hm0 hm.1)

/-- **Clamped requests fit every semaphore, in every configuration** (no vmem
semaphore — the default without `--localvmem` under an unlimited `ulimit -v` —
and/or no process semaphore included).  For a sane configuration,
with the vmem limit (if there is one) at least the memory limit, and with
`procsPerJob + maxCores` within what the process rlimit leaves for jobs (if
there is a process semaphore; `procsLeft = rlimMax - startingThreadCount`, see
`standing_reservation_is_a_smaller_semaphore`): the amounts `Enqueue` acquires
for ANY request are non-negative and fit the sizes of the semaphores that
exist — so by `local_every_schedule_finishes` every such job runs. -/
theorem normalized_amounts_fit_every_configuration (c : LocalCfg) (hc : Sane c)
    (hvm : 0 < c.maxVmemMB → c.maxMemGB * 1024 ≤ c.maxVmemMB)
    (procsLeft : Option Int) (hp : ∀ p, procsLeft = some p → procsPerJob + c.maxCores ≤ p)
    (mc vc : Int) (r : Req) :
    let a := acquireAmounts (normalize c mc vc r)
    fitsSizes (localAmounts c procsLeft.isSome a) (localSizes c procsLeft) ∧
    (∀ s, 0 ≤ (localAmounts c procsLeft.isSome a).getD s 0) := by
  obtain ⟨h1, h2, h3, h4, h5⟩ := clamp_le_limits c hc mc vc r
  have hcores := ceilCores_bounds _ _ (Int.le_of_lt h1) h2
  refine localAmounts_fit c procsLeft (acquireAmounts (normalize c mc vc r)) ⟨Int.le_of_lt h1, h2⟩
    ⟨Int.le_of_lt h3, h4⟩ (fun hv => ?_) (fun p hpp => ?_)
  · exact ⟨(truncGB_bounds _ (Int.le_of_lt (h5 hv).1)).1,
      vmem_never_rejected_partial c hc mc vc r hv (hvm hv)⟩
  · have := hp p hpp
    simp only [acquireAmounts, procsPerJob] at this ⊢
    omega

/-- **Clamped requests fit every semaphore — the configuration with all four
semaphores** (vmem limit configured and not below the memory limit, process
semaphore present); an instance of `normalized_amounts_fit_every_configuration`.
`procs` is what the process semaphore has LEFT for jobs,
`rlimMax - startingThreadCount` (mrp's own standing reservation is never
released: `standing_reservation_is_a_smaller_semaphore`), not its `maxSize`:
with `procsPerJob + maxCores` within that, the four amounts `Enqueue` acquires
for ANY request (zero, adaptive, oversized) are non-negative and within the
sizes, so by `local_every_schedule_finishes` every such job runs. -/
theorem normalized_amounts_fit (c : LocalCfg) (hc : Sane c) (hv : 0 < c.maxVmemMB)
    (hvm : c.maxMemGB * 1024 ≤ c.maxVmemMB) (procs : Int) (hp : procsPerJob + c.maxCores ≤ procs)
    (mc vc : Int) (r : Req) :
    let a := acquireAmounts (normalize c mc vc r)
    fitsSizes [a.1, a.2.1, a.2.2.1, a.2.2.2] [c.maxCores * 100, c.maxMemGB * 1024, c.maxVmemMB, procs] ∧
    (∀ s, 0 ≤ [a.1, a.2.1, a.2.2.1, a.2.2.2].getD s 0) := by
  have := normalized_amounts_fit_every_configuration c hc (fun _ => hvm) (some procs)
    (fun p h => by cases h; exact hp) mc vc r
  simpa [localAmounts, localSizes, hv] using this

/-! ## Where the limits come from: `NewLocalJobManager` (`setMaxCores`, `setMaxMem`)

Model: Martian/SemaphoreConfig.lean — the three limits as pure functions of the
user's flags and the observations of the machine.  `Sane` of the configuration
the other theorems assume is PROVED of what `NewLocalJobManager` produces. -/

section SetMax
open Martian.SemaphoreConfig

/-- **Floors.**  Whatever the flags and the machine: the memory limit is at least
1 GB; the core limit is at least 1 as soon as the machine reports a CPU and the
job settings' `threads_per_job` is positive (martian refuses other settings). -/
theorem configured_limits_floor (f : Flags) (m : Machine) :
    1 ≤ maxMemGBModel f m ∧ (1 ≤ m.numCPU → 1 ≤ m.threadsPerJob → 1 ≤ setMaxCoresModel f m) := by
  -- `if sysMemGB < 1 { sysMemGB = 1 }`
  have floor1 : ∀ g : Int, 1 ≤ if g < 1 then 1 else g := fun g => by split <;> omega
  constructor
  · unfold maxMemGBModel
    by_cases h : f.memGB > 0
    · rw [if_pos h]; omega
    · rw [if_neg h]
      by_cases hc : f.cluster = true
      · simp only [hc, if_true]; exact floor1 _
      · simp only [hc]; exact floor1 _
  · intro h1 h2
    unfold setMaxCoresModel
    split
    · omega
    · split <;> assumption

/-- **The produced configuration is `Sane`** — the hypothesis of `clamp_le_limits`,
`normalized_amounts_fit_every_configuration` … — given only what martian validates in
jobmanagers/config.json (`threads_per_job`, `memgb_per_job` ≥ 1), a machine with a CPU,
and `extra_vmem_per_job ≥ 0` (the one conjunct martian does not validate). -/
theorem setMax_config_is_sane (f : Flags) (m : Machine) (ev : Int)
    (hcpu : 1 ≤ m.numCPU) (ht : 1 ≤ m.threadsPerJob) (hm : 1 ≤ m.memGBPerJob) (hev : 0 ≤ ev) :
    Sane (setMaxModel f m ev) := by
  have h := configured_limits_floor f m
  exact ⟨h.2 hcpu ht, h.1, ht, hm, hev⟩

/-- **A user's value is used as given** for cores and memory; for vmem it is an
upper bound, used as given when there is no address-space rlimit and mrp has not
recorded an address space of its own yet (the situation inside
`NewLocalJobManager`); it is REPLACED by the rlimit when that is lower, and
REDUCED by mrp's own recorded address space when more than 1 GB remains.
Without `--localvmem` and without an rlimit there is no vmem limit (0). -/
theorem user_limit_respected (f : Flags) (m : Machine) :
    (f.cores > 0 → setMaxCoresModel f m = f.cores) ∧
    (f.memGB > 0 → maxMemGBModel f m = f.memGB) ∧
    (f.vmemGB > 0 → 0 ≤ m.highVmem → 0 ≤ m.vmemLimit → maxVmemMBModel f m ≤ f.vmemGB * 1024) ∧
    (m.vmemLimit / MB = 0 → m.highVmem / MB = 0 → maxVmemMBModel f m = f.vmemGB * 1024) := by
  refine ⟨?_, ?_, ?_, ?_⟩
  · exact fun h => if_pos h
  · exact fun h => if_pos h
  · intro _ hh _
    have h1 : 0 ≤ m.highVmem / MB := Int.ediv_nonneg hh (by decide)
    simp only [maxVmemMBModel]
    repeat' split
    all_goals omega
  · intro hl hs
    simp only [maxVmemMBModel, hl, hs]
    simp

/-- **`--localvmem` equal to `--localmem`** (the natural "same value" setting, no
address-space rlimit).  With an address space `self > 0` MB of its own on record
and more than 1 GB left, `setMaxMem` produces `maxVmemMB = memGB*1024 - self`,
strictly BELOW the memory limit — the precondition of the known finding F18
(`vmem_floor_exceeds_limit`): a job asking for the memory limit is then refused
by the vmem semaphore. -/
theorem same_localmem_localvmem_triggers_vmem_floor (f : Flags) (m : Machine)
    (hv : f.vmemGB = f.memGB) (hm : f.memGB > 0) (hl : m.vmemLimit / MB = 0)
    (hs : 0 < m.highVmem / MB) (hroom : m.highVmem / MB + 1024 < f.memGB * 1024) :
    maxVmemMBModel f m = f.memGB * 1024 - m.highVmem / MB ∧
    maxVmemMBModel f m < maxMemGBModel f m * 1024 := by
  have hmem : maxMemGBModel f m = f.memGB := if_pos hm
  have hvm : maxVmemMBModel f m = f.memGB * 1024 - m.highVmem / MB := by
    simp only [maxVmemMBModel, hl, hv]
    simp only [true_or, if_true]
    rw [if_pos hroom]
  exact ⟨hvm, by rw [hvm, hmem]; omega⟩

/-- … but inside `NewLocalJobManager` nothing is on record yet (`setMaxMem` runs
before `setupSemaphores` fills `highMem`; regenerated: `skel_NewLocalJobManager_ok`), so
there the same-value setting gives `maxVmemMB = maxMemGB*1024` exactly and F18's precondition
does NOT arise from it; it arises from `--localvmem < --localmem` or a lower rlimit
(replayed on the real `NewLocalJobManager` by the harness). -/
theorem same_localmem_localvmem_at_construction (f : Flags) (m : Machine)
    (hv : f.vmemGB = f.memGB) (hm : f.memGB > 0) (hl : m.vmemLimit / MB = 0) (h0 : m.highVmem = 0) :
    maxVmemMBModel f m = maxMemGBModel f m * 1024 := by
  have hmem : maxMemGBModel f m = f.memGB := if_pos hm
  have := (user_limit_respected f m).2.2.2 hl (by rw [h0]; decide)
  rw [this, hmem, hv]

/-- Side observation (witness; true of the code, see `skel_setMaxMem_ok`: the test is
`self.maxVmemMB == 0 || int64(userMaxVMemGB)*1024 < self.maxVmemMB` without `userMaxVMemGB > 0`):
WITHOUT `--localvmem` an address-space rlimit (`ulimit -v`, here 16 GB) does not become the vmem
limit — 0 < 16384 replaces it by the unset user value 0, i.e. no vmem semaphore at all. -/
theorem vmem_rlimit_dropped_without_localvmem :
    maxVmemMBModel ⟨0, 1, 0, true⟩ ⟨16, 64 * GB, 50 * GB, 0, 0, 16 * GB, 0, 1, 5⟩ = 0 ∧
    maxVmemMBModel ⟨0, 1, 32, true⟩ ⟨16, 64 * GB, 50 * GB, 0, 0, 16 * GB, 0, 1, 5⟩ = 16384 := by decide

/-- instance: `--localmem 4 --localvmem 4`, 300 MB of own address space on record: the vmem
limit is 3796 MB, and a job asking for 4 GB (clamped to the memory limit) acquires 4096 on it:
refused (F18) -/
theorem same_value_instance_refused :
    let f : Flags := ⟨2, 4, 4, false⟩
    let m : Machine := ⟨16, 64 * GB, 50 * GB, 0, 0, 0, 300 * MB, 1, 1⟩
    let c := setMaxModel f m 0
    c = ⟨2, 4, 3796, 1, 1, 0⟩ ∧
    (acquireAmounts (normalize c 4096 3796 ⟨100, 4096, 0⟩)).2.2.1 = 4096 ∧
    (step (Sem.init c.maxVmemMB) (.acquire 1 4096)).2 = [.reject 1 4096] := by decide

/-! ### Regenerated obligations: the code the configuration model mirrors (sole static tie: strict) -/

theorem skel_NewLocalJobManager_ok :
    Gen.c12Skel_NewLocalJobManager_extracted = true ∧ Gen.c12Skel_NewLocalJobManager =
    ["jc, err := verifyJobManager(\"local\", config, -1)",
     "self.setMaxCores(userMaxCores, clusterMode)",
     "self.setMaxMem(userMaxMemGB, userMaxVMemGB, clusterMode)",
     "self.setupSemaphores()"] := by
  exact ⟨rfl, rfl⟩

theorem skel_setMaxCores_ok :
    Gen.c12Skel_setMaxCores_extracted = true ∧ Gen.c12Skel_setMaxCores =
    ["if userMaxCores > 0",
     "self.maxCores = userMaxCores",
     "else",
     "if clusterMode",
     "self.maxCores = self.jobSettings.ThreadsPerJob",
     "else",
     "self.maxCores = runtime.NumCPU()"] := by
  exact ⟨rfl, rfl⟩

theorem skel_setMaxMem_ok :
    Gen.c12Skel_setMaxMem_extracted = true ∧ Gen.c12Skel_setMaxMem =
    ["err := sysMem.Get()",
     "if err != nil && sysMem.Total == 0",
     "cgMem, cgSoftLimit, cgUse := util.GetCgroupMemoryLimit()",
     "if userMaxMemGB > 0",
     "self.maxMemGB = userMaxMemGB",
     "if cgMem > 0 && int64(userMaxMemGB)*1024*1024*1024 > cgMem",
     "else",
     "MAXMEM_FRACTION := 0.9",
     "if cgMem > 0 && cgMem < sysMem.Total",
     "sysMem.Total = cgMem",
     "if cgUse < cgMem && cgMem-cgUse < sysMem.ActualFree",
     "sysMem.ActualFree = cgMem - cgUse",
     "MAXMEM_FRACTION = 0.96",
     "if clusterMode",
     "sysMemGB := int((sysMem.ActualFree + (1024*1024 - 1)) / (1024 * 1024 * 1024))",
     "if self.jobSettings.MemGBPerJob < sysMemGB",
     "sysMemGB = self.jobSettings.MemGBPerJob",
     "if sysMemGB < 1",
     "sysMemGB = 1",
     "self.maxMemGB = sysMemGB",
     "if sysMemGB < self.jobSettings.MemGBPerJob",
     "else",
     "else",
     "sysMemGB := int(float64(sysMem.Total) * MAXMEM_FRACTION / 1073741824)",
     "if sysMemGB < 1",
     "sysMemGB = 1",
     "self.maxMemGB = sysMemGB",
     "if int64(self.maxMemGB*1024) > (sysMem.ActualFree+(1024*1024-1))/(1024*1024)",
     "if cgSoftLimit != 0 && int64(self.maxMemGB)*1024*1024*1024 > cgSoftLimit",
     "self.maxVmemMB = int64(CheckMaxVmem( uint64(1+self.maxMemGB)*uint64(self.highMem.Vmem+1024*1024*1024)) / (1024 * 1024))",
     "if self.maxVmemMB == 0 || int64(userMaxVMemGB)*1024 < self.maxVmemMB",
     "self.maxVmemMB = int64(userMaxVMemGB) * 1024",
     "selfMem := self.highMem.Vmem / (1024 * 1024)",
     "if selfMem+1024 < self.maxVmemMB",
     "self.maxVmemMB -= selfMem",
     "requiredVmemGB := int64(self.jobSettings.MemGBPerJob+self.jobSettings.ExtraVmemGB) + (self.highMem.Vmem+1024*1024*1024-1)/(1024*1024*1024)",
     "if self.maxVmemMB > 0 && self.maxVmemMB/1024 < requiredVmemGB"] := by
  exact ⟨rfl, rfl⟩

end SetMax

/-! ## The process semaphore's standing reservation

`setupSemaphores`: `procsSem = NewResourceSemaphore(rlimMax)`, then
`procsSem.Acquire(startingThreadCount)` for mrp itself — never released. -/

/-- **A standing reservation makes a smaller semaphore.**  For every sequence
of `Acquire`/`Release` calls (the client protocol of `Enqueue`) in which no
request lies strictly between the smaller size `m` and the real maximum `m + d`,
and no release is "bad": the semaphore of size `m + d` with `d` reserved for
ever grants, queues and refuses exactly like the semaphore of size `m` — same
events, same queue, reservations larger by `d`.  So the never-stall theorems
(`local_every_schedule_finishes`, `normalized_amounts_fit_every_configuration`)
apply to the process semaphore with the size `rlimMax - startingThreadCount`. -/
theorem standing_reservation_is_a_smaller_semaphore (s : Sem) (d : Int) (hd : 0 ≤ d)
    (ops : List SemOp) (hops : ∀ op ∈ ops, op.plain s.max d)
    (hp : hasPanic (run s ops).2 = false) :
    run (s.shift d) ops = ((run s ops).1.shift d, (run s ops).2) :=
  run_shift d hd ops s hops hp

/-- **… except for a request between the two sizes** (negative witness).
`ulimit -u 60`, one core: the job needs 15 + 1 = 16
processes; 16 ≤ maxSize = 60, so `Acquire` does not refuse it, but only
60 - 45 = 15 can ever be free: it is queued with `curSize = maxSize` and nobody
left to release anything — it waits for ever (the smaller semaphore of size 15
would have refused it).  The Go code only prints "The current process count
limit … is low".  Replayed on the real code by the refresh workers (uid nobody,
RLIMIT_NPROC lowered): documented limit, not a configured martian limit. -/
theorem standing_reservation_parks_request_between_sizes :
    let g := (grun (G.init 60) [.acquire 0 startingThreadCount, .updSize 60, .acquire 1 16]).1
    g.sem.waiters = [(1, 16)] ∧ g.sem.cur = 60 ∧ g.sem.max = 60 ∧ g.held = [(0, 45)] ∧
    (step (Sem.init 15) (.acquire 1 16)).2 = [.reject 1 16] ∧
    ¬ (SemOp.acquire 1 16).plain 15 45 := by
  refine ⟨by decide, by decide, by decide, by decide, by decide, ?_⟩
  simp [SemOp.plain]

/-! ## Regenerated obligations (jobmanager_local.go) -/

/-- Every local job takes the semaphores in one and the same order
(cores → memory → vmem → processes), the order `acquireAmounts` lists them in;
fails on a tree whose `Enqueue` acquires in another order. -/
theorem acquire_order_ok :
    Gen.localAcquireOrder_extracted = true ∧
    Gen.localAcquireOrder = ["centcoreSem", "memMBSem", "vmemMBSem", "procsSem"] := ⟨rfl, rfl⟩

/-- **One acquisition order on EVERY path** through the job goroutine of `Enqueue`
(regenerated by an abstract interpretation that follows both arms of every `if`, early
returns, and calls of local function values — all the literals a variable may hold):
each path acquires along a subsequence of cores → memory → vmem → processes, and the
full order occurs.  A second order on some path (e.g. memory before cores for "big"
jobs) makes hold-and-wait deadlock possible and voids `local_no_deadlock`; the
source-order fact `acquire_order_ok` alone would not see it. -/
theorem acquire_order_same_on_every_path :
    Gen.localAcquireOrders_extracted = true ∧
    (Gen.localAcquireOrders.all fun o =>
      o.isSublist ["centcoreSem", "memMBSem", "vmemMBSem", "procsSem"]) = true ∧
    ["centcoreSem", "memMBSem", "vmemMBSem", "procsSem"] ∈ Gen.localAcquireOrders := by decide

/-- the per-job process estimate constant used by the model is the one in the source -/
theorem procs_per_job_ok :
    Gen.localProcsPerJob_extracted = true ∧ Gen.localProcsPerJob = procsPerJob := ⟨rfl, rfl⟩

/-- `UpdateSize` has exactly one caller in martian: `setupSemaphores`, on the
process semaphore, with `rlimCur` (≤ `rlimMax`, the size it was created with).
The core, memory and vmem semaphores never see it. -/
theorem updateSize_called_only_in_setup :
    Gen.updateSizeCalls_extracted = true ∧
    Gen.updateSizeCalls = [("jobmanager_local.go", "setupSemaphores", "self.procsSem", "rlimCur(rlim)")] := ⟨rfl, rfl⟩

/-- the deferred releases of `Enqueue` are written in acquisition order, so they
run in reverse acquisition order, as `Sys.act` releases -/
theorem release_order_ok :
    Gen.localReleaseOrder_extracted = true ∧ Gen.localReleaseOrder = Gen.localAcquireOrder := ⟨rfl, rfl⟩

theorem starting_threads_ok :
    Gen.localStartingThreads_extracted = true ∧ Gen.localStartingThreads = startingThreadCount := ⟨rfl, rfl⟩

/-! ### The arithmetic the model mirrors, statement by statement

Per function: conditions, assignments, returns, defers and non-logging calls of
the current source in source order (`extract/c12_arith.go`).  A flipped
comparison, a changed constant, a dropped `runJobs()` / `Signal()` or a reordered
Acquire breaks the obligation named after the function (and the correspondence
run finds the input).  `_extracted = false` (function not found) is reported as
a note by ./check; the correspondence is then the only tie; `skel_refreshResources_ok`
has no such disjunct and demands `_extracted = true`. -/

theorem skel_Acquire_ok :
    Gen.c12Skel_Acquire_extracted = false ∨ Gen.c12Skel_Acquire =
    ["self.mu.Lock()",
     "if self.curSize-self.reserved >= n && len(self.waiters) == 0",
     "self.reserved += n",
     "self.mu.Unlock()",
     "return nil",
     "if n > self.maxSize",
     "self.mu.Unlock()",
     "return <error>",
     "if len(self.waiters) == 0 && self.curSize-self.reserved > 0",
     "ready := make(chan struct{})",
     "w := waiter{amount: n, ready: ready}",
     "self.waiters = append(self.waiters, w)",
     "self.mu.Unlock()",
     "<-ready",
     "return nil"] := by
  first | exact Or.inr rfl | exact Or.inl rfl

/-- `Enqueue`: only the lines that mention a semaphore, an amount, `GetSystemReqs` or
`executeLocal` are kept (filter `enqueueKeep`): the Acquire calls with their amount
expressions and the Release calls, in source order.  The `if err != nil` / `return` lines of
the refusal path and the `defer func` lines are NOT in this skeleton: that a refusal returns
and gives back what is held, and that the releases are deferred, is established by
`release_order_ok` (which looks inside the `defer` statements) and by the differential run of
real jobs (refused jobs, reservations at every quiescent point). -/
theorem skel_Enqueue_ok :
    Gen.c12Skel_Enqueue_extracted = false ∨ Gen.c12Skel_Enqueue =
    ["res := self.GetSystemReqs(resRequest)",
     "centiCores := int64(math.Ceil(res.Threads * 100))",
     "err := self.centcoreSem.Acquire(centiCores)",
     "self.centcoreSem.Release(centiCores)",
     "memMb := int64(math.Ceil(res.MemGB * 1024))",
     "err := self.memMBSem.Acquire(memMb)",
     "self.memMBSem.Release(memMb)",
     "sem := self.vmemMBSem",
     "vmem := int64(res.VMemGB) * 1024",
     "err := sem.Acquire(vmem)",
     "sem.Release(vmem)",
     "if self.procsSem != nil",
     "procEstimate := procsPerJob + (centiCores+99)/100",
     "err := self.procsSem.Acquire(procEstimate)",
     "self.procsSem.Release(procEstimate)",
     "err := executeLocal(cmd, stdoutPath, stderrPath, localpreflight, metadata)"] := by
  first | exact Or.inr rfl | exact Or.inl rfl

/-- The translated ties of `GetSystemReqs` (`Props/C12Tie.lean`) are about terms that were
really TRANSLATED from the current source: when the translator falls back to its committed
default (function left the translatable subset, fragment marker not found) this obligation
breaks — without it the tie theorems would stay true of the default and say nothing about the
tree. -/
theorem translated_ties_extracted :
    Gen.tr_GSR_centi_extracted = true ∧ Gen.tr_GSR_mem_extracted = true ∧
    Gen.tr_GSR_vmem_extracted = true := ⟨rfl, rfl, rfl⟩

/- `GetSystemReqs` has no textual skeleton here: its integer logic is translated from the Go
source on every run and tied to `normalize` by theorems (`Props/C12Tie.lean`:
`tr_GSR_centi_eq_model`, `tr_GSR_mem_eq_model`, `tr_GSR_vmem_eq_model`, `tr_GSR_normalize`),
which tolerate rewrites that keep the meaning and at which a textual skeleton would alarm; the
differential run GetSystemReqs vs `normalize` is the second tie. -/


theorem skel_MaxJobsAcquire_ok :
    Gen.c12Skel_MaxJobsAcquire_extracted = false ∨ Gen.c12Skel_MaxJobsAcquire =
    ["if metadata == nil",
     "return false",
     "canceled := func",
     "st, ok := metadata.getState()",
     "return ok && st != Queued && st != Waiting && !(nonblocking && st == Running)",
     "if canceled()",
     "return false",
     "defer self.cond.Signal()",
     "self.lock.Lock()",
     "defer self.lock.Unlock()",
     "for len(self.running) >= self.Limit",
     "if self.Limit <= 0",
     "return false",
     "if canceled()",
     "return false",
     "_, ok := self.running[metadata]",
     "if ok",
     "return true",
     "if nonblocking",
     "return false",
     "self.cond.Wait()",
     "if canceled()",
     "return false",
     "self.running[metadata] = struct{}{}",
     "return true"] := by
  first | exact Or.inr rfl | exact Or.inl rfl

theorem skel_MaxJobsClear_ok :
    Gen.c12Skel_MaxJobsClear_extracted = false ∨ Gen.c12Skel_MaxJobsClear =
    ["self.lock.Lock()",
     "defer self.lock.Unlock()",
     "self.Limit = 0",
     "self.cond.Broadcast()"] := by
  first | exact Or.inr rfl | exact Or.inl rfl

theorem skel_MaxJobsFindDone_ok :
    Gen.c12Skel_MaxJobsFindDone_extracted = false ∨ Gen.c12Skel_MaxJobsFindDone =
    ["self.lock.Lock()",
     "defer self.lock.Unlock()",
     "finished := make([]*Metadata, 0, len(self.running))",
     "for range self.running",
     "st, ok := m.getState()",
     "if ok && st != Running && st != Queued",
     "finished = append(finished, m)",
     "if len(finished) > 0",
     "for range finished",
     "delete(self.running, m)",
     "spare := self.Limit - len(self.running)",
     "if spare > 1",
     "self.cond.Broadcast()",
     "else",
     "if spare == 1",
     "self.cond.Signal()"] := by
  first | exact Or.inr rfl | exact Or.inl rfl

theorem skel_MaxJobsRelease_ok :
    Gen.c12Skel_MaxJobsRelease_extracted = false ∨ Gen.c12Skel_MaxJobsRelease =
    ["if metadata == nil",
     "return",
     "self.lock.Lock()",
     "defer self.lock.Unlock()",
     "_, ok := self.running[metadata]",
     "if ok",
     "delete(self.running, metadata)",
     "self.cond.Signal()"] := by
  first | exact Or.inr rfl | exact Or.inl rfl

theorem skel_Release_ok :
    Gen.c12Skel_Release_extracted = false ∨ Gen.c12Skel_Release =
    ["self.mu.Lock()",
     "defer self.mu.Unlock()",
     "self.reserved -= n",
     "if self.reserved < 0",
     "panic(\"semaphore: bad release\")",
     "self.runJobs()"] := by
  first | exact Or.inr rfl | exact Or.inl rfl

theorem skel_UpdateActual_ok :
    Gen.c12Skel_UpdateActual_extracted = false ∨ Gen.c12Skel_UpdateActual =
    ["self.mu.Lock()",
     "actualSize := n + self.reserved",
     "oldSize := self.curSize",
     "if actualSize > self.maxSize",
     "self.curSize = self.maxSize",
     "else",
     "self.curSize = actualSize",
     "if oldSize < self.curSize",
     "self.runJobs()",
     "self.mu.Unlock()",
     "return actualSize - self.maxSize"] := by
  first | exact Or.inr rfl | exact Or.inl rfl

theorem skel_UpdateFreeUsed_ok :
    Gen.c12Skel_UpdateFreeUsed_extracted = false ∨ Gen.c12Skel_UpdateFreeUsed =
    ["actualSize := free + usedReservation",
     "self.mu.Lock()",
     "oldSize := self.curSize",
     "if usedReservation <= self.reserved",
     "if actualSize > self.maxSize",
     "self.curSize = self.maxSize",
     "else",
     "self.curSize = actualSize",
     "else",
     "adjust := usedReservation - self.reserved",
     "if actualSize > self.maxSize-adjust",
     "self.curSize = self.maxSize - adjust",
     "else",
     "self.curSize = actualSize - adjust",
     "if oldSize < self.curSize",
     "self.runJobs()",
     "self.mu.Unlock()",
     "return actualSize - self.maxSize"] := by
  first | exact Or.inr rfl | exact Or.inl rfl

theorem skel_UpdateSize_ok :
    Gen.c12Skel_UpdateSize_extracted = false ∨ Gen.c12Skel_UpdateSize =
    ["self.mu.Lock()",
     "defer self.mu.Unlock()",
     "oldSize := self.curSize",
     "self.curSize = n",
     "if oldSize < self.curSize",
     "self.runJobs()"] := by
  first | exact Or.inr rfl | exact Or.inl rfl

theorem skel_runJobs_ok :
    Gen.c12Skel_runJobs_extracted = false ∨ Gen.c12Skel_runJobs =
    ["for range self.waiters",
     "if self.curSize-self.reserved < waiter.amount",
     "if self.curSize-self.reserved > 0",
     "self.waiters = self.waiters[i:]",
     "return",
     "self.reserved += waiter.amount",
     "close(waiter.ready)",
     "waiter.ready = nil",
     "if cap(self.waiters) < 2+2*len(self.waiters)",
     "self.waiters = nil",
     "else",
     "self.waiters = self.waiters[len(self.waiters):]"] := by
  first | exact Or.inr rfl | exact Or.inl rfl

/-- `refreshResources`: which sampled quantity goes into which availability
update (the sampled values themselves are environment input, not modelled):
memory `UpdateFreeUsed(free, rss of mrp's CHILDREN — mrp itself excluded)`,
vmem `UpdateActual(max - vmem of the children)`, cores `UpdateActual(idle cores)`,
processes `UpdateFreeUsed(rlimit - user's processes, children + startingThreadCount)`. -/
theorem skel_refreshResources_ok :
    Gen.c12Skel_refreshResources_extracted = true ∧ Gen.c12Skel_refreshResources =
    ["err := sysMem.Get()",
     "usedMem, err := GetProcessTreeMemory(os.Getpid(), false, nil)",
     "memDiff := self.memMBSem.UpdateFreeUsed( (sysMem.ActualFree+1024*1024-1)/(1024*1024), (usedMem.Rss+1024*1024-1)/(1024*1024))",
     "if self.vmemMBSem != nil",
     "self.vmemMBSem.UpdateActual( self.maxVmemMB - usedMem.Vmem/(1024*1024))",
     "if self.limitLoad",
     "err := load.Get()",
     "diff := self.centcoreSem.UpdateActual( int64((float64(runtime.NumCPU()) - load.One + 0.9) * 100), )",
     "if self.procsSem != nil",
     "rlim, err := GetMaxProcs()",
     "userProcs, err := GetUserProcessCount()",
     "self.procsSem.UpdateFreeUsed( rlimCur(rlim)-int64(userProcs), int64(usedMem.Procs)+startingThreadCount)"] := by
  exact ⟨rfl, rfl⟩

theorem skel_setupSemaphores_ok :
    Gen.c12Skel_setupSemaphores_extracted = false ∨ Gen.c12Skel_setupSemaphores =
    ["self.centcoreSem = NewResourceSemaphore(int64(self.maxCores)*100, formatCentiThreads)",
     "self.memMBSem = NewResourceSemaphore(int64(self.maxMemGB)*1024, formatMemMB)",
     "if self.maxVmemMB > 0",
     "self.vmemMBSem = NewResourceSemaphore(self.maxVmemMB, formatVMemMB)",
     "rlim, err := GetMaxProcs()",
     "if rlimMax(rlim) > startingThreadCount && rlimCur(rlim) > startingThreadCount",
     "self.procsSem = NewResourceSemaphore(rlimMax(rlim), DefaultResourceFormatter(\"processes\"))",
     "err := self.procsSem.Acquire(startingThreadCount)",
     "userProcs, err := GetUserProcessCount()",
     "self.procsSem.UpdateSize(rlimCur(rlim))",
     "self.procsSem.UpdateFreeUsed( rlimCur(rlim)-int64(userProcs), startingThreadCount)",
     "if self.procsSem.Available()/(procsPerJob+1) < int64(self.maxCores)",
     "if rlimMax(rlim) > rlimCur(rlim)"] := by
  first | exact Or.inr rfl | exact Or.inl rfl

/-! ## Availability updates are applied exactly (no dead band) -/

/-- **The observation is applied.**  After `UpdateSize` / `UpdateActual` /
`UpdateFreeUsed` the current size is exactly the value computed from the
arguments, however small the change. -/
theorem observation_is_applied (s : Sem) (op : SemOp) (c : Int) (h : observedSize s op = some c) :
    (step s op).1.cur = c := by
  rw [step_cur, h]; rfl

/-- **No waiter is left behind by an availability update**: after an update
that reports the size `c`, the queue is empty or its head does not fit
`c - reserved` — for every amount of growth, down to 1 (the harness monitors
exactly this on the real semaphore: `lost-wakeup` against the last reported
availability). -/
theorem no_waiter_fits_last_observation (s : Sem) (op : SemOp) (c : Int)
    (h : observedSize s op = some c) (hs : NoLost s) :
    match (step s op).1.waiters with
    | [] => True
    | w :: _ => c - (step s op).1.reserved < w.2 := by
  have hp := step_nopanic s op fun n hn => by subst hn; cases h
  have hn := step_noLost s op hs hp
  have hc := observation_is_applied s op c h
  unfold NoLost at hn
  rw [hc] at hn
  exact hn

/-! ## The availability-update path: `refreshResources` (caller arithmetic + semaphore)

Model: Martian/SemaphoreRefresh.lean — the arguments `refreshResources` computes
from what the OS reports (`Obs`), fed to `step`.  "Never stalls" here: the
update must not make the grantable size smaller than what the OS offers, so a
job that fits the limits is not parked for ever. -/

section Refresh
open Martian.SemaphoreRefresh

/-- **An idle (or honest) refresh restores the full size.**  If the usage of the
process tree below mrp, in whole MB rounded up, is at most what is reserved (in
particular nothing running: 0 ≤ 0) and free + that usage reaches the limit, the
memory semaphore's current size after `refreshResources` is exactly the limit. -/
theorem idle_refresh_restores_full_size (s : Sem) (o : Obs)
    (hu : ceilMB o.rss ≤ s.reserved) (hf : s.max ≤ ceilMB o.actualFree + ceilMB o.rss) :
    (step s (refreshMemOp o)).1.cur = s.max := by
  simp only [refreshMemOp, memArgs, step_updFreeUsed_cur]
  exact freeUsedCur_full s _ _ hu hf

/-- the same in bytes for the idle case: nothing below mrp uses memory, the OS
has at least the limit free -/
theorem idle_refresh_full_size_bytes (s : Sem) (o : Obs) (hr : o.rss = 0) (h0 : 0 ≤ s.reserved)
    (hf : s.max * MB ≤ o.actualFree) : (step s (refreshMemOp o)).1.cur = s.max := by
  apply idle_refresh_restores_full_size
  · rw [hr, ceilMB_zero]; exact h0
  · rw [hr, ceilMB_zero]; have := ceilMB_ge o.actualFree s.max hf; omega

/-- **A refresh never parks a job that fits.**  Under the same hypotheses, after
the refresh the queue is empty or its head does not fit `maxSize - reserved`:
whoever fits the limit has been granted by this very call. -/
theorem refresh_never_parks_a_fitting_job (s : Sem) (o : Obs) (hs : NoLost s)
    (hu : ceilMB o.rss ≤ s.reserved) (hf : s.max ≤ ceilMB o.actualFree + ceilMB o.rss) :
    match (step s (refreshMemOp o)).1.waiters with
    | [] => True
    | w :: _ => s.max - (step s (refreshMemOp o)).1.reserved < w.2 := by
  apply no_waiter_fits_last_observation s (refreshMemOp o) s.max _ hs
  simp only [refreshMemOp, memArgs, observedSize, Option.some.injEq]
  exact freeUsedCur_full s _ _ hu hf

/-- … and with nobody waiting, the next request that fits `maxSize - reserved`
(in particular, after an idle refresh, a lone job asking for the whole limit)
is granted at once. -/
theorem limit_job_granted_after_refresh (s : Sem) (o : Obs) (id : Nat) (n : Int)
    (hw : s.waiters = []) (hu : ceilMB o.rss ≤ s.reserved)
    (hf : s.max ≤ ceilMB o.actualFree + ceilMB o.rss) (hn : n ≤ s.max - s.reserved) :
    (step (step s (refreshMemOp o)).1 (.acquire id n)).2 = [.grant id n] := by
  have hc := freeUsedCur_full s _ _ hu hf
  simp only [refreshMemOp, memArgs, step, setCur_noWaiters s _ hw, hc, hw]
  simp [hn]

/-- **More free memory never gives a smaller size** (same tree usage). -/
theorem more_free_memory_never_smaller_size (s : Sem) (o1 o2 : Obs)
    (h : o1.actualFree ≤ o2.actualFree) (hr : o1.rss = o2.rss) :
    (step s (refreshMemOp o1)).1.cur ≤ (step s (refreshMemOp o2)).1.cur := by
  simp only [refreshMemOp, memArgs, step_updFreeUsed_cur, hr]
  exact freeUsedCur_mono s _ _ _ (ceilMB_mono _ _ h)

/-- vmem: while the address space of the tree below mrp (whole MB) is within
the reservations, the refresh restores the full vmem limit. -/
theorem refresh_vmem_full_when_usage_within_reservations (s : Sem) (o : Obs)
    (h : o.vmem / MB ≤ s.reserved) : (step s (refreshVmemOp s.max o)).1.cur = s.max := by
  simp only [refreshVmemOp, vmemArg, step_updActual_cur]
  split
  · rfl
  · omega

/-- process count: usage within the reservations and enough head-room under the
rlimit ⇒ full size -/
theorem refresh_procs_full_size (s : Sem) (o : Obs)
    (hu : o.procs + startingThreadCount ≤ s.reserved)
    (hf : s.max ≤ o.rlimCur - o.userProcs + (o.procs + startingThreadCount)) :
    (step s (refreshProcsOp o)).1.cur = s.max := by
  simp only [refreshProcsOp, procsArgs, step_updFreeUsed_cur]
  exact freeUsedCur_full s _ _ hu hf

/-- **Why mrp's own usage must not be counted** (negative witness, replayed in
spirit by the harness's worker processes).  1 GB limit, 8 GB free, nothing
running.  With the tree usage as the code takes it (children only) the size
stays 1024 and a job asking for the whole limit starts.  If mrp's own 30 MB were
counted as "usage of the reservations" (30 > reserved = 0) the size becomes
1024 - 30 = 994, the job is queued, and no number of identical refreshes ever
grants it. -/
theorem own_usage_as_reservation_parks_limit_job :
    let o : Obs := ⟨8 * 1024 * MB, 0, 0, 0, 0, 4096, 100⟩
    let o' := o.withOwn (30 * MB) (700 * MB) 12
    let ok := step (step (Sem.init 1024) (refreshMemOp o)).1 (.acquire 1 1024)
    let s1 := (step (Sem.init 1024) (refreshMemOp o')).1
    let r2 := step s1 (.acquire 1 1024)
    let s4 := (step (step r2.1 (refreshMemOp o')).1 (refreshMemOp o')).1
    ok.2 = [.grant 1 1024] ∧ s1.cur = 994 ∧ r2.2 = [] ∧ s4.waiters = [(1, 1024)] ∧ s4.cur = 994 := by
  decide

/-- regenerated: `refreshResources` samples the tree BELOW mrp
(`GetProcessTreeMemory(os.Getpid(), false, nil)`) -/
theorem refresh_excludes_own_usage :
    Gen.refreshTreeIncludesParent_extracted = true ∧ Gen.refreshTreeIncludesParent = false ∧
    Gen.refreshTreeCall_extracted = true ∧ Gen.refreshTreeCall = ["os.Getpid()", "false", "nil"] := ⟨rfl, rfl, rfl, rfl⟩

/-- regenerated: the argument expressions of the four `Update*` calls are the
ones `memArgs` / `vmemArg` / `coresArg` / `procsArgs` model -/
theorem refresh_update_args_ok :
    Gen.refreshUpdateArgs_extracted = true ∧ Gen.refreshUpdateArgs =
    [("memMBSem", "UpdateFreeUsed", ["(sysMem.ActualFree + 1024*1024 - 1) / (1024 * 1024)",
        "(usedMem.Rss + 1024*1024 - 1) / (1024 * 1024)"]),
     ("vmemMBSem", "UpdateActual", ["self.maxVmemMB - usedMem.Vmem/(1024*1024)"]),
     ("centcoreSem", "UpdateActual", ["int64((float64(runtime.NumCPU()) - load.One + 0.9) * 100)"]),
     ("procsSem", "UpdateFreeUsed", ["rlimCur(rlim) - int64(userProcs)",
        "int64(usedMem.Procs) + startingThreadCount"])] := by
  exact ⟨rfl, rfl⟩

end Refresh

/-! ## Cluster mode: reconciliation with the scheduler's queue (queue query)

Model: Martian/SemaphoreQueue.lean (`Pipestance.queryQueue`,
`RemoteJobManager.checkQueue`, `Metadata.failNotRunning`, `Metadata.endRefresh`
as called by `Node.refreshState`).  `jobRun s evs j` is the job `j` of state `s`
after the events `evs` (`run_follows_jobs`).  What "never stalls" means here: a
job that silently vanished from the cluster (the scheduler no longer lists it,
it never writes anything) does not keep the pipestance waiting for ever. -/

section QueueQuery
open Martian

/-- **Safety, one event.**  The only thing that fails a job "not queued or
running" is a `refreshState` at a time `t` later than mark + grace period, where
the mark was made (see `mark_only_by_omitting_answer`) and BOTH mrp's cached
state and the files the job has written so far (the journal is applied first)
still say Queued/Running: a job that finished within the grace period, or
whose completion reached the journal before the refresh, is not failed. -/
theorem recon_fails_only_after_grace (s : SemaphoreQueue.Q) (ev : SemaphoreQueue.Ev) (j : SemaphoreQueue.Job)
    (h : (SemaphoreQueue.stepJob s ev j).st = .notQueued) (h0 : j.st ≠ .notQueued)
    (hd : j.disk ≠ .notQueued) :
    ∃ t s0, ev = .refresh t ∧ j.since = some s0 ∧ s0 + s.grace < t ∧
      j.st.alive = true ∧ j.disk.alive = true :=
  SemaphoreQueue.stepJob_notQueued s ev j h h0 hd

/-- A mark (`notRunningSince`) is only ever set by a successful answer that
omits the job, and carries that answer's time. -/
theorem mark_only_by_omitting_answer (s : SemaphoreQueue.Q) (ev : SemaphoreQueue.Ev)
    (j : SemaphoreQueue.Job) (s0 : Nat) (h : (SemaphoreQueue.stepJob s ev j).since = some s0) :
    j.since = some s0 ∨ ∃ out, ev = .answer s0 (some out) ∧ j.jobid ∉ out :=
  SemaphoreQueue.stepJob_since s ev j s0 h

/-- **Safety over a run.**  A job which every successful answer names (failed
query commands count as "everything is still there") is never marked and never
failed by the reconciliation, whatever else happens and however long it runs. -/
theorem reported_job_never_failed (s : SemaphoreQueue.Q) (evs : List SemaphoreQueue.Ev)
    (j : SemaphoreQueue.Job) (hr : SemaphoreQueue.Reported j.jobid evs) (hs : j.since = none)
    (hd : j.disk ≠ .notQueued) (h0 : j.st ≠ .notQueued) :
    (SemaphoreQueue.jobRun s evs j).since = none ∧ (SemaphoreQueue.jobRun s evs j).st ≠ .notQueued :=
  SemaphoreQueue.jobRun_reported s evs j hr hs hd h0

/-- The hypothesis "EVERY answer names it" cannot be weakened to "the scheduler
reports it now": nothing clears a mark.  A job omitted by one answer (time 0) and
named by every later one (times 300, 600) is still failed by the first refresh
after the grace period (40) although the scheduler has been listing it all
along.  (Replayed on the real code by the harness: documented limit — the code
trusts a single omitting answer; the struct comment on `notRunningSince` says
"not found last time the job manager was queried".) -/
theorem reported_again_still_failed :
    let j : SemaphoreQueue.Job := ⟨"7", true, .running, .running, none⟩
    let s : SemaphoreQueue.Q := ⟨40, 300, none, none, [j]⟩
    (SemaphoreQueue.jobRun s [.issue 0, .answer 0 (some [""]), .issue 300, .answer 300 (some ["7", ""]),
        .refresh 301, .issue 600, .answer 600 (some ["7", ""]), .refresh 601] j).st = .notQueued := by
  decide

/-- a query command that fails marks nothing -/
theorem failed_query_marks_nothing (s : SemaphoreQueue.Q) (t : Nat) (j : SemaphoreQueue.Job) :
    SemaphoreQueue.stepJob s (.answer t none) j = j := by
  simp only [SemaphoreQueue.stepJob]
  cases s.active with
  | none => rfl
  | some ids => simp [Option.getD]

/-- **The query is issued.**  With no query in flight and at least
`QUEUE_CHECK_LIMIT` (regenerated: `Gen.queueCheckLimitSecs` = 300 s) since the
last one finished, a call of `queryQueue` starts a query which asks about every
in-flight job. -/
theorem query_issued_after_limit (s : SemaphoreQueue.Q) (t : Nat) (j : SemaphoreQueue.Job)
    (hlim : s.limit = Gen.queueCheckLimitSecs)
    (hj : j ∈ s.jobs) (hok : j.inFlight) (hact : s.active = none)
    (hlast : ∀ l, s.last = some l → l + 300 ≤ t) :
    ∃ ids, (SemaphoreQueue.step s (.issue t)).active = some ids ∧ j.jobid ∈ ids := by
  apply SemaphoreQueue.issue_effective s t j hj hok hact
  simp only [SemaphoreQueue.rateLimited]
  cases hl : s.last with
  | none => rfl
  | some l =>
    have := hlast l hl
    have h300 : Gen.queueCheckLimitSecs = 300 := by decide
    simp only [hlim, h300, decide_eq_false_iff_not]
    omega

/-- **A silently lost job is eventually failed** (so the pipestance does not
wait for it for ever).  Let job `j` be in flight (Queued/Running in mrp's view
and on disk, with a job id) and lost during the whole run: it writes nothing
and no successful answer names it.  If at some point `queryQueue` is called at
`t1` with no query in flight and the rate limit passed, its answer arrives
(command succeeded) at `t2`, and `refreshState` runs at any `t3 > t2 + grace`,
then after that refresh `j` is failed — whatever happens in between (`pre`,
`mid1`, `mid2` are arbitrary: other jobs' progress, further query attempts,
refreshes, answers of earlier queries before `t2`).
Bound: t3 − (time of loss) ≤ (wait for the rate limit: < limit + heartbeat
period, `query_issued_after_limit`) + query latency + grace + refresh period.
Needs a SUCCESSFUL answer: with a query command that always fails the job is
never failed by this path (`broken_query_never_fails_lost_job`). -/
theorem lost_job_eventually_failed (s : SemaphoreQueue.Q) (j : SemaphoreQueue.Job)
    (pre mid1 mid2 : List SemaphoreQueue.Ev) (t1 t2 t3 : Nat) (out : List String)
    (hj : j ∈ s.jobs) (hok : j.inFlight)
    (hl : SemaphoreQueue.Lost j.jobid
      (pre ++ (SemaphoreQueue.Ev.issue t1 :: (mid1 ++ (SemaphoreQueue.Ev.answer t2 (some out) :: mid2)))))
    (hact : (SemaphoreQueue.run s pre).active = none)
    (hrate : SemaphoreQueue.rateLimited (SemaphoreQueue.run s pre) t1 = false)
    (hmid : SemaphoreQueue.noAnswer mid1) (hby : SemaphoreQueue.answersBy t2 pre)
    (h0 : ∀ s0, j.since = some s0 → s0 ≤ t2) (ht : t2 + s.grace < t3) :
    (SemaphoreQueue.jobRun s
      (pre ++ (SemaphoreQueue.Ev.issue t1 :: (mid1 ++ (SemaphoreQueue.Ev.answer t2 (some out) ::
        (mid2 ++ [SemaphoreQueue.Ev.refresh t3]))))) j).st = .notQueued :=
  SemaphoreQueue.lost_job_failed s j pre mid1 mid2 t1 t2 t3 out hj hok hl hact hrate hmid hby h0 ht

/-- The success of the query command is necessary: if every answer is a command
failure (`checkQueue` then returns the queried ids unchanged) a lost job is
never marked, so never failed by the reconciliation — only the 60-minute
heartbeat timeout (Running jobs only; not modelled) is left. -/
theorem broken_query_never_fails_lost_job (s : SemaphoreQueue.Q) (evs : List SemaphoreQueue.Ev)
    (j : SemaphoreQueue.Job) (hfail : ∀ t out, SemaphoreQueue.Ev.answer t out ∈ evs → out = none)
    (hs : j.since = none) (hd : j.disk ≠ .notQueued) (h0 : j.st ≠ .notQueued) :
    (SemaphoreQueue.jobRun s evs j).st ≠ .notQueued := by
  refine (SemaphoreQueue.jobRun_reported s evs j ?_ hs hd h0).2
  intro ev hev
  cases ev with
  | answer t out => rw [hfail t out hev]; trivial
  | _ => trivial

/-- an empty answer (exit status 0, no output: `strings.Split("", "\n")` is `[""]`)
is NOT treated as a broken command: every queried job is marked -/
theorem empty_answer_marks_every_queried_job :
    let js : List SemaphoreQueue.Job := [⟨"a", true, .queued, .queued, none⟩, ⟨"b", true, .running, .running, none⟩]
    let s : SemaphoreQueue.Q := ⟨40, 300, none, none, js⟩
    ((SemaphoreQueue.run s [.issue 5, .answer 6 (some [""])]).jobs.map (·.since))
      = [some 6, some 6] := by
  decide

/-- the grace period of a configured job mode: `queue_query_grace_secs`, one hour when 0 -/
theorem grace_default_ok :
    Gen.queueGraceDefaultSecs_extracted = true ∧
    SemaphoreQueue.graceOfConfig 0 Gen.queueGraceDefaultSecs = 3600 ∧
    SemaphoreQueue.graceOfConfig 40 Gen.queueGraceDefaultSecs = 40 := by decide

/-! ### Regenerated obligations: the code the queue-query model mirrors -/

theorem skel_queryQueue_ok :
    Gen.c12Skel_queryQueue_extracted = false ∨ Gen.c12Skel_queryQueue =
    ["defer func",
     "if self.node == nil || self.node.top == nil || self.node.top.rt == nil || self.node.top.rt.JobManager == nil || !self.node.top.rt.JobManager.hasQueueCheck()",
     "return",
     "QUEUE_CHECK_LIMIT := 5 * time.Minute",
     "self.queueCheckLock.Lock()",
     "if self.queueCheckActive || time.Since(self.lastQueueCheck) < QUEUE_CHECK_LIMIT",
     "self.queueCheckLock.Unlock()",
     "return",
     "else",
     "self.queueCheckActive = true",
     "self.queueCheckLock.Unlock()",
     "needsQuery := make(map[string]*Metadata)",
     "metas := make(map[*Metadata]bool)",
     "nodes := self.node.getFrontierNodes()",
     "for range nodes",
     "for range node.collectMetadatas()",
     "if !metas[m]",
     "st, ok := m.getState()",
     "if ok && (st == Queued || st == Running) && m.exists(JobId)",
     "metas[m] = true",
     "id := m.readRaw(JobId)",
     "if id != \"\"",
     "needsQuery[id] = m",
     "if len(needsQuery) == 0",
     "self.queueCheckLock.Lock()",
     "self.queueCheckActive = false",
     "self.queueCheckLock.Unlock()",
     "return",
     "jobsIn := make([]string, 0, len(needsQuery))",
     "for range needsQuery",
     "jobsIn = append(jobsIn, id)",
     "go",
     "queued, raw := self.node.top.rt.JobManager.checkQueue(jobsIn, ctx)",
     "for range queued",
     "delete(needsQuery, id)",
     "if len(needsQuery) > 0 && raw != \"\"",
     "if !self.readOnly()",
     "for range needsQuery",
     "if m != nil",
     "m.failNotRunning(id)",
     "self.queueCheckLock.Lock()",
     "self.queueCheckActive = false",
     "self.lastQueueCheck = time.Now()",
     "self.queueCheckLock.Unlock()"] := by
  first | exact Or.inr rfl | exact Or.inl rfl

theorem skel_checkQueue_ok :
    Gen.c12Skel_checkQueue_extracted = false ∨ Gen.c12Skel_checkQueue =
    ["if self.config.queueQueryCmd == \"\"",
     "return ids, \"\"",
     "jobPath := util.RelPath(path.Join(\"..\", \"jobmanagers\"))",
     "cmd := exec.CommandContext(ctx, path.Join(jobPath, self.config.queueQueryCmd))",
     "cmd.Dir = jobPath",
     "cmd.Stdin = strings.NewReader(strings.Join(ids, \"\\n\"))",
     "cmd.Stderr = &stderr",
     "output, err := cmd.Output()",
     "if err != nil",
     "return ids, stderr.String()",
     "return strings.Split(string(output), \"\\n\"), stderr.String()"] := by
  first | exact Or.inr rfl | exact Or.inl rfl

theorem skel_failNotRunning_ok :
    Gen.c12Skel_failNotRunning_extracted = false ∨ Gen.c12Skel_failNotRunning =
    ["if !self.exists(JobId)",
     "return",
     "st, _ := self.getState()",
     "if st != Running && st != Queued",
     "return",
     "self.poll()",
     "st, _ := self.getState()",
     "if st != Running && st != Queued",
     "return",
     "self.mutex.Lock()",
     "defer self.mutex.Unlock()",
     "if !self.notRunningSince.IsZero()",
     "return",
     "if self.readRaw(JobId) != jobid",
     "return",
     "if !self._existsNoLock(JobId)",
     "return",
     "self.notRunningSince = time.Now()"] := by
  first | exact Or.inr rfl | exact Or.inl rfl

theorem skel_endRefresh_ok :
    Gen.c12Skel_endRefresh_extracted = false ∨ Gen.c12Skel_endRefresh =
    ["self.mutex.Lock()",
     "self.lastRefresh = lastRefresh",
     "if !self.notRunningSince.IsZero() && self.notRunningSince.Before(lastRefresh)",
     "notRunningSince := self.notRunningSince",
     "self.notRunningSince = time.Time{}",
     "state, _ := self._getStateNoLock()",
     "if state == Running || state == Queued",
     "jobid := self.readRaw(JobId)",
     "if jobid != \"\"",
     "if state == Running",
     "else",
     "self.mutex.Unlock()"] := by
  first | exact Or.inr rfl | exact Or.inl rfl

end QueueQuery

/-- a lost job among healthy ones: query at 0 answered at 2 without it, a further
(rate-limited) attempt, refresh after the grace period: failed; the hypotheses of
`lost_job_eventually_failed` hold for it -/
example :
    let j : Martian.SemaphoreQueue.Job := ⟨"12", true, .running, .running, none⟩
    let k : Martian.SemaphoreQueue.Job := ⟨"13", true, .queued, .queued, none⟩
    let s : Martian.SemaphoreQueue.Q := ⟨40, 300, none, none, [k, j]⟩
    j ∈ s.jobs ∧ j.inFlight ∧
    Martian.SemaphoreQueue.Lost j.jobid ([] ++ (.issue 0 :: ([.progress "13" .running] ++ (.answer 2 (some ["13", ""]) :: [.issue 10])))) ∧
    (Martian.SemaphoreQueue.run s []).active = none ∧
    Martian.SemaphoreQueue.rateLimited (Martian.SemaphoreQueue.run s []) 0 = false ∧
    Martian.SemaphoreQueue.noAnswer [.progress "13" .running] ∧
    ((Martian.SemaphoreQueue.run s [.issue 0, .progress "13" .running, .answer 2 (some ["13", ""]), .issue 10,
        .refresh 43]).jobs.map (·.st)) = [.running, .notQueued] := by
  refine ⟨by decide +kernel, ⟨rfl, rfl, rfl, by decide +kernel⟩, ?_, rfl, rfl, ?_, by decide +kernel⟩
  · intro ev hev
    simp only [List.nil_append, List.cons_append, List.mem_cons, List.mem_nil_iff, or_false] at hev
    rcases hev with rfl | rfl | rfl | rfl <;> simp [Martian.SemaphoreQueue.Ev.lostFor]
  · intro ev hev
    simp only [List.mem_cons, List.mem_nil_iff, or_false] at hev
    subst hev; trivial

/-- a reported job: `Reported` holds and the job survives a refresh long after the grace period -/
example :
    let j : Martian.SemaphoreQueue.Job := ⟨"5", true, .queued, .queued, none⟩
    let s : Martian.SemaphoreQueue.Q := ⟨1, 300, none, none, [j]⟩
    Martian.SemaphoreQueue.Reported "5" [.issue 0, .answer 1 (some ["5"]), .progress "5" .running, .refresh 5000] ∧
    (Martian.SemaphoreQueue.jobRun s [.issue 0, .answer 1 (some ["5"]), .progress "5" .running, .refresh 5000] j).st = .running := by
  refine ⟨?_, by decide +kernel⟩
  intro ev hev
  simp only [List.mem_cons, List.mem_nil_iff, or_false] at hev
  rcases hev with rfl | rfl | rfl | rfl <;> simp [Martian.SemaphoreQueue.Ev.reports]

/-- the hypotheses of the refresh theorems are satisfiable: two jobs running (3 MB of rss
below mrp, 1536 MB reserved), plenty of memory free, a waiter that fits what is left -/
example :
    let s : Sem := ⟨2048, 1500, 1536, [(3, 512)]⟩
    let o : Martian.SemaphoreRefresh.Obs := ⟨50000 * Martian.SemaphoreRefresh.MB, 2500000, 5000000, 2, 0, 4096, 300⟩
    Martian.SemaphoreRefresh.ceilMB o.rss ≤ s.reserved ∧
    s.max ≤ Martian.SemaphoreRefresh.ceilMB o.actualFree + Martian.SemaphoreRefresh.ceilMB o.rss ∧
    NoLost s ∧
    (step s (Martian.SemaphoreRefresh.refreshMemOp o)).2 = [.grant 3 512, .ret 47955] := by decide +kernel

/-- the default configuration (no vmem semaphore) with a process rlimit of 4096:
three semaphores, an over-limit request is clamped into them -/
example :
    let c : LocalCfg := ⟨4, 8, 0, 1, 1, 0⟩
    Sane c ∧ localSizes c (some (4096 - startingThreadCount)) = [400, 8192, 4051] ∧
    localAmounts c true (acquireAmounts (normalize c 8192 0 ⟨700, 20000, 0⟩)) = [400, 8192, 19] := by decide +kernel

/-- limit 1: caller 1 (job 7) gets the slot, callers 2 and 3 (jobs 8, 9) park; job 8 is cancelled
meanwhile; Release signals caller 2, which returns false and — by the deferred Signal — hands the
wake-up on to caller 3, which gets the slot: quiescent, nobody parked -/
example :
    let s := (MJP.init 1).run [.enter 1 7 .queued false, .enter 2 8 .queued false, .enter 3 9 .queued false,
      .release 7, .resume 2 .other, .resume 3 .queued]
    ((MJP.init 1).run [.enter 1 7 .queued false, .enter 2 8 .queued false, .enter 3 9 .queued false]).parked
      = [(2, 8), (3, 9)] ∧
    s.running = [9] ∧ s.parked = [] ∧ s.woken = [] := by decide +kernel

/-- "an availability recovery reaches a lone waiter": the memory semaphore was lowered to 47 MB
by a shortage, a job asking for 2048 of 4096 MB waits, nobody is running (nothing reserved, no
usage below mrp); the next `refreshResources` on a machine with memory to spare grants it —
the instance of `refresh_never_parks_a_fitting_job` the refresh workers drive on the real code -/
example :
    let s : Sem := ⟨4096, 47, 0, [(1, 2048)]⟩
    let o : Martian.SemaphoreRefresh.Obs := ⟨50000 * Martian.SemaphoreRefresh.MB, 0, 0, 5, 0, 4096, 300⟩
    NoLost s ∧ Martian.SemaphoreRefresh.ceilMB o.rss ≤ s.reserved ∧
    (step s (Martian.SemaphoreRefresh.refreshMemOp o)).1.waiters = [] ∧
    (step s (Martian.SemaphoreRefresh.refreshMemOp o)).1.reserved = 2048 := by decide +kernel

/-- an update that grows the size by 1 wakes the waiter that now fits -/
example : observedSize ⟨8192, 8091, 0, [(1, 8092)]⟩ (.updActual 8092) = some 8092 ∧
    NoLost ⟨8192, 8091, 0, [(1, 8092)]⟩ ∧
    (step ⟨8192, 8091, 0, [(1, 8092)]⟩ (.updActual 8092)).1.waiters = [] := by decide +kernel

/-- a run with blocking, FIFO hand-over, an availability drop and a restore:
no panic, three requests accepted, all granted in order -/
example :
    let ops : List SemOp := [.acquire 1 6, .acquire 2 5, .acquire 3 4, .updActual 0,
                             .release 6, .updSize 10, .release 5]
    hasPanic (run (Sem.init 10) ops).2 = false ∧
    grantsOf (run (Sem.init 10) ops).2 = [(1, 6), (2, 5), (3, 4)] ∧
    (∀ op ∈ ops, OpOK 10 op) := by dsimp only; decide +kernel

/-- client ops with non-negative requests reaching a state with holders and waiters -/
example :
    let ops : List COp := [.acquire 1 6, .acquire 2 5, .acquire 3 4]
    (∀ op ∈ ops, op.reqNonneg) ∧ (∀ op ∈ ops, op.sizeOK 10) ∧
    (grun (G.init 10) ops).1.held = [(1, 6)] ∧
    (grun (G.init 10) ops).1.sem.waiters = [(2, 5), (3, 4)] ∧
    (drain 2 ((grun (G.init 10) ops).1.sem, (grun (G.init 10) ops).1.held)).1.waiters = [] := by
  dsimp only; decide +kernel

/-- `head_granted_when_fits` hypotheses are satisfiable, both outcomes occur -/
example : NoLost ⟨10, 10, 6, [(2, 5)]⟩ ∧
    grantsOf (step ⟨10, 10, 6, [(2, 5)]⟩ (.release 6)).2 = [(2, 5)] ∧
    (step ⟨10, 10, 6, [(2, 5)]⟩ (.release 0)).1.waiters = [(2, 5)] := by decide +kernel

/-- `no_stall` hypotheses are satisfiable -/
example :
    let ops : List COp := [.acquire 1 6, .acquire 2 5, .release 1, .release 2]
    (∀ op ∈ ops, op.reqNonneg) ∧ (grun (G.init 10) ops).1.held = [] ∧
    (grun (G.init 10) ops).1.sem.cur = (grun (G.init 10) ops).1.sem.max := by dsimp only; decide +kernel

/-- the local-job system: three jobs on two semaphores (job 3 does not fit the
first one); an interleaving in which every step is enabled, ending with nobody
able to act: jobs 1 and 2 ran, job 3 was refused -/
example :
    let y := Sys.init [4, 8] [(1, [3, 6]), (2, [2, 5]), (3, [9, 1])]
    let js := [2, 1, 3, 2, 2, 2, 2, 1, 1, 1, 1]
    y.EnabledSched js ∧ (y.runSched js).allOver = true ∧
    ((y.runSched js).jobs.map fun b => (b.id, b.ran, b.failed)) =
      [(1, true, false), (2, true, false), (3, false, true)] ∧
    fitsSizes [3, 6] [4, 8] ∧ ¬ fitsSizes [9, 1] [4, 8] := by
  exact ⟨by decide +kernel, by decide +kernel, by decide +kernel, by simp [fitsSizes_cons, fitsSizes_nil], by simp [fitsSizes_cons]⟩

/-- `procsSetup`: ulimit -u 4096 (soft) / 8192 (hard), user process count unknown -/
example : procsSetup 4096 8192 none = some (8192, [.acquire 0 45, .updSize 4096]) ∧
    procsSetup (2 ^ 64 - 1) (2 ^ 64 - 1) none = none := by decide +kernel

/-- `overcommit_is_transient` hypotheses are satisfiable from an over-committed state -/
example : (run ⟨10, 2, 8, []⟩ [.acquire 1 1, .release 3, .release 5, .acquire 2 1]).1.reserved = 2 ∧
    (∀ op ∈ [SemOp.acquire 1 1, .release 3, .release 5, .acquire 2 1], op.isAcqRel = true) := by decide +kernel

/-- a sane configuration; zero, adaptive and oversized requests -/
example : Sane ⟨4, 8, 16384, 1, 1, 3⟩ ∧
    normalize ⟨4, 8, 16384, 1, 1, 3⟩ 8192 16384 ⟨0, 0, 0⟩ = ⟨100, 1024, 4096⟩ ∧
    normalize ⟨4, 8, 16384, 1, 1, 3⟩ 6000 16384 ⟨-100, -2048, 0⟩ = ⟨400, 6000, 9072⟩ ∧
    normalize ⟨4, 8, 16384, 1, 1, 3⟩ 8192 16384 ⟨900, 99999, 99999⟩ = ⟨400, 8192, 16384⟩ := by decide +kernel

/-- `reattach_restores_count`: two in-flight jobs, --maxjobs 2; a third job then has to wait -/
example : ((MJ.init 2).run (reattachOps [(3, .running), (1, .queued)])).running = [3, 1] ∧
    (((MJ.init 2).run (reattachOps [(3, .running), (1, .queued)])).attempt 0 .waiting false).2 = none := by decide +kernel

/-- MaxJobs: the limit is reached and a further blocking attempt waits -/
example :
    ((MJ.init 2).run [.attempt 1 .waiting false, .attempt 2 .queued false]).running = [1, 2] ∧
    (((MJ.init 2).run [.attempt 1 .waiting false, .attempt 2 .queued false]).attempt 3 .waiting false).2 = none := by
  decide

/-! ### definitional unfoldings (documentation of the model, not guarantees) -/

section Unfoldings
open Martian

/-- the jobs of the state after a run are the jobs of the state before, each followed through the run -/
theorem run_follows_jobs (s : SemaphoreQueue.Q) (evs : List SemaphoreQueue.Ev) :
    (SemaphoreQueue.run s evs).jobs = s.jobs.map (SemaphoreQueue.jobRun s evs) :=
  SemaphoreQueue.run_jobs s evs

/-- the process semaphore after `setupSemaphores` (with `UpdateSize(rlimCur)`) is
the semaphore of size `rlimMax - 45` "shifted" by a standing reservation of 45 -/
theorem procs_semaphore_after_setup (rmax rcur : Int) (h : startingThreadCount ≤ rmax) :
    (run (Sem.init rmax) [.acquire 0 startingThreadCount, .updSize rcur]).1
      = (⟨rmax - startingThreadCount, rcur - startingThreadCount, 0, []⟩ : Sem).shift startingThreadCount := by
  have hfit : startingThreadCount ≤ rmax - 0 := by omega
  simp only [run, step, Sem.init, hfit, List.isEmpty_nil, and_self, if_true, Sem.setCur, Sem.wake, runJobs,
    Sem.shift]
  split <;> simp <;> omega

/-- the Boolean the driver evaluates on every real configuration (`C12.cfgsizes`)
is the hypothesis `Sane` of the clamping theorems -/
theorem saneB_iff_Sane (c : LocalCfg) : saneB c = true ↔ Sane c := by
  simp [saneB, Sane, and_assoc]

end Unfoldings

end Props.C12
